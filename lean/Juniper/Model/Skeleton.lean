/-!
# Control skeletons the LTS models hard-wire

The labelled transition systems of `Model/Pipe.lean`, `Model/ChanStream.lean`, `Model/Batch.lean`,
`Model/StreamMerge.lean` and `Model/Merge.lean` interpret regenerated `select` tables, statement lists
and guards, but the control flow *between* those facts — "TrySend is two non-blocking selects and
nothing else", "every non-End error of an input reaches the CAS" — is written into their `step`
functions by hand. This file states that control flow in the vocabulary of `tools/gofacts/
sites_skeleton.go` (one token per statement, in source order, blocks flattened, identifiers and
operand expressions normalised away, the arms of a `select` in canonical order); the regenerated
`Juniper.Gen.Skeleton` must be equal to it (`skeleton_ok` and the conjuncts of the property theorems
in `Props/C10*.lean`, `Props/C11.lean`, `Props/C12.lean`, all by `rfl`). A statement added to,
removed from or moved within one of these functions — a fast path in front of a `select`, an early
`return`, an `if` around the error report — is a step the model does not have: the tie breaks.

Core Lean only; nothing here is generated.
-/
namespace Juniper.Model.Skeleton

/-- `Pipe`: four `make`/`new`, the two struct literals, `return` — no goroutine, no other statement. -/
def pipe : List String :=
  ["assign", "assign", "assign", "assign", "assign", "assign", "return"]

/-- `PipeSender.Send` is exactly one `select` every arm of which returns: pc `send m` → `idle` in one step (`Model.Pipe.Pc.after`). -/
def send : List String :=
  ["select {", "case recv:", "return", "case recv:", "return", "case recv:", "return",
   "case send:", "return", "}"]

/-- `PipeSender.TrySend` is exactly two `select`s in sequence and nothing before, between or after them: the first has three returning receive arms and an empty `default` (falls through: pc `try1 m` → `try2 m`), the second a returning send arm and a returning `default` (pc `try2 m` → `idle`). In particular there is no statement outside a `select` that could block (a bare send/receive) or return early. -/
def trySend : List String :=
  ["select {", "case recv:", "return", "case recv:", "return", "case recv:", "return", "default:",
   "}", "select {", "case send:", "return", "default:", "return", "}"]

/-- `PipeSender.Close`: store the error, then `close(senderDone)` — one atomic `closeSender` label. -/
def senderClose : List String :=
  ["assign", "call:close"]

/-- `pipeStream.Next`: `var zero`, one `select`; two arms return at once; the `senderDone` arm is the non-blocking drain `select` (data arm returns, empty `default`), then `err := …; if err != nil { return }; return` (pcs `next` → `drain` → `idle`). -/
def pipeNext : List String :=
  ["var", "select {", "case recv:", "return", "case recv:", "return", "case recv:", "select {",
   "case recv:", "return", "default:", "}", "assign", "if _!=_ {", "return", "}", "return", "}"]

/-- `pipeStream.Close` is `close(streamDone)`. -/
def pipeClose : List String :=
  ["call:close"]

/-- `chanStream.Next`: `var zero`, one `select` with the data arm (`if !ok { return End }; return item`) and the context arm. -/
def chanNext : List String :=
  ["var", "select {", "case recv:", "if !_ {", "return", "}", "return", "case recv:", "return", "}"]

/-- `chanStream.Close` does nothing. -/
def chanClose : List String :=
  []

/-- `Batch` is `return BatchFunc(…, func …)`. -/
def batch : List String :=
  ["return"]

/-- `BatchFunc`: context, stream struct, channel `c`, `wg.Add`, the two goroutines (producer, batcher), `return`. -/
def batchFunc : List String :=
  ["assign", "assign", "assign", "call", "go func", "go func", "return"]

/-- producer goroutine: three `defer`s, then `for { item, err := s.Next(bgCtx); if End {break} else if <own cancellation> {break} else if err != nil { out.err = err; return }; select { c <- item | <-bgCtx.Done(): return } }` (pcs `next` → `send v` → `next` …; `closeC`/`closeSrc`/`done` are the deferred calls). -/
def batchProducer : List String :=
  ["defer", "defer", "defer", "for {", "assign", "if _==_ {", "break", "} else if _==_&&_==_ {",
   "break", "} else if _!=_ {", "assign", "return", "}", "select {", "case recv:", "return",
   "case send:", "}", "}"]

/-- batcher goroutine: `defer wg.Done()`, the locals, the deferred cleanup (`if timer != nil { timer.Stop() }; close(batchC)`), the three local functions, and the loop with its single three-arm `select` (arm bodies as in `Model.Batch.step`: `recvCClosed`/`prodSend`+`fullRet`+`afterFull`, `recvTimer`, `announce`). -/
def batchBatcher : List String :=
  ["defer", "var", "var", "assign", "var", "var", "assign", "defer func {", "if _!=_ {", "call",
   "}", "call:close", "}", "assign func", "assign func", "assign func", "for {", "select {",
   "case recv:", "assign", "if !_ {", "return", "}", "case recv:", "if !_ {", "if _>_ {", "assign",
   "}", "return", "}", "assign", "if _ {", "call", "if !_ {", "return", "}", "}", "if _==_ {",
   "assign", "if _ {", "call", "}", "}", "case recv:", "if _>_ {", "if _>_ {", "call", "if !_ {",
   "return", "}", "} else {", "call", "}", "} else {", "assign", "}", "}", "}"]

/-- `flush`: one two-arm `select` (`flushAbort` returns false | `deliver`), three assignments, `return true`. -/
def batchFlush : List String :=
  ["select {", "case recv:", "return", "case send:", "}", "assign", "assign", "assign", "return"]

/-- `stopTimer`: `if timer == nil { return }; stopped := timer.Stop(); if !stopped && timerC != nil { <-timerC }; timerC = nil` (`Model.Batch.stopTimer`; the drain receive cannot block: the channel holds the expired timer's value). -/
def batchStopTimer : List String :=
  ["if _==_ {", "return", "}", "assign", "if !_&&_!=_ {", "recv", "}", "assign"]

/-- `startTimer`: `stopTimer(); if timer == nil { NewTimer } else { Reset }; timerC = timer.C` (`Model.Batch.startTimer`). -/
def batchStartTimer : List String :=
  ["call", "if _==_ {", "assign", "} else {", "call", "}", "assign"]

/-- `batchStream.Next`: the outer three-arm `select` (`deliver`/`consClosed` | `announce` → the inner two-arm `select` | `consCtx`); a closed `batchC` gives `iter.err` if set, else `End`. -/
def batchNext : List String :=
  ["select {", "case recv:", "if !_ {", "if _!=_ {", "return", "}", "return", "}", "return",
   "case recv:", "return", "case send:", "select {", "case recv:", "if !_ {", "if _!=_ {",
   "return", "}", "return", "}", "return", "case recv:", "return", "}", "}"]

/-- `batchStream.Close` is `bgCancel(); wg.Wait()`. -/
def batchClose : List String :=
  ["call", "call"]

/-- `stream.Merge`: pipe, two counters, context, `if len(in) == 0 { sender.Close(nil) }`, wait group, one goroutine per input, `return`. -/
def streamMerge : List String :=
  ["assign", "assign", "assign", "assign", "if _==_ {", "call", "}", "var", "call",
   "for init; _<_ ;post {", "assign", "go func", "}", "return"]

/-- per-input goroutine of `stream.Merge`: `defer wg.Done()`, `defer in[i].Close()`, the deferred last-one-closes closure, and `for { item, err := Next; if End {return} else if err != nil { if CAS { cancel(); sender.Close(err) }; return }; err = Send; if err != nil {return} }` — every non-End error reaches the CAS (pcs `next` → `gotErr e` → `won`/`exiting`). -/
def streamMergeWorker : List String :=
  ["defer", "defer", "defer func {", "if _==_&&_==_ {", "call", "}", "}", "for {", "assign",
   "if _==_ {", "return", "} else if _!=_ {", "if _ {", "call", "call", "}", "return", "}",
   "assign", "if _!=_ {", "return", "}", "}"]

/-- the `cancel` closure of the merged stream: `cancel(); wg.Wait()`. -/
def streamMergeCancel : List String :=
  ["call", "call"]

/-- `mergeStream.Next` is `return s.inner.Next(ctx)`. -/
def mergeNext : List String :=
  ["return"]

/-- `mergeStream.Close` is `s.inner.Close(); s.cancel()`. -/
def mergeClose : List String :=
  ["call", "call"]

/-- `chans.Merge`: the three-way arity dispatch (range / merge2 / merge3, each followed by `return`) and the reflect loop. -/
def chansMerge : List String :=
  ["if _==_ {", "range {", "send", "}", "return", "} else if _==_ {", "call", "return",
   "} else if _==_ {", "call", "return", "}", "assign", "for {", "if _==_ {", "return", "}",
   "assign", "if _ {", "assign", "send", "} else {", "assign", "}", "}"]

/-- `merge2`: `nDone := 0; for { select { two arms: if ok { out <- item } else { in = nil; nDone++; if nDone == 2 { return } } } }`. -/
def merge2 : List String :=
  ["assign", "for {", "select {", "case recv:", "if _ {", "send", "} else {", "assign", "incdec",
   "if _==_ {", "return", "}", "}", "case recv:", "if _ {", "send", "} else {", "assign", "incdec",
   "if _==_ {", "return", "}", "}", "}", "}"]

/-- `merge3`: as `merge2` with three arms. -/
def merge3 : List String :=
  ["assign", "for {", "select {", "case recv:", "if _ {", "send", "} else {", "assign", "incdec",
   "if _==_ {", "return", "}", "}", "case recv:", "if _ {", "send", "} else {", "assign", "incdec",
   "if _==_ {", "return", "}", "}", "case recv:", "if _ {", "send", "} else {", "assign", "incdec",
   "if _==_ {", "return", "}", "}", "}", "}"]

/-- `Replicate`: `for item := range src { for _, dst := range dsts { dst <- item } }`. -/
def replicate : List String :=
  ["range {", "range {", "send", "}", "}"]

end Juniper.Model.Skeleton
