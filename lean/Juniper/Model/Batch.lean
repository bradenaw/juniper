import Juniper.Generated.Batch
/-!
# Model of `stream.Batch` / `stream.BatchFunc` (C11; Batch clauses of C08, C09)

A labelled transition system: one label = one atomic step of one of the three goroutines
(producer, batcher, the consumer inside `batchStream.Next`), of the runtime (timer expiry), or of the
environment (the source answering the producer's `Next`, a consumer calling `Next`, a per-call
context expiring, the clock advancing, `Close`). All interleavings = all label sequences.

Every `select` arm, the calls to `stopTimer()` / `startTimer()`, the deferred calls of the producer
and the small guards are *not* written here: they are read from `Juniper.Gen.Batch` (regenerated
from `stream/stream.go` on every run) through `code` below and through the generated expressions
`waitElapsed`, `timerDur`, `endFlushCond`, `firstItemCond`, `waitNonEmptyCond`, `batchFull`.

Core Lean only (this file is linked into the `driver` executable).
-/
namespace Juniper.Model.Batch
open Juniper.Facts

/-- What the source's `Next` may return to the producer. -/
inductive SrcEv where
  | item (v : Nat)
  | eof
  | err
  deriving DecidableEq, Repr

/-- Producer goroutine: in `s.Next(bgCtx)`; at the hand-off `c <- item`; then the deferred calls
`close(c)`, `s.Close()`, `wg.Done()`. -/
inductive PPc where
  | next
  | send (v : Nat)
  | closeC
  | closeSrc
  | done
  deriving DecidableEq, Repr

/-- Why the batcher flushes. -/
inductive Reason where
  | full     -- case (A): `full(batch)`
  | timer    -- case (B): the `<-timerC` arm
  | waiter   -- case (B'): a consumer announced itself and maxWait had already elapsed
  | srcEnd   -- case (C): `c` closed
  deriving DecidableEq, Repr

/-- Batcher goroutine: at the loop's `select`; inside the user's `full(batch)`; inside `flush`'s
`select`; running its deferred cleanup; finished. -/
inductive BPc where
  | sel
  | inFull
  | flush (r : Reason)
  | exit
  | done
  deriving DecidableEq, Repr

/-- The `*time.Timer`: never started or stopped/consumed; running with a deadline; expired with the
value waiting in its channel. -/
inductive Timer where
  | idle
  | armed (t : Nat)
  | fired
  deriving DecidableEq, Repr

/-- The consumer inside `batchStream.Next`: not in a call; at the outer `select`; at the inner one
(after `iter.waiting <- struct{}{}`). -/
inductive CPc where
  | idle
  | outer
  | inner
  deriving DecidableEq, Repr

/-- Result of one `Next` call. -/
inductive Res where
  | batch (b : List Nat)
  | endOK
  | srcErr
  | ctxErr
  /-- the error of the stream's *own* background context (`bgCtx.Err()`), which no source produced and
  no consumer's context carries — possible only when `bgCtx` can end without `Close` (label `bgEnds`) -/
  | bgErr
  deriving DecidableEq, Repr

/-- Where `BatchFunc`'s background context comes from (the regenerated right-hand side of
`bgCtx, bgCancel := …`): `context.WithCancel(context.Background())` — done only when `bgCancel` is
called —, a context with a deadline of its own (`WithTimeout` / `WithDeadline`: done after a while
whatever anybody does, with `context.DeadlineExceeded`), or anything else (a parent that somebody else
may cancel: done at any time, with `context.Canceled`). -/
inductive BgOrigin where
  | plainCancel
  | deadline
  | other
  deriving DecidableEq, Repr

/-- Ghost record of one hand-over batcher → consumer. -/
structure Delivered where
  items : List Nat
  /-- clock value at which the batcher received the oldest item of this batch -/
  firstAt : Nat
  /-- the code's `batchStart` at the hand-over -/
  start : Nat
  /-- clock value of the hand-over -/
  time : Nat
  reason : Reason
  /-- the receiving consumer had announced itself (was in the inner select) -/
  toWaiter : Bool
  deriving DecidableEq, Repr

/-- The facts of the Go source the transition relation depends on. -/
structure Code where
  loopRecvC : Bool
  loopRecvTimer : Bool
  loopRecvWaiting : Bool
  flushAbortArm : Bool
  flushSendArm : Bool
  prodSendArm : Bool
  prodCancelArm : Bool
  outerRecv : Bool
  outerAnnounce : Bool
  outerCtx : Bool
  innerRecv : Bool
  innerCtx : Bool
  fullStopsTimer : Bool
  firstSetsStart : Bool
  firstStartsTimer : Bool
  timerArmClearsTimerC : Bool
  waitElapsedStopsTimer : Bool
  waitNotElapsedStartsTimer : Bool
  waitEmptySetsFlag : Bool
  flushClearsWaitingAtEmpty : Bool
  stopTimerClearsTimerC : Bool
  startTimerStopsFirst : Bool
  startTimerSetsTimerC : Bool
  batcherClosesBatchC : Bool
  producerRecordsErr : Bool
  producerClosesSource : Bool
  producerClosesC : Bool
  /-- Truth table of the producer's test "this error out of `s.Next(bgCtx)` is my own cancellation
  (Close was called), not a failure of the source" — the regenerated `else if` guard
  `Gen.Batch.prodCancelGuard` — for an error that is `context.Canceled` itself (`Bare`), one that
  wraps it (`Wrap`), any other error (`Other`); while `bgCtx` is live (`Live`: Close has not been
  called) and after Close (`Closed`). -/
  guardBareLive : Bool
  guardWrapLive : Bool
  guardOtherLive : Bool
  guardBareClosed : Bool
  guardWrapClosed : Bool
  guardOtherClosed : Bool
  /-- the guard for a `context.DeadlineExceeded` out of `s.Next(bgCtx)` while `bgCtx.Err()` is
  `DeadlineExceeded` (only reachable when `bgOrigin = .deadline`) -/
  guardDeadlineExpired : Bool
  /-- where `bgCtx` comes from -/
  bgOrigin : BgOrigin
  /-- `bgCancel` is used nowhere but: defined, stored in the stream's `bgCancel` field, called first
  thing in `batchStream.Close` (the regenerated list of *every* occurrence of the identifier in the
  package is exactly that) -/
  bgCancelOnlyInClose : Bool
  /-- the producer hands `bgCtx` itself to the source's `Next` -/
  srcNextGetsBg : Bool
  /-- `bgCtx` occurs nowhere but: defined, argument of the producer's `s.Next`, in the producer's guard,
  in the `<-bgCtx.Done()` arms of the hand-off and of `flush` (nobody else is given it, nothing else
  selects on it) -/
  bgCtxUsesPinned : Bool
  deriving DecidableEq, Repr

/-- `bgCtx` can become done although `Close` has not been called: it has a deadline / a foreign
parent, or `bgCancel` has escaped to somewhere else than `Close`. -/
def Code.bgMayEnd (k : Code) : Bool := (k.bgOrigin != .plainCancel) || !k.bgCancelOnlyInClose

/-- "`bgCtx` is done exactly when `Close` has called `bgCancel()`, and it is what the source's `Next` is
given": the three regenerated facts the LTS's `bgCancelled` flag stands on. Every property theorem that
needs it states it as a conjunct of its own (so that a changed origin / a stray use of `bgCancel` /
another context handed to the source breaks *that* theorem, not only the tie `code_is_good`). -/
def Code.BgTied (k : Code) : Prop :=
  k.bgOrigin = .plainCancel ∧ k.bgCancelOnlyInClose = true ∧ k.srcNextGetsBg = true ∧ k.bgCtxUsesPinned = true

instance (k : Code) : Decidable k.BgTied := by unfold Code.BgTied; infer_instance

/-- The regenerated right-hand side of `bgCtx, bgCancel := …`, classified. `plainCancel` needs all
of: one single assignment to the pair, whose text is the expected one (constructor
`context.WithCancel`, one argument, `context.Background()`). -/
def bgOriginOf (assigns : List String) (ctor parent : String) (nargs : Nat) : BgOrigin :=
  if assigns = ["bgCtx, bgCancel := context.WithCancel(context.Background())"] ∧ ctor = "context.WithCancel" ∧
      parent = "context.Background()" ∧ nargs = 1 then .plainCancel
  else if ctor = "context.WithTimeout" ∨ ctor = "context.WithDeadline" ∨ ctor = "context.WithTimeoutCause" ∨
      ctor = "context.WithDeadlineCause" then .deadline
  else .other

/-- The code as it is now (every field is a closed term over the generated facts). -/
def code : Code where
  loopRecvC := Gen.Batch.loopArms.contains (.recv "c")
  loopRecvTimer := Gen.Batch.loopArms.contains (.recv "timerC")
  loopRecvWaiting := Gen.Batch.loopArms.contains (.recv "out.waiting")
  flushAbortArm := Gen.Batch.flushArms.contains (.recv "bgCtx.Done()")
  flushSendArm := Gen.Batch.flushArms.contains (.send "out.batchC")
  prodSendArm := Gen.Batch.producerSendArms.contains (.send "c")
  prodCancelArm := Gen.Batch.producerSendArms.contains (.recv "bgCtx.Done()")
  outerRecv := Gen.Batch.nextOuterArms.contains (.recv "iter.batchC")
  outerAnnounce := Gen.Batch.nextOuterArms.contains (.send "iter.waiting")
  outerCtx := Gen.Batch.nextOuterArms.contains (.recv "ctx.Done()")
  innerRecv := Gen.Batch.nextInnerArms.contains (.recv "iter.batchC")
  innerCtx := Gen.Batch.nextInnerArms.contains (.recv "ctx.Done()")
  fullStopsTimer := Gen.Batch.fullStmts.head? == some "stopTimer()"
  firstSetsStart := Gen.Batch.firstItemStmts.head? == some "batchStart = time.Now()"
  firstStartsTimer := Gen.Batch.firstItemStmts.contains "startTimer()"
  timerArmClearsTimerC := Gen.Batch.timerArmStmts.head? == some "timerC = nil"
  waitElapsedStopsTimer := Gen.Batch.waitElapsedStmts.head? == some "stopTimer()"
  waitNotElapsedStartsTimer := Gen.Batch.waitNotElapsedStmts.contains "startTimer()"
  waitEmptySetsFlag := Gen.Batch.waitEmptyStmts.contains "waitingAtEmpty = true"
  flushClearsWaitingAtEmpty := Gen.Batch.flushClearsWaitingAtEmpty
  stopTimerClearsTimerC := Gen.Batch.stopTimerClearsTimerC
  startTimerStopsFirst := Gen.Batch.startTimerStopsFirst
  startTimerSetsTimerC := Gen.Batch.startTimerSetsTimerC
  batcherClosesBatchC := Gen.Batch.batcherClosesBatchC
  producerRecordsErr := Gen.Batch.producerRecordsErr
  producerClosesSource := Gen.Batch.producerDefers.contains "s.Close()"
  producerClosesC := Gen.Batch.producerDefers.contains "close(c)"
  -- arguments: err == context.Canceled, errors.Is(err, context.Canceled), bgCtx.Err() == context.Canceled, bgCtx.Err() != nil
  guardBareLive := Gen.Batch.prodCancelGuard true true false false
  guardWrapLive := Gen.Batch.prodCancelGuard false true false false
  guardOtherLive := Gen.Batch.prodCancelGuard false false false false
  guardBareClosed := Gen.Batch.prodCancelGuard true true true true
  guardWrapClosed := Gen.Batch.prodCancelGuard false true true true
  guardOtherClosed := Gen.Batch.prodCancelGuard false false true true
  guardDeadlineExpired := Gen.Batch.prodCancelGuard false false false true
  bgOrigin := bgOriginOf Gen.Batch.bgCtxAssigns Gen.Batch.bgCtxCtor Gen.Batch.bgCtxParent Gen.Batch.bgCtxCtorArgs
  bgCancelOnlyInClose := Gen.Batch.bgCancelUses ==
    ["BatchFunc: assigned (:=)", "BatchFunc: bgCancel: bgCancel", "BatchFunc: bgCancel: bgCancel",
     "type batchStream: field bgCancel context.CancelFunc", "batchStream.Close: iter.bgCancel()"]
  srcNextGetsBg := Gen.Batch.srcNextCtxArg == "bgCtx"
  bgCtxUsesPinned := Gen.Batch.bgCtxUses ==
    ["BatchFunc: assigned (:=)", "BatchFunc.func0: item, err := s.Next(bgCtx)",
     "BatchFunc.func0: if err == context.Canceled && bgCtx.Err() == context.Canceled",
     "BatchFunc.func0: <-bgCtx.Done()", "BatchFunc.func1.func1: <-bgCtx.Done()"]

/-- Parameters of one stream: `maxWait` and which answers `full` may give (`Batch`: exactly the
generated predicate; `BatchFunc`: whatever the user function says). -/
structure Cfg where
  maxWait : Nat
  fullOK : List Nat → Bool → Bool

/-- `Batch(s, maxWait, batchSize)`: `full` is the generated `len(batch) >= batchSize`, and the
`maxWait` that reaches `BatchFunc` is the regenerated second argument of the `BatchFunc(…)` call in
`Batch` (`maxWait` itself on the unchanged tree). -/
def Cfg.ofBatch (maxWait batchSize : Nat) : Cfg where
  maxWait := (Gen.Batch.batchMaxWaitArg (maxWait : Int)).toNat
  fullOK := fun b r => r == Gen.Batch.batchFull (b.length : Int) (batchSize : Int)

/-- `BatchFunc` with an arbitrary (even non-deterministic, stateful) `full`. -/
def Cfg.ofFunc (maxWait : Nat) : Cfg where
  maxWait := maxWait
  fullOK := fun _ _ => true

structure State where
  -- source side (ghost except `srcCloses`)
  srcTerm : Option SrcEv := none
  pulled : List Nat := []
  srcCloses : Nat := 0
  srcNexts : Nat := 0
  srcNextAfterClose : Bool := false
  -- producer
  ppc : PPc := .next
  err : Bool := false
  cClosed : Bool := false
  -- batcher
  bpc : BPc := .sel
  batch : List Nat := []
  batchStart : Nat := 0
  timer : Timer := .idle
  timerCSet : Bool := false
  waitingAtEmpty : Bool := false
  batchCClosed : Bool := false
  firstAt : Nat := 0
  -- consumer
  cons : CPc := .idle
  ctxDone : Bool := false
  results : List Res := []
  delivered : List Delivered := []
  -- Close
  bgCancelled : Bool := false
  closeReturned : Bool := false
  now : Nat := 0
  -- only for code whose `bgCtx` can end without Close (`Code.bgMayEnd`; never set otherwise)
  /-- `bgCtx` became done of its own accord (deadline passed / somebody else cancelled it) -/
  bgExpired : Bool := false
  /-- `out.err` holds `bgCtx`'s error, which no source produced -/
  errBg : Bool := false
  deriving DecidableEq, Repr

def init : State := {}

inductive Label where
  -- environment
  | srcRet (ev : SrcEv)      -- the source's `Next` returns `ev` to the producer
  | srcCancelErr (wrapped : Bool) -- the source's `Next` fails *of its own accord* with `context.Canceled`
                             -- (`wrapped`: with an error wrapping it) — not because `bgCtx` was cancelled
  | nextCall (live : Bool)   -- a consumer calls `Next` (with a live or an already expired context)
  | ctxExpire                -- the pending call's context expires
  | tick (d : Nat)           -- the clock advances
  | close                    -- `Close` is called (`bgCancel()`)
  | bgEnds                   -- `bgCtx` becomes done although `Close` has not been called (its deadline
                             -- passes, `bgCancel` is called from elsewhere): enabled iff `Code.bgMayEnd`
  -- producer
  | prodCancelled            -- `s.Next(bgCtx)` fails because bgCtx is cancelled
  | prodSend                 -- hand-off producer → batcher over `c` (joint with the loop's `<-c` arm)
  | prodSendCancel           -- the `<-bgCtx.Done()` arm of the hand-off (if the code has one)
  | prodCloseC               -- deferred `close(c)`
  | prodCloseSrc             -- deferred `s.Close()` and `wg.Done()`
  -- batcher
  | fullRet (b : Bool)       -- the user's `full(batch)` returns `b`
  | recvCClosed              -- the loop's `<-c` arm sees `c` closed
  | recvTimer                -- the loop's `<-timerC` arm
  | flushAbort               -- `flush`: the `<-bgCtx.Done()` arm
  | batchExit                -- deferred `timer.Stop()`, `close(out.batchC)`, `wg.Done()`
  -- consumer
  | announce                 -- `iter.waiting <- struct{}{}` (joint with the loop's `<-out.waiting` arm)
  | deliver                  -- `out.batchC <- batch` in `flush` (joint with a `<-iter.batchC` arm)
  | consClosed               -- a `<-iter.batchC` arm sees the channel closed
  | consCtx                  -- a `<-ctx.Done()` arm
  -- runtime
  | timerExpire              -- the armed timer's deadline has passed: its channel becomes ready
  | closeReturn              -- `wg.Wait()` returns
  deriving DecidableEq, Repr

/-- Labels that are not choices of the environment (the source, the consumer's caller, the clock). -/
def Label.internal : Label → Bool
  | .srcRet _ | .srcCancelErr _ | .nextCall _ | .ctxExpire | .tick _ | .close | .bgEnds => false
  | _ => true

/-- `bgCtx.Done()` is closed: `Close` has called `bgCancel()`, or — only for code with
`Code.bgMayEnd` — the context ended of its own accord. (`bgExpired` is set by the label `bgEnds` only,
which needs `k.bgMayEnd`; repeating the test here keeps the term free of `bgExpired` for the code the
proofs are about.) -/
def bgDone (k : Code) (s : State) : Bool := s.bgCancelled || (k.bgMayEnd && s.bgExpired)

def stopTimer (k : Code) (s : State) : State :=
  { s with timer := .idle, timerCSet := if k.stopTimerClearsTimerC then false else s.timerCSet }

/-- `time.Since(batchStart)` -/
def since (s : State) : Int := (s.now : Int) - (s.batchStart : Int)

def startTimer (k : Code) (cfg : Cfg) (s : State) : State :=
  let s1 := if k.startTimerStopsFirst then stopTimer k s else s
  { s1 with
    timer := .armed (s1.now + (Gen.Batch.timerDur (since s1) (cfg.maxWait : Int)).toNat)
    timerCSet := if k.startTimerSetsTimerC then true else s1.timerCSet }

/-- The `if len(batch) == 1 { batchStart = time.Now(); if waitingAtEmpty { startTimer() } }`
bookkeeping at the end of the `<-c` arm; the batcher is back at its `select` afterwards. -/
def afterFull (k : Code) (cfg : Cfg) (s : State) : State :=
  if Gen.Batch.firstItemCond (s.batch.length : Int) then
    let s1 := if k.firstSetsStart then { s with batchStart := s.now } else s
    let s2 := if s1.waitingAtEmpty && k.firstStartsTimer then startTimer k cfg s1 else s1
    { s2 with bpc := .sel }
  else
    { s with bpc := .sel }

def step (k : Code) (cfg : Cfg) (s : State) : Label → Option State
  | .srcRet ev =>
    if s.ppc = .next then
      let s := { s with srcNexts := s.srcNexts + 1,
                        srcNextAfterClose := s.srcNextAfterClose || decide (0 < s.srcCloses) }
      match ev with
      | .item v => some { s with ppc := .send v, pulled := s.pulled ++ [v] }
      | .eof => some { s with ppc := .closeC, srcTerm := some .eof }
      | .err => some { s with ppc := .closeC, srcTerm := some .err, err := s.err || k.producerRecordsErr }
    else none
  | .srcCancelErr wrapped =>
    -- the source fails with a `context.Canceled`-flavoured error of its own. Whether the producer
    -- records it (`out.err = err; return`) or takes it for its own cancellation (`break`, nothing
    -- recorded) is the regenerated guard. Taken for its own cancellation while Close has *not* been
    -- called, the source's failure is lost: the stream will end with `End` (`srcTerm = some .err`,
    -- `err = false`).
    if s.ppc = .next then
      let s := { s with srcNexts := s.srcNexts + 1,
                        srcNextAfterClose := s.srcNextAfterClose || decide (0 < s.srcCloses) }
      let rec_ : State := { s with ppc := .closeC, srcTerm := some .err, err := s.err || k.producerRecordsErr }
      match s.bgCancelled, wrapped with
      | false, false => if k.guardBareLive then some { s with ppc := .closeC, srcTerm := some .err } else some rec_
      | false, true => if k.guardWrapLive then some { s with ppc := .closeC, srcTerm := some .err } else some rec_
      | true, false => if k.guardBareClosed then some { s with ppc := .closeC } else some rec_
      | true, true => if k.guardWrapClosed then some { s with ppc := .closeC } else some rec_
    else none
  | .nextCall live =>
    if s.cons = .idle ∧ s.bgCancelled = false then some { s with cons := .outer, ctxDone := !live } else none
  | .ctxExpire =>
    if s.cons ≠ .idle then some { s with ctxDone := true } else none
  | .tick d => some { s with now := s.now + d }
  | .close =>
    if s.bgCancelled = false ∧ s.cons = .idle then some { s with bgCancelled := true } else none
  | .bgEnds =>
    if k.bgMayEnd = true ∧ s.bgCancelled = false ∧ s.bgExpired = false then some { s with bgExpired := true }
    else none
  | .prodCancelled =>
    -- the source's `Next` was given `bgCtx` and returns `bgCtx.Err()` because `bgCtx` is done. What the
    -- producer does with that error is the regenerated guard: after `Close` (and for a context that
    -- somebody else cancelled) the error is `context.Canceled` and `bgCtx.Err()` is too; a context
    -- whose own deadline passed yields `DeadlineExceeded` on both sides. Guard not taken: the
    -- producer records the context's error as if the source had failed (`out.err = err`).
    if s.ppc = .next ∧ bgDone k s = true ∧ k.srcNextGetsBg = true then
      let taken := if k.bgMayEnd && s.bgExpired && (k.bgOrigin == .deadline) then k.guardDeadlineExpired
                   else k.guardBareClosed
      if taken then some { s with ppc := .closeC }
      else some { s with ppc := .closeC, err := s.err || k.producerRecordsErr,
                         errBg := s.errBg || k.producerRecordsErr }
    else none
  | .prodSend =>
    match s.ppc with
    | .send v =>
      if s.bpc = .sel ∧ k.prodSendArm = true ∧ k.loopRecvC = true then
        some { s with ppc := .next, batch := s.batch ++ [v], bpc := .inFull,
                      firstAt := if s.batch = [] then s.now else s.firstAt }
      else none
    | _ => none
  | .prodSendCancel =>
    match s.ppc with
    | .send _ => if bgDone k s = true ∧ k.prodCancelArm = true then some { s with ppc := .closeC } else none
    | _ => none
  | .prodCloseC =>
    if s.ppc = .closeC then some { s with ppc := .closeSrc, cClosed := s.cClosed || k.producerClosesC } else none
  | .prodCloseSrc =>
    if s.ppc = .closeSrc then
      some { s with ppc := .done, srcCloses := s.srcCloses + (if k.producerClosesSource then 1 else 0) }
    else none
  | .fullRet b =>
    if s.bpc = .inFull ∧ cfg.fullOK s.batch b = true then
      if b then
        let s1 := if k.fullStopsTimer then stopTimer k s else s
        some { s1 with bpc := .flush .full }
      else some (afterFull k cfg s)
    else none
  | .recvCClosed =>
    if s.bpc = .sel ∧ s.cClosed = true ∧ k.loopRecvC = true then
      if Gen.Batch.endFlushCond (s.batch.length : Int) then some { s with bpc := .flush .srcEnd }
      else some { s with bpc := .exit }
    else none
  | .recvTimer =>
    if s.bpc = .sel ∧ s.timer = .fired ∧ s.timerCSet = true ∧ k.loopRecvTimer = true then
      some { s with timer := .idle, timerCSet := !k.timerArmClearsTimerC, bpc := .flush .timer }
    else none
  | .flushAbort =>
    match s.bpc with
    | .flush _ => if bgDone k s = true ∧ k.flushAbortArm = true then some { s with bpc := .exit } else none
    | _ => none
  | .batchExit =>
    if s.bpc = .exit then
      some { s with bpc := .done, timer := .idle, batchCClosed := s.batchCClosed || k.batcherClosesBatchC }
    else none
  | .announce =>
    if s.cons = .outer ∧ s.bpc = .sel ∧ k.outerAnnounce = true ∧ k.loopRecvWaiting = true then
      let s := { s with cons := .inner }
      if Gen.Batch.waitNonEmptyCond (s.batch.length : Int) then
        if Gen.Batch.waitElapsed (since s) (cfg.maxWait : Int) then
          let s1 := if k.waitElapsedStopsTimer then stopTimer k s else s
          some { s1 with bpc := .flush .waiter }
        else
          some (if k.waitNotElapsedStartsTimer then startTimer k cfg s else s)
      else
        some { s with waitingAtEmpty := s.waitingAtEmpty || k.waitEmptySetsFlag }
    else none
  | .deliver =>
    match s.bpc with
    | .flush r =>
      if s.cons ≠ .idle ∧ k.flushSendArm = true ∧ (s.cons = .outer → k.outerRecv = true) ∧
          (s.cons = .inner → k.innerRecv = true) then
        let s1 := { s with
          results := s.results ++ [.batch s.batch]
          delivered := s.delivered ++ [{ items := s.batch, firstAt := s.firstAt, start := s.batchStart,
                                         time := s.now, reason := r, toWaiter := decide (s.cons = .inner) }]
          cons := .idle
          batch := []
          waitingAtEmpty := if k.flushClearsWaitingAtEmpty then false else s.waitingAtEmpty }
        match r with
        | .full => some (afterFull k cfg s1)
        | .timer => some { s1 with bpc := .sel }
        | .waiter => some { s1 with bpc := .sel }
        | .srcEnd => some { s1 with bpc := .exit }
      else none
    | _ => none
  | .consClosed =>
    if s.cons ≠ .idle ∧ s.batchCClosed = true ∧ (s.cons = .outer → k.outerRecv = true) ∧
        (s.cons = .inner → k.innerRecv = true) then
      let r : Res := if s.err then (if k.bgMayEnd && s.errBg then .bgErr else .srcErr) else .endOK
      some { s with cons := .idle, results := s.results ++ [r] }
    else none
  | .consCtx =>
    if s.cons ≠ .idle ∧ s.ctxDone = true ∧ (s.cons = .outer → k.outerCtx = true) ∧
        (s.cons = .inner → k.innerCtx = true) then
      some { s with cons := .idle, results := s.results ++ [.ctxErr] }
    else none
  | .timerExpire =>
    match s.timer with
    | .armed t => if t ≤ s.now then some { s with timer := .fired } else none
    | _ => none
  | .closeReturn =>
    if s.bgCancelled = true ∧ s.closeReturned = false ∧ s.ppc = .done ∧ s.bpc = .done then
      some { s with closeReturned := true }
    else none

/-- States reachable from `init` (all interleavings, all clock advances, all environment choices). -/
inductive Reach (k : Code) (cfg : Cfg) : State → Prop where
  | init : Reach k cfg init
  | step {s s' : State} (l : Label) : Reach k cfg s → step k cfg s l = some s' → Reach k cfg s'

/-- Run a label sequence (for concrete witnesses). -/
def run (k : Code) (cfg : Cfg) : State → List Label → Option State
  | s, [] => some s
  | s, l :: ls => match step k cfg s l with
    | some s' => run k cfg s' ls
    | none => none

/-- No step of a goroutine or of the runtime is enabled (only the environment can move). -/
def Quiescent (k : Code) (cfg : Cfg) (s : State) : Prop :=
  ∀ l, l.internal = true → step k cfg s l = none

/-- The internal labels (finite: `fullRet` has two instances), for executable exploration. -/
def internalLabels : List Label :=
  [.prodCancelled, .prodSend, .prodSendCancel, .prodCloseC, .prodCloseSrc, .fullRet true, .fullRet false,
   .recvCClosed, .recvTimer, .flushAbort, .batchExit, .announce, .deliver, .consClosed, .consCtx,
   .timerExpire, .closeReturn]

end Juniper.Model.Batch
