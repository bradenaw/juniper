/-!
# Control skeletons the hand-written state machines were written for (C07–C09, tie 1)

The guards, flag updates and `Close`/`defer` statements of `Model/Iter.lean` and `Model/Stream.lean` are
regenerated definitions (`Juniper.Gen.Comb`), but the *shape* of every machine — which branch pulls
from the source, where a `Next` returns, which loop goes round again — is written by hand. Each
constant below is the control skeleton of the Go method that the machine of the same name transcribes
(grammar: `tools/gofacts/sites_comb.go`, `combSkeleton`: nested statement kinds, identifiers normalised
away, calls of `Next`/`Peek`/`Close` and of user callbacks tagged). `Juniper/Proofs/Skeleton.lean`
proves `regenerated = expected` for each (`rfl`, strings compared as literals), and every denotation / close theorem of
`Props/C07–C09` is stated *under* those tie lemmas: an added early return, an extra pull from the
source, a dropped `Close`, an extra callback call in the Go code breaks the tie lemma and, through it,
the named theorems of that combinator — even when a monitor would not notice.

When the Go code is changed on purpose, the machine has to be re-read against the new method and the
constant updated here.
-/
namespace Juniper.Model.CombSkel

/-- `iterator.counterIterator.Next` -/
def itCounterNext : String := "if{ret};asg;inc;ret"

/-- `iterator.repeatIterator.Next` -/
def itRepeatNext : String := "if{var;ret};dec;ret"

/-- `iterator.sliceIterator.Next` -/
def itSliceNext : String := "if{var;ret};asg;asg;ret"

/-- `iterator.peekable.Next` -/
def itPeekNext : String := "if{asg;asg;var;asg;ret};ret<Next>"

/-- `iterator.peekable.Peek` -/
def itPeekPeek : String := "if{asg<Next>};ret"

/-- `iterator.chunkIterator.Next` -/
def itChunkNext : String := "asg;for{asg<Next>;if{brk};asg;if{ret}};if{ret};ret"

/-- `iterator.compactIterator.Next` -/
def itCompactNext : String := "for{asg<Next>;if{ret};if{asg;asg;ret}else if<cb>{asg;ret}}"

/-- `iterator.filterIterator.Next` -/
def itFilterNext : String := "for{asg<Next>;if{brk};if<cb>{ret}};var;ret"

/-- `iterator.firstIterator.Next` -/
def itFirstNext : String := "if{var;ret};dec;ret<Next>"

/-- `iterator.flattenIterator.Next` -/
def itFlattenNext : String := "for{if{var;asg<Next>;if{var;ret}};asg<Next>;if{asg;cont};ret}"

/-- `iterator.joinIterator.Next` -/
def itJoinNext : String := "for?{asg<Next>;if{ret};asg};var;ret"

/-- `iterator.mapIterator.Next` -/
def itMapNext : String := "var;asg<Next>;if{ret};ret<cb>"

/-- `iterator.runsIterator.Next` -/
def itRunsNext : String := "if{for{asg<Next>;if{brk}};asg};asg<Peek>;if{ret};asg;ret"

/-- `iterator.runsInnerIterator.Next` -/
def itRunsInnerNext : String := "var;if{ret};asg<Peek>;if<cb>{asg;ret};asg;ret<Next>"

/-- `iterator.whileIterator.Next` -/
def itWhileNext : String := "var;if{ret};asg<Next>;if{ret};if<cb>{asg;ret};ret"

/-- `iterator.Collect` -/
def itCollect : String := "ret<fn><func>"

/-- `iterator.Equal` -/
def itEqual : String := "if{ret};for{asg<Next>;for(asg)?(inc){asg<Next>;if{ret};if{ret}};if{ret}}"

/-- `iterator.Last` -/
def itLast : String := "asg;asg;for{asg<Next>;if{brk};if{asg};inc};if{ret};asg;if{asg;call;call};ret"

/-- `iterator.One` -/
def itOne : String := "var;asg<Next>;if{ret};asg<Next>;if{ret};ret"

/-- `iterator.Reduce` -/
def itReduce : String := "asg;for{asg<Next>;if{ret};asg<fn>}"

/-- `stream.iteratorStream.Next` -/
def stFromIterNext : String := "var;if{ret};asg<Next>;if{ret};ret"

/-- `stream.iteratorStream.Close` -/
def stFromIterClose : String := ""

/-- `stream.peekable.Next` -/
def stPeekNext : String := "if{asg;asg;var;asg;ret};ret<Next>"

/-- `stream.peekable.Peek` -/
def stPeekPeek : String := "var;if{var;asg<Next>;if{asg;ret}else if{ret};asg};ret"

/-- `stream.peekable.Close` -/
def stPeekClose : String := "call<Close>"

/-- `stream.chunkStream.Next` -/
def stChunkNext : String := "for{asg<Next>;if{brk}else if{ret};asg;if{asg;asg;ret}};if{asg;asg;ret};ret"

/-- `stream.chunkStream.Close` -/
def stChunkClose : String := "call<Close>"

/-- `stream.compactStream.Next` -/
def stCompactNext : String := "for{asg<Next>;if{ret};if{asg;asg;ret}else if<cb>{asg;ret}}"

/-- `stream.compactStream.Close` -/
def stCompactClose : String := "call<Close>"

/-- `stream.filterStream.Next` -/
def stFilterNext : String := "var;for{asg<Next>;if{ret};asg<cb>;if{ret};if{ret}}"

/-- `stream.filterStream.Close` -/
def stFilterClose : String := "call<Close>"

/-- `stream.firstStream.Next` -/
def stFirstNext : String := "if{var;ret};asg<Next>;if{ret};dec;ret"

/-- `stream.firstStream.Close` -/
def stFirstClose : String := "call<Close>"

/-- `stream.flattenStream.Next` -/
def stFlattenNext : String := "for{if{var;asg<Next>;if{var;ret}};asg<Next>;if{call<Close>;asg;cont}else if{ret};ret}"

/-- `stream.flattenStream.Close` -/
def stFlattenClose : String := "if{call<Close>};call<Close>"

/-- `stream.flattenSlicesStream.Next` -/
def stFlattenSlicesNext : String := "var;for{if{asg;asg;ret};var;asg<Next>;if{ret}}"

/-- `stream.flattenSlicesStream.Close` -/
def stFlattenSlicesClose : String := "call<Close>"

/-- `stream.joinStream.Next` -/
def stJoinNext : String := "var;for?{asg<Next>;if{call<Close>;asg;cont}else if{ret};ret};ret"

/-- `stream.joinStream.Close` -/
def stJoinClose : String := "range{call<Close>}"

/-- `stream.mapStream.Next` -/
def stMapNext : String := "var;asg<Next>;if{ret};asg<cb>;if{ret};ret"

/-- `stream.mapStream.Close` -/
def stMapClose : String := "call<Close>"

/-- `stream.runsStream.Next` -/
def stRunsNext : String := "if{for{asg<Next>;if{brk}else if{ret}};call<Close>;asg};asg<Peek>;if{ret};asg;ret"

/-- `stream.runsStream.Close` -/
def stRunsClose : String := "call<Close>"

/-- `stream.runsInnerStream.Next` -/
def stRunsInnerNext : String := "var;if{ret};asg<Peek>;if{ret}else if{ret}else if<cb>{ret};asg;ret<Next>"

/-- `stream.runsInnerStream.Close` -/
def stRunsInnerClose : String := "asg"

/-- `stream.whileStream.Next` -/
def stWhileNext : String := "var;if{ret};if{var;asg<Next>;if{ret};asg};asg<cb>;if{ret};if{asg;ret};asg;ret"

/-- `stream.whileStream.Close` -/
def stWhileClose : String := "call<Close>"

/-- `stream.Collect` -/
def stCollect : String := "defer<Close>;var;for{asg<Next>;if{ret}else if{ret};asg}"

/-- `stream.Last` -/
def stLast : String := "defer<Close>;asg;asg;for{asg<Next>;if{brk}else if{ret};if{asg};inc};if{ret};asg;if{asg;call;call};ret"

/-- `stream.One` -/
def stOne : String := "defer<Close>;var;asg<Next>;if{ret}else if{ret};asg<Next>;if{ret}else if{ret};ret"

/-- `stream.Reduce` -/
def stReduce : String := "defer<Close>;asg;for{asg<Next>;if{ret}else if{ret};asg<fn>;if{ret}}"

/-- `iterator.chanIterator.Next` -/
def itChanNext : String := "asg;ret"

/-- `iterator.emptyIterator.Next` -/
def itEmptyNext : String := "var;ret"

/-- `stream.chanStream.Next` / `Close` -/
def stChanNext : String := "var;select{case{if{ret};ret};case{ret}}"
def stChanClose : String := ""

/-- `stream.emptyStream.Next` / `Close` -/
def stEmptyNext : String := "var;ret"
def stEmptyClose : String := ""

/-- `stream.errorStream.Next` / `Close` -/
def stErrorNext : String := "var;ret"
def stErrorClose : String := ""

/-- `xrand.rSampleStream`: `defer s.Close()` first; reads the stream in the inner loop (the outer loop's
`samp.Next()` is the sampler, not the stream), leaves at the end, returns the error -/
def sampleStream : String := "defer<Close>;asg;asg;asg<fn>;label:for{asg<Next>;for{asg<Next>;if{brk}else if{ret};if{asg;inc;brk};inc}};if{asg};call<fn>;ret"

/-- the exported functions of `iterator`, of `stream`, and of `xslices` (the API the models, the driver
and the generator of `harness/cmd/c07` cover: the harness reports a function it never called) -/
def itApi : List String := ["Chan", "Chunk", "Collect", "Compact", "CompactFunc", "Counter", "Empty", "Equal", "Filter",
  "First", "Flatten", "Join", "Last", "Map", "One", "Reduce", "Repeat", "Runs", "Slice", "While", "WithPeek"]
def stApi : List String := ["Batch", "BatchFunc", "Chan", "Chunk", "Collect", "Compact", "CompactFunc", "Empty", "Error",
  "Filter", "First", "Flatten", "FlattenSlices", "FromIterator", "Join", "Last", "Map", "Merge", "One", "Pipe", "Reduce",
  "Runs", "While", "WithPeek"]
/-- the `xslices` functions that have an iterator / stream namesake (the agreement clause of C07) -/
def xsCounterparts : List String := ["Chunk", "Compact", "CompactFunc", "Equal", "Filter", "Join", "Map", "Reduce", "Repeat", "Runs"]

end Juniper.Model.CombSkel
