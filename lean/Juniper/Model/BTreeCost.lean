import Juniper.Model.BTree
import Juniper.Generated.TreeAccess
set_option linter.unusedVariables false
/-!
# Comparison counting of `Get` / `Contains` (C03: "at most 15 key comparisons in each level")

Executable, core-only. The count is *derived from the functional search* `searchNode` (no second mirror
of the loop: `searchIters` is defined from `searchNode`'s result — the loop of `btree.searchNode` returns
from inside iteration `idx`, or falls out after `n` iterations) and from numbers regenerated from
`btree.go` on every run (`Juniper.Gen.TreeAccess`, `tools/gofacts/sites_tree_cost.go`):

* `searchLoopCompares` — comparator calls made by one iteration of `searchNode`'s loop,
* `getLoopSearches` / `containsLoopSearches` — `searchNode` calls made by one iteration (= one level) of
  the descent loop of `Get` / `Contains`.

That nothing compares *outside* those loops and that each of the three functions has exactly one loop is
the tie lemma `cost_skeleton` (`Proofs/TreeCost.lean`), used inside `searchCost_le` / `search_cost`.
-/
namespace Juniper.Model.BTree
open Juniper.Gen.Tree Juniper.Gen.TreeAccess

variable {K V : Type}

/-- loop iterations `searchNode` enters on a node with entries `kvs`: it returns from inside iteration
`idx` (found, or first greater key), or leaves the loop after all `n` of them (`idx = n`). -/
def searchIters (cmp : K → K → Int) (k : K) (kvs : List (K × V)) : Nat :=
  min ((searchNode cmp k kvs).1 + 1) kvs.length

/-- number of comparator calls one `searchNode` call makes. -/
def searchCost (cmp : K → K → Int) (k : K) (kvs : List (K × V)) : Nat :=
  searchLoopCompares * searchIters cmp k kvs

/-- comparator calls per visited node (top-down along the search path of `k`), for a descent loop that
calls `searchNode` `calls` times per level. -/
def levelCosts (calls : Nat) (cmp : K → K → Int) (k : K) (x : Node K V) : List Nat :=
  match x with
  | .mk _ kvs kids =>
    match searchNode cmp k kvs with
    | (_, true) => [calls * searchCost cmp k kvs]
    | (i, false) =>
      match h : kids[i]? with
      | none => [calls * searchCost cmp k kvs]
      | some c => calls * searchCost cmp k kvs :: levelCosts calls cmp k c
termination_by sizeOf x
decreasing_by
  have := List.sizeOf_lt_of_mem (List.mem_of_getElem? h)
  simp only [Node.mk.sizeOf_spec]
  omega

/-- number of comparator calls of `Get`. -/
def getCost (cmp : K → K → Int) (k : K) (x : Node K V) : Nat := (levelCosts getLoopSearches cmp k x).sum
/-- number of comparator calls of `Contains`. -/
def containsCost (cmp : K → K → Int) (k : K) (x : Node K V) : Nat := (levelCosts containsLoopSearches cmp k x).sum

end Juniper.Model.BTree
