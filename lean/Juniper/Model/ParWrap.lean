import Juniper.Model.ParDo
/-!
# Model of the wrappers `parallel.Map` / `parallel.MapContext` — C13

`Map(parallelism, in, f)` allocates `out`, hands `Do` a callback and returns `out`;
`MapContext(ctx, parallelism, in, f)` does the same with `DoContext` and returns `nil, err` when it
fails. What the wrappers do is *generated* (`Juniper.Gen.ParDoFacts`, `tools/gofacts/sites_par_wrap.go`):
the length of the allocation, which function the callback is handed to and with which arguments
(`parallelism`, `len(in)`, the caller's `ctx`), the callback's own parameter binders, the index
expressions of the write `out[…]` and of the read `in[…]` as functions of the callback's own index
parameter, which context variable is handed to `f` (the callback's own parameter or the wrapper's),
the statement shapes of callback and wrapper, the result expressions of the `return` statements.

`Wrapper` is that description; `mapWrapper` / `mapContextWrapper` are computed from the facts. The
wrapper LTS `wstep` runs the `Do` / `DoContext` LTS of `Model/ParDo.lean` (`step`) with
`n := wrapper.n (len in)`, `P := wrapper.P parallelism` and does the callback's bookkeeping on top of it:
when the callee's callback begins for index `i` the user's `f` is called on `in[readIdx i]` with the
context the facts say; when it ends with a value, the value is stored at `out[writeIdx i]`; when the
callee returns, the wrapper returns what its `return` statements say. A changed index expression
changes where this model reads and writes. An index outside the slice is a run-time panic of the real
code: explicit here (`panic`), no step afterwards. Core Lean only.
-/
namespace Juniper.Model.ParWrap
open Juniper.Gen Juniper.Model.ParDo

/-- where the context handed to the user's `f` comes from -/
inductive CtxSrc where
  /-- the callback's own first parameter: the context the callee hands to the callback -/
  | closureParam
  /-- the wrapper's own `ctx` parameter: the caller's context -/
  | callerCtx
  | other
  deriving DecidableEq, Repr, Hashable, BEq

def CtxSrc.ofString (s : String) : CtxSrc :=
  if s == "closureParam" then .closureParam else if s == "callerCtx" then .callerCtx else .other

/-- the function the callback is handed to -/
def calleeCode (name : String) : Code := if name == "DoContext" then dcCode else doCode

/-- What a wrapper does, as far as the model computes with it. -/
structure Wrapper where
  /-- name of the callee (`Do` / `DoContext`) -/
  callee : String
  /-- length of `out` as a function of `len(in)` -/
  alloc : Int → Int
  /-- the `n` handed to the callee as a function of `len(in)` -/
  n : Int → Int
  /-- the parallelism handed to the callee as a function of the wrapper's `parallelism` -/
  P : Int → Int
  /-- the callee gets the wrapper's own `ctx` parameter as its context -/
  passesCallerCtx : Bool
  /-- index of the write `out[…]` as a function of the callback's own index parameter, `len(in)`, `len(out)` -/
  writeIdx : Int → Int → Int → Int
  /-- index of the read `in[…]`, likewise -/
  readIdx : Int → Int → Int → Int
  /-- the context handed to `f` -/
  ctxSrc : CtxSrc
  /-- `if err != nil` after the callee returned (constant `false` for `Map`) -/
  failed : Bool → Bool
  /-- result expressions of the `return` on the error path / at the end -/
  retErr : List String
  retOk : List String
  /-- the statement shapes (callback, wrapper, argument list, binders) are the ones this model was
  written against -/
  structural : Bool
  /-- the wrapper's control skeleton (`Juniper.Gen.SkeletonPar`) is the one this model was written against -/
  skeleton : Bool

def Wrapper.code (w : Wrapper) : Code := calleeCode w.callee

/-- `parallel.Map` as it is in the source now. -/
def mapWrapper : Wrapper where
  callee := ParDoFacts.mapCallee
  alloc := ParDoFacts.mapAllocLen
  n := Par.mapN
  P := Par.mapParallelism
  passesCallerCtx := false
  writeIdx := ParDoFacts.mapWriteIdx
  readIdx := ParDoFacts.mapReadIdx
  ctxSrc := .other
  failed := fun _ => false
  retErr := []
  retOk := ParDoFacts.mapRetOk
  structural :=
    Par.mapAllocates && Par.mapWritesPositionally && Par.mapReturnsOut
      && ParDoFacts.mapCallArgs == ["parallelism", "len(in)", "<cb>"]
      && ParDoFacts.mapCbParams == ["i"]
      && ParDoFacts.mapCbShape == ["out[#w]=f(in[#r])"]
      && ParDoFacts.mapStmts == ["out:=make([]U,len(in))", "Do(parallelism,len(in),<cb>)", "returnout"]
  -- allocate, `Do(…, func(i) { out[i] = f(in[i]) })`, `return out`
  skeleton := decide (SkeletonPar.pskelMap = ["define", "call{assign}", "return"])

/-- `parallel.MapContext` as it is in the source now. -/
def mapContextWrapper : Wrapper where
  callee := ParDoFacts.mcCallee
  alloc := ParDoFacts.mcAllocLen
  n := Par.mcN
  P := Par.mcParallelism
  passesCallerCtx := ParDoFacts.mcCalleeCtx == "callerCtx"
  writeIdx := ParDoFacts.mcWriteIdx
  readIdx := ParDoFacts.mcReadIdx
  ctxSrc := CtxSrc.ofString ParDoFacts.mcCtxSource
  failed := Par.mcFailed
  retErr := ParDoFacts.mcRetErr
  retOk := ParDoFacts.mcRetOk
  structural :=
    Par.mcAllocates && Par.mcWritesPositionally && Par.mcCallbackReturnsErr && Par.mcReturnsErr && Par.mcReturnsOut
      && ParDoFacts.mcCallArgs == ["ctx", "parallelism", "len(in)", "<cb>"]
      && ParDoFacts.mcCbParams == ["ctx", "i"]
      && ParDoFacts.mcCbShape == ["varerrerror", "out[#w],err=f(#c,in[#r])", "returnerr"]
      && ParDoFacts.mcStmts == ["out:=make([]U,len(in))", "err:=DoContext(ctx,parallelism,len(in),<cb>)",
            "iferr!=nil{", "returnnil,err", "}", "returnout,nil"]
  -- allocate, `err := DoContext(…, func … { var err error; out[i], err = …; return err })`,
  -- `if err != nil { return nil, err }`, `return out, nil`
  skeleton := decide (SkeletonPar.pskelMapContext = ["define", "define{decl;assign;return}", "if{return}", "return"])

/-- What the proofs need to know about a wrapper (`ctx` = the callee takes a context). Discharged for
`mapWrapper` / `mapContextWrapper` from the regenerated definitions inside every property theorem
(tactic `wrapper_sound`, `Proofs/ParWrap.lean`). -/
structure Wrapper.Sound (w : Wrapper) (ctx : Bool) : Prop where
  callee : w.callee = if ctx then "DoContext" else "Do"
  alloc : ∀ l, w.alloc l = l
  n : ∀ l, w.n l = l
  P : ∀ p, w.P p = p
  passesCallerCtx : w.passesCallerCtx = ctx
  writeIdx : ∀ i a b, w.writeIdx i a b = i
  readIdx : ∀ i a b, w.readIdx i a b = i
  ctxSrc : ctx = true → w.ctxSrc = .closureParam
  failed : ∀ b, w.failed b = (ctx && b)
  retErr : ctx = true → w.retErr = ["nil", "err"]
  retOk : w.retOk = if ctx then ["out", "nil"] else ["out"]
  structural : w.structural = true
  skeleton : w.skeleton = true

structure WCfg (α : Type) where
  w : Wrapper
  /-- the wrapper's `parallelism` argument -/
  P : Int
  /-- the wrapper's `in` argument -/
  inp : List α
  /-- `runtime.GOMAXPROCS(-1)` -/
  gmp : Nat

/-- the configuration the callee runs with -/
def WCfg.cfg {α} (wc : WCfg α) : Cfg :=
  { code := wc.w.code, P := wc.w.P wc.P, n := (wc.w.n wc.inp.length).toNat, gmp := wc.gmp }

/-- what the wrapper returns: the slice (`none` = `nil`) and the error -/
structure WRet where
  out : Option (List (Option Nat))
  err : Option Err
  deriving DecidableEq, Repr, Hashable, BEq

/-- one call of the user's `f` -/
structure Call (α : Type) where
  /-- the callee's index (the callback's own index parameter) -/
  idx : Nat
  /-- the element handed to `f`: `in[readIdx idx]` -/
  arg : α
  /-- was the context handed to `f` already cancelled at entry -/
  cancelled : Bool
  deriving DecidableEq, Repr, Hashable, BEq

structure WSt (α : Type) where
  /-- state of the callee (`Do` / `DoContext`) -/
  core : St
  /-- the wrapper's own `ctx` parameter is cancelled -/
  callerCancelled : Bool
  out : List (Option Nat)
  /-- an index expression of the callback was outside its slice: run-time panic -/
  panic : Bool
  /-- the wrapper has returned this -/
  wret : Option WRet
  /-- ghost: calls of the user's `f`, in the order they began -/
  calls : List (Call α)
  deriving DecidableEq, Repr, Hashable, BEq

def winit {α} (wc : WCfg α) : WSt α :=
  { core := init wc.cfg, callerCancelled := false,
    out := List.replicate (wc.w.alloc wc.inp.length).toNat none, panic := false, wret := none, calls := [] }

/-- `l[k]` for a Go `int` index: `none` outside the slice -/
def getAt {β} (l : List β) (k : Int) : Option β := if k < 0 then none else l[k.toNat]?

/-- is the context the callback hands to the user's `f` cancelled right now -/
def userCtxCancelled {α} (wc : WCfg α) (s : WSt α) : Bool :=
  match wc.w.ctxSrc with
  | .closureParam => ctxCancelled s.core
  | .callerCtx => s.callerCancelled
  | .other => false

/-- the wrapper's `return` statements, given what the callee returned -/
def retOf (w : Wrapper) (out : List (Option Nat)) (r : Option Err) : WRet :=
  let exprs := if w.failed r.isSome then w.retErr else w.retOk
  { out := if exprs[0]? == some "out" then some out else none,
    err := if exprs[1]? == some "err" then r else none }

def wstep {α} (wc : WCfg α) (s : WSt α) (l : Label) : Option (WSt α) :=
  if s.panic then none else
  match l with
  | .callerCancel =>
    if s.callerCancelled || !wc.w.code.ctxMode then none else
    if wc.w.passesCallerCtx then
      (step wc.cfg s.core .callerCancel).map fun c => { s with core := c, callerCancelled := true }
    else some { s with callerCancelled := true }
  | .begin w =>
    match step wc.cfg s.core (.begin w), s.core.ws[w]? with
    | some c, some (.call i) =>
      match getAt wc.inp (wc.w.readIdx i wc.inp.length s.out.length) with
      | some a => some { s with core := c, calls := s.calls ++ [⟨i, a, wc.w.code.ctxMode && userCtxCancelled wc s⟩] }
      | none => some { s with panic := true }
    | _, _ => none
  | .fEnd w r =>
    match step wc.cfg s.core (.fEnd w r), s.core.ws[w]? with
    | some c, some (.inF i) =>
      match r with
      | .ok v =>
        let k := wc.w.writeIdx i wc.inp.length s.out.length
        if k < 0 ∨ s.out.length ≤ k.toNat then some { s with core := c, panic := true }
        else some { s with core := c, out := s.out.set k.toNat (some v) }
      | .err _ => some { s with core := c }
    | _, _ => none
  | .ret =>
    match step wc.cfg s.core .ret with
    | some c => some { s with core := c, wret := c.ret.map (retOf wc.w s.out) }
    | none => none
  | l => (step wc.cfg s.core l).map fun c => { s with core := c }

inductive WReach {α} (wc : WCfg α) : WSt α → Prop where
  | init : WReach wc (winit wc)
  | step {s s' : WSt α} {l : Label} : WReach wc s → wstep wc s l = some s' → WReach wc s'

def wrun {α} (wc : WCfg α) : WSt α → List Label → Option (WSt α)
  | s, [] => some s
  | s, l :: ls => match wstep wc s l with
    | some s' => wrun wc s' ls
    | none => none

theorem wrun_isRun {α} (wc : WCfg α) : LTS.IsRun (wstep wc) (wrun wc) :=
  ⟨fun _ => rfl, fun s l ls => by simp only [wrun]; cases wstep wc s l <;> rfl⟩

theorem wreach_of_run {α} {wc : WCfg α} {s s' : WSt α} {ls : List Label} (h : WReach wc s)
    (hr : wrun wc s ls = some s') : WReach wc s' :=
  (wrun_isRun wc).reach .step h hr

/-- number of calls of the user's `f` made for the callee's index `i` -/
def callCount {α} (s : WSt α) (i : Nat) : Nat := s.calls.countP (·.idx == i)

end Juniper.Model.ParWrap
