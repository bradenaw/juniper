import Juniper.Model.BTree
import Juniper.Generated.TreeAccess
set_option linter.unusedVariables false
/-!
# Memory-access model of `btree.Get` / `Contains` / `Put` / `Range` / `RangeReverse` / `Iterate` (C01, concurrent clause)

`Model/BTree.lean` is a functional model: an operation maps a tree to a tree, so it cannot exhibit a
data race. This file refines the three operations that the last sentence of C01 talks about
("Puts from several goroutines to distinct keys that are already present, concurrent with reads of
other keys, are free of data races and all take effect") to **sequences of atomic shared-memory
accesses**, and gives them an **interleaving semantics**.

* Shared memory (`Mem`): the header fields of `btree` (`root`, `size`, `gen`) and, per node object
  (identified by the same `id` as in `Model/BTree.lean`), the field `n` and the slots `keys[i]`,
  `values[i]`, `children[i]`. A location is `Loc.root | size | gen | node id field`.
* A goroutine executes one operation (`Op`). Its private state is a program counter `PC` that also
  holds the locals of the Go function (`curr`, the loop index of `searchNode`, `idx`, temporaries).
  `accessOf pc` is the *one* shared access the goroutine performs next (it depends on the private
  state only); `next` performs it on the current memory (the value read decides where the goroutine
  goes). The comparisons are `searchNode`'s generated `searchLess` / `searchEq`; the descent is the one
  of `lookup` / `ins`.
* The statement lists of `Put`, `Get`, `Contains`, `searchNode`, `insertIntoLeaf`, and — for the range
  readers — of `forwardIterator.Next`, `backwardIterator.Next`, `cursor.lost`, `valueUnchecked`, `Key`,
  `cursor.Next`, `Prev`, `seek`, `find`, the six `Seek*`, `leftmostLeaf`, `rightmostLeaf`, `node.leaf`,
  `btree.Cursor` are **generated**
  (`Juniper.Gen.TreeAccess`, re-extracted on every run). The control skeleton the machine implements is
  compared with them literally (`…Shape`); the straight-line parts — what `Put` does *before* its loop,
  what it does in the *overwrite branch* (`for[0]/if[0].body`), and what follows the insertion — are
  **interpreted** (`stmtOps`: `t.gen++` = read `gen`, write `gen`; `curr.values[idx] = v` = write of one
  value slot; …). Moving `t.gen++` to the top of `Put`, or into the overwrite branch, therefore changes
  the access sequence of a present-key `Put` (two such Puts then race on `gen`), and the theorems of
  `Props/C01Race.lean`, which pin the plans (`putPlan_eq`, `getPlan_eq`, `containsPlan_eq` of `Proofs/TreeAccessThread.lean`), stop compiling.
* `Config` = memory + one `PC` per goroutine; `stepAt` = goroutine `i` performs its next access;
  `Reach` = reflexive-transitive closure; `Race` = two different goroutines whose next accesses touch
  the same location, at least one writing (there is no synchronisation in this API, so
  happens-before is program order and "both enabled in one configuration" is exactly "unordered").

* A **range reader** (`Op.scan`: `Range` / `RangeReverse` / `Iterate`, then up to `limit` calls of `Next`)
  is modelled access by access as well: the seek (`find` with `searchNode`, `leftmostLeaf` /
  `rightmostLeaf`, `c.k = c.curr.keys[c.i]`, `c.gen = c.t.gen`, the comparison that decides whether the
  seek steps once), and per `Next`: `lost()` (reads `gen`), the in-range test on the remembered key
  (private), **only then** the value read `values[c.i]`, then the cursor move `cursor.Next` / `Prev`
  (`lost()`, `leaf()`, `n`, `keys[i]`, child pointers, and on the way up `parent` three times and the
  `children` of the parent scanned by `xslices.Index`).

What is *not* modelled (explicit outcome `Res.unmodelled`, never reached in the theorems): a `Put`
that has to split a full leaf (`overfill`), and the re-seek of a lost cursor (the generation differs from
the one the cursor saw: impossible while only present keys are `Put`).
-/
namespace Juniper.Model.BTreeAccess
open Juniper.Gen.Tree Juniper.Gen.TreeAccess Juniper.Model.BTree

/-! ## locations, accesses, memory -/

inductive Field where
  | n
  | key (i : Nat)
  | val (i : Nat)
  | child (i : Nat)
  | parent
  deriving DecidableEq, Repr

inductive Loc where
  | root
  | size
  | gen
  | node (id : Nat) (f : Field)
  /-- a location the interpreter of statement lists cannot name (unknown statement): every access to
  it is a write, so two goroutines executing an uninterpreted statement are reported as racing -/
  | other
  deriving DecidableEq, Repr

structure Access where
  loc : Loc
  write : Bool
  deriving DecidableEq, Repr

/-- two accesses conflict: same location, at least one write -/
def conflict (a b : Access) : Bool := decide (a.loc = b.loc) && (a.write || b.write)

/-- the shared heap, one typed component per kind of location; `none` = zero value / nil -/
structure Mem (K V : Type) where
  root : Option Nat
  size : Int
  gen : Int
  n : Nat → Int
  key : Nat → Nat → Option K
  val : Nat → Nat → Option V
  child : Nat → Nat → Option Nat
  /-- the `parent` pointers (read by the cursor moves only; no operation modelled here writes them) -/
  parent : Nat → Option Nat := fun _ => none

variable {K V : Type}

def Mem.empty : Mem K V :=
  { root := none, size := 0, gen := 0, n := fun _ => 0, key := fun _ _ => none, val := fun _ _ => none,
    child := fun _ _ => none }

def Mem.setN (m : Mem K V) (a : Nat) (z : Int) : Mem K V :=
  { m with n := fun b => if b = a then z else m.n b }
def Mem.setKey (m : Mem K V) (a i : Nat) (k : Option K) : Mem K V :=
  { m with key := fun b j => if b = a ∧ j = i then k else m.key b j }
def Mem.setVal (m : Mem K V) (a i : Nat) (v : Option V) : Mem K V :=
  { m with val := fun b j => if b = a ∧ j = i then v else m.val b j }

/-! ## the heap image of a functional tree -/

mutual
/-- store the fields of every node object of the subtree -/
def storeNode : Node K V → Mem K V → Mem K V
  | .mk id kvs kids, m =>
    storeKids kids
      { m with
        n := fun b => if b = id then (kvs.length : Int) else m.n b
        key := fun b j => if b = id then (kvs[j]?).map (·.1) else m.key b j
        val := fun b j => if b = id then (kvs[j]?).map (·.2) else m.val b j
        child := fun b j => if b = id then (kids[j]?).map Node.id else m.child b j
        parent := fun b => if kids.any (fun c => c.id == b) then some id else m.parent b }
def storeKids : List (Node K V) → Mem K V → Mem K V
  | [], m => m
  | c :: cs, m => storeKids cs (storeNode c m)
end

/-- the memory that holds the tree `t` (node identities pairwise distinct) -/
def memOf (t : Tree K V) : Mem K V :=
  storeNode t.root { (Mem.empty : Mem K V) with root := some t.root.id, size := t.size, gen := t.gen }

/-! ## interpreting the generated statement lists -/

/-- micro-operations: each is ONE shared-memory access (plus private bookkeeping) -/
inductive MOp where
  /-- `curr := t.root` -/
  | readRoot
  /-- `t.gen++` = `readGen; writeGen` -/
  | readGen | writeGen
  /-- `t.size++` = `readSize; writeSize` -/
  | readSize | writeSize
  /-- `return curr.values[idx]` -/
  | readVal
  /-- `curr.values[idx] = v` -/
  | writeVal
  /-- `insertOne(x.keys[:int(x.n)+1], idx, k)`: read `x.n`, then the element moves, then `keys[idx] = k` -/
  | planKeys
  | planVals
  | rdKey (j : Nat) | wrKeyT (j : Nat) | wrKeyK (j : Nat)
  | rdVal (j : Nat) | wrValT (j : Nat) | wrValV (j : Nat)
  /-- `x.n++` = `rdN; wrN` -/
  | rdN | wrN
  /-- a statement the interpreter does not know -/
  | other
  deriving DecidableEq, Repr

/-- a simple statement that touches shared memory, as micro-operations -/
def stmtOps (s : String) : List MOp :=
  if s == "curr := t.root" then [.readRoot]
  else if s == "t.gen++" then [.readGen, .writeGen]
  else if s == "t.size++" then [.readSize, .writeSize]
  else if s == "curr.values[idx] = v" then [.writeVal]
  else [.other]

/-- a straight-line statement list -/
def seqOps : List String → List MOp
  | [] => []
  | s :: rest => stmtOps s ++ seqOps rest

/-- how a branch ends -/
inductive Ret where
  | unit | true_ | value
  /-- the branch does not return: control flow we do not model -/
  | fall
  deriving DecidableEq, Repr

/-- a branch body: statements up to and including the first `return` -/
def branchOps : List String → List MOp × Ret
  | [] => ([], .fall)
  | s :: rest =>
    if s == "return" then ([], .unit)
    else if s == "return true" then ([], .true_)
    else if s == "return curr.values[idx]" then ([.readVal], .value)
    else let r := branchOps rest; (stmtOps s ++ r.1, r.2)

/-- `searchNode` has the control skeleton the machine below implements (`test` / `key` / `retn`) -/
def searchShape : Bool :=
  searchNodeStmts == ["for i < int(x.n) {", "c := t.compare(k, x.keys[i])", "if c < 0 {", "return i, false",
    "} else {", "if c == 0 {", "return i, true", "}", "}", "}", "return int(x.n), false"]

/-- prologue (before the loop), overwrite/found branch, epilogue (after the insertion) of an operation -/
structure Plan where
  prologue : List MOp
  found : List MOp
  foundRet : Ret
  epilogue : List MOp
  deriving DecidableEq, Repr

def putLoop : List String :=
  ["for {", "idx, inNode := t.searchNode(k, curr)", "if inNode {"] ++ putFoundStmts ++
    ["}", "if curr.leaf() {", "break", "}", "curr = curr.children[idx]", "}"]

def putInsertion : List String :=
  ["if !curr.full() {", "t.insertIntoLeaf(curr, k, v)", "} else {", "t.overfill(curr, k, v, nil)", "}"]

/-- `Put`: whatever precedes the loop and whatever follows the insertion is interpreted; the loop and
the insertion `if` must be the ones the machine implements -/
def putPlan : Option Plan :=
  let pro := putStmts.takeWhile (fun s => !(s == "for {"))
  let rest := putStmts.drop pro.length
  if searchShape && rest.take putLoop.length == putLoop &&
      (rest.drop putLoop.length).take putInsertion.length == putInsertion then
    some { prologue := seqOps pro, found := (branchOps putFoundStmts).1, foundRet := (branchOps putFoundStmts).2,
           epilogue := seqOps (rest.drop (putLoop.length + putInsertion.length)) }
  else none

def readLoop (foundStmts : List String) : List String :=
  ["for curr != nil {", "idx, inNode := t.searchNode(k, curr)", "if inNode {"] ++ foundStmts ++
    ["}", "curr = curr.children[idx]", "}"]

def readPlan (stmts foundStmts tail : List String) : Option Plan :=
  let pro := stmts.takeWhile (fun s => !(s == "for curr != nil {"))
  let rest := stmts.drop pro.length
  if searchShape && rest == readLoop foundStmts ++ tail then
    some { prologue := seqOps pro, found := (branchOps foundStmts).1, foundRet := (branchOps foundStmts).2, epilogue := [] }
  else none

def getPlan : Option Plan := readPlan getStmts getFoundStmts ["var zero V", "return zero"]
def containsPlan : Option Plan := readPlan containsStmts containsFoundStmts ["return false"]

/-- `insertIntoLeaf` has the skeleton the machine implements (`itest` / `ikey`, then `planKeys`,
`planVals`, `x.n++`) -/
def insertShape : Bool :=
  insertIntoLeafStmts == ["idx := 0", "for idx < int(x.n) {", "if t.compare(k, x.keys[idx]) < 0 {", "break", "}",
    "idx++", "}", "insertOne(x.keys[:int(x.n)+1], idx, k)", "insertOne(x.values[:int(x.n)+1], idx, v)", "x.n++"]

/-- the range readers: every function on their path has the statement list the machine `itNext` below
implements (compared literally; a mismatch makes the operation start in `done unmodelled`) -/
def scanShape : Bool :=
  fwdNextStmts == ["var zero KVPair[K, V]", "if iter.done {", "return zero, false", "}", "if iter.c.lost() {",
    "iter.c.SeekFirstGreaterOrEqual(iter.c.Key())", "}", "if iter.c.curr == nil {", "return zero, false", "}",
    "k := iter.c.Key()", "if iter.inRange != nil && !iter.inRange(k) {", "iter.done = true", "return zero, false", "}",
    "v := iter.c.valueUnchecked()", "iter.c.Next()", "return KVPair[K, V]{k, v}, true"] &&
  bwdNextStmts == ["var zero KVPair[K, V]", "if iter.done {", "return zero, false", "}", "if iter.c.lost() {",
    "iter.c.SeekLastLessOrEqual(iter.c.Key())", "}", "if iter.c.curr == nil {", "return zero, false", "}",
    "k := iter.c.Key()", "if iter.inRange != nil && !iter.inRange(k) {", "iter.done = true", "return zero, false", "}",
    "v := iter.c.valueUnchecked()", "iter.c.Prev()", "return KVPair[K, V]{k, v}, true"] &&
  lostStmts == ["return c.gen != c.t.gen && c.curr != nil && (c.i >= int(c.curr.n) || c.t.compare(c.k, c.curr.keys[c.i]) != 0)"] &&
  valueUncheckedStmts == ["return c.curr.values[c.i]"] &&
  cursorKeyStmts == ["return c.k"] &&
  cursorNextStmts == ["if c.lost() {", "c.SeekFirstGreater(c.k)", "return", "}", "if c.curr == nil {", "return", "}",
    "if c.curr.leaf() {", "c.i++", "if c.i < int(c.curr.n) {", "c.k = c.curr.keys[c.i]", "return", "}", "} else {",
    "if c.i < int(c.curr.n) {", "c.curr = leftmostLeaf(c.curr.children[c.i+1])", "c.i = 0", "c.k = c.curr.keys[c.i]", "return",
    "}", "}", "for {", "if c.curr.parent == nil {", "c.curr = nil", "return", "}",
    "idx := xslices.Index(c.curr.parent.children[:], c.curr)", "c.curr = c.curr.parent", "c.i = idx",
    "if c.i < int(c.curr.n) {", "c.k = c.curr.keys[c.i]", "break", "}", "}"] &&
  cursorPrevStmts == ["if c.lost() {", "c.SeekLastLess(c.k)", "return", "}", "if c.curr == nil {", "return", "}",
    "if c.curr.leaf() {", "c.i--", "if c.i >= 0 {", "c.k = c.curr.keys[c.i]", "return", "}", "} else {",
    "if c.i >= 0 {", "c.curr = rightmostLeaf(c.curr.children[c.i])", "c.i = int(c.curr.n) - 1", "c.k = c.curr.keys[c.i]", "return",
    "}", "}", "for {", "if c.curr.parent == nil {", "c.curr = nil", "return", "}",
    "idx := xslices.Index(c.curr.parent.children[:], c.curr)", "c.curr = c.curr.parent", "c.i = idx - 1",
    "if c.i >= 0 {", "c.k = c.curr.keys[c.i]", "break", "}", "}"] &&
  seekStmts == ["c.curr, c.i, _ = c.find(k)", "if c.curr == nil {", "return false", "}", "c.k = c.curr.keys[c.i]",
    "c.gen = c.t.gen", "return true"] &&
  findStmts == ["if c.t.root.n == 0 {", "return nil, 0, false", "}", "curr := c.t.root", "for {",
    "idx, inNode := c.t.searchNode(k, curr)", "if inNode {", "return curr, idx, true", "}", "if curr.leaf() {",
    "if idx == int(curr.n) {", "idx--", "}", "return curr, idx, false", "}", "curr = curr.children[idx]", "}"] &&
  seekFirstStmts == ["if c.t.root.n == 0 {", "c.curr = nil", "return", "}", "c.curr = leftmostLeaf(c.t.root)", "c.i = 0",
    "c.k = c.curr.keys[c.i]", "c.gen = c.t.gen"] &&
  seekLastStmts == ["if c.t.root.n == 0 {", "c.curr = nil", "return", "}", "c.curr = rightmostLeaf(c.t.root)",
    "c.i = int(c.curr.n) - 1", "c.k = c.curr.keys[c.i]", "c.gen = c.t.gen"] &&
  seekGEStmts == ["if !c.seek(k) {", "return", "}", "if c.t.compare(k, c.k) > 0 {", "c.Next()", "}"] &&
  seekGTStmts == ["if !c.seek(k) {", "return", "}", "if c.t.compare(k, c.k) >= 0 {", "c.Next()", "}"] &&
  seekLEStmts == ["if !c.seek(k) {", "return", "}", "if c.t.compare(k, c.k) < 0 {", "c.Prev()", "}"] &&
  seekLTStmts == ["if !c.seek(k) {", "return", "}", "if c.t.compare(k, c.k) <= 0 {", "c.Prev()", "}"] &&
  leftmostLeafStmts == ["curr := x", "for {", "if curr.leaf() {", "return curr", "}", "curr = curr.children[0]", "}"] &&
  rightmostLeafStmts == ["curr := x", "for {", "if curr.leaf() {", "return curr", "}", "curr = curr.children[int(curr.n)]", "}"] &&
  leafStmts == ["return x.children[0] == nil"] &&
  cursorCtorStmts == ["c := cursor[K, V]{t: t}", "return c"] &&
  indexStmts == ["return slices.Index(s, x)"] &&
  searchShape && iterCtorsFresh && iterStopBeforeValue

/-! ## operations and private state -/

inductive Op (K V : Type) where
  | get (k : K)
  | contains (k : K)
  | put (k : K) (v : V)
  /-- a range reader: `Range` (`fwd`) / `RangeReverse` — the cursor seek `sk` with key `skey` (the first
  `switch`), the in-range predicate `compare(k, key) op 0` or none (the second `switch`) — followed by
  up to `limit` calls of `Next` (the reader may abandon the iterator early; it stops at the first
  `false`). `Iterate` is `Range(Unbounded, Unbounded)` = `scan true .first _ none`. -/
  | scan (fwd : Bool) (sk : SeekKind) (skey : K) (stop : Option (CmpOp × K)) (limit : Nat)

/-- the key a search operation looks for (for a range reader: the seek key) -/
def Op.key : Op K V → K
  | .get k => k
  | .contains k => k
  | .put k _ => k
  | .scan _ _ skey _ _ => skey

/-- `Range(lo, hi)` (`rev = false`) / `RangeReverse(lo, hi)` as a reader operation, through the two regenerated
`switch` tables (as `Model.BTree.mkIter`); `none` = the code panics ("unknown bound") -/
def scanOf (rev : Bool) (lo hi : Bound K) (limit : Nat) : Option (Op K V) :=
  let seekTbl := if rev then rrangeSeek else rangeSeek
  let stopTbl := if rev then rrangeStop else rangeStop
  match (pickSide seekTbl.1 lo hi).kind with
  | none => none
  | some bk =>
    match seekTbl.2.find? (fun r => r.1 == bk) with
    | none => none
    | some (_, sk, arg) =>
      let key := match arg with
        | some s => (pickSide s lo hi).key
        | none => lo.key
      match (pickSide stopTbl.1 lo hi).kind with
      | none => none
      | some bk2 =>
        match stopTbl.2.find? (fun r => r.1 == bk2) with
        | none => none
        | some (_, .all fwd) => some (.scan fwd sk key none limit)
        | some (_, .while fwd op s) => some (.scan fwd sk key (some (op, (pickSide s lo hi).key)) limit)

def Op.isPut : Op K V → Bool
  | .put _ _ => true
  | _ => false

/-- what an operation returns -/
inductive Res (V : Type) where
  | val (v : Option V)
  | bool (b : Bool)
  | unit
  /-- a range reader is through: the values it was handed, in order -/
  | vals (l : List (Option V))
  /-- nil dereference / index out of range in the Go code -/
  | crash
  /-- left the modelled fragment -/
  | unmodelled
  deriving DecidableEq, Repr

/-- locals of the Go function -/
structure Regs (K V : Type) where
  curr : Option Nat
  idx : Nat
  ti : Int
  tk : Option K
  tv : Option V
  deriving Repr

def Regs.init : Regs K V := { curr := none, idx := 0, ti := 0, tk := none, tv := none }

inductive Mode where
  | seek | step | iter
  deriving DecidableEq, Repr

/-- the private fields of a range reader: the cursor (`curr`, `i`, `k`, `gen`), how many `Next` calls the
reader still makes, and what it has been handed so far -/
structure ItSt (K V : Type) where
  curr : Option Nat
  i : Int
  k : Option K
  cgen : Int
  /-- where the reader is: inside `seek`/`SeekFirst`/`SeekLast` (before `c.gen = c.t.gen`), inside the one
  `c.Next()`/`c.Prev()` a `Seek*` may end with, or iterating -/
  mode : Mode
  left : Nat
  out : List (K × Option V)
  deriving Repr

def ItSt.init (limit : Nat) : ItSt K V :=
  { curr := none, i := 0, k := none, cgen := 0, mode := .seek, left := limit, out := [] }

/-- program points of a range reader; each is ONE shared-memory read -/
inductive Ph where
  /-- `c.t.root.n == 0` (of `find` / `SeekFirst` / `SeekLast`): `c.t.root` -/
  | sRoot1
  /-- … `.n` -/
  | sRootN (r : Nat)
  /-- `curr := c.t.root` / `leftmostLeaf(c.t.root)` / `rightmostLeaf(c.t.root)`: `c.t.root` again -/
  | sRoot2
  /-- `find`: `searchNode`'s loop test, comparison, `return int(x.n), false` -/
  | ftest (x i : Nat) | fkey (x i : Nat) | fretn (x : Nat)
  /-- `find`: `curr.leaf()`; `idx == int(curr.n)`; `curr = curr.children[idx]` -/
  | fleaf (x idx : Nat) | fn (x idx : Nat) | fchild (x idx : Nat)
  /-- `c.k = c.curr.keys[c.i]` with `c.curr = x`, `c.i = i` -/
  | rdK (x : Nat) (i : Int)
  /-- `c.gen = c.t.gen` -/
  | sgen
  /-- `leftmostLeaf`: `curr.leaf()`; `curr = curr.children[0]` -/
  | dl (x : Nat) | dl2 (x : Nat)
  /-- `rightmostLeaf`: `curr.leaf()`; `int(curr.n)`; `curr = curr.children[…]` -/
  | dr (x : Nat) | drn (x : Nat) | drc (x : Nat) (n : Int)
  /-- `c.i = int(c.curr.n) - 1` -/
  | lastN (x : Nat)
  /-- `cursor.Next` / `Prev`: `lost()` reads `gen` -/
  | mGen
  /-- `c.curr.leaf()` -/
  | mLeaf (x : Nat)
  /-- leaf, forward: `c.i < int(c.curr.n)` after `c.i++` -/
  | mN (x : Nat) (i : Int)
  /-- inner node, forward: `c.i < int(c.curr.n)` -/
  | mIN (x : Nat)
  /-- `c.curr.children[j]` (forward `c.i+1`, backward `c.i`) -/
  | mCh (x : Nat) (j : Int)
  /-- the climb: `c.curr.parent == nil`; `c.curr.parent` (argument of `Index`); `children[j]` of the parent
  compared with `c.curr`; `c.curr = c.curr.parent`; forward `c.i < int(c.curr.n)` -/
  | cPar (x : Nat) | cPar2 (x : Nat) | cIdx (x p j : Nat) | cPar3 (x : Nat) (idx : Int) | cN (p : Nat) (i : Int)
  /-- iterator `Next`: `lost()` reads `gen` -/
  | nGen
  /-- iterator `Next`: `valueUnchecked()` -/
  | nVal
  /-- the reader is through -/
  | fin
  deriving DecidableEq, Repr

inductive PC (K V : Type) where
  /-- executing a straight-line list of micro-operations; afterwards (`cont`) enter the descent at
  `curr`, or return `r` -/
  | run (ops : List MOp) (cont : Bool) (rg : Regs K V) (r : Res V)
  /-- `searchNode`: loop test `i < int(x.n)` -/
  | test (x i : Nat)
  /-- `searchNode`: `c := compare(k, x.keys[i])` and the two `if`s -/
  | key (x i : Nat)
  /-- `searchNode`: `return int(x.n), false` -/
  | retn (x : Nat)
  /-- `Put`: `if curr.leaf()` -/
  | leaf (x idx : Nat)
  /-- `curr = curr.children[idx]` -/
  | child (x idx : Nat)
  /-- `Put` at a leaf: `if !curr.full()` -/
  | full (x : Nat)
  /-- `insertIntoLeaf`: loop test -/
  | itest (x j : Nat)
  /-- `insertIntoLeaf`: comparison -/
  | ikey (x j : Nat)
  /-- a range reader at program point `ph` with the cursor / iterator fields `st` -/
  | it (ph : Ph) (st : ItSt K V)
  | done (r : Res V)
  deriving Repr

def PC.isDone : PC K V → Bool
  | .done _ => true
  | .it .fin _ => true
  | _ => false

def planOf : Op K V → Option Plan
  | .get _ => getPlan
  | .contains _ => containsPlan
  | .put _ _ => putPlan
  | .scan _ _ _ _ _ => none

/-- what the loop does when `curr` is nil -/
def nilRes : Op K V → Res V
  | .get _ => .val none
  | .contains _ => .bool false
  | _ => .crash

/-- enter the descent loop at `curr` -/
def enter (op : Op K V) : Option Nat → PC K V
  | some x => .test x 0
  | none => .done (nilRes op)

/-- continue with a list of micro-operations (states with an empty list are never created) -/
def mk (op : Op K V) (ops : List MOp) (cont : Bool) (rg : Regs K V) (r : Res V) : PC K V :=
  match ops with
  | [] => if cont then enter op rg.curr else .done r
  | _ :: _ => .run ops cont rg r

def retRes : Ret → Res V
  | .unit => .unit
  | .true_ => .bool true
  | .value => .val none
  | .fall => .unmodelled

/-- the first state of an operation -/
def start (op : Op K V) : PC K V :=
  match op with
  | .scan _ _ _ _ limit => if scanShape then .it .sRoot1 (ItSt.init limit) else .done .unmodelled
  | _ =>
    match planOf op with
    | none => .done .unmodelled
    | some p => mk op p.prologue true Regs.init .unit

/-- `searchNode` returned `(idx, true)` -/
def foundAt (op : Op K V) (x idx : Nat) : PC K V :=
  match planOf op with
  | none => .done .unmodelled
  | some p =>
    match p.foundRet with
    | .fall => .done .unmodelled
    | r => mk op p.found false { (Regs.init : Regs K V) with curr := some x, idx := idx } (retRes r)

/-- `searchNode` returned `(idx, false)` -/
def notFoundAt (op : Op K V) (x idx : Nat) : PC K V :=
  if op.isPut then .leaf x idx else .child x idx

/-- element moves of `copy(a[idx+1:], a[idx:])` on `a = arr[:n+1]` (memmove: from the top down) -/
def moveOps (rd wr : Nat → MOp) (n idx : Nat) : List MOp :=
  ((List.range (n - idx)).reverse).flatMap fun d => [rd (idx + d), wr (idx + d + 1)]

/-- what remains of `Put` once `insertIntoLeaf` has found `idx` -/
def insertOps (epilogue : List MOp) : List MOp := [.planKeys, .planVals, .rdN, .wrN] ++ epilogue

def afterInsertIdx (op : Op K V) (x j : Nat) : PC K V :=
  match planOf op with
  | none => .done .unmodelled
  | some p => mk op (insertOps p.epilogue) false { (Regs.init : Regs K V) with curr := some x, idx := j } .unit

/-! ## the one access a goroutine performs next, and its effect -/

def rd (l : Loc) : Option Access := some ⟨l, false⟩
def wr (l : Loc) : Option Access := some ⟨l, true⟩

def mopAccess (rg : Regs K V) : MOp → Option Access
  | .readRoot => rd .root
  | .readGen => rd .gen
  | .writeGen => wr .gen
  | .readSize => rd .size
  | .writeSize => wr .size
  | .other => wr .other
  | o =>
    match rg.curr with
    | none => none
    | some x =>
      match o with
      | .readVal => rd (.node x (.val rg.idx))
      | .writeVal => wr (.node x (.val rg.idx))
      | .planKeys => rd (.node x .n)
      | .planVals => rd (.node x .n)
      | .rdKey j => rd (.node x (.key j))
      | .wrKeyT j => wr (.node x (.key j))
      | .wrKeyK j => wr (.node x (.key j))
      | .rdVal j => rd (.node x (.val j))
      | .wrValT j => wr (.node x (.val j))
      | .wrValV j => wr (.node x (.val j))
      | .rdN => rd (.node x .n)
      | .wrN => wr (.node x .n)
      | _ => none

/-- the read a range reader performs at program point `ph` -/
def itAccess (ph : Ph) (st : ItSt K V) : Option Access :=
  match ph with
  | .sRoot1 => rd .root
  | .sRootN r => rd (.node r .n)
  | .sRoot2 => rd .root
  | .ftest x _ => rd (.node x .n)
  | .fkey x i => rd (.node x (.key i))
  | .fretn x => rd (.node x .n)
  | .fleaf x _ => rd (.node x (.child 0))
  | .fn x _ => rd (.node x .n)
  | .fchild x idx => rd (.node x (.child idx))
  | .rdK x i => rd (.node x (.key i.toNat))
  | .sgen => rd .gen
  | .dl x => rd (.node x (.child 0))
  | .dl2 x => rd (.node x (.child 0))
  | .dr x => rd (.node x (.child 0))
  | .drn x => rd (.node x .n)
  | .drc x n => rd (.node x (.child n.toNat))
  | .lastN x => rd (.node x .n)
  | .mGen => rd .gen
  | .mLeaf x => rd (.node x (.child 0))
  | .mN x _ => rd (.node x .n)
  | .mIN x => rd (.node x .n)
  | .mCh x j => rd (.node x (.child j.toNat))
  | .cPar x => rd (.node x .parent)
  | .cPar2 x => rd (.node x .parent)
  | .cIdx _ p j => rd (.node p (.child j))
  | .cPar3 x _ => rd (.node x .parent)
  | .cN p _ => rd (.node p .n)
  | .nGen => rd .gen
  | .nVal =>
    match st.curr with
    | some x => rd (.node x (.val st.i.toNat))
    | none => none
  | .fin => none

/-- the next shared access of a goroutine: a function of its private state alone -/
def accessOf : PC K V → Option Access
  | .run (o :: _) _ rg _ => mopAccess rg o
  | .run [] _ _ _ => none
  | .test x _ => rd (.node x .n)
  | .key x i => rd (.node x (.key i))
  | .retn x => rd (.node x .n)
  | .leaf x _ => rd (.node x (.child 0))
  | .child x idx => rd (.node x (.child idx))
  | .full x => rd (.node x .n)
  | .itest x _ => rd (.node x .n)
  | .ikey x j => rd (.node x (.key j))
  | .it ph st => itAccess ph st
  | .done _ => none

/-- effect of one micro-operation: new memory, new locals, new result, micro-operations to prepend;
`none` = nil dereference -/
def mopExec (op : Op K V) (m : Mem K V) (rg : Regs K V) (r : Res V) (o : MOp) :
    Option (Mem K V × Regs K V × Res V × List MOp) :=
  match o with
  | .readRoot => some (m, { rg with curr := m.root }, r, [])
  | .readGen => some (m, { rg with ti := m.gen }, r, [])
  | .writeGen => some ({ m with gen := rg.ti + 1 }, rg, r, [])
  | .readSize => some (m, { rg with ti := m.size }, r, [])
  | .writeSize => some ({ m with size := rg.ti + 1 }, rg, r, [])
  | .other => some (m, rg, r, [])
  | o =>
    match rg.curr with
    | none => none
    | some x =>
      match o with
      | .readVal => some (m, rg, .val (m.val x rg.idx), [])
      | .writeVal =>
        match op with
        | .put _ v => some (m.setVal x rg.idx (some v), rg, r, [])
        | _ => none
      | .planKeys => some (m, rg, r, moveOps .rdKey .wrKeyT (m.n x).toNat rg.idx ++ [.wrKeyK rg.idx])
      | .planVals => some (m, rg, r, moveOps .rdVal .wrValT (m.n x).toNat rg.idx ++ [.wrValV rg.idx])
      | .rdKey j => some (m, { rg with tk := m.key x j }, r, [])
      | .wrKeyT j => some (m.setKey x j rg.tk, rg, r, [])
      | .wrKeyK j => some (m.setKey x j (some op.key), rg, r, [])
      | .rdVal j => some (m, { rg with tv := m.val x j }, r, [])
      | .wrValT j => some (m.setVal x j rg.tv, rg, r, [])
      | .wrValV j =>
        match op with
        | .put _ v => some (m.setVal x j (some v), rg, r, [])
        | _ => none
      | .rdN => some (m, { rg with ti := m.n x }, r, [])
      | .wrN => some (m.setN x (rg.ti + 1), rg, r, [])
      | _ => none

/-! ## the range reader -/

/-- which way the cursor moves: the `c.Next()` / `c.Prev()` a `Seek*` ends with, then the iterator's direction -/
def moveFwd (op : Op K V) (st : ItSt K V) : Bool :=
  match op with
  | .scan fwd sk _ _ _ =>
    match st.mode with
    | .step => (match sk with | .ge => true | .gt => true | .first => true | _ => false)
    | _ => fwd
  | _ => true

/-- the in-range predicate of the iterator on a key (`true` if there is none) -/
def inRangeOf (cmp : K → K → Int) (op : Op K V) (k : K) : Bool :=
  match op with
  | .scan _ _ _ (some (o, key)) _ => evalOp o (cmp k key)
  | _ => true

def hasPred : Op K V → Bool
  | .scan _ _ _ stop _ => stop.isSome
  | _ => false

def opFwd : Op K V → Bool
  | .scan fwd _ _ _ _ => fwd
  | _ => true

/-- the reader's loop: it calls `Next` again unless it has had its `limit` -/
def iterTop (st : ItSt K V) : PC K V :=
  if st.left = 0 then .it .fin st else .it .nGen { st with mode := .iter }

/-- one read of a range reader at program point `ph`, the value read deciding where it goes -/
def itNext (cmp : K → K → Int) (op : Op K V) (m : Mem K V) (ph : Ph) (st : ItSt K V) : PC K V :=
  let fwd := moveFwd op st
  match ph with
  | .sRoot1 =>
    match m.root with
    | some r => .it (.sRootN r) st
    | none => .done .crash
  | .sRootN _r =>
    -- `findEmpty` / `seekFirstEmpty` / `seekLastEmpty`: the three regenerated `root.n == 0` tests
    let n := m.n _r
    let empty := match op with
      | .scan _ .first _ _ _ => seekFirstEmpty n
      | .scan _ .last _ _ _ => seekLastEmpty n
      | _ => findEmpty n
    if empty then iterTop { st with curr := none } else .it .sRoot2 st
  | .sRoot2 =>
    match m.root with
    | none => .done .crash
    | some r =>
      match op with
      | .scan _ .first _ _ _ => .it (.dl r) st
      | .scan _ .last _ _ _ => .it (.dr r) st
      | _ => .it (.ftest r 0) st
  | .ftest x i => if (i : Int) < m.n x then .it (.fkey x i) st else .it (.fretn x) st
  | .fkey x i =>
    match m.key x i with
    | none => .done .crash
    | some k' =>
      let c := cmp op.key k'
      if searchLess c then .it (.fleaf x i) st
      else if searchEq c then .it (.rdK x i) st
      else .it (.ftest x (i + 1)) st
  | .fretn x => .it (.fleaf x (m.n x).toNat) st
  | .fleaf x idx =>
    match m.child x 0 with
    | none => .it (.fn x idx) st
    | some _ => .it (.fchild x idx) st
  | .fn x idx =>
    let idx' : Int := if findBacksUp idx (m.n x) && findBackUpDec then (idx : Int) - 1 else idx
    .it (.rdK x idx') st
  | .fchild x idx =>
    match m.child x idx with
    | some c => .it (.ftest c 0) st
    | none => .done .crash
  | .rdK x i =>
    if i < 0 then .done .crash else
    match m.key x i.toNat with
    | none => .done .crash
    | some k' =>
      let st' := { st with curr := some x, i := i, k := some k' }
      match st.mode with
      | .seek => .it .sgen st'
      | _ => iterTop st'
  | .sgen =>
    match op with
    | .scan _ sk skey _ _ =>
      let sets := match sk with
        | .first => seekFirstSetsGen
        | .last => seekLastSetsGen
        | _ => seekSetsGen
      let st' := { st with cgen := if sets then m.gen else st.cgen }
      let step : Bool := match sk, st.k with
        | .ge, some k => seekFirstGreaterOrEqualStep (cmp skey k)
        | .gt, some k => seekFirstGreaterStep (cmp skey k)
        | .le, some k => seekLastLessOrEqualStep (cmp skey k)
        | .lt, some k => seekLastLessStep (cmp skey k)
        | _, _ => false
      if step && seekStepCalls then .it .mGen { st' with mode := .step } else iterTop st'
    | _ => .done .crash
  | .dl x =>
    match m.child x 0 with
    | none => .it (.rdK x 0) st
    | some _ => .it (.dl2 x) st
  | .dl2 x =>
    match m.child x 0 with
    | some c => .it (.dl c) st
    | none => .done .crash
  | .dr x =>
    match m.child x 0 with
    | none => .it (.lastN x) st
    | some _ => .it (.drn x) st
  | .drn x => .it (.drc x (m.n x)) st
  | .drc x n =>
    match m.child x n.toNat with
    | some c => .it (.dr c) st
    | none => .done .crash
  | .lastN x =>
    .it (.rdK x (match st.mode with | .seek => seekLastIdx (m.n x) | _ => prevLeafLast (m.n x))) st
  | .mGen =>
    match st.curr with
    | none => iterTop st
    | some x => if st.cgen = m.gen then .it (.mLeaf x) st else .done .unmodelled
  | .mLeaf x =>
    match m.child x 0 with
    | none =>
      if fwd then .it (.mN x (st.i + 1)) st
      else if prevLeafStay (st.i - 1) then .it (.rdK x (st.i - 1)) st else .it (.cPar x) st
    | some _ =>
      if fwd then .it (.mIN x) st
      else if prevInnerDescend st.i then .it (.mCh x (prevChildIdx st.i)) st else .it (.cPar x) st
  | .mN x i => if nextLeafStay i (m.n x) then .it (.rdK x i) st else .it (.cPar x) st
  | .mIN x => if nextInnerDescend st.i (m.n x) then .it (.mCh x (nextChildIdx st.i)) st else .it (.cPar x) st
  | .mCh x j =>
    match m.child x j.toNat with
    | none => .done .crash
    | some c => if fwd then .it (.dl c) st else .it (.dr c) st
  | .cPar x =>
    match m.parent x with
    | none => iterTop { st with curr := none }
    | some _ => .it (.cPar2 x) st
  | .cPar2 x =>
    match m.parent x with
    | none => .done .crash
    | some p => .it (.cIdx x p 0) st
  | .cIdx x p j =>
    if m.child p j = some x then .it (.cPar3 x j) st
    else if ((j : Int) + 1 < childrenLen) then .it (.cIdx x p (j + 1)) st
    else .it (.cPar3 x (-1)) st
  | .cPar3 x idx =>
    match m.parent x with
    | none => .done .crash
    | some p =>
      if fwd then .it (.cN p (nextClimbIdx idx)) st
      else if prevClimbStop (prevClimbIdx idx) then .it (.rdK p (prevClimbIdx idx)) st else .it (.cPar p) st
  | .cN p i => if nextClimbStop i (m.n p) then .it (.rdK p i) st else .it (.cPar p) st
  | .nGen =>
    match st.curr with
    | none => .it .fin st
    | some _ =>
      if st.cgen = m.gen then
        match st.k with
        | none => .done .crash
        | some k => if iterStops (opFwd op) (hasPred op) (inRangeOf cmp op k) then .it .fin st else .it .nVal st
      else .done .unmodelled
  | .nVal =>
    match st.curr, st.k with
    | some x, some k =>
      .it .mGen { st with out := st.out ++ [(k, m.val x st.i.toNat)], left := st.left - 1 }
    | _, _ => .done .crash
  | .fin => .it .fin st

/-- the goroutine performs `accessOf pc` on the memory `m` -/
def next (cmp : K → K → Int) (op : Op K V) (m : Mem K V) : PC K V → Mem K V × PC K V
  | .run [] cont rg r => (m, mk op [] cont rg r)
  | .run (o :: ops) cont rg r =>
    match mopExec op m rg r o with
    | none => (m, .done .crash)
    | some (m', rg', r', pre) => (m', mk op (pre ++ ops) cont rg' r')
  | .test x i => (m, if (i : Int) < m.n x then .key x i else .retn x)
  | .key x i =>
    match m.key x i with
    | none => (m, .done .crash)
    | some k' =>
      let c := cmp op.key k'
      (m, if searchLess c then notFoundAt op x i
          else if searchEq c then foundAt op x i
          else .test x (i + 1))
  | .retn x => (m, notFoundAt op x (m.n x).toNat)
  | .leaf x idx =>
    match m.child x 0 with
    | some _ => (m, .child x idx)
    | none => (m, if insertShape then .full x else .done .unmodelled)
  | .child x idx =>
    match m.child x idx with
    | some c => (m, .test c 0)
    | none => (m, .done (nilRes op))
  | .full x => (m, if putInsertsDirect (full (m.n x)) then .itest x 0 else .done .unmodelled)
  | .itest x j => (m, if (j : Int) < m.n x then .ikey x j else afterInsertIdx op x j)
  | .ikey x j =>
    match m.key x j with
    | none => (m, .done .crash)
    | some k' => (m, if insertLess (cmp op.key k') then afterInsertIdx op x j else .itest x (j + 1))
  | .it ph st => (m, itNext cmp op m ph st)
  | .done r => (m, .done r)

/-! ## interleaving semantics -/

/-- shared memory + one program counter per goroutine (the operations are fixed, `ops[i]` is what
goroutine `i` executes) -/
structure Config (K V : Type) where
  mem : Mem K V
  pcs : List (PC K V)

def initial (m : Mem K V) (ops : List (Op K V)) : Config K V := { mem := m, pcs := ops.map start }

/-- goroutine `i` performs its next access; `none` if it has returned (or does not exist) -/
def stepAt (cmp : K → K → Int) (ops : List (Op K V)) (c : Config K V) (i : Nat) : Option (Config K V) :=
  match ops[i]?, c.pcs[i]? with
  | some op, some pc =>
    if pc.isDone then none
    else let r := next cmp op c.mem pc; some { mem := r.1, pcs := c.pcs.set i r.2 }
  | _, _ => none

inductive Reach (cmp : K → K → Int) (ops : List (Op K V)) (c0 : Config K V) : Config K V → Prop where
  | refl : Reach cmp ops c0 c0
  | step {c c' : Config K V} {i : Nat} : Reach cmp ops c0 c → stepAt cmp ops c i = some c' → Reach cmp ops c0 c'

/-- no goroutine can move: every operation has returned -/
def Terminal (cmp : K → K → Int) (ops : List (Op K V)) (c : Config K V) : Prop :=
  ∀ i, stepAt cmp ops c i = none

/-- **data race**: two different goroutines whose next accesses conflict.

*Why "both enabled in one configuration" is all there is* (audit C01R-F7; the first-race argument, written down).
The Go memory model calls two conflicting accesses of different goroutines a data race when neither happens before
the other. The operations modelled here contain no synchronisation, so happens-before between goroutines is empty
during the concurrent phase: ANY two conflicting accesses `a` (goroutine `i`, step `p` of some run) and `b`
(goroutine `j ≠ i`, step `q > p`) are a race in that sense, however far apart. Claim: then some reachable
configuration satisfies `Race`, so `¬ Race` on every reachable configuration (`concurrent_puts_race_free`) excludes all
of them. Proof: among such pairs of the run take one with `q` minimal and, for that `q`, `p` maximal. Run the same
schedule up to (not including) step `p`, then the steps between `p` and `q` *of the goroutines other than `i`*, in
their order. Each of these steps (goroutine `k`, originally step `r`, `p < r < q`) does what it did in the original
run: `k`'s private state is the same (induction on `r`; before `p` the runs coincide), and the location it accesses
holds the same value — the two memories differ at most in locations that `i` wrote in steps `[p, r)`, and if `k`'s
access touched one of those it would conflict with a write of `i` at an earlier step: a pair with second component
`r < q`, contradicting the minimality of `q`. So the shortened run is a run; at its end goroutine `j` is about to
perform `b` (its private state is that of step `q`) and goroutine `i` is still about to perform `a` (it has not moved
since step `p`): both enabled, conflicting — `Race`. The argument uses exactly two properties of `next`/`accessOf`,
both by construction of `next` (each clause reads or writes the one field `accessOf` names, `mopExec`/`itNext` included)
and observed on the real code by `c01acc` (comparator arguments, value slots read, raw slots written per call):
the successor of a private state depends on the memory only at the location `accessOf` names, and the memory changes
only there, and only if the access is a write. The argument is machine-checked for every system of that shape
(`Proofs/FirstRace.lean`: `no_conflicting_accesses_of_race_free`, re-exported as
`Props.C01Race.race_free_configurations_exclude_all_data_races`); what is not a Lean theorem is the instantiation — the
locality lemma for all clauses of `next`. -/
def Race (c : Config K V) : Prop :=
  ∃ (i j : Nat) (a b : Access), i ≠ j ∧ (c.pcs[i]?).bind accessOf = some a ∧ (c.pcs[j]?).bind accessOf = some b ∧ conflict a b = true

/-- executable race check -/
def hasRace (c : Config K V) : Bool :=
  (List.range c.pcs.length).any fun i => (List.range c.pcs.length).any fun j =>
    !(i == j) &&
      match (c.pcs[i]?).bind accessOf, (c.pcs[j]?).bind accessOf with
      | some a, some b => conflict a b
      | _, _ => false

/-- run a schedule (list of goroutine indices) -/
def runSched (cmp : K → K → Int) (ops : List (Op K V)) : Config K V → List Nat → Option (Config K V)
  | c, [] => some c
  | c, i :: is =>
    match stepAt cmp ops c i with
    | none => none
    | some c' => runSched cmp ops c' is

/-- one goroutine alone, to completion: its access sequence, the final memory and its result -/
def solo (cmp : K → K → Int) (op : Op K V) : Nat → Mem K V → PC K V → List Access × Mem K V × PC K V
  | 0, m, pc => ([], m, pc)
  | fuel + 1, m, pc =>
    if pc.isDone then ([], m, pc)
    else
      let r := next cmp op m pc
      let s := solo cmp op fuel r.1 r.2
      ((accessOf pc).toList ++ s.1, s.2.1, s.2.2)

end Juniper.Model.BTreeAccess
