import Juniper.Generated.Par
import Juniper.Generated.ParSync
import Juniper.Proofs.LTS
/-!
# Models of `parallel.MapStream` and `parallel.MapIterator` — C14 (and the MapStream clauses of C08/C09)

Labelled transition systems: one label = one atomic step of one goroutine (one `select` arm, one
channel hand-off, one atomic counter operation, one lock-protected section). The dispatcher, the `P`
workers and the consumer (`Next` / `Close`) are the goroutines; the source stream / iterator and `f`
are the environment (their calls begin with an internal step and return with an environment label
carrying an arbitrary result). The reorder heap is abstracted to a finite set of `(index, value)`
pairs with "peek/pop the minimum index" (container/xheap is verified separately, C05).

Guards, channel capacities, token count and `select` arm tables are the definitions regenerated from
`parallel/parallel.go` (`Juniper.Gen.Par`); they enter through the records `Stream.Code` / `Iter.Code`.
So do three *disciplines* computed from `Juniper.Gen.ParSync` (ordered synchronisation operations with
the receiver resolved to the struct field, origin of the context, call sites of `cancel`):

* `Iter.sectionsAtomic` — MapIterator's two critical sections lock the same `sync.Mutex` field, which is
  the locker of the `*sync.Cond` both use; the wait is a `for` loop; increment / decrement / `Signal` are
  inside; nothing else touches `inFlight` or the lock. Only then are `dAcquire` ("Lock; check; park or
  take a slot; Unlock") and the lock section of `cYield` atomic labels. When it does not hold the LTS has
  the behaviour such code has: the dispatcher's check and its parking are two steps (`dAcquire` to
  `.checked`, then `dPark`), a `cYield` may come in between and its `Signal` is lost.
* `Stream.ctxPlain` — the context handed to the source, to `f` and to the selects is
  `errgroup.WithContext(context.WithCancel(<the caller's ctx>))` and `cancel` is called by `Close` only.
  Otherwise the environment label `libCtxEnd` — that context ends by the library's own
  doing, e.g. a timeout — is enabled.
* `Stream.code.closeCancels` / `closeWaits` — `Close` is `s.cancel()` followed by `s.eg.Wait()`.
  Otherwise `closeCall` does not cancel / `cCloseDone` does not wait.
Core Lean only.
-/
namespace Juniper.Model.ParMap
open Juniper.Gen Juniper.Facts

/-- number of iterations of `for j := 0; cond j; j++` (with fuel) -/
def loopCount (cond : Int → Bool) : Nat → Int → Nat
  | 0, _ => 0
  | f + 1, j => if cond j then loopCount cond f (j + 1) + 1 else 0

/-- Result of one call of `f`: a value or error number `k`. -/
inductive Res where
  | ok (v : Nat)
  | err (k : Nat)
  deriving DecidableEq, Repr, Hashable, BEq

/-- minimum index in the reorder buffer (`h.Peek().idx`) -/
def heapMin (h : List (Nat × Nat)) : Option Nat := (h.map (·.1)).min?

/-- calls on the source, in order -/
inductive SrcEv where
  | nextBegin | nextEnd | closeBegin | closeEnd
  deriving DecidableEq, Repr, Hashable, BEq

/-- what a source call returns -/
inductive SrcRes where
  | item (v : Nat)
  | «end»
  | err (k : Nat)
  deriving DecidableEq, Repr, Hashable, BEq

/-! ## MapStream -/
namespace Stream

structure Code where
  clampLow : Int → Bool
  bufClamp : Int → Int → Bool
  inCap : Int → Int
  readyCap : Int → Int
  cCap : Int → Int
  tokenLoop : Int → Int → Bool
  spawnLoop : Int → Int → Bool
  dispEnd : Bool → Bool
  dispFailed : Bool → Bool
  dispWaitArms : List Arm
  dispSendArms : List Arm
  workerSendArms : List Arm
  nextArms : List Arm
  lastWorker : Int → Int → Bool
  workerFailed : Bool → Bool
  nextReady : Int → Int → Int → Bool
  nextClosed : Bool → Bool
  nextFailed : Bool → Bool
  /-- `defer s.Close()` in the dispatcher -/
  closesSource : Bool
  /-- `defer close(in)` in the dispatcher -/
  closesIn : Bool
  /-- `close(c)` by the last worker -/
  lastCloses : Bool
  /-- `s.ready <- struct{}{}` when yielding -/
  releases : Bool
  /-- `s.cancel()` is the first statement of `Close` -/
  closeCancels : Bool
  /-- `_ = s.eg.Wait()` in `Close` -/
  closeWaits : Bool
  /-- the context handed to the source / `f` / the selects is `errgroup.WithContext(context.WithCancel(ctx))`,
  cancelled by `Close` only (`ctxPlain`); otherwise it can end by the library's own doing (`libCtxEnd`) -/
  ctxPlain : Bool
  /-- remaining presence facts -/
  structural : Bool

/-- **Origin of the context** (`Juniper.Gen.ParSync`): the only assignments to `ctx` / `cancel` / `eg` in the
whole body of `MapStream` (closures included) are `ctx, cancel := context.WithCancel(ctx)` followed by
`eg, ctx := errgroup.WithContext(ctx)`; no function literal re-binds these names; `cancel` is used twice:
stored in the returned `mapStream` and called by `mapStream.Close`; `context` / `errgroup` are the standard
packages. Then the context the dispatcher passes to the source's `Next`, the workers pass to `f` and all
their selects wait on is done only when the caller's context is, when `Close` was called, or when the
errgroup recorded a failure — never by the passage of time. -/
def ctxPlainOf (assigns : List (String × String)) (shadows : List String) (cancelUses imports : List (String × String)) :
    Bool :=
  assigns == [("ctx, cancel", "context.WithCancel(ctx)"), ("eg, ctx", "errgroup.WithContext(ctx)")]
  && shadows == []
  && cancelUses == [("MapStream", "cancel: cancel"), ("mapStream.Close", "s.cancel()")]
  && imports.contains ("", "context")
  && imports.contains ("", "golang.org/x/sync/errgroup")

/-- `ctxPlainOf` of the source as it is now -/
def ctxPlain : Bool :=
  ctxPlainOf ParSync.msCtxAssigns ParSync.msCtxShadows ParSync.msCancelUses ParSync.parImports

/-- `parallel.MapStream`, `mapStream.Next`, `mapStream.Close` as they are in the source now. -/
def code : Code where
  clampLow := Par.msClampLow
  bufClamp := Par.msBufClamp
  inCap := Par.msInCap
  readyCap := Par.msReadyCap
  cCap := Par.msCCap
  tokenLoop := Par.msTokenLoop
  spawnLoop := Par.msSpawnLoop
  dispEnd := Par.msDispEnd
  dispFailed := Par.msDispFailed
  dispWaitArms := Par.msDispWaitArms
  dispSendArms := Par.msDispSendArms
  workerSendArms := Par.msWorkerSendArms
  nextArms := Par.msNextArms
  lastWorker := Par.msLastWorker
  workerFailed := Par.msWorkerFailed
  nextReady := Par.msNextReady
  nextClosed := Par.msNextClosed
  nextFailed := Par.msNextFailed
  closesSource := Par.msDispClosesSource
  closesIn := Par.msDispClosesIn
  lastCloses := Par.msLastCloses
  releases := Par.msNextReleases
  closeCancels := Par.msCloseCancels && Par.msCloseCancelBeforeWait
  closeWaits := Par.msCloseWaits
  ctxPlain := ctxPlain
  structural := Par.msBufClampAssigns && Par.msTokenLoopSends && Par.msCancelCtx && Par.msErrgroup
    && Par.msCancelOutsideErrgroup && Par.msDispPulls && Par.msDispEndBreaks && Par.msDispReturnsErr
    && Par.msDispWaitCtxReturns && Par.msDispSendCtxReturns && Par.msDispNumbers && Par.msDispReturnsNil
    && Par.msWorkerCalls && Par.msWorkerReturnsErr && Par.msWorkerCtxReturns && Par.msWorkerReturnsNil
    && Par.msNextPops && Par.msNextAdvances && Par.msNextYields && Par.msNextWaits
    && Par.msNextReturnsErr && Par.msNextReturnsEnd && Par.msNextPushes && Par.msNextCtxReturns

def ctxDoneArm : Arm := .recv "ctx.Done()"

/-- What the proofs need to know about the anchored sites of MapStream. -/
structure Code.Sound (c : Code) : Prop where
  clampLow : ∀ p, c.clampLow p = decide (p ≤ 0)
  bufClamp : ∀ b p, c.bufClamp b p = decide (b < p)
  inCap : ∀ b, c.inCap b = 0
  readyCap : ∀ b, c.readyCap b = b
  cCap : ∀ b, c.cCap b = b
  tokenLoop : ∀ i b, c.tokenLoop i b = decide (i < b)
  spawnLoop : ∀ i p, c.spawnLoop i p = decide (i < p)
  dispEnd : ∀ b, c.dispEnd b = b
  dispFailed : ∀ b, c.dispFailed b = b
  dispWaitArms : sameArms c.dispWaitArms [ctxDoneArm, .recv "ready"] = true
  dispSendArms : sameArms c.dispSendArms [ctxDoneArm, .send "in"] = true
  workerSendArms : sameArms c.workerSendArms [.send "c", ctxDoneArm] = true
  nextArms : sameArms c.nextArms [.recv "s.c", ctxDoneArm] = true
  waitHasReady : c.dispWaitArms.contains (.recv "ready") = true
  waitHasCtx : c.dispWaitArms.contains ctxDoneArm = true
  sendHasIn : c.dispSendArms.contains (.send "in") = true
  sendHasCtx : c.dispSendArms.contains ctxDoneArm = true
  workerHasC : c.workerSendArms.contains (.send "c") = true
  workerHasCtx : c.workerSendArms.contains ctxDoneArm = true
  nextHasC : c.nextArms.contains (.recv "s.c") = true
  nextHasCtx : c.nextArms.contains ctxDoneArm = true
  lastWorker : ∀ d p, c.lastWorker d p = decide (d = p)
  workerFailed : ∀ b, c.workerFailed b = b
  nextReady : ∀ l m i, c.nextReady l m i = (decide (l > 0) && decide (m = i))
  nextClosed : ∀ b, c.nextClosed b = !b
  nextFailed : ∀ b, c.nextFailed b = b
  closesSource : c.closesSource = true
  closesIn : c.closesIn = true
  lastCloses : c.lastCloses = true
  releases : c.releases = true
  closeCancels : c.closeCancels = true
  closeWaits : c.closeWaits = true
  ctxPlain : c.ctxPlain = true
  structural : c.structural = true

structure Cfg where
  code : Code
  /-- requested parallelism -/
  P : Int
  /-- requested buffer size -/
  B : Int
  gmp : Nat

/-- parallelism after `if parallelism <= 0 { parallelism = GOMAXPROCS }` -/
def par (cfg : Cfg) : Int := if cfg.code.clampLow cfg.P then (cfg.gmp : Int) else cfg.P

/-- bufferSize after `if bufferSize < parallelism { bufferSize = parallelism }` -/
def buf (cfg : Cfg) : Int := if cfg.code.bufClamp cfg.B (par cfg) then par cfg else cfg.B

def numWorkers (cfg : Cfg) : Nat :=
  loopCount (fun j => cfg.code.spawnLoop j (par cfg)) ((par cfg).toNat + 1) 0

def numTokens (cfg : Cfg) : Nat :=
  loopCount (fun j => cfg.code.tokenLoop j (buf cfg)) ((buf cfg).toNat + 1) 0

def readyCap (cfg : Cfg) : Nat := (cfg.code.readyCap (buf cfg)).toNat
def cCap (cfg : Cfg) : Nat := (cfg.code.cCap (buf cfg)).toNat

inductive Err where
  | f (k : Nat)
  | src (k : Nat)
  /-- `ctx.Err()` after the context given to MapStream was cancelled by the caller -/
  | ctxParent
  /-- `ctx.Err()` after `Close` cancelled -/
  | ctxClose
  /-- `ctx.Err()` after the errgroup cancelled its own context -/
  | ctxLib
  deriving DecidableEq, Repr, Hashable, BEq

inductive Cause where
  | parent | close | lib
  deriving DecidableEq, Repr, Hashable, BEq

def Cause.err : Cause → Err
  | .parent => .ctxParent
  | .close => .ctxClose
  | .lib => .ctxLib

/-- dispatcher -/
inductive DPc where
  | pull
  | inNext
  | waitReady (v : Nat)
  | sendIn (v : Nat)
  /-- the function body returned `r`; `close(in)` and `s.Close()` are deferred -/
  | exiting (r : Option Err)
  /-- inside the deferred `s.Close()` -/
  | srcClosing (r : Option Err)
  /-- errgroup bookkeeping pending -/
  | egRet (r : Option Err)
  | done
  deriving DecidableEq, Repr, Hashable, BEq

/-- worker -/
inductive WPc where
  | idle
  | inF (k : Nat)
  | sendC (k : Nat) (v : Nat)
  | exiting (r : Option Err)
  | egRet (r : Option Err)
  | done
  deriving DecidableEq, Repr, Hashable, BEq

/-- consumer -/
inductive CPc where
  | idle
  /-- inside `Next`; `live`: its context has not expired -/
  | next (live : Bool)
  /-- inside `Next`, popped `(k, v)`, about to `s.ready <- struct{}{}` -/
  | releasing (k v : Nat)
  /-- inside `Next`, in `s.eg.Wait()` -/
  | nextWait
  /-- inside `Close`, in `s.eg.Wait()` -/
  | closeWait
  | closed
  deriving DecidableEq, Repr, Hashable, BEq

inductive NextRes where
  | val (k v : Nat)
  | «end»
  | err (e : Err)
  /-- the error of the context passed to this `Next` call -/
  | ctxCons
  deriving DecidableEq, Repr, Hashable, BEq

structure St where
  disp : DPc
  /-- dispatcher's `i`: number of items handed to workers -/
  dispI : Nat
  ready : Nat
  inClosed : Bool
  ws : List WPc
  nDone : Nat
  c : List (Nat × Nat)
  cClosed : Bool
  parentCancelled : Bool
  closeCalled : Bool
  /-- the errgroup context is done, and who cancelled first -/
  ctxCause : Option Cause
  egErr : Option Err
  /-- goroutines of the errgroup that have not finished -/
  egLive : Nat
  cons : CPc
  heap : List (Nat × Nat)
  i : Nat
  -- ghost
  srcLog : List SrcEv
  srcItems : List Nat
  srcErr : Option Nat
  srcEnded : Bool
  fBegun : List (Nat × Nat)
  fEnded : List (Nat × Res)
  /-- indices whose result never reaches `c`: `f` failed, or the worker saw `ctx.Done()` -/
  dropped : List Nat
  /-- tokens taken by the dispatcher whose item was never sent -/
  lost : Nat
  results : List NextRes
  deriving DecidableEq, Repr, Hashable, BEq

def init (cfg : Cfg) : St where
  disp := .pull
  dispI := 0
  ready := numTokens cfg
  inClosed := false
  ws := List.replicate (numWorkers cfg) .idle
  nDone := 0
  c := []
  cClosed := false
  parentCancelled := false
  closeCalled := false
  ctxCause := none
  egErr := none
  egLive := numWorkers cfg + 1
  cons := .idle
  heap := []
  i := 0
  srcLog := []
  srcItems := []
  srcErr := none
  srcEnded := false
  fBegun := []
  fEnded := []
  dropped := []
  lost := 0
  results := []

inductive Label where
  -- dispatcher
  | dPull
  | srcRet (r : SrcRes)          -- environment
  | dTakeToken
  | dWaitCtx
  | dSend (w : Nat)
  | dSendCtx
  | dCloseIn
  | srcCloseRet                  -- environment
  | dEgDone
  -- workers
  | fRet (w : Nat) (r : Res)     -- environment
  | wSendC (w : Nat)
  | wSendCtx (w : Nat)
  | wExitIdle (w : Nat)
  | wDefer (w : Nat)
  | wEgDone (w : Nat)
  -- consumer
  | nextCall (live : Bool)       -- environment
  | consCtxExpire                -- environment
  | cYield
  | cRelease
  | cRecv
  | cRecvClosed
  | cCtx
  | cWaitDone
  | closeCall                    -- environment
  | cCloseDone
  | parentCancel                 -- environment
  /-- environment: the library's context ends by the library's own doing (a timeout, a stray `cancel()`);
  enabled only when `ctxPlain` does not hold -/
  | libCtxEnd
  deriving DecidableEq, Repr

def Label.isEnv : Label → Bool
  | .srcRet _ | .srcCloseRet | .fRet _ _ | .nextCall _ | .consCtxExpire | .closeCall | .parentCancel
  | .libCtxEnd => true
  | _ => false

def ctxDone (s : St) : Bool := s.ctxCause.isSome

/-- `ctx.Err()` of the errgroup context (only evaluated when it is done) -/
def ctxErr (s : St) : Err := match s.ctxCause with
  | some c => c.err
  | none => .ctxLib

/-- errgroup bookkeeping of a goroutine whose function returned `r`: the first non-nil error is
recorded and the context cancelled; `wg.Done()` -/
def egRecord (s : St) (r : Option Err) : St :=
  { s with egErr := if s.egErr.isSome then s.egErr else r,
           ctxCause := if r.isSome && s.egErr.isNone && s.ctxCause.isNone then some .lib else s.ctxCause,
           egLive := s.egLive - 1 }

/-- the consumer's `if s.h.Len() > 0 && s.h.Peek().idx == s.i` -/
def canYield (cfg : Cfg) (s : St) : Bool :=
  cfg.code.nextReady s.heap.length ((heapMin s.heap).getD 0) s.i

def step (cfg : Cfg) (s : St) : Label → Option St
  | .dPull =>
    match s.disp with
    | .pull => some { s with disp := .inNext, srcLog := s.srcLog ++ [SrcEv.nextBegin] }
    | _ => none
  | .srcRet r =>
    match s.disp with
    | .inNext =>
      let s := { s with srcLog := s.srcLog ++ [SrcEv.nextEnd] }
      match r with
      | .item v =>
        if cfg.code.dispEnd false || cfg.code.dispFailed false then none
        else some { s with disp := .waitReady v, srcItems := s.srcItems ++ [v] }
      | .end =>
        if cfg.code.dispEnd true then some { s with disp := .exiting none, srcEnded := true } else none
      | .err k =>
        if !cfg.code.dispEnd false && cfg.code.dispFailed true then
          some { s with disp := .exiting (some (.src k)), srcErr := some k }
        else none
    | _ => none
  | .dTakeToken =>
    match s.disp with
    | .waitReady v =>
      if cfg.code.dispWaitArms.contains (.recv "ready") && decide (s.ready > 0) then
        some { s with disp := .sendIn v, ready := s.ready - 1 }
      else none
    | _ => none
  | .dWaitCtx =>
    match s.disp with
    | .waitReady _ =>
      if cfg.code.dispWaitArms.contains ctxDoneArm && ctxDone s then
        some { s with disp := .exiting (some (ctxErr s)) }
      else none
    | _ => none
  | .dSend w =>
    match s.disp, s.ws[w]? with
    | .sendIn v, some .idle =>
      if cfg.code.dispSendArms.contains (.send "in") && !s.inClosed then
        some { s with disp := .pull, dispI := s.dispI + 1, ws := s.ws.set w (.inF s.dispI),
                      fBegun := s.fBegun ++ [(s.dispI, v)] }
      else none
    | _, _ => none
  | .dSendCtx =>
    match s.disp with
    | .sendIn _ =>
      if cfg.code.dispSendArms.contains ctxDoneArm && ctxDone s then
        some { s with disp := .exiting (some (ctxErr s)), lost := s.lost + 1 }
      else none
    | _ => none
  | .dCloseIn =>
    match s.disp with
    | .exiting r =>
      let s := { s with inClosed := s.inClosed || cfg.code.closesIn }
      if cfg.code.closesSource then
        some { s with disp := .srcClosing r, srcLog := s.srcLog ++ [SrcEv.closeBegin] }
      else some { s with disp := .egRet r }
    | _ => none
  | .srcCloseRet =>
    match s.disp with
    | .srcClosing r => some { s with disp := .egRet r, srcLog := s.srcLog ++ [SrcEv.closeEnd] }
    | _ => none
  | .dEgDone =>
    match s.disp with
    | .egRet r => some { egRecord s r with disp := .done }
    | _ => none
  | .fRet w r =>
    match s.ws[w]? with
    | some (.inF k) =>
      let s := { s with fEnded := s.fEnded ++ [(k, r)] }
      match r with
      | .ok v => if cfg.code.workerFailed false then none else some { s with ws := s.ws.set w (.sendC k v) }
      | .err e =>
        if cfg.code.workerFailed true then
          some { s with ws := s.ws.set w (.exiting (some (.f e))), dropped := s.dropped ++ [k] }
        else none
    | _ => none
  | .wSendC w =>
    match s.ws[w]? with
    | some (.sendC k v) =>
      if cfg.code.workerSendArms.contains (.send "c") && decide (s.c.length < cCap cfg) && !s.cClosed then
        some { s with ws := s.ws.set w .idle, c := s.c ++ [(k, v)] }
      else none
    | _ => none
  | .wSendCtx w =>
    match s.ws[w]? with
    | some (.sendC k _) =>
      if cfg.code.workerSendArms.contains ctxDoneArm && ctxDone s then
        some { s with ws := s.ws.set w (.exiting (some (ctxErr s))), dropped := s.dropped ++ [k] }
      else none
    | _ => none
  | .wExitIdle w =>
    match s.ws[w]? with
    | some .idle => if s.inClosed then some { s with ws := s.ws.set w (.exiting none) } else none
    | _ => none
  | .wDefer w =>
    match s.ws[w]? with
    | some (.exiting r) =>
      let d := s.nDone + 1
      some { s with ws := s.ws.set w (.egRet r), nDone := d,
                    cClosed := s.cClosed || (cfg.code.lastWorker d (par cfg) && cfg.code.lastCloses) }
    | _ => none
  | .wEgDone w =>
    match s.ws[w]? with
    | some (.egRet r) => some { egRecord s r with ws := s.ws.set w .done }
    | _ => none
  | .nextCall live =>
    match s.cons with
    | .idle => some { s with cons := .next live }
    | _ => none
  | .consCtxExpire =>
    match s.cons with
    | .next true => some { s with cons := .next false }
    | _ => none
  | .cYield =>
    match s.cons with
    | .next _ =>
      if canYield cfg s then
        match s.heap.find? (fun kv => kv.1 == (heapMin s.heap).getD 0) with
        | some (k, v) =>
          some { s with cons := .releasing k v, heap := s.heap.eraseP (fun kv => kv.1 == k), i := s.i + 1 }
        | none => none
      else none
    | _ => none
  | .cRelease =>
    match s.cons with
    | .releasing k v =>
      if cfg.code.releases then
        if s.ready < readyCap cfg then
          some { s with cons := .idle, ready := s.ready + 1, results := s.results ++ [.val k v] }
        else none
      else some { s with cons := .idle, results := s.results ++ [.val k v] }
    | _ => none
  | .cRecv =>
    match s.cons, s.c with
    | .next _, kv :: rest =>
      if !canYield cfg s && cfg.code.nextArms.contains (.recv "s.c") then
        some { s with c := rest, heap := s.heap ++ [kv] }
      else none
    | _, _ => none
  | .cRecvClosed =>
    match s.cons, s.c with
    | .next _, [] =>
      if !canYield cfg s && cfg.code.nextArms.contains (.recv "s.c") && s.cClosed && cfg.code.nextClosed false then
        some { s with cons := .nextWait }
      else none
    | _, _ => none
  | .cCtx =>
    match s.cons with
    | .next false =>
      if !canYield cfg s && cfg.code.nextArms.contains ctxDoneArm then
        some { s with cons := .idle, results := s.results ++ [.ctxCons] }
      else none
    | _ => none
  | .cWaitDone =>
    match s.cons with
    | .nextWait =>
      if s.egLive == 0 then
        match s.egErr with
        | some e =>
          if cfg.code.nextFailed true then some { s with cons := .idle, results := s.results ++ [.err e] }
          else some { s with cons := .idle, results := s.results ++ [.end] }
        | none => some { s with cons := .idle, results := s.results ++ [.end] }
      else none
    | _ => none
  | .closeCall =>
    match s.cons with
    | .idle =>
      if cfg.code.closeCancels then
        some { s with cons := .closeWait, closeCalled := true,
                      ctxCause := if s.ctxCause.isSome then s.ctxCause else some .close }
      else some { s with cons := .closeWait, closeCalled := true }
    | _ => none
  | .cCloseDone =>
    match s.cons with
    | .closeWait =>
      if cfg.code.closeWaits then
        if s.egLive == 0 then some { s with cons := .closed } else none
      else some { s with cons := .closed }
    | _ => none
  | .parentCancel =>
    if s.parentCancelled then none else
    some { s with parentCancelled := true,
                  ctxCause := if s.ctxCause.isSome then s.ctxCause else some .parent }
  | .libCtxEnd =>
    if cfg.code.ctxPlain then none
    else if s.ctxCause.isNone then some { s with ctxCause := some .lib } else none

inductive Reach (cfg : Cfg) : St → Prop where
  | init : Reach cfg (init cfg)
  | step {s s' : St} {l : Label} : Reach cfg s → step cfg s l = some s' → Reach cfg s'

def run (cfg : Cfg) : St → List Label → Option St
  | s, [] => some s
  | s, l :: ls => match step cfg s l with
    | some s' => run cfg s' ls
    | none => none

theorem isRun (cfg : Cfg) : LTS.IsRun (step cfg) (run cfg) :=
  ⟨fun _ => rfl, fun s l ls => by simp only [run]; cases step cfg s l <;> rfl⟩

theorem reach_of_run {cfg : Cfg} {s s' : St} {ls : List Label} (h : Reach cfg s)
    (hr : run cfg s ls = some s') : Reach cfg s' :=
  (isRun cfg).reach .step h hr

def internalLabels (s : St) : List Label :=
  [.dPull, .dTakeToken, .dWaitCtx, .dSendCtx, .dCloseIn, .dEgDone, .cYield, .cRelease, .cRecv,
   .cRecvClosed, .cCtx, .cWaitDone, .cCloseDone]
  ++ (List.range s.ws.length).flatMap
      (fun w => [.dSend w, .wSendC w, .wSendCtx w, .wExitIdle w, .wDefer w, .wEgDone w])

/-- calls of `f` in progress -/
def fRunning (s : St) : Nat := s.ws.countP (fun pc => match pc with | .inF _ => true | _ => false)

/-- a call on the source is in progress -/
def srcBusy (s : St) : Bool := match s.disp with
  | .inNext => true
  | .srcClosing _ => true
  | _ => false

/-- items taken from the source and not yet yielded -/
def inFlight (s : St) : Nat := s.srcItems.length - s.results.countP (fun r => match r with | .val _ _ => true | _ => false)

end Stream

/-! ## MapIterator -/
namespace Iter

structure Code where
  clampLow : Int → Bool
  bufClamp : Int → Int → Bool
  inCap : Int → Int
  chCap : Int → Int
  srcEnded : Bool → Bool
  full : Int → Int → Bool
  spawnLoop : Int → Int → Bool
  lastWorker : Int → Int → Bool
  nextReady : Int → Int → Int → Bool
  signalCond : Int → Int → Bool
  nextClosed : Bool → Bool
  closesIn : Bool
  lastCloses : Bool
  signals : Bool
  waits : Bool
  /-- both critical sections use the same mutex, which is the cond's locker (`sectionsAtomic`) -/
  sectionsAtomic : Bool
  structural : Bool

/-- **Lock / cond discipline of MapIterator** (`Juniper.Gen.ParSync`: ordered synchronisation operations with
the receiver resolved to the struct field, `it` = the `*mapIterator`). The dispatcher's section is
`Lock l; for <full> { Wait c }; inFlight++; Unlock l` inside its loop, `Next`'s is
`Lock l; inFlight--; if <cond> { Signal c }; Unlock l` inside the yield branch, with the *same* lock field
`l` of type `sync.Mutex` and the *same* `*sync.Cond` field `c`, whose one `sync.NewCond(&l)` names `l`;
`inFlight` is an `int` field; the rest of `MapIterator` (constructor, comparison, workers) contains no
lock / cond operation and no access to `inFlight` besides that `NewCond`; no other function of the package
mentions `.inFlight` / `.cond`; `sync` is the standard package. (`bufferSize` / the two guards are the
facts `miFull`, `miNextSignalCond`.) -/
def sectionsAtomicOf (disp next condInit fields rest : List (String × String)) (touchers : List String)
    (imports : List (String × String)) : Bool :=
  match disp, next, condInit with
  | [("for", ""), ("Lock", l1), ("for", _), ("Wait", c1), ("}", _), ("inc", x1), ("Unlock", u1), ("}", _)],
    [("for", ""), ("if", _), ("Lock", l2), ("dec", x2), ("if", _), ("Signal", c2), ("}", _), ("Unlock", u2),
     ("}", _), ("}", _)],
    [(c0, l0)] =>
      l1 == u1 && l2 == u2 && l1 == l2 && c1 == c2 && c0 == c1 && l0 == l1 && x1 == x2
      && fields.lookup l1 == some "sync.Mutex"
      && fields.lookup c1 == some "*sync.Cond"
      && fields.lookup x1 == some "int"
      && rest == [("NewCond", c0 ++ " = sync.NewCond(&" ++ l0 ++ ")")]
      && touchers == ["MapIterator", "mapIterator.Next"]
      && imports.contains ("", "sync")
  | _, _, _ => false

/-- `sectionsAtomicOf` of the source as it is now -/
def sectionsAtomic : Bool :=
  sectionsAtomicOf ParSync.miDispSync ParSync.miNextSync ParSync.miCondInit ParSync.miFields ParSync.miRestSync
    ParSync.miTouchers ParSync.parImports

def code : Code where
  clampLow := Par.miClampLow
  bufClamp := Par.miBufClamp
  inCap := Par.miInCap
  chCap := Par.miChCap
  srcEnded := Par.miSrcEnded
  full := Par.miFull
  spawnLoop := Par.miSpawnLoop
  lastWorker := Par.miLastWorker
  nextReady := Par.miNextReady
  signalCond := Par.miNextSignalCond
  nextClosed := Par.miNextClosed
  closesIn := Par.miClosesIn
  lastCloses := Par.miLastCloses
  signals := Par.miNextSignals
  waits := Par.miWaits
  sectionsAtomic := sectionsAtomic
  structural := Par.miBufClampAssigns && Par.miIncrements && Par.miIncBeforeSend && Par.miNumbers
    && Par.miWorkerCalls && Par.miWorkerSends && Par.miNextPops && Par.miNextAdvances
    && Par.miNextDecrements && Par.miNextRecvs && Par.miNextEnds && Par.miNextPushes

structure Code.Sound (c : Code) : Prop where
  clampLow : ∀ p, c.clampLow p = decide (p ≤ 0)
  bufClamp : ∀ b p, c.bufClamp b p = decide (b < p)
  inCap : ∀ b, c.inCap b = 0
  chCap : ∀ b, c.chCap b = 0
  srcEnded : ∀ b, c.srcEnded b = !b
  full : ∀ f b, c.full f b = decide (f ≥ b)
  spawnLoop : ∀ i p, c.spawnLoop i p = decide (i < p)
  lastWorker : ∀ d p, c.lastWorker d p = decide (d = p)
  nextReady : ∀ l m i, c.nextReady l m i = (decide (l > 0) && decide (m = i))
  signalCond : ∀ f b, c.signalCond f b = decide (f = b - 1)
  nextClosed : ∀ b, c.nextClosed b = !b
  closesIn : c.closesIn = true
  lastCloses : c.lastCloses = true
  signals : c.signals = true
  waits : c.waits = true
  sectionsAtomic : c.sectionsAtomic = true
  structural : c.structural = true

structure Cfg where
  code : Code
  P : Int
  B : Int
  gmp : Nat

def par (cfg : Cfg) : Int := if cfg.code.clampLow cfg.P then (cfg.gmp : Int) else cfg.P
def buf (cfg : Cfg) : Int := if cfg.code.bufClamp cfg.B (par cfg) then par cfg else cfg.B
def numWorkers (cfg : Cfg) : Nat :=
  loopCount (fun j => cfg.code.spawnLoop j (par cfg)) ((par cfg).toNat + 1) 0

/-- dispatcher -/
inductive DPc where
  | pull
  | inNext
  /-- holding item `v`, at `mIter.m.Lock(); for mIter.inFlight >= bufferSize` -/
  | acquire (v : Nat)
  /-- has found `inFlight >= bufferSize` and is not yet registered with the cond: a state that exists only
  when the two critical sections are not atomic with respect to each other (`sectionsAtomic = false`) -/
  | checked (v : Nat)
  /-- parked in `cond.Wait()` -/
  | parked (v : Nat)
  | sendIn (v : Nat)
  | done
  deriving DecidableEq, Repr, Hashable, BEq

inductive WPc where
  | idle
  | inF (k : Nat)
  | sendCh (k : Nat) (v : Nat)
  | done
  deriving DecidableEq, Repr, Hashable, BEq

inductive CPc where
  | idle
  | next
  deriving DecidableEq, Repr, Hashable, BEq

inductive NextRes where
  | val (k v : Nat)
  | «end»
  deriving DecidableEq, Repr, Hashable, BEq

structure St where
  disp : DPc
  dispI : Nat
  inFlight : Int
  inClosed : Bool
  ws : List WPc
  nDone : Nat
  chClosed : Bool
  cons : CPc
  heap : List (Nat × Nat)
  i : Nat
  -- ghost
  srcItems : List Nat
  srcEnded : Bool
  srcCalls : Nat
  fBegun : List (Nat × Nat)
  fEnded : List (Nat × Nat)
  results : List NextRes
  deriving DecidableEq, Repr, Hashable, BEq

def init (cfg : Cfg) : St where
  disp := .pull
  dispI := 0
  inFlight := 0
  inClosed := false
  ws := List.replicate (numWorkers cfg) .idle
  nDone := 0
  chClosed := false
  cons := .idle
  heap := []
  i := 0
  srcItems := []
  srcEnded := false
  srcCalls := 0
  fBegun := []
  fEnded := []
  results := []

inductive Label where
  | dPull
  /-- environment: the source iterator returns an item or its end -/
  | srcRet (r : Option Nat)
  | dAcquire
  /-- the dispatcher that has seen the buffer full registers with the cond (a step of its own only when
  `sectionsAtomic = false`) -/
  | dPark
  | dSend (w : Nat)
  /-- environment: `f` returns `v` in worker `w` -/
  | fRet (w : Nat) (v : Nat)
  /-- rendez-vous on `mIter.ch` between worker `w` and the consumer -/
  | wHandOff (w : Nat)
  | wExitIdle (w : Nat)
  /-- environment: the consumer calls `Next` -/
  | nextCall
  | cYield
  | cRecvClosed
  deriving DecidableEq, Repr

def Label.isEnv : Label → Bool
  | .srcRet _ | .fRet _ _ | .nextCall => true
  | _ => false

def canYield (cfg : Cfg) (s : St) : Bool :=
  cfg.code.nextReady s.heap.length ((heapMin s.heap).getD 0) s.i

def step (cfg : Cfg) (s : St) : Label → Option St
  | .dPull =>
    match s.disp with
    | .pull => some { s with disp := .inNext, srcCalls := s.srcCalls + 1 }
    | _ => none
  | .srcRet r =>
    match s.disp with
    | .inNext =>
      match r with
      | some v =>
        if cfg.code.srcEnded true then none
        else some { s with disp := .acquire v, srcItems := s.srcItems ++ [v] }
      | none =>
        if cfg.code.srcEnded false then
          some { s with disp := .done, inClosed := s.inClosed || cfg.code.closesIn, srcEnded := true }
        else none
    | _ => none
  | .dAcquire =>
    match s.disp with
    | .acquire v =>
      if cfg.code.full s.inFlight (buf cfg) then
        if cfg.code.waits then
          if cfg.code.sectionsAtomic then some { s with disp := .parked v }
          else some { s with disp := .checked v }
        else none
      else some { s with disp := .sendIn v, inFlight := s.inFlight + 1 }
    | _ => none
  | .dPark =>
    match s.disp with
    | .checked v => if cfg.code.sectionsAtomic then none else some { s with disp := .parked v }
    | _ => none
  | .dSend w =>
    match s.disp, s.ws[w]? with
    | .sendIn v, some .idle =>
      some { s with disp := .pull, dispI := s.dispI + 1, ws := s.ws.set w (.inF s.dispI),
                    fBegun := s.fBegun ++ [(s.dispI, v)] }
    | _, _ => none
  | .fRet w v =>
    match s.ws[w]? with
    | some (.inF k) => some { s with ws := s.ws.set w (.sendCh k v), fEnded := s.fEnded ++ [(k, v)] }
    | _ => none
  | .wHandOff w =>
    match s.cons, s.ws[w]? with
    | .next, some (.sendCh k v) =>
      if !canYield cfg s && !s.chClosed then
        some { s with ws := s.ws.set w .idle, heap := s.heap ++ [(k, v)] }
      else none
    | _, _ => none
  | .wExitIdle w =>
    match s.ws[w]? with
    | some .idle =>
      if s.inClosed then
        let d := s.nDone + 1
        some { s with ws := s.ws.set w .done, nDone := d,
                      chClosed := s.chClosed || (cfg.code.lastWorker d (par cfg) && cfg.code.lastCloses) }
      else none
    | _ => none
  | .nextCall =>
    match s.cons with
    | .idle => some { s with cons := .next }
    | _ => none
  | .cYield =>
    match s.cons with
    | .next =>
      if canYield cfg s then
        match s.heap.find? (fun kv => kv.1 == (heapMin s.heap).getD 0) with
        | some (k, v) =>
          let fl := s.inFlight - 1
          let wake := cfg.code.signalCond fl (buf cfg) && cfg.code.signals
          some { s with cons := .idle, heap := s.heap.eraseP (fun kv => kv.1 == k), i := s.i + 1,
                        inFlight := fl, results := s.results ++ [.val k v],
                        disp := match s.disp with
                          | .parked x => if wake then .acquire x else .parked x
                          | d => d }
        | none => none
      else none
    | _ => none
  | .cRecvClosed =>
    match s.cons with
    | .next =>
      if !canYield cfg s && s.chClosed && cfg.code.nextClosed false then
        some { s with cons := .idle, results := s.results ++ [.end] }
      else none
    | _ => none

inductive Reach (cfg : Cfg) : St → Prop where
  | init : Reach cfg (init cfg)
  | step {s s' : St} {l : Label} : Reach cfg s → step cfg s l = some s' → Reach cfg s'

def run (cfg : Cfg) : St → List Label → Option St
  | s, [] => some s
  | s, l :: ls => match step cfg s l with
    | some s' => run cfg s' ls
    | none => none

theorem isRun (cfg : Cfg) : LTS.IsRun (step cfg) (run cfg) :=
  ⟨fun _ => rfl, fun s l ls => by simp only [run]; cases step cfg s l <;> rfl⟩

theorem reach_of_run {cfg : Cfg} {s s' : St} {ls : List Label} (h : Reach cfg s)
    (hr : run cfg s ls = some s') : Reach cfg s' :=
  (isRun cfg).reach .step h hr

def internalLabels (s : St) : List Label :=
  [.dPull, .dAcquire, .dPark, .cYield, .cRecvClosed]
  ++ (List.range s.ws.length).flatMap (fun w => [.dSend w, .wHandOff w, .wExitIdle w])

def fRunning (s : St) : Nat := s.ws.countP (fun pc => match pc with | .inF _ => true | _ => false)

end Iter

end Juniper.Model.ParMap
