import Juniper.Generated.Par
import Juniper.Proofs.LTS
import Juniper.Generated.ParDoFacts
import Juniper.Generated.SkeletonPar
/-!
# Model of `parallel.Do` / `DoContext` — C13 (the wrappers `Map` / `MapContext`: `Model/ParWrap.lean`)

A labelled transition system: one label = one atomic step of one goroutine (the atomic add on the
shared counter together with the bound test, the `ctx.Err()` test, the call of `f`, the return of
`f` (environment), the errgroup bookkeeping of a worker that returned an error, `Wait` returning).
All interleavings of the workers are the reachable states. The guards (`parallelism <= 0`,
`parallelism > n`, `parallelism == 1`, `i >= n`, the counter's initial value and increment, the loop
bounds), the bodies of the two clamp statements (which variable gets which value) and the `init` / `post`
clauses of the sequential loop and of the spawn loop are the expressions regenerated from
`parallel/parallel.go` (`Juniper.Gen.Par`, `Juniper.Gen.ParDoFacts`); they enter through the record
`Code`, instantiated once for `Do` and once for `DoContext`.

`f` is the environment: `begin` hands it an index (and, for `DoContext`, a context whose state at
entry is recorded), `fEnd` makes it return an arbitrary result. Core Lean only.
-/
namespace Juniper.Model.ParDo
open Juniper.Gen

/-- The anchored expressions of one of the two function bodies. -/
structure Code where
  ctxMode : Bool
  clampLow : Int → Bool
  /-- body of the first clamp: the pair (parallelism, n) after it, given (parallelism, n, GOMAXPROCS) -/
  lowAssign : Int → Int → Int → Int × Int
  clampHigh : Int → Int → Bool
  /-- body of the second clamp, likewise -/
  highAssign : Int → Int → Int → Int × Int
  isSeq : Int → Bool
  /-- `for i := seqInit; seqLoop i n; i = seqPost i` -/
  seqInit : Int
  seqLoop : Int → Int → Bool
  seqPost : Int → Int
  seqStops : Bool → Bool
  counterInit : Int
  counterDelta : Int
  fetch : Int → Int
  workerDone : Int → Int → Bool
  workerCancelled : Bool → Bool
  workerFailed : Bool → Bool
  /-- `for j := spawnInit; spawnLoop j parallelism; j = spawnPost j` -/
  spawnInit : Int
  spawnLoop : Int → Int → Bool
  spawnPost : Int → Int
  /-- conjunction of the presence-of-statement facts of the body -/
  structural : Bool
  /-- the control skeletons of the body (top level, sequential path, worker loop: statement kinds in source
  order, identifiers normalised away, `Juniper.Gen.SkeletonPar`) are the ones `step` was written against -/
  skeleton : Bool

/-- `parallel.Do` as it is in the source now. -/
def doCode : Code where
  ctxMode := false
  clampLow := Par.doClampLow
  lowAssign := ParDoFacts.doClampLowAssign
  clampHigh := Par.doClampHigh
  highAssign := ParDoFacts.doClampHighAssign
  isSeq := Par.doSeq
  seqInit := ParDoFacts.doSeqInit
  seqLoop := Par.doSeqLoop
  seqPost := ParDoFacts.doSeqPost
  seqStops := fun b => b
  counterInit := Par.doCounterInit
  counterDelta := Par.doCounterDelta
  fetch := Par.doFetch
  workerDone := Par.doWorkerDone
  workerCancelled := fun b => b
  workerFailed := fun b => b
  spawnInit := ParDoFacts.doSpawnInit
  spawnLoop := Par.doSpawnLoop
  spawnPost := ParDoFacts.doSpawnPost
  structural := Par.doSeqCalls && Par.doSeqReturns && Par.doSpawnsGoroutine && Par.doWorkerReturnsWhenDone
    && Par.doWorkerCalls && Par.doFetchBeforeCall && Par.doWgAdd && Par.doWgDone && Par.doWgWait
    && Par.doAddBeforeWait
  -- `Do`: clamp low, clamp high, sequential fast path (`for …; return`), counter, wait group, `wg.Add`, spawn
  -- loop of `go` statements, `wg.Wait()`, `return`; sequential path: `for … { f(i) }; return`; worker:
  -- `defer wg.Done()`, then forever: fetch, `if … { return }`, `f(i)`
  skeleton := decide (
    SkeletonPar.pskelDo =
      ["if{assign}", "if{assign}", "if{for{..};return}", "define", "decl", "mcall", "for{go{..}}", "mcall", "return"]
    ∧ SkeletonPar.pskelDoSeq = ["for{call}", "return"]
    ∧ SkeletonPar.pskelDoWorker = ["defer", "forever{define;if{return};call}"])

/-- `parallel.DoContext` as it is in the source now. -/
def dcCode : Code where
  ctxMode := true
  clampLow := Par.dcClampLow
  lowAssign := ParDoFacts.dcClampLowAssign
  clampHigh := Par.dcClampHigh
  highAssign := ParDoFacts.dcClampHighAssign
  isSeq := Par.dcSeq
  seqInit := ParDoFacts.dcSeqInit
  seqLoop := Par.dcSeqLoop
  seqPost := ParDoFacts.dcSeqPost
  seqStops := Par.dcSeqStops
  counterInit := Par.dcCounterInit
  counterDelta := Par.dcCounterDelta
  fetch := Par.dcFetch
  workerDone := Par.dcWorkerDone
  workerCancelled := Par.dcWorkerCancelled
  workerFailed := Par.dcWorkerFailed
  spawnInit := ParDoFacts.dcSpawnInit
  spawnLoop := Par.dcSpawnLoop
  spawnPost := ParDoFacts.dcSpawnPost
  structural := Par.dcSeqCalls && Par.dcSeqReturnsErr && Par.dcSeqReturnsNil && Par.dcErrgroup
    && Par.dcWorkerReturnsNilWhenDone && Par.dcWorkerReturnsCtxErr && Par.dcWorkerCalls
    && Par.dcWorkerReturnsErr && Par.dcFetchBeforeCheck && Par.dcCheckBeforeCall
    && Par.dcSpawnsViaErrgroup && Par.dcReturnsWait
  -- `DoContext`: clamp low, clamp high, sequential fast path, counter, errgroup, spawn loop of `eg.Go(func …)`,
  -- `return eg.Wait()`; sequential path: `for … { err := f(ctx, i); if err != nil { return err } }; return nil`;
  -- worker: forever: fetch, done?, cancelled?, call, failed?
  skeleton := decide (
    SkeletonPar.pskelDoContext =
      ["if{assign}", "if{assign}", "if{for{..};return}", "define", "define", "for{mcall{..}}", "return"]
    ∧ SkeletonPar.pskelDoContextSeq = ["for{define;if{return}}", "return"]
    ∧ SkeletonPar.pskelDoContextWorker = ["forever{define;if{return};if{return};define;if{return}}"])

/-- What the proofs need to know about the anchored expressions. Discharged for `doCode` and
`dcCode` from the regenerated definitions (`Proofs/ParDo*.lean`): an operator flipped in the source
makes that proof fail. -/
structure Code.Sound (c : Code) : Prop where
  clampLow : ∀ p, c.clampLow p = decide (p ≤ 0)
  /-- `parallelism = runtime.GOMAXPROCS(-1)`: parallelism becomes GOMAXPROCS, `n` is untouched -/
  lowAssign : ∀ p n g, c.lowAssign p n g = (g, n)
  clampHigh : ∀ p n, c.clampHigh p n = decide (p > n)
  /-- `parallelism = n`: parallelism becomes `n`, `n` is untouched -/
  highAssign : ∀ p n g, c.highAssign p n g = (n, n)
  isSeq : ∀ p, c.isSeq p = decide (p = 1)
  seqInit : c.seqInit = 0
  seqLoop : ∀ i n, c.seqLoop i n = decide (i < n)
  seqPost : ∀ i, c.seqPost i = i + 1
  seqStops : ∀ b, c.seqStops b = b
  counterInit : c.counterInit = -1
  counterDelta : c.counterDelta = 1
  fetch : ∀ x, c.fetch x = x
  workerDone : ∀ i n, c.workerDone i n = decide (i ≥ n)
  workerCancelled : ∀ b, c.workerCancelled b = b
  workerFailed : ∀ b, c.workerFailed b = b
  spawnInit : c.spawnInit = 0
  spawnLoop : ∀ j p, c.spawnLoop j p = decide (j < p)
  spawnPost : ∀ j, c.spawnPost j = j + 1
  structural : c.structural = true
  /-- the statement order `step` hard-wires is the one of the source (a hypothesis like the others: nothing in
  `Proofs/` proves it, every property theorem discharges it by `decide`) -/
  skeleton : c.skeleton = true

structure Cfg where
  code : Code
  /-- requested parallelism -/
  P : Int
  n : Nat
  /-- `runtime.GOMAXPROCS(-1)` -/
  gmp : Nat

/-- the pair (parallelism, n) after the first clamp statement `if clampLow parallelism { <lowAssign> }` -/
def afterLow (cfg : Cfg) : Int × Int :=
  if cfg.code.clampLow cfg.P then cfg.code.lowAssign cfg.P cfg.n cfg.gmp else (cfg.P, (cfg.n : Int))

/-- the pair (parallelism, n) after the second clamp statement `if clampHigh parallelism n { <highAssign> }` -/
def afterHigh (cfg : Cfg) : Int × Int :=
  let pn := afterLow cfg
  if cfg.code.clampHigh pn.1 pn.2 then cfg.code.highAssign pn.1 pn.2 cfg.gmp else pn

/-- parallelism after the first clamp (`if parallelism <= 0 { parallelism = GOMAXPROCS }`): the requested parallelism -/
def reqPar (cfg : Cfg) : Int := (afterLow cfg).1

/-- parallelism after the second clamp (`if parallelism > n { parallelism = n }`): the effective parallelism -/
def effPar (cfg : Cfg) : Int := (afterHigh cfg).1

/-- the value of the variable `n` after both clamps (the loops below compare against it) -/
def effN (cfg : Cfg) : Int := (afterHigh cfg).2

/-- number of iterations of `for j := j0; cond j; j = post j` (with fuel) -/
def loopCount (cond : Int → Bool) (post : Int → Int) : Nat → Int → Nat
  | 0, _ => 0
  | f + 1, j => if cond j then loopCount cond post f (post j) + 1 else 0

/-- number of goroutines the spawn loop `for j := spawnInit; spawnLoop j parallelism; j = spawnPost j` starts -/
def numWorkers (cfg : Cfg) : Nat :=
  loopCount (fun j => cfg.code.spawnLoop j (effPar cfg)) cfg.code.spawnPost ((effPar cfg).toNat + 1) cfg.code.spawnInit

inductive Err where
  /-- error number `k` returned by a call of `f` -/
  | f (k : Nat)
  /-- `ctx.Err()` of a context that was cancelled because the caller's context was -/
  | ctxCaller
  /-- `ctx.Err()` of the errgroup context after the errgroup cancelled it itself -/
  | ctxLib
  deriving DecidableEq, Repr, Hashable, BEq

inductive Cause where
  | caller | lib
  deriving DecidableEq, Repr, Hashable, BEq

def Cause.err : Cause → Err
  | .caller => .ctxCaller
  | .lib => .ctxLib

/-- Result of one call of `f`: a value or error number `k`. -/
inductive Res where
  | ok (v : Nat)
  | err (k : Nat)
  deriving DecidableEq, Repr, Hashable, BEq

def Res.isErr : Res → Bool
  | .ok _ => false
  | .err _ => true

/-- Program counter of a worker goroutine (in the sequential fast path: of the caller's loop). -/
inductive Pc where
  /-- about to execute `i := int(atomic.AddInt32(&x, 1))` and the `i >= n` test -/
  | fetch
  /-- holds `i`, about to test `ctx.Err() != nil` (DoContext) -/
  | check (i : Nat)
  /-- holds `i`, about to call `f` -/
  | call (i : Nat)
  /-- inside `f(i)` -/
  | inF (i : Nat)
  /-- the worker function is returning error `e` (errgroup bookkeeping not yet run) -/
  | retErr (e : Err)
  | done
  deriving DecidableEq, Repr, Hashable, BEq

structure Begun where
  idx : Nat
  /-- was the context handed to the call already cancelled at entry -/
  cancelled : Bool
  deriving DecidableEq, Repr, Hashable, BEq

structure St where
  /-- sequential fast path taken -/
  seq : Bool
  /-- the shared counter (parallel path) / the loop variable (sequential path) -/
  x : Int
  ws : List Pc
  callerCancelled : Bool
  /-- the errgroup-derived context is cancelled, and by whom first -/
  dCause : Option Cause
  /-- errgroup's recorded first error -/
  egErr : Option Err
  /-- the call has returned with this result -/
  ret : Option (Option Err)
  /-- ghost: calls of `f` in the order they began -/
  begun : List Begun
  /-- ghost: returns of `f` in order -/
  ended : List (Nat × Res)
  /-- ghost: indices taken from the counter by a worker that then saw a cancelled context -/
  skipped : List Nat
  deriving DecidableEq, Repr, Hashable, BEq

def init (cfg : Cfg) : St :=
  if cfg.code.isSeq (effPar cfg) then
    { seq := true, x := cfg.code.seqInit,
      ws := [if cfg.code.seqLoop cfg.code.seqInit (effN cfg) then .call cfg.code.seqInit.toNat else .done],
      callerCancelled := false, dCause := none, egErr := none, ret := none,
      begun := [], ended := [], skipped := [] }
  else
    { seq := false, x := cfg.code.counterInit, ws := List.replicate (numWorkers cfg) .fetch,
      callerCancelled := false, dCause := none, egErr := none, ret := none,
      begun := [], ended := [], skipped := [] }

inductive Label where
  | fetch (w : Nat)
  | check (w : Nat)
  | begin (w : Nat)
  /-- environment: the call running in worker `w` returns `r` -/
  | fEnd (w : Nat) (r : Res)
  | egDone (w : Nat)
  /-- environment: the caller's context is cancelled -/
  | callerCancel
  | ret
  deriving DecidableEq, Repr

def Label.isEnv : Label → Bool
  | .fEnd _ _ => true
  | .callerCancel => true
  | _ => false

/-- is the context handed to `f` cancelled right now -/
def ctxCancelled (s : St) : Bool :=
  if s.seq then s.callerCancelled else s.dCause.isSome

def allDone (ws : List Pc) : Bool := ws.all (fun pc => match pc with | .done => true | _ => false)

def step (cfg : Cfg) (s : St) : Label → Option St
  | .fetch w =>
    match s.ws[w]? with
    | some .fetch =>
      if s.seq then none else
      let xn := s.x + cfg.code.counterDelta
      let i := cfg.code.fetch xn
      if cfg.code.workerDone i (effN cfg) then some { s with x := xn, ws := s.ws.set w .done }
      else if cfg.code.ctxMode then some { s with x := xn, ws := s.ws.set w (.check i.toNat) }
      else some { s with x := xn, ws := s.ws.set w (.call i.toNat) }
    | _ => none
  | .check w =>
    match s.ws[w]? with
    | some (.check i) =>
      if s.seq then none else
      if cfg.code.workerCancelled s.dCause.isSome then
        match s.dCause with
        | some c => some { s with ws := s.ws.set w (.retErr c.err), skipped := s.skipped ++ [i] }
        | none => some { s with ws := s.ws.set w (.call i) }
      else some { s with ws := s.ws.set w (.call i) }
    | _ => none
  | .begin w =>
    match s.ws[w]? with
    | some (.call i) =>
      some { s with ws := s.ws.set w (.inF i), begun := s.begun ++ [⟨i, cfg.code.ctxMode && ctxCancelled s⟩] }
    | _ => none
  | .fEnd w r =>
    match s.ws[w]? with
    | some (.inF i) =>
      if r.isErr && !cfg.code.ctxMode then none else
      let ended := s.ended ++ [(i, r)]
      if s.seq then
        match r with
        | .err k =>
          if cfg.code.seqStops true then
            some { s with ws := s.ws.set w (.retErr (.f k)), ended := ended }
          else
            let xn := cfg.code.seqPost s.x
            some { s with x := xn, ended := ended,
                          ws := s.ws.set w (if cfg.code.seqLoop xn (effN cfg) then .call xn.toNat else .done) }
        | .ok _ =>
          let xn := cfg.code.seqPost s.x
          some { s with x := xn, ended := ended,
                        ws := s.ws.set w (if cfg.code.seqLoop xn (effN cfg) then .call xn.toNat else .done) }
      else
        match r with
        | .err k =>
          if cfg.code.workerFailed true then
            some { s with ws := s.ws.set w (.retErr (.f k)), ended := ended }
          else some { s with ws := s.ws.set w .fetch, ended := ended }
        | .ok _ => some { s with ws := s.ws.set w .fetch, ended := ended }
    | _ => none
  | .egDone w =>
    match s.ws[w]? with
    | some (.retErr e) =>
      if s.seq then none else
      match s.egErr with
      | none =>
        some { s with ws := s.ws.set w .done, egErr := some e,
                      dCause := if s.dCause.isSome then s.dCause else some .lib }
      | some _ => some { s with ws := s.ws.set w .done }
    | _ => none
  | .callerCancel =>
    if !cfg.code.ctxMode || s.callerCancelled then none else
    some { s with callerCancelled := true,
                  dCause := if s.dCause.isSome then s.dCause else some .caller }
  | .ret =>
    if s.ret.isSome then none else
    if s.seq then
      match s.ws with
      | [.done] => some { s with ret := some none }
      | [.retErr e] => some { s with ret := some (some e), ws := [.done] }
      | _ => none
    else if allDone s.ws then some { s with ret := some s.egErr }
    else none

inductive Reach (cfg : Cfg) : St → Prop where
  | init : Reach cfg (init cfg)
  | step {s s' : St} {l : Label} : Reach cfg s → step cfg s l = some s' → Reach cfg s'

/-- run a list of labels from a state (for concrete witnesses) -/
def run (cfg : Cfg) : St → List Label → Option St
  | s, [] => some s
  | s, l :: ls => match step cfg s l with
    | some s' => run cfg s' ls
    | none => none

theorem run_isRun (cfg : Cfg) : LTS.IsRun (step cfg) (run cfg) :=
  ⟨fun _ => rfl, fun s l ls => by simp only [run]; cases step cfg s l <;> rfl⟩

theorem reach_of_run {cfg : Cfg} {s s' : St} {ls : List Label} (h : Reach cfg s)
    (hr : run cfg s ls = some s') : Reach cfg s' :=
  (run_isRun cfg).reach .step h hr

/-- number of calls of `f` in progress -/
def running (s : St) : Nat := s.ws.countP (fun pc => match pc with | .inF _ => true | _ => false)

/-- number of calls that began with an already-cancelled context -/
def startedCancelled (s : St) : Nat := s.begun.countP (·.cancelled)

def begunCount (s : St) (i : Nat) : Nat := s.begun.countP (·.idx == i)
def endedCount (s : St) (i : Nat) : Nat := s.ended.countP (·.1 == i)
def skippedCount (s : St) (i : Nat) : Nat := s.skipped.countP (· == i)
def noFailure (s : St) : Prop := ∀ e ∈ s.ended, e.2.isErr = false

/-- internal labels possibly enabled in a state (used by the conformance driver) -/
def internalLabels (s : St) : List Label :=
  (List.range s.ws.length).flatMap (fun w => [.fetch w, .check w, .begin w, .egDone w]) ++ [.ret]

end Juniper.Model.ParDo
