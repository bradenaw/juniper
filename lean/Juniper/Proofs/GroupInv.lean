import Juniper.Proofs.GroupLocal
import Juniper.Proofs.ListStore
/-! Helper lemmas for C17, global part: the step function of the Group LTS branch by branch (`Step`) and its
inductive invariant (wait-group and read-lock accounting, writer exclusion, shape of the stop programs,
"a cancel under the write lock leaves no spawn past its context check", the barrier, which stays once some `StopAndWait`
has returned: `barrier_reach`). -/
namespace Juniper.Proofs.GroupInv
open Juniper.Model.Group Juniper.Proofs.GroupLocal Juniper.ListStore

theorem count_rd_pos {l : List Thread} {t : Thread} (hm : t ∈ l) (h : rdOf t.pc = 1) : 0 < l.countP holdsR :=
  List.countP_pos_iff.mpr ⟨t, hm, by have := rdOf_eq t; split at this <;> simp_all⟩

theorem count_wg_pos {l : List Thread} {t : Thread} (hm : t ∈ l) (h : wgOf t.pc = 1) : 0 < l.countP holdsWg :=
  List.countP_pos_iff.mpr ⟨t, hm, by have := wgOf_eq t; split at this <;> simp_all⟩

/-- what label `l` does to registration `i`, which is at `t`, and to the lock / wait group -/
inductive Move (s : GState) (i : Nat) (t : Thread) : GLabel → Thread → Eff → Prop
  | work {c off t' e} : threadStep (view s) t c off = some (t', e) → Move s i t (.work i c off) t' e
  | fEnd : t.pc = .inF →
      Move s i t (.fEnd i) { t with pc := if t.kind = .doOnce then .exiting else .loopHead, active := t.active - 1 } .none
  | trig : t.kind = .trigger ∨ t.kind = .pot → Move s i t (.trig i) { t with token := true, owed := true } .none
  | fire {due} : t.timer = .armed due → due ≤ s.now → Move s i t (.fireTimer i) { t with timer := .fired } .none

inductive Step (s : GState) : GLabel → GState → Prop
  | register (k iv j) : Step s (.register k iv j)
      { s with threads := s.threads ++ [newThread k iv j], unmodelled := s.unmodelled || !(loopOf k).ok }
  | move {i t l t' e} : s.threads[i]? = some t → Move s i t l t' e →
      Step s l (applyEff { s with threads := s.threads.set i t' } e)
  | advance {dt} : 0 ≤ dt → Step s (.advance dt) { s with now := s.now + dt }
  | parentCancel : Step s .parentCancel { s with ctxDone := true }
  | stopCall (w) : Step s (.stopCall w) { s with stoppers := s.stoppers ++
      [{ todo := if w then sawProg else stopProg, holdsW := false, waits := w, safe := false }] }
  | lock {j st rest} : s.stoppers[j]? = some st → st.todo = .lock :: rest → s.writer = false → s.readers = 0 →
      Step s (.stopStep j)
        { s with writer := true, stoppers := s.stoppers.set j { st with todo := rest, holdsW := true } }
  | cancel {j st rest} : s.stoppers[j]? = some st → st.todo = .cancel :: rest →
      Step s (.stopStep j)
        { s with ctxDone := true, safeCancel := s.safeCancel || st.holdsW,
                 stoppers := s.stoppers.set j { st with todo := rest, safe := st.safe || st.holdsW } }
  | unlock {j st rest} : s.stoppers[j]? = some st → st.todo = .unlock :: rest → st.holdsW = true →
      Step s (.stopStep j)
        { s with writer := false, stoppers := s.stoppers.set j { st with todo := rest, holdsW := false } }
  | unlockFree {j st rest} : s.stoppers[j]? = some st → st.todo = .unlock :: rest → st.holdsW = false →
      Step s (.stopStep j) { s with panicked := true }
  | wait {j st rest} : s.stoppers[j]? = some st → st.todo = .wait :: rest → s.wg = 0 →
      Step s (.stopStep j)
        { s with barrier := s.barrier || (st.waits && rest.isEmpty), stoppers := s.stoppers.set j { st with todo := rest } }
  | unknown {j st rest} : s.stoppers[j]? = some st → st.todo = .unknown :: rest →
      Step s (.stopStep j) { s with unmodelled := true }

theorem step_sound {s s' : GState} {l : GLabel} (h : step s l = some s') : Step s l s' := by
  revert h
  -- `fun_cases` follows the branches of `step`: those that return `none` go by `cases h`, which in the others puts the
  -- successor state in; what remains comes in the order of the constructors of `Step`
  fun_cases step s l <;> intro h <;> cases h
  · exact .register ..
  · exact .move ‹_› (.work ‹_›)
  · exact .move ‹_› (.fEnd ‹_›)
  · rename_i ht
    rw [trigSend_eq] at ht
    split at ht <;> cases ht
    exact .move ‹_› (.trig ‹_›)
  · exact .move ‹_› (.fire ‹_› ‹_›)
  · exact .advance ‹_›
  · exact .parentCancel
  · exact .stopCall _
  · rename_i hfree
    simp at hfree
    exact .lock ‹_› ‹_› hfree.1 hfree.2
  · exact .cancel ‹_› ‹_›
  · exact .unlock ‹_› ‹_› ‹_›
  · exact .unlockFree ‹_› ‹_› (Bool.eq_false_iff.2 ‹_›)
  · exact .wait ‹_› ‹_› ‹_›
  · exact .unknown ‹_› ‹_›

/-- the stop programs, for bodies of `Stop` / `StopAndWait` with exactly three / two call statements and
no other statement (`Proofs/SkeletonGroup.lean`) -/
theorem progs : stopProg = [.lock, .cancel, .unlock] ∧ sawProg = [.lock, .cancel, .unlock, .wait] :=
  Juniper.Proofs.under
    (And.intro groupWiring_tie
      (And.intro Juniper.Proofs.SkeletonGroup.pskelGroupStop_tie Juniper.Proofs.SkeletonGroup.pskelGroupStopAndWait_tie))
    (by decide +kernel)

/-- (holdsW, safe) as a function of what a stopper still has to do -/
def stopperShape : List StopOp → Option (Bool × Bool)
  | [.lock, .cancel, .unlock] => some (false, false)
  | [.lock, .cancel, .unlock, .wait] => some (false, false)
  | [.cancel, .unlock] => some (true, false)
  | [.cancel, .unlock, .wait] => some (true, false)
  | [.unlock] => some (true, true)
  | [.unlock, .wait] => some (true, true)
  | [.wait] => some (false, true)
  | [] => some (false, true)
  | _ => none

def StopperOk (st : Stopper) : Prop := stopperShape st.todo = some (st.holdsW, st.safe)

/-- the shape table read forwards -/
theorem StopperOk.cons {st : Stopper} {op : StopOp} {rest : List StopOp} (h : StopperOk st) :
    st.todo = op :: rest →
    match op with
    | .lock => st.holdsW = false ∧ st.safe = false ∧ stopperShape rest = some (true, false)
    | .cancel => st.holdsW = true ∧ st.safe = false ∧ stopperShape rest = some (true, true)
    | .unlock => st.holdsW = true ∧ st.safe = true ∧ stopperShape rest = some (false, true)
    | .wait => st.holdsW = false ∧ st.safe = true ∧ rest = []
    | .unknown => False := by
  intro htodo
  unfold StopperOk at h
  rw [htodo] at h
  unfold stopperShape at h
  split at h <;> simp_all [stopperShape]

structure GInv (s : GState) : Prop where
  alive : s.panicked = false
  modelled : s.unmodelled = false
  wgCount : s.wg = s.threads.countP holdsWg
  rdCount : s.readers = s.threads.countP holdsR
  wrCount : s.stoppers.countP (·.holdsW) = if s.writer = true then 1 else 0
  excl : s.writer = true → s.readers = 0
  stopOk : ∀ st ∈ s.stoppers, StopperOk st
  safeK : s.safeCancel = true → s.ctxDone = true ∧ ∀ t ∈ s.threads, t.pc ≠ .spawnChecked
  noLate : ∀ t ∈ s.threads, t.pc ≠ .spawnLate
  safeSt : ∀ st ∈ s.stoppers, st.safe = true → s.safeCancel = true
  barrierK : s.barrier = true → s.safeCancel = true ∧ s.wg = 0
  threads : ∀ t ∈ s.threads, ThreadInv t

theorem ginv_init (now : Int) (async : Bool) : GInv (gInit now async) := by
  refine ⟨rfl, rfl, rfl, rfl, rfl, ?_, ?_, ?_, ?_, ?_, ?_, ?_⟩ <;> simp [gInit]

theorem ginv_set {s : GState} {i : Nat} {t t' : Thread} {w r : Nat} (hi : GInv s) (hti : s.threads[i]? = some t)
    (hinv : ThreadInv t') (hlate : t'.pc = .spawnLate → t.pc = .spawnLate)
    (hchk : t'.pc = .spawnChecked → t.pc = .spawnChecked ∨ s.ctxDone = false)
    (hw : w + wgOf t.pc = s.wg + wgOf t'.pc) (hr : r + rdOf t.pc = s.readers + rdOf t'.pc)
    (hex : s.writer = true → r = 0) (hbar : s.barrier = true → w = 0) :
    GInv { s with threads := s.threads.set i t', wg := w, readers := r } := by
  have hmem : t ∈ s.threads := List.mem_of_getElem? hti
  have cw := countP_set_add (p := holdsWg) (a := t') hti
  have cr := countP_set_add (p := holdsR) (a := t') hti
  rw [← wgOf_eq, ← wgOf_eq] at cw
  rw [← rdOf_eq, ← rdOf_eq] at cr
  have hwg := hi.wgCount
  have hrd := hi.rdCount
  exact { hi with
    wgCount := by show w = List.countP holdsWg (s.threads.set i t'); omega
    rdCount := by show r = List.countP holdsR (s.threads.set i t'); omega
    excl := hex
    safeK := fun hs => ⟨(hi.safeK hs).1, forall_mem_set i (hi.safeK hs).2 fun hc =>
      (hchk hc).elim ((hi.safeK hs).2 t hmem) fun h => by rw [(hi.safeK hs).1] at h; cases h⟩
    noLate := forall_mem_set i hi.noLate fun hl => hi.noLate t hmem (hlate hl)
    barrierK := fun hb => ⟨(hi.barrierK hb).1, hbar hb⟩
    threads := forall_mem_set i hi.threads hinv }

theorem ginv_move {s : GState} {i : Nat} {t t' : Thread} {l : GLabel} {e : Eff} (hi : GInv s)
    (hti : s.threads[i]? = some t) (m : Move s i t l t' e) :
    GInv (applyEff { s with threads := s.threads.set i t' } e) := by
  have hmem : t ∈ s.threads := List.mem_of_getElem? hti
  obtain ⟨ha, ho, htm, hkp⟩ := hi.threads t hmem
  have hbar := fun hb => (hi.barrierK hb).2
  cases m with
  | work hts =>
    obtain ⟨Ftr, _, _, _, Frl, Fchk, _, Finv, _⟩ := threadStep_facts hts
    obtain ⟨A1, A2, A3, A4, A5, A6, _⟩ := triples_acct _ Ftr
    have hnl := hi.noLate t hmem
    have hwg := hi.wgCount
    have hrd := hi.rdCount
    have set := fun {w r} => ginv_set (w := w) (r := r) hi hti (Finv ⟨ha, ho, htm, hkp⟩) (fun h => (A6 h).elim)
      fun h => .inr (Fchk h)
    cases e <;> simp at A1 A2
    case none => exact set (w := s.wg) (r := s.readers) (by omega) (by omega) hi.excl hbar
    case rlock =>
      have hw : s.writer = false := Frl rfl
      exact set (w := s.wg) (r := s.readers + 1) (by omega) (by omega) (fun h => by rw [hw] at h; cases h) hbar
    case runlock =>
      have hpos := count_rd_pos hmem ((A5 rfl).resolve_right hnl)
      exact set (w := s.wg) (r := s.readers - 1) (by omega) (by omega) (fun h => by have := hi.excl h; omega) hbar
    case add =>
      -- `wg.Add` is done from `spawnChecked`, where no spawn is once a cancel has happened under the write lock
      have hchk : t.pc = .spawnChecked := (A3 rfl).resolve_right hnl
      exact set (w := s.wg + 1) (r := s.readers) (by omega) (by omega) hi.excl
        fun hb => absurd hchk ((hi.safeK (hi.barrierK hb).1).2 t hmem)
    case done =>
      have hpos := count_wg_pos hmem (A4 rfl)
      have hne : ¬ s.wg = 0 := by omega
      simp only [applyEff, if_neg hne]
      exact set (w := s.wg - 1) (r := s.readers) (by omega) (by omega) hi.excl fun hb => by have := hbar hb; omega
  | fEnd hpc =>
    rw [hpc] at ha ho htm
    have ho' : t.owed = true → t.token = true ∨ committed Pc.exiting = true := fun hw => (ho hw).imp_right nofun
    have hkp' : ∀ p : Pc, p = .exiting ∨ p = .loopHead → p = .potStop ∨ p = .potDrain → t.kind = .pot := by
      rintro p (rfl | rfl) (h | h) <;> cases h
    by_cases hd : t.kind = .doOnce
    · rw [if_pos hd]
      exact ginv_set hi hti ⟨by simp [ha], ho', fun _ => trivial, hkp' _ (.inl rfl)⟩ nofun nofun
        (by rw [hpc]; rfl) (by rw [hpc]; rfl) hi.excl hbar
    · rw [if_neg hd]
      exact ginv_set hi hti ⟨by simp [ha], ho', htm, hkp' _ (.inr rfl)⟩ nofun nofun
        (by rw [hpc]; rfl) (by rw [hpc]; rfl) hi.excl hbar
  | trig _ => exact ginv_set hi hti ⟨ha, fun _ => Or.inl rfl, htm, hkp⟩ id Or.inl rfl rfl hi.excl hbar
  | fire htim =>
    refine ginv_set hi hti ⟨ha, ho, fun hk => ?_, hkp⟩ id Or.inl rfl rfl hi.excl hbar
    show match t.pc with
      | .loopHead | .atSelect | .potStop | .callF | .inF => TimerSt.fired ≠ .idle
      | .potDrain => TimerSt.fired = .fired
      | _ => True
    split <;> simp

theorem holder_writer {s : GState} {st : Stopper} (hi : GInv s) (hm : st ∈ s.stoppers) (hw : st.holdsW = true) :
    s.writer = true := by
  have hpos : 0 < s.stoppers.countP (·.holdsW) := List.countP_pos_iff.mpr ⟨st, hm, hw⟩
  have := hi.wrCount
  cases hwr : s.writer with
  | true => rfl
  | false => rw [hwr, if_neg (by decide)] at this; omega

theorem no_reader_no_checked {s : GState} (hi : GInv s) (hr : s.readers = 0) :
    ∀ t ∈ s.threads, t.pc ≠ .spawnChecked := by
  intro t ht hc
  have := count_rd_pos ht (by rw [hc]; rfl)
  have := hi.rdCount
  omega

theorem ginv_setStopper {s : GState} {j : Nat} {st st' : Stopper} {wr : Bool} (hi : GInv s)
    (hsj : s.stoppers[j]? = some st) (hok : StopperOk st') (hsafe : st'.safe = true → s.safeCancel = true)
    (hwr : (if st'.holdsW = true then 1 else 0) + (if s.writer = true then 1 else 0)
      = (if st.holdsW = true then 1 else 0) + (if wr = true then 1 else 0))
    (hex : wr = true → s.readers = 0) :
    GInv { s with writer := wr, stoppers := s.stoppers.set j st' } := by
  have c1 := countP_set_add (p := (·.holdsW)) (a := st') hsj
  have hwc := hi.wrCount
  exact { hi with
    wrCount := by show List.countP (·.holdsW) (s.stoppers.set j st') = if wr = true then 1 else 0; omega
    excl := hex
    stopOk := forall_mem_set j hi.stopOk hok
    safeSt := forall_mem_set j hi.safeSt hsafe }

theorem ginv_step {s s' : GState} {l : GLabel} (hi : GInv s) (h : step s l = some s') : GInv s' := by
  cases step_sound h with
  | register k iv j =>
    exact { hi with
      modelled := by simp [hi.modelled, loopOf_ok]
      wgCount := by simp [List.countP_append, hi.wgCount, holdsWg, newThread]
      rdCount := by simp [List.countP_append, hi.rdCount, holdsR, newThread]
      safeK := fun hs => ⟨(hi.safeK hs).1,
        List.forall_mem_append.mpr ⟨(hi.safeK hs).2, by simp [newThread]⟩⟩
      noLate := List.forall_mem_append.mpr ⟨hi.noLate, by simp [newThread]⟩
      threads := List.forall_mem_append.mpr ⟨hi.threads, by simp [ThreadInv, newThread]⟩ }
  | move hti m => exact ginv_move hi hti m
  | advance _ => exact { hi with }
  | parentCancel => exact { hi with safeK := fun hs => ⟨rfl, (hi.safeK hs).2⟩ }
  | stopCall w =>
    exact { hi with
      wrCount := by
        show List.countP (·.holdsW) (s.stoppers ++ _) = _
        simp [List.countP_append, hi.wrCount]
      stopOk := List.forall_mem_append.mpr ⟨hi.stopOk, by cases w <;> simp [StopperOk, progs.1, progs.2, stopperShape]⟩
      safeSt := List.forall_mem_append.mpr ⟨hi.safeSt, by simp⟩ }
  | @lock j st rest hsj htodo hw0 hr0 =>
    obtain ⟨hW, hS, hrest⟩ := (hi.stopOk st (List.mem_of_getElem? hsj)).cons htodo
    exact ginv_setStopper hi hsj (by simp [StopperOk, hrest, hS]) (by simp [hS]) (by simp [hW, hw0]) fun _ => hr0
  | @cancel j st rest hsj htodo =>
    have hmem : st ∈ s.stoppers := List.mem_of_getElem? hsj
    obtain ⟨hW, hS, hrest⟩ := (hi.stopOk st hmem).cons htodo
    have hwr := holder_writer hi hmem hW
    -- the canceller holds the write lock: no reader, so no spawn is between its context check and `wg.Add`
    have h1 : GInv { s with ctxDone := true, safeCancel := true } :=
      { hi with safeK := fun _ => ⟨rfl, no_reader_no_checked (s := s) hi (hi.excl hwr)⟩
                safeSt := fun _ _ _ => rfl
                barrierK := fun hb => ⟨rfl, (hi.barrierK hb).2⟩ }
    have := ginv_setStopper (wr := s.writer) (st' := { st with todo := rest, safe := st.safe || st.holdsW }) h1 hsj
      (by simp [StopperOk, hrest, hW]) (fun _ => rfl) rfl hi.excl
    simpa only [hW, Bool.or_true] using this
  | @unlock j st rest hsj htodo hW =>
    have hmem : st ∈ s.stoppers := List.mem_of_getElem? hsj
    obtain ⟨_, hS, hrest⟩ := (hi.stopOk st hmem).cons htodo
    exact ginv_setStopper hi hsj (by simp [StopperOk, hrest, hS]) (fun _ => hi.safeSt st hmem hS)
      (by simp [hW, holder_writer hi hmem hW]) nofun
  | unlockFree hsj htodo hW =>
    have := ((hi.stopOk _ (List.mem_of_getElem? hsj)).cons htodo).1
    rw [hW] at this; cases this
  | @wait j st rest hsj htodo hz =>
    have hmem : st ∈ s.stoppers := List.mem_of_getElem? hsj
    obtain ⟨hW, hS, hrest⟩ := (hi.stopOk st hmem).cons htodo
    have h1 := ginv_setStopper (wr := s.writer) (st' := { st with todo := rest }) hi hsj
      (by simp [StopperOk, hrest, stopperShape, hW, hS]) (fun _ => hi.safeSt st hmem hS) rfl hi.excl
    exact { h1 with barrierK := fun _ => ⟨hi.safeSt st hmem hS, hz⟩ }
  | unknown hsj htodo => exact ((hi.stopOk _ (List.mem_of_getElem? hsj)).cons htodo).elim

theorem ginv_reach {now : Int} {async : Bool} {s : GState} (hr : Reach (gInit now async) s) : GInv s := by
  induction hr with
  | refl => exact ginv_init now async
  | step l _ hs ih => exact ginv_step ih hs

theorem reach_trans {a b c : GState} (h1 : Reach a b) (h2 : Reach b c) : Reach a c := by
  induction h2 with
  | refl => exact h1
  | step l _ hs ih => exact .step l ih hs

theorem applyEff_frame (s : GState) (e : Eff) : (applyEff s e).threads = s.threads ∧
    (applyEff s e).ctxDone = s.ctxDone ∧ (applyEff s e).barrier = s.barrier := by
  cases e
  case done => unfold applyEff; by_cases h : s.wg = 0 <;> simp [h]
  all_goals exact ⟨rfl, rfl, rfl⟩

theorem barrier_mono {s s' : GState} {l : GLabel} (h : step s l = some s') (hb : s.barrier = true) :
    s'.barrier = true := by
  cases step_sound h with
  | @move _ _ _ _ e _ _ => rw [(applyEff_frame _ e).2.2]; exact hb
  | wait _ _ _ => simp [hb]
  | _ => exact hb

theorem barrier_reach {s s' : GState} (hr : Reach s s') (hb : s.barrier = true) : s'.barrier = true := by
  induction hr with
  | refl => exact hb
  | step l _ hs ih => exact barrier_mono hs ih

theorem pc_after_barrier {p : Pc} (h1 : wgOf p = 0) (h2 : p ≠ .spawnChecked) (h3 : p ≠ .spawnLate) :
    p = .spawnStart ∨ p = .spawnLocked ∨ p = .spawnBail ∨ p = .notSpawned ∨ p = .exited := by
  cases p <;> simp_all [wgOf]

end Juniper.Proofs.GroupInv
