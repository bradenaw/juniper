import Juniper.Model.BTree
/-!
# In-order contents of the B-tree model and the append-style lemmas (C01–C03)

`toList x` is the in-order list of entries. All child replacements in the model are written in append
style, so a few lemmas about interleaving carry every structural case.
-/
namespace Juniper.Proofs.Tree
open Juniper.Model.BTree Juniper.Gen.Tree

variable {K V : Type} {α : Type}

/-- entries and (already flattened) children after the first child, interleaved -/
def rest : List (List α) → List α → List α
  | c :: cs, kv :: kvs => kv :: c ++ rest cs kvs
  | _, kvs => kvs

/-- flattened children `cs` interleaved with the entries `kvs` (`cs = []`: a leaf) -/
def inorder : List (List α) → List α → List α
  | [], kvs => kvs
  | c :: cs, kvs => c ++ rest cs kvs

/-- children and entries before a position, interleaved: `c₀ ++ kv₀ :: c₁ ++ kv₁ :: …` -/
def pre : List (List α) → List α → List α
  | c :: cs, kv :: kvs => c ++ kv :: pre cs kvs
  | _, _ => []

@[simp] theorem rest_nil_left (kvs : List α) : rest [] kvs = kvs := by
  cases kvs <;> rfl

@[simp] theorem rest_nil_right (cs : List (List α)) : rest cs [] = [] := by
  cases cs <;> rfl

theorem rest_cons_cons (c : List α) (cs : List (List α)) (kv : α) (kvs : List α) :
    rest (c :: cs) (kv :: kvs) = kv :: inorder (c :: cs) kvs := rfl

@[simp] theorem pre_nil_left (kvs : List α) : pre [] kvs = [] := rfl
@[simp] theorem pre_nil_right (cs : List (List α)) : pre cs [] = [] := by cases cs <;> rfl

theorem mem_pre_of_sep {A : List (List α)} {ka : List α} (h : A.length = ka.length) {y : α} (hy : y ∈ ka) :
    y ∈ pre A ka := by
  induction A generalizing ka with
  | nil => cases ka with
    | nil => cases hy
    | cons _ _ => simp at h
  | cons c cs ih =>
    cases ka with
    | nil => cases hy
    | cons kv kvs =>
      simp only [List.length_cons, Nat.add_right_cancel_iff] at h
      simp only [pre, List.mem_append, List.mem_cons]
      rcases List.mem_cons.mp hy with rfl | hy
      · exact Or.inr (Or.inl rfl)
      · exact Or.inr (Or.inr (ih h hy))

theorem rest_append (A B : List (List α)) (ka kb : List α) (h : A.length = ka.length) :
    rest (A ++ B) (ka ++ kb) = rest A ka ++ rest B kb := by
  induction A generalizing ka with
  | nil =>
    cases ka with
    | nil => simp
    | cons _ _ => simp at h
  | cons a A ih =>
    cases ka with
    | nil => simp at h
    | cons x ka =>
      simp only [List.length_cons, Nat.add_right_cancel_iff] at h
      simp only [List.cons_append, rest, ih ka h, List.append_assoc]

theorem inorder_mid (A B : List (List α)) (c : List α) (ka kb : List α) (h : A.length = ka.length) :
    inorder (A ++ c :: B) (ka ++ kb) = pre A ka ++ c ++ rest B kb := by
  induction A generalizing ka with
  | nil =>
    cases ka with
    | nil => simp [inorder]
    | cons _ _ => simp at h
  | cons a A ih =>
    cases ka with
    | nil => simp at h
    | cons x ka =>
      simp only [List.length_cons, Nat.add_right_cancel_iff] at h
      have ih' := ih ka h
      cases hA : A ++ c :: B with
      | nil => simp at hA
      | cons d ds =>
        rw [hA] at ih'
        simp only [List.cons_append, inorder, hA, rest, pre, List.append_assoc]
        simp only [inorder] at ih'
        rw [ih']
        simp

theorem inorder_split (A B : List (List α)) (l r : List α) (s : α) (ka kb : List α)
    (h : A.length = ka.length) :
    inorder (A ++ l :: r :: B) (ka ++ s :: kb) = pre A ka ++ l ++ s :: r ++ rest B kb := by
  rw [inorder_mid A (r :: B) l ka (s :: kb) h]
  simp [rest]

theorem pre_append (A B : List (List α)) (ka kb : List α) (h : A.length = ka.length) :
    pre (A ++ B) (ka ++ kb) = pre A ka ++ pre B kb := by
  induction A generalizing ka with
  | nil =>
    cases ka with
    | nil => simp
    | cons _ _ => simp at h
  | cons a A ih =>
    cases ka with
    | nil => simp at h
    | cons x ka =>
      simp only [List.length_cons, Nat.add_right_cancel_iff] at h
      simp [pre, ih ka h]

theorem pre_snoc (A : List (List α)) (c : List α) (ka : List α) (x : α) (h : A.length = ka.length) :
    pre (A ++ [c]) (ka ++ [x]) = pre A ka ++ c ++ [x] := by
  rw [pre_append A [c] ka [x] h]; simp [pre]

theorem inorder_eq_pre_last (A : List (List α)) (c : List α) (ka : List α) (h : A.length = ka.length) :
    inorder (A ++ [c]) ka = pre A ka ++ c := by
  have := inorder_mid A [] c ka [] h
  simpa using this

theorem rest_head (B : List (List α)) (kb : List α) : (rest B kb).head? = kb.head? := by
  cases B <;> cases kb <;> simp [rest]

theorem inorder_at_sep (A B : List (List α)) (ka kb : List α) (s : α)
    (h : (A = [] ∧ B = []) ∨ (A.length = ka.length + 1 ∧ B ≠ [])) :
    inorder (A ++ B) (ka ++ s :: kb) = inorder A ka ++ s :: inorder B kb := by
  rcases h with ⟨rfl, rfl⟩ | ⟨hl, hB⟩
  · simp [inorder]
  · cases A with
    | nil => simp at hl
    | cons a A' =>
      simp only [List.length_cons, Nat.add_right_cancel_iff] at hl
      cases B with
      | nil => exact absurd rfl hB
      | cons b B' =>
        simp only [List.cons_append, inorder]
        rw [rest_append A' (b :: B') ka (s :: kb) hl, rest_cons_cons]
        simp [inorder]

def toList : Node K V → List (K × V)
  | .mk _ kvs kids => inorder (kids.map toList) kvs

theorem toList_mk (id : Nat) (kvs : List (K × V)) (kids : List (Node K V)) :
    toList (.mk id kvs kids) = inorder (kids.map toList) kvs := toList.eq_1 id kvs kids

@[simp] theorem toList_leaf (id : Nat) (kvs : List (K × V)) : toList (.mk id kvs []) = kvs := by
  simp [toList_mk, inorder]

theorem node_induct {P : Node K V → Prop}
    (h : ∀ id kvs kids, (∀ c ∈ kids, P c) → P (.mk id kvs kids)) : ∀ x, P x := by
  intro x
  induction x using toList.induct with
  | case1 id kvs kids ih => exact h id kvs kids ih

/-- height: 0 for a leaf (follows the leftmost path, like the Go code's notion of leaf depth) -/
def height : Node K V → Nat
  | .mk _ _ kids =>
    match kids with
    | [] => 0
    | c :: _ => height c + 1

def count : Node K V → Nat
  | .mk _ kvs kids => kvs.length + ((kids.map count).sum)

def ids : Node K V → List Nat
  | .mk id _ kids => id :: (kids.map ids).flatten

theorem mem_flatten_ids {kids : List (Node K V)} {c : Node K V} (hc : c ∈ kids) {a : Nat} (ha : a ∈ ids c) :
    a ∈ (kids.map ids).flatten :=
  List.mem_flatten.mpr ⟨ids c, List.mem_map.mpr ⟨c, hc, rfl⟩, ha⟩

theorem length_insertAt (l : List α) (i : Nat) (x : α) : (insertAt l i x).length = l.length + 1 := by
  simp [insertAt]; omega

theorem length_replaceAt (l : List α) (i : Nat) (x : α) (h : i < l.length) :
    (replaceAt l i x).length = l.length := by
  simp [replaceAt]; omega

theorem length_removeAt (l : List α) (i : Nat) (h : i < l.length) :
    (removeAt l i).length = l.length - 1 := by
  simp [removeAt]; omega

theorem map_fst_setVal (kvs : List (K × V)) (i : Nat) (v : V) :
    (setVal kvs i v).map (fun kv => (kv.1, ())) = kvs.map fun kv => (kv.1, ()) := by
  unfold setVal
  split
  · rename_i k0 v0 rest heq
    conv => rhs; rw [← List.take_append_drop i kvs, heq]
    simp
  · rfl

theorem length_setVal (kvs : List (K × V)) (i : Nat) (v : V) : (setVal kvs i v).length = kvs.length := by
  simpa using congrArg List.length (map_fst_setVal kvs i v)

theorem mem_replaceAt {l : List α} {i : Nat} {x y : α} (h : y ∈ replaceAt l i x) : y = x ∨ y ∈ l := by
  simp only [replaceAt, List.mem_append, List.mem_cons] at h
  rcases h with h | h | h
  · exact Or.inr (List.mem_of_mem_take h)
  · exact Or.inl h
  · exact Or.inr (List.mem_of_mem_drop h)

theorem mem_insertAt {l : List α} {i : Nat} {x y : α} (h : y ∈ insertAt l i x) : y = x ∨ y ∈ l := by
  simp only [insertAt, List.mem_append, List.mem_cons] at h
  rcases h with h | h | h
  · exact Or.inr (List.mem_of_mem_take h)
  · exact Or.inl h
  · exact Or.inr (List.mem_of_mem_drop h)

theorem length_take_of_lt {l : List α} {i : Nat} (h : i < l.length) : (l.take i).length = i :=
  List.length_take_of_le (Nat.le_of_lt h)

theorem drop_one {l : List α} {a : Nat} {x : α} (hx : l[a]? = some x) : l.drop a = x :: l.drop (a + 1) := by
  obtain ⟨h, rfl⟩ := List.getElem?_eq_some_iff.mp hx
  exact List.drop_eq_getElem_cons h

theorem drop_two {l : List α} {a : Nat} {x y : α} (hx : l[a]? = some x) (hy : l[a + 1]? = some y) :
    l.drop a = x :: y :: l.drop (a + 2) := by
  rw [drop_one hx, drop_one hy]

theorem split_at_getElem? {l : List α} {i : Nat} {x : α} (h : l[i]? = some x) :
    l = l.take i ++ x :: l.drop (i + 1) := by
  rw [← drop_one h, List.take_append_drop]

theorem replaceAt_getElem? {l : List α} {i : Nat} (x : α) (h : i < l.length) : (replaceAt l i x)[i]? = some x := by
  rw [replaceAt, List.getElem?_append_right (Nat.le_of_eq (length_take_of_lt h)), length_take_of_lt h, Nat.sub_self]; rfl

theorem replaceAt_take {l : List α} {i : Nat} (x : α) (h : i < l.length) : (replaceAt l i x).take i = l.take i :=
  List.take_left' (length_take_of_lt h)

theorem replaceAt_drop {l : List α} {i : Nat} (x : α) (h : i < l.length) :
    (replaceAt l i x).drop (i + 1) = l.drop (i + 1) := by
  rw [replaceAt, List.append_cons]
  exact List.drop_left' (by rw [List.length_append, length_take_of_lt h]; rfl)

theorem insertAt_replaceAt (kids : List α) (i : Nat) (l r : α) (hi : i < kids.length) :
    insertAt (replaceAt kids i l) (i + 1) r = kids.take i ++ l :: r :: kids.drop (i + 1) := by
  have h1 : (kids.take i ++ [l]).length = i + 1 := by rw [List.length_append, length_take_of_lt hi]; rfl
  have e : replaceAt kids i l = kids.take i ++ [l] ++ kids.drop (i + 1) := List.append_cons ..
  rw [insertAt, e, List.take_left' h1, List.drop_left' h1, List.append_assoc]; rfl

theorem dropLast_append_getLast? {α : Type} (l : List α) : l.dropLast ++ l.getLast?.toList = l := by
  cases l with
  | nil => rfl
  | cons a as =>
    rw [List.getLast?_eq_some_getLast (List.cons_ne_nil a as)]; exact List.dropLast_concat_getLast _

/-- the last child of a node with `n` entries (none if it is a leaf), in the two spellings that occur -/
theorem take_last {α : Type} {l : List α} {n : Nat} (h : l = [] ∨ l.length = n + 1) :
    l.take n = l.dropLast ∧ (l.drop n).take 1 = l.getLast?.toList := by
  rcases h with rfl | h
  · simp
  · have hd : l.dropLast.length = n := by rw [List.length_dropLast, h]; rfl
    have hl : l.getLast?.toList.length ≤ 1 := by cases l.getLast? <;> simp
    constructor
    · conv => lhs; rw [← dropLast_append_getLast? l, List.take_left' hd]
    · conv => lhs; rw [← dropLast_append_getLast? l, List.drop_left' hd]
      exact List.take_of_length_le hl

theorem toList_at_child {id : Nat} {kvs : List (K × V)} {kids : List (Node K V)} {i : Nat} {c : Node K V}
    (hlen : kids.length = kvs.length + 1) (hc : kids[i]? = some c) (c' : Node K V) :
    toList (.mk id kvs (replaceAt kids i c')) =
      pre ((kids.take i).map toList) (kvs.take i) ++ toList c' ++ rest ((kids.drop (i + 1)).map toList) (kvs.drop i) := by
  have hi : i < kids.length := (List.getElem?_eq_some_iff.mp hc).1
  rw [toList_mk, replaceAt, List.map_append, List.map_cons]
  conv => lhs; rw [← List.take_append_drop i kvs]
  apply inorder_mid
  simp; omega

theorem toList_at_child_self {id : Nat} {kvs : List (K × V)} {kids : List (Node K V)} {i : Nat} {c : Node K V}
    (hlen : kids.length = kvs.length + 1) (hc : kids[i]? = some c) :
    toList (.mk id kvs kids) =
      pre ((kids.take i).map toList) (kvs.take i) ++ toList c ++ rest ((kids.drop (i + 1)).map toList) (kvs.drop i) := by
  have := toList_at_child (id := id) hlen hc c
  rwa [show replaceAt kids i c = kids from (split_at_getElem? hc).symm] at this

theorem toList_at_sep' {id : Nat} {kvs : List (K × V)} {kids : List (Node K V)} {i : Nat}
    (hk : kids = [] ∨ kids.length = kvs.length + 1) (hi : i < kvs.length) (s : K × V) :
    toList (.mk id (kvs.take i ++ s :: kvs.drop (i + 1)) kids) =
      inorder ((kids.take (i + 1)).map toList) (kvs.take i) ++ s ::
        inorder ((kids.drop (i + 1)).map toList) (kvs.drop (i + 1)) := by
  rw [toList_mk]
  conv => lhs; rw [← List.take_append_drop (i + 1) kids, List.map_append]
  apply inorder_at_sep
  rcases hk with rfl | hlen
  · left; simp
  · right
    refine ⟨by simp; omega, fun h0 => ?_⟩
    have := congrArg List.length (List.map_eq_nil_iff.mp h0)
    simp at this; omega

theorem toList_at_sep_self {id : Nat} {kvs : List (K × V)} {kids : List (Node K V)} {i : Nat} {kv : K × V}
    (hk : kids = [] ∨ kids.length = kvs.length + 1) (hkv : kvs[i]? = some kv) :
    toList (.mk id kvs kids) =
      inorder ((kids.take (i + 1)).map toList) (kvs.take i) ++ kv ::
        inorder ((kids.drop (i + 1)).map toList) (kvs.drop (i + 1)) := by
  have := toList_at_sep' (id := id) hk (List.getElem?_eq_some_iff.mp hkv).1 kv
  rwa [← split_at_getElem? hkv] at this

theorem searchNode_le {cmp : K → K → Int} {k : K} {kvs : List (K × V)} {i : Nat} {f : Bool}
    (hs : searchNode cmp k kvs = (i, f)) : i ≤ kvs.length := by
  have : ∀ l : List (K × V), (searchNode cmp k l).1 ≤ l.length := fun l => by
    fun_induction searchNode cmp k l <;> simp <;> omega
  have := this kvs
  rwa [hs] at this

theorem lowerIdx_le (p : Int → Bool) (cmp : K → K → Int) (k : K) (kvs : List (K × V)) :
    lowerIdx p cmp k kvs ≤ kvs.length := by
  fun_induction lowerIdx p cmp k kvs <;> simp <;> omega

end Juniper.Proofs.Tree
