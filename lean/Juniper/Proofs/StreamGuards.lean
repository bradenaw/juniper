import Juniper.Model.Stream
import Juniper.Proofs.ValueFacts
/-!
# What every method of `stream.go` does with the `(item, err)` pair its source handed it (C08, tie 1)

The machines of `Model/Stream.lean` feed the *code* of what a pull answered (`nil` 0, `End` 1, an
error 2) to the regenerated error guards (`err == End`, `err != nil`) and turn the code of the
regenerated error operand of the `return` that is reached back into an answer (`ret`). The lemmas here
evaluate that for an item, the end and an error `e` (`…_err`: **`e` itself is returned and the method's own
state — pending chunk, held item, `prev`, counters — is left as it was**) and give the method's whole `Next`,
in the states in which it pulls, as one pull followed by `pullThen` (`…_step`). They evaluate the generated
definitions: `return item, End` for `return item, err`, `return out, nil` for `return nil, err`, `err != nil`
↔ `err == End`, a swapped guard order — any such change of the Go source breaks the lemma of that method, and
with it every theorem of `Props/C07–C09` about that method.
-/
namespace Juniper.Proofs.StreamDen
open Juniper.Model.Stream Juniper.Gen.Comb Juniper.Proofs.ValueFacts
universe u v w x y
variable {σ : Type u} {σ' τ : Type w} {α β : Type v} {γ : Type x}

/-- What a wrapper makes of the answer of the one pull it performs: a `skip` or a failure is handed on as
it is, with the wrapper's own state (`put`) around the new inner state; `item` and `end_` are what it does
with an item and at the end of its source. Every `Next` of `stream.go` has this form in the states in
which it pulls (`map_step`, `chunk_step`, …). -/
def pullThen (put : σ → σ') (item : α → σ → SStep γ × σ') (end_ : σ → SStep γ × σ') : SStep α × σ → SStep γ × σ'
  | (.skip, s') => (.skip, put s')
  | (.err e, s') => (.err e, put s')
  | (.item a, s') => item a s'
  | (.end_, s') => end_ s'

/-- a component of the wrapper's new state that every branch computes from the new inner state alone
(`f = id`: the inner state itself; `f` constant: a component no pull touches) -/
theorem pullThen_proj {ρ : Type y} {put : σ → σ'} {item : α → σ → SStep γ × σ'} {end_ : σ → SStep γ × σ'}
    (proj : σ' → ρ) (f : σ → ρ) (hput : ∀ s, proj (put s) = f s) (hitem : ∀ a s, proj (item a s).2 = f s)
    (hend : ∀ s, proj (end_ s).2 = f s) (p : SStep α × σ) : proj (pullThen put item end_ p).2 = f p.2 := by
  obtain ⟨r, s⟩ := p
  cases r
  · exact hitem _ s
  · exact hput s
  · exact hend s
  · exact hput s

theorem pullThen_snd {put : σ → σ'} {item : α → σ → SStep γ × σ'} {end_ : σ → SStep γ × σ'} (proj : σ' → σ)
    (hput : ∀ s, proj (put s) = s) (hitem : ∀ a s, proj (item a s).2 = s) (hend : ∀ s, proj (end_ s).2 = s)
    (p : SStep α × σ) : proj (pullThen put item end_ p).2 = p.2 :=
  pullThen_proj proj id hput hitem hend p

theorem pullThen_inv {P : σ' → Prop} {put : σ → σ'} {item : α → σ → SStep γ × σ'} {end_ : σ → SStep γ × σ'}
    (p : SStep α × σ) (hput : P (put p.2)) (hitem : ∀ a, p.1 = .item a → P (item a p.2).2)
    (hend : P (end_ p.2).2) : P (pullThen put item end_ p).2 := by
  obtain ⟨r, s⟩ := p
  cases r
  · exact hitem _ rfl
  · exact hput
  · exact hend
  · exact hput

theorem pullThen_err {put : σ → σ'} {item : α → σ → SStep γ × σ'} {end_ : σ → SStep γ × σ'} {e : Err}
    (hitem : ∀ a s, (item a s).1 ≠ .err e) (hend : ∀ s, (end_ s).1 ≠ .err e) (p : SStep α × σ) :
    (pullThen put item end_ p).1 = .err e ↔ p.1 = .err e := by
  obtain ⟨r, s⟩ := p
  cases r <;> simp [pullThen, hitem, hend]

/-- a `Next` that hands a `skip` on and otherwise does `on` with the answer of its pull is one pull and then
`pullThen`, provided `on` hands an error on as it is (`chunkOn_err`, …) -/
theorem pullThen_on {put : σ → σ'} (on : σ → SStep α → SStep γ × σ') (herr : ∀ s e, on s (.err e) = (.err e, put s))
    (p : SStep α × σ) :
    (match p with
      | (.skip, s') => (.skip, put s')
      | (r, s') => on s' r) = pullThen put (fun a s' => on s' (.item a)) (fun s' => on s' .end_) p := by
  obtain ⟨r, s'⟩ := p
  cases r with
  | err e => exact herr s' e
  | _ => rfl

@[simp] theorem empty_step (u : Unit) (c : Bool) : (empty (α := α)).step u c = (.end_, u) := rfl

@[simp] theorem error_step (e : Err) (u : Unit) (c : Bool) : (error (α := α) e).step u c = (.err e, u) := rfl

theorem fromIterator_step (m : Juniper.Model.Iter.IM σ α) (s : σ) (c : Bool) :
    (fromIterator m).step s c =
      if !c then (.err .ctx, s)
      else match m.step s with
        | (.item a, s') => (.item a, s')
        | (.skip, s') => (.skip, s')
        | (.done, s') => (.end_, s') := by
  cases c
  · simp [fromIterator, retE, ret, stFromIterCtxGuard, stFromIterCtxRet]
  · simp only [fromIterator, stFromIterCtxGuard]
    rcases m.step s with ⟨r, s'⟩
    cases r <;> simp [retE, ret, stFromIterEndGuard, stFromIterEndRet, stFromIterItemRet]

theorem chan_step_live (st : ChanSt α) :
    (chan (α := α)).step st true =
      match st.buf with
      | a :: r => (.item a, { st with buf := r })
      | [] => if st.closed then (.end_, st) else (.skip, st) := by
  simp only [chan, stChanArms]
  rcases st with ⟨buf, cl⟩
  cases buf with
  | nil => cases cl <;> simp [retE, ret, stChanEndGuard, stChanEndRet]
  | cons a r => simp [ret, stChanEndGuard, stChanItemRet]

theorem chan_step_expired (st : ChanSt α) : (chan (α := α)).step st false = (.err .ctx, st) := rfl

@[simp] theorem peekOn_item (s' : σ) (a : α) :
    peekOn s' (.item a) = (.item a, ({ inner := s', curr := some a } : PeekSt σ α)) := rfl

@[simp] theorem peekOn_end (s' : σ) : peekOn s' (.end_ : SStep α) = (.end_, ({ inner := s', curr := none } : PeekSt σ α)) := rfl

@[simp] theorem peekOn_err (s' : σ) (e : Err) :
    peekOn s' (.err e : SStep α) = (.err e, ({ inner := s', curr := none } : PeekSt σ α)) := rfl

theorem peekNext_step_none (m : SM σ α) (s : σ) (c : Bool) :
    peekNext m ⟨s, none⟩ c =
      pullThen (fun s' => ⟨s', none⟩) (fun a s' => (.item a, ⟨s', none⟩)) (fun s' => (.end_, ⟨s', none⟩)) (m.step s c) := by
  rcases h : m.step s c with ⟨r, s'⟩
  cases r <;> simp [peekNext, stPeekNextHas, h, pullThen]

theorem peekNext_step_some (m : SM σ α) (s : σ) (a : α) (c : Bool) :
    peekNext m ⟨s, some a⟩ c = (.item a, ⟨s, none⟩) := rfl

theorem peekPeek_step_none (m : SM σ α) (s : σ) (c : Bool) :
    peekPeek m ⟨s, none⟩ c =
      pullThen (fun s' => ⟨s', none⟩) (fun a s' => peekOn s' (.item a)) (fun s' => peekOn s' .end_) (m.step s c) :=
  pullThen_on _ peekOn_err _

theorem peekPeek_step_some (m : SM σ α) (s : σ) (a : α) (c : Bool) :
    peekPeek m ⟨s, some a⟩ c = (.item a, ⟨s, some a⟩) := rfl

@[simp] theorem stChunkFull_eq (k n : Nat) : stChunkFull (k : Int) (n : Int) = decide (k = n) := by
  simp [stChunkFull, Int.natCast_inj]

@[simp] theorem chunkOn_item (size : Int) (st : ChunkSt σ α) (s' : σ) (a : α) :
    chunkOn size st s' (.item a) =
      (if stChunkFull ((st.pend ++ [a]).length : Int) size then (.item (st.pend ++ [a]), { inner := s', pend := [] })
       else (.skip, { inner := s', pend := st.pend ++ [a] })) := rfl

@[simp] theorem chunkOn_end (size : Int) (st : ChunkSt σ α) (s' : σ) :
    chunkOn size st s' .end_ =
      (if stChunkFlush (st.pend.length : Int) then (.item st.pend, { inner := s', pend := [] })
       else (.end_, { st with inner := s' })) := rfl

@[simp] theorem chunkOn_err (size : Int) (st : ChunkSt σ α) (s' : σ) (e : Err) :
    chunkOn size st s' (.err e) = (.err e, { st with inner := s' }) := rfl

theorem chunk_step (size : Int) (m : SM σ α) (st : ChunkSt σ α) (c : Bool) :
    (chunk size m).step st c =
      pullThen (fun s' => { st with inner := s' }) (fun a s' => chunkOn size st s' (.item a))
        (fun s' => chunkOn size st s' .end_) (m.step st.inner c) :=
  pullThen_on _ (chunkOn_err size st) _

@[simp] theorem compactOn_item (eq : α → α → Bool) (st : CompactSt σ α) (s' : σ) (a : α) :
    compactOn eq st s' (.item a) =
      (if st.first then (.item a, { inner := s', first := false, prev := some a })
       else
        match st.prev with
        | some p => if !eq p a then (.item a, { st with inner := s', prev := some a })
                    else (.skip, { st with inner := s' })
        | none => (.item a, { st with inner := s', prev := some a })) := by
  rcases st with ⟨i, f, p⟩
  cases p <;> simp [compactOn, SStep.code, ret, stCompactErrGuard, stCompactFirstRet, stCompactItemRet, stCompactSetsPrev,
    stCompactClearsFirst]

@[simp] theorem compactOn_end (eq : α → α → Bool) (st : CompactSt σ α) (s' : σ) :
    compactOn eq st s' .end_ = (.end_, { st with inner := s' }) := rfl

@[simp] theorem compactOn_err (eq : α → α → Bool) (st : CompactSt σ α) (s' : σ) (e : Err) :
    compactOn eq st s' (.err e) = (.err e, { st with inner := s' }) := rfl

theorem compact_step (eq : α → α → Bool) (m : SM σ α) (st : CompactSt σ α) (c : Bool) :
    (compact eq m).step st c =
      pullThen (fun s' => { st with inner := s' }) (fun a s' => compactOn eq st s' (.item a))
        (fun s' => compactOn eq st s' .end_) (m.step st.inner c) :=
  pullThen_on _ (compactOn_err eq st) _

@[simp] theorem filterOn_item (keep : α → Except Err Bool) (s' : σ) (a : α) :
    filterOn keep s' (.item a) =
      (match keep a with
        | .error e => (.err e, ⟨s'⟩)
        | .ok true => (.item a, ⟨s'⟩)
        | .ok false => (.skip, ⟨s'⟩)) := by
  simp only [filterOn, SStep.code, stFilterErrGuard]
  cases h : keep a with
  | error e => simp [cbCode, retE, ret, stFilterCbGuard, stFilterCbRet]
  | ok b => cases b <;> simp [cbCode, ret, stFilterCbGuard, stFilterItemRet]

@[simp] theorem filterOn_end (keep : α → Except Err Bool) (s' : σ) :
    filterOn keep s' .end_ = (.end_, (⟨s'⟩ : Wrap σ)) := rfl

@[simp] theorem filterOn_err (keep : α → Except Err Bool) (s' : σ) (e : Err) :
    filterOn keep s' (.err e) = (.err e, (⟨s'⟩ : Wrap σ)) := rfl

theorem filter_step (keep : α → Except Err Bool) (m : SM σ α) (st : Wrap σ) (c : Bool) :
    (filter keep m).step st c =
      pullThen Wrap.mk (fun a s' => filterOn keep s' (.item a)) (fun s' => filterOn keep s' .end_) (m.step st.inner c) :=
  pullThen_on _ (filterOn_err keep) _

@[simp] theorem mapOn_item (f : α → Except Err β) (s' : σ) (a : α) :
    mapOn f s' (.item a) =
      (match f a with
        | .error e => (.err e, ⟨s'⟩)
        | .ok b => (.item b, ⟨s'⟩)) := by
  simp only [mapOn, SStep.code, stMapErrGuard]
  cases h : f a with
  | error e => simp [cbCode, retE, ret, stMapCbGuard, stMapCbRet]
  | ok b => simp [cbCode, ret, stMapCbGuard, stMapItemRet]

@[simp] theorem mapOn_end (f : α → Except Err β) (s' : σ) : mapOn f s' .end_ = (.end_, (⟨s'⟩ : Wrap σ)) := rfl

@[simp] theorem mapOn_err (f : α → Except Err β) (s' : σ) (e : Err) :
    mapOn f s' (.err e) = (.err e, (⟨s'⟩ : Wrap σ)) := rfl

theorem map_step (f : α → Except Err β) (m : SM σ α) (st : Wrap σ) (c : Bool) :
    (map f m).step st c =
      pullThen Wrap.mk (fun a s' => mapOn f s' (.item a)) (fun s' => mapOn f s' .end_) (m.step st.inner c) :=
  pullThen_on _ (mapOn_err f) _

@[simp] theorem retE_firstDone : (retE (stFirstDoneRet 0) .bogus : SStep α) = .end_ := rfl

@[simp] theorem firstOn_item (st : FirstSt σ) (s' : σ) (a : α) :
    firstOn st s' (.item a) = (.item a, { inner := s', x := st.x - 1 }) := rfl

@[simp] theorem firstOn_end (st : FirstSt σ) (s' : σ) :
    firstOn st s' (.end_ : SStep α) = (.end_, { st with inner := s' }) := rfl

@[simp] theorem firstOn_err (st : FirstSt σ) (s' : σ) (e : Err) :
    firstOn st s' (.err e : SStep α) = (.err e, { st with inner := s' }) := rfl

theorem first_step_done (m : SM σ α) (st : FirstSt σ) (hx : st.x ≤ 0) (c : Bool) : (first m).step st c = (.end_, st) := by
  simp [first, stFirstDone, hx]

theorem first_step (m : SM σ α) (st : FirstSt σ) (hx : 0 < st.x) (c : Bool) :
    (first m).step st c =
      pullThen (fun s' => { st with inner := s' }) (fun a s' => firstOn st s' (.item a))
        (fun s' => firstOn st s' .end_) (m.step st.inner c) := by
  simp only [first, stFirstDone, decide_eq_true_eq, Int.not_le.mpr hx, if_false]
  exact pullThen_on _ (firstOn_err st) _

@[simp] theorem flattenOuterOn_item (st : FlattenSt σ τ) (s' : σ) (x : τ) :
    (flattenOuterOn st s' (.item x) : SStep α × FlattenSt σ τ) = (.skip, { st with outer := s', curr := some x }) := rfl

@[simp] theorem flattenOuterOn_end (st : FlattenSt σ τ) (s' : σ) :
    (flattenOuterOn st s' .end_ : SStep α × FlattenSt σ τ) = (.end_, { st with outer := s' }) := rfl

@[simp] theorem flattenOuterOn_err (st : FlattenSt σ τ) (s' : σ) (e : Err) :
    (flattenOuterOn st s' (.err e) : SStep α × FlattenSt σ τ) = (.err e, { st with outer := s' }) := rfl

@[simp] theorem flattenInnerOn_item (mi : SM τ α) (st : FlattenSt σ τ) (x' : τ) (a : α) :
    flattenInnerOn mi st x' (.item a) = (.item a, { st with curr := some x' }) := rfl

@[simp] theorem flattenInnerOn_end (mi : SM τ α) (st : FlattenSt σ τ) (x' : τ) :
    flattenInnerOn mi st x' .end_ =
      (let x'' := if stFlattenClosesEnded then mi.close x' else x'
       if stFlattenClearsCurr then (.skip, { st with curr := none, finished := st.finished ++ [x''] })
       else (.skip, { st with curr := some x'' })) := rfl

@[simp] theorem flattenInnerOn_err (mi : SM τ α) (st : FlattenSt σ τ) (x' : τ) (e : Err) :
    flattenInnerOn mi st x' (.err e) = (.err e, { st with curr := some x' }) := rfl

theorem flatten_step_none (mo : SM σ τ) (mi : SM τ α) (so : σ) (fin : List τ) (c : Bool) :
    (flatten mo mi).step ⟨so, none, fin⟩ c =
      pullThen (fun s' => ⟨s', none, fin⟩) (fun x s' => flattenOuterOn ⟨so, none, fin⟩ s' (.item x))
        (fun s' => flattenOuterOn ⟨so, none, fin⟩ s' .end_) (mo.step so c) :=
  pullThen_on _ (flattenOuterOn_err _) _

theorem flatten_step_some (mo : SM σ τ) (mi : SM τ α) (so : σ) (x : τ) (fin : List τ) (c : Bool) :
    (flatten mo mi).step ⟨so, some x, fin⟩ c =
      pullThen (fun x' => ⟨so, some x', fin⟩) (fun a x' => flattenInnerOn mi ⟨so, some x, fin⟩ x' (.item a))
        (fun x' => flattenInnerOn mi ⟨so, some x, fin⟩ x' .end_) (mi.step x c) :=
  pullThen_on _ (flattenInnerOn_err mi _) _

@[simp] theorem ret_flattenSlicesItem (x : SStep α) (h : Err) : ret (stFlattenSlicesItemRet 0) x h = x := rfl

@[simp] theorem flattenSlicesOn_item (st : FlattenSlicesSt σ α) (s' : σ) (xs : List α) :
    flattenSlicesOn st s' (.item xs) = (.skip, { inner := s', buffer := xs }) := rfl

@[simp] theorem flattenSlicesOn_end (st : FlattenSlicesSt σ α) (s' : σ) :
    flattenSlicesOn st s' .end_ = (.end_, { st with inner := s' }) := rfl

theorem flattenSlices_step_nil (m : SM σ (List α)) (s : σ) (c : Bool) :
    (flattenSlices m).step ⟨s, []⟩ c =
      pullThen (fun s' => ⟨s', []⟩) (fun xs s' => flattenSlicesOn ⟨s, []⟩ s' (.item xs))
        (fun s' => flattenSlicesOn ⟨s, []⟩ s' .end_) (m.step s c) := by
  simp only [flattenSlices, List.length_nil, stFlattenSlicesHas_eq, Nat.lt_irrefl, decide_false, Bool.false_eq_true, if_false]
  rcases m.step s c with ⟨r, s'⟩
  cases r <;> rfl

theorem flattenSlices_step_cons (m : SM σ (List α)) (s : σ) (a : α) (r : List α) (c : Bool) :
    (flattenSlices m).step ⟨s, a :: r⟩ c = (.item a, ⟨s, r⟩) := by
  simp [flattenSlices]

@[simp] theorem joinOn_item (m : SM σ α) (st : JoinSt σ) (s' : σ) (rest : List σ) (a : α) :
    joinOn m st s' rest (.item a) = (.item a, { st with remaining := s' :: rest }) := rfl

@[simp] theorem joinOn_end (m : SM σ α) (st : JoinSt σ) (s' : σ) (rest : List σ) :
    joinOn m st s' rest .end_ =
      (let s'' := if stJoinClosesEnded then m.close s' else s'
       if stJoinAdvances then (.skip, { remaining := rest, finished := st.finished ++ [s''] })
       else (.skip, { st with remaining := s'' :: rest })) := rfl

@[simp] theorem joinOn_err (m : SM σ α) (st : JoinSt σ) (s' : σ) (rest : List σ) (e : Err) :
    joinOn m st s' rest (.err e) = (.err e, { st with remaining := s' :: rest }) := rfl

/-- `Join` with nothing left (`for len(s.remaining) > 0` not entered): `return zero, End` -/
@[simp] theorem join_step_nil (m : SM σ α) (fin : List σ) (c : Bool) :
    (join m).step ⟨[], fin⟩ c = (.end_, ⟨[], fin⟩) := rfl

theorem join_step (m : SM σ α) (s : σ) (r fin : List σ) (c : Bool) :
    (join m).step ⟨s :: r, fin⟩ c =
      pullThen (fun s' => ⟨s' :: r, fin⟩) (fun a s' => joinOn m ⟨s :: r, fin⟩ s' r (.item a))
        (fun s' => joinOn m ⟨s :: r, fin⟩ s' r .end_) (m.step s c) := by
  simp only [join, stJoinLoops_eq, List.length_cons, Nat.zero_lt_succ, decide_true, if_true]
  exact pullThen_on _ (fun s' => joinOn_err m ⟨s :: r, fin⟩ s' r) _

/-- `joinStream.Close` closes every remaining argument (range operand and loop body as in the source) -/
@[simp] theorem joinCloseAll_eq : joinCloseAll = stJoinCloseForwards := by
  simp [joinCloseAll, stJoinCloseRange, stJoinCloseStmt]

/-- `flattenStream.Close` closes the current inner stream whenever there is one -/
@[simp] theorem flattenCloseCurr_eq : flattenCloseCurr = stFlattenCloseCurr := by
  simp [flattenCloseCurr, stFlattenCloseCond]

@[simp] theorem whileEval_eq (f : α → Except Err Bool) (st : WhileSt σ α) (a : α) :
    whileEval f st a =
      (match f a with
        | .error e => (.err e, st)
        | .ok false => (.end_, { st with done := true })
        | .ok true => (.item a, { st with held := none })) := by
  simp only [whileEval]
  cases h : f a with
  | error e => simp [cbCode, retE, ret, stWhileCbGuard, stWhileCbRet]
  | ok b => cases b <;> simp [cbCode, retE, ret, stWhileCbGuard, stWhileStopRet, stWhileItemRet, stWhileSetsDone, stWhileClearsHas]

@[simp] theorem whileOn_item (f : α → Except Err Bool) (st : WhileSt σ α) (s' : σ) (a : α) :
    whileOn f st s' (.item a) = whileEval f { st with inner := s', held := some a } a := rfl

@[simp] theorem whileOn_end (f : α → Except Err Bool) (st : WhileSt σ α) (s' : σ) :
    whileOn f st s' .end_ = (.end_, { st with inner := s' }) := rfl

@[simp] theorem whileOn_err (f : α → Except Err Bool) (st : WhileSt σ α) (s' : σ) (e : Err) :
    whileOn f st s' (.err e) = (.err e, { st with inner := s' }) := rfl

theorem while_step_done (f : α → Except Err Bool) (m : SM σ α) (s : σ) (h : Option α) (c : Bool) :
    (while_ f m).step ⟨s, h, true⟩ c = (.end_, ⟨s, h, true⟩) := rfl

theorem while_step_held (f : α → Except Err Bool) (m : SM σ α) (s : σ) (a : α) (c : Bool) :
    (while_ f m).step ⟨s, some a, false⟩ c = whileEval f ⟨s, some a, false⟩ a := rfl

theorem while_step (f : α → Except Err Bool) (m : SM σ α) (s : σ) (c : Bool) :
    (while_ f m).step ⟨s, none, false⟩ c =
      pullThen (fun s' => ⟨s', none, false⟩) (fun a s' => whileOn f ⟨s, none, false⟩ s' (.item a))
        (fun s' => whileOn f ⟨s, none, false⟩ s' .end_) (m.step s c) := by
  simp only [while_, stWhileDone, stWhilePulls, Option.isSome_none, Bool.not_false, Bool.false_eq_true, if_false, if_true]
  exact pullThen_on _ (whileOn_err f ⟨s, none, false⟩) _

@[simp] theorem retE_runsInnerDetached : (retE (stRunsInnerDetachedRet 0) .bogus : SStep α) = .end_ := rfl

@[simp] theorem runsInnerOn_item (same : α → α → Bool) (m : SM σ α) (st : RunsSt σ α) (g' : Nat) (prev : α)
    (det : Bool) (pk' : PeekSt σ α) (c : Bool) (a : α) :
    runsInnerOn same m st g' prev det pk' c (.item a) =
      (if !same prev a then (.end_, { st with pk := pk' })
       else
        ((peekNext m pk' c).1,
          { st with pk := (peekNext m pk' c).2, live := some (g', a, det) })) := by
  simp only [runsInnerOn, SStep.code, stRunsInnerEndGuard, stRunsInnerErrGuard]
  by_cases h : same prev a = true <;> simp [h, retE, ret, stRunsInnerOtherRet, stRunsInnerTracksPrev]

@[simp] theorem runsInnerOn_end (same : α → α → Bool) (m : SM σ α) (st : RunsSt σ α) (g' : Nat) (prev : α)
    (det : Bool) (pk' : PeekSt σ α) (c : Bool) :
    runsInnerOn same m st g' prev det pk' c .end_ = (.end_, { st with pk := pk' }) := rfl

@[simp] theorem runsInnerOn_err (same : α → α → Bool) (m : SM σ α) (st : RunsSt σ α) (g' : Nat) (prev : α)
    (det : Bool) (pk' : PeekSt σ α) (c : Bool) (e : Err) :
    runsInnerOn same m st g' prev det pk' c (.err e) = (.err e, { st with pk := pk' }) := rfl

/-- a live, attached inner stream with nothing buffered: one pull; an item of the same run is consumed, another
one stays in the peek buffer and ends the inner stream -/
theorem runsInner_step_none (same : α → α → Bool) (m : SM σ α) (s : σ) (gen g : Nat) (prev : α) (c : Bool) :
    runsInner same m g ⟨⟨s, none⟩, gen, some (g, prev, false)⟩ c =
      pullThen (fun s' => ⟨⟨s', none⟩, gen, some (g, prev, false)⟩)
        (fun b s' => if same prev b then (.item b, ⟨⟨s', none⟩, gen, some (g, b, false)⟩)
          else (.end_, ⟨⟨s', some b⟩, gen, some (g, prev, false)⟩))
        (fun s' => (.end_, ⟨⟨s', none⟩, gen, some (g, prev, false)⟩)) (m.step s c) := by
  simp only [runsInner, ne_eq, not_true_eq_false, decide_false, Bool.or_false, Bool.false_eq_true, if_false,
    peekPeek_step_none]
  rcases m.step s c with ⟨r, s'⟩
  cases r with
  | item b =>
    by_cases hb : same prev b = true <;>
      simp [pullThen, hb, peekNext_step_some]
  | _ => simp [pullThen]

theorem runsInner_step_some (same : α → α → Bool) (m : SM σ α) (s : σ) (b : α) (gen g : Nat) (prev : α) (c : Bool) :
    runsInner same m g ⟨⟨s, some b⟩, gen, some (g, prev, false)⟩ c =
      if same prev b then (.item b, ⟨⟨s, none⟩, gen, some (g, b, false)⟩)
      else (.end_, ⟨⟨s, some b⟩, gen, some (g, prev, false)⟩) := by
  simp only [runsInner, ne_eq, not_true_eq_false, decide_false, Bool.or_false, Bool.false_eq_true, if_false,
    peekPeek_step_some]
  by_cases hb : same prev b = true <;> simp [hb, peekNext_step_some]

/-- an inner stream that was detached, or replaced by a later one, answers the end and touches nothing -/
theorem runsInner_step_dead (same : α → α → Bool) (m : SM σ α) (g : Nat) (st : RunsSt σ α) (c : Bool)
    (h : ∀ prev, st.live ≠ some (g, prev, false)) : runsInner same m g st c = (.end_, st) := by
  obtain ⟨pk, gen, live⟩ := st
  cases live with
  | none => rfl
  | some l =>
    obtain ⟨g', prev, det⟩ := l
    by_cases hg : g' = g
    · subst hg
      cases det with
      | true => simp [runsInner]
      | false => exact absurd rfl (h prev)
    · simp [runsInner, hg]

@[simp] theorem runsDrainOn_item (g : Nat) (st' : RunsSt σ α) (a : α) :
    runsDrainOn g st' (.item a) = (.skip, st') := rfl

@[simp] theorem runsDrainOn_end (g : Nat) (st' : RunsSt σ α) :
    runsDrainOn g st' (.end_ : SStep α) =
      (let st'' := if stRunsClosesCurr then runsInnerClose g st' else st'
       (.skip, { st'' with live := if stRunsClearsCurr then none else st''.live })) := rfl

@[simp] theorem runsDrainOn_err (g : Nat) (st' : RunsSt σ α) (e : Err) :
    runsDrainOn g st' (.err e : SStep α) = (.err e, st') := rfl

@[simp] theorem runsPeekOn_item (st : RunsSt σ α) (pk' : PeekSt σ α) (a : α) :
    runsPeekOn st pk' (.item a) =
      (.item (st.gen + 1), { pk := pk', gen := st.gen + 1, live := some (st.gen + 1, a, false) }) := rfl

@[simp] theorem runsPeekOn_end (st : RunsSt σ α) (pk' : PeekSt σ α) :
    runsPeekOn st pk' (.end_ : SStep α) = (.end_, { st with pk := pk' }) := rfl

@[simp] theorem runsPeekOn_err (st : RunsSt σ α) (pk' : PeekSt σ α) (e : Err) :
    runsPeekOn st pk' (.err e : SStep α) = (.err e, { st with pk := pk' }) := rfl

/-- the error guards / returned operands of a reducer's read loop are those of
`if err == End { return acc, nil } else if err != nil { return …, err }` and, when the callback can fail
(`cf`), of `if err != nil { return acc, err }` after it -/
structure _root_.Juniper.Model.Stream.RGuards.Canon (g : RGuards) (cf : Bool) : Prop where
  endNil : g.endG 0 = false
  endEnd : g.endG 1 = true
  endErr : g.endG 2 = false
  endRet : g.endR 1 = 0
  errNil : g.errG 0 = false
  errErr : g.errG 2 = true
  errRet : g.errR 2 = 2
  cbNil : g.cbG 0 = false
  cbErr : cf = true → g.cbG 2 = true ∧ g.cbR 2 = 2

theorem reduceG_canon : reduceG.Canon true := by
  constructor <;> simp [reduceG, stReduceEndGuard, stReduceEndRet, stReduceErrGuard, stReduceErrRet, stReduceCbGuard, stReduceCbRet]

theorem collectG_canon : collectG.Canon false := by
  constructor <;> simp [collectG, stCollectEndGuard, stCollectEndRet, stCollectErrGuard, stCollectErrRet]

theorem sampleG_canon : sampleG.Canon false := by
  constructor <;> simp [sampleG, sampleEndGuard, sampleRet, sampleErrGuard, sampleErrRet]

theorem reduceLoop_succ {γ : Type x} {g : RGuards} {cf : Bool} (hg : g.Canon cf) (m : SM σ α) (f : γ → α → Except Err γ)
    (hf : cf = false → ∀ acc a, ∃ b, f acc a = .ok b) (c : Bool) (fuel : Nat) (acc : γ) (s : σ) :
    reduceLoop g m f c (fuel + 1) acc s = match m.step s c with
      | (.item a, s') => (match f acc a with
          | .error e => (.error e, s')
          | .ok acc' => reduceLoop g m f c fuel acc' s')
      | (.skip, s') => reduceLoop g m f c fuel acc s'
      | (.end_, s') => (.ok acc, s')
      | (.err e, s') => (.error e, s') := by
  rw [reduceLoop]
  rcases m.step s c with ⟨r, s'⟩
  cases r with
  | skip => rfl
  | end_ => simp [SStep.code, rret, hg.endEnd, hg.endRet]
  | err e => simp [SStep.code, SStep.held, rret, hg.endErr, hg.errErr, hg.errRet]
  | item a =>
    simp only [SStep.code, hg.endNil, hg.errNil]
    cases hfa : f acc a with
    | ok b => simp [cbCode, hg.cbNil]
    | error e =>
      cases cf with
      | false => obtain ⟨b, hb⟩ := hf rfl acc a; rw [hb] at hfa; cases hfa
      | true => simp [cbCode, rret, (hg.cbErr rfl).1, (hg.cbErr rfl).2]

/-- the read loop of `stream.Last`: `err == End` → `break`; `err != nil` → `return nil, err` -/
theorem lastLoop_succ (m : SM σ α) (n : Int) (c : Bool) (fuel : Nat) (buf : List (Option α)) (i : Int) (s : σ) :
    lastLoop m n c (fuel + 1) buf i s = match m.step s c with
      | (.item a, s') =>
        (match lastStore buf i n a with
        | none => (.panic, s')
        | some buf' => lastLoop m n c fuel buf' (if stLastCounts then i + 1 else i) s')
      | (.skip, s') => lastLoop m n c fuel buf i s'
      | (.end_, s') => (.ok (buf, i), s')
      | (.err e, s') => (.error e, s') := by
  rw [lastLoop]
  rcases m.step s c with ⟨r, s'⟩
  cases r with
  | item a =>
    simp only [SStep.code, stLastEndGuard, stLastErrGuard]
    cases lastStore buf i n a <;> simp
  | skip => rfl
  | end_ => simp [SStep.code, stLastEndGuard]
  | err e => simp [SStep.code, SStep.held, rret, stLastEndGuard, stLastErrGuard, stLastErrRet]

@[simp] theorem oneFirst_item (a : α) : oneFirst (.item a) = none := rfl
@[simp] theorem oneFirst_end : oneFirst (.end_ : SStep α) = some (.error .empty) := rfl
@[simp] theorem oneFirst_err (e : Err) : oneFirst (.err e : SStep α) = some (.error e) := rfl

@[simp] theorem oneSecond_item (x a : α) : oneSecond x (.item a) = .error .moreThanOne := rfl
@[simp] theorem oneSecond_end (x : α) : oneSecond x .end_ = .ok x := rfl
@[simp] theorem oneSecond_err (x : α) (e : Err) : oneSecond x (.err e) = .error e := rfl

theorem one_eq (m : SM σ α) (c : Bool) (fuel : Nat) (s : σ) :
    one m c fuel s =
      (let (r, s') : ROut α × σ :=
        match drive m c fuel s with
        | (none, s') => (.fuel, s')
        | (some (.end_), s') => (.error .empty, s')
        | (some (.err e), s') => (.error e, s')
        | (some .skip, s') => (.fuel, s')
        | (some (.item x), s') =>
          match drive m c fuel s' with
          | (none, s'') => (.fuel, s'')
          | (some (.end_), s'') => (.ok x, s'')
          | (some (.err e), s'') => (.error e, s'')
          | (some .skip, s'') => (.fuel, s'')
          | (some (.item _), s'') => (.error .moreThanOne, s'')
      (r, deferClose stOneDefersClose m s')) := by
  unfold one
  rcases drive m c fuel s with ⟨r, s1⟩
  cases r with
  | none => rfl
  | some r =>
    cases r with
    | skip => rfl
    | end_ => simp
    | err e => simp
    | item x =>
      simp only [oneFirst_item]
      rcases drive m c fuel s1 with ⟨r2, s2⟩
      cases r2 with
      | none => rfl
      | some r2 => cases r2 <;> simp

end Juniper.Proofs.StreamDen
