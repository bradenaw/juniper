import Juniper.Proofs.TreePut
import Juniper.Proofs.TreeBalDel
/-!
# `Delete` keeps the tree in order and refines the sorted-list `serase` (C01, C03)

`del` is followed down the search path like `ins` in `Proofs/TreePut.lean`; `del_spec` gives balance, identities and
contents of the result in one induction.
-/
namespace Juniper.Proofs.Tree
open Juniper.Model.BTree Juniper.Gen.Tree

variable {K V : Type} {α : Type} {cmp : K → K → Int}

def DelSpec (cmp : K → K → Int) (k : K) (x : Node K V) : DelRes K V → Prop
  | .absent => sget cmp k (toList x) = none
  | .crash => True
  | .done x' _ => toList x' = serase cmp k (toList x) ∧ (sget cmp k (toList x)).isSome = true

/-- `Delete` creates no node: every identity occurs in the result at most as often as before -/
def DelCnt (x : Node K V) : DelRes K V → Prop
  | .done x' _ => ∀ i, cnt i x' ≤ cnt i x
  | _ => True

structure DelAll (cmp : K → K → Int) (k : K) (h : Nat) (isRoot : Bool) (x : Node K V) (r : DelRes K V) : Prop where
  ok : DelOK h isRoot r
  cnt : DelCnt x r
  spec : StrictWeak cmp → Sorted cmp (toList x) → DelSpec cmp k x r

theorem toList_child_sep {id : Nat} {kvs : List (K × V)} {kids : List (Node K V)} {i : Nat} {c : Node K V}
    (hlen : kids.length = kvs.length + 1) (hcc : kids[i]? = some c) (hi : i < kvs.length) (c' : Node K V) (s : K × V) :
    toList (.mk id (replaceAt kvs i s) (replaceAt kids i c')) =
      pre ((kids.take i).map toList) (kvs.take i) ++ toList c' ++ s ::
        inorder ((kids.drop (i + 1)).map toList) (kvs.drop (i + 1)) := by
  have hil : i < kids.length := (List.getElem?_eq_some_iff.mp hcc).1
  have e1 : (replaceAt kids i c').take (i + 1) = kids.take i ++ [c'] := by
    rw [List.take_add_one, replaceAt_take c' hil, replaceAt_getElem? c' hil]; rfl
  rw [replaceAt, toList_at_sep' (Or.inr (by rw [length_replaceAt _ _ _ hil]; exact hlen)) hi, e1,
    replaceAt_drop c' hil, List.map_append, List.map_cons, List.map_nil, inorder_eq_pre_last _ _ _ (by simp; omega)]

/-- the key was found at entry `i` of an inner node: the entry is replaced by its predecessor, taken out of child `i` -/
theorem found_inner {k : K} {rootId id i h : Nat} {isRoot : Bool} {kvs : List (K × V)}
    {kids : List (Node K V)} {c c' : Node K V} {kvm : K × V} {under : Bool} {r : DelRes K V}
    (hs : searchNode cmp k kvs = (i, true)) (hcc : kids[i]? = some c)
    (hres : removeMax rootId c = some (kvm, c', under)) (hp : DelPre rootId h isRoot (.mk id kvs kids))
    (hr : (if !under then .done (.mk id (replaceAt kvs i kvm) (replaceAt kids i c')) false
       else finish rootId id (replaceAt kvs i kvm) (replaceAt kids i c') i) = r) :
    DelAll cmp k h isRoot (.mk id kvs kids) r := by
  obtain ⟨h', rfl, hlen, hbc, hoc, -, hnc⟩ := delPre_child hp hcc
  obtain ⟨kv, hkv, he⟩ := (search_bounds cmp k kvs hs).2.2 rfl
  have hi : i < kvs.length := (List.getElem?_eq_some_iff.mp hkv).1
  obtain ⟨kv3, x3, u3, he3, hs3, hlc, hcl⟩ := removeMax_spec rootId c h' hbc hoc hnc
  rw [hres] at he3
  simp only [Option.some.injEq, Prod.mk.injEq] at he3
  obtain ⟨rfl, rfl, rfl⟩ := he3
  obtain ⟨x', u, e, hok, hl, hc'⟩ := del_finish (kvs1 := replaceAt kvs i kvm) hp (length_replaceAt kvs i kvm hi) hcc hs3
  rw [← hr, e]
  refine ⟨hok, fun j => Nat.le_trans (hc' j) (cnt_replace_le hcc hcl j), fun hc hsort => ?_⟩
  -- the node's list around entry `i`, before and after
  have h0 := toList_child_sep (id := id) hlen hcc hi c kv
  rw [show replaceAt kids i c = kids from (split_at_getElem? hcc).symm,
    show replaceAt kvs i kv = kvs from (split_at_getElem? hkv).symm] at h0
  rw [h0] at hsort
  rw [DelSpec, hl, h0, toList_child_sep hlen hcc hi, serase_at_sep hc hsort he, sget_at_sep hc hsort he, hlc]
  simp

/-- the key is not in the node: `del` went into child `i` and came back with `c'` -/
theorem notfound_inner {k : K} {rootId id i h : Nat} {isRoot : Bool} {kvs : List (K × V)}
    {kids : List (Node K V)} {c c' : Node K V} {under : Bool} {r : DelRes K V}
    (hs : searchNode cmp k kvs = (i, false)) (hcc : kids[i]? = some c)
    (ih : ∀ h isRoot, DelPre rootId h isRoot c → DelAll cmp k h isRoot c (.done c' under))
    (hp : DelPre rootId h isRoot (.mk id kvs kids))
    (hr : (if !under then .done (.mk id kvs (replaceAt kids i c')) false
       else finish rootId id kvs (replaceAt kids i c') i) = r) :
    DelAll cmp k h isRoot (.mk id kvs kids) r := by
  obtain ⟨h', rfl, hlen, -, -, hpc, -⟩ := delPre_child hp hcc
  obtain ⟨hbl, hcl, hsp⟩ := ih h' false hpc
  obtain ⟨x', u, e, hok, hl, hc'⟩ := del_finish (kvs1 := kvs) hp rfl hcc (show SubOK h' c' under from hbl)
  rw [← hr, e]
  refine ⟨hok, fun j => Nat.le_trans (hc' j) (cnt_replace_le hcc hcl j), fun hc hsort => ?_⟩
  obtain ⟨P, S, hP, hS, hsc, e0, e1, _⟩ := at_child hc hlen hcc hs hsort
  obtain ⟨hsp1, hsp2⟩ := hsp hc hsc
  rw [DelSpec, hl, e1, e0, serase_mid hP hS, sget_mid hP hS, hsp1]
  exact ⟨rfl, hsp2⟩

theorem del_spec (cmp : K → K → Int) (k : K) (rootId : Nat) (x : Node K V) :
    ∀ h isRoot, DelPre rootId h isRoot x → DelAll cmp k h isRoot x (del cmp k rootId x) := by
  intro h isRoot hp
  fun_induction del cmp k rootId x generalizing h isRoot with
  | case1 id kvs kids i hs hleaf kvs' =>
    obtain rfl : kids = [] := List.isEmpty_iff.mp hleaf
    obtain rfl := bal_leaf_iff.mp hp.bal
    obtain ⟨kv, hkv, he⟩ := (search_bounds cmp k kvs hs).2.2 rfl
    have hi : i < kvs.length := (List.getElem?_eq_some_iff.mp hkv).1
    have hlen : kvs'.length = kvs.length - 1 := length_removeAt kvs i hi
    have hhi := hp.hi
    simp only [node_n] at hhi
    refine ⟨?_, fun j => by simp [cnt_mk], ?_⟩
    · cases isRoot with
      | true =>
        obtain ⟨hid, -⟩ := hp.rootCase rfl
        simp only [Node.id] at hid
        exact ⟨⟨0, bal_zero.mpr rfl, by simp only [node_n]; omega, by intro h; omega⟩, by simp [deleteMerges, hid]⟩
      | false =>
        obtain ⟨hid, hn1⟩ := hp.subCase rfl
        simp only [Node.id] at hid
        simp only [node_n] at hn1
        refine ⟨bal_zero.mpr rfl, by simp only [node_n]; omega, ?_, ?_⟩
        · simp only [node_n, deleteLeafDone, deleteMerges]; simp; omega
        · simp only [node_n, deleteLeafDone, deleteMerges]; simp; omega
    · intro hc hsort
      simp only [DelSpec, toList_leaf] at hsort ⊢
      rw [split_at_getElem? hkv] at hsort ⊢
      rw [serase_at_sep hc hsort he, sget_at_sep hc hsort he]
      exact ⟨by simp [kvs', removeAt], rfl⟩
  | case2 id kvs kids i hs hinner hnone =>
    exact absurd hnone (bal_has_child hp.bal (by simpa using hinner) hs)
  | case3 id kvs kids i hs hinner c hc hnone =>
    obtain ⟨h', rfl, -, hb, ho, -, hn⟩ := delPre_child hp hc
    obtain ⟨kv, x', u, he, _⟩ := removeMax_spec rootId c h' hb ho hn
    rw [he] at hnone; cases hnone
  | case4 id kvs kids i hs hinner c hc kv c' under hres kvs1 kids1 hu =>
    exact found_inner hs hc hres hp (if_pos hu)
  | case5 id kvs kids i hs hinner c hc kv c' under hres kvs1 kids1 hu =>
    exact found_inner hs hc hres hp (if_neg hu)
  | case6 id kvs kids i hs hleaf =>
    obtain rfl : kids = [] := List.isEmpty_iff.mp hleaf
    exact ⟨trivial, trivial, fun _ _ => by simp only [DelSpec, toList_leaf]; exact leaf_sget cmp k kvs hs⟩
  | case7 id kvs kids i hs hinner hnone =>
    exact absurd hnone (bal_has_child hp.bal (by simpa using hinner) hs)
  | case8 id kvs kids i hs hinner c hcc hres ih =>
    refine ⟨trivial, trivial, fun hc hsort => ?_⟩
    obtain ⟨h', rfl, hlen, -, -, hpc, -⟩ := delPre_child hp hcc
    obtain ⟨P, S, hP, hS, hsc, e0, _⟩ := at_child hc hlen hcc hs hsort
    have := (ih h' false hpc).spec hc hsc
    rw [hres] at this
    simp only [DelSpec] at this ⊢
    rw [e0, sget_mid hP hS, this]
  | case9 id kvs kids i hs hinner c hc hres ih =>
    obtain ⟨h', rfl, -, -, -, hpc, -⟩ := delPre_child hp hc
    exact (hres ▸ (ih h' false hpc).ok).elim
  | case10 id kvs kids i hs hinner c hc c' under hres kids1 hu ih =>
    exact notfound_inner hs hc (hres ▸ ih) hp (if_pos hu)
  | case11 id kvs kids i hs hinner c hc c' under hres kids1 hu ih =>
    exact notfound_inner hs hc (hres ▸ ih) hp (if_neg hu)

theorem delete_spec (cmp : K → K → Int) (t : Tree K V) (k : K) (hb : BalTree t) (hid : (ids t.root).Nodup) :
    ∃ t', delete cmp t k = some t' ∧ BalTree t' ∧ (IdsOK t → IdsOK t') ∧ (StrictWeak cmp → Sorted cmp (toList t.root) →
      toList t'.root = serase cmp k (toList t.root) ∧
      t'.size = t.size - if (sget cmp k (toList t.root)).isSome then 1 else 0) := by
  obtain ⟨h, hbal, hmax, hroot⟩ := hb
  obtain ⟨hok, hcn, hsp⟩ := del_spec cmp k t.root.id t.root h true (delPre_root hbal hmax hroot hid)
  have hds : deleteDecSize = true := by decide
  unfold delete
  cases hres : del cmp k t.root.id t.root with
  | absent =>
    rw [hres] at hsp
    refine ⟨t, rfl, ⟨h, hbal, hmax, hroot⟩, id, fun hc hs => ?_⟩
    have hg : sget cmp k (toList t.root) = none := hsp hc hs
    exact ⟨(serase_of_sget_none hg).symm, by simp [hg]⟩
  | crash => rw [hres] at hok; exact hok.elim
  | done r u =>
    rw [hres] at hok hcn hsp
    refine ⟨_, rfl, hok.1, fun hi => hi.of_cnt_le hcn (Nat.le_refl _), fun hc hs => ?_⟩
    obtain ⟨he, hg⟩ := hsp hc hs
    exact ⟨he, by simp [hds, hg]⟩

theorem bal_delete (cmp : K → K → Int) (t : Tree K V) (k : K) (hb : BalTree t) (hid : (ids t.root).Nodup) :
    ∃ t', delete cmp t k = some t' ∧ BalTree t' := by
  obtain ⟨t', h1, h2, _⟩ := delete_spec cmp t k hb hid
  exact ⟨t', h1, h2⟩

theorem delete_refines_wf (hc : StrictWeak cmp) (t : Tree K V) (k : K) (hw : WF cmp t) (hid : (ids t.root).Nodup) :
    ∃ t', delete cmp t k = some t' ∧ WF cmp t' ∧ toList t'.root = serase cmp k (toList t.root) ∧ (IdsOK t → IdsOK t') := by
  obtain ⟨t', hd, hb', hids, hr⟩ := delete_spec cmp t k hw.bal hid
  obtain ⟨he, hsz⟩ := hr hc hw.sorted
  refine ⟨t', hd, ⟨hb', by rw [he]; exact sorted_serase hw.sorted, ?_⟩, he, hids⟩
  rw [he, hsz, hw.size, ← length_serase cmp k (toList t.root)]
  split <;> simp

end Juniper.Proofs.Tree
