import Juniper.Proofs.IterReduce
/-! # `iterator.Equal` (C07) -/
namespace Juniper.Proofs.IterDen
open Juniper.Model.Iter Juniper.Spec
universe u v
variable {σ : Type u} {α : Type v}

theorem drive_denL {m : IM σ α} {s : σ} {l : List α} (h : DenL m s l) :
    ∃ s', (Enough fun fuel => drive m fuel s = (some l.head?, s')) ∧ DenL m s' l.tail := by
  obtain ⟨cost, L, e, hd, rfl⟩ := h
  obtain ⟨s', hd', h'⟩ := drive_stable hd
  refine ⟨s', by rwa [List.head?_map], ?_⟩
  match L, h' with
  | [], h' => exact (den_of_ended (cost := fun _ => 0) h'.1 (fun _ => rfl)).denL
  | _ :: L', h' => exact h'.1.denL

inductive All2 {β : Type u} {γ : Type v} (R : β → γ → Prop) : List β → List γ → Prop
  | nil : All2 R [] []
  | cons {a : β} {b : γ} {as : List β} {bs : List γ} : R a b → All2 R as bs → All2 R (a :: as) (b :: bs)

variable [DecidableEq α]

theorem opt_match (a r : Option α) :
    (¬ (a.isSome ≠ r.isSome) ∧ ¬ ((r.isSome && decide (a ≠ r)) = true)) ↔ a = r := by
  cases a <;> cases r <;> simp

theorem equalRound_cons {m : IM σ α} {fuel : Nat} (x : Option α) {s : σ} (r : List σ) {y : Option α} {s' : σ}
    (hd : drive m fuel s = (some y, s')) :
    equalRound m fuel x (s :: r) =
      if y = x then ((equalRound m fuel x r).1, s' :: (equalRound m fuel x r).2) else (some false, s' :: r) := by
  rw [equalRound, hd]
  simp only [ValueFacts.itEqualLenDiff_eq, ValueFacts.itEqualItemDiff_eq]
  by_cases hy : y = x
  · subst hy
    cases y <;> simp
  · rw [if_neg hy]
    cases y with
    | none =>
      cases x with
      | none => exact absurd rfl hy
      | some b => simp
    | some a =>
      cases x with
      | none => simp
      | some b =>
        have hab : ¬ b = a := fun h => hy (by rw [h])
        simp [hab]

theorem equalRound_spec {m : IM σ α} (x : Option α) (r : List σ) (ls : List (List α))
    (h : All2 (DenL m) r ls) :
    ∃ r', (Enough fun fuel => equalRound m fuel x r = (some (decide (∀ l ∈ ls, l.head? = x)), r')) ∧
      ((∀ l ∈ ls, l.head? = x) → All2 (DenL m) r' (ls.map List.tail)) := by
  induction h with
  | nil => exact ⟨[], ⟨0, fun _ _ => by simp [equalRound]⟩, fun _ => .nil⟩
  | @cons s l r ls hs _ ih =>
    obtain ⟨s', hd, hs'⟩ := drive_denL hs
    obtain ⟨r', hr, hr'⟩ := ih
    by_cases hx : l.head? = x
    · refine ⟨s' :: r', (hd.and hr).mono fun fuel ⟨hd, hr⟩ => ?_, fun hall => ?_⟩
      · rw [equalRound_cons x r hd, if_pos hx, hr]
        simp [hx]
      · exact .cons hs' (hr' (fun l' hl' => hall l' (by simp [hl'])))
    · refine ⟨s' :: r, hd.mono fun fuel hd => ?_, fun hall => absurd (hall l (by simp)) hx⟩
      rw [equalRound_cons x r hd, if_neg hx,
        decide_eq_false fun hall : ∀ l' ∈ l :: ls, l'.head? = x => hx (hall l (by simp))]

/-- the regenerated header of the inner loop of `Equal` is `for i := 1; i < len(iters); i++`: it visits
`iters[1], iters[2], …` in order -/
theorem equalLoopOk_true : equalLoopOk = true := by decide

theorem equal_succ (m : IM σ α) (fuel rounds : Nat) (s : σ) (r : List σ) :
    equal m fuel (rounds + 1) (s :: r) =
      match drive m fuel s with
      | (none, s') => (none, s' :: r)
      | (some x, s') =>
        match equalRound m fuel x r with
        | (none, r') => (none, s' :: r')
        | (some false, r') => (some false, s' :: r')
        | (some true, r') => if x.isNone then (some true, s' :: r') else equal m fuel rounds (s' :: r') := by
  rw [equal]
  simp only [equalLoopOk_true, Bool.not_true, Bool.false_eq_true, if_false, ValueFacts.itEqualDone_eq]
  rcases drive m fuel s with ⟨x, s'⟩
  cases x with
  | none => rfl
  | some x =>
    simp only
    rcases equalRound m fuel x r with ⟨b, r'⟩
    cases b with
    | none => rfl
    | some b => cases b <;> cases x <;> simp

theorem equal_den {m : IM σ α} (l0 : List α) (s0 : σ) (r : List σ) (ls : List (List α))
    (h0 : DenL m s0 l0) (h : All2 (DenL m) r ls) :
    Enough fun fuel => ∀ rounds, l0.length + 1 ≤ rounds →
      (equal m fuel rounds (s0 :: r)).1 = some (decide (∀ l ∈ ls, l = l0)) := by
  have _tie := Skeleton.Tie.itEqual
  induction l0 generalizing s0 r ls with
  | nil =>
    obtain ⟨s', hd, _⟩ := drive_denL h0
    obtain ⟨r', hr, _⟩ := equalRound_spec (none : Option α) r ls h
    refine (hd.and hr).mono fun fuel ⟨hd, hr⟩ rounds hr0 => ?_
    obtain ⟨k, rfl⟩ : ∃ k, rounds = k + 1 := ⟨rounds - 1, by omega⟩
    rw [equal_succ, hd]
    simp only [List.head?_nil, hr]
    have hiff : (∀ l ∈ ls, l.head? = none) ↔ (∀ l ∈ ls, l = []) := by
      simp only [List.head?_eq_none_iff]
    by_cases hall : ∀ l ∈ ls, l.head? = none
    · rw [decide_eq_true hall, decide_eq_true (hiff.mp hall)]; rfl
    · rw [decide_eq_false hall, decide_eq_false (fun hh => hall (hiff.mpr hh))]
  | cons a l0 ih =>
    obtain ⟨s', hd, hs'⟩ := drive_denL h0
    obtain ⟨r', hr, hr'⟩ := equalRound_spec (some a) r ls h
    by_cases hall : ∀ l ∈ ls, l.head? = some a
    · refine (hd.and (hr.and (ih s' r' (ls.map List.tail) hs' (hr' hall)))).mono
        fun fuel ⟨hd, hr, hF3⟩ rounds hr0 => ?_
      obtain ⟨k, rfl⟩ : ∃ k, rounds = k + 1 := ⟨rounds - 1, by omega⟩
      rw [equal_succ, hd]
      simp only [List.head?_cons, hr, decide_eq_true hall, Option.isNone_some, Bool.false_eq_true, if_false]
      rw [hF3 k (by simp at hr0 ⊢; omega)]
      congr 1
      have hiff : (∀ l ∈ ls.map List.tail, l = l0) ↔ (∀ l ∈ ls, l = a :: l0) := by
        rw [List.forall_mem_map]
        refine forall₂_congr fun l hl => ?_
        have h1 := hall l hl
        cases l with
        | nil => simp at h1
        | cons b l' => simp at h1; simp [h1]
      exact decide_eq_decide.mpr hiff
    · refine (hd.and hr).mono fun fuel ⟨hd, hr⟩ rounds hr0 => ?_
      obtain ⟨k, rfl⟩ : ∃ k, rounds = k + 1 := ⟨rounds - 1, by omega⟩
      rw [equal_succ, hd]
      simp only [List.head?_cons, hr, decide_eq_false hall]
      rw [decide_eq_false fun hh : ∀ l ∈ ls, l = a :: l0 => hall fun l hl => by rw [hh l hl]; rfl]

/-! `Equal` over slice sources, at every fuel ≥ 1: the verdict, what is left unread of every list, and the pull counts -/

/-- one round at the level of lists: the heads are compared with `x` in order; after the first
mismatch the later lists are left alone -/
def equalRoundL (x : Option α) : List (List α) → Bool × List (List α)
  | [] => (true, [])
  | l :: r =>
    if l.head? = x then ((equalRoundL x r).1, l.tail :: (equalRoundL x r).2) else (false, l.tail :: r)

/-- `Equal` at the level of lists: the verdict and what is left unread of every list -/
def equalL : List α → List (List α) → Bool × List (List α)
  | [], ls => ((equalRoundL none ls).1, [] :: (equalRoundL none ls).2)
  | a :: l0, ls =>
    if (equalRoundL (some a) ls).1 then equalL l0 (equalRoundL (some a) ls).2
    else (false, l0 :: (equalRoundL (some a) ls).2)

/-- items of a source, read or unread -/
def tot (s : Src α) : Nat := s.pulled + s.rest.length

omit [DecidableEq α] in
theorem drive_src (fuel : Nat) (s : Src α) :
    ∃ s', drive src (fuel + 1) s = (some s.rest.head?, s') ∧ s'.rest = s.rest.tail ∧ tot s' = tot s := by
  obtain ⟨rest, c, p⟩ := s
  cases rest with
  | nil => exact ⟨⟨[], c + 1, p⟩, by rw [drive_succ, src_step_nil]; rfl, rfl, rfl⟩
  | cons a r =>
    refine ⟨⟨r, c + 1, p + 1⟩, ?_, rfl, by simp [tot]; omega⟩
    rw [drive_succ, src_step_cons]; rfl

theorem equalRound_src (fuel : Nat) (x : Option α) (ss : List (Src α)) :
    ∃ ss', equalRound src (fuel + 1) x ss = (some (equalRoundL x (ss.map (·.rest))).1, ss') ∧
      ss'.map (·.rest) = (equalRoundL x (ss.map (·.rest))).2 ∧ ss'.map tot = ss.map tot := by
  induction ss with
  | nil => exact ⟨[], by simp [equalRound, equalRoundL], rfl, rfl⟩
  | cons s r ih =>
    obtain ⟨s', hd, hr, ht⟩ := drive_src fuel s
    obtain ⟨r', hr1, hr2, hr3⟩ := ih
    rw [equalRound_cons x r hd]
    simp only [List.map_cons, equalRoundL]
    by_cases hx : s.rest.head? = x
    · rw [if_pos hx, if_pos hx, hr1]
      exact ⟨s' :: r', rfl, by simp [hr, hr2], by simp [ht, hr3]⟩
    · rw [if_neg hx, if_neg hx]
      exact ⟨s' :: r, rfl, by simp [hr], by simp [ht]⟩

theorem equal_src (fuel : Nat) : ∀ (l0 : List α) (s0 : Src α) (r : List (Src α)) (rounds : Nat),
    s0.rest = l0 → l0.length + 1 ≤ rounds →
    ∃ ss', equal src (fuel + 1) rounds (s0 :: r) = (some (equalL l0 (r.map (·.rest))).1, ss') ∧
      ss'.map (·.rest) = (equalL l0 (r.map (·.rest))).2 ∧ ss'.map tot = (s0 :: r).map tot := by
  have _tie := Skeleton.Tie.itEqual
  intro l0
  induction l0 with
  | nil =>
    intro s0 r rounds h0 hr
    obtain ⟨k, rfl⟩ : ∃ k, rounds = k + 1 := ⟨rounds - 1, by omega⟩
    obtain ⟨s', hd, hr', ht⟩ := drive_src fuel s0
    obtain ⟨r', hr1, hr2, hr3⟩ := equalRound_src fuel (none : Option α) r
    rw [h0] at hd hr'
    rw [equal_succ, hd]
    simp only [List.head?_nil, hr1, equalL]
    cases (equalRoundL (none : Option α) (r.map (·.rest))).1 <;>
      exact ⟨s' :: r', by simp, by simp [hr', hr2], by simp [ht, hr3]⟩
  | cons a l0 ih =>
    intro s0 r rounds h0 hr
    obtain ⟨k, rfl⟩ : ∃ k, rounds = k + 1 := ⟨rounds - 1, by omega⟩
    obtain ⟨s', hd, hr', ht⟩ := drive_src fuel s0
    obtain ⟨r', hr1, hr2, hr3⟩ := equalRound_src fuel (some a) r
    rw [h0] at hd hr'
    rw [equal_succ, hd]
    simp only [List.head?_cons, hr1, equalL]
    cases hb : (equalRoundL (some a) (r.map (·.rest))).1 with
    | true =>
      simp only [Option.isNone_some, Bool.false_eq_true, if_false, if_true]
      obtain ⟨ss', h1, h2, h3⟩ := ih s' r' k (by simpa using hr') (by simp at hr; omega)
      rw [hr2] at h1 h2
      exact ⟨ss', h1, h2, by rw [h3]; simp [ht, hr3]⟩
    | false =>
      simp only [Bool.false_eq_true, if_false]
      exact ⟨s' :: r', rfl, by simp [hr', hr2], by simp [ht, hr3]⟩

theorem equalRoundL_all (x : Option α) (ls : List (List α)) (h : ∀ l ∈ ls, l.head? = x) :
    equalRoundL x ls = (true, ls.map List.tail) := by
  induction ls with
  | nil => rfl
  | cons l ls ih =>
    have := ih (fun l' hl' => h l' (by simp [hl']))
    simp [equalRoundL, h l (by simp), this]

end Juniper.Proofs.IterDen
