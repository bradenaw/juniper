import Juniper.Proofs.TreeNodeOps
import Juniper.Proofs.TreeOrder
/-!
# `Put`: balance, node identities and refinement of the sorted-list `sput` (C01, C03)

The search for `k` in a node either stops at an equivalent entry (`toList_at_sep'`) or descends into child `i`
(`at_child`: the node's list is `P ++ toList c ++ S` with `P` below `k` and `S` starting above it); the scans
`sput` / `serase` / `sget` pass through such a context (`sput_mid` …). `ins_spec` follows `ins` once and gives, case by
case, the balance of the result, its identities and its contents.
-/
namespace Juniper.Proofs.Tree
open Juniper.Model.BTree Juniper.Gen.Tree

variable {K V : Type} {cmp : K → K → Int}

theorem at_child (hc : StrictWeak cmp) {k : K} {id : Nat} {kvs : List (K × V)} {kids : List (Node K V)}
    {i : Nat} {c : Node K V} (hlen : kids.length = kvs.length + 1) (hcc : kids[i]? = some c)
    (hs : searchNode cmp k kvs = (i, false)) (hsort : Sorted cmp (toList (.mk id kvs kids))) :
    ∃ P S, (∀ a ∈ P, 0 < cmp k a.1) ∧ StartsAbove cmp k S ∧ Sorted cmp (toList c) ∧
      toList (.mk id kvs kids) = P ++ toList c ++ S ∧
      (∀ c', toList (.mk id kvs (replaceAt kids i c')) = P ++ toList c' ++ S) ∧
      ∀ l sep r, toList (.mk id (insertAt kvs i sep) (insertAt (replaceAt kids i l) (i + 1) r)) =
        P ++ (toList l ++ sep :: toList r) ++ S := by
  obtain ⟨b1, b2, _⟩ := search_bounds cmp k kvs hs
  have hi : i < kids.length := (List.getElem?_eq_some_iff.mp hcc).1
  rw [toList_at_child_self hlen hcc] at hsort
  refine ⟨_, _, pre_below hc (List.pairwise_append.mp (List.pairwise_append.mp hsort).1).1 b1,
    fun b hb => b2 rfl b (rest_head _ _ ▸ hb), Sorted.mid hsort, toList_at_child_self hlen hcc, toList_at_child hlen hcc, fun l sep r => ?_⟩
  rw [insertAt_replaceAt kids i l r hi, insertAt]
  exact toList_pair (by simp; omega) l r sep _ _ id

theorem setVal_eq {kvs : List (K × V)} {i : Nat} {kv : K × V} (h : kvs[i]? = some kv) (v : V) :
    setVal kvs i v = kvs.take i ++ (kv.1, v) :: kvs.drop (i + 1) := by
  unfold setVal
  rw [drop_one h]

theorem leaf_sget (cmp : K → K → Int) (k : K) (kvs : List (K × V)) {i : Nat}
    (hs : searchNode cmp k kvs = (i, false)) : sget cmp k kvs = none := by
  obtain ⟨h1, h2, _⟩ := search_bounds cmp k kvs hs
  have := sget_mid (M := []) h1 (h2 rfl)
  rwa [List.append_nil, List.take_append_drop] at this

theorem leaf_put (cmp : K → K → Int) (k : K) (v : V) (kvs : List (K × V)) {i : Nat}
    (hs : searchNode cmp k kvs = (i, false)) :
    sput cmp k v kvs = insertAt kvs i (k, v) ∧ lowerIdx insertLess cmp k kvs = i ∧
      lowerIdx amalgamLess cmp k kvs = i := by
  obtain ⟨h1, h2, _⟩ := search_bounds cmp k kvs hs
  have hi := searchNode_le hs
  refine ⟨?_, lowerIdx_lt (fun _ => rfl) hi h1 (h2 rfl), lowerIdx_lt (fun _ => rfl) hi h1 (h2 rfl)⟩
  have := sput_mid (M := []) (v := v) h1 (h2 rfl)
  rw [List.append_nil, List.take_append_drop] at this
  rw [this]; simp [sput, insertAt]

def resCnt (i : Nat) : InsRes K V → Nat
  | .crash => 0
  | .found x' => cnt i x'
  | .one x' => cnt i x'
  | .split l _ r => cnt i l + cnt i r

def skel : Node K V → Node K Unit
  | .mk id kvs kids => .mk id (kvs.map fun kv => (kv.1, ())) (kids.map skel)

theorem skel_mk (id : Nat) (kvs : List (K × V)) (kids : List (Node K V)) :
    skel (.mk id kvs kids) = .mk id (kvs.map fun kv => (kv.1, ())) (kids.map skel) := skel.eq_1 id kvs kids

theorem skel_id {x x' : Node K V} (h : skel x' = skel x) : x'.id = x.id := by
  obtain ⟨id, kvs, kids⟩ := x
  obtain ⟨id', kvs', kids'⟩ := x'
  rw [skel_mk, skel_mk] at h
  exact (Node.mk.inj h).1

theorem skel_n {x x' : Node K V} (h : skel x' = skel x) : x'.n = x.n := by
  obtain ⟨id, kvs, kids⟩ := x
  obtain ⟨id', kvs', kids'⟩ := x'
  rw [skel_mk, skel_mk] at h
  have := congrArg List.length (Node.mk.inj h).2.1
  simp only [List.length_map] at this
  show ((kvs'.length : Nat) : Int) = kvs.length
  rw [this]

/-- the outcome of `ins` on a balanced node `x`, the second component being the next fresh identity: no nil
dereference; the result is balanced, under the identity of `x` (an overwrite keeps the whole skeleton) -/
def InsOK (h : Nat) (x : Node K V) (fresh : Nat) : InsRes K V × Nat → Prop
  | (.crash, _) => False
  | (.found x', f) => Bal h x' ∧ skel x' = skel x ∧ f = fresh
  | (.one x', _) => Bal h x' ∧ x.n ≤ x'.n ∧ x'.n ≤ x.n + 1 ∧ x'.n ≤ maxKVs ∧ x'.id = x.id
  | (.split l _ r, _) => Bal h l ∧ Bal h r ∧ Occ l ∧ Occ r ∧ l.id = x.id

def InsSpec (cmp : K → K → Int) (k : K) (v : V) (x : Node K V) : InsRes K V → Prop
  | .crash => True
  | .found x' => toList x' = sput cmp k v (toList x) ∧ (sget cmp k (toList x)).isSome = true
  | .one x' => toList x' = sput cmp k v (toList x) ∧ sget cmp k (toList x) = none
  | .split l sep r => toList l ++ sep :: toList r = sput cmp k v (toList x) ∧ sget cmp k (toList x) = none

structure InsAll (cmp : K → K → Int) (k : K) (v : V) (h : Nat) (x : Node K V) (fresh : Nat) (r : InsRes K V × Nat) :
    Prop where
  ok : InsOK h x fresh r
  le : fresh ≤ r.2
  cnt : ∀ i, resCnt i r.1 = cnt i x + isNew fresh r.2 i
  spec : StrictWeak cmp → Sorted cmp (toList x) → InsSpec cmp k v x r.1

/-- the separator that comes up from a split child is `k` or a key of that child, so the amalgam puts it
where the child was -/
theorem lowerIdx_sep (hc : StrictWeak cmp) {k : K} {v : V} {id : Nat} {kvs : List (K × V)} {kids : List (Node K V)}
    {i : Nat} {c l r : Node K V} {sep : K × V} (hlen : kids.length = kvs.length + 1) (hcc : kids[i]? = some c)
    (hs : searchNode cmp k kvs = (i, false)) (hsort : Sorted cmp (toList (.mk id kvs kids)))
    (hsp : toList l ++ sep :: toList r = sput cmp k v (toList c)) : lowerIdx amalgamLess cmp sep.1 kvs = i := by
  obtain ⟨b1, b2, _⟩ := search_bounds cmp k kvs hs
  have hi : i < kids.length := (List.getElem?_eq_some_iff.mp hcc).1
  apply lowerIdx_lt (fun _ => rfl) (by omega)
  all_goals rcases key_mem_sput (show sep ∈ sput cmp k v (toList c) by rw [← hsp]; simp) with hk | ⟨b, hb, hk⟩
  · rw [hk]; exact b1
  · rw [toList_at_child_self hlen hcc] at hsort
    have h2 := (List.pairwise_append.mp (List.pairwise_append.mp hsort).1).2.2
    intro y hy
    rw [← hk]
    exact hc.gt_iff.mpr (h2 y (mem_pre_of_sep (by simp; omega) hy) b hb)
  · rw [hk]; exact b2 rfl
  · rw [toList_at_child_self hlen hcc] at hsort
    intro b' hb'
    rw [← hk]
    refine (List.pairwise_append.mp hsort).2.2 b (List.mem_append_right _ hb) b' (List.mem_of_head? ?_)
    rw [rest_head]; simpa using hb'

/-- what an inner node makes of the outcome of `ins` below its child `i` -/
def insUp (cmp : K → K → Int) (id : Nat) (kvs : List (K × V)) (kids : List (Node K V)) (i : Nat) :
    InsRes K V × Nat → InsRes K V × Nat
  | (.crash, f) => (.crash, f)
  | (.found c', f) => (.found (.mk id kvs (replaceAt kids i c')), f)
  | (.one c', f) => (.one (.mk id kvs (replaceAt kids i c')), f)
  | (.split l sep r, f) =>
    if overfillParentHasRoom (full kvs.length) then
      (.one (.mk id (insertAt kvs (parentSepIdx i).toNat sep)
        (insertAt (replaceAt kids i l) (parentRightIdx i).toNat r)), f)
    else
      let s := overfillNode cmp id kvs (replaceAt kids i l) sep (some r) f
      (.split s.1 s.2.1 s.2.2, f + 1)

theorem ins_inner (cmp : K → K → Int) (k : K) (v : V) {id i : Nat} {kvs : List (K × V)} {kids : List (Node K V)}
    {c : Node K V} (fresh : Nat) (hs : searchNode cmp k kvs = (i, false)) (hne : kids ≠ []) (hc : kids[i]? = some c) :
    ins cmp k v (.mk id kvs kids) fresh = insUp cmp id kvs kids i (ins cmp k v c fresh) := by
  have he : kids.isEmpty = false := by simpa using hne
  rw [ins]
  simp only [hs, he, Bool.false_eq_true, if_false]
  split
  · next h => rw [hc] at h; cases h
  · next c' h =>
    obtain rfl : c = c' := Option.some.inj (hc.symm.trans h)
    unfold insUp
    rfl

theorem ins_spec (cmp : K → K → Int) (k : K) (v : V) (x : Node K V) (fresh : Nat) :
    ∀ h, Bal h x → x.n ≤ maxKVs → InsAll cmp k v h x fresh (ins cmp k v x fresh) := by
  fun_induction ins cmp k v x fresh with
  | case1 id kvs kids i hs =>
    intro h hb hn
    refine ⟨⟨?_, by rw [skel_mk, skel_mk, map_fst_setVal], rfl⟩, Nat.le_refl _, fun j => ?_, fun hc hsort => ?_⟩
    · rcases bal_cases.mp hb with ⟨rfl, rfl⟩ | ⟨h', rfl, hlen, hall⟩
      · exact bal_zero.mpr rfl
      · exact bal_succ.mpr ⟨by rw [length_setVal]; exact hlen, hall⟩
    · simp only [resCnt, cnt_mk, isNew_self, Nat.add_zero]
    · obtain ⟨kv, hkv, he⟩ := (search_bounds cmp k kvs hs).2.2 rfl
      have hi : i < kvs.length := (List.getElem?_eq_some_iff.mp hkv).1
      rw [toList_at_sep_self (bal_kids hb) hkv] at hsort
      simp only [InsSpec]
      rw [setVal_eq hkv, toList_at_sep' (bal_kids hb) hi, toList_at_sep_self (bal_kids hb) hkv,
        sput_at_sep hc hsort he, sget_at_sep hc hsort he]
      exact ⟨rfl, rfl⟩
  | case2 id kvs kids i hs hleaf hroom =>
    intro h hb hn
    obtain rfl : kids = [] := List.isEmpty_iff.mp hleaf
    have hroom := (putInsertsDirect_iff _).mp hroom
    simp only [node_n] at hn
    refine ⟨?_, Nat.le_refl _, fun j => ?_, fun hc hsort => ?_⟩
    · simp only [InsOK, node_n, length_insertAt]
      exact ⟨bal_leaf_iff.mpr (bal_leaf_iff.mp hb), by omega, by omega, by omega, rfl⟩
    · simp only [resCnt, cnt_mk, isNew_self, Nat.add_zero]
    · obtain ⟨e1, e2, _⟩ := leaf_put cmp k v kvs hs
      simp only [InsSpec, toList_leaf, e1, e2, leaf_sget cmp k kvs hs, and_self]
  | case3 id kvs kids i hs hleaf hroom =>
    intro h hb hn
    obtain rfl : kids = [] := List.isEmpty_iff.mp hleaf
    have hfull : (kvs.length : Int) = maxKVs := by simpa [putInsertsDirect_iff] using hroom
    have sp := overfill_spec cmp id kvs [] (k, v) none fresh hfull (Or.inl ⟨rfl, rfl⟩)
    obtain ⟨hbl, hbr⟩ := sp.bal (h := h) (bal_leaf_iff.mpr (bal_leaf_iff.mp hb))
    refine ⟨⟨hbl, hbr, sp.occL, sp.occR, sp.idL⟩, by simp only; omega,
      fun j => ?_, fun hc hsort => ?_⟩
    · simp only [resCnt]
      rw [sp.cnt j, isNew_succ (Nat.le_refl _), isNew_self]
      simp only [amalgam, cnt_mk, cntK_nil]; omega
    · obtain ⟨e1, _, e3⟩ := leaf_put cmp k v kvs hs
      simp only [InsSpec, toList_leaf]
      rw [sp.list]
      simp only [amalgam, e3, e1, leaf_sget cmp k kvs hs, toList_leaf, and_self]
  | case4 id kvs kids i hs hinner hnone =>
    intro h hb hn
    exact absurd hnone (bal_has_child hb (by simpa using hinner) hs)
  | case5 id kvs kids i hs hinner c hcc f hres ih =>
    intro h hb hn
    obtain ⟨h', rfl, hlen, hall, hbc, hoc⟩ := bal_child hb hcc
    have := (ih h' hbc hoc.2).ok
    rw [hres] at this; exact this.elim
  | case6 id kvs kids i hs hinner c hcc c' f hres ih =>
    intro h hb hn
    obtain ⟨h', rfl, hlen, hall, hbc, hoc⟩ := bal_child hb hcc
    have := ih h' hbc hoc.2
    rw [hres] at this
    obtain ⟨⟨hb', hsk, hf⟩, i1, i2, ihs⟩ := this
    have hn' := skel_n hsk
    refine ⟨⟨bal_replace_child hb hcc hb' (by simp only [Occ] at hoc ⊢; omega), ?_, hf⟩, i1, fun j => ?_,
      fun hc hsort => ?_⟩
    · rw [skel_mk, skel_mk]
      conv => rhs; rw [split_at_getElem? hcc]
      simp [replaceAt, hsk]
    · have := i2 j
      simp only [resCnt] at this ⊢
      rw [cnt_mk, cnt_mk, cntK_replaceAt, cntK_at hcc j, this]; omega
    · obtain ⟨P, S, hP, hS, hsc, e0, e1, _⟩ := at_child hc hlen hcc hs hsort
      have := ihs hc hsc
      simp only [InsSpec] at this ⊢
      rw [e1, e0, sput_mid hP hS, sget_mid hP hS, this.1]
      exact ⟨rfl, this.2⟩
  | case7 id kvs kids i hs hinner c hcc c' f hres ih =>
    intro h hb hn
    obtain ⟨h', rfl, hlen, hall, hbc, hoc⟩ := bal_child hb hcc
    have := ih h' hbc hoc.2
    rw [hres] at this
    obtain ⟨⟨hb', hn1, hn2, hmax, -⟩, i1, i2, ihs⟩ := this
    refine ⟨⟨bal_replace_child hb hcc hb' (by simp only [Occ] at hoc ⊢; omega), by simp only [node_n] at hn ⊢; omega,
      by simp only [node_n] at hn ⊢; omega, by simp only [node_n] at hn ⊢; omega, rfl⟩, i1, fun j => ?_, fun hc hsort => ?_⟩
    · have := i2 j
      simp only [resCnt] at this ⊢
      rw [cnt_mk, cnt_mk, cntK_replaceAt, cntK_at hcc j, this]; omega
    · obtain ⟨P, S, hP, hS, hsc, e0, e1, _⟩ := at_child hc hlen hcc hs hsort
      have := ihs hc hsc
      simp only [InsSpec] at this ⊢
      rw [e1, e0, sput_mid hP hS, sget_mid hP hS, this.1]
      exact ⟨rfl, this.2⟩
  | case8 id kvs kids i hs hinner c hcc l sep r f hres kids1 hroom ih =>
    intro h hb hn
    obtain ⟨h', rfl, hlen, hall, hbc, hoc⟩ := bal_child hb hcc
    have := ih h' hbc hoc.2
    rw [hres] at this
    obtain ⟨⟨hbl, hbr, hol, hor, -⟩, i1, i2, ihs⟩ := this
    have hroom := (overfillParentHasRoom_iff _).mp hroom
    simp only [node_n] at hn
    refine ⟨⟨bal_insert (bal_replace_child hb hcc hbl hol) ⟨hbr, hor⟩ _ _ _, by simp only [node_n, length_insertAt]; omega,
      by simp only [node_n, length_insertAt]; omega, by simp only [node_n, length_insertAt]; omega, rfl⟩,
      i1, fun j => ?_, fun hc hsort => ?_⟩
    · have := i2 j
      simp only [resCnt] at this ⊢
      rw [cnt_mk, cnt_mk, cntK_insertAt, show kids1 = replaceAt kids i l from rfl, cntK_replaceAt, cntK_at hcc j]; omega
    · obtain ⟨P, S, hP, hS, hsc, e0, _, e2⟩ := at_child hc hlen hcc hs hsort
      have := ihs hc hsc
      simp only [InsSpec] at this ⊢
      have i1 : (parentSepIdx (i : Int)).toNat = i := by simp [parentSepIdx]
      have i2 : (parentRightIdx (i : Int)).toNat = i + 1 := by simp [parentRightIdx]
      rw [i1, i2, e2, e0, sput_mid hP hS, sget_mid hP hS, this.1]
      exact ⟨rfl, this.2⟩
  | case9 id kvs kids i hs hinner c hcc l sep r f hres kids1 hroom s ih =>
    intro h hb hn
    obtain ⟨h', rfl, hlen, hall, hbc, hoc⟩ := bal_child hb hcc
    have := ih h' hbc hoc.2
    rw [hres] at this
    obtain ⟨⟨hbl, hbr, hol, hor, -⟩, i1, i2, ihs⟩ := this
    have hfull : (kvs.length : Int) = maxKVs := by simpa [overfillParentHasRoom_iff] using hroom
    have hil : i < kids.length := (List.getElem?_eq_some_iff.mp hcc).1
    have hkl : (replaceAt kids i l).length = kvs.length + 1 := by rw [length_replaceAt _ _ _ hil]; exact hlen
    have sp : SplitOK _ f s := overfill_spec cmp id kvs (replaceAt kids i l) sep (some r) f hfull (Or.inr ⟨r, rfl, hkl⟩)
    obtain ⟨hb1, hb2⟩ := sp.bal (h := h' + 1) (bal_insert (bal_replace_child hb hcc hbl hol) ⟨hbr, hor⟩ _ _ _)
    refine ⟨⟨hb1, hb2, sp.occL, sp.occR, sp.idL⟩, by simp only; omega,
      fun j => ?_, fun hc hsort => ?_⟩
    · have := i2 j
      simp only [resCnt] at this ⊢
      rw [sp.cnt j]
      simp only [amalgam, cntK_insertAt, cntK_replaceAt, cnt_mk, cntK_at hcc j, isNew_succ i1]
      omega
    · obtain ⟨P, S, hP, hS, hsc, e0, _, e2⟩ := at_child hc hlen hcc hs hsort
      have := ihs hc hsc
      simp only [InsSpec] at this ⊢
      rw [sp.list]
      simp only [amalgam, lowerIdx_sep hc hlen hcc hs hsort this.1]
      rw [e2, e0, sput_mid hP hS, sget_mid hP hS, this.1]
      exact ⟨rfl, this.2⟩

/-- well-formedness of a tree: balanced and half-full (`BalTree`), strictly sorted in-order contents
(every key on exactly one search path), and `size` is the number of entries -/
structure WF (cmp : K → K → Int) (t : Tree K V) : Prop where
  bal : BalTree t
  sorted : Sorted cmp (toList t.root)
  size : t.size = (toList t.root).length

theorem wf_empty (cmp : K → K → Int) : WF cmp (Tree.empty : Tree K V) :=
  ⟨balTree_empty, by simp [Tree.empty, Sorted], by simp [Tree.empty]⟩

theorem put_spec (cmp : K → K → Int) (t : Tree K V) (k : K) (v : V) (hb : BalTree t) :
    ∃ t', put cmp t k v = some t' ∧ BalTree t' ∧ (IdsOK t → IdsOK t') ∧ (StrictWeak cmp → Sorted cmp (toList t.root) →
      toList t'.root = sput cmp k v (toList t.root) ∧
      t'.size = t.size + if (sget cmp k (toList t.root)).isSome then 0 else 1) := by
  obtain ⟨c1, c2, -⟩ := consts
  obtain ⟨h, hbal, hmax, hroot⟩ := hb
  have ha := ins_spec cmp k v t.root t.nextId h hbal hmax
  have hps : putBumpsSize = true := by decide
  unfold put
  rcases hres : ins cmp k v t.root t.nextId with ⟨res, f⟩
  rw [hres] at ha
  have hle : t.nextId ≤ f := ha.le
  have hcn : ∀ i, resCnt i res = cnt i t.root + isNew t.nextId f i := ha.cnt
  cases res with
  | crash => exact ha.ok.elim
  | found x' =>
    obtain ⟨hb', hsk, rfl⟩ := ha.ok
    have hn' := skel_n hsk
    refine ⟨_, rfl, ⟨h, hb', by simp only; omega, fun hh => by have := hroot hh; simp only; omega⟩,
      fun hi => idsOK_grow hi hle hcn, fun hc hs => ?_⟩
    obtain ⟨he, hg⟩ := ha.spec hc hs
    exact ⟨he, by simp [hg]⟩
  | one x' =>
    obtain ⟨hb', hn1, hn2, hm, -⟩ := ha.ok
    refine ⟨_, rfl, ⟨h, hb', hm, fun hh => by have := hroot hh; simp only; omega⟩,
      fun hi => idsOK_grow hi hle hcn, fun hc hs => ?_⟩
    obtain ⟨he, hg⟩ := ha.spec hc hs
    exact ⟨he, by simp [hps, hg]⟩
  | split l sep r =>
    obtain ⟨hbl, hbr, hol, hor, -⟩ := ha.ok
    refine ⟨_, rfl, ⟨h + 1, bal_succ.mpr ⟨rfl, fun c hc => ?_⟩, by simp only [node_n, List.length_singleton]; omega,
      fun _ => by simp [node_n]⟩, fun hi => idsOK_grow hi (Nat.le_succ_of_le hle) fun i => ?_, fun hc hs => ?_⟩
    · simp only [List.mem_cons, List.not_mem_nil, or_false] at hc
      rcases hc with rfl | rfl
      · exact ⟨hbl, hol⟩
      · exact ⟨hbr, hor⟩
    · -- the new root has the identity allocated last
      have := hcn i
      simp only [resCnt] at this
      rw [cnt_mk, cntK_cons, cntK_cons, cntK_nil, isNew_succ hle]
      omega
    · obtain ⟨he, hg⟩ := ha.spec hc hs
      exact ⟨by rw [← he, toList_mk]; simp [inorder, rest], by simp [hps, hg]⟩

theorem bal_put (cmp : K → K → Int) (t : Tree K V) (k : K) (v : V) (hb : BalTree t) :
    ∃ t', put cmp t k v = some t' ∧ BalTree t' := by
  obtain ⟨t', h1, h2, _⟩ := put_spec cmp t k v hb
  exact ⟨t', h1, h2⟩

theorem idsOK_put (cmp : K → K → Int) (t t' : Tree K V) (k : K) (v : V) (hb : BalTree t) (hi : IdsOK t)
    (hp : put cmp t k v = some t') : IdsOK t' := by
  obtain ⟨t'', h1, -, h2, -⟩ := put_spec cmp t k v hb
  cases hp.symm.trans h1
  exact h2 hi

theorem put_refines_wf (hc : StrictWeak cmp) (t : Tree K V) (k : K) (v : V) (hw : WF cmp t) :
    ∃ t', put cmp t k v = some t' ∧ WF cmp t' ∧ toList t'.root = sput cmp k v (toList t.root) ∧ (IdsOK t → IdsOK t') := by
  obtain ⟨t', hp, hb', hids, hr⟩ := put_spec cmp t k v hw.bal
  obtain ⟨he, hsz⟩ := hr hc hw.sorted
  refine ⟨t', hp, ⟨hb', by rw [he]; exact sorted_sput hc hw.sorted, ?_⟩, he, hids⟩
  rw [he, length_sput, hsz, hw.size]
  split <;> simp

end Juniper.Proofs.Tree
