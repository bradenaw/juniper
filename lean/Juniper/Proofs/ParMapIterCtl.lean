import Juniper.Proofs.ParMapIterStep
/-! Inductive invariants of the MapIterator LTS (`Model/ParMap.lean`, namespace `Iter`), part 1: per-index
placement, slot accounting (`inFlight`, the parked dispatcher), shutdown counters. -/

namespace Juniper.Proofs.ParMap.I
open Juniper.Gen Juniper.Facts Juniper.Model.ParMap Juniper.Model.ParMap.Iter Juniper.Proofs.ParMap
open Juniper.Proofs.ParMap.S (b2n b2n_true b2n_false icnt icnt_snoc icnt_pos_of_mem icnt_eraseP)

def isVal : NextRes → Bool
  | .val _ _ => true
  | _ => false
def isEnd : NextRes → Bool
  | .end => true
  | _ => false
def dSendIn : DPc → Bool
  | .sendIn _ => true
  | _ => false
def dHolding : DPc → Bool
  | .acquire _ => true
  | .checked _ => true
  | .parked _ => true
  | .sendIn _ => true
  | _ => false
def dParked : DPc → Bool
  | .parked _ => true
  | _ => false
/-- "checked, not yet parked": exists only without `sectionsAtomic` -/
def dChecked : DPc → Bool
  | .checked _ => true
  | _ => false
def dDone : DPc → Bool
  | .done => true
  | _ => false
def wDone : WPc → Bool
  | .done => true
  | _ => false
def wIdle : WPc → Bool
  | .idle => true
  | _ => false
def wActive : WPc → Bool
  | .inF _ => true
  | .sendCh _ _ => true
  | _ => false
def wHolds (k : Nat) : WPc → Bool
  | .inF j => j == k
  | .sendCh j _ => j == k
  | _ => false
def wInF (k : Nat) : WPc → Bool
  | .inF j => j == k
  | _ => false

theorem woken_eqs (b : Bool) (d : DPc) : dSendIn (woken b d) = dSendIn d ∧ dHolding (woken b d) = dHolding d ∧
    dChecked (woken b d) = dChecked d ∧ dDone (woken b d) = dDone d := by
  cases d <;> first | exact ⟨rfl, rfl, rfl, rfl⟩ | (cases b <;> exact ⟨rfl, rfl, rfl, rfl⟩)

theorem dParked_woken {b : Bool} {d : DPc} (h : dParked (woken b d) = true) : dParked d = true ∧ b = false := by
  cases d <;> first | (cases h; done) | (cases b <;> first | exact ⟨rfl, rfl⟩ | cases h)

theorem woken_holds {b : Bool} {d : DPc} {v : Nat}
    (h : woken b d = .acquire v ∨ woken b d = .checked v ∨ woken b d = .parked v ∨ woken b d = .sendIn v) :
    d = .acquire v ∨ d = .checked v ∨ d = .parked v ∨ d = .sendIn v := by
  cases d <;> first | exact h | (cases b <;> simp_all [woken])

def ecnt (k : Nat) (l : List (Nat × Nat)) : Nat := cnt (fun e => e.1 == k) l
@[simp] theorem ecnt_nil (k : Nat) : ecnt k [] = 0 := rfl
@[simp] theorem ecnt_snoc (k : Nat) (l : List (Nat × Nat)) (a : Nat × Nat) :
    ecnt k (l ++ [a]) = ecnt k l + b2n (a.1 == k) := cnt_snoc _ l a

abbrev PlaceInv (_cfg : Cfg) (s : St) : Prop :=
  Placed wHolds wInF s.ws s.i s.dispI (fun k => icnt k s.heap) (fun k => ecnt k s.fEnded) s.fBegun

theorem placeInv_init (cfg : Cfg) : PlaceInv cfg (Iter.init cfg) := by
  refine ⟨?_, ?_, ?_⟩ <;> simp [Iter.init, wHolds, wInF]

theorem placeInv_step {cfg : Cfg} (hs : cfg.code.Sound) {s s' : St} {l : Label} (hi : PlaceInv cfg s)
    (h : Step cfg s l s') : PlaceInv cfg s' := by
  cases h with
  | dSend w v hd hw => exact hi.dispatch hw v (fun _ => rfl) (fun _ => rfl) (fun _ => rfl) (fun _ => rfl)
  | fRet w k v hw =>
    -- the worker still holds `k`; `f` has ended for it
    exact hi.move hw (fun _ => rfl) fun j => ecnt_snoc j _ _
  | wHandOff w k v hc hw hy hcl =>
    -- `k` moves from the worker into the reorder buffer
    exact hi.move hw (fun j => icnt_snoc j _ _) fun _ => rfl
  | wExitIdle w hw hin => exact hi.move hw (fun _ => rfl) fun _ => rfl
  | cYield k v hc hy hf =>
    obtain ⟨rfl, hm⟩ := popped_of_ready hs.nextReady hy hf
    exact hi.yield (icnt_eraseP hm)
  | _ => exact hi

structure CtlInv (cfg : Cfg) (s : St) : Prop where
  len : s.ws.length = numWorkers cfg
  slots : s.inFlight + s.i = s.dispI + b2n (dSendIn s.disp)
  inFlight_range : 0 ≤ s.inFlight ∧ s.inFlight ≤ buf cfg
  parked_full : dParked s.disp = true → s.inFlight = buf cfg
  /-- the lock sections are atomic (`Code.Sound.sectionsAtomic`): the dispatcher is never between its check
  and its parking -/
  noChecked : dChecked s.disp = false
  taken : s.srcItems.length = s.dispI + b2n (dHolding s.disp)
  yielded : s.i = cnt isVal s.results
  inClosed_eq : s.inClosed = dDone s.disp
  srcEnded_eq : s.srcEnded = dDone s.disp
  lastCloses : LastCloses wDone s.ws s.nDone (numWorkers cfg) s.chClosed
  done_closed : 0 < cnt wDone s.ws → s.inClosed = true

theorem ctlInv_init (cfg : Cfg) (hs : cfg.code.Sound) (hg : 1 ≤ cfg.gmp) : CtlInv cfg (Iter.init cfg) := by
  have := numWorkers_cast hs hg
  have := buf_pos hs hg
  refine ⟨?_, ?_, ?_, ?_, ?_, ?_, ?_, ?_, ?_, ⟨?_, ?_⟩, ?_⟩ <;>
    simp [Iter.init, dSendIn, dParked, dChecked, dHolding, dDone, wDone] <;> omega

theorem ctlInv_step {cfg : Cfg} (hs : cfg.code.Sound) (hg : 1 ≤ cfg.gmp) {s s' : St} {l : Label}
    (hp : PlaceInv cfg s) (hi : CtlInv cfg s) (h : Step cfg s l s') : CtlInv cfg s' := by
  obtain ⟨ilen, iSlots, iInFlightRange, iParkedFull, iNoChecked, iTaken, iYielded, iInClosedEq, iSrcEndedEq,
    iLastCloses, iDoneClosed⟩ := hi
  have hn := numWorkers_cast hs hg
  cases h with
  | cYield k v hc hy hf =>
    obtain ⟨rfl, hm⟩ := popped_of_ready hs.nextReady hy hf
    -- the index popped has been dispatched
    have hlt : s.i < s.dispI := (hp.of_pending (Nat.lt_add_left _ (icnt_pos_of_mem hm))).2
    obtain ⟨w1, w2, w3, w4⟩ := woken_eqs (decide (s.inFlight - 1 = buf cfg - 1)) s.disp
    refine ⟨ilen, ?_, ?_, ?_, ?_, ?_, ?_, ?_, ?_, iLastCloses, iDoneClosed⟩
    · simp only [w1]; omega
    · show 0 ≤ s.inFlight - 1 ∧ s.inFlight - 1 ≤ buf cfg; omega
    · -- a dispatcher still parked after the yield was not signalled, yet the yield freed the last slot
      intro h
      obtain ⟨hp, hb⟩ := dParked_woken h
      have := iParkedFull hp
      simp only [decide_eq_false_iff_not] at hb
      omega
    · simp only [w3]; exact iNoChecked
    · simp only [w2]; exact iTaken
    · simp only [cnt_snoc, isVal, b2n_true]; omega
    · simp only [w4]; exact iInClosedEq
    · simp only [w4]; exact iSrcEndedEq
  | dPull hd =>
    rw [hd] at iSlots iParkedFull iNoChecked iTaken iInClosedEq iSrcEndedEq
    exact ⟨ilen, iSlots, iInFlightRange, iParkedFull, iNoChecked, iTaken, iYielded, iInClosedEq, iSrcEndedEq,
      iLastCloses, iDoneClosed⟩
  | srcItem v hd =>
    rw [hd] at iSlots iParkedFull iNoChecked iTaken iInClosedEq iSrcEndedEq
    exact ⟨ilen, iSlots, iInFlightRange, (fun h => by cases h), rfl, (by rw [List.length_append, iTaken]; rfl),
      iYielded, iInClosedEq, iSrcEndedEq, iLastCloses, iDoneClosed⟩
  | srcEnd hd =>
    rw [hd] at iSlots iParkedFull iNoChecked iTaken iInClosedEq iSrcEndedEq
    exact ⟨ilen, iSlots, iInFlightRange, (fun h => by cases h), rfl, iTaken, iYielded, rfl, rfl, iLastCloses, fun _ => rfl⟩
  | dParks v hd hf =>
    -- it parks because the buffer is full
    rw [hd] at iSlots iParkedFull iNoChecked iTaken iInClosedEq iSrcEndedEq
    exact ⟨ilen, iSlots, iInFlightRange, (fun _ => show s.inFlight = buf cfg by omega), rfl, iTaken, iYielded,
      iInClosedEq, iSrcEndedEq, iLastCloses, iDoneClosed⟩
  | dAcquire v hd hf =>
    rw [hd] at iSlots iParkedFull iNoChecked iTaken iInClosedEq iSrcEndedEq
    refine ⟨ilen, ?_, ?_, (fun h => by cases h), rfl, iTaken, iYielded, iInClosedEq, iSrcEndedEq, iLastCloses, iDoneClosed⟩
    · show s.inFlight + 1 + s.i = s.dispI + b2n true
      simp only [dSendIn, b2n_true, b2n_false] at iSlots ⊢; omega
    · show 0 ≤ s.inFlight + 1 ∧ s.inFlight + 1 ≤ buf cfg; omega
  | dSend w v hd hw =>
    rw [hd] at iSlots iParkedFull iNoChecked iTaken iInClosedEq iSrcEndedEq
    refine ⟨(by rw [List.length_set]; exact ilen), ?_, iInFlightRange, (fun h => by cases h), rfl, ?_, iYielded,
      iInClosedEq, iSrcEndedEq, iLastCloses.keep hw rfl, fun h => iDoneClosed (Nat.lt_of_lt_of_eq h (cnt_set_same hw rfl))⟩
    · show s.inFlight + s.i = (s.dispI + 1 : Nat) + b2n false
      simp only [dSendIn, b2n_true, b2n_false] at iSlots ⊢; omega
    · show s.srcItems.length = s.dispI + 1 + b2n false
      simp only [dHolding, b2n_true, b2n_false] at iTaken ⊢; omega
  | fRet w k v hw | wHandOff w k v hc hw hy hcl =>
    exact ⟨(by rw [List.length_set]; exact ilen), iSlots, iInFlightRange, iParkedFull, iNoChecked, iTaken, iYielded,
      iInClosedEq, iSrcEndedEq, iLastCloses.keep hw rfl, fun h => iDoneClosed (Nat.lt_of_lt_of_eq h (cnt_set_same hw rfl))⟩
  | wExitIdle w hw hin =>
    exact ⟨(by rw [List.length_set]; exact ilen), iSlots, iInFlightRange, iParkedFull, iNoChecked, iTaken, iYielded,
      iInClosedEq, iSrcEndedEq, iLastCloses.count ilen hw rfl rfl hn.1, fun _ => hin⟩
  | nextCall hc =>
    exact ⟨ilen, iSlots, iInFlightRange, iParkedFull, iNoChecked, iTaken, iYielded, iInClosedEq, iSrcEndedEq,
      iLastCloses, iDoneClosed⟩
  | cRecvClosed hc hy hcl =>
    exact ⟨ilen, iSlots, iInFlightRange, iParkedFull, iNoChecked, iTaken, (by rw [cnt_snoc]; exact iYielded),
      iInClosedEq, iSrcEndedEq, iLastCloses, iDoneClosed⟩

end Juniper.Proofs.ParMap.I
