import Juniper.Model.Merge
import Juniper.Proofs.LTS
import Juniper.Proofs.ListStore
/-! The LTS of `chans.Replicate`: the inductive invariant and the return once the source is closed and every
destination has everything; before that, a measure that every step of `Replicate` and of the destinations decreases
and only the producer's sends raise. -/
namespace Juniper.Proofs.Replicate
open Juniper.Model.Merge
variable {V : Type}

theorem facts : (Juniper.Gen.Merge.replSrc == "src") = true ∧
    (Juniper.Gen.Merge.replDsts == "dsts" && Juniper.Gen.Merge.replSends) = true := by decide +kernel

structure RInv (m : Nat) (s : RSt V) : Prop where
  hm : s.m = m
  len : s.outs.length = m
  conserve : ∀ j o, s.outs[j]? = some o → o ++ rOwed j s.pc ++ s.src.avail = s.src.sent
  sendingLt : ∀ v k, s.pc = .sending v k → k < m
  done : s.pc = .done → s.src.closed = true ∧ s.src.avail = []

theorem rinv_init (m : Nat) : RInv m (rinit V m) := by
  refine ⟨rfl, by simp [rinit], ?_, by simp [rinit], by simp [rinit]⟩
  intro j o ho
  simp [rinit, List.getElem?_replicate] at ho
  obtain ⟨_, rfl⟩ := ho
  simp [rinit, rOwed]

theorem rstep_envSend {s s' : RSt V} {v : V} (h : rstep s (.envSend v) = some s') :
    s.src.closed = false ∧
    s' = { s with src := { s.src with avail := s.src.avail ++ [v], sent := s.src.sent ++ [v] } } := by
  unfold rstep at h
  simp only at h
  split at h
  · cases h
  · rename_i hcl; cases h; exact ⟨by simpa using hcl, rfl⟩

theorem rstep_envClose {s s' : RSt V} (h : rstep s .envClose = some s') :
    s.src.closed = false ∧ s' = { s with src := { s.src with closed := true } } := by
  unfold rstep at h
  simp only at h
  split at h
  · cases h
  · rename_i hcl; cases h; exact ⟨by simpa using hcl, rfl⟩

theorem rstep_recv {s s' : RSt V} (h : rstep s .recv = some s') :
    s.pc = .top ∧
    ((∃ v rest, s.src.avail = v :: rest ∧
        s' = (if 0 < s.m then { s with src := { s.src with avail := rest }, pc := .sending v 0 }
              else { s with src := { s.src with avail := rest } })) ∨
     (s.src.avail = [] ∧ s.src.closed = true ∧ s' = { s with pc := .done })) := by
  unfold rstep at h
  simp only [facts.1, facts.2, if_true, Bool.true_and] at h
  split at h
  · rename_i hp
    refine ⟨hp, ?_⟩
    split at h
    · rename_i v rest hav
      left; refine ⟨v, rest, hav, ?_⟩
      split at h
      · rename_i hm
        simp at hm; simp at h; simp [hm, ← h]
      · rename_i hm
        simp at hm; simp at h; simp [hm, ← h]
    · rename_i hav
      split at h
      · rename_i hcl; right; simp at h; exact ⟨hav, hcl, h.symm⟩
      · simp at h
  · simp at h

theorem rstep_deliver {s s' : RSt V} (h : rstep s .deliver = some s') :
    ∃ v j o, s.pc = .sending v j ∧ s.outs[j]? = some o ∧
      s' = { s with outs := s.outs.set j (o ++ [v]), pc := rAfter s.m v j } := by
  unfold rstep at h
  simp only at h
  split at h
  · rename_i v j hp
    split at h
    · rename_i o ho
      simp at h; exact ⟨v, j, o, hp, ho, h.symm⟩
    · simp at h
  · simp at h

theorem rOwed_rAfter {m j j' : Nat} {v : V} (hj' : j' < m) :
    rOwed j' (rAfter m v j) = if j + 1 ≤ j' then [v] else [] := by
  unfold rAfter
  split
  · rfl
  · have : ¬ j + 1 ≤ j' := by omega
    simp [rOwed, this]

theorem rinv_step {m : Nat} {s s' : RSt V} {l : RLabel V} (hi : RInv m s)
    (h : rstep s l = some s') : RInv m s' := by
  have hm := hi.hm
  subst hm
  cases l with
  | envSend v =>
    obtain ⟨hcl, rfl⟩ := rstep_envSend h
    refine ⟨rfl, hi.len, ?_, hi.sendingLt, ?_⟩
    · intro j o ho
      have := hi.conserve j o ho
      simp [← this]
    · intro hd
      rw [(hi.done hd).1] at hcl; cases hcl
  | envClose =>
    obtain ⟨_, rfl⟩ := rstep_envClose h
    exact ⟨rfl, hi.len, hi.conserve, hi.sendingLt, fun hd => ⟨rfl, (hi.done hd).2⟩⟩
  | recv =>
    obtain ⟨hp, hcase⟩ := rstep_recv h
    rcases hcase with ⟨v, rest, hav, rfl⟩ | ⟨hav, hcl, rfl⟩
    · by_cases hm : 0 < s.m
      · simp only [hm, if_true]
        refine ⟨rfl, hi.len, ?_, ?_, by simp⟩
        · intro j o ho
          have := hi.conserve j o ho
          rw [hp, hav] at this
          simpa [rOwed] using this
        · intro w k hk
          simp at hk; omega
      · simp only [hm, if_false]
        refine ⟨rfl, hi.len, ?_, ?_, ?_⟩
        · intro j o ho
          have hj := ListStore.lt_of_getElem? ho
          rw [hi.len] at hj; omega
        · intro w k hk; exact hi.sendingLt w k hk
        · intro hd; rw [hp] at hd; cases hd
    · refine ⟨rfl, hi.len, ?_, by simp, fun _ => ⟨hcl, hav⟩⟩
      intro j o ho
      have := hi.conserve j o ho
      rw [hp] at this
      simpa [rOwed] using this
  | deliver =>
    obtain ⟨v, j, o, hp, ho, rfl⟩ := rstep_deliver h
    refine ⟨rfl, by simpa using hi.len, ?_, ?_, ?_⟩
    · intro j' o' ho'
      have hj' : j' < s.m := by simpa [hi.len] using ListStore.lt_of_getElem? ho'
      rw [rOwed_rAfter hj']
      rcases ListStore.getElem?_set_some ho' with ⟨rfl, rfl⟩ | ⟨hjj, ho'⟩
      · have := hi.conserve j o ho
        rw [hp] at this
        simp [rOwed] at this
        simp [← this]
      · have := hi.conserve j' o' ho'
        rw [hp] at this
        have e : (j + 1 ≤ j') = (j ≤ j') := propext ⟨fun h => by omega, fun h => by omega⟩
        simpa only [rOwed, e] using this
    · intro w k hk
      unfold rAfter at hk
      split at hk
      · simp at hk; omega
      · cases hk
    · intro hd
      unfold rAfter at hd
      split at hd <;> cases hd

theorem rreach_inv {m : Nat} {s : RSt V} (h : RReach (rinit V m) s) : RInv m s := by
  induction h with
  | refl => exact rinv_init m
  | step l _ hs ih => exact rinv_step ih hs

theorem rrecv_value_enabled {s : RSt V} (hp : s.pc = .top) {v : V} {rest : List V} (hav : s.src.avail = v :: rest) :
    rstep s .recv = some (if 0 < s.m then { s with src := { s.src with avail := rest }, pc := .sending v 0 }
                          else { s with src := { s.src with avail := rest } }) := by
  by_cases hm : 0 < s.m
  · simp [rstep, facts.1, facts.2, hp, hav, hm]
  · simp [rstep, facts.1, facts.2, hp, hav, hm]

theorem rrecv_close_enabled {s : RSt V} (hp : s.pc = .top) (hav : s.src.avail = []) (hcl : s.src.closed = true) :
    rstep s .recv = some { s with pc := .done } := by
  simp [rstep, facts.1, hp, hav, hcl]

def RAllDone (s : RSt V) : Prop :=
  s.src.closed = true ∧ s.src.avail = [] ∧ ∀ (j : Nat) (o : List V), s.outs[j]? = some o → o = s.src.sent

theorem rprogress {m : Nat} {s : RSt V} (hi : RInv m s) (ha : RAllDone s) (hnd : s.pc ≠ .done) :
    ∃ s', rstep s .recv = some s' ∧ s'.pc = .done := by
  obtain ⟨hcl, hav, hall⟩ := ha
  have hp : s.pc = .top := by
    cases hp : s.pc with
    | top => rfl
    | done => exact absurd hp hnd
    | sending v k =>
      have hk := hi.sendingLt v k hp
      have hlen : k < s.outs.length := by rw [hi.len]; exact hk
      have ho : s.outs[k]? = some s.outs[k] := List.getElem?_eq_getElem hlen
      have h1 := hi.conserve k _ ho
      have h2 := hall k _ ho
      rw [hp, hav] at h1
      simp [rOwed] at h1
      rw [← h2] at h1
      have := congrArg List.length h1
      simp at this
  exact ⟨_, rrecv_close_enabled hp hav hcl, rfl⟩

theorem isRun : LTS.IsRun (rstep (V := V)) rrun :=
  ⟨fun _ => rfl, fun s l ls => by simp only [rrun]; cases rstep s l <;> rfl⟩

theorem rreach_of_run {s0 s : RSt V} : ∀ (ls : List (RLabel V)) {s1 : RSt V}, RReach s0 s1 →
    rrun s1 ls = some s → RReach s0 s :=
  fun _ _ h hr => isRun.reach (fun h hs => .step _ h hs) h hr

theorem exists_rreach_of_run {s0 : RSt V} {P : RSt V → Prop} (ls : List (RLabel V))
    (h : ∃ s, s ∈ rrun s0 ls ∧ P s) : ∃ s, RReach s0 s ∧ P s :=
  isRun.exists_reach (fun h hs => .step _ h hs) .refl ls h

def rIsEnvInput : RLabel V → Bool
  | .envSend _ => true
  | .envClose => true
  | _ => false

def rpcW (m : Nat) : RPc V → Nat
  | .sending _ j => (m - j) + 1
  | .top => 1
  | .done => 0

/-- `m + 1` per receivable value of the source (one receive, `m` hand-offs) plus the hand-offs still owed of
the value being fanned out. -/
def rmu (s : RSt V) : Nat := (s.m + 1) * s.src.avail.length + rpcW s.m s.pc

theorem sending_only_deliver {m : Nat} {s : RSt V} (hi : RInv m s) {v : V} {j : Nat} (hp : s.pc = .sending v j) :
    (∃ o, s.outs[j]? = some o ∧
      rstep s .deliver = some { s with outs := s.outs.set j (o ++ [v]), pc := rAfter s.m v j }) ∧
    rstep s .recv = none := by
  have hj := hi.sendingLt v j hp
  have hlen : j < s.outs.length := by rw [hi.len]; exact hj
  have ho : s.outs[j]? = some s.outs[j] := List.getElem?_eq_getElem hlen
  exact ⟨⟨_, ho, by simp [rstep, hp, ho]⟩, by simp [rstep, hp]⟩

theorem rmu_step {m : Nat} {s s' : RSt V} {l : RLabel V} (hi : RInv m s) (h : rstep s l = some s') :
    (rIsEnvInput l = false → rmu s' < rmu s) ∧
    (∀ v, l = .envSend v → rmu s' = rmu s + (m + 1)) ∧ (l = .envClose → rmu s' = rmu s) := by
  have hm := hi.hm
  cases l with
  | envSend v =>
    obtain ⟨_, rfl⟩ := rstep_envSend h
    refine ⟨by simp [rIsEnvInput], fun _ _ => ?_, by simp⟩
    simp only [rmu, List.length_append, List.length_cons, List.length_nil]
    rw [Nat.mul_add]; omega
  | envClose =>
    obtain ⟨_, rfl⟩ := rstep_envClose h
    exact ⟨by simp [rIsEnvInput], by simp, fun _ => rfl⟩
  | recv =>
    refine ⟨fun _ => ?_, by simp, by simp⟩
    obtain ⟨hp, hcase⟩ := rstep_recv h
    rcases hcase with ⟨v, rest, hav, rfl⟩ | ⟨hav, hcl, rfl⟩
    · by_cases hm : 0 < s.m
      · simp only [hm, if_true, rmu, hp, hav, rpcW, List.length_cons]
        rw [Nat.mul_succ]; omega
      · simp only [hm, if_false, rmu, hp, hav, rpcW, List.length_cons]
        rw [Nat.mul_succ]; omega
    · simp [rmu, hp, rpcW]
  | deliver =>
    refine ⟨fun _ => ?_, by simp, by simp⟩
    obtain ⟨v, j, o, hp, ho, rfl⟩ := rstep_deliver h
    have hj := hi.sendingLt v j hp
    by_cases hlast : j + 1 < s.m
    · simp only [rmu, hp, rpcW, rAfter, hlast, if_true]; omega
    · simp only [rmu, hp, rpcW, rAfter, hlast, if_false]; omega

theorem rrun_rmu {m : Nat} (ls : List (RLabel V)) {s s' : RSt V} (hi : RInv m s)
    (h : rrun s ls = some s') (hl : ∀ l ∈ ls, rIsEnvInput l = false) : ls.length + rmu s' ≤ rmu s :=
  (Replicate.isRun.measure (P := RInv m) (fun hi hl h => ⟨(rmu_step hi h).1 hl, rinv_step hi h⟩) h hl hi).1

theorem fanout {m : Nat} : ∀ (d : Nat) (s : RSt V) (v : V) (j : Nat), RInv m s → s.pc = .sending v j → m - j = d →
    ∃ s', rrun s (List.replicate d .deliver) = some s' ∧ s'.pc = .top ∧ s'.src = s.src ∧
      s'.outs.length = s.outs.length ∧
      ∀ (j' : Nat) (o : List V), s.outs[j']? = some o → s'.outs[j']? = some (if j ≤ j' then o ++ [v] else o)
  | 0, s, v, j, hi, hp, hd => by
    have := hi.sendingLt v j hp
    omega
  | d + 1, s, v, j, hi, hp, hd => by
    obtain ⟨⟨o, ho, hst⟩, _⟩ := sending_only_deliver hi hp
    have hm := hi.hm
    by_cases hlast : j + 1 < m
    · have hp1 : ({ s with outs := s.outs.set j (o ++ [v]), pc := rAfter s.m v j } : RSt V).pc = .sending v (j + 1) := by
        simp [rAfter, hm, hlast]
      obtain ⟨s', hrun, hpc, hsrc, hlen, houts⟩ := fanout d _ v (j + 1) (rinv_step hi hst) hp1 (by omega)
      refine ⟨s', Replicate.isRun.cons_eq_some.mpr ⟨_, hst, hrun⟩, hpc, hsrc, by simpa using hlen, ?_⟩
      intro j' o' ho'
      by_cases hjj : j = j'
      · subst hjj
        rw [ho] at ho'; cases ho'
        have hlt := (List.getElem?_eq_some_iff.mp ho).1
        have := houts j (o ++ [v]) (by simp [hlt])
        have h2 : ¬ j + 1 ≤ j := by omega
        simp only [h2, if_false] at this
        simp only [Nat.le_refl, if_true]; exact this
      · have := houts j' o' (by simp [hjj, ho'])
        rw [this]
        by_cases h1 : j ≤ j'
        · have h2 : j + 1 ≤ j' := by omega
          simp [h1, h2]
        · have h2 : ¬ j + 1 ≤ j' := by omega
          simp [h1, h2]
    · have hd0 : d = 0 := by omega
      subst hd0
      refine ⟨_, Replicate.isRun.cons_eq_some.mpr ⟨_, hst, rfl⟩, by simp [rAfter, hm, hlast], rfl, by simp, ?_⟩
      intro j' o' ho'
      have hj' : j' < m := hi.len ▸ ListStore.lt_of_getElem? ho'
      by_cases hjj : j = j'
      · subst hjj
        rw [ho] at ho'; cases ho'
        have hlt := (List.getElem?_eq_some_iff.mp ho).1
        simp [hlt]
      · have h1 : ¬ j ≤ j' := by omega
        simp [hjj, ho', h1]

theorem rquiescent_cases {m : Nat} {s : RSt V} (hi : RInv m s) (hnd : s.pc ≠ .done) (hq : rstep s .recv = none) :
    (∃ v j, s.pc = .sending v j ∧ j < m) ∨ (s.pc = .top ∧ s.src.avail = [] ∧ s.src.closed = false) := by
  cases hp : s.pc with
  | sending v j => exact .inl ⟨v, j, rfl, hi.sendingLt v j hp⟩
  | done => exact absurd hp hnd
  | top =>
    right
    cases hav : s.src.avail with
    | cons v rest =>
      have := rrecv_value_enabled hp hav
      rw [hq] at this; cases this
    | nil =>
      refine ⟨rfl, rfl, ?_⟩
      cases hcl : s.src.closed with
      | false => rfl
      | true =>
        have := rrecv_close_enabled hp hav hcl
        rw [hq] at this; cases this

end Juniper.Proofs.Replicate
