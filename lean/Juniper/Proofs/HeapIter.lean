import Juniper.Proofs.PQOps
import Juniper.Proofs.SnapshotOrPanic
/-!
# The heap iterator: generation-counter invariant (heap half of C15)

`Ev` is one step of a history seen by an iterator: a `Next` call or a call on the container.
`run` is total: it collects what **every** `Next` call of the history returns (also those after a
`panic` or after exhaustion), as observations `Spec.Deque.Obs` — the vocabulary shared with the deque
half, so that both halves are stated with the same `SnapshotOrPanic`.

The regenerated Boolean facts enter the lemmas here as explicit hypotheses (`genFacts = true`,
`iterFacts = true`, `xFacts = true`, `pqIterateMapsInnerToKey = true`); the property theorems of
`Props/C15Heap` discharge them by `decide` inside their proofs. The regenerated expressions
`iterFresh`, `iterModified` are put into closed form by `iterFresh_eq` / `iterModified_eq`.
-/
set_option linter.unusedSectionVars false
namespace Juniper.Proofs.HeapIter
open Juniper.Gen.Heap Juniper.Model.Heap Juniper.Spec.Heap Juniper.Proofs.Heap
open Juniper.Spec.Deque (Obs SnapshotOrPanic)
open Juniper.ListStore (lt_of_getElem?)

variable {α : Type}

/-- every mutator bumps `gen` unconditionally (presence *and* position, regenerated from heap.go) -/
def genFacts : Bool := pushBumpsGen && popBumpsGen && removeAtBumpsGen && updateAtBumpsGen

/-- the iterator captures `gen` and the slice at its first `Next`, and panics on a mismatch -/
def iterFacts : Bool :=
  iterCapturesGen && iterCapturesSlice && iterPanics && decide (iterInitGen = -1)

/-- the bodies of `xheap.Heap.Push/Pop/Grow/Shrink/Iterate` are exactly the forwarding statements -/
def xFacts : Bool :=
  xPushForwards && xPopForwards && xGrowForwards && xShrinkForwards && xIterateForwards

theorem le_bump (b : Bool) (g : Int) : g ≤ bump b g := by unfold bump; split <;> omega

theorem iterFresh_eq (g : Int) : iterFresh g = decide (g = -1) := by simp [iterFresh]
theorem iterModified_eq (g g' : Int) : iterModified g g' = !decide (g = g') := by simp [iterModified]

def toObs : IterOut α → Obs α
  | .panic => .panic
  | .done => .done
  | .item x => .item x

inductive Ev (α : Type) where
  | next
  | push (x : α)
  | pop
  | removeAt (i : Nat)
  | updateAt (i : Nat) (x : α)
  | grow
  | shrink

def Ev.isNext : Ev α → Bool
  | .next => true
  | _ => false

theorem Ev.eq_next_or (e : Ev α) : e = .next ∨ e.isNext = false := by cases e <;> simp [Ev.isNext]

/-- the container after one call (a panicking call leaves it unchanged) -/
def applyEv (less : α → α → Bool) (h : Heap α) : Ev α → Heap α
  | .next => h
  | .push x => (push less h x).1
  | .pop => match pop less h with
    | some (h', _, _) => h'
    | none => h
  | .removeAt i => match removeAt less h i with
    | some (h', _) => h'
    | none => h
  | .updateAt i x => match updateAt less h i x with
    | some (h', _) => h'
    | none => h
  | .grow => Juniper.Model.Heap.grow h
  | .shrink => Juniper.Model.Heap.shrink h

/-- what **every** `Next` call of a history returns, in order -/
def run (less : α → α → Bool) : Heap α → Iter → List (Ev α) → List (Obs α)
  | _, _, [] => []
  | h, it, .next :: es => toObs (iterNext h it).2 :: run less h (iterNext h it).1 es
  | h, it, e :: es => run less (applyEv less h e) it es

/-- the contents at the iterator's first `Next` -/
def snapshot (less : α → α → Bool) : Heap α → List (Ev α) → List α
  | h, [] => h.a
  | h, .next :: _ => h.a
  | h, e :: es => snapshot less (applyEv less h e) es

theorem run_next (less : α → α → Bool) (h : Heap α) (it : Iter) (es : List (Ev α)) :
    run less h it (.next :: es) = toObs (iterNext h it).2 :: run less h (iterNext h it).1 es := by
  simp only [run]

theorem run_op (less : α → α → Bool) (h : Heap α) (it : Iter) {e : Ev α} (he : e.isNext = false)
    (es : List (Ev α)) : run less h it (e :: es) = run less (applyEv less h e) it es := by
  cases e with
  | next => cases he
  | _ => rfl

theorem snapshot_op (less : α → α → Bool) (h : Heap α) {e : Ev α} (he : e.isNext = false)
    (es : List (Ev α)) : snapshot less h (e :: es) = snapshot less (applyEv less h e) es := by
  cases e with
  | next => cases he
  | _ => rfl

theorem run_length (less : α → α → Bool) (evs : List (Ev α)) (h : Heap α) (it : Iter) :
    (run less h it evs).length = (evs.filter Ev.isNext).length := by
  induction evs generalizing h it with
  | nil => rfl
  | cons e es ih =>
    cases e <;> simp [run, Ev.isNext, ih, List.filter_cons]

/-- a call that adds, removes or replaces an element (and does not itself panic) -/
def Mutates (h : Heap α) : Ev α → Prop
  | .push _ => True
  | .pop => h.a ≠ []
  | .removeAt i => i < h.a.length
  | .updateAt i _ => i < h.a.length
  | _ => False

theorem Mutates.not_next {h : Heap α} {e : Ev α} (he : Mutates h e) : e.isNext = false := by
  cases e with
  | next => cases he
  | _ => rfl

theorem applyEv_gen_cases (less : α → α → Bool) (h : Heap α) (e : Ev α) (hf : genFacts = true) :
    (Mutates h e ∧ (applyEv less h e).gen = h.gen + 1) ∨
    (¬ Mutates h e ∧ h.gen ≤ (applyEv less h e).gen ∧ (applyEv less h e).a = h.a) := by
  simp only [genFacts, Bool.and_eq_true] at hf
  obtain ⟨⟨⟨h1, h2⟩, h3⟩, h4⟩ := hf
  cases e with
  | next => exact Or.inr ⟨id, Int.le_refl _, rfl⟩
  | push x => exact Or.inl ⟨trivial, by simp only [applyEv]; rw [push_gen less h x, h1]; rfl⟩
  | pop =>
    simp only [applyEv, Mutates]
    cases hp : pop less h with
    | none => exact Or.inr ⟨fun hm => hm ((pop_none_iff less h).mp hp), Int.le_refl _, rfl⟩
    | some r =>
      obtain ⟨h', x, n⟩ := r; obtain ⟨_, _, _, _, hg, _⟩ := pop_shape hp
      refine Or.inl ⟨fun e => ?_, by simp only [hg, h2, bump, if_true]⟩
      rw [(pop_none_iff less h).mpr e] at hp; cases hp
  | removeAt i =>
    simp only [applyEv, Mutates]
    cases hp : removeAt less h i with
    | none => exact Or.inr ⟨(removeAt_none_iff less h i).mp hp, Int.le_refl _, rfl⟩
    | some r =>
      obtain ⟨h', n⟩ := r; obtain ⟨_, hi, _, hg, _⟩ := removeAt_shape hp
      exact Or.inl ⟨hi, by simp only [hg, h3, bump, if_true]⟩
  | updateAt i x =>
    simp only [applyEv, Mutates]
    cases hp : updateAt less h i x with
    | none => exact Or.inr ⟨(updateAt_none_iff less h i x).mp hp, Int.le_refl _, rfl⟩
    | some r =>
      obtain ⟨h', n⟩ := r; obtain ⟨hi, hg, _, _⟩ := updateAt_shape hp
      exact Or.inl ⟨hi, by simp only [hg, h4, bump, if_true]⟩
  | grow => exact Or.inr ⟨id, le_bump growBumpsGen h.gen, rfl⟩
  | shrink => exact Or.inr ⟨id, le_bump shrinkBumpsGen h.gen, rfl⟩

theorem applyEv_gen (less : α → α → Bool) (h : Heap α) (e : Ev α) (hf : genFacts = true) :
    h.gen ≤ (applyEv less h e).gen ∧ ((applyEv less h e).gen = h.gen → (applyEv less h e).a = h.a) := by
  rcases applyEv_gen_cases less h e hf with ⟨_, hg⟩ | ⟨_, hg, ha⟩
  · exact ⟨by omega, fun e => by omega⟩
  · exact ⟨hg, fun _ => ha⟩

theorem applyEv_gen_mutates (less : α → α → Bool) (h : Heap α) (e : Ev α) (he : Mutates h e)
    (hf : genFacts = true) : (applyEv less h e).gen = h.gen + 1 := by
  rcases applyEv_gen_cases less h e hf with ⟨_, hg⟩ | ⟨hn, _⟩
  · exact hg
  · exact absurd he hn

theorem iterNext_started {h : Heap α} {it : Iter} (hs : it.gen ≠ -1) (hf : iterFacts = true) :
    iterNext h it = if it.gen = h.gen then iterStep h it else (it, .panic) := by
  simp only [iterFacts, Bool.and_eq_true, decide_eq_true_eq] at hf
  obtain ⟨⟨⟨_, _⟩, h3⟩, _⟩ := hf
  simp only [iterNext, iterFresh_eq, iterModified_eq, h3, Bool.and_true, hs, decide_false, Bool.false_eq_true,
    if_false]
  by_cases hg : it.gen = h.gen <;> simp [hg]

theorem iterNext_fresh {h : Heap α} (hf : iterFacts = true) :
    iterNext h iterate = iterStep h { gen := h.gen, pos := 0, len := h.a.length } := by
  simp only [iterFacts, Bool.and_eq_true, decide_eq_true_eq] at hf
  obtain ⟨⟨⟨h1, h2⟩, _⟩, h4⟩ := hf
  simp [iterNext, iterate, iterFresh_eq, h4, h1, h2]

theorem run_fresh_first (less : α → α → Bool) (hif : iterFacts = true) (h : Heap α) (h0 : 0 ≤ h.gen)
    (es : List (Ev α)) :
    run less h iterate (.next :: es) =
      run less h { gen := h.gen, pos := 0, len := h.a.length } (.next :: es) := by
  simp only [run]
  rw [iterNext_fresh hif, iterNext_started (by simp; omega) hif]
  simp

theorem stale_run (less : α → α → Bool) (hgf : genFacts = true) (hif : iterFacts = true)
    (evs : List (Ev α)) (h : Heap α) (it : Iter) (hs : it.gen ≠ -1) (hg : it.gen < h.gen) :
    ∀ o ∈ run less h it evs, o = Obs.panic := by
  induction evs generalizing h with
  | nil => intro o ho; simp [run] at ho
  | cons e es ih =>
    rcases e.eq_next_or with rfl | hn
    · rw [run_next, iterNext_started hs hif, if_neg (by omega)]
      intro o ho
      rcases List.mem_cons.mp ho with ho | ho
      · exact ho
      · exact ih h hg o ho
    · rw [run_op less h it hn]
      exact ih _ (by have := (applyEv_gen less h e hgf).1; omega)

/-- A started iterator that has yielded `it.pos` elements of the snapshot `snap`, observed through
any further history. Invariant: the heap's generation is at least the iterator's, and while they are
equal the array is the snapshot. -/
theorem run_started (less : α → α → Bool) (snap : List α) (hgf : genFacts = true) (hif : iterFacts = true)
    (evs : List (Ev α)) (h : Heap α) (it : Iter) (hs : it.gen ≠ -1) (hl : it.len = snap.length)
    (hp : it.pos ≤ it.len) (hg : it.gen ≤ h.gen) (ha : h.gen = it.gen → h.a = snap) :
    SnapshotOrPanic (snap.drop it.pos) (run less h it evs) := by
  induction evs generalizing h it with
  | nil => trivial
  | cons e es ih =>
    rcases e.eq_next_or with rfl | hn
    · rw [run_next, iterNext_started hs hif]
      by_cases hgen : it.gen = h.gen
      · rw [if_pos hgen]
        simp only [iterStep]
        have hsnap := ha hgen.symm
        by_cases hpos : it.pos < it.len
        · simp only [hpos, if_true]
          have hlt : it.pos < snap.length := by omega
          have hx : h.a[it.pos]? = some (snap[it.pos]'hlt) := by
            rw [hsnap]; simp [List.getElem?_eq_getElem hlt]
          have := ih h { it with pos := it.pos + 1 } hs hl (by simp; omega) hg ha
          simp only [toObs, hx]
          exact ⟨snap[it.pos], snap.drop (it.pos + 1), List.drop_eq_getElem_cons hlt, rfl, this⟩
        · simp only [hpos, if_false, toObs]
          have hnil : snap.drop it.pos = [] := List.drop_eq_nil_of_le (by omega)
          have := ih h it hs hl hp hg ha
          rw [hnil] at this ⊢
          exact ⟨rfl, this⟩
      · rw [if_neg hgen]
        simp only [toObs]
        exact stale_run less hgf hif es h it hs (by omega)
    · rw [run_op less h it hn]
      obtain ⟨g1, g2⟩ := applyEv_gen less h e hgf
      exact ih _ it hs hl hp (by omega) (fun e => by rw [g2 (by omega)]; exact ha (by omega))

theorem run_fresh (less : α → α → Bool) (hgf : genFacts = true) (hif : iterFacts = true)
    (evs : List (Ev α)) (h : Heap α) (h0 : 0 ≤ h.gen) :
    SnapshotOrPanic (snapshot less h evs) (run less h iterate evs) := by
  induction evs generalizing h with
  | nil => trivial
  | cons e es ih =>
    rcases e.eq_next_or with rfl | hn
    · -- the first Next: capture, then behave as a started iterator at position 0
      rw [run_fresh_first less hif h h0]
      have key := run_started less h.a hgf hif (.next :: es) h { gen := h.gen, pos := 0, len := h.a.length }
        (by simp; omega) rfl (by simp) (by simp) (fun _ => rfl)
      simpa [snapshot] using key
    · rw [run_op less h _ hn, snapshot_op less h hn]
      exact ih _ (by have := (applyEv_gen less h e hgf).1; omega)

/-- the iterator after `n` consecutive `Next` calls on `h` -/
def nextsIt (h : Heap α) : Nat → Iter → Iter
  | 0, it => it
  | n + 1, it => nextsIt h n (iterNext h it).1

theorem run_nexts_append (less : α → α → Bool) (h : Heap α) (n : Nat) (it : Iter) (rest : List (Ev α)) :
    run less h it (List.replicate n Ev.next ++ rest) =
      run less h it (List.replicate n Ev.next) ++ run less h (nextsIt h n it) rest := by
  induction n generalizing it with
  | zero => simp [run, nextsIt]
  | succ n ih =>
    simp only [List.replicate_succ, List.cons_append, run_next, nextsIt, ih]

theorem nextsIt_started (hif : iterFacts = true) (h : Heap α) (n : Nat) (it : Iter) (hs : it.gen ≠ -1)
    (hg : it.gen = h.gen) : (nextsIt h n it).gen = h.gen := by
  induction n generalizing it with
  | zero => exact hg
  | succ n ih =>
    simp only [nextsIt]
    have : (iterNext h it).1.gen = it.gen := by
      rw [iterNext_started hs hif, if_pos hg]; simp only [iterStep]; split <;> rfl
    exact ih _ (by omega) (by omega)

theorem nextsIt_fresh (hif : iterFacts = true) (h : Heap α) (h0 : 0 ≤ h.gen) (n : Nat) :
    (nextsIt h (n + 1) iterate).gen = h.gen := by
  simp only [nextsIt]
  have hg : (iterNext h (iterate : Iter)).1.gen = h.gen := by
    rw [iterNext_fresh hif]; simp only [iterStep]; split <;> rfl
  exact nextsIt_started hif h n _ (by omega) hg

theorem run_nexts_started (less : α → α → Bool) (hif : iterFacts = true) (h : Heap α) (n : Nat)
    (it : Iter) (hs : it.gen ≠ -1) (hg : it.gen = h.gen) (hl : it.len = h.a.length)
    (hp : it.pos ≤ it.len) :
    run less h it (List.replicate n Ev.next) =
      ((h.a.drop it.pos).take n).map (fun x => Obs.item (some x)) ++
        List.replicate (n - (h.a.length - it.pos)) Obs.done := by
  induction n generalizing it with
  | zero => simp [run]
  | succ n ih =>
    simp only [List.replicate_succ, run_next]
    rw [iterNext_started hs hif, if_pos hg]
    simp only [iterStep]
    by_cases hpos : it.pos < it.len
    · simp only [hpos, if_true]
      have hlt : it.pos < h.a.length := by omega
      rw [ih { it with pos := it.pos + 1 } hs hg hl (by simp; omega)]
      simp only [toObs, List.getElem?_eq_getElem hlt]
      rw [List.drop_eq_getElem_cons hlt, List.take_succ_cons, List.map_cons, List.cons_append]
      have e1 : n + 1 - (h.a.length - it.pos) = n - (h.a.length - (it.pos + 1)) := by omega
      rw [e1]
    · simp only [hpos, if_false, toObs]
      rw [ih it hs hg hl hp]
      have hnil : h.a.drop it.pos = [] := List.drop_eq_nil_of_le (by omega)
      have e1 : h.a.length - it.pos = 0 := by omega
      simp [hnil, e1, List.replicate_succ]

theorem run_nexts_fresh (less : α → α → Bool) (hif : iterFacts = true) (h : Heap α) (h0 : 0 ≤ h.gen)
    (n : Nat) :
    run less h iterate (List.replicate n Ev.next) =
      (h.a.take n).map (fun x => Obs.item (some x)) ++ List.replicate (n - h.a.length) Obs.done := by
  cases n with
  | zero => simp [run]
  | succ n =>
    rw [List.replicate_succ, run_fresh_first less hif h h0, ← List.replicate_succ]
    have := run_nexts_started less hif h (n + 1) { gen := h.gen, pos := 0, len := h.a.length }
      (by simp; omega) rfl rfl (by simp)
    simpa using this

inductive XEv (α : Type) where
  | next
  | push (x : α)
  | pop
  | grow
  | shrink

def XEv.toEv : XEv α → Ev α
  | .next => .next
  | .push x => .push x
  | .pop => .pop
  | .grow => .grow
  | .shrink => .shrink

/-- the heap after one call of a wrapper method (a panicking `Pop` leaves it unchanged) -/
def applyX (less : α → α → Bool) (h : Heap α) : XEv α → Heap α
  | .next => h
  | .push x => X.push less h x
  | .pop => match X.pop less h with
    | some (h', _) => h'
    | none => h
  | .grow => X.grow h
  | .shrink => X.shrink h

/-- what every `Next` of the iterator from `xheap.Heap.Iterate` returns during a history of
`xheap.Heap` calls -/
def xrun (less : α → α → Bool) : Heap α → Iter → List (XEv α) → List (Obs α)
  | _, _, [] => []
  | h, it, .next :: es => toObs (X.iterNext h it).2 :: xrun less h (X.iterNext h it).1 es
  | h, it, e :: es => xrun less (applyX less h e) it es

/-- the contents at the iterator's first `Next` -/
def xsnapshot (less : α → α → Bool) : Heap α → List (XEv α) → List α
  | h, [] => h.a
  | h, .next :: _ => h.a
  | h, e :: es => xsnapshot less (applyX less h e) es

theorem applyX_eq (hx : xFacts = true) (less : α → α → Bool) (h : Heap α) (e : XEv α) :
    applyX less h e = applyEv less h e.toEv := by
  simp only [xFacts, Bool.and_eq_true] at hx
  obtain ⟨⟨⟨⟨h1, h2⟩, h3⟩, h4⟩, _⟩ := hx
  cases e with
  | next => rfl
  | push x => simp only [applyX, XEv.toEv, applyEv, xpush_eq h1]
  | pop =>
    simp only [applyX, XEv.toEv, applyEv, xpop_eq h2]
    cases pop less h with
    | none => rfl
    | some r => rfl
  | grow => simp only [applyX, XEv.toEv, applyEv, xgrow_eq h3]
  | shrink => simp only [applyX, XEv.toEv, applyEv, xshrink_eq h4]

theorem xrun_eq (hx : xFacts = true) (less : α → α → Bool) (evs : List (XEv α)) (h : Heap α) (it : Iter) :
    xrun less h it evs = run less h it (evs.map XEv.toEv) := by
  have h5 : xIterateForwards = true := by
    simp only [xFacts, Bool.and_eq_true] at hx; exact hx.2
  induction evs generalizing h it with
  | nil => rfl
  | cons e es ih =>
    cases e <;>
      simp only [xrun, List.map_cons, XEv.toEv, run, xiterNext_eq h5, ih, applyX_eq hx less h]

theorem xsnapshot_eq (hx : xFacts = true) (less : α → α → Bool) (evs : List (XEv α)) (h : Heap α) :
    xsnapshot less h evs = snapshot less h (evs.map XEv.toEv) := by
  induction evs generalizing h with
  | nil => rfl
  | cons e es ih =>
    cases e <;> simp only [xsnapshot, List.map_cons, XEv.toEv, snapshot, ih, applyX_eq hx less h]

section PQ
open Juniper.Model.PQ Juniper.Proofs.PQ
variable {K P : Type} [DecidableEq K]

inductive PQEv (K P : Type) where
  | next
  | update (k : K) (p : P)
  | remove (k : K)
  | pop
  | grow

def PQEv.isNext : PQEv K P → Bool
  | .next => true
  | _ => false

theorem PQEv.eq_next_or (e : PQEv K P) : e = .next ∨ e.isNext = false := by
  cases e <;> simp [PQEv.isNext]

/-- the queue after one call (a panicking call leaves it unchanged) -/
def pqApply (less : P → P → Bool) (q : PQ K P) : PQEv K P → PQ K P
  | .next => q
  | .update k p => (update less q k p).getD q
  | .remove k => (remove less q k).getD q
  | .pop => ((Juniper.Model.PQ.pop less q).map (·.1)).getD q
  | .grow => Juniper.Model.PQ.grow q

/-- what every `Next` of the iterator from `PriorityQueue.Iterate` returns during a history -/
def pqRun (less : P → P → Bool) : PQ K P → Iter → List (PQEv K P) → List (Obs K)
  | _, _, [] => []
  | q, it, .next :: es =>
    toObs (Juniper.Model.PQ.iterNext q it).2 :: pqRun less q (Juniper.Model.PQ.iterNext q it).1 es
  | q, it, e :: es => pqRun less (pqApply less q e) it es

/-- the keys held at the iterator's first `Next`, in array order -/
def pqSnapshot (less : P → P → Bool) : PQ K P → List (PQEv K P) → List K
  | q, [] => keysOf q.h.a
  | q, .next :: _ => keysOf q.h.a
  | q, e :: es => pqSnapshot less (pqApply less q e) es

theorem pqRun_next (less : P → P → Bool) (q : PQ K P) (it : Iter) (es : List (PQEv K P)) :
    pqRun less q it (.next :: es) =
      toObs (Juniper.Model.PQ.iterNext q it).2 :: pqRun less q (Juniper.Model.PQ.iterNext q it).1 es := by
  simp only [pqRun]

theorem pqRun_op (less : P → P → Bool) (q : PQ K P) (it : Iter) {e : PQEv K P} (he : e.isNext = false)
    (es : List (PQEv K P)) : pqRun less q it (e :: es) = pqRun less (pqApply less q e) it es := by
  cases e with
  | next => cases he
  | _ => rfl

theorem pqSnapshot_op (less : P → P → Bool) (q : PQ K P) {e : PQEv K P} (he : e.isNext = false)
    (es : List (PQEv K P)) : pqSnapshot less q (e :: es) = pqSnapshot less (pqApply less q e) es := by
  cases e with
  | next => cases he
  | _ => rfl

theorem toObs_mapOut {α β : Type} (f : α → β) (o : IterOut α) : toObs (mapOut f o) = mapObs f (toObs o) := by
  cases o <;> rfl

/-- `PriorityQueue.Iterate`'s `Next` is the inner heap iterator's `Next` with the item mapped to
its key (needs the generated fact about the body of `Iterate`) -/
theorem pqIterNext_eq (hm : pqIterateMapsInnerToKey = true) (q : PQ K P) (it : Iter) :
    Juniper.Model.PQ.iterNext q it =
      ((iterNext q.h it).1, mapOut (·.1) (iterNext q.h it).2) := by
  simp [Juniper.Model.PQ.iterNext, hm]

/-- Whatever a queue call does to the inner heap is one heap call (or nothing): `Update` of an
existing key is `UpdateAt`, of a new key `Push`; `Remove` of a present key is `RemoveAt`, of an absent
key nothing; `Pop` is `Pop`; `Grow` is `Grow`. No invariant is needed for this. -/
theorem pqApply_heap (less : P → P → Bool) (q : PQ K P) (e : PQEv K P) :
    (pqApply less q e).h = q.h ∨
      ∃ ev : Ev (KP K P), ev.isNext = false ∧ (pqApply less q e).h = applyEv (lessKP less) q.h ev := by
  cases e with
  | next => exact Or.inl rfl
  | grow => exact Or.inr ⟨.grow, rfl, rfl⟩
  -- a call that panics leaves the queue as it is, and so does `applyEv`: both results of the heap call go the same way
  | pop =>
    refine Or.inr ⟨.pop, rfl, ?_⟩
    simp only [pqApply, pop_eq, applyEv]
    cases Juniper.Model.Heap.pop (lessKP less) q.h <;> rfl
  | update k p =>
    simp only [pqApply, update_eq]
    cases mGet q.m k with
    | none => exact Or.inr ⟨.push (k, p), rfl, rfl⟩
    | some idx =>
      by_cases hneg : idx < 0
      · simp [hneg]
      · refine Or.inr ⟨.updateAt idx.toNat (k, p), rfl, ?_⟩
        simp only [hneg, if_false, applyEv]
        cases updateAt (lessKP less) q.h idx.toNat (k, p) <;> rfl
  | remove k =>
    simp only [pqApply, remove_eq]
    cases mGet q.m k with
    | none => exact Or.inl rfl
    | some idx =>
      by_cases hneg : idx < 0
      · simp [hneg]
      · refine Or.inr ⟨.removeAt idx.toNat, rfl, ?_⟩
        simp only [hneg, if_false, applyEv]
        cases removeAt (lessKP less) q.h idx.toNat <;> rfl

/-- **Transport.** Every queue history seen by a `PriorityQueue` iterator is a heap history seen by
the inner heap's iterator, with the observations and the snapshot mapped to keys. -/
theorem pqRun_transport (hm : pqIterateMapsInnerToKey = true) (less : P → P → Bool)
    (evs : List (PQEv K P)) (q : PQ K P) (it : Iter) :
    ∃ hevs : List (Ev (KP K P)),
      pqRun less q it evs = (run (lessKP less) q.h it hevs).map (mapObs (·.1)) ∧
      pqSnapshot less q evs = keysOf (snapshot (lessKP less) q.h hevs) := by
  induction evs generalizing q it with
  | nil => exact ⟨[], rfl, rfl⟩
  | cons e es ih =>
    rcases e.eq_next_or with rfl | hn
    · obtain ⟨hevs, h1, _⟩ := ih q (iterNext q.h it).1
      refine ⟨.next :: hevs, ?_, rfl⟩
      rw [pqRun_next, run_next, pqIterNext_eq hm]
      simp only [List.map_cons, toObs_mapOut, h1]
    · rw [pqRun_op less q it hn, pqSnapshot_op less q hn]
      obtain ⟨hevs, h1, h2⟩ := ih (pqApply less q e) it
      rcases pqApply_heap less q e with hq | ⟨ev, hev, hq⟩
      · rw [hq] at h1 h2
        exact ⟨hevs, h1, h2⟩
      · rw [hq] at h1 h2
        exact ⟨ev :: hevs, by rw [run_op _ _ _ hev]; exact h1, by rw [snapshot_op _ _ hev]; exact h2⟩

theorem pqRun_nexts (hm : pqIterateMapsInnerToKey = true) (less : P → P → Bool) (n : Nat) (q : PQ K P)
    (it : Iter) :
    pqRun less q it (List.replicate n PQEv.next) =
      (run (lessKP less) q.h it (List.replicate n Ev.next)).map (mapObs (·.1)) := by
  induction n generalizing it with
  | zero => rfl
  | succ n ih =>
    simp only [List.replicate_succ, pqRun_next, run_next, pqIterNext_eq hm, List.map_cons, toObs_mapOut, ih]

theorem pq_mutation_is_heap_mutation (less : P → P → Bool) {q q' : PQ K P} (hq : IndexInv q)
    (hop : (∃ k p, update less q k p = some q') ∨ (∃ k p0, Holds q k p0 ∧ remove less q k = some q') ∨
      (∃ k, Juniper.Model.PQ.pop less q = some (q', k))) :
    ∃ e, Mutates q.h e ∧ q'.h = applyEv (lessKP less) q.h e := by
  rcases hop with ⟨k, p, hu⟩ | ⟨k, p0, hk, hu⟩ | ⟨k, hu⟩
  · by_cases hk : ∃ p0, Holds q k p0
    · obtain ⟨p0, hp0⟩ := hk
      obtain ⟨q'', he, _, _, i, y, notes, hi, hua⟩ := update_existing (less := less) hq p hp0
      rw [hu] at he; cases he
      have hil : i < q.h.a.length := lt_of_getElem? hi
      exact ⟨.updateAt i (k, p), hil, by simp [applyEv, hua]⟩
    · obtain ⟨q'', he, _, _, hpush⟩ := update_new (less := less) hq p (fun p0 h => hk ⟨p0, h⟩)
      rw [hu] at he; cases he
      exact ⟨.push (k, p), trivial, by simp [applyEv, hpush]⟩
  · obtain ⟨q'', he, _, _, i, notes, hi, hua⟩ := remove_present (less := less) hq hk
    rw [hu] at he; cases he
    have hil : i < q.h.a.length := lt_of_getElem? hi
    exact ⟨.removeAt i, hil, by simp [applyEv, hua]⟩
  · have hne : q.h.a ≠ [] := by
      intro e
      rw [pop_eq, (pop_none_iff _ _).mpr e] at hu; cases hu
    obtain ⟨q'', k', p0, notes, he, _, _, _, hua⟩ := pop_nonempty (less := less) hq hne
    rw [hu] at he; cases he
    exact ⟨.pop, hne, by simp [applyEv, hua]⟩

end PQ

end Juniper.Proofs.HeapIter
