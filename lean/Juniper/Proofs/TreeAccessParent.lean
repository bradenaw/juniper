import Juniper.Proofs.TreeAccessBase
/-!
# Access-level model (C01, concurrent clause): the heap image of a tree

`memOf t` of a tree with pairwise distinct node identities holds `t`, with parent pointers and zero key slots behind the
live prefixes (read by the cursor moves of the range readers only; no modelled operation writes them). Two inductions
over `storeNode`: what storing a subtree leaves alone, and that afterwards every node object of it holds its node.
-/
namespace Juniper.Proofs.TreeAccess
open Juniper.Gen.Tree Juniper.Model.BTree Juniper.Model.BTreeAccess Juniper.Proofs.Tree

variable {K V : Type}

/-- the identities of the proper descendants -/
def desc (x : Node K V) : List Nat := (x.kids.map ids).flatten

theorem ids_eq_cons_desc (x : Node K V) : ids x = x.id :: desc x := by
  obtain ⟨id, kvs, kids⟩ := x; simp [ids, desc, Node.id, Node.kids]

theorem desc_sub_ids {x : Node K V} {a : Nat} (h : a ∈ desc x) : a ∈ ids x := by
  rw [ids_eq_cons_desc]; exact List.mem_cons_of_mem _ h

theorem flatten_desc_sub {kids : List (Node K V)} {a : Nat} (h : a ∈ (kids.map desc).flatten) :
    a ∈ (kids.map ids).flatten := by
  obtain ⟨l, hl, ha⟩ := List.mem_flatten.mp h
  obtain ⟨c, hc, rfl⟩ := List.mem_map.mp hl
  exact mem_flatten_ids hc (desc_sub_ids ha)

def ParRep (m : Mem K V) (t : Tree K V) : Prop :=
  m.parent t.root.id = none ∧ ∀ y, Sub t.root y → ∀ c ∈ y.kids, m.parent c.id = some y.id

/-- what the range readers rely on besides `Rep`: the parent pointers and zero key slots behind the live prefixes -/
def AuxRep (m : Mem K V) (t : Tree K V) : Prop :=
  ParRep m t ∧ ∀ y, Sub t.root y → ∀ i, y.kvs.length ≤ i → m.key y.id i = none

/-- the memory once the fields of the node object itself are stored; `storeNode` goes on with the children -/
def storeOwn (id : Nat) (kvs : List (K × V)) (kids : List (Node K V)) (m : Mem K V) : Mem K V :=
  { m with
    n := fun b => if b = id then (kvs.length : Int) else m.n b
    key := fun b j => if b = id then (kvs[j]?).map (·.1) else m.key b j
    val := fun b j => if b = id then (kvs[j]?).map (·.2) else m.val b j
    child := fun b j => if b = id then (kids[j]?).map Node.id else m.child b j
    parent := fun b => if kids.any (fun c => c.id == b) then some id else m.parent b }

theorem storeNode_mk (id : Nat) (kvs : List (K × V)) (kids : List (Node K V)) (m : Mem K V) :
    storeNode (.mk id kvs kids) m = storeKids kids (storeOwn id kvs kids m) := by
  rw [storeNode]; rfl

/-- `m'` differs from `m` at most in the fields of the node objects `I` and in the parent pointers of `D` -/
structure Keeps (I D : List Nat) (m m' : Mem K V) : Prop where
  root : m'.root = m.root
  size : m'.size = m.size
  gen : m'.gen = m.gen
  n : ∀ a, a ∉ I → m'.n a = m.n a
  key : ∀ a, a ∉ I → ∀ i, m'.key a i = m.key a i
  val : ∀ a, a ∉ I → ∀ i, m'.val a i = m.val a i
  child : ∀ a, a ∉ I → ∀ i, m'.child a i = m.child a i
  parent : ∀ a, a ∉ D → m'.parent a = m.parent a

theorem Keeps.trans {I D I' D' J E : List Nat} {m m' m'' : Mem K V} (h : Keeps I D m m') (h' : Keeps I' D' m' m'')
    (hI : ∀ a, a ∉ J → a ∉ I ∧ a ∉ I') (hD : ∀ a, a ∉ E → a ∉ D ∧ a ∉ D') : Keeps J E m m'' :=
  ⟨h'.root.trans h.root, h'.size.trans h.size, h'.gen.trans h.gen,
    fun a ha => (h'.n a (hI a ha).2).trans (h.n a (hI a ha).1),
    fun a ha i => (h'.key a (hI a ha).2 i).trans (h.key a (hI a ha).1 i),
    fun a ha i => (h'.val a (hI a ha).2 i).trans (h.val a (hI a ha).1 i),
    fun a ha i => (h'.child a (hI a ha).2 i).trans (h.child a (hI a ha).1 i),
    fun a ha => (h'.parent a (hD a ha).2).trans (h.parent a (hD a ha).1)⟩

theorem keeps_storeOwn (id : Nat) (kvs : List (K × V)) (kids : List (Node K V)) (m : Mem K V) :
    Keeps [id] (kids.map Node.id) m (storeOwn id kvs kids m) := by
  have hne : ∀ a, a ∉ [id] → ¬ a = id := fun a ha h => ha (h ▸ List.mem_singleton_self _)
  refine ⟨rfl, rfl, rfl, fun a ha => if_neg (hne a ha), fun a ha i => if_neg (hne a ha), fun a ha i => if_neg (hne a ha),
    fun a ha i => if_neg (hne a ha), fun a ha => if_neg ?_⟩
  rw [List.any_eq_true]
  rintro ⟨c, hc, he⟩
  exact ha (List.mem_map.mpr ⟨c, hc, beq_iff_eq.mp he⟩)

theorem store_frame :
    (∀ (x : Node K V) (m : Mem K V), Keeps (ids x) (desc x) m (storeNode x m)) ∧
    (∀ (kids : List (Node K V)) (m : Mem K V),
      Keeps (kids.map ids).flatten (kids.map desc).flatten m (storeKids kids m)) := by
  refine storeNode.mutual_induct _ _ (fun id kvs kids m ih => ?_) (fun m => ?_) (fun c cs m ih1 ih2 => ?_)
  · rw [storeNode_mk]
    refine (keeps_storeOwn id kvs kids m).trans ih (fun a ha => ?_) (fun a ha => ?_)
    · simp only [ids, List.mem_cons, not_or] at ha
      exact ⟨fun h => ha.1 (List.mem_singleton.mp h), ha.2⟩
    · refine ⟨fun h => ?_, fun h => ha (flatten_desc_sub h)⟩
      obtain ⟨c, hc, rfl⟩ := List.mem_map.mp h
      exact ha (mem_flatten_ids hc (by rw [ids_eq_cons_desc]; exact List.mem_cons_self))
  · exact ⟨rfl, rfl, rfl, fun _ _ => rfl, fun _ _ _ => rfl, fun _ _ _ => rfl, fun _ _ _ => rfl, fun _ _ => rfl⟩
  · rw [storeKids]
    refine ih1.trans ih2 (fun a ha => ?_) (fun a ha => ?_) <;>
      simpa only [List.map_cons, List.flatten_cons, List.mem_append, not_or] using ha

/-- the node object of `y` holds exactly `y`'s fields, and the children of `y` point back to it -/
def Holds (m : Mem K V) (y : Node K V) : Prop :=
  m.n y.id = y.kvs.length ∧ (∀ i, m.key y.id i = (y.kvs[i]?).map (·.1)) ∧ (∀ i, m.val y.id i = (y.kvs[i]?).map (·.2)) ∧
  (∀ i, m.child y.id i = (y.kids[i]?).map Node.id) ∧ ∀ c ∈ y.kids, m.parent c.id = some y.id

theorem Holds.keep {I D : List Nat} {m m' : Mem K V} {y : Node K V} (h : Holds m y) (hk : Keeps I D m m')
    (hI : y.id ∉ I) (hD : ∀ c ∈ y.kids, c.id ∉ D) : Holds m' y :=
  ⟨(hk.n _ hI).trans h.1, fun i => (hk.key _ hI i).trans (h.2.1 i), fun i => (hk.val _ hI i).trans (h.2.2.1 i),
    fun i => (hk.child _ hI i).trans (h.2.2.2.1 i), fun c hc => (hk.parent _ (hD c hc)).trans (h.2.2.2.2 c hc)⟩

theorem not_mem_desc_of_nodup {kids : List (Node K V)} (hn : ((kids.map ids).flatten).Nodup) {c : Node K V} (hc : c ∈ kids) :
    c.id ∉ (kids.map desc).flatten := by
  induction kids with
  | nil => cases hc
  | cons d ds ih =>
    simp only [List.map_cons, List.flatten_cons, List.nodup_append] at hn
    obtain ⟨hn1, hn2, hdis⟩ := hn
    have hself : ∀ x : Node K V, x.id ∈ ids x := fun x => by rw [ids_eq_cons_desc]; exact List.mem_cons_self
    simp only [List.map_cons, List.flatten_cons, List.mem_append, not_or]
    rcases List.mem_cons.mp hc with rfl | hm
    · rw [ids_eq_cons_desc] at hn1
      exact ⟨(List.nodup_cons.mp hn1).1, fun h => hdis c.id (hself c) c.id (flatten_desc_sub h) rfl⟩
    · exact ⟨fun h => hdis c.id (desc_sub_ids h) c.id (mem_flatten_ids hm (hself c)) rfl, ih hn2 hm⟩

theorem store_holds :
    (∀ (x : Node K V) (m : Mem K V), (ids x).Nodup → ∀ y, Sub x y → Holds (storeNode x m) y) ∧
    (∀ (kids : List (Node K V)) (m : Mem K V), ((kids.map ids).flatten).Nodup → ∀ c ∈ kids, ∀ y, Sub c y →
      Holds (storeKids kids m) y) := by
  refine storeNode.mutual_induct _ _ (fun id kvs kids m ih hn y hy => ?_) (fun m _ c hc => nomatch hc)
    (fun c cs m ih1 ih2 hn c' hc' y hy => ?_)
  · simp only [ids, List.nodup_cons] at hn
    rw [storeNode_mk]
    rcases hy.inv with rfl | ⟨c, hc, hs⟩
    · refine Holds.keep ?_ (store_frame.2 kids _) hn.1 (fun c hc => not_mem_desc_of_nodup hn.2 hc)
      refine ⟨if_pos rfl, fun i => if_pos rfl, fun i => if_pos rfl, fun i => if_pos rfl, fun c hc => if_pos ?_⟩
      exact List.any_eq_true.mpr ⟨c, hc, beq_self_eq_true _⟩
    · exact ih hn.2 c hc y hs
  · simp only [List.map_cons, List.flatten_cons, List.nodup_append] at hn
    obtain ⟨hn1, hn2, hdis⟩ := hn
    rw [storeKids]
    rcases List.mem_cons.mp hc' with rfl | hmem
    · refine (ih1 hn1 y hy).keep (store_frame.2 cs _) (fun h => hdis _ hy.id_mem _ h rfl) (fun d hd h => ?_)
      exact hdis _ (hy.snoc hd).id_mem _ (flatten_desc_sub h) rfl
    · exact ih2 hn2 c' hmem y hy

theorem memOf_rep (t : Tree K V) (hn : (ids t.root).Nodup) : Rep (memOf t) t := by
  have hf := store_frame.1 t.root { (Mem.empty : Mem K V) with root := some t.root.id, size := t.size, gen := t.gen }
  refine ⟨hf.root, hf.size, hf.gen, fun y hy => ?_⟩
  obtain ⟨h1, h2, h3, h4, _⟩ := store_holds.1 t.root _ hn y hy
  exact ⟨⟨h1, fun i hi => (h2 i).trans (by rw [List.getElem?_eq_getElem hi]; rfl), fun i _ => h4 i⟩,
    fun i hi => (h3 i).trans (by rw [List.getElem?_eq_getElem hi]; rfl)⟩

theorem memOf_auxRep (t : Tree K V) (hn : (ids t.root).Nodup) : AuxRep (memOf t) t := by
  have hh := store_holds.1 t.root { (Mem.empty : Mem K V) with root := some t.root.id, size := t.size, gen := t.gen } hn
  refine ⟨⟨?_, fun y hy => (hh y hy).2.2.2.2⟩, fun y hy i hi => ?_⟩
  · rw [ids_eq_cons_desc] at hn
    exact (store_frame.1 t.root _).parent _ (List.nodup_cons.mp hn).1
  · exact ((hh y hy).2.1 i).trans (by rw [List.getElem?_eq_none hi]; rfl)

end Juniper.Proofs.TreeAccess
