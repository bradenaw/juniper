import Juniper.Proofs.MergeChans
/-! Progress of `chans.Merge` before everything has been delivered: which receive or hand-off is enabled, a measure
that every step of `Merge` and of its consumer decreases and only the producers' sends raise, and what a state without
an enabled step of `Merge` is waiting for. -/
set_option linter.unusedSectionVars false

namespace Juniper.Proofs.MergeChans
open Juniper.Model.Merge Juniper.Facts
variable {V : Type} [HasNil V]

/-- the producers' actions: the only labels that are not steps of `Merge` or of its consumer -/
def isEnvInput : Label V → Bool
  | .envSend _ _ => true
  | .envClose _ => true
  | _ => false

def availSum (ins : List (Chan V)) : Nat := (ins.map fun c => c.avail.length).sum

theorem availSum_set (l : List (Chan V)) (i : Nat) (x y : Chan V) (h : l[i]? = some y) :
    availSum (l.set i x) + y.avail.length = availSum l + x.avail.length :=
  ListStore.sum_map_set (fun c : Chan V => c.avail.length) h

def pcW : Pc V → Nat
  | .hold _ _ => 2
  | .top => 1
  | _ => 0

/-- Measure of the work `Merge` can do without further input: two per receivable value (receive it, hand it
over), one per input still listened to (see it closed), plus where the goroutine stands. -/
def muPre (s : St V) : Nat := 2 * availSum s.ins + s.live.length + pcW s.pc

theorem recv_value_enabled {n : Nat} {s : St V} (hi : Inv n s) (hp : s.pc = .top)
    {i : Nat} {c : Chan V} (hc : s.ins[i]? = some c) {v : V} {rest : List V} (hav : c.avail = v :: rest) :
    step s (.recv i) = some { s with ins := s.ins.set i { c with avail := rest }, pc := .hold i v } := by
  have hin : i < n := hi.len ▸ ListStore.lt_of_getElem? hc
  have hil : i ∈ s.live := by
    refine Classical.byContradiction fun hnl => ?_
    obtain ⟨c', hc', _, h0⟩ := hi.dead i hin hnl
    rw [hc] at hc'; cases hc'
    rw [hav] at h0; cases h0
  exact (MStep.recvVal i c v rest hp hil hc hav).step_eq hi.pre

theorem recv_close_enabled {n : Nat} {s : St V} (hi : Inv n s) (hp : s.pc = .top)
    {i : Nat} {c : Chan V} (hc : s.ins[i]? = some c) (hav : c.avail = []) (hcl : c.closed = true)
    (hil : i ∈ s.live) :
    ∃ s', step s (.recv i) = some s' ∧ s'.live = s.live.erase i ∧ (s'.pc = .top ∨ s'.pc = .done) ∧
      s'.ins = s.ins ∧ s'.out = s.out := by
  refine ⟨_, (MStep.recvClosed i c hp hil hc hav hcl).step_eq hi.pre, rfl, ?_, rfl, rfl⟩
  simp only
  split <;> simp

theorem hold_only_deliver {s : St V} {i : Nat} {v : V} (hp : s.pc = .hold i v) :
    step s .deliver = some { s with out := s.out ++ [(i, v)], pc := .top } ∧
    (∀ j, step s (.recv j) = none) ∧ step s .exit = none := by
  refine ⟨by simp [step, hp], fun j => by simp [step, hp], by simp [step, hp]⟩

theorem muPre_step {n : Nat} {s s' : St V} {l : Label V} (hi : Inv n s)
    (h : step s l = some s') :
    (isEnvInput l = false → muPre s' < muPre s) ∧
    (∀ i v, l = .envSend i v → muPre s' = muPre s + 2) ∧ (∀ i, l = .envClose i → muPre s' = muPre s) := by
  cases mstep_of_step hi.pre h with
  | envSend i v c hc _ =>
    have := availSum_set s.ins i { c with avail := c.avail ++ [v], sent := c.sent ++ [v] } c hc
    simp at this
    exact ⟨by simp [isEnvInput], fun _ _ _ => by simp only [muPre]; omega, by simp⟩
  | envClose i c hc _ =>
    have := availSum_set s.ins i { c with closed := true } c hc
    simp at this
    exact ⟨by simp [isEnvInput], by simp, fun _ _ => by simp only [muPre]; omega⟩
  | deliver i v hp => exact ⟨fun _ => by simp [muPre, hp, pcW], by simp, by simp⟩
  | exit hp _ _ => exact ⟨fun _ => by simp [muPre, hp, pcW], by simp, by simp⟩
  | recvVal i c v rest hp _ hc hav =>
    have := availSum_set s.ins i { c with avail := rest } c hc
    rw [hav] at this
    simp at this
    exact ⟨fun _ => by simp only [muPre, hp, pcW]; omega, by simp, by simp⟩
  | recvClosed i c hp hil _ _ _ =>
    have hlen : (s.live.erase i).length = s.live.length - 1 := List.length_erase_of_mem hil
    have hpos : 0 < s.live.length := List.length_pos_of_mem hil
    refine ⟨fun _ => ?_, by simp, by simp⟩
    simp only [muPre, hp]
    split <;> simp only [pcW] <;> omega

theorem run_muPre {n : Nat} (ls : List (Label V)) {s s' : St V} (hi : Inv n s)
    (h : run s ls = some s') (hl : ∀ l ∈ ls, isEnvInput l = false) : ls.length + muPre s' ≤ muPre s :=
  (MergeChans.isRun.measure (P := Inv n) (fun hi hl h => ⟨(muPre_step hi h).1 hl, inv_step hi h⟩) h hl hi).1

/-- no step of `Merge` itself (receive on any input, loop-top return) is enabled -/
def QuiescentOwn (s : St V) : Prop := (∀ i, step s (.recv i) = none) ∧ step s .exit = none

theorem quiescent_cases {n : Nat} {s : St V} (hi : Inv n s) (hnd : s.pc ≠ .done)
    (hq : QuiescentOwn s) :
    (∃ i v, s.pc = .hold i v) ∨
    (s.pc = .top ∧ s.live ≠ [] ∧
      (∀ i, i ∈ s.live → ∃ c, s.ins[i]? = some c ∧ c.avail = [] ∧ c.closed = false) ∧
      (∀ (i : Nat) (c : Chan V), s.ins[i]? = some c → c.avail = [])) := by
  cases hp : s.pc with
  | hold i v => exact .inl ⟨i, v, rfl⟩
  | done => exact absurd hp hnd
  | panicked => exact absurd hp hi.noPanic
  | top =>
    right
    have hne : s.live ≠ [] := by
      intro hl
      have hx := (MStep.exit hp hl (by rw [hi.hn]; exact hi.emptyLive hnd hl)).step_eq hi.pre
      rw [hq.2] at hx; cases hx
    have hlive : ∀ i, i ∈ s.live → ∃ c, s.ins[i]? = some c ∧ c.avail = [] ∧ c.closed = false := by
      intro i hil
      have hlen : i < s.ins.length := by rw [hi.len]; exact hi.liveLt i hil
      have hc : s.ins[i]? = some s.ins[i] := List.getElem?_eq_getElem hlen
      have hav : s.ins[i].avail = [] := by
        cases hav : s.ins[i].avail with
        | nil => rfl
        | cons v rest =>
          have := (MStep.recvVal i _ v rest hp hil hc hav).step_eq hi.pre
          rw [hq.1 i] at this; cases this
      refine ⟨_, hc, hav, ?_⟩
      cases hcl : s.ins[i].closed with
      | false => rfl
      | true =>
        have := (MStep.recvClosed i _ hp hil hc hav hcl).step_eq hi.pre
        rw [hq.1 i] at this; cases this
    refine ⟨rfl, hne, hlive, ?_⟩
    intro i c hc
    have hin : i < n := hi.len ▸ ListStore.lt_of_getElem? hc
    by_cases hil : i ∈ s.live
    · obtain ⟨c', hc', h0, _⟩ := hlive i hil
      rw [hc] at hc'; cases hc'; exact h0
    · obtain ⟨c', hc', _, h0⟩ := hi.dead i hin hil
      rw [hc] at hc'; cases hc'; exact h0

end Juniper.Proofs.MergeChans
