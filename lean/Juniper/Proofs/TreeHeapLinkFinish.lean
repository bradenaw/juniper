import Juniper.Proofs.TreeHeapLinkRepair
/-!
# Linking the two B-tree models (C03): `finish` = `steal` / `merge` / epilogue

`finish_sim`: for a node whose child `j` has become underfull, `repair` started at that child does to
the store what `finish` (= `fixChild` + the epilogue of `mergeTwo`) does to the functional node: a
steal from the right or left sibling, or a merge followed by root collapse / nothing / the next round
of `repair` one level up.
-/
namespace Juniper.Proofs.TreeHeapLink
open Juniper Juniper.Model.BTree Juniper.Model.BTreeSlotsOps Juniper.Proofs.Tree Juniper.Proofs.TreeSlotsOps

variable {K V : Type}

/-- what the heap model does to the node `P` whose child `xid` has become underfull, by outcome of `finish`: `repair`
started at that child replaces `P`, and either is done or goes on one level up -/
def FinSim (h : Heap K V) (p : Option Nat) (P : Node K V) (xid : Nat) : DelRes K V → Prop
  | .done x' u => ∃ h', Repl h h' p P x' ∧
      (if u then ∀ fuel, repair (fuel + 1) h xid = repair fuel h' P.id else ∀ fuel, repair (fuel + 1) h xid = some h')
  | _ => False

theorem kind_of_bal {ht li ri : Nat} {lkvs rkvs : List (K × V)} {lkids rkids : List (Node K V)}
    (hl : Bal ht (.mk li lkvs lkids)) (hr : Bal ht (.mk ri rkvs rkids)) : lkids = [] ↔ rkids = [] := by
  rcases pair_shape hl hr with ⟨rfl, rfl⟩ | ⟨h1, h2⟩
  · exact Iff.rfl
  · exact ⟨fun e => by subst e; simp at h1, fun e => by subst e; simp at h2⟩

/-- the root has been emptied by a merge: its only child becomes the root -/
theorem collapse_sim {h1 : Heap K V} {id : Nat} {kids' : List (Node K V)} {L : Node K V}
    (hsub : Sub h1.get none (.mk id ([] : List (K × V)) kids')) (hL : L ∈ kids')
    (hcnt : ∀ i, cnt i (Node.mk id ([] : List (K × V)) kids') ≤ 1) (hroot : id = h1.root) :
    ∃ h2, (∀ fuel, mergeTail fuel h1 id L.id = some h2) ∧ Repl h1 h2 none (.mk id ([] : List (K × V)) kids') L := by
  obtain ⟨sp, hp, hpp, rp, hkids⟩ := sub_mk.mp hsub
  have hsl := hkids L hL
  obtain ⟨sl, hl, _, _⟩ := hsl.root
  have hLle := cnt_child_le (id := id) (kvs := ([] : List (K × V))) hL L.id
  have hne : L.id ≠ id := by
    intro e; have := cnt_self L; rw [e] at this; have := cnt_id_child hcnt hL; omega
  obtain ⟨h2, hmt, hr2, hs2, hg2, hl2, hget⟩ := mergeTail_collapse hp rp hroot hl hne
  refine ⟨h2, hmt, ?_, ?_, hl2, hs2, hg2, by rw [hr2, Node.id, if_pos hroot], fun hn => absurd hroot hn⟩
  · refine Sub.reparent hsl (by have := hcnt L.id; omega) ?_ ?_
    · rw [hget, if_neg hne, if_pos rfl, hl]; rfl
    · intro j hj hjl
      rw [hget, if_neg (ne_of_cnt (hcnt j) hL hj), if_neg hjl]
  · intro i hi
    have h2' : i ≠ L.id := by
      intro e; subst e
      have := cnt_self L
      omega
    rw [hget, if_neg (ne_id_of_cnt_zero hi), if_neg h2']

theorem two_min_le_cap : 1 ≤ Gen.Tree.minKVs ∧ 2 * Gen.Tree.minKVs ≤ (keysCap : Int) := by
  have := consts.2.1; have := capInt.1; have := capInt.2.1
  exact ⟨consts.1, by omega⟩

/-- a merge of the children `a`, `a + 1` of a node (one of them is the underfull `xi`), then the epilogue -/
theorem merge_sim {h : Heap K V} {p : Option Nat} {ht id j xi a li ri : Nat} {kvs lkvs rkvs : List (K × V)}
    {kids lkids rkids : List (Node K V)} {left right : Option Nat} {ln : Int}
    (hsub : Sub h.get p (.mk id kvs kids)) (hcnt : ∀ i, cnt i (Node.mk id kvs kids) ≤ 1)
    (hlen : kids.length = kvs.length + 1) (hbal : ∀ c ∈ kids, Bal ht c) (hxroot : xi ≠ h.root)
    (hrootp : id = h.root → p = none) (ha : a < kvs.length)
    (hL : kids[a]? = some (.mk li lkvs lkids)) (hR : kids[a + 1]? = some (.mk ri rkvs rkids))
    (hfit : lkvs.length + 1 + rkvs.length ≤ keysCap)
    (hsib' : Heap.siblings h xi = some (left, right)) (hnl : Heap.nOf h left = some ln)
    (hch : (if Gen.Tree.mergeIntoLeft left.isSome ln then left.map (·, xi) else right.map (xi, ·)) = some (li, ri))
    (hst : Heap.steal h xi = some (h, false))
    (hfc : fixChild kvs kids j = some (kvs.take a ++ kvs.drop (a + 1),
      kids.take a ++ .mk li (lkvs ++ kvs[a] :: rkvs) (lkids ++ rkids) :: kids.drop (a + 2), some a)) :
    FinSim h p (.mk id kvs kids) xi (finish h.root id kvs kids j) := by
  have hLm := List.mem_of_getElem? hL
  have hRm := List.mem_of_getElem? hR
  obtain ⟨h1, hmf, r1⟩ :=
    mergeFrom_step hsub hcnt hlen ha hL hR (kind_of_bal (hbal _ hLm) (hbal _ hRm)) hfit hsib' hnl hch
  have hroot1 : h1.root = h.root := (r1.same rfl).root
  have hrep : ∀ fuel, repair (fuel + 1) h xi = mergeTail fuel h1 id li := by
    intro fuel
    have hd : Gen.Tree.deleteMerges (xi : Int) (h.root : Int) = true := by
      have : ¬ ((xi : Int) = (h.root : Int)) := by omega
      simp [Gen.Tree.deleteMerges, this]
    simp only [repair, hst, Option.bind_some, Bool.false_eq_true, if_false, hd, if_true]
    exact hmf fuel
  have hcle : ∀ i, cnt i (Node.mk id (kvs.take a ++ kvs.drop (a + 1))
      (kids.take a ++ .mk li (lkvs ++ kvs[a] :: rkvs) (lkids ++ rkids) :: kids.drop (a + 2))) ≤
      cnt i (Node.mk id kvs kids) := by
    obtain ⟨kvs', kids', L', hm, -, -, -, -, -, hck⟩ := mergeAt_spec hlen hL hR (hbal _ hLm) (hbal _ hRm)
    rw [mergeAt_eq (List.getElem?_eq_getElem ha) hL hR] at hm
    cases hm
    exact cnt_mk_le hck id _ _
  obtain ⟨sp1, hp1, _, rp1, _⟩ := sub_mk.mp r1.sub
  simp only [finish, hfc]
  by_cases hroot : id = h.root
  · have hrc : Gen.Tree.mergeRootCheck (id : Int) (h.root : Int) = true := by simp [Gen.Tree.mergeRootCheck, hroot]
    simp only [hrc, if_true]
    by_cases hemp : kvs.take a ++ kvs.drop (a + 1) = []
    · -- root collapse
      have hre : Gen.Tree.mergeRootEmpty ((kvs.take a ++ kvs.drop (a + 1)).length : Int) = true := by
        simp [Gen.Tree.mergeRootEmpty, hemp]
      have hka : (kids.take a ++ Node.mk li (lkvs ++ kvs[a] :: rkvs) (lkids ++ rkids) :: kids.drop (a + 2))[a]? =
          some (Node.mk li (lkvs ++ kvs[a] :: rkvs) (lkids ++ rkids)) := by
        have := length_take_of_lt (List.getElem?_eq_some_iff.mp hL).1
        rw [List.getElem?_append_right (Nat.le_of_eq this), this, Nat.sub_self]; rfl
      simp only [hre, if_true, hka, FinSim]
      obtain rfl : p = none := hrootp hroot
      rw [hemp] at r1 hcle
      obtain ⟨h2, hmt, r2⟩ :=
        collapse_sim (L := Node.mk li (lkvs ++ kvs[a] :: rkvs) (lkids ++ rkids)) r1.sub (by simp)
          (fun i => Nat.le_trans (hcle i) (hcnt i)) (by rw [hroot1]; exact hroot)
      exact ⟨h2, r1.trans r2 hcle, fun fuel => by rw [hrep]; exact hmt fuel⟩
    · have hre : Gen.Tree.mergeRootEmpty ((kvs.take a ++ kvs.drop (a + 1)).length : Int) = false := by
        have : (kvs.take a ++ kvs.drop (a + 1)).length ≠ 0 := fun e => hemp (List.eq_nil_of_length_eq_zero e)
        simp only [Gen.Tree.mergeRootEmpty, decide_eq_false_iff_not]; omega
      simp only [hre, Bool.false_eq_true, if_false]
      exact ⟨h1, r1, fun fuel => by
        rw [hrep]; exact mergeTail_keep hp1 rp1 (Or.inl ⟨by rw [hroot1]; exact hroot, hemp⟩) fuel⟩
  · have hrc : Gen.Tree.mergeRootCheck (id : Int) (h.root : Int) = false := by
      have : ¬ ((id : Int) = (h.root : Int)) := by omega
      simp [Gen.Tree.mergeRootCheck, this]
    simp only [hrc, Bool.false_eq_true, if_false]
    by_cases hlt : ((kvs.take a ++ kvs.drop (a + 1)).length : Int) < Gen.Tree.minKVs
    · have hmc : Gen.Tree.mergeCascades ((kvs.take a ++ kvs.drop (a + 1)).length : Int) false = true := by
        unfold Gen.Tree.mergeCascades; rw [decide_eq_true hlt]; rfl
      simp only [hmc, FinSim]
      exact ⟨h1, r1, fun fuel => by
        rw [hrep]; exact mergeTail_cascade hp1 rp1 (by rw [hroot1]; exact hroot) hlt fuel⟩
    · have hmc : Gen.Tree.mergeCascades ((kvs.take a ++ kvs.drop (a + 1)).length : Int) false = false := by
        unfold Gen.Tree.mergeCascades; rw [decide_eq_false hlt]; rfl
      simp only [hmc]
      exact ⟨h1, r1, fun fuel => by
        rw [hrep]
        exact mergeTail_keep hp1 rp1 (Or.inr ⟨by rw [hroot1]; exact hroot, by omega⟩) fuel⟩

/-- the underfull child `j` has a left sibling `L` and nothing can be stolen on the right: steal from `L` or merge into it -/
theorem left_sim {h : Heap K V} {p : Option Nat} {ht id j xi : Nat} {kvs xkvs : List (K × V)}
    {kids xkids : List (Node K V)} {L : Node K V} {right : Option Nat} {rn : Int}
    (hsub : Sub h.get p (.mk id kvs kids)) (hcnt : ∀ i, cnt i (Node.mk id kvs kids) ≤ 1)
    (hf : NeedsFix ht kvs kids j) (hX : kids[j]? = some (.mk xi xkvs xkids))
    (hXn' : (xkvs.length : Int) + 1 = Gen.Tree.minKVs) (hxroot : xi ≠ h.root) (hrootp : id = h.root → p = none)
    (hl : 0 < j) (hL : kids[j - 1]? = some L)
    (hsib' : Heap.siblings h xi = some (some L.id, right)) (hnR : Heap.nOf h right = some rn)
    (hstR : Gen.Tree.stealRight right.isSome rn = false)
    (hev : (L.n > Gen.Tree.minKVs ∧
        fixChild kvs kids j = (rotateRightAt kvs kids (j - 1)).map fun r => (r.1, r.2, none)) ∨
      (L.n ≤ Gen.Tree.minKVs ∧
        fixChild kvs kids j = (mergeAt kvs kids (j - 1)).map fun r => (r.1, r.2, some (j - 1)))) :
    FinSim h p (.mk id kvs kids) xi (finish h.root id kvs kids j) := by
  obtain ⟨hmin1, hmin2⟩ := two_min_le_cap
  have hlen := hf.len
  have hj : j < kids.length := (List.getElem?_eq_some_iff.mp hX).1
  obtain ⟨sp, hp, hpp, rp, hkids⟩ := sub_mk.mp hsub
  have hbX := hf.bal _ (List.mem_of_getElem? hX)
  have hXroom : xkvs.length < keysCap := by omega
  obtain ⟨li, lkvs, lkids⟩ := L
  have hLm := List.mem_of_getElem? hL
  obtain ⟨xL, hxL, hxLp, rL, _⟩ := sub_mk.mp (hkids _ hLm)
  have hX' : kids[j - 1 + 1]? = some (Node.mk xi xkvs xkids) := by rw [Nat.sub_add_cancel hl]; exact hX
  have hbL := hf.bal _ hLm
  have hnL : Heap.nOf h (some li) = some (lkvs.length : Int) := by rw [nOf_some hxL, rL.hn]
  have ha : j - 1 < kvs.length := by omega
  simp only [Node.id] at hsib'
  rcases hev with ⟨hln, hfc⟩ | ⟨hln, hfc⟩ <;> simp only [node_n] at hln
  · -- steal from the left sibling
    have hlne : lkvs ≠ [] := by intro e; subst e; simp at hln; omega
    obtain ⟨h', hrot, r⟩ := rotR_sim hsub hcnt ha hlne hL hX' (kind_of_bal hbL hbX) hXroom
    rw [rotateRightAt_eq ha hlne (bal_kids hbL) hL hX', Option.map_some] at hfc
    have hst : Heap.steal h xi = some (h', true) :=
      steal_left hsib' hnR hstR hnL (by simp [Gen.Tree.stealLeft, hln]) hrot
    simp only [finish, hfc]
    exact ⟨h', r, fun fuel => by simp [repair, hst]⟩
  · -- merge into the left sibling
    rw [mergeAt_eq (List.getElem?_eq_getElem ha) hL hX', Option.map_some] at hfc
    have hst : Heap.steal h xi = some (h, false) :=
      steal_none hsib' hnR hstR hnL (by simp [Gen.Tree.stealLeft, Int.not_lt.mpr hln])
    have hmil : Gen.Tree.mergeIntoLeft true (lkvs.length : Int) = true := by
      simp only [Gen.Tree.mergeIntoLeft, Bool.true_and, decide_eq_true_eq]; omega
    exact merge_sim hsub hcnt hlen hf.bal hxroot hrootp ha hL hX' (by omega) hsib' hnL (by simp [hmil]) hst hfc

theorem finish_sim {h : Heap K V} {p : Option Nat} {ht id j : Nat} {kvs : List (K × V)} {kids : List (Node K V)}
    {X : Node K V}
    (hsub : Sub h.get p (.mk id kvs kids)) (hcnt : ∀ i, cnt i (Node.mk id kvs kids) ≤ 1)
    (hf : NeedsFix ht kvs kids j) (hX : kids[j]? = some X) (hXn : X.n + 1 = Gen.Tree.minKVs)
    (hkv : 1 ≤ kvs.length) (hrootp : id = h.root → p = none) (hnroot : ∀ c ∈ kids, cnt h.root c = 0) :
    FinSim h p (.mk id kvs kids) X.id (finish h.root id kvs kids j) := by
  obtain ⟨hmin1, hmin2⟩ := two_min_le_cap
  have hlen := hf.len
  have hj : j < kids.length := (List.getElem?_eq_some_iff.mp hX).1
  obtain ⟨sp, hp, hpp, rp, hkids⟩ := sub_mk.mp hsub
  have hXm := List.mem_of_getElem? hX
  obtain ⟨xi, xkvs, xkids⟩ := X
  obtain ⟨xX, hxX, hxXp, rX, hXk⟩ := sub_mk.mp (hkids _ hXm)
  have hck := cntK_le_one hcnt
  have hnd := kids_ids_nodup hck
  have hXi : (kids.map Node.id)[j]? = some xi := by simp [hX, Node.id]
  have hsib := siblings_spec hxX hxXp hp rp (by simpa using hlen) hnd hXi
  simp only [List.getElem?_map] at hsib
  have hxroot : xi ≠ h.root := (ne_id_of_cnt_zero (hnroot _ hXm)).symm
  have hbX := hf.bal _ hXm
  have hXn' : (xkvs.length : Int) + 1 = Gen.Tree.minKVs := by simpa [node_n] using hXn
  have hXroom : xkvs.length < keysCap := by omega
  simp only [Node.id]
  -- what `steal` sees on the right when the right sibling, if any, cannot spare an entry
  have hright : (∀ R, kids[j + 1]? = some R → R.n ≤ Gen.Tree.minKVs) → ∃ rn,
      Heap.nOf h (if j < kvs.length then Option.map Node.id kids[j + 1]? else none) = some rn ∧
      Gen.Tree.stealRight (if j < kvs.length then Option.map Node.id kids[j + 1]? else none).isSome rn = false := by
    intro hle
    by_cases hr : j < kvs.length
    · obtain ⟨R, hR⟩ : ∃ R, kids[j + 1]? = some R := ⟨_, List.getElem?_eq_getElem (by omega)⟩
      obtain ⟨xR, hxR, _, rR⟩ := (hkids _ (List.mem_of_getElem? hR)).root
      have hn : ¬ R.n > Gen.Tree.minKVs := Int.not_lt.mpr (hle R hR)
      exact ⟨R.n, by rw [if_pos hr, hR, Option.map_some, nOf_some hxR, rR.hn]; rfl,
        by simp [hr, hR, Gen.Tree.stealRight, hn]⟩
    · exact ⟨0, by rw [if_neg hr]; rfl, by simp [hr, Gen.Tree.stealRight]⟩
  rcases fixChild_cases hlen hX hkv with ⟨R, hR, hrn, hfc⟩ | ⟨L, hl, hL, hRle, hev⟩ | ⟨R, hj0, hR, hrn, hfc⟩
  · -- steal from the right sibling
    obtain ⟨ri, rkvs, rkids⟩ := R
    have hr : j < kvs.length := by have := (List.getElem?_eq_some_iff.mp hR).1; omega
    have hRm := List.mem_of_getElem? hR
    obtain ⟨xR, hxR, _, rR, _⟩ := sub_mk.mp (hkids _ hRm)
    have hnR : Heap.nOf h (some ri) = some (rkvs.length : Int) := by rw [nOf_some hxR, rR.hn]
    simp only [hr, if_true, hR, Option.map_some, Node.id] at hsib
    simp only [node_n] at hrn
    cases rkvs with
    | nil => simp at hrn; omega
    | cons rk rkvs =>
      have hrn' : (rkvs.length : Int) + 1 > Gen.Tree.minKVs := by simpa using hrn
      obtain ⟨h', hrot, r⟩ := rotL_sim hsub hcnt hr hX hR (kind_of_bal hbX (hf.bal _ hRm)) hXroom
      rw [rotateLeftAt_eq hr hX hR, Option.map_some] at hfc
      have hst : Heap.steal h xi = some (h', true) :=
        steal_right hsib hnR (by simp [Gen.Tree.stealRight]; omega) hrot
      simp only [finish, hfc]
      exact ⟨h', r, fun fuel => by simp [repair, hst]⟩
  · obtain ⟨rn, hnR, hstR⟩ := hright hRle
    simp only [hl, if_true, hL, Option.map_some] at hsib
    exact left_sim hsub hcnt hf hX hXn' hxroot hrootp hl hL hsib hnR hstR hev
  · -- leftmost child: merge with the right sibling
    subst hj0
    obtain ⟨ri, rkvs, rkids⟩ := R
    have hr : 0 < kvs.length := hkv
    obtain ⟨xR, hxR, _, rR, _⟩ := sub_mk.mp (hkids _ (List.mem_of_getElem? hR))
    have hnR : Heap.nOf h (some ri) = some (rkvs.length : Int) := by rw [nOf_some hxR, rR.hn]
    simp only [node_n] at hrn
    have hstR : Gen.Tree.stealRight (some ri).isSome (rkvs.length : Int) = false := by
      simp [Gen.Tree.stealRight, Int.not_lt.mpr hrn]
    simp only [Nat.lt_irrefl, if_false, hr, if_true, hR, Option.map_some, Node.id] at hsib
    have hst : Heap.steal h xi = some (h, false) :=
      steal_none (ln := 0) hsib hnR hstR rfl (by simp [Gen.Tree.stealLeft])
    rw [mergeAt_eq (List.getElem?_eq_getElem hr) hX hR, Option.map_some] at hfc
    exact merge_sim (left := none) (ln := 0) hsub hcnt hlen hf.bal hxroot hrootp hr hX hR (by omega) hsib rfl
      (by simp [Gen.Tree.mergeIntoLeft]) hst hfc

end Juniper.Proofs.TreeHeapLink
