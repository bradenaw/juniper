/-! Lists used as stores of indexed records (the goroutines, waiters, workers or channels of a transition system, updated
with `set` / `modify` and counted with `countP`): what overwriting one position does to a lookup, to a property of all
entries, to a count and to a sum of ranks. Stated on core's `List` functions, so that a component's own
`cnt p ws := ws.countP p` is covered by unfolding. -/
namespace Juniper.ListStore

universe u
variable {α : Type u} {l : List α} {i k : Nat} {a b x : α} {p : α → Bool}

theorem lt_of_getElem? (h : l[i]? = some a) : i < l.length := (List.getElem?_eq_some_iff.mp h).1

theorem getElem?_set_some (h : (l.set i a)[k]? = some x) : i = k ∧ x = a ∨ i ≠ k ∧ l[k]? = some x := by
  rw [List.getElem?_set] at h
  split at h
  · split at h
    · exact .inl ⟨‹_›, (Option.some.inj h).symm⟩
    · cases h
  · exact .inr ⟨‹_›, h⟩

theorem getElem?_of_set_ne (h : (l.set i a)[k]? = some x) (hx : x ≠ a) : l[k]? = some x :=
  (getElem?_set_some h).elim (fun h => absurd h.2 hx) (·.2)

theorem modify_eq_set {f : α → α} (h : l[i]? = some a) : l.modify i f = l.set i (f a) := by
  obtain ⟨hi, rfl⟩ := List.getElem?_eq_some_iff.mp h
  apply List.ext_getElem?
  intro k
  rw [List.getElem?_modify, List.getElem?_set]
  by_cases hik : i = k
  · subst hik; simp [hi]
  · simp [hik]

theorem getElem?_modify_self (f : α → α) (h : l[i]? = some a) : (l.modify i f)[i]? = some (f a) := by
  rw [List.getElem?_modify_eq, h]; rfl

theorem set_eq_self (h : l[i]? = some a) : l.set i a = l := by
  obtain ⟨hi, rfl⟩ := List.getElem?_eq_some_iff.mp h
  exact List.set_getElem_self hi

theorem forall_set {P : Nat → α → Prop} (hl : ∀ k x, l[k]? = some x → P k x) (ha : P i a) :
    ∀ k x, (l.set i a)[k]? = some x → P k x := fun k x h =>
  (getElem?_set_some h).elim (fun e => e.1 ▸ e.2 ▸ ha) (fun e => hl k x e.2)

theorem forall_mem_set {P : α → Prop} (i : Nat) (hl : ∀ x ∈ l, P x) (ha : P a) : ∀ x ∈ l.set i a, P x :=
  fun x hx => (List.mem_or_eq_of_mem_set hx).elim (hl x) (· ▸ ha)

theorem getElem?_append_of_some (r : List α) (h : l[k]? = some x) : (l ++ r)[k]? = some x := by
  rw [List.getElem?_append_left (lt_of_getElem? h)]; exact h

theorem getElem?_concat_some (h : (l ++ [a])[k]? = some x) : l[k]? = some x ∨ k = l.length ∧ x = a := by
  rw [List.getElem?_append] at h
  split at h
  · exact .inl h
  · cases hk : k - l.length with
    | zero => rw [hk] at h; exact .inr ⟨by omega, (Option.some.inj h).symm⟩
    | succ n => rw [hk] at h; cases h

theorem ite_le_countP (p : α → Bool) (h : l[i]? = some b) : (if p b then 1 else 0) ≤ l.countP p := by
  split
  · exact List.countP_pos_iff.2 ⟨b, List.mem_of_getElem? h, ‹_›⟩
  · exact Nat.zero_le _

/-- core's `List.countP_set`, with the overwritten element named -/
theorem countP_set_sub (h : l[i]? = some b) :
    (l.set i a).countP p = l.countP p - (if p b then 1 else 0) + (if p a then 1 else 0) := by
  obtain ⟨hw, rfl⟩ := List.getElem?_eq_some_iff.1 h
  exact List.countP_set hw

/-- the same without truncated subtraction: what `omega` wants -/
theorem countP_set_add (h : l[i]? = some b) :
    (l.set i a).countP p + (if p b then 1 else 0) = l.countP p + (if p a then 1 else 0) := by
  have := ite_le_countP p h
  rw [countP_set_sub h]; omega

theorem countP_modify (f : α → α) (h : l[i]? = some b) :
    (l.modify i f).countP p + (if p b then 1 else 0) = l.countP p + (if p (f b) then 1 else 0) := by
  rw [modify_eq_set h]
  exact countP_set_add h

theorem countP_set_le (ha : p a = false) : (l.set i a).countP p ≤ l.countP p := by
  cases h : l[i]? with
  | none => rw [List.set_eq_of_length_le (List.getElem?_eq_none_iff.1 h)]; exact Nat.le_refl _
  | some b => have := countP_set_add (p := p) (a := a) h; simp only [ha, Bool.false_eq_true, if_false] at this; omega

theorem countP_pos (h : l[i]? = some b) (hb : p b = true) : 0 < l.countP p :=
  List.countP_pos_iff.2 ⟨b, List.mem_of_getElem? h, hb⟩

theorem countP_set_pos (h : l[i]? = some b) (ha : p a = true) : 0 < (l.set i a).countP p :=
  countP_pos (List.getElem?_set_self (lt_of_getElem? h)) ha

theorem countP_le_set (h : l[i]? = some b) (hba : p b = true → p a = true) :
    l.countP p ≤ (l.set i a).countP p := by
  have := countP_set_add (p := p) (a := a) h
  cases hb : p b
  · simp only [hb, Bool.false_eq_true, if_false] at this; omega
  · simp only [hb, hba hb, if_true] at this; omega

theorem countP_set_pred (h : l[i]? = some b) (hb : p b = true) (ha : p a = false) :
    (l.set i a).countP p + 1 = l.countP p := by
  have := countP_set_add (p := p) (a := a) h; simpa [hb, ha] using this

theorem countP_set_succ (h : l[i]? = some b) (hb : p b = false) (ha : p a = true) :
    (l.set i a).countP p = l.countP p + 1 := by
  have := countP_set_add (p := p) (a := a) h; simpa [hb, ha] using this

theorem countP_lt_length (h : l[i]? = some b) (hb : p b = false) : l.countP p + 1 ≤ l.length := by
  have := List.length_eq_countP_add_countP p (l := l)
  have := countP_pos (p := fun a => decide ¬p a = true) h (by simp [hb])
  omega

/-- `g`: a component's own recursive sum of the per-element ranks `f` -/
theorem sum_set {f : α → Nat} {g : List α → Nat} (hcons : ∀ x xs, g (x :: xs) = f x + g xs)
    (h : l[i]? = some b) : f b ≤ g l ∧ ∀ a, g (l.set i a) = g l - f b + f a := by
  induction l generalizing i with
  | nil => simp at h
  | cons x xs ih =>
    cases i with
    | zero =>
      obtain rfl : x = b := by simpa using h
      exact ⟨by rw [hcons]; omega, fun a => by rw [List.set_cons_zero, hcons, hcons]; omega⟩
    | succ i =>
      obtain ⟨h1, h2⟩ := ih (by simpa using h)
      exact ⟨by rw [hcons]; omega, fun a => by rw [List.set_cons_succ, hcons, hcons, h2]; omega⟩

theorem sum_le {f : α → Nat} {g : List α → Nat} (hnil : g [] = 0) (hcons : ∀ x xs, g (x :: xs) = f x + g xs) {c : Nat} :
    ∀ l, (∀ x ∈ l, f x ≤ c) → g l ≤ c * l.length
  | [], _ => by rw [hnil]; exact Nat.zero_le _
  | x :: xs, h => by
    have := sum_le hnil hcons xs fun y hy => h y (List.mem_cons_of_mem _ hy)
    have := h x List.mem_cons_self
    rw [hcons, List.length_cons, Nat.mul_succ]; omega

theorem sum_map_set (f : α → Nat) (h : l[i]? = some b) :
    ((l.set i a).map f).sum + f b = (l.map f).sum + f a := by
  obtain ⟨h1, h2⟩ := sum_set (f := f) (g := fun l => (l.map f).sum) (fun _ _ => rfl) h
  have := h2 a
  omega

end Juniper.ListStore
