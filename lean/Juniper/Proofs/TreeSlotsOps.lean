import Juniper.Model.BTreeSlotsOps
import Juniper.Proofs.TreeSlots
/-!
# Slot-level lemmas (C03 "no retained garbage"): the array primitives

`Rep a cap l`: the fixed array `a` has `cap` slots, its live prefix holds exactly the elements of `l`
(all non-zero) and every slot behind the live prefix is zero; it is `Tree.Clean cap l a` of
`Proofs/TreeSlots.lean`. Each primitive of `Model/BTreeSlotsOps.lean` is shown to return, within its bounds,
what the primitive of the total model `Model/BTreeSlots.lean` computes (`*_total`), so that it maps `Rep` to
`Rep` of the corresponding list operation by the lemma proved there (`rep_*`).
-/
namespace Juniper.Proofs.TreeSlotsOps
open Juniper.Model.BTreeSlotsOps Juniper.Gen Juniper.Proofs.Slots

variable {α : Type}

def Rep (a : Slots α) (cap : Nat) (l : List α) : Prop :=
  a = l.map some ++ List.replicate (cap - l.length) none ∧ l.length ≤ cap

theorem Rep.length {a : Slots α} {cap l} (h : Rep a cap l) : a.length = cap :=
  Tree.Clean.length_eq h

theorem rep_nil (cap : Nat) : Rep (List.replicate cap (none : Option α)) cap [] :=
  Tree.clean_fresh cap

theorem Rep.take {a : Slots α} {cap l} (h : Rep a cap l) : a.take l.length = l.map some :=
  Tree.Clean.prefix_eq h

theorem Rep.get_tail {a : Slots α} {cap l} (h : Rep a cap l) {i : Nat} (h1 : l.length ≤ i) (h2 : i < cap) :
    a[i]? = some none :=
  Tree.tail_cleared h i h1 h2

theorem Rep.get_live {a : Slots α} {cap l} (h : Rep a cap l) {i : Nat} (h1 : i < l.length) :
    a[i]? = some (some l[i]) :=
  Tree.live_slots h i h1

theorem Rep.get_live_map {β : Type} {f : β → α} {a : Slots α} {cap} {l : List β} (h : Rep a cap (l.map f))
    {i : Nat} (h1 : i < l.length) : a[i]? = some (some (f l[i])) := by
  rw [h.get_live (by rw [List.length_map]; exact h1), List.getElem_map]

theorem Rep.get_last_map {β : Type} {f : β → α} {a : Slots α} {cap} {l : List β} (h : Rep a cap (l.map f))
    (hne : l ≠ []) : a[l.length - 1]? = some (some (f (l.getLast hne))) := by
  rw [h.get_live_map (Nat.sub_one_lt (mt List.length_eq_zero_iff.mp hne)), List.getLast_eq_getElem]

theorem Rep.get? {a : Slots α} {cap l} (h : Rep a cap l) {i : Nat} (h1 : i < l.length) : a[i]? = some l[i]? := by
  rw [h.get_live h1, List.getElem?_eq_getElem h1]

/-- slot 0 read as `head?`: the first element, zero under an empty list (`right.children[0]`) -/
theorem Rep.get_head? {a : Slots α} {cap l} (h : Rep a cap l) (hcap : 0 < cap) : a[0]? = some l.head? := by
  cases l with
  | nil => simpa using h.get_tail (i := 0) (by simp) hcap
  | cons c cs => exact h.get_live (i := 0) (by simp)

/-- slot `n` of a list that is empty or has `n + 1` elements, read as `getLast?` (`left.children[left.n]`) -/
theorem Rep.get_last? {a : Slots α} {cap l} {n : Nat} (h : Rep a cap l) (hshape : l = [] ∨ l.length = n + 1)
    (hcap : n < cap) : a[n]? = some l.getLast? := by
  rcases hshape with rfl | hl
  · simpa using h.get_tail (i := n) (by simp) hcap
  · have hne := List.ne_nil_of_length_eq_add_one hl
    rw [h.get_live (i := n) (by omega), List.getLast?_eq_some_getLast hne, List.getLast_eq_getElem]
    simp [hl]

theorem Rep.unique {a : Slots α} {cap l l'} (h : Rep a cap l) (h' : Rep a cap l') : l = l' := by
  have key : ∀ {l l' : List α}, Rep a cap l → Rep a cap l' → ¬ l.length < l'.length := fun h h' hlt => by
    have h1 := h.get_tail (Nat.le_refl _) (Nat.lt_of_lt_of_le hlt h'.2)
    rw [h'.get_live hlt] at h1; cases h1
  have heq : l.length = l'.length := by have := key h h'; have := key h' h; omega
  have e := h.take
  rw [heq, h'.take] at e
  exact (List.map_inj_right fun _ _ => Option.some.inj).mp e.symm

theorem Rep.eq {a b : Slots α} {cap l} (ha : Rep a cap l) (hb : Rep b cap l) : a = b := ha.1.trans hb.1.symm

@[simp] theorem toIdx_natCast (n : Nat) : toIdx (n : Int) = some n := by simp [toIdx]

theorem toIdx_eq {i : Int} {n : Nat} (h : i = (n : Int)) : toIdx i = some n := by subst h; simp

theorem toIdx_succ {i : Int} {n : Nat} (h : i = (n : Int)) : toIdx (i + 1) = some (n + 1) :=
  toIdx_eq (by rw [h]; rfl)

theorem toIdx_pred {i : Int} {n : Nat} (h : i = (n : Int)) (hn : 0 < n) : toIdx (i - 1) = some (n - 1) :=
  toIdx_eq (by rw [h]; omega)

/-! ## the partial model computes what the total model (`Model/BTreeSlots.lean`) computes

Within the bounds under which the Go code does not panic, each primitive of `Model/BTreeSlotsOps.lean` returns
`some` of the corresponding total primitive, a window `a[:hi]` being `onPrefix hi`. -/
section
open Juniper.Model

theorem setSlot_total {a : Slots α} {i : Nat} (h : i < a.length) (x : Option α) :
    setSlot a i x = some (BTreeSlots.setSlot a i x) := by
  rw [setSlot, if_pos h, BTreeSlots.setSlot, List.set_eq_take_append_cons_drop, if_pos h]

theorem setSlot_onPrefix {a : Slots α} {hi i : Nat} {f : List (Option α) → List (Option α)}
    (hf : i < (f (a.take hi)).length) (x : Option α) :
    setSlot (BTreeSlots.onPrefix hi f a) i x =
      some (BTreeSlots.onPrefix hi (fun p => BTreeSlots.setSlot (f p) i x) a) := by
  rw [setSlot_total (by rw [BTreeSlots.onPrefix, List.length_append]; omega)]
  simp only [BTreeSlots.onPrefix, BTreeSlots.setSlot]
  rw [List.set_append_left _ _ hf]

theorem drop_take_append_drop (l : List α) {k hi : Nat} (h : k ≤ hi) :
    (l.take hi).drop k ++ l.drop hi = l.drop k := by
  rw [← List.take_append_drop (hi - k) (l.drop k), List.drop_take, List.drop_drop, Nat.add_sub_cancel' h]

theorem copySlots_eq {dst src : Slots α} {dlo dhi slo shi : Nat}
    (h1 : dlo ≤ dhi) (h2 : dhi ≤ dst.length) (h3 : slo ≤ shi) (h4 : shi ≤ src.length) :
    copySlots dst dlo dhi src slo shi =
      some (dst.take dlo ++ (src.drop slo).take (min (dhi - dlo) (shi - slo)) ++ dst.drop (dlo + min (dhi - dlo) (shi - slo))) := by
  rw [copySlots, if_pos ⟨h1, h2, h3, h4⟩]

/-- `copy(dst[d:hi], src[s:e])` is `copy(p[d:], src[s:e])` on the slice `p = dst[:hi]` -/
theorem copySlots_total {dst src : Slots α} {d hi s e : Nat} (h1 : d ≤ hi) (h2 : hi ≤ dst.length) (h3 : s ≤ e)
    (h4 : e ≤ src.length) :
    copySlots dst d hi src s e =
      some (BTreeSlots.onPrefix hi (fun p => BTreeSlots.copyInto p d ((src.take e).drop s)) dst) := by
  have hp : (dst.take hi).length = hi := by rw [List.length_take]; omega
  have hq : ((src.take e).drop s).length = e - s := by rw [List.length_drop, List.length_take]; omega
  rw [copySlots_eq h1 h2 h3 h4, BTreeSlots.onPrefix, BTreeSlots.copyInto, hp, hq, List.take_take,
    Nat.min_eq_left h1, List.drop_take, List.take_take, List.append_assoc, List.append_assoc, List.append_assoc]
  congr 3
  by_cases hc : e - s ≤ hi - d
  · rw [Nat.min_eq_right hc, drop_take_append_drop dst (by omega)]
  · rw [Nat.min_eq_left (by omega), Nat.add_sub_cancel' h1, List.drop_eq_nil_of_le (as := dst.take hi) (by omega),
      List.nil_append]

/-- `copy(dst[d:], src[:e])` -/
theorem copySlots_whole {dst src : Slots α} {d e : Nat} (h1 : d ≤ dst.length) (h2 : e ≤ src.length) :
    copySlots dst d dst.length src 0 e = some (BTreeSlots.copyInto dst d (src.take e)) := by
  rw [copySlots_total h1 (Nat.le_refl _) (Nat.zero_le _) h2, Tree.onPrefix_length]; rfl

theorem insertOne_total {a : Slots α} {hi idx : Nat} (h1 : idx < hi) (h2 : hi ≤ a.length) (x : Option α) :
    insertOne a hi (idx : Int) x = some (BTreeSlots.onPrefix hi (fun p => BTreeSlots.insertOne p idx x) a) := by
  have e1 : toIdx (TreeSlots.insertOneDstLo idx) = some (idx + 1) := toIdx_eq (by simp [TreeSlots.insertOneDstLo])
  have e2 : toIdx (TreeSlots.insertOneSrcLo idx) = some idx := toIdx_eq (by simp [TreeSlots.insertOneSrcLo])
  have hp : (a.take hi).length = hi := by rw [List.length_take]; omega
  -- both statements of `insertOne` are in the source (generated presence facts)
  simp only [insertOne, e1, e2, toIdx_natCast, Option.bind_some, bind, TreeSlots.insertOneShifts,
    TreeSlots.insertOneWrites, if_true]
  rw [copySlots_total (by omega) h2 (by omega) h2, Option.bind_some, if_pos h1]
  exact setSlot_onPrefix (by rw [Tree.length_copyInto _ _ (by omega), hp]; exact h1) x

/-- both statements of `removeOne` are in the source -/
abbrev RemoveOnePresent : Prop := TreeSlots.removeOneShifts = true ∧ TreeSlots.removeOneZeroesLast = true

theorem removeOne_total {a : Slots α} {hi idx : Nat} (h1 : idx < hi) (h2 : hi ≤ a.length) (hf : RemoveOnePresent) :
    removeOne a hi idx = some (BTreeSlots.remove a hi idx) := by
  have hp : (a.take hi).length = hi := by rw [List.length_take]; omega
  have hl : (BTreeSlots.copyInto (a.take hi) idx ((a.take hi).drop (idx + 1))).length = hi := by
    rw [Tree.length_copyInto _ _ (by omega), hp]
  rw [removeOne, if_pos hf.1, copySlots_total (by omega) h2 (by omega) h2, Option.bind_eq_bind, Option.bind_some]
  simp only []
  rw [if_pos hf.2, if_pos ⟨by omega, by rw [BTreeSlots.onPrefix, List.length_append, hl, List.length_drop]; omega⟩,
    setSlot_onPrefix (by rw [hl]; omega), BTreeSlots.remove, BTreeSlots.onPrefix, BTreeSlots.onPrefix]
  simp only [BTreeSlots.removeOne, Tree.zeroSlot_present (show Tree.removeOneZeroesLast = true by decide), hp]

theorem clearFrom_eq {a : Slots α} {lo : Nat} (h : lo ≤ a.length) :
    clearFrom a lo = some (BTreeSlots.clearFrom a lo) := by
  rw [clearFrom, if_pos h]; rfl

end

theorem rep_setSlot_append {a : Slots α} {cap l} (h : Rep a cap l) (hl : l.length < cap) (x : α) :
    ∃ a', setSlot a l.length (some x) = some a' ∧ Rep a' cap (l ++ [x]) :=
  ⟨_, setSlot_total (by rw [h.length]; exact hl) _, Tree.slots_refine_setNext x h hl⟩

theorem rep_setSlot_replace {a : Slots α} {cap l} (h : Rep a cap l) {i : Nat} (hi : i < l.length) (x : α) :
    ∃ a', setSlot a i (some x) = some a' ∧ Rep a' cap (l.take i ++ x :: l.drop (i + 1)) :=
  ⟨_, setSlot_total (by rw [h.length]; exact Nat.lt_of_lt_of_le hi h.2) _, Tree.slots_refine_replace x h hi⟩

theorem rep_setSlot_clearLast {a : Slots α} {cap l} (h : Rep a cap l) (hl : 0 < l.length) :
    ∃ a', setSlot a (l.length - 1) none = some a' ∧ Rep a' cap l.dropLast :=
  ⟨_, setSlot_total (by have := h.2; rw [h.length]; omega) _, Tree.clean_setSlot_last h hl⟩

theorem rep_setSlot_dead {a : Slots α} {cap l} (h : Rep a cap l) {i : Nat} (h1 : l.length ≤ i) (h2 : i < cap) :
    setSlot a i none = some a :=
  (setSlot_total (by rw [h.length]; exact h2) _).trans (congrArg some (Tree.setSlot_dead h h1))

theorem rep_copy_append {dst src : Slots α} {cap cap' l r} (hd : Rep dst cap l) (hs : Rep src cap' r)
    (hfit : l.length + r.length ≤ cap) :
    ∃ a', copySlots dst l.length dst.length src 0 r.length = some a' ∧ Rep a' cap (l ++ r) :=
  ⟨_, copySlots_whole (by rw [hd.length]; omega) (by rw [hs.length]; exact hs.2), Tree.clean_copyInto hd hs hfit⟩

/-- copying zeros onto zeros changes nothing (the child arrays of two leaves in `mergeTwo`) -/
theorem rep_copy_dead {dst src : Slots α} {cap cap' l} (hd : Rep dst cap l) (hs : Rep src cap' [])
    {dlo cnt : Nat} (h1 : l.length ≤ dlo) (h2 : dlo + cnt ≤ cap) (h3 : cnt ≤ cap') :
    copySlots dst dlo dst.length src 0 cnt = some dst :=
  (copySlots_whole (by rw [hd.length]; omega) (by rw [hs.length]; exact h3)).trans
    (congrArg some (Tree.copyInto_dead hd hs h1 h2 h3))

theorem rep_insertOne {a : Slots α} {cap l} (h : Rep a cap l) {hi idx : Nat} (hidx : idx ≤ l.length)
    (hl : l.length < hi) (hhi : hi ≤ cap) (x : α) :
    ∃ a', insertOne a hi (idx : Int) (some x) = some a' ∧ Rep a' cap (l.take idx ++ x :: l.drop idx) :=
  ⟨_, insertOne_total (by omega) (by rw [h.length]; exact hhi) _,
    Tree.clean_onPrefix h (by omega) hhi fun hp => Tree.slots_refine_insertOne x hp hidx hl⟩

theorem rep_insertOne_front {a : Slots α} {cap l} (h : Rep a cap l) (hl : l.length < cap) (x : α) :
    ∃ a', insertOne a cap 0 (some x) = some a' ∧ Rep a' cap (x :: l) :=
  rep_insertOne h (idx := 0) (Nat.zero_le _) hl (Nat.le_refl _) x

/-- inserting a zero into an all-zero array (the child arrays of leaves in `rotateRight`) -/
theorem rep_insertOne_none {a : Slots α} {cap} (h : Rep a cap []) (h0 : 0 < cap) :
    insertOne a cap 0 none = some a := by
  have hl := h.length
  subst hl
  exact (insertOne_total (idx := 0) h0 (Nat.le_refl _) none).trans
    (congrArg some (Rep.eq (Tree.slots_refine_rotateRight_receiver_children_leaf h) h))

theorem rep_removeOne {a : Slots α} {cap l} (h : Rep a cap l) {hi idx : Nat} (hidx : idx < l.length)
    (hl : l.length ≤ hi) (hhi : hi ≤ cap) (hf : RemoveOnePresent) :
    ∃ a', removeOne a hi idx = some a' ∧ Rep a' cap (l.take idx ++ l.drop (idx + 1)) :=
  ⟨_, removeOne_total (by omega) (by rw [h.length]; exact hhi) hf,
    Tree.clean_onPrefix h hl hhi fun hp => Tree.slots_refine_removeOne hp (by omega)⟩

theorem rep_removeOne_front {a : Slots α} {cap l} (h : Rep a cap l) (hl : 0 < l.length)
    (hf : RemoveOnePresent) : ∃ a', removeOne a cap 0 = some a' ∧ Rep a' cap (l.drop 1) :=
  rep_removeOne h hl h.2 (Nat.le_refl _) hf

/-- removing from an all-zero array (the child arrays of leaves in `rotateLeft`) -/
theorem rep_removeOne_none {a : Slots α} {cap} (h : Rep a cap []) (h0 : 0 < cap)
    (hf : RemoveOnePresent) : removeOne a cap 0 = some a := by
  have hl := h.length
  subst hl
  exact (removeOne_total h0 (Nat.le_refl _) hf).trans
    (congrArg some (Rep.eq (Tree.slots_refine_rotateLeft_donor h h0) h))

theorem rep_clearFrom_id {a : Slots α} {cap l} (h : Rep a cap l) {lo : Nat} (h1 : l.length ≤ lo) (h2 : lo ≤ cap) :
    clearFrom a lo = some a :=
  (clearFrom_eq (by rw [h.length]; exact h2)).trans
    (congrArg some (Rep.eq (List.take_of_length_le h1 ▸ Tree.clean_clearFrom h h2) h))

/-! ## what the retention clause says about one array -/

def TailCleared {α : Type} (a : Slots α) (n : Nat) : Prop := ∀ i, n ≤ i → i < a.length → a[i]? = some none

theorem Rep.tailCleared {α : Type} {a : Slots α} {cap l} (h : Rep a cap l) : TailCleared a l.length := by
  intro i h1 h2
  exact h.get_tail h1 (by rw [← h.length]; exact h2)

theorem tailCleared_of_rep {α : Type} {o : Option (Slots α)} {cap l'} (h : ∃ a', o = some a' ∧ Rep a' cap l')
    {a : Slots α} (ha : o = some a) {n : Nat} (hn : l'.length = n) : TailCleared a n := by
  obtain ⟨a', e, hr⟩ := h
  rw [ha] at e; cases e
  exact hn ▸ hr.tailCleared

/-! ## the loops of `overfill` and the amalgam view, again as the total model's -/
section
open Juniper.Model

theorem fillUp_total {cond : Nat → Bool} {all : List α} {frm cnt : Nat} (hc : ∀ i, cond i = decide (i < cnt)) :
    ∀ (fuel i : Nat) (a : Slots α), i ≤ cnt → cnt ≤ a.length → cnt - i < fuel →
      fillUp cond (fun i => all[frm + i]?) fuel i a =
        some ((List.range' i (cnt - i)).foldl (fun a i => BTreeSlots.setSlot a i all[frm + i]?) a) := by
  intro fuel
  induction fuel with
  | zero => intro i a _ _ h; omega
  | succ fuel ih =>
    intro i a h1 h2 h3
    unfold fillUp
    rw [hc i]
    by_cases hlt : i < cnt
    · rw [decide_eq_true hlt, if_pos rfl, setSlot_total (by omega), Option.bind_some,
        ih (i + 1) _ (by omega) (by rw [BTreeSlots.setSlot, List.length_set]; exact h2) (by omega),
        show cnt - i = (cnt - (i + 1)) + 1 by omega, List.range'_succ, List.foldl_cons]
    · rw [decide_eq_false hlt, if_neg Bool.false_ne_true, show cnt - i = 0 by omega]; rfl

/-- the ascending loop that fills the fresh right node from position `frm` of the amalgam -/
theorem fillUp_splitRight {cond : Nat → Bool} {all : List α} {frm cnt cap : Nat} (hc : ∀ i, cond i = decide (i < cnt))
    (h : cnt ≤ cap) :
    fillUp cond (fun i => all[frm + i]?) (cap + 1) 0 (List.replicate cap none) =
      some (BTreeSlots.splitRight cap all frm cnt) := by
  rw [fillUp_total hc _ 0 _ (Nat.zero_le _) (by rw [List.length_replicate]; exact h) (by omega), Nat.sub_zero,
    ← List.range_eq_range']
  rfl

/-- the descending in-place loop of the left half, reading through the amalgam view -/
theorem fillDown_total {f : Slots α → Nat → Option α} {e : Nat} {x : Option α}
    (hf : ∀ a i, f a i = BTreeSlots.amalgamGet a e x i) :
    ∀ (m : Nat) (a : Slots α), m ≤ a.length → fillDown f m a = some (BTreeSlots.writeAmalgamDesc a e x m) := by
  intro m
  induction m with
  | zero => intro a _; rfl
  | succ m ih =>
    intro a hm
    unfold fillDown
    rw [setSlot_total (by omega), Option.bind_some, ih _ (by rw [BTreeSlots.setSlot, List.length_set]; omega), hf]
    simp only [BTreeSlots.writeAmalgamDesc]
    rw [List.range_succ, List.foldr_append]
    rfl

theorem amalgamGet_total {isExtra shifts : Int → Int → Bool} {e p : Nat}
    (hx : ∀ i : Nat, isExtra i e = decide (i = p)) (hs : ∀ i : Nat, shifts i e = decide (i > p))
    (a : Slots α) (x : Option α) (i : Nat) :
    amalgamGet isExtra shifts true a x e i = BTreeSlots.amalgamGet a p x i := by
  rw [amalgamGet, BTreeSlots.amalgamGet, hx, hs]
  by_cases h1 : i = p
  · rw [decide_eq_true h1, if_pos rfl, if_pos h1]
  · rw [decide_eq_false h1, if_neg Bool.false_ne_true, if_neg h1]
    by_cases h2 : i > p
    · rw [decide_eq_true h2, if_pos h2, List.getD_eq_getElem?_getD]
      show (a[((i : Int) + -1).toNat]?).getD none = _
      rw [show ((i : Int) + -1).toNat = i - 1 by omega]
    · rw [decide_eq_false h2, if_neg h2, List.getD_eq_getElem?_getD]
      rfl

end

end Juniper.Proofs.TreeSlotsOps
