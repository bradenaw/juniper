import Juniper.Proofs.TreeHeapLinkBase
/-!
# Linking the two B-tree models (C03): what one `Heap.step` does to the store

For every node-level operation `Heap.step` is described as an update of the store function
`h.get : Nat → Option (SNode K V Nat)`: which objects change, what the changed objects represent
(`NodeRep`, from `Proofs/TreeSlotsOpsNode.lean` / `…Split.lean`) and that parent pointers are kept.
The generated presence facts of the zeroing / shifting statements are discharged by `decide` here.
-/
namespace Juniper.Proofs.TreeHeapLink
open Juniper Juniper.Model.BTree Juniper.Model.BTreeSlotsOps Juniper.Proofs.Tree Juniper.Proofs.TreeSlotsOps

variable {K V C : Type}

theorem getNode_set {fam : Fam K V C} {i : Nat} (hi : i < fam.length) (o : Option (SNode K V C)) (j : Nat) :
    getNode (fam.set i o) j = if j = i then o else getNode fam j := by
  unfold getNode
  rw [List.getElem?_set]
  by_cases hji : j = i
  · subst hji; simp [hi]
  · have : ¬ i = j := fun h => hji h.symm
    simp [hji, this]

theorem getNode_snoc (fam : Fam K V C) (o : Option (SNode K V C)) (j : Nat) :
    getNode (fam ++ [o]) j = if j = fam.length then o else getNode fam j := by
  unfold getNode
  by_cases hj : j < fam.length
  · rw [List.getElem?_append_left hj]
    have : ¬ j = fam.length := by omega
    simp [this]
  · by_cases hje : j = fam.length
    · subst hje; simp
    · have h1 : fam.length + 1 ≤ j := by omega
      rw [List.getElem?_eq_none (by simpa using h1), List.getElem?_eq_none (by omega)]
      simp [hje]

/-- `h'` differs from `h` only in the store (and the logs) -/
structure Same (h h' : Heap K V) : Prop where
  root : h'.root = h.root
  size : h'.size = h.size
  gen : h'.gen = h.gen
  len : h'.nodes.length = h.nodes.length

theorem Same.refl (h : Heap K V) : Same h h := ⟨rfl, rfl, rfl, rfl⟩

theorem Same.trans {h1 h2 h3 : Heap K V} (a : Same h1 h2) (b : Same h2 h3) : Same h1 h3 :=
  ⟨b.root.trans a.root, b.size.trans a.size, b.gen.trans a.gen, b.len.trans a.len⟩

theorem get_lt {h : Heap K V} {i : Nat} {x : SNode K V Nat} (hx : h.get i = some x) : i < h.nodes.length :=
  (List.getElem?_eq_some_iff.mp (Option.join_eq_some_iff.mp hx)).1

theorem get_ge {h : Heap K V} {i : Nat} (hi : h.nodes.length ≤ i) : h.get i = none := by
  unfold Heap.get getNode
  rw [List.getElem?_eq_none hi]; rfl

theorem step_some {h : Heap K V} {op : NodeOp K V Nat} {w : List Nat} {fam : Fam K V Nat}
    (ha : applyOp h.nodes op = some fam) :
    h.step op w = some { h with nodes := fam, dirty := w ++ h.dirty } := by
  simp [Heap.step, ha]

@[simp] theorem event_get (h : Heap K V) (e : String) : (h.event e).get = h.get := rfl
@[simp] theorem event_root (h : Heap K V) (e : String) : (h.event e).root = h.root := rfl
@[simp] theorem event_size (h : Heap K V) (e : String) : (h.event e).size = h.size := rfl
@[simp] theorem event_gen (h : Heap K V) (e : String) : (h.event e).gen = h.gen := rfl

theorem same_event (h : Heap K V) (e : String) : Same h (h.event e) := ⟨rfl, rfl, rfl, rfl⟩

theorem step_set1 {h : Heap K V} {op : NodeOp K V Nat} {w : List Nat} {i : Nat} {x : SNode K V Nat}
    {o : Option (SNode K V Nat)} (hx : h.get i = some x) (ha : applyOp h.nodes op = some (h.nodes.set i o)) :
    ∃ h', h.step op w = some h' ∧ Same h h' ∧ ∀ j, h'.get j = if j = i then o else h.get j := by
  refine ⟨_, step_some ha, ⟨rfl, rfl, rfl, by simp⟩, ?_⟩
  intro j
  exact getNode_set (get_lt hx) _ j

theorem getNode_set3 {fam : Fam K V C} {p l r : Nat} (hp : p < fam.length) (hl : l < fam.length) (hr : r < fam.length)
    (op ol or : Option (SNode K V C)) (j : Nat) :
    getNode (((fam.set p op).set l ol).set r or) j =
      if j = r then or else if j = l then ol else if j = p then op else getNode fam j := by
  rw [getNode_set (by simpa using hr), getNode_set (by simpa using hl), getNode_set hp]

theorem step_onNode {h : Heap K V} {op : NodeOp K V Nat} {i : Nat} {guard : SNode K V Nat → Prop} [DecidablePred guard]
    {f : SNode K V Nat → Option (SNode K V Nat)} (heq : applyOp h.nodes op = onNode h.nodes i guard f)
    {x x' : SNode K V Nat} (hx : h.get i = some x) (hg : guard x) (hf : f x = some x') (w : List Nat) :
    ∃ h', h.step op w = some h' ∧ Same h h' ∧ ∀ j, h'.get j = if j = i then some x' else h.get j :=
  step_set1 hx (by
    rw [heq, onNode, show getNode h.nodes i = some x from hx, Option.bind_some, if_pos hg, hf, Option.bind_some])

theorem step_onThree {h : Heap K V} {op : NodeOp K V Nat} {p l r : Nat}
    {guard : SNode K V Nat → SNode K V Nat → SNode K V Nat → Prop} [∀ a b c, Decidable (guard a b c)]
    {f : SNode K V Nat → SNode K V Nat → SNode K V Nat → Option (SNode K V Nat × SNode K V Nat × Option (SNode K V Nat))}
    (heq : applyOp h.nodes op = onThree h.nodes p l r guard f) {xp xl xr : SNode K V Nat}
    (hp : h.get p = some xp) (hl : h.get l = some xl) (hr : h.get r = some xr) (hg : guard xp xl xr)
    {t : SNode K V Nat × SNode K V Nat × Option (SNode K V Nat)} (hf : f xp xl xr = some t) (w : List Nat) :
    ∃ h', h.step op w = some h' ∧ Same h h' ∧
      ∀ j, h'.get j = if j = r then t.2.2 else if j = l then some t.2.1 else if j = p then some t.1 else h.get j :=
  ⟨_, step_some (by
      rw [heq, onThree, show getNode h.nodes p = some xp from hp, Option.bind_some,
        show getNode h.nodes l = some xl from hl, Option.bind_some, show getNode h.nodes r = some xr from hr,
        Option.bind_some, if_pos hg, hf, Option.bind_some]),
    ⟨rfl, rfl, rfl, by simp⟩, getNode_set3 (get_lt hp) (get_lt hl) (get_lt hr) _ _ _⟩

theorem step_leafInsert {h : Heap K V} {i idx : Nat} {x : SNode K V Nat} {kvs : List (K × V)}
    (hx : h.get i = some x) (hr : NodeRep x kvs []) (hidx : idx ≤ kvs.length) (hroom : kvs.length < keysCap)
    (k : K) (v : V) (w : List Nat) :
    ∃ h' x', h.step (.leafInsert i idx k v) w = some h' ∧ Same h h' ∧
      NodeRep x' (kvs.take idx ++ (k, v) :: kvs.drop idx) [] ∧ x'.parent = x.parent ∧
      ∀ j, h'.get j = if j = i then some x' else h.get j := by
  obtain ⟨x', ⟨hx', hr'⟩, hpar⟩ := leafInsert_rep hr hidx hroom k v (by decide)
  obtain ⟨h', h1, h2, h3⟩ := step_onNode (applyOp_leafInsert ..) hx
    ⟨hr.isLeaf_iff.mpr rfl, by rw [hr.hn]; omega, by rw [hr.hn]; omega⟩ hx' w
  exact ⟨h', x', h1, h2, hr', hpar, h3⟩

theorem step_setValue {h : Heap K V} {i idx : Nat} {x : SNode K V Nat} {kvs : List (K × V)} {kids : List Nat}
    (hx : h.get i = some x) (hr : NodeRep x kvs kids) (hidx : idx < kvs.length) (v : V) (w : List Nat) :
    ∃ h' x', h.step (.setValue i idx v) w = some h' ∧ Same h h' ∧
      NodeRep x' (kvs.take idx ++ ((kvs[idx]).1, v) :: kvs.drop (idx + 1)) kids ∧ x'.parent = x.parent ∧
      ∀ j, h'.get j = if j = i then some x' else h.get j := by
  obtain ⟨x', ⟨hx', hr'⟩, hpar⟩ := setValue_rep hr hidx v
  obtain ⟨h', h1, h2, h3⟩ := step_onNode (applyOp_setValue ..) hx (by rw [hr.hn]; omega) hx' w
  exact ⟨h', x', h1, h2, hr', hpar, h3⟩

theorem step_leafRemove {h : Heap K V} {i idx : Nat} {x : SNode K V Nat} {kvs : List (K × V)}
    (hx : h.get i = some x) (hr : NodeRep x kvs []) (hidx : idx < kvs.length) (w : List Nat) :
    ∃ h' x', h.step (.leafRemove i idx) w = some h' ∧ Same h h' ∧
      NodeRep x' (kvs.take idx ++ kvs.drop (idx + 1)) [] ∧ x'.parent = x.parent ∧
      ∀ j, h'.get j = if j = i then some x' else h.get j := by
  obtain ⟨x', ⟨hx', hr'⟩, hpar⟩ := leafRemove_rep hr hidx (by decide)
  obtain ⟨h', h1, h2, h3⟩ := step_onNode (applyOp_leafRemove ..) hx
    ⟨hr.isLeaf_iff.mpr rfl, by rw [hr.hn]; omega⟩ hx' w
  exact ⟨h', x', h1, h2, hr', hpar, h3⟩

theorem step_removeRightmost {h : Heap K V} {i : Nat} {x : SNode K V Nat} {kvs : List (K × V)}
    (hx : h.get i = some x) (hr : NodeRep x kvs []) (hne : kvs ≠ []) (w : List Nat) :
    ∃ h' x', removeRightmostAt x = some (some (kvs.getLast hne).1, some (kvs.getLast hne).2, x') ∧
      h.step (.removeRightmost i) w = some h' ∧ Same h h' ∧
      NodeRep x' kvs.dropLast [] ∧ x'.parent = x.parent ∧
      ∀ j, h'.get j = if j = i then some x' else h.get j := by
  obtain ⟨x', ⟨hx', hr'⟩, hpar⟩ := removeRightmostAt_rep hr hne (by decide)
  have hpos : 0 < kvs.length := List.length_pos_iff.mpr hne
  obtain ⟨h', h1, h2, h3⟩ := step_onNode (applyOp_removeRightmost ..) hx
    ⟨hr.isLeaf_iff.mpr rfl, by rw [hr.hn]; omega⟩ (x' := x') (by rw [hx']; rfl) w
  exact ⟨h', x', hx', h1, h2, hr', hpar, h3⟩

theorem step_replaceEntry {h : Heap K V} {i idx : Nat} {x : SNode K V Nat} {kvs : List (K × V)} {kids : List Nat}
    (hx : h.get i = some x) (hr : NodeRep x kvs kids) (hidx : idx < kvs.length) (k : K) (v : V) (w : List Nat) :
    ∃ h' x', h.step (.replaceEntry i idx k v) w = some h' ∧ Same h h' ∧
      NodeRep x' (kvs.take idx ++ (k, v) :: kvs.drop (idx + 1)) kids ∧ x'.parent = x.parent ∧
      ∀ j, h'.get j = if j = i then some x' else h.get j := by
  obtain ⟨x', ⟨hx', hr'⟩, hpar⟩ := replaceEntry_rep hr hidx k v
  obtain ⟨h', h1, h2, h3⟩ := step_onNode (applyOp_replaceEntry ..) hx (by rw [hr.hn]; omega) hx' w
  exact ⟨h', x', h1, h2, hr', hpar, h3⟩

theorem step_parentInsert {h : Heap K V} {i idx : Nat} {x : SNode K V Nat} {kvs : List (K × V)} {kids : List Nat}
    (hx : h.get i = some x) (hr : NodeRep x kvs kids) (hint : kids.length = kvs.length + 1)
    (hidx : idx ≤ kvs.length) (hroom : kvs.length < keysCap) (k : K) (v : V) (r : Nat) (w : List Nat) :
    ∃ h' x', h.step (.parentInsert i idx k v r) w = some h' ∧ Same h h' ∧
      NodeRep x' (kvs.take idx ++ (k, v) :: kvs.drop idx) (kids.take (idx + 1) ++ r :: kids.drop (idx + 1)) ∧
      x'.parent = x.parent ∧ ∀ j, h'.get j = if j = i then some x' else h.get j := by
  obtain ⟨x', ⟨hx', hr'⟩, hpar⟩ := parentInsert_rep hr hint hidx hroom k v r (by decide)
  have hl : ¬ x.isLeaf = true := by
    rw [isLeaf_of_rep_cons hr.hkids (List.ne_nil_of_length_eq_add_one hint)]; exact Bool.false_ne_true
  obtain ⟨h', h1, h2, h3⟩ := step_onNode (applyOp_parentInsert ..) hx
    ⟨hl, by rw [hr.hn]; omega, by rw [hr.hn]; omega⟩ hx' w
  exact ⟨h', x', h1, h2, hr', hpar, h3⟩

theorem step_setParent {h : Heap K V} {i : Nat} {x : SNode K V Nat} (hx : h.get i = some x) (p : Option Nat) (w : List Nat) :
    ∃ h', h.step (.setParent i p) w = some h' ∧ Same h h' ∧
      ∀ j, h'.get j = if j = i then some (withParent p x) else h.get j :=
  step_onNode (applyOp_setParent ..) hx trivial rfl w

theorem step_drop (h : Heap K V) {i : Nat} {x : SNode K V Nat} (hx : h.get i = some x) (w : List Nat) :
    ∃ h', h.step (.drop i) w = some h' ∧ Same h h' ∧ ∀ j, h'.get j = if j = i then none else h.get j :=
  step_set1 hx (applyOp_drop ..)

theorem step_newRoot (h : Heap K V) (k : K) (v : V) (l r : Nat) (w : List Nat) :
    ∃ h' x', h.step (.newRoot k v l r) w = some h' ∧ h'.root = h.root ∧ h'.size = h.size ∧ h'.gen = h.gen ∧
      h'.nodes.length = h.nodes.length + 1 ∧ NodeRep x' [(k, v)] [l, r] ∧ x'.parent = none ∧
      ∀ j, h'.get j = if j = h.nodes.length then some x' else h.get j := by
  obtain ⟨x', ⟨hx', hr'⟩, hpar⟩ := newRootNode_rep (K := K) (V := V) k v l r
  have ha : applyOp h.nodes (.newRoot k v l r) = some (h.nodes ++ [some x']) := by
    rw [applyOp_newRoot, hx']; rfl
  exact ⟨_, x', step_some ha, rfl, rfl, rfl, by simp, hr', hpar, getNode_snoc _ _⟩

theorem setParents_spec (p : Option Nat) : ∀ (cs : List Nat) (h : Heap K V), (∀ c ∈ cs, (h.get c).isSome) →
    ∃ h', h.setParents (cs.map some) p = some h' ∧ Same h h' ∧
      ∀ j, h'.get j = if j ∈ cs then (h.get j).map (withParent p) else h.get j
  | [], h, _ => ⟨h, by simp [Heap.setParents], Same.refl h, by simp⟩
  | c :: cs, h, hall => by
    obtain ⟨x, hx⟩ := Option.isSome_iff_exists.mp (hall c List.mem_cons_self)
    obtain ⟨h1, hs1, hsame1, hg1⟩ := step_setParent hx p [c]
    have hall1 : ∀ d ∈ cs, (h1.get d).isSome := by
      intro d hd
      rw [hg1]
      split
      · simp
      · exact hall d (List.mem_cons_of_mem _ hd)
    obtain ⟨h', hs', hsame', hg'⟩ := setParents_spec p cs h1 hall1
    refine ⟨h', ?_, hsame1.trans hsame', ?_⟩
    · simp only [Heap.setParents, List.map_cons, List.foldlM_cons, Option.bind_some, bind] at hs' ⊢
      rw [hs1]
      exact hs'
    · intro j
      rw [hg', hg1]
      by_cases hjc : j = c
      · subst hjc
        simp [hx]
      · simp [hjc]

theorem setParents_sub (p : Option Nat) {F : List (Node K V)} (hF : ∀ j, cntK j F ≤ 1) (cs : List Nat) {h : Heap K V}
    (hsub : ∀ d ∈ F, ∃ q, Sub h.get q d) (hcs : ∀ c ∈ cs, c ∈ F.map Node.id) :
    ∃ h', h.setParents (cs.map some) p = some h' ∧ Same h h' ∧
      (∀ d ∈ F, ∀ q, Sub h.get q d → Sub h'.get (if d.id ∈ cs then p else q) d) ∧
      ∀ j, j ∉ F.map Node.id → h'.get j = h.get j := by
  obtain ⟨h', hs, hsame, hg⟩ := setParents_spec p cs h (fun c hc => by
    obtain ⟨d, hd, rfl⟩ := List.mem_map.mp (hcs c hc)
    obtain ⟨q, hq⟩ := hsub d hd
    obtain ⟨sd, hsd, _⟩ := hq.root
    rw [hsd]; rfl)
  have hout : ∀ j, j ∉ F.map Node.id → h'.get j = h.get j := fun j hj => by rw [hg, if_neg (fun hc => hj (hcs j hc))]
  refine ⟨h', hs, hsame, fun d hd q s => ?_, hout⟩
  refine Sub.reparent s (by have := cnt_le_cntK hd d.id; have := hF d.id; omega) ?_ fun j hj hjd => hout j fun hm => ?_
  · rw [hg]
    split
    · rfl
    · exact s.root_keep rfl
  · -- below its root a tree of the forest holds no root of the forest
    obtain ⟨d', hd', e⟩ := List.mem_map.mp hm
    exact forest_strict hF hd hd' hj hjd e

/-- the child that changes sides in a rotation, if any, gets its new parent: `setParents` over at most one node -/
theorem setParents_opt (h : Heap K V) (oc : Option Nat) (q : Option Nat) :
    (match oc with
      | none => some h
      | some c => h.setParents [some c] q) = h.setParents (oc.toList.map some) q := by
  cases oc <;> rfl

end Juniper.Proofs.TreeHeapLink
