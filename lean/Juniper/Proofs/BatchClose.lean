import Juniper.Proofs.BatchInv
/-!
C11, `Close` returns: after `bgCancel()` every step of a goroutine or of the runtime strictly decreases a
measure over the producer, the batcher and the timer, and a state without such a step has `wg.Wait()`
returned. Only the environment raises the measure again, by letting the source hand out one more item
(+4: a source need not look at its context before answering); hence the bound along runs.
-/
namespace Juniper.Proofs.Batch
open Juniper.Model.Batch

def rankP : PPc → Nat
  | .next => 3
  | .send _ => 7
  | .closeC => 2
  | .closeSrc => 1
  | .done => 0

def rankB : BPc → Nat
  | .sel => 3
  | .inFull => 6
  | .flush _ => 2
  | .exit => 1
  | .done => 0

def rankT : Timer → Nat
  | .idle => 0
  | .fired => 1
  | .armed _ => 2

/-- Work left for the background goroutines once the background context is cancelled. Two internal steps raise
one summand: `prodSend` takes the batcher from `sel` to `inFull` (+3, the producer falls by 4), `fullNoFirstWaited`
arms the timer (+2, the batcher falls by 3); hence `send = 7`, `inFull = 6`. -/
def measure (s : State) : Nat :=
  rankP s.ppc + rankB s.bpc + rankT s.timer + (if s.closeReturned then 0 else 1)

theorem measure_decreases {cfg : Cfg} {s s' : State} {l : Label} (hi : Inv cfg s)
    (hc : s.bgCancelled = true) (hl : l.internal = true)
    (h : step good cfg s l = some s') : s'.bgCancelled = true ∧ measure s' < measure s := by
  have hidle := hi.ctl.closed_idle hc
  cases step_good h with
  | srcItem | srcEof | srcErr | srcCancelErr | srcCancelOwn | nextCall | ctxExpire | tick | close => cases hl
  | prodCancelled hp | prodSendCancel _ hp | prodCloseC hp | prodCloseSrc hp =>
    exact ⟨hc, by simp only [measure, rankP, hp]; omega⟩
  | prodSend v hp hb => exact ⟨hc, by simp only [measure, rankP, rankB, hp, hb]; omega⟩
  | fullYes hb | fullNoFirstWaited hb | fullNoFirst hb | fullNoLater hb | recvCClosedFlush hb | recvCClosedExit hb
  | flushAbort _ hb | batchExit hb => exact ⟨hc, by simp only [measure, rankB, rankT, hb]; omega⟩
  | recvTimer hb ht => exact ⟨hc, by simp only [measure, rankB, rankT, hb, ht]; omega⟩
  | timerExpire t ht => exact ⟨hc, by simp only [measure, rankT, ht]; omega⟩
  | closeReturn _ hcr => exact ⟨hc, by simp only [measure, hcr]; simp⟩
  | announceElapsed hc' | announceArm hc' | announceEmpty hc' => exact nomatch hidle.symm.trans hc'
  | deliver _ _ hc' | deliverEnd _ hc' | consClosed hc' | consCtx hc' => exact absurd hidle hc'

theorem quiescent_closed {cfg : Cfg} {s : State} (hi : Inv cfg s)
    (hfull : ∃ b, cfg.fullOK s.batch b = true) (hc : s.bgCancelled = true)
    (hq : Quiescent good cfg s) : s.ppc = .done ∧ s.bpc = .done ∧ s.closeReturned = true := by
  have hp : s.ppc = .done := by
    cases hp : s.ppc with
    | next => have := hq .prodCancelled rfl; simp [step, hp, hc, good, bgDone, Code.bgMayEnd] at this
    | send v => have := hq .prodSendCancel rfl; simp [step, hp, hc, good, bgDone, Code.bgMayEnd] at this
    | closeC => have := hq .prodCloseC rfl; simp [step, hp] at this
    | closeSrc => have := hq .prodCloseSrc rfl; simp [step, hp] at this
    | done => rfl
  have hcc : s.cClosed = true := (hi.ends.at_ hp).1
  have hb : s.bpc = .done := by
    cases hb : s.bpc with
    | sel =>
      have := hq .recvCClosed rfl
      simp only [step, hb, hcc, good, and_self, if_true] at this
      split at this <;> cases this
    | inFull =>
      obtain ⟨b, hb'⟩ := hfull
      have := hq (.fullRet b) rfl
      simp only [step, hb, hb', and_self, if_true] at this
      split at this <;> cases this
    | flush r => have := hq .flushAbort rfl; simp [step, hb, hc, good, bgDone, Code.bgMayEnd] at this
    | exit => have := hq .batchExit rfl; simp [step, hb] at this
    | done => rfl
  refine ⟨hp, hb, ?_⟩
  have := hq .closeReturn rfl
  simp [step, hp, hb, hc] at this
  exact this

def itemCount : List Label → Nat
  | [] => 0
  | .srcRet (.item _) :: ls => itemCount ls + 1
  | _ :: ls => itemCount ls

def internalCount : List Label → Nat
  | [] => 0
  | l :: ls => (if l.internal then 1 else 0) + internalCount ls

/-- what an environment label can add to `measure` -/
def envCost : Label → Nat
  | .srcRet (.item _) => 4
  | _ => 0

theorem measure_env {cfg : Cfg} {s s' : State} {l : Label} (hi : Inv cfg s)
    (hc : s.bgCancelled = true) (hl : l.internal = false)
    (h : step good cfg s l = some s') : s'.bgCancelled = true ∧ measure s' ≤ measure s + envCost l := by
  cases step_good h with
  | srcItem v hp | srcEof hp | srcErr hp | srcCancelErr w hp | srcCancelOwn hp =>
    exact ⟨hc, by simp only [measure, rankP, envCost, hp]; omega⟩
  | nextCall _ _ hbg | close hbg => exact nomatch hc.symm.trans hbg
  | ctxExpire hne => exact absurd (hi.ctl.closed_idle hc) hne
  | tick => exact ⟨hc, Nat.le_refl _⟩
  | _ => cases hl

theorem itemCount_cons (l : Label) (ls : List Label) : 4 * itemCount (l :: ls) = envCost l + 4 * itemCount ls := by
  cases l with
  | srcRet ev => cases ev <;> simp [itemCount, envCost] <;> omega
  | _ => simp [itemCount, envCost]

theorem close_run_bound {cfg : Cfg} {s : State} (h : Inv cfg s) (hc : s.bgCancelled = true) :
    ∀ (ls : List Label) (s' : State), run good cfg s ls = some s' →
      s'.bgCancelled = true ∧ measure s' + internalCount ls ≤ measure s + 4 * itemCount ls := by
  intro ls
  induction ls generalizing s with
  | nil =>
    intro s' hr
    cases hr
    exact ⟨hc, Nat.le_refl _⟩
  | cons l ls ih =>
    intro s' hr
    obtain ⟨s1, hstep, hr⟩ := (isRun good cfg).cons_eq_some.1 hr
    -- an internal step pays for itself, an environment step costs at most `envCost`
    have hd : s1.bgCancelled = true ∧ measure s1 + (if l.internal then 1 else 0) ≤ measure s + envCost l := by
      cases hl : l.internal with
      | true => have := measure_decreases h hc hl hstep; exact ⟨this.1, by simp only [if_true]; omega⟩
      | false => have := measure_env h hc hl hstep; exact ⟨this.1, by simpa using this.2⟩
    have := ih (inv_step h (step_good hstep)) hd.1 s' hr
    rw [itemCount_cons]
    simp only [internalCount]
    exact ⟨this.1, by omega⟩

theorem measure_le (s : State) : measure s ≤ 16 := by
  have hp : rankP s.ppc ≤ 7 := by cases s.ppc <;> simp [rankP]
  have hb : rankB s.bpc ≤ 6 := by cases s.bpc <;> simp [rankB]
  have ht : rankT s.timer ≤ 2 := by cases s.timer <;> simp [rankT]
  unfold measure
  split <;> omega

end Juniper.Proofs.Batch
