import Juniper.Proofs.TreeAccessBase
/-!
# Access-level model (C01, concurrent clause): one goroutine

`Good cmp t op pc`: the private state `pc` of a goroutine executing `op` is on the descent that `lookup` / `slotOf`
prescribe for its key in the tree `t`. A step of a `Put` / `Get` / `Contains` on ANY memory that still holds `t`'s structure
(and, if the step reads a value slot, `t`'s value there) leads to a `Good` state again (`Descent`, `good_next`); the only write
is the `Put`'s single value-slot write, after which it has returned. (For a range reader `Good` only keeps the cursor fields
together; its steps are the subject of `Proofs/TreeAccessScan.lean`.) The plans (`putPlan_eq` …) are where the generated statement
order of `btree.go` enters: they are proved by unfolding the statement lists of the source as it is now.
-/
namespace Juniper.Proofs.TreeAccess
open Juniper.Gen.Tree Juniper.Gen.TreeAccess Juniper.Model.BTree Juniper.Model.BTreeAccess Juniper.Proofs.Tree

variable {K V : Type} {cmp : K → K → Int}

theorem searchShape_eq : searchShape = true := by
  simp only [searchShape, searchNodeStmts, beq_self_eq_true]

/-- `Put`: before the loop only `curr := t.root`; the overwrite branch is the single write
`curr.values[idx] = v` followed by `return`; `t.gen++; t.size++` come after the insertion. -/
theorem putPlan_eq : putPlan = some ⟨[.readRoot], [.writeVal], .unit, [.readGen, .writeGen, .readSize, .writeSize]⟩ := by
  simp [putPlan, putStmts, putLoop, putInsertion, putFoundStmts, searchShape_eq, seqOps, stmtOps, branchOps]

theorem getPlan_eq : getPlan = some ⟨[.readRoot], [.readVal], .value, []⟩ := by
  simp [getPlan, readPlan, readLoop, getStmts, getFoundStmts, searchShape_eq, seqOps, stmtOps, branchOps]

theorem containsPlan_eq : containsPlan = some ⟨[.readRoot], [], .true_, []⟩ := by
  simp [containsPlan, readPlan, readLoop, containsStmts, containsFoundStmts, searchShape_eq, seqOps, stmtOps, branchOps]

/-- every function on the path of a range reader (`forwardIterator.Next`, `backwardIterator.Next`, `lost`,
`valueUnchecked`, `Key`, `cursor.Next`, `Prev`, `seek`, `find`, the six `Seek*`, `leftmostLeaf`, `rightmostLeaf`,
`leaf`, `btree.Cursor`, `xslices.Index`) has, statement for statement, the text the machine `itNext` implements — in
particular the in-range test on the key stands before `v := iter.c.valueUnchecked()`, and `cursor.Next` / `Prev` read
no value slot. -/
theorem scanShape_eq : scanShape = true := by
  simp only [scanShape, searchShape_eq, fwdNextStmts, bwdNextStmts, lostStmts, valueUncheckedStmts, cursorKeyStmts,
    cursorNextStmts, cursorPrevStmts, seekStmts, findStmts, seekFirstStmts, seekLastStmts, seekGEStmts, seekGTStmts,
    seekLEStmts, seekLTStmts, leftmostLeafStmts, rightmostLeafStmts, leafStmts, cursorCtorStmts, indexStmts,
    iterCtorsFresh, iterStopBeforeValue, beq_self_eq_true, Bool.and_self]

def _root_.Juniper.Model.BTreeAccess.Op.isSearch : Op K V → Bool
  | .scan _ _ _ _ _ => false
  | _ => true

/-- the first state of a search operation, from its plan (`h` by one of the three `…Plan_eq`; stated about a variable plan
so that checking an instance does not evaluate the plan again) -/
theorem start_of_plan (op : Op K V) (hs : op.isSearch = true) {p : Plan} (h : planOf op = some p) :
    start op = mk op p.prologue true Regs.init .unit := by
  unfold start
  split
  · cases hs
  · rw [h]

theorem start_scan (fwd : Bool) (sk : SeekKind) (skey : K) (stop : Option (CmpOp × K)) (limit : Nat) :
    start (.scan fwd sk skey stop limit : Op K V) = .it .sRoot1 (ItSt.init limit) := by
  simp [start, scanShape_eq]

theorem start_cases (op : Op K V) :
    (op.isSearch = true ∧ start op = .run [.readRoot] true Regs.init .unit) ∨
    (op.isSearch = false ∧ ∃ limit, start op = .it .sRoot1 (ItSt.init limit)) := by
  cases op with
  | scan fwd sk skey stop limit => exact Or.inr ⟨rfl, limit, start_scan fwd sk skey stop limit⟩
  | get k => exact Or.inl ⟨rfl, start_of_plan (.get k) rfl getPlan_eq⟩
  | contains k => exact Or.inl ⟨rfl, start_of_plan (.contains k) rfl containsPlan_eq⟩
  | put k v => exact Or.inl ⟨rfl, start_of_plan (.put k v) rfl putPlan_eq⟩

theorem foundAt_of_plan (op : Op K V) (x idx : Nat) {p : Plan} (h : planOf op = some p) (hr : p.foundRet ≠ .fall) :
    foundAt op x idx =
      mk op p.found false { (Regs.init : Regs K V) with curr := some x, idx := idx } (retRes p.foundRet) := by
  unfold foundAt
  rw [h]
  cases hf : p.foundRet <;> first | exact absurd hf hr | simp only [hf]

theorem foundAt_get (k : K) (x idx : Nat) :
    foundAt (.get k : Op K V) x idx = .run [.readVal] false { (Regs.init : Regs K V) with curr := some x, idx := idx } (.val none) :=
  foundAt_of_plan (.get k) x idx getPlan_eq nofun

theorem foundAt_put (k : K) (v : V) (x idx : Nat) :
    foundAt (.put k v : Op K V) x idx = .run [.writeVal] false { (Regs.init : Regs K V) with curr := some x, idx := idx } .unit :=
  foundAt_of_plan (.put k v) x idx putPlan_eq nofun

theorem foundAt_contains (k : K) (x idx : Nat) : foundAt (.contains k : Op K V) x idx = .done (.bool true) :=
  foundAt_of_plan (.contains k) x idx containsPlan_eq nofun

/-- `(a, i)` is a live value slot of the tree whose key is equivalent to `k` -/
def ValPos (cmp : K → K → Int) (R : Node K V) (k : K) (a i : Nat) : Prop :=
  ∃ y, Sub R y ∧ y.id = a ∧ ∃ h : i < y.kvs.length, cmp k y.kvs[i].1 = 0

theorem valPos_of_slot {R : Node K V} {k : K} {a i : Nat} (h : slotOf cmp k R = some (a, i)) :
    ValPos cmp R k a i := by
  obtain ⟨y, hs, hid, hsn, _⟩ := slotOf_spec cmp k R a i h
  exact ⟨y, hs, hid, searchNode_found_key hsn⟩

theorem valPos_inj (hc : StrictWeak cmp) {R : Node K V} (hn : (ids R).Nodup) {k k' : K} {a i : Nat}
    (h : ValPos cmp R k a i) (h' : ValPos cmp R k' a i) : cmp k k' = 0 := by
  obtain ⟨y, hs, hid, hi, he⟩ := h
  obtain ⟨y', hs', hid', hi', he'⟩ := h'
  have := sub_id_inj hn hs hs' (hid.trans hid'.symm)
  subst this
  exact hc.eq_trans he (hc.eq_symm he')

structure OnPath (cmp : K → K → Int) (R : Node K V) (k : K) (y : Node K V) : Prop where
  sub : Sub R y
  slot : slotOf cmp k y = slotOf cmp k R
  look : lookup cmp k y = lookup cmp k R

/-- what the operation returns when run alone on `t` -/
def expected (cmp : K → K → Int) (t : Tree K V) : Op K V → Res V
  | .get k => .val (get cmp t k)
  | .contains k => .bool (contains cmp t k)
  | .put _ _ => .unit
  | .scan _ _ _ _ _ => .unit

/-- IF `(x, i)` is a live slot of the tree, it holds the key `k` -/
def KeyAt (t : Tree K V) (x : Nat) (i : Int) (k : K) : Prop :=
  ∀ y, Sub t.root y → y.id = x → ∀ h : i.toNat < y.kvs.length, y.kvs[i.toNat].1 = k

/-- the cursor fields of a range reader belong together: the remembered key `c.k` was read from
`c.curr.keys[c.i]` (they are only ever assigned together, by `c.k = c.curr.keys[c.i]`) -/
def Settled (t : Tree K V) (st : ItSt K V) : Prop :=
  ∀ x, st.curr = some x → ∃ k, st.k = some k ∧ KeyAt t x st.i k

def Good (cmp : K → K → Int) (t : Tree K V) (op : Op K V) : PC K V → Prop
  | .run ops cont rg r =>
    (op.isSearch = true ∧ ops = [.readRoot] ∧ cont = true) ∨
    (∃ x, cont = false ∧ rg.curr = some x ∧ slotOf cmp op.key t.root = some (x, rg.idx) ∧
      ((∃ k, op = .get k ∧ ops = [.readVal]) ∨ (∃ k v, op = .put k v ∧ ops = [.writeVal] ∧ r = .unit)))
  | .test x i => op.isSearch = true ∧ ∃ y, OnPath cmp t.root op.key y ∧ y.id = x ∧ i ≤ (searchNode cmp op.key y.kvs).1
  | .key x i => op.isSearch = true ∧
      ∃ y, OnPath cmp t.root op.key y ∧ y.id = x ∧ i ≤ (searchNode cmp op.key y.kvs).1 ∧ i < y.kvs.length
  | .retn x => op.isSearch = true ∧
      ∃ y, OnPath cmp t.root op.key y ∧ y.id = x ∧ searchNode cmp op.key y.kvs = (y.kvs.length, false)
  | .leaf x idx => op.isPut = true ∧
      ∃ y, OnPath cmp t.root op.key y ∧ y.id = x ∧ searchNode cmp op.key y.kvs = (idx, false)
  | .child x idx => op.isSearch = true ∧
      ∃ y, OnPath cmp t.root op.key y ∧ y.id = x ∧ searchNode cmp op.key y.kvs = (idx, false)
  | .full _ => False
  | .itest _ _ => False
  | .ikey _ _ => False
  | .it ph st => op.isSearch = false ∧ Settled t st ∧
      (ph = .nVal → ∃ x k, st.curr = some x ∧ st.k = some k ∧ inRangeOf cmp op k = true)
  | .done r => op.isSearch = true → r = expected cmp t op

structure OpOK (cmp : K → K → Int) (t : Tree K V) (op : Op K V) : Prop where
  present : ∀ k v, op = .put k v → (slotOf cmp k t.root).isSome = true

theorem good_start (t : Tree K V) (op : Op K V) : Good cmp t op (start op) := by
  rcases start_cases op with ⟨hs, h⟩ | ⟨hs, limit, h⟩ <;> rw [h]
  · exact Or.inl ⟨hs, rfl, rfl⟩
  · exact ⟨hs, fun x h => by simp [ItSt.init] at h, fun h => by cases h⟩

theorem start_not_done (op : Op K V) : (start op).isDone = false := by
  rcases start_cases op with ⟨_, h⟩ | ⟨_, _, h⟩ <;> rw [h] <;> rfl

/-- the memory still holds the skeleton of `t` -/
structure Frozen (m : Mem K V) (t : Tree K V) : Prop where
  root : m.root = some t.root.id
  struct : ∀ y, Sub t.root y → NodeS m y

/-- the value slot read by the next step (if any) holds what `t` holds there -/
def ReadsOriginal (m : Mem K V) (t : Tree K V) (pc : PC K V) : Prop :=
  ∀ a i, accessOf pc = some ⟨.node a (.val i), false⟩ →
    ∀ y, Sub t.root y → y.id = a → ∀ h : i < y.kvs.length, m.val a i = some y.kvs[i].2

/-- the cut-off test `iter.inRange != nil && !iter.inRange(k)` (regenerated, both directions) failing means the key is
in range -/
theorem inRange_of_not_stops (op : Op K V) (k : K)
    (h : iterStops (opFwd op) (hasPred op) (inRangeOf cmp op k) = false) : inRangeOf cmp op k = true := by
  have g : ∀ f r, iterStops f true r = !r := by intro f r; cases f <;> cases r <;> decide
  cases op with
  | scan fwd sk skey stop limit =>
    cases stop with
    | none => rfl
    | some s =>
      obtain ⟨o, key⟩ := s
      simp only [hasPred, Option.isSome_some, g] at h
      simpa using h
  | _ => rfl

theorem _root_.Juniper.Model.BTreeAccess.Op.isPut_of_not_search {op : Op K V} (h : op.isSearch = false) : op.isPut = false := by
  cases op <;> simp [Op.isSearch] at h <;> rfl

theorem _root_.Juniper.Model.BTreeAccess.Op.eq_put_of_isPut {op : Op K V} (h : op.isPut = true) : ∃ k v, op = .put k v := by
  cases op with
  | put k v => exact ⟨k, v, rfl⟩
  | _ => cases h

theorem Good.it_or_done {t : Tree K V} {op : Op K V} {pc : PC K V} (hg : Good cmp t op pc) (hns : op.isSearch = false) :
    (∃ ph st, pc = .it ph st) ∨ ∃ r, pc = .done r := by
  have hp := Op.isPut_of_not_search hns
  cases pc with
  | it ph st => exact Or.inl ⟨ph, st, rfl⟩
  | done r => exact Or.inr ⟨r, rfl⟩
  | run ops cont rg r =>
    rcases hg with ⟨hsr, _⟩ | ⟨x, _, _, _, ⟨k, rfl, _⟩ | ⟨k, v, rfl, _⟩⟩
    · rw [hns] at hsr; cases hsr
    · cases hns
    · cases hns
  | leaf x idx => cases hp.symm.trans hg.1
  | full x => exact hg.elim
  | itest x j => exact hg.elim
  | ikey x j => exact hg.elim
  | _ => cases hns.symm.trans hg.1

/-- a `Put` of a present key never runs into a nil child on its descent -/
theorem put_child_exists {t : Tree K V} {k : K} {v : V} (hok : OpOK cmp t (.put k v)) {y : Node K V} {idx : Nat}
    (hp : OnPath cmp t.root k y) (hs : searchNode cmp k y.kvs = (idx, false)) :
    ∃ c c0, y.kids[idx]? = some c ∧ y.kids[0]? = some c0 := by
  obtain ⟨id, kvs, kids⟩ := y
  have hpres := hok.present k v rfl
  have hsl := hp.slot
  simp only [Node.kvs, Node.kids] at hs ⊢
  cases hk : kids[idx]? with
  | none => rw [slotOf_nochild hs hk] at hsl; rw [← hsl] at hpres; cases hpres
  | some c =>
    cases kids with
    | nil => simp at hk
    | cons c0 cs => exact ⟨c, c0, rfl, rfl⟩

/-- **One access of a `Put` / `Get` / `Contains` on its descent in `t`**, on a memory `m` that still holds `t`'s skeleton:
the state before, the memory after, the state after. -/
inductive Descent (cmp : K → K → Int) (t : Tree K V) (op : Op K V) (m : Mem K V) : PC K V → Mem K V → PC K V → Prop
  | root {rg : Regs K V} {r : Res V} : Descent cmp t op m (.run [.readRoot] true rg r) m (.test t.root.id 0)
  | readVal {k : K} {x : Nat} {rg : Regs K V} {r : Res V} : op = .get k → rg.curr = some x →
      slotOf cmp k t.root = some (x, rg.idx) → Descent cmp t op m (.run [.readVal] false rg r) m (.done (.val (m.val x rg.idx)))
  | writeVal {k : K} {v : V} {x : Nat} {rg : Regs K V} : op = .put k v → rg.curr = some x →
      slotOf cmp k t.root = some (x, rg.idx) →
      Descent cmp t op m (.run [.writeVal] false rg .unit) (m.setVal x rg.idx (some v)) (.done .unit)
  | testIn {y : Node K V} {i : Nat} : OnPath cmp t.root op.key y → i ≤ (searchNode cmp op.key y.kvs).1 →
      i < y.kvs.length → Descent cmp t op m (.test y.id i) m (.key y.id i)
  | testOut {y : Node K V} {i : Nat} : OnPath cmp t.root op.key y → i ≤ y.kvs.length →
      searchNode cmp op.key y.kvs = (y.kvs.length, false) → Descent cmp t op m (.test y.id i) m (.retn y.id)
  | less {y : Node K V} {i : Nat} : OnPath cmp t.root op.key y → searchNode cmp op.key y.kvs = (i, false) →
      Descent cmp t op m (.key y.id i) m (notFoundAt op y.id i)
  | eq {y : Node K V} {i : Nat} : OnPath cmp t.root op.key y → searchNode cmp op.key y.kvs = (i, true) →
      Descent cmp t op m (.key y.id i) m (foundAt op y.id i)
  | greater {y : Node K V} {i : Nat} : OnPath cmp t.root op.key y → i + 1 ≤ (searchNode cmp op.key y.kvs).1 →
      Descent cmp t op m (.key y.id i) m (.test y.id (i + 1))
  | retn {y : Node K V} : OnPath cmp t.root op.key y → searchNode cmp op.key y.kvs = (y.kvs.length, false) →
      Descent cmp t op m (.retn y.id) m (notFoundAt op y.id y.kvs.length)
  /-- `if curr.leaf()` of a `Put`: the node has children, since the key is below it -/
  | inner {y : Node K V} {idx : Nat} : op.isPut = true → OnPath cmp t.root op.key y →
      searchNode cmp op.key y.kvs = (idx, false) → Descent cmp t op m (.leaf y.id idx) m (.child y.id idx)
  | child {y c : Node K V} {idx : Nat} : OnPath cmp t.root op.key y → y.kids[idx]? = some c →
      OnPath cmp t.root op.key c → Descent cmp t op m (.child y.id idx) m (.test c.id 0)
  /-- `curr = curr.children[idx]` is nil: the key is absent (not for a `Put`) -/
  | nil {y : Node K V} {idx : Nat} : op.isPut = false → OnPath cmp t.root op.key y →
      searchNode cmp op.key y.kvs = (idx, false) → y.kids[idx]? = none → Descent cmp t op m (.child y.id idx) m (.done (nilRes op))
  | done {r : Res V} : Descent cmp t op m (.done r) m (.done r)

theorem next_descent {t : Tree K V} {op : Op K V} (hok : OpOK cmp t op) (hsr : op.isSearch = true) {m : Mem K V}
    (hf : Frozen m t) {pc : PC K V} (hg : Good cmp t op pc) :
    Descent cmp t op m pc (next cmp op m pc).1 (next cmp op m pc).2 := by
  cases pc with
  | done r => exact .done
  | full x => exact hg.elim
  | itest x j => exact hg.elim
  | ikey x j => exact hg.elim
  | it ph st => rw [hg.1] at hsr; cases hsr
  | run ops cont rg r =>
    rcases hg with ⟨_, rfl, rfl⟩ | ⟨x, rfl, hcurr, hslot, ⟨k, rfl, rfl⟩ | ⟨k, v, rfl, rfl, rfl⟩⟩
    · simp only [next, mopExec, List.append_nil, mk, hf.root, enter]
      exact .root
    · simp only [next, mopExec, hcurr, List.append_nil, mk]
      exact .readVal rfl hcurr hslot
    · simp only [next, mopExec, hcurr, List.append_nil, mk]
      exact .writeVal rfl hcurr hslot
  | test x i =>
    obtain ⟨_, y, hp, rfl, hi⟩ := hg
    simp only [next, (hf.struct y hp.sub).1, Int.ofNat_lt]
    split
    · exact .testIn hp hi ‹_›
    · have hs := (searchNode_at cmp op.key y.kvs i hi).2 (by omega)
      exact .testOut hp (by rw [hs] at hi; exact hi) hs
  | key x i =>
    obtain ⟨_, y, hp, rfl, hi, hlt⟩ := hg
    obtain ⟨a1, a2, a3⟩ := (searchNode_at cmp op.key y.kvs i hi).1 hlt
    simp only [next, (hf.struct y hp.sub).2.1 i hlt]
    cases h1 : searchLess (cmp op.key y.kvs[i].1) with
    | true => exact .less hp (a1 h1)
    | false =>
      cases h2 : searchEq (cmp op.key y.kvs[i].1) with
      | true => exact .eq hp (a2 h1 h2)
      | false => exact .greater hp (a3 h1 h2)
  | retn x =>
    obtain ⟨_, y, hp, rfl, hs⟩ := hg
    simp only [next, (hf.struct y hp.sub).1, Int.toNat_natCast]
    exact .retn hp hs
  | leaf x idx =>
    obtain ⟨hput, y, hp, rfl, hs⟩ := hg
    cases op with
    | put k v =>
      obtain ⟨c, c0, _, hc0⟩ := put_child_exists hok hp hs
      have hC := (hf.struct _ hp.sub).2.2 0 (Nat.zero_le _)
      rw [hc0] at hC
      simp only [next, hC, Option.map_some]
      exact .inner rfl hp hs
    | _ => cases hput
  | child x idx =>
    obtain ⟨_, y, hp, rfl, hs⟩ := hg
    have hC := (hf.struct _ hp.sub).2.2 idx (searchNode_le hs)
    cases hk : y.kids[idx]? with
    | some c =>
      rw [hk] at hC
      simp only [next, hC, Option.map_some]
      exact .child hp hk ⟨hp.sub.snoc (List.mem_of_getElem? hk), (slotOf_child hs hk).symm.trans hp.slot,
        (lookup_child hs hk).symm.trans hp.look⟩
    | none =>
      rw [hk] at hC
      simp only [next, hC, Option.map_none]
      refine .nil ?_ hp hs hk
      cases op with
      | put k v => obtain ⟨c, _, hc, _⟩ := put_child_exists hok hp hs; rw [hk] at hc; cases hc
      | _ => rfl

theorem notFoundAt_good {t : Tree K V} {op : Op K V} (hsr : op.isSearch = true) {y : Node K V} {idx : Nat}
    (hp : OnPath cmp t.root op.key y) (hs : searchNode cmp op.key y.kvs = (idx, false)) :
    Good cmp t op (notFoundAt op y.id idx) := by
  unfold notFoundAt
  split
  · exact ⟨‹_›, y, hp, rfl, hs⟩
  · exact ⟨hsr, y, hp, rfl, hs⟩

theorem foundAt_good {t : Tree K V} {op : Op K V} (hsr : op.isSearch = true) {y : Node K V} {idx : Nat}
    (hp : OnPath cmp t.root op.key y) (hs : searchNode cmp op.key y.kvs = (idx, true)) :
    Good cmp t op (foundAt op y.id idx) := by
  have hslot : slotOf cmp op.key t.root = some (y.id, idx) := by rw [← hp.slot]; exact slotOf_found hs
  cases op with
  | scan fwd sk skey stop limit => cases hsr
  | get k => rw [foundAt_get]; exact Or.inr ⟨_, rfl, rfl, hslot, Or.inl ⟨k, rfl, rfl⟩⟩
  | put k v => rw [foundAt_put]; exact Or.inr ⟨_, rfl, rfl, hslot, Or.inr ⟨k, v, rfl, rfl, rfl⟩⟩
  | contains k =>
    rw [foundAt_contains]
    have hi := searchNode_found_lt hs
    intro _
    have hlook := hp.look
    simp only [Op.key] at hlook hs
    simp only [expected, contains, ← hlook, lookup_found hs, List.getElem?_eq_getElem hi]; rfl

theorem Descent.good {t : Tree K V} {op : Op K V} {m m' : Mem K V} {pc pc' : PC K V} (h : Descent cmp t op m pc m' pc')
    (hsr : op.isSearch = true) (hg : Good cmp t op pc) (hv : ReadsOriginal m t pc) : Good cmp t op pc' := by
  cases h with
  | root => exact ⟨hsr, t.root, ⟨.refl _, rfl, rfl⟩, rfl, Nat.zero_le _⟩
  | readVal ho hcurr hslot =>
    subst ho
    obtain ⟨y, hs, hid, hsn, hl⟩ := slotOf_spec cmp _ t.root _ _ hslot
    have hi := searchNode_found_lt hsn
    have := hv _ _ (by simp [accessOf, mopAccess, hcurr, rd]) y hs hid hi
    intro _
    simp only [expected, Juniper.Model.BTree.get, this, hl, List.getElem?_eq_getElem hi]; rfl
  | writeVal ho => subst ho; intro _; rfl
  | testIn hp hi hlt => exact ⟨hsr, _, hp, rfl, hi, hlt⟩
  | testOut hp _ hs => exact ⟨hsr, _, hp, rfl, hs⟩
  | less hp hs => exact notFoundAt_good hsr hp hs
  | eq hp hs => exact foundAt_good hsr hp hs
  | greater hp hi => exact ⟨hsr, _, hp, rfl, hi⟩
  | retn hp hs => exact notFoundAt_good hsr hp hs
  | inner hput hp hs => exact ⟨hsr, _, hp, rfl, hs⟩
  | child _ _ hpc => exact ⟨hsr, _, hpc, rfl, Nat.zero_le _⟩
  | nil hput hp hs hk =>
    have hl : lookup cmp op.key t.root = none := hp.look.symm.trans (lookup_nochild hs hk)
    intro _
    cases op with
    | get k => simp only [Op.key] at hl; simp [nilRes, expected, Juniper.Model.BTree.get, hl]
    | contains k => simp only [Op.key] at hl; simp [nilRes, expected, contains, hl]
    | put k v => cases hput
    | scan => cases hsr
  | done => exact hg

theorem good_next {t : Tree K V} {op : Op K V} (hok : OpOK cmp t op) (hsr : op.isSearch = true) {m : Mem K V}
    (hf : Frozen m t) {pc : PC K V} (hg : Good cmp t op pc) (hv : ReadsOriginal m t pc) :
    Good cmp t op (next cmp op m pc).2 :=
  (next_descent hok hsr hf hg).good hsr hg hv

/-- a `Put` of a present key returns only through its write -/
theorem put_not_done {t : Tree K V} {k : K} {v : V} (hok : OpOK cmp t (.put k v)) {m : Mem K V}
    (hf : Frozen m t) {pc : PC K V} (hg : Good cmp t (.put k v) pc) (hnd : pc.isDone = false)
    (hr : ∀ a, accessOf pc = some a → a.write = false) :
    (next cmp (.put k v) m pc).2.isDone = false := by
  have h := next_descent hok rfl hf hg
  generalize (next cmp (.put k v) m pc).1 = m' at h
  generalize (next cmp (.put k v) m pc).2 = pc' at h ⊢
  cases h with
  | readVal ho => cases ho
  | writeVal _ hcurr => exact absurd (hr _ (by simp [accessOf, mopAccess, hcurr, wr]; rfl)) (by simp)
  | eq => rw [foundAt_put]; rfl
  | nil hput => cases hput
  | done => exact hnd
  | _ => rfl

theorem itAccess_spec {ph : Ph} {st : ItSt K V} {a : Access} (h : itAccess ph st = some a) :
    a.write = false ∧ ((∃ x i, a.loc = .node x (.val i)) → ph = .nVal) := by
  cases ph with
  | nVal => simp only [itAccess] at h; split at h <;> cases h; exact ⟨rfl, fun _ => rfl⟩
  | fin => cases h
  | _ => cases h; exact ⟨rfl, fun ⟨_, _, e⟩ => nomatch e⟩

theorem write_step {t : Tree K V} {op : Op K V} {pc : PC K V} (hg : Good cmp t op pc) (m : Mem K V) {l : Loc}
    (ha : accessOf pc = some ⟨l, true⟩) :
    ∃ k v x i, op = .put k v ∧ l = .node x (.val i) ∧ slotOf cmp k t.root = some (x, i) ∧
      next cmp op m pc = (m.setVal x i (some v), .done .unit) := by
  cases pc with
  | run ops cont rg r =>
    rcases hg with ⟨hsr, rfl, rfl⟩ | ⟨x, rfl, hcurr, hslot, ⟨k, rfl, rfl⟩ | ⟨k, v, rfl, rfl, rfl⟩⟩
    · simp [accessOf, mopAccess, rd] at ha
    · simp [accessOf, mopAccess, hcurr, rd] at ha
    · simp only [accessOf, mopAccess, hcurr, wr, Option.some.injEq, Access.mk.injEq, and_true] at ha
      exact ⟨k, v, x, rg.idx, rfl, ha.symm, hslot, by simp [next, mopExec, hcurr, mk]⟩
  | full x => exact hg.elim
  | itest x j => exact hg.elim
  | ikey x j => exact hg.elim
  | it ph st => cases (itAccess_spec ha).1
  | _ => cases ha

theorem read_step_mem {t : Tree K V} {op : Op K V} {pc : PC K V} (hg : Good cmp t op pc) (m : Mem K V)
    (hr : ∀ a, accessOf pc = some a → a.write = false) : (next cmp op m pc).1 = m := by
  cases pc with
  | run ops cont rg r =>
    rcases hg with ⟨hsr, rfl, rfl⟩ | ⟨x, rfl, hcurr, hslot, ⟨k, rfl, rfl⟩ | ⟨k, v, rfl, rfl, rfl⟩⟩
    · simp [next, mopExec]
    · simp [next, mopExec, hcurr]
    · have := hr _ (by simp [accessOf, mopAccess, hcurr, wr]; rfl)
      simp at this
  | full x => exact hg.elim
  | itest x j => exact hg.elim
  | ikey x j => exact hg.elim
  | key x i => simp only [next]; split <;> rfl
  | leaf x idx => simp only [next]; split <;> rfl
  | child x idx => simp only [next]; split <;> rfl
  | _ => rfl

end Juniper.Proofs.TreeAccess
