import Juniper.Proofs.ParMapCount
/-! The step relation of the MapStream LTS: `Stream.step` for code that satisfies `Code.Sound`, one
constructor per branch, with the guard in the form the invariants use and the successor state written out.
Every invariant is proved by cases on it. -/

namespace Juniper.Proofs.ParMap.S
open Juniper.Gen Juniper.Facts Juniper.Model.ParMap Juniper.Model.ParMap.Stream Juniper.Proofs.ParMap

/-- `Stream.step` of sound code. The branches of the model that exist only for code violating a discipline
(`Close` not cancelling / not waiting, a context that ends by itself, no `defer s.Close()`, no token release)
have no constructor. -/
inductive Step (cfg : Cfg) (s : St) : Label → St → Prop
  | dPull (hd : s.disp = .pull) :
    Step cfg s .dPull { s with disp := .inNext, srcLog := s.srcLog ++ [.nextBegin] }
  | srcItem (v : Nat) (hd : s.disp = .inNext) :
    Step cfg s (.srcRet (.item v))
      { s with disp := .waitReady v, srcLog := s.srcLog ++ [.nextEnd], srcItems := s.srcItems ++ [v] }
  | srcEnd (hd : s.disp = .inNext) :
    Step cfg s (.srcRet .end) { s with disp := .exiting none, srcLog := s.srcLog ++ [.nextEnd], srcEnded := true }
  | srcErr (k : Nat) (hd : s.disp = .inNext) :
    Step cfg s (.srcRet (.err k))
      { s with disp := .exiting (some (.src k)), srcLog := s.srcLog ++ [.nextEnd], srcErr := some k }
  | dTakeToken (v : Nat) (hd : s.disp = .waitReady v) (hr : 0 < s.ready) :
    Step cfg s .dTakeToken { s with disp := .sendIn v, ready := s.ready - 1 }
  | dWaitCtx (v : Nat) (hd : s.disp = .waitReady v) (hx : s.ctxCause ≠ none) :
    Step cfg s .dWaitCtx { s with disp := .exiting (some (ctxErr s)) }
  | dSend (w v : Nat) (hd : s.disp = .sendIn v) (hw : s.ws[w]? = some .idle) (hin : s.inClosed = false) :
    Step cfg s (.dSend w)
      { s with disp := .pull, dispI := s.dispI + 1, ws := s.ws.set w (.inF s.dispI),
               fBegun := s.fBegun ++ [(s.dispI, v)] }
  | dSendCtx (v : Nat) (hd : s.disp = .sendIn v) (hx : s.ctxCause ≠ none) :
    Step cfg s .dSendCtx { s with disp := .exiting (some (ctxErr s)), lost := s.lost + 1 }
  | dCloseIn (r : Option Err) (hd : s.disp = .exiting r) :
    Step cfg s .dCloseIn
      { s with disp := .srcClosing r, inClosed := true, srcLog := s.srcLog ++ [.closeBegin] }
  | srcCloseRet (r : Option Err) (hd : s.disp = .srcClosing r) :
    Step cfg s .srcCloseRet { s with disp := .egRet r, srcLog := s.srcLog ++ [.closeEnd] }
  | dEgDone (r : Option Err) (hd : s.disp = .egRet r) :
    Step cfg s .dEgDone { egRecord s r with disp := .done }
  | fOk (w k v : Nat) (hw : s.ws[w]? = some (.inF k)) :
    Step cfg s (.fRet w (.ok v)) { s with ws := s.ws.set w (.sendC k v), fEnded := s.fEnded ++ [(k, .ok v)] }
  | fErr (w k e : Nat) (hw : s.ws[w]? = some (.inF k)) :
    Step cfg s (.fRet w (.err e))
      { s with ws := s.ws.set w (.exiting (some (.f e))), fEnded := s.fEnded ++ [(k, .err e)],
               dropped := s.dropped ++ [k] }
  | wSendC (w k v : Nat) (hw : s.ws[w]? = some (.sendC k v)) (hc : s.c.length < cCap cfg)
      (hcl : s.cClosed = false) :
    Step cfg s (.wSendC w) { s with ws := s.ws.set w .idle, c := s.c ++ [(k, v)] }
  | wSendCtx (w k v : Nat) (hw : s.ws[w]? = some (.sendC k v)) (hx : s.ctxCause ≠ none) :
    Step cfg s (.wSendCtx w)
      { s with ws := s.ws.set w (.exiting (some (ctxErr s))), dropped := s.dropped ++ [k] }
  | wExitIdle (w : Nat) (hw : s.ws[w]? = some .idle) (hin : s.inClosed = true) :
    Step cfg s (.wExitIdle w) { s with ws := s.ws.set w (.exiting none) }
  | wDefer (w : Nat) (r : Option Err) (hw : s.ws[w]? = some (.exiting r)) :
    Step cfg s (.wDefer w)
      { s with ws := s.ws.set w (.egRet r), nDone := s.nDone + 1,
               cClosed := s.cClosed || decide (((s.nDone + 1 : Nat) : Int) = par cfg) }
  | wEgDone (w : Nat) (r : Option Err) (hw : s.ws[w]? = some (.egRet r)) :
    Step cfg s (.wEgDone w) { egRecord s r with ws := s.ws.set w .done }
  | nextCall (live : Bool) (hc : s.cons = .idle) :
    Step cfg s (.nextCall live) { s with cons := .next live }
  | consCtxExpire (hc : s.cons = .next true) :
    Step cfg s .consCtxExpire { s with cons := .next false }
  | cYield (live : Bool) (k v : Nat) (hc : s.cons = .next live) (hy : canYield cfg s = true)
      (hf : s.heap.find? (fun kv => kv.1 == (heapMin s.heap).getD 0) = some (k, v)) :
    Step cfg s .cYield
      { s with cons := .releasing k v, heap := s.heap.eraseP (fun kv => kv.1 == k), i := s.i + 1 }
  | cRelease (k v : Nat) (hc : s.cons = .releasing k v) (hr : s.ready < readyCap cfg) :
    Step cfg s .cRelease
      { s with cons := .idle, ready := s.ready + 1, results := s.results ++ [.val k v] }
  | cRecv (live : Bool) (kv : Nat × Nat) (rest : List (Nat × Nat)) (hc : s.cons = .next live)
      (hcs : s.c = kv :: rest) (hy : canYield cfg s = false) :
    Step cfg s .cRecv { s with c := rest, heap := s.heap ++ [kv] }
  | cRecvClosed (live : Bool) (hc : s.cons = .next live) (hcs : s.c = []) (hy : canYield cfg s = false)
      (hcl : s.cClosed = true) :
    Step cfg s .cRecvClosed { s with cons := .nextWait }
  | cCtx (hc : s.cons = .next false) (hy : canYield cfg s = false) :
    Step cfg s .cCtx { s with cons := .idle, results := s.results ++ [.ctxCons] }
  | cWaitErr (e : Err) (hc : s.cons = .nextWait) (hl : s.egLive = 0) (he : s.egErr = some e) :
    Step cfg s .cWaitDone { s with cons := .idle, results := s.results ++ [.err e] }
  | cWaitEnd (hc : s.cons = .nextWait) (hl : s.egLive = 0) (he : s.egErr = none) :
    Step cfg s .cWaitDone { s with cons := .idle, results := s.results ++ [.end] }
  | closeCall (hc : s.cons = .idle) :
    Step cfg s .closeCall
      { s with cons := .closeWait, closeCalled := true,
               ctxCause := if s.ctxCause.isSome then s.ctxCause else some .close }
  | cCloseDone (hc : s.cons = .closeWait) (hl : s.egLive = 0) :
    Step cfg s .cCloseDone { s with cons := .closed }
  | parentCancel (hp : s.parentCancelled = false) :
    Step cfg s .parentCancel
      { s with parentCancelled := true,
               ctxCause := if s.ctxCause.isSome then s.ctxCause else some .parent }

theorem Step.of_step {cfg : Cfg} (hs : cfg.code.Sound) {s s' : St} {l : Label}
    (h : Stream.step cfg s l = some s') : Step cfg s l s' := by
  have ctx : ∀ {b : Bool}, (b && ctxDone s) = true → s.ctxCause ≠ none := fun h =>
    Option.isSome_iff_ne_none.mp (Bool.and_eq_true_iff.mp h).2
  revert h
  -- `fun_cases` follows the branches of `Stream.step`: those that return `none` go by `cases h`, which in the others puts the
  -- successor state in; what remains comes in the order of the constructors of `Step`, and in between the branches of
  -- code that violates a discipline (`exact absurd hs.… ‹_›`). `hs` puts the regenerated guards into closed form
  fun_cases Stream.step cfg s l <;> intro h <;> cases h
  · exact .dPull ‹_›
  · exact .srcItem _ ‹_›
  · exact .srcEnd ‹_›
  · exact .srcErr _ ‹_›
  · rename_i hc; simp only [hs.waitHasReady, Bool.true_and, decide_eq_true_eq] at hc; exact .dTakeToken _ ‹_› hc
  · exact .dWaitCtx _ ‹_› (ctx ‹_›)
  · rename_i hc; simp only [hs.sendHasIn, Bool.true_and, Bool.not_eq_true'] at hc; exact .dSend _ _ ‹_› ‹_› hc
  · exact .dSendCtx _ ‹_› (ctx ‹_›)
  · simp +zetaDelta only [hs.closesIn, Bool.or_true]; exact .dCloseIn _ ‹_›
  · exact absurd hs.closesSource ‹_›
  · exact .srcCloseRet _ ‹_›
  · exact .dEgDone _ ‹_›
  · exact .fOk _ _ _ ‹_›
  · exact .fErr _ _ _ ‹_›
  · rename_i hc
    simp only [hs.workerHasC, Bool.true_and, Bool.and_eq_true, decide_eq_true_eq, Bool.not_eq_true'] at hc
    exact .wSendC _ _ _ ‹_› hc.1 hc.2
  · exact .wSendCtx _ _ _ ‹_› (ctx ‹_›)
  · exact .wExitIdle _ ‹_› ‹_›
  · simp +zetaDelta only [hs.lastWorker, hs.lastCloses, Bool.and_true]; exact .wDefer _ _ ‹_›
  · exact .wEgDone _ _ ‹_›
  · exact .nextCall _ ‹_›
  · exact .consCtxExpire ‹_›
  · exact .cYield _ _ _ ‹_› ‹_› ‹_›
  · exact .cRelease _ _ ‹_› ‹_›
  · exact absurd hs.releases ‹_›
  · rename_i hc; simp only [hs.nextHasC, Bool.and_true, Bool.not_eq_true'] at hc; exact .cRecv _ _ _ ‹_› ‹_› hc
  · rename_i hc
    simp only [hs.nextHasC, hs.nextClosed, Bool.not_false, Bool.and_true, Bool.and_eq_true, Bool.not_eq_true'] at hc
    exact .cRecvClosed _ ‹_› ‹_› hc.1 hc.2
  · rename_i hc; simp only [hs.nextHasCtx, Bool.and_true, Bool.not_eq_true'] at hc; exact .cCtx ‹_› hc
  · exact .cWaitErr _ ‹_› (beq_iff_eq.mp ‹_›) ‹_›
  · exact absurd (hs.nextFailed true) ‹_›
  · exact .cWaitEnd ‹_› (beq_iff_eq.mp ‹_›) ‹_›
  · exact .closeCall ‹_›
  · exact absurd hs.closeCancels ‹_›
  · exact .cCloseDone ‹_› (beq_iff_eq.mp ‹_›)
  · exact absurd hs.closeWaits ‹_›
  · exact .parentCancel (Bool.eq_false_iff.2 ‹_›)
  · exact absurd hs.ctxPlain ‹_›

theorem Step.to_step {cfg : Cfg} (hs : cfg.code.Sound) {s s' : St} {l : Label} (h : Step cfg s l s') :
    Stream.step cfg s l = some s' := by
  cases h <;>
    simp [Stream.step, hs.dispEnd, hs.dispFailed, hs.waitHasReady, hs.waitHasCtx, hs.sendHasIn,
      hs.sendHasCtx, hs.closesIn, hs.closesSource, hs.workerFailed, hs.workerHasC, hs.workerHasCtx,
      hs.lastWorker, hs.lastCloses, hs.releases, hs.nextHasC, hs.nextHasCtx, hs.nextClosed, hs.nextFailed,
      hs.closeCancels, hs.closeWaits, ctxDone, Option.isSome_iff_ne_none, *]

end Juniper.Proofs.ParMap.S
