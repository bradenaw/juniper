import Juniper.Proofs.PipeLive
/-! Global progress measure of the `stream.Pipe` LTS: the per-call stages of `Proofs/PipeLive.lean`
(`stage`, `rstage`) summed over all sender goroutines and the receiver. Every internal step (an arm of a
`select` of some pending call, a rendez-vous, a call parking) strictly decreases it, in every state; so no
run of internal steps is longer than `2·senders + 3`, and a quiescent state is one in which every pending
call is parked and waits for an action of the environment (a call of the peer, a `Close`, a context
expiry). -/
namespace Juniper.Proofs.Pipe
open Juniper.Facts Juniper.Gen.Pipe Juniper.Model.Pipe

def sumStage : List Sender → Nat
  | [] => 0
  | sd :: l => stage sd.pc + sumStage l

/-- own steps all pending calls have in front of them at most -/
def mu (st : State) : Nat := sumStage st.senders + rstage st.rpc

theorem sumStage_set {l : List Sender} {i : Nat} {sd sd' : Sender} (h : l[i]? = some sd) :
    sumStage (l.set i sd') + stage sd.pc = sumStage l + stage sd'.pc := by
  have ⟨h0, h1⟩ := ListStore.sum_set (f := fun sd => stage sd.pc) (g := sumStage) (fun _ _ => rfl) h
  rw [h1]; omega

theorem sumStage_le (l : List Sender) : sumStage l ≤ 2 * l.length :=
  ListStore.sum_le rfl (fun _ _ => rfl) l fun x _ => stage_le x.pc

theorem mu_le (st : State) : mu st ≤ 2 * st.senders.length + 3 := by
  have := sumStage_le st.senders
  have := rstage_le st.rpc
  unfold mu; omega

theorem mu_decreases {st st' : State} {l : Label} (h : Step st l st') (hl : l.internal = true) :
    mu st' < mu st := by
  have fired : ∀ {i : Nat} {sd : Sender} {m : Msg} (a : Arm), st.senders[i]? = some sd → sd.pc.msg? = some m →
      sumStage (st.senders.set i { sd with pc := sd.pc.after a }) < sumStage st.senders := by
    intro i sd m a hsd hm
    have h1 : sumStage (st.senders.set i { sd with pc := sd.pc.after a }) + stage sd.pc =
        sumStage st.senders + stage (sd.pc.after a) := sumStage_set hsd
    have h2 := stage_after_lt a hm
    omega
  cases h with
  | @sender _ sd _ _ hsd hmv =>
    cases hmv with
    | recvArm hm _ _ => exact Nat.add_lt_add_right (fired _ hsd hm) _
    | dflt hm _ _ => exact Nat.add_lt_add_right (fired _ hsd hm) _
    | @park m hpc _ =>
      have := sumStage_set (sd' := { sd with pc := .send m true }) hsd
      simp only [mu, State.setSender, hpc, stage] at *; omega
    | _ => cases hl
  | recv hmv =>
    refine Nat.add_lt_add_left ?_ _
    cases hmv with
    | park hpc _ => rw [hpc]; exact Nat.lt_succ_self 2
    | ctx htab _ => exact rstage_pos_of_table htab
    | toDrain _ _ hn _ =>
      cases hr : st.rpc with
      | next p => exact rstage_next_ge p
      | _ => simp [hr, RPc.isNext] at hn
    | reportUndrained htab _ _ => exact rstage_pos_of_table htab
    | report _ hpc _ => rw [hpc]; exact Nat.lt_succ_self 0
    | _ => cases hl
  | commit hsd hm _ _ => exact Nat.add_lt_add_right (fired _ hsd hm) _
  | handoff hsd hm hc =>
    exact Nat.add_lt_add (fired _ hsd hm) (rstage_pos_of_table (canHandoff_facts hc).2.2)
  | pop htab _ => exact Nat.add_lt_add_left (rstage_pos_of_table htab) _
  | _ => cases hl

theorem run_mu {ls : List Label} {st st' : State} (h : run st ls = some st')
    (hl : ∀ l ∈ ls, l.internal = true) : ls.length + mu st' ≤ mu st :=
  (isRun.measure (P := fun _ => True) (fun _ hl h => ⟨mu_decreases (.of_step h) hl, trivial⟩) h hl trivial).1

def Quiescent (st : State) : Prop := ∀ l, l.internal = true → step st l = none

structure QuiescentFacts : Prop where
  send : SendFacts
  sendData : sendArms.contains (.send chData) = true
  try_ : TryFacts
  next : NextFacts
  drains : nextDrains = true

theorem quiescent_waits {st : State} (hF : QuiescentFacts) (hq : Quiescent st) :
    (∀ (i : Nat) (sd : Sender) (m : Msg), st.senders[i]? = some sd → sd.pc ≠ .try1 m ∧ sd.pc ≠ .try2 m) ∧
    (∀ (i : Nat) (sd : Sender) (m : Msg) (p : Bool), st.senders[i]? = some sd → sd.pc = .send m p →
      p = true ∧ st.streamDone = false ∧ st.senderDone = false ∧ sd.ctx = false ∧ st.cap ≤ st.buf.length ∧
      canHandoff st sd = false) ∧
    st.rpc ≠ .drain ∧
    (∀ p : Bool, st.rpc = .next p → p = true ∧ st.buf = [] ∧ st.senderDone = false ∧ st.rctx = false ∧
      ∀ sd ∈ st.senders, canHandoff st sd = false) := by
  have none_of : ∀ {l st'}, l.internal = true → step st l = some st' → False := by
    intro l st' hl hs; rw [hq l hl] at hs; cases hs
  have own : ∀ {i l st'}, ownLabel i l → step st l = some st' → False := by
    intro i l st' hl
    rcases hl with rfl | rfl | ⟨a, rfl⟩ <;> exact none_of rfl
  have recv : ∀ {l st'}, isRecvLabel l = true → step st l = some st' → False := by
    intro l st' hl
    cases l <;> first | exact none_of rfl | cases hl
  refine ⟨?_, ?_, ?_, ?_⟩
  · intro i sd m hsd
    constructor <;> intro hpc
    · obtain ⟨l, st', hl, hs⟩ := trySend_enabled hF.try_ hsd (.inl hpc)
      exact own hl hs
    · obtain ⟨l, st', hl, hs⟩ := trySend_enabled hF.try_ hsd (.inr hpc)
      exact own hl hs
  · intro i sd m p hsd hpc
    have hm : sd.pc.msg? = some m := by rw [hpc]; rfl
    have hp : p = true := by
      cases p with
      | true => rfl
      | false =>
        obtain ⟨l, st', hl, hs⟩ := send_poll_enabled hsd hpc
        exact (own hl hs).elim
    have hcond : ¬ SendCond st sd := by
      intro hc
      obtain ⟨a, st', _, hs, _⟩ := send_enabled hF.send hsd hpc hc
      exact none_of rfl hs
    refine ⟨hp, Bool.eq_false_iff.mpr fun h => hcond (.inl h), Bool.eq_false_iff.mpr fun h => hcond (.inr (.inl h)),
      Bool.eq_false_iff.mpr fun h => hcond (.inr (.inr h)), Nat.le_of_not_lt fun hlt => ?_,
      Bool.eq_false_iff.mpr fun hh => none_of rfl (Step.handoff hsd hm hh).step_eq⟩
    exact none_of rfl (Step.commit hsd hm (by rw [hpc]; exact hF.sendData) hlt).step_eq
  · intro hpc
    obtain ⟨l, st', hl, hs, _⟩ := drain_enabled (hF.next.drainDflt hF.drains) hpc
    exact recv hl hs
  · intro p hpc
    have hp : p = true := by
      cases p with
      | true => rfl
      | false =>
        obtain ⟨l, st', hl, hs, _⟩ := next_poll_enabled hpc
        exact (recv hl hs).elim
    have hcond : ¬ NextCond st := by
      intro hc
      obtain ⟨l, st', hl, hs, _⟩ := next_enabled hF.next hpc hc
      exact recv hl hs
    exact ⟨hp, Decidable.byContradiction fun hb => hcond (.inl hb),
      Bool.eq_false_iff.mpr fun h => hcond (.inr (.inr (.inl h))),
      Bool.eq_false_iff.mpr fun h => hcond (.inr (.inr (.inr h))),
      fun sd hmem => Bool.eq_false_iff.mpr fun h => hcond (.inr (.inl ⟨sd, hmem, h⟩))⟩

end Juniper.Proofs.Pipe
