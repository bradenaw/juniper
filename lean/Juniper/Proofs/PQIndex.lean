import Juniper.Proofs.HeapOps
import Juniper.Model.PQ
/-!
# The key → index map of the priority queue stays exact

`Idx m a`: every element of the array is recorded in `m` under its current index. Each primitive
step of the heap (`swap`, `notifyIndexChanged`) re-establishes it by the notifications it emits, so
every operation's ordered notification list, applied to any exact map, yields an exact map again
(`notifications_cover_moves`). Stale entries (the popped / removed key) are handled by `delete`.
-/
set_option linter.unusedSectionVars false
namespace Juniper.Proofs.PQ
open Juniper.Gen.Heap Juniper.Model.Heap Juniper.Model.PQ Juniper.Spec.Heap Juniper.Proofs.Heap
open Juniper.ListStore (lt_of_getElem?)

variable {K P : Type} [DecidableEq K]

def keysOf (a : List (KP K P)) : List K := a.map (·.1)

theorem mGet_mDel (m : IdxMap K) (k k' : K) : mGet (mDel m k) k' = if k = k' then none else mGet m k' := by
  induction m with
  | nil => simp [mDel, mGet]
  | cons e t ih =>
    obtain ⟨k0, v0⟩ := e
    simp only [mDel, List.filter_cons] at ih ⊢
    by_cases h0 : k0 = k
    · subst h0
      simp only [decide_true, Bool.not_true, Bool.false_eq_true, if_false]
      rw [ih]
      by_cases h1 : k0 = k'
      · simp [h1]
      · simp [h1, mGet]
    · simp only [h0, decide_false, Bool.not_false, if_true, mGet]
      rw [ih]
      by_cases h1 : k0 = k'
      · subst h1; simp [Ne.symm h0]
      · simp [h1]

theorem mGet_mSet (m : IdxMap K) (k : K) (v : Int) (k' : K) :
    mGet (mSet m k v) k' = if k = k' then some v else mGet m k' := by
  simp only [mSet, mGet, mGet_mDel]
  by_cases h : k = k' <;> simp [h]

theorem applyNote_eq (m : IdxMap K) (n : Note (KP K P)) : applyNote m n = mSet m n.1.1 (n.2 : Int) := by
  simp [applyNote, pqRecordsIndex]

theorem applyNotes_nil (m : IdxMap K) : applyNotes (P := P) m [] = m := rfl

theorem applyNotes_cons (m : IdxMap K) (n : Note (KP K P)) (t : List (Note (KP K P))) :
    applyNotes m (n :: t) = applyNotes (mSet m n.1.1 (n.2 : Int)) t := by
  simp [applyNotes, List.foldl_cons, applyNote_eq]

theorem applyNotes_append (m : IdxMap K) (s t : List (Note (KP K P))) :
    applyNotes m (s ++ t) = applyNotes (applyNotes m s) t := by
  simp [applyNotes, List.foldl_append]

theorem mGet_applyNotes_of_not_mem (m : IdxMap K) (notes : List (Note (KP K P))) (k : K)
    (h : ∀ n ∈ notes, n.1.1 ≠ k) : mGet (applyNotes m notes) k = mGet m k := by
  induction notes generalizing m with
  | nil => rfl
  | cons n t ih =>
    rw [applyNotes_cons, ih _ (fun n' hn' => h n' (List.mem_cons_of_mem _ hn')), mGet_mSet]
    simp [h n (List.mem_cons_self)]

theorem dom_applyNotes (m : IdxMap K) (notes : List (Note (KP K P))) (k : K)
    (h : (mGet (applyNotes m notes) k).isSome) : (mGet m k).isSome ∨ ∃ n ∈ notes, n.1.1 = k := by
  induction notes generalizing m with
  | nil => exact Or.inl h
  | cons n t ih =>
    rw [applyNotes_cons] at h
    rcases ih _ h with h1 | ⟨n', hn', hk⟩
    · rw [mGet_mSet] at h1
      by_cases hk : n.1.1 = k
      · exact Or.inr ⟨n, List.mem_cons_self, hk⟩
      · simp [hk] at h1; exact Or.inl h1
    · exact Or.inr ⟨n', List.mem_cons_of_mem _ hn', hk⟩

/-- every element of the array is recorded under its current index -/
def Idx (m : IdxMap K) (a : List (KP K P)) : Prop :=
  ∀ (i : Nat) (k : K) (p : P), a[i]? = some (k, p) → mGet m k = some (i : Int)

theorem keys_inj {a : List (KP K P)} (nd : (keysOf a).Nodup) {i j : Nat} {k : K} {p p' : P}
    (hi : a[i]? = some (k, p)) (hj : a[j]? = some (k, p')) : i = j := by
  have hil : i < (keysOf a).length := by simpa [keysOf] using lt_of_getElem? hi
  apply (List.getElem?_inj hil nd).mp
  simp [keysOf, List.getElem?_map, hi, hj]

theorem keysOf_perm {a b : List (KP K P)} (h : a.Perm b) : (keysOf a).Perm (keysOf b) := h.map _

/-- `notifyIndexChanged(i)` records the element now at `i`: a map that was right outside `i` and the
`stale` indices is right outside the `stale` indices afterwards -/
theorem idx_notifyAt_except {m : IdxMap K} {a : List (KP K P)} {i : Nat} {stale : Nat → Prop}
    (nd : (keysOf a).Nodup)
    (h : ∀ l k p, l ≠ i → ¬ stale l → a[l]? = some (k, p) → mGet m k = some (l : Int)) :
    ∀ l k p, ¬ stale l → a[l]? = some (k, p) → mGet (applyNotes m (notifyAt a i)) k = some (l : Int) := by
  rw [notifyAt_eq]
  intro l k p hs hl
  split
  · rename_i x hx
    obtain ⟨kx, px⟩ := x
    simp only [applyNotes_cons, applyNotes_nil, mGet_mSet]
    by_cases hli : l = i
    · subst hli; rw [hx] at hl; cases hl; simp
    · have : kx ≠ k := fun e => hli (by subst e; exact keys_inj nd hl hx)
      simp [this]; exact h l k p hli hs hl
  · rename_i hx
    simp only [applyNotes_nil]
    by_cases hli : l = i
    · subst hli; rw [hx] at hl; cases hl
    · exact h l k p hli hs hl

theorem idx_notifyAt {m : IdxMap K} {a : List (KP K P)} {i : Nat} (nd : (keysOf a).Nodup)
    (h : ∀ l k p, l ≠ i → a[l]? = some (k, p) → mGet m k = some (l : Int)) :
    Idx (applyNotes m (notifyAt a i)) a :=
  fun l k p hl => idx_notifyAt_except (stale := fun _ => False) nd (fun l k p hli _ => h l k p hli) l k p
    id hl

theorem nodup_swapAt {a : List (KP K P)} (nd : (keysOf a).Nodup) (i j : Nat) :
    (keysOf (swapAt a i j)).Nodup := (keysOf_perm (swapAt_perm a i j)).nodup_iff.mpr nd

theorem idx_swapN {m : IdxMap K} {a : List (KP K P)} (nd : (keysOf a).Nodup) (h : Idx m a) {i j : Nat}
    (hi : i < a.length) (hj : j < a.length) :
    Idx (applyNotes m (swapN a i j).2) (swapAt a i j) := by
  rw [swapN_eq, applyNotes_append]
  apply idx_notifyAt (nodup_swapAt nd i j)
  intro l k p hlj
  apply idx_notifyAt_except (stale := (· = j)) (nodup_swapAt nd i j) ?_ l k p hlj
  intro l k p hli hlj hl
  rw [getElem?_swapAt_ne hi hj hli hlj] at hl
  exact h l k p hl

/-- no entry for a key that is not in the array -/
def Dom (m : IdxMap K) (a : List (KP K P)) : Prop := ∀ k, (mGet m k).isSome → k ∈ keysOf a

theorem dom_applyNotes_of {m : IdxMap K} {a b : List (KP K P)} {notes : List (Note (KP K P))}
    (hm : Dom m b) (hn : ∀ n ∈ notes, n.1 ∈ a) (hab : ∀ x ∈ a, x.1 ∈ keysOf b) :
    Dom (applyNotes m notes) b := by
  intro k hk
  rcases dom_applyNotes m notes k hk with h | ⟨n, hn', rfl⟩
  · exact hm k h
  · exact hab _ (hn n hn')

theorem _root_.Juniper.Proofs.Heap.Swaps.idx {m : IdxMap K} {a a' : List (KP K P)} {ns : List (Note (KP K P))}
    (s : Swaps a a' ns) (nd : (keysOf a).Nodup) (h : Idx m a) : Idx (applyNotes m ns) a' := by
  induction s generalizing m with
  | refl => exact h
  | step hi hj _ ih =>
    rw [applyNotes_append]
    exact ih (nodup_swapAt nd _ _) (idx_swapN nd h hi hj)

/-- A heap call keeps the map exact: it was exact for `b` except at the written position `i`. While `Remove` / `Pop` run,
the map still holds the entry of the key that is going away, so "no entry outside" is stated for a second array `c`
(the old one) that contains the keys of `b`. -/
theorem _root_.Juniper.Proofs.Heap.Announced.idx_dom {b a' c : List (KP K P)} {i : Nat}
    {notes : List (Note (KP K P))} {m : IdxMap K} (h : Announced b i a' notes) (nd : (keysOf b).Nodup)
    (hbc : ∀ x ∈ b, x.1 ∈ keysOf c)
    (hi : ∀ l k p, l ≠ i → b[l]? = some (k, p) → mGet m k = some (l : Int)) (hd : Dom m c) :
    Idx (applyNotes m notes) a' ∧ Dom (applyNotes m notes) c :=
  ⟨by obtain ⟨ns, rfl, s⟩ := h; rw [applyNotes_append]; exact s.idx nd (idx_notifyAt nd hi),
    dom_applyNotes_of hd (fun _ hn => h.notes_mem hn) hbc⟩

/-- the second loop of `New` records every element, whatever the map held before -/
theorem idx_notifyAll_aux (t : List (KP K P)) (k0 : Nat) (m : IdxMap K) (nd : (keysOf t).Nodup) :
    ∀ i k p, t[i]? = some (k, p) → mGet (applyNotes m (t.zipIdx k0)) k = some ((k0 + i : Nat) : Int) := by
  induction t generalizing k0 m with
  | nil => simp
  | cons x t ih =>
    obtain ⟨kx, px⟩ := x
    simp only [keysOf, List.map_cons, List.nodup_cons] at nd
    obtain ⟨hx, ndt⟩ := nd
    simp only [List.zipIdx_cons, applyNotes_cons]
    intro i k p hi
    cases i with
    | zero =>
      simp at hi; obtain ⟨rfl, rfl⟩ := hi
      -- no later note is about `kx`, which is not a key of `t`
      have hk : ∀ n ∈ t.zipIdx (k0 + 1), n.1.1 ≠ kx := fun n hn e =>
        hx (e ▸ List.mem_map_of_mem (f := (·.1)) (List.fst_mem_of_mem_zipIdx hn))
      rw [mGet_applyNotes_of_not_mem _ _ kx hk, mGet_mSet]; simp
    | succ i =>
      simp at hi
      rw [ih (k0 + 1) _ ndt i k p hi]; congr 2; omega

theorem idx_notifyAll (m : IdxMap K) {a : List (KP K P)} (nd : (keysOf a).Nodup) :
    Idx (applyNotes m (notifyAll a)) a := by
  intro i k p hi
  have := idx_notifyAll_aux a 0 m nd i k p hi
  simpa [notifyAll_eq] using this

end Juniper.Proofs.PQ
