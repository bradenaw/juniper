import Juniper.Proofs.ParMapBasic
import Juniper.Proofs.ListStore
/-! Counting infrastructure for the MapStream / MapIterator invariants: number of workers in a class of
program counters, occurrences of an index in a list of `(index, value)` pairs — kept behind opaque
definitions so that `simp` does not rewrite the counts into quantified statements; the consumer's guard on the
reorder buffer; and the two notions both LTSs share, `LastCloses` (the last worker closes the result channel) and `Placed`
(every dispatched index is in exactly one place). -/

namespace Juniper.Proofs.ParMap
open Juniper.Gen Juniper.Facts Juniper.Model.ParMap

def cnt {α} (p : α → Bool) (l : List α) : Nat := l.countP p

namespace S
def b2n (b : Bool) : Nat := if b then 1 else 0

@[simp] theorem b2n_true : b2n true = 1 := rfl
@[simp] theorem b2n_false : b2n false = 0 := rfl
theorem b2n_le (b : Bool) : b2n b ≤ 1 := by cases b <;> decide
end S
open S (b2n)

theorem cnt_ge {α} (p : α → Bool) {l : List α} {w : Nat} {b : α} (h : l[w]? = some b) :
    b2n (p b) ≤ cnt p l := ListStore.ite_le_countP p h

theorem cnt_set_same {α} {p : α → Bool} {l : List α} {w : Nat} {a b : α} (h : l[w]? = some b) (hp : p a = p b) :
    cnt p (l.set w a) = cnt p l := by
  have := ListStore.countP_set_add (p := p) (a := a) h
  rw [hp] at this; unfold cnt; omega

theorem cnt_set_in {α} {p : α → Bool} {l : List α} {w : Nat} {a b : α} (h : l[w]? = some b) (hb : p b = false)
    (ha : p a = true) : cnt p (l.set w a) = cnt p l + 1 := ListStore.countP_set_succ h hb ha

theorem cnt_set_out {α} {p : α → Bool} {l : List α} {w : Nat} {a b : α} (h : l[w]? = some b) (hb : p b = true)
    (ha : p a = false) : cnt p (l.set w a) + 1 = cnt p l := ListStore.countP_set_pred h hb ha

theorem cnt_pos_set {α} {p : α → Bool} {l : List α} {w : Nat} {a : α} (hp : 0 < cnt p (l.set w a)) :
    p a = true ∨ 0 < cnt p l := by
  cases ha : p a
  · exact .inr (Nat.lt_of_lt_of_le hp (ListStore.countP_set_le ha))
  · exact .inl rfl

theorem cnt_set_pos {α} {p : α → Bool} {l : List α} {w : Nat} {a b : α} (h : l[w]? = some b) (ha : p a = true) :
    0 < cnt p (l.set w a) := ListStore.countP_set_pos h ha

theorem cnt_le_set {α} {p : α → Bool} {l : List α} {w : Nat} {a b : α} (h : l[w]? = some b)
    (hba : p b = true → p a = true) : cnt p l ≤ cnt p (l.set w a) := ListStore.countP_le_set h hba

@[simp] theorem cnt_nil {α} (p : α → Bool) : cnt p [] = 0 := rfl
@[simp] theorem cnt_replicate {α} (p : α → Bool) (a : α) (n : Nat) :
    cnt p (List.replicate n a) = if p a then n else 0 := by
  simp [cnt, List.countP_replicate]
@[simp] theorem cnt_snoc {α} (p : α → Bool) (l : List α) (a : α) :
    cnt p (l ++ [a]) = cnt p l + b2n (p a) := by
  simp [cnt, b2n, List.countP_append, List.countP_cons]
@[simp] theorem cnt_cons {α} (p : α → Bool) (l : List α) (a : α) :
    cnt p (a :: l) = cnt p l + b2n (p a) := by
  simp [cnt, b2n, List.countP_cons]

theorem cnt_le_length {α} (p : α → Bool) (l : List α) : cnt p l ≤ l.length := List.countP_le_length

theorem cnt_add_cnt_not {α} (p : α → Bool) (l : List α) : cnt p l + cnt (fun x => !p x) l = l.length := by
  unfold cnt
  induction l with
  | nil => simp
  | cons x xs ih => simp only [List.countP_cons, List.length_cons]; cases h : p x <;> simp <;> omega

theorem cnt_add_one_le {α} {p : α → Bool} {l : List α} {w : Nat} {b : α} (hw : l[w]? = some b)
    (hb : p b = false) : cnt p l + 1 ≤ l.length := ListStore.countP_lt_length hw hb

theorem cnt_eq_zero {α} {p : α → Bool} {l : List α} (h : cnt p l = 0) : ∀ x ∈ l, p x = false := by
  intro x hx
  have := List.countP_eq_zero.1 h x hx
  simpa using this

theorem cnt_pos {α} {p : α → Bool} {l : List α} (h : 0 < cnt p l) : ∃ x ∈ l, p x = true := by
  exact List.countP_pos_iff.1 h

theorem cnt_mono {α} {p q : α → Bool} (h : ∀ x, p x = true → q x = true) (l : List α) : cnt p l ≤ cnt q l := by
  exact List.countP_mono_left (fun x _ hx => h x hx)

theorem cnt_eq_length {α} {p : α → Bool} {l : List α} (h : ∀ x ∈ l, p x = true) : cnt p l = l.length := by
  exact List.countP_eq_length.2 h

theorem exists_index_of_cnt_pos {α} {p : α → Bool} {l : List α} (h : 0 < cnt p l) :
    ∃ (w : Nat) (x : α), l[w]? = some x ∧ p x = true := by
  obtain ⟨x, hx, hp⟩ := cnt_pos h
  obtain ⟨w, hw⟩ := List.getElem?_of_mem hx
  exact ⟨w, x, hw, hp⟩

theorem cnt_fst_pos {β : Type} {k : Nat} {x : β} {l : List (Nat × β)} (h : (k, x) ∈ l) :
    0 < cnt (fun e => e.1 == k) l :=
  List.countP_pos_iff.2 ⟨(k, x), h, by simp⟩

theorem lt_of_numbered {ρ : Type} {vi : ρ → Option Nat} {n : Nat} {l : List ρ} (h : l.filterMap vi = List.range n)
    {r : ρ} {k : Nat} (hm : r ∈ l) (hk : vi r = some k) : k < n :=
  List.mem_range.1 (h ▸ List.mem_filterMap.2 ⟨r, hm, hk⟩)

/-! `h.Len() > 0 && h.Peek().idx == i` and what it pops, for the guard function `nr` of either LTS -/
section
variable {nr : Int → Int → Int → Bool} (hnr : ∀ l m i, nr l m i = (decide (l > 0) && decide (m = i)))
  {heap : List (Nat × Nat)} {i : Nat}
include hnr

theorem popped_of_ready {k v : Nat} (hy : nr heap.length ((heapMin heap).getD 0) i = true)
    (hf : heap.find? (fun kv => kv.1 == (heapMin heap).getD 0) = some (k, v)) : k = i ∧ (k, v) ∈ heap := by
  have hk := List.find?_some hf
  simp only [hnr, Bool.and_eq_true, decide_eq_true_eq, beq_iff_eq] at hy hk
  exact ⟨by omega, List.mem_of_find?_eq_some hf⟩

theorem find_of_ready (hy : nr heap.length ((heapMin heap).getD 0) i = true) :
    ∃ kv, heap.find? (fun kv => kv.1 == (heapMin heap).getD 0) = some kv := by
  simp only [hnr, Bool.and_eq_true, decide_eq_true_eq] at hy
  cases hmin : (heap.map (·.1)).min? with
  | none => simp [List.min?_eq_none_iff] at hmin; simp [hmin] at hy
  | some m =>
    obtain ⟨kv, hkv, hk⟩ := List.mem_map.1 (List.min?_eq_some_iff.1 hmin).1
    exact Option.isSome_iff_exists.1 (List.find?_isSome.2 ⟨kv, hkv, by simp [heapMin, hmin, hk]⟩)

theorem ready_of_min (hmem : ∃ v, (i, v) ∈ heap) (hge : ∀ k v, (k, v) ∈ heap → i ≤ k) :
    nr heap.length ((heapMin heap).getD 0) i = true := by
  obtain ⟨v, hv⟩ := hmem
  have hmin : heapMin heap = some i :=
    List.min?_eq_some_iff.2 ⟨List.mem_map.2 ⟨(i, v), hv, rfl⟩, fun b hb => by
      obtain ⟨⟨k, v'⟩, hkv, rfl⟩ := List.mem_map.1 hb
      exact hge k v' hkv⟩
  have hlen : 0 < heap.length := List.length_pos_of_mem hv
  simp [hnr, hmin]; omega

end

/-! Counting by index (declared in `S`, used by `I` as well). -/
namespace S

theorem cnt_set_b2n {α} {p : α → Bool} {l : List α} {w : Nat} {a b : α} (h : l[w]? = some b) :
    cnt p (l.set w a) + b2n (p b) = cnt p l + b2n (p a) := ListStore.countP_set_add h

theorem b2n_lt_succ (k n : Nat) : b2n (decide (k < n + 1)) = b2n (decide (k < n)) + b2n (n == k) := by
  by_cases h : k < n <;> by_cases h' : n = k <;> simp [b2n, h, h'] <;> omega

def icnt (k : Nat) (l : List (Nat × Nat)) : Nat := cnt (fun kv => kv.1 == k) l
def ncnt (k : Nat) (l : List Nat) : Nat := cnt (fun j => j == k) l

@[simp] theorem icnt_nil (k : Nat) : icnt k [] = 0 := rfl
@[simp] theorem icnt_snoc (k : Nat) (l : List (Nat × Nat)) (a : Nat × Nat) :
    icnt k (l ++ [a]) = icnt k l + b2n (a.1 == k) := cnt_snoc _ l a
@[simp] theorem icnt_cons (k : Nat) (l : List (Nat × Nat)) (a : Nat × Nat) :
    icnt k (a :: l) = icnt k l + b2n (a.1 == k) := cnt_cons _ l a
@[simp] theorem ncnt_nil (k : Nat) : ncnt k [] = 0 := rfl
@[simp] theorem ncnt_snoc (k : Nat) (l : List Nat) (a : Nat) :
    ncnt k (l ++ [a]) = ncnt k l + b2n (a == k) := cnt_snoc _ l a

theorem icnt_pos_of_mem {k v : Nat} {l : List (Nat × Nat)} (h : (k, v) ∈ l) : 0 < icnt k l := cnt_fst_pos h

theorem mem_of_icnt_pos {k : Nat} {l : List (Nat × Nat)} (h : 0 < icnt k l) : ∃ v, (k, v) ∈ l := by
  obtain ⟨⟨j, v⟩, hm, hj⟩ := cnt_pos h
  simp at hj; subst hj
  exact ⟨v, hm⟩

theorem icnt_eraseP {l : List (Nat × Nat)} {k v : Nat} (hm : (k, v) ∈ l) (j : Nat) :
    icnt j (l.eraseP (fun kv => kv.1 == k)) + b2n (k == j) = icnt j l := by
  induction l with
  | nil => cases hm
  | cons x xs ih =>
    by_cases hx : x.1 = k
    · rw [List.eraseP_cons_of_pos (by simpa using hx), icnt_cons, hx]
    · have hm' : (k, v) ∈ xs := by
        rcases List.mem_cons.1 hm with rfl | h
        · exact absurd rfl hx
        · exact h
      have := ih hm'
      rw [List.eraseP_cons_of_neg (by simpa using hx)]
      simp only [icnt_cons]; omega

theorem ready_of_gap {nr : Int → Int → Int → Bool} (hnr : ∀ l m i, nr l m i = (decide (l > 0) && decide (m = i)))
    {heap : List (Nat × Nat)} {i : Nat} (hi : 0 < icnt i heap) (hlow : ∀ k, k < i → icnt k heap = 0) :
    nr heap.length ((heapMin heap).getD 0) i = true := by
  refine ready_of_min hnr (mem_of_icnt_pos hi) (fun k v hkv => ?_)
  by_cases hk : k < i
  · have := icnt_pos_of_mem hkv; have := hlow k hk; omega
  · omega

end S

section
open S

/-- **The last one closes**, for either LTS: `nDone` counts the workers that have counted themselves (`past`), and the
result channel is closed exactly when all `n` of them have. -/
structure LastCloses {α : Type} (past : α → Bool) (ws : List α) (nDone n : Nat) (closed : Bool) : Prop where
  counted : nDone = cnt past ws
  closed_iff : closed = true ↔ nDone = n

namespace LastCloses
variable {α : Type} {past : α → Bool} {ws : List α} {nDone n w : Nat} {closed : Bool} {a b : α}
  (h : LastCloses past ws nDone n closed)
include h

theorem keep (hw : ws[w]? = some b) (hp : past a = past b) : LastCloses past (ws.set w a) nDone n closed :=
  ⟨h.counted.trans (cnt_set_same hw hp).symm, h.closed_iff⟩

/-- a worker counts itself, and closes the channel if it is the `par`-th, `par` being the number of workers -/
theorem count (hlen : ws.length = n) (hw : ws[w]? = some b) (hb : past b = false) (ha : past a = true) {par : Int}
    (hn : (n : Int) = par) :
    LastCloses past (ws.set w a) (nDone + 1) n (closed || decide (((nDone + 1 : Nat) : Int) = par)) := by
  have h1 := cnt_set_in (a := a) hw hb ha
  have h2 := cnt_le_length past (ws.set w a)
  rw [List.length_set] at h2
  have := h.counted
  refine ⟨by omega, ?_⟩
  rw [Bool.or_eq_true, decide_eq_true_eq, h.closed_iff]; omega

end LastCloses

/-- **Placement**, for either LTS: every dispatched index `k < dispI` is in exactly one place — yielded (`k < i`),
held by a worker (`hold k pc`), or downstream of the workers (`down k`: its occurrences in the result channel,
the reorder buffer, the dropped ones); `f` begins once per index and ends at most once (`ended k`: its returns
for `k`; `inF k pc`: a worker is inside it). -/
structure Placed {α : Type} (hold inF : Nat → α → Bool) (ws : List α) (i dispI : Nat) (down ended : Nat → Nat)
    (fBegun : List (Nat × Nat)) : Prop where
  place : ∀ k, b2n (decide (k < i)) + cnt (hold k) ws + down k = b2n (decide (k < dispI))
  begun : ∀ k, icnt k fBegun = b2n (decide (k < dispI))
  ended : ∀ k, ended k + cnt (inF k) ws = b2n (decide (k < dispI))

namespace Placed
variable {α : Type} {hold inF : Nat → α → Bool} {ws : List α} {i dispI : Nat} {down ended : Nat → Nat}
  {fBegun : List (Nat × Nat)} (h : Placed hold inF ws i dispI down ended fBegun)
include h

theorem i_le : i ≤ dispI := by
  have := h.place dispI
  by_cases hle : i ≤ dispI
  · exact hle
  · simp [(by omega : dispI < i)] at this

theorem of_pending {k : Nat} (hk : 0 < cnt (hold k) ws + down k) : i ≤ k ∧ k < dispI := by
  have := h.place k
  by_cases h1 : k < i <;> by_cases h2 : k < dispI <;> simp [h1, h2] at this <;> omega

theorem begun_le_one (k : Nat) : icnt k fBegun ≤ 1 := by rw [h.begun]; exact b2n_le _

theorem dispatch {w : Nat} {a b : α} (hw : ws[w]? = some b) (x : Nat) (hb : ∀ k, hold k b = false)
    (ha : ∀ k, hold k a = (dispI == k)) (hbF : ∀ k, inF k b = false) (haF : ∀ k, inF k a = (dispI == k)) :
    Placed hold inF (ws.set w a) i (dispI + 1) down ended (fBegun ++ [(dispI, x)]) := by
  refine ⟨fun k => ?_, fun k => by rw [icnt_snoc, b2n_lt_succ, h.begun], fun k => ?_⟩
  · have := h.place k
    have := cnt_set_b2n (p := hold k) (a := a) hw
    rw [hb, ha] at this; rw [b2n_lt_succ]; simp only [b2n_false] at this; omega
  · have := h.ended k
    have := cnt_set_b2n (p := inF k) (a := a) hw
    rw [hbF, haF] at this; rw [b2n_lt_succ]; simp only [b2n_false] at this; omega

/-- a worker moves from `b` to `a`: what it ceases to hold has gone downstream (`down'`), the call it leaves has
ended (`ended'`) -/
theorem move {w : Nat} {a b : α} {down' ended' : Nat → Nat} (hw : ws[w]? = some b)
    (hd : ∀ k, down' k + b2n (hold k a) = down k + b2n (hold k b))
    (he : ∀ k, ended' k + b2n (inF k a) = ended k + b2n (inF k b)) :
    Placed hold inF (ws.set w a) i dispI down' ended' fBegun := by
  refine ⟨fun k => ?_, h.begun, fun k => ?_⟩
  · have := h.place k; have := cnt_set_b2n (p := hold k) (a := a) hw; have := hd k; omega
  · have := h.ended k; have := cnt_set_b2n (p := inF k) (a := a) hw; have := he k; omega

theorem yield {down' : Nat → Nat} (hd : ∀ k, down' k + b2n (i == k) = down k) :
    Placed hold inF ws (i + 1) dispI down' ended fBegun :=
  ⟨fun k => by have := h.place k; have := hd k; rw [b2n_lt_succ]; omega, h.begun, h.ended⟩

theorem of_ended {k : Nat} (hk : 0 < ended k) : ended k = 1 ∧ ∃ a, (k, a) ∈ fBegun := by
  have h1 := h.begun k
  have h2 := h.ended k
  by_cases hlt : k < dispI <;> simp [hlt] at h1 h2
  · exact ⟨by omega, mem_of_icnt_pos (by omega)⟩
  · omega

/-- with nothing held by a worker and everything downstream in the reorder buffer, the buffer holds exactly the
indices `i … dispI-1`: if that range is non-empty the consumer's guard holds -/
theorem ready {nr : Int → Int → Int → Bool} (hnr : ∀ l m i, nr l m i = (decide (l > 0) && decide (m = i)))
    {heap : List (Nat × Nat)} (hh : ∀ k, cnt (hold k) ws = 0) (hd : ∀ k, down k = icnt k heap) (hlt : i < dispI) :
    nr heap.length ((heapMin heap).getD 0) i = true := by
  have key : ∀ k, b2n (decide (k < i)) + icnt k heap = b2n (decide (k < dispI)) := by
    intro k; have := h.place k; rw [hh k, hd k] at this; simpa using this
  refine ready_of_gap hnr ?_ (fun k hk => ?_)
  · have := key i; simp [hlt] at this; omega
  · have := key k; simp [hk, (by omega : k < dispI)] at this; exact this

end Placed

end

end Juniper.Proofs.ParMap
