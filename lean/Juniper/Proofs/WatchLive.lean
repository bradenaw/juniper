import Juniper.Proofs.Watchable
import Juniper.Proofs.LTS
/-!
# Helper lemmas for C18, Watchable: no panic, progress of the observer loop, `Value` is never blocked

`WatchSafe` is the half of the invariant that excludes `SetPc.panicked` (close of a closed channel) and
`ValPc.panicked` (nil dereference after the reload).
-/
namespace Juniper.Proofs.Watch
open Juniper.Model.Watch Juniper.ListStore

structure WatchSafe (s : WState) : Prop where
  /-- a cell that some `Set` has swapped out and not yet closed is still open … -/
  holder_open : ∀ (i : Nat) (v : Int) (oc : Nat), s.setters[i]? = some (v, .swapped (some oc)) →
      ∃ ce, s.cells[oc]? = some ce ∧ ce.closed = false
  /-- … and that `Set` is the only one that will close it -/
  holder_unique : ∀ (i k : Nat) (v v' : Int) (oc : Nat), s.setters[i]? = some (v, .swapped (some oc)) →
      s.setters[k]? = some (v', .swapped (some oc)) → i = k
  /-- after a failed `CompareAndSwap(nil, _)` the pointer is not nil (and never becomes nil again) -/
  cas_ptr : ∀ (j : Nat), s.readers[j]? = some .casFailed → s.ptr ≠ none
  set_ok : ∀ (i : Nat) (v : Int), s.setters[i]? ≠ some (v, .panicked)
  val_ok : ∀ (j : Nat), s.readers[j]? ≠ some .panicked

theorem wsafe_init (vals : List Int) (r : Nat) : WatchSafe (winit vals r) :=
  have ⟨hset, hrd⟩ := winit_idle vals r
  ⟨fun i v _ h => (nomatch hset i v _ h), fun i _ v _ _ h => (nomatch hset i v _ h), fun j h => (nomatch hrd j _ h),
    fun i v h => (nomatch hset i v _ h), fun j h => (nomatch hrd j _ h)⟩

theorem wsafe_reader {s : WState} {j : Nat} {pc : ValPc} {p : Option Nat} {cells : List Cell} (hS : WatchSafe s)
    (hcells : ∀ (c : Nat) (ce : Cell), s.cells[c]? = some ce → cells[c]? = some ce)
    (hptr : s.ptr ≠ none → p ≠ none) (hpc1 : pc = .casFailed → p ≠ none) (hpc2 : pc ≠ .panicked) :
    WatchSafe (setReader { s with ptr := p, cells := cells } j pc) :=
  ⟨fun i v oc h => (hS.holder_open i v oc h).imp fun ce h => ⟨hcells oc ce h.1, h.2⟩, hS.holder_unique,
    fun k hk => (getElem?_set_some hk).elim (fun e => hpc1 e.2.symm) (fun e => hptr (hS.cas_ptr k e.2)), hS.set_ok,
    fun k hk => (getElem?_set_some hk).elim (fun e => hpc2 e.2.symm) (fun e => hS.val_ok k e.2)⟩

theorem wsafe_done {s : WState} {i : Nat} {v : Int} {cells : List Cell} (hS : WatchSafe s)
    (hopen : ∀ (k : Nat) (v' : Int) (oc : Nat), i ≠ k → s.setters[k]? = some (v', .swapped (some oc)) →
      ∃ ce, cells[oc]? = some ce ∧ ce.closed = false) :
    WatchSafe { s with cells := cells, setters := s.setters.set i (v, .done) } :=
  ⟨fun k v' oc hk => (getElem?_set_some hk).elim (fun e => nomatch e.2) (fun e => hopen k v' oc e.1 e.2),
    fun a b va vb oc ha hb => hS.holder_unique a b va vb oc (getElem?_of_set_ne ha nofun) (getElem?_of_set_ne hb nofun),
    hS.cas_ptr, fun k v' hk => hS.set_ok k v' (getElem?_of_set_ne hk nofun), hS.val_ok⟩

theorem wsafe_step {s s' : WState} {l : WLabel} (hI : WatchInv s) (hS : WatchSafe s) (h : WStep s l s') :
    WatchSafe s' := by
  cases h with
  | @swap i v hi =>
    -- a setter that has swapped `oc` out before holds a cell that is not the current one
    have hold : ∀ (k : Nat) (v' : Int) (oc : Nat), s.setters[k]? = some (v', .swapped (some oc)) → s.ptr ≠ some oc :=
      fun k v' oc h e => by have := hI.ptr_last oc e; have := hI.setter k v' oc h; omega
    have hnew : ∀ {v' : Int} {oc : Nat}, (v', SetPc.swapped (some oc)) = (v, .swapped s.ptr) → s.ptr = some oc :=
      fun e => (SetPc.swapped.inj (Prod.mk.inj e).2).symm
    refine ⟨fun k v' oc hk => ?_, fun a b va vb oc ha hb => ?_, fun _ _ => nofun,
      fun k v' hk => hS.set_ok k v' (getElem?_of_set_ne hk nofun), hS.val_ok⟩
    · have : ∃ ce, s.cells[oc]? = some ce ∧ ce.closed = false := by
        rcases getElem?_set_some hk with ⟨_, e⟩ | ⟨_, h⟩
        · exact (winv_ptr_cell hI (hnew e)).imp fun ce h => ⟨h.1, h.2.2⟩
        · exact hS.holder_open k v' oc h
      exact this.imp fun ce h => ⟨getElem?_append_of_some _ h.1, h.2⟩
    · rcases getElem?_set_some ha with ⟨rfl, ea⟩ | ⟨_, ha'⟩ <;> rcases getElem?_set_some hb with ⟨rfl, eb⟩ | ⟨_, hb'⟩
      · rfl
      · exact absurd (hnew ea) (hold b vb oc hb')
      · exact absurd (hnew eb) (hold a va oc ha')
      · exact hS.holder_unique a b va vb oc ha' hb'
  | skip => exact wsafe_done hS fun k v' oc _ hk => hS.holder_open k v' oc hk
  | @closePanic i v oc hi hcl =>
    -- close of a closed channel: excluded, the holder's cell is open
    obtain ⟨ce, hce, hopen⟩ := hS.holder_open i v oc hi
    rw [cellAt_eq hce, hopen] at hcl
    cases hcl
  | @close i v oc hi =>
    refine wsafe_done hS fun k v' oc' hik hk => ?_
    have hne : oc ≠ oc' := fun e => hik (hS.holder_unique i k v v' oc hi (e ▸ hk))
    rw [List.getElem?_set_ne hne]
    exact hS.holder_open k v' oc' hk
  | load | sawNil | reload => exact wsafe_reader hS (fun _ _ h => h) id nofun nofun
  | casFail _ hp => exact wsafe_reader hS (fun _ _ h => h) id (fun _ h => nomatch hp.symm.trans h) nofun
  | cas => exact wsafe_reader hS (fun _ _ h => getElem?_append_of_some _ h) (fun _ => nofun) nofun nofun
  | derefNil hj hp => exact absurd hp (hS.cas_ptr _ hj)

theorem wsafe_reach {s : WState} (h : WReach WCfg.std s) : WatchSafe s := by
  induction h with
  | init vals r => exact wsafe_init vals r
  | step l hr hs ih => exact wsafe_step (winv_reach hr) ih (wstep_iff.mp hs)

theorem wreach_steps {cfg : WCfg} {s t : WState} (hr : WReach cfg s) (hst : WSteps cfg s t) : WReach cfg t := by
  induction hst with
  | refl => exact hr
  | step l _ hs ih => exact .step l ih hs

/-- `lin = s.hist.length`: the `Value` call read the pointer in this very step -/
theorem wstep_mono {s s' : WState} {l : WLabel} (h : WStep s l s') :
    s.hist.length ≤ s'.hist.length ∧ s'.setters.length = s.setters.length ∧
    ∀ (j c lin : Nat), s'.readers[j]? = some (.done c lin) → s.readers[j]? = some (.done c lin) ∨ lin = s.hist.length := by
  cases h with
  | swap => exact ⟨by simp, List.length_set, fun _ _ _ => .inl⟩
  | skip | closePanic | close => exact ⟨Nat.le_refl _, List.length_set, fun _ _ _ => .inl⟩
  | load | cas | reload =>
    refine ⟨Nat.le_refl _, rfl, fun k c lin hk => (getElem?_set_some hk).imp (fun e => ?_) (·.2) |>.symm⟩
    cases e.2; rfl
  | sawNil | casFail | derefNil => exact ⟨Nat.le_refl _, rfl, fun k c lin hk => .inl (getElem?_of_set_ne hk nofun)⟩

/-- a `Value` call that has not started in `s` and has returned in a later state `t` read the
pointer for the last time when at least `s.hist.length` `Set`s had swapped -/
theorem steps_reader_lin {s t : WState} {j : Nat} (hst : WSteps WCfg.std s t) (hidle : s.readers[j]? = some .idle) :
    s.hist.length ≤ t.hist.length ∧ t.setters.length = s.setters.length ∧
    ∀ (c lin : Nat), t.readers[j]? = some (.done c lin) → s.hist.length ≤ lin := by
  induction hst with
  | refl => exact ⟨Nat.le_refl _, rfl, fun c lin h => nomatch hidle.symm.trans h⟩
  | step l _ hs ih =>
    obtain ⟨h1, h2, h3⟩ := wstep_mono (wstep_iff.mp hs)
    refine ⟨Nat.le_trans ih.1 h1, h2.trans ih.2.1, fun c lin hj => ?_⟩
    rcases h3 j c lin hj with hold | hnew
    · exact ih.2.2 c lin hold
    · omega

/-- the `Set` calls that have performed their `Swap` -/
def started (l : List (Int × SetPc)) : Nat := l.countP (·.2 != .idle)

theorem started_set {l : List (Int × SetPc)} {i : Nat} {v : Int} {pc pc' : SetPc} (h : l[i]? = some (v, pc))
    (hpc' : pc' ≠ .idle) : started l + (pc == .idle).toNat = started (l.set i (v, pc')) := by
  obtain ⟨hi, e⟩ := List.getElem?_eq_some_iff.mp h
  obtain ⟨l₁, l₂, e1, _, e2⟩ := List.exists_of_set (a' := (v, pc')) hi
  rw [e] at e1
  rw [e2, e1]
  simp only [started, List.countP_append, List.countP_cons, bne_iff_ne, ne_eq, hpc', not_false_eq_true, if_true]
  cases pc <;> simp <;> omega

theorem hist_started {s : WState} (h : WReach WCfg.std s) : s.hist.length = started s.setters := by
  induction h with
  | init vals r =>
    refine (List.countP_eq_zero.mpr fun p hp => ?_).symm
    obtain ⟨i, hi⟩ := List.getElem?_of_mem hp
    simp [(winit_idle vals r).1 i p.1 p.2 hi]
  | step l _ hs ih =>
    cases wstep_iff.mp hs with
    | swap hi => exact List.length_append.trans ((congrArg (· + 1) ih).trans (started_set (pc' := .swapped _) hi nofun))
    | skip hi | closePanic hi | close hi => exact ih.trans (started_set hi nofun)
    | _ => exact ih

theorem hist_le_setters {s : WState} (h : WReach WCfg.std s) : s.hist.length ≤ s.setters.length :=
  hist_started h ▸ List.countP_le_length

theorem isRun (cfg : WCfg) : LTS.IsRun (wstep cfg) (wrun cfg) :=
  ⟨fun _ => rfl, fun s l ls => by rw [wrun]; cases wstep cfg s l <;> rfl⟩

theorem value_solo {s : WState} {j : Nat} {pc : ValPc} (hr : WReach WCfg.std s) (hj : s.readers[j]? = some pc)
    (hpc : pc = .idle ∨ pc = .sawNil ∨ pc = .casFailed) :
    ∃ (ls : List WLabel) (s' : WState) (c : Nat), ls.length ≤ 2 ∧ (∀ l ∈ ls, l.ofReader j = true) ∧
      wrun WCfg.std s ls = some s' ∧ s'.readers[j]? = some (.done c s.hist.length) ∧
      (cellAt s' c).val = latest s.hist ∧ (cellAt s' c).closed = false := by
  have hI := winv_reach hr
  have hlt := (List.getElem?_eq_some_iff.mp hj).1
  -- the pointer is non-nil: one read of it finishes the call
  have viaPtr : ∀ {c : Nat} (t : WState), t.cells = s.cells → s.ptr = some c →
      (cellAt t c).val = latest s.hist ∧ (cellAt t c).closed = false := by
    intro c t ht hp
    obtain ⟨ce, hce, hep, hcl⟩ := winv_ptr_cell hI hp
    rw [cellAt_eq (ht ▸ hce), (hI.cell c ce hce).2.1, hep, List.take_length]
    exact ⟨rfl, hcl⟩
  -- the pointer is nil: the CAS installs the empty cell, and no `Set` has swapped yet
  have viaCas : ∀ (t : WState), t.cells = s.cells ++ [{ val := none, closed := false, epoch := s.hist.length }] →
      s.ptr = none → (cellAt t s.cells.length).val = latest s.hist ∧ (cellAt t s.cells.length).closed = false := by
    intro t ht hp
    rw [cellAt_eq (ht ▸ List.getElem?_concat_length), (hI.ptr_none hp).2]
    exact ⟨rfl, rfl⟩
  rcases hpc with rfl | rfl | rfl
  · cases hp : s.ptr with
    | some c =>
      exact ⟨[.load j], _, c, by simp, by simp [WLabel.ofReader], (isRun _).cons_eq_some.mpr ⟨_, wstep_iff.mpr (.load hj hp), rfl⟩,
        List.getElem?_set_self hlt, viaPtr _ rfl hp⟩
    | none =>
      have h1 := wstep_iff.mpr (.sawNil hj hp)
      have h2 := wstep_iff.mpr (.cas (s := { s with readers := s.readers.set j .sawNil }) (List.getElem?_set_self hlt) hp)
      exact ⟨[.load j, .cas j], _, s.cells.length, by simp, by simp [WLabel.ofReader],
        (isRun _).cons_eq_some.mpr ⟨_, h1, (isRun _).cons_eq_some.mpr ⟨_, h2, rfl⟩⟩, List.getElem?_set_self (by simpa using hlt), viaCas _ rfl hp⟩
  · cases hp : s.ptr with
    | none =>
      exact ⟨[.cas j], _, s.cells.length, by simp, by simp [WLabel.ofReader], (isRun _).cons_eq_some.mpr ⟨_, wstep_iff.mpr (.cas hj hp), rfl⟩,
        List.getElem?_set_self hlt, viaCas _ rfl hp⟩
    | some c =>
      have h1 := wstep_iff.mpr (.casFail hj hp)
      have h2 := wstep_iff.mpr (.reload (s := { s with readers := s.readers.set j .casFailed }) (List.getElem?_set_self hlt) hp)
      exact ⟨[.cas j, .reload j], _, c, by simp, by simp [WLabel.ofReader],
        (isRun _).cons_eq_some.mpr ⟨_, h1, (isRun _).cons_eq_some.mpr ⟨_, h2, rfl⟩⟩, List.getElem?_set_self (by simpa using hlt), viaPtr _ rfl hp⟩
  · cases hp : s.ptr with
    | none => exact absurd hp ((wsafe_reach hr).cas_ptr j hj)
    | some c =>
      exact ⟨[.reload j], _, c, by simp, by simp [WLabel.ofReader], (isRun _).cons_eq_some.mpr ⟨_, wstep_iff.mpr (.reload hj hp), rfl⟩,
        List.getElem?_set_self hlt, viaPtr _ rfl hp⟩

end Juniper.Proofs.Watch
