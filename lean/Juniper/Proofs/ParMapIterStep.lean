import Juniper.Proofs.ParMapCount
/-! The step relation of the MapIterator LTS: `Iter.step` for code that satisfies `Code.Sound`, one constructor
per branch, with the guard in the form the invariants use and the successor state written out. -/

namespace Juniper.Proofs.ParMap.I
open Juniper.Gen Juniper.Facts Juniper.Model.ParMap Juniper.Model.ParMap.Iter Juniper.Proofs.ParMap

/-- `Signal` on the cond: a parked dispatcher goes back to its check -/
def woken (wake : Bool) : DPc → DPc
  | .parked x => if wake then .acquire x else .parked x
  | d => d

/-- `Iter.step` of sound code. The two critical sections are atomic with respect to each other
(`Code.Sound.sectionsAtomic`): a dispatcher that finds the buffer full parks in the same step, so nothing ever
produces `.checked` and `dPark` has no constructor. A yield wakes a parked dispatcher exactly when it frees the
last slot (`signalCond`). -/
inductive Step (cfg : Cfg) (s : St) : Label → St → Prop
  | dPull (hd : s.disp = .pull) :
    Step cfg s .dPull { s with disp := .inNext, srcCalls := s.srcCalls + 1 }
  | srcItem (v : Nat) (hd : s.disp = .inNext) :
    Step cfg s (.srcRet (some v)) { s with disp := .acquire v, srcItems := s.srcItems ++ [v] }
  | srcEnd (hd : s.disp = .inNext) :
    Step cfg s (.srcRet none) { s with disp := .done, inClosed := true, srcEnded := true }
  | dParks (v : Nat) (hd : s.disp = .acquire v) (hf : buf cfg ≤ s.inFlight) :
    Step cfg s .dAcquire { s with disp := .parked v }
  | dAcquire (v : Nat) (hd : s.disp = .acquire v) (hf : s.inFlight < buf cfg) :
    Step cfg s .dAcquire { s with disp := .sendIn v, inFlight := s.inFlight + 1 }
  | dSend (w v : Nat) (hd : s.disp = .sendIn v) (hw : s.ws[w]? = some .idle) :
    Step cfg s (.dSend w)
      { s with disp := .pull, dispI := s.dispI + 1, ws := s.ws.set w (.inF s.dispI),
               fBegun := s.fBegun ++ [(s.dispI, v)] }
  | fRet (w k v : Nat) (hw : s.ws[w]? = some (.inF k)) :
    Step cfg s (.fRet w v) { s with ws := s.ws.set w (.sendCh k v), fEnded := s.fEnded ++ [(k, v)] }
  | wHandOff (w k v : Nat) (hc : s.cons = .next) (hw : s.ws[w]? = some (.sendCh k v))
      (hy : canYield cfg s = false) (hcl : s.chClosed = false) :
    Step cfg s (.wHandOff w) { s with ws := s.ws.set w .idle, heap := s.heap ++ [(k, v)] }
  | wExitIdle (w : Nat) (hw : s.ws[w]? = some .idle) (hin : s.inClosed = true) :
    Step cfg s (.wExitIdle w)
      { s with ws := s.ws.set w .done, nDone := s.nDone + 1,
               chClosed := s.chClosed || decide (((s.nDone + 1 : Nat) : Int) = par cfg) }
  | nextCall (hc : s.cons = .idle) : Step cfg s .nextCall { s with cons := .next }
  | cYield (k v : Nat) (hc : s.cons = .next) (hy : canYield cfg s = true)
      (hf : s.heap.find? (fun kv => kv.1 == (heapMin s.heap).getD 0) = some (k, v)) :
    Step cfg s .cYield
      { s with cons := .idle, heap := s.heap.eraseP (fun kv => kv.1 == k), i := s.i + 1,
               inFlight := s.inFlight - 1, results := s.results ++ [.val k v],
               disp := woken (decide (s.inFlight - 1 = buf cfg - 1)) s.disp }
  | cRecvClosed (hc : s.cons = .next) (hy : canYield cfg s = false) (hcl : s.chClosed = true) :
    Step cfg s .cRecvClosed { s with cons := .idle, results := s.results ++ [.end] }

theorem Step.of_step {cfg : Cfg} (hs : cfg.code.Sound) {s s' : St} {l : Label}
    (h : Iter.step cfg s l = some s') : Step cfg s l s' := by
  revert h
  -- `fun_cases` follows the branches of `Iter.step`: those that return `none` go by `cases h`, which in the others puts the
  -- successor state in; what remains comes in the order of the constructors of `Step`, with the two branches of code
  -- whose critical sections are not atomic in between. `hs` puts the regenerated guards into closed form
  fun_cases Iter.step cfg s l <;> intro h <;> cases h
  · exact .dPull ‹_›
  · exact .srcItem _ ‹_›
  · simp only [hs.closesIn, Bool.or_true]; exact .srcEnd ‹_›
  · rename_i hf _ _
    exact .dParks _ ‹_› (by simpa [hs.full] using hf)
  · exact absurd hs.sectionsAtomic ‹_›
  · rename_i hf
    exact .dAcquire _ ‹_› (by simpa [hs.full] using hf)
  · exact absurd hs.sectionsAtomic ‹_›
  · exact .dSend _ _ ‹_› ‹_›
  · exact .fRet _ _ _ ‹_›
  · rename_i hc
    simp only [Bool.and_eq_true, Bool.not_eq_true'] at hc
    exact .wHandOff _ _ _ ‹_› ‹_› hc.1 hc.2
  · simp +zetaDelta only [hs.lastWorker, hs.lastCloses, Bool.and_true]; exact .wExitIdle _ ‹_› ‹_›
  · exact .nextCall ‹_›
  · simp +zetaDelta only [hs.signalCond, hs.signals, Bool.and_true]; exact .cYield _ _ ‹_› ‹_› ‹_›
  · rename_i hc
    simp only [hs.nextClosed, Bool.not_false, Bool.and_true, Bool.and_eq_true, Bool.not_eq_true'] at hc
    exact .cRecvClosed ‹_› hc.1 hc.2

theorem Step.to_step {cfg : Cfg} (hs : cfg.code.Sound) {s s' : St} {l : Label} (h : Step cfg s l s') :
    Iter.step cfg s l = some s' := by
  cases h with
  | cYield k v hc hy hf =>
    simp only [Iter.step, hs.signalCond, hs.signals, Bool.and_true, hc, hy, hf, if_true]
    cases s.disp <;> rfl
  | _ =>
    simp [Iter.step, hs.srcEnded, hs.full, hs.waits, hs.sectionsAtomic, hs.closesIn, hs.lastWorker, hs.lastCloses,
      hs.nextClosed, *]

end Juniper.Proofs.ParMap.I
