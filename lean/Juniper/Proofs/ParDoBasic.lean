import Lean.Elab.Tactic
import Juniper.Model.ParWrap
/-! Basic facts for the `parallel.Do` / `DoContext` model: the regenerated guards mean what the
proofs assume (`Code.Sound`: the tactic `pardo_sound`), and the clamps and the spawn loop in closed form. -/

namespace Juniper.Proofs.ParDo
open Juniper.Gen Juniper.Model.ParDo

open Juniper.Model.ParWrap in
/-- The ways a tie is closed. A field `… = true` that is a conjunction (`structural`, `skeleton`) is split first and its
string lists are compared as literals: evaluating `==` / `decide` on strings is slow. -/
macro "pardo_tie_close" : tactic =>
  `(tactic| first
    | (intro _; intros; rfl)
    | (show _ = true
       simp only [doCode, dcCode, mapWrapper, mapContextWrapper, decide_eq_true_eq, Bool.and_eq_true, beq_iff_eq]
       and_intros <;> rfl)
    | rfl | decide)

open Lean Elab Tactic in
/-- closes one tie (a field of `Code.Sound` / `Wrapper.Sound`, the control skeletons among them) by `decide` /
`rfl` on the regenerated definitions; otherwise fails naming the tie -/
elab "pardo_tie_field" : tactic => do
  try
    evalTactic (← `(tactic| pardo_tie_close))
  catch _ =>
    let g ← getMainGoal
    let stmt := (← Lean.Meta.ppExpr (← g.getType)).pretty 100000
    throwError "tie broken: {stmt} -- a fact regenerated from the Go source (Juniper.Gen.Par / ParDoFacts / SkeletonPar) is not what the model and its proofs assume"

/-- `pardo_sound hc` proves `cfg.code.Sound` from `hc : cfg.code = doCode ∨ cfg.code = dcCode`: every field of
`Code.Sound` by evaluating the regenerated definitions (`rfl` / `decide`) — the guards, loop headers, clamp
bodies, the presence conjunct `structural`, and `skeleton`: the control skeletons of the body (top level,
sequential path, worker loop — the statement order `step` hard-wires).

There is deliberately **no closed lemma** `doCode.Sound` (nor a closed `pskel…_tie`) in `Proofs/`: `Code.Sound` is a
hypothesis of every lemma there, and every property theorem of `Props/C13*.lean` runs this tactic itself, so
that a changed fact or skeleton (an operator flipped, a loop header or a clamp assignment changed, a statement
added, dropped or moved in `parallel.go`) makes *the property theorems* fail to compile, by name, with
"tie broken: <statement>", rather than a lemma upstream of them. -/
syntax "pardo_sound " term : tactic
macro_rules
  | `(tactic| pardo_sound $hc:term) =>
    `(tactic| (
      have hcode := $hc
      rcases hcode with h | h <;> rw [h] <;> constructor <;> pardo_tie_field))

theorem loopCount_lt (cond : Int → Bool) (post : Int → Int) (p : Int) (hc : ∀ j, cond j = decide (j < p))
    (hp : ∀ j, post j = j + 1) :
    ∀ (fuel : Nat) (j : Int), 0 ≤ j → (p - j).toNat ≤ fuel → loopCount cond post fuel j = (p - j).toNat := by
  intro fuel
  induction fuel with
  | zero => intro j _ h; simp [loopCount]; omega
  | succ f ih =>
    intro j hj h
    simp only [loopCount, hc, hp]
    by_cases hlt : j < p
    · simp [hlt]
      rw [ih (j + 1) (by omega) (by omega)]
      omega
    · simp [hlt]; omega

/-- the spawn loop `for j := 0; j < parallelism; j++` (regenerated header) starts `parallelism` goroutines -/
theorem numWorkers_eq {cfg : Cfg} (hs : cfg.code.Sound) : numWorkers cfg = (effPar cfg).toNat := by
  unfold numWorkers
  rw [hs.spawnInit, loopCount_lt _ _ (effPar cfg) (fun j => hs.spawnLoop j _) hs.spawnPost _ 0 (by omega) (by omega)]
  simp

theorem afterLow_eq {cfg : Cfg} (hs : cfg.code.Sound) :
    afterLow cfg = (if cfg.P ≤ 0 then (cfg.gmp : Int) else cfg.P, (cfg.n : Int)) := by
  simp only [afterLow, hs.clampLow, hs.lowAssign]
  by_cases h : cfg.P ≤ 0 <;> simp [h]

/-- requested parallelism: `GOMAXPROCS` (the regenerated right-hand side of the first clamp) when `P ≤ 0` -/
theorem reqPar_eq {cfg : Cfg} (hs : cfg.code.Sound) :
    reqPar cfg = if cfg.P ≤ 0 then (cfg.gmp : Int) else cfg.P := by
  simp [reqPar, afterLow_eq hs]

theorem afterHigh_eq {cfg : Cfg} (hs : cfg.code.Sound) :
    afterHigh cfg = (if reqPar cfg > cfg.n then (cfg.n : Int) else reqPar cfg, (cfg.n : Int)) := by
  simp only [afterHigh, reqPar, hs.clampHigh, hs.highAssign, afterLow_eq hs, decide_eq_true_eq]
  generalize (if cfg.P ≤ 0 then (cfg.gmp : Int) else cfg.P) = p
  split <;> rfl

theorem effPar_eq {cfg : Cfg} (hs : cfg.code.Sound) :
    effPar cfg = if reqPar cfg > cfg.n then (cfg.n : Int) else reqPar cfg := by
  simp [effPar, afterHigh_eq hs]

/-- neither clamp statement assigns `n` (regenerated: both assign `parallelism`) -/
theorem effN_eq {cfg : Cfg} (hs : cfg.code.Sound) : effN cfg = (cfg.n : Int) := by
  simp [effN, afterHigh_eq hs]

theorem effPar_le_reqPar {cfg : Cfg} (hs : cfg.code.Sound) : effPar cfg ≤ reqPar cfg := by
  rw [effPar_eq hs]; split <;> omega

theorem reqPar_nonneg {cfg : Cfg} (hs : cfg.code.Sound) : 0 ≤ reqPar cfg := by
  rw [reqPar_eq hs]; split <;> omega

/-- number of goroutines that call `f` (the caller itself in the sequential path) -/
def nW (cfg : Cfg) : Nat := if cfg.code.isSeq (effPar cfg) then 1 else numWorkers cfg

/-- the caller alone on the fast path `parallelism == 1` (regenerated test `isSeq`), else the goroutines of the spawn loop -/
theorem nW_eq {cfg : Cfg} (hs : cfg.code.Sound) : nW cfg = if effPar cfg = 1 then 1 else (effPar cfg).toNat := by
  unfold nW; rw [hs.isSeq, numWorkers_eq hs]; simp

theorem nW_le {cfg : Cfg} (hs : cfg.code.Sound) : (nW cfg : Int) ≤ max 1 (reqPar cfg) := by
  have := effPar_le_reqPar hs
  rw [nW_eq hs]; split <;> omega

theorem nW_pos {cfg : Cfg} (hs : cfg.code.Sound) (hg : 1 ≤ cfg.gmp) (hn : 0 < cfg.n) : 0 < nW cfg := by
  rw [nW_eq hs]
  split
  · omega
  · rw [effPar_eq hs, reqPar_eq hs]
    split <;> split <;> omega

end Juniper.Proofs.ParDo
