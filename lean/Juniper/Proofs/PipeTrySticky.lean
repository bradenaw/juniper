import Juniper.Proofs.PipeResult
import Juniper.Proofs.PipeNoLoss
/-!
Stickiness of the end, **also with `TrySend` calls started after the report**.

Once `Next` has reported with no call of a sender in flight, the pipe stays closed and empty as long as no
`Send` is started. For `Send` that restriction is needed (its data arm and its `senderDone` arm are both
ready after the sender's `Close`). For `TrySend` it is not: once the sender is closed, a `TrySend` at its
first `select` finds the `senderDone` arm ready, so `default` cannot be taken, every arm that can fire
returns, and the second `select` — the only place where `TrySend` touches the data channel — is never
reached. That is a statement about the regenerated first arm table and its arm bodies (`TryGateFacts`).
-/
namespace Juniper.Proofs.Pipe
open Juniper.Facts Juniper.Gen.Pipe Juniper.Model.Pipe

/-- What the argument needs of the regenerated first `select` of `TrySend`: it has a `senderDone` arm,
it has no arm that sends, and every receive arm has a body that returns (does not fall through to the
second `select`). -/
def TryGateFacts : Prop :=
  trySendArms1.contains (.recv chSenderDone) = true ∧
  trySendArms1.all (fun a => match a with
    | .recv _ => !(trySendBodies1.lookup a == some [])
    | .send _ => false
    | .dflt => true) = true

instance : Decidable TryGateFacts := by unfold TryGateFacts; infer_instance

def OnlyTry1 (st : State) : Prop := ∀ sd ∈ st.senders, sd.pc = .idle ∨ ∃ m, sd.pc = .try1 m

/-- The sender is closed, the channel is empty, and nothing but `TrySend`s at their first `select` is in
flight. -/
def SettledT (st : State) : Prop := st.senderDone = true ∧ st.buf = [] ∧ OnlyTry1 st

def Quiet (st : State) : Prop := ∀ sd ∈ st.senders, sd.pc = .idle

instance (st : State) : Decidable (Quiet st) := by unfold Quiet; infer_instance

def startsSend : Label → Bool
  | .startSend .. | .startTry .. => true
  | _ => false

/-- The label starts a `Send` (a `TrySend` does not count). -/
def startsRealSend : Label → Bool
  | .startSend .. => true
  | _ => false

theorem startsRealSend_of_startsSend {l : Label} (h : startsSend l = false) : startsRealSend l = false := by
  cases l <;> first | rfl | cases h

theorem settledT_of_quiet_report {st st' : State} {l : Label} (hD : DrainFacts) (hI : Inv st)
    (hq : Quiet st) (hs : Step st l st') (hrep : reportsEnd st l = true) : SettledT st' := by
  obtain ⟨rfl, hrpc, hbuf, rfl⟩ := report_only_when_drained hD hs hrep
  exact ⟨hI.drain hrpc, hbuf, fun sd hsd => .inl (hq sd hsd)⟩

theorem onlyTry1_pc {st : State} {i : Nat} {sd : Sender} {m : Msg} (h : OnlyTry1 st)
    (hsd : st.senders[i]? = some sd) (hm : sd.pc.msg? = some m) : sd.pc = .try1 m := by
  rcases h sd (List.mem_of_getElem? hsd) with hpc | ⟨m', hpc⟩
  · rw [hpc] at hm; simp [SPc.msg?] at hm
  · rw [hpc] at hm; simp only [SPc.msg?, Option.some.injEq] at hm; rw [hpc, hm]

theorem try1_arm {a : Arm} {m : Msg} (hF : TryGateFacts) (ha : (tableOf (.try1 m)).contains a = true) :
    (∀ ch, a ≠ .send ch) ∧ (∀ ch, a = .recv ch → (SPc.try1 m).after a = .idle) := by
  have := List.all_eq_true.mp hF.2 a (List.contains_iff_mem.mp ha)
  constructor
  · intro ch hch; subst hch; simp at this
  · intro ch hch; subst hch
    simp only [Bool.not_eq_true', beq_eq_false_iff_ne, ne_eq] at this
    simp [SPc.after, bodiesOf, this]

theorem try1_no_default {st : State} {sd : Sender} {m : Msg} (hF : TryGateFacts) (hsd : st.senderDone = true)
    (hpc : sd.pc = .try1 m) : sDefaultReady st sd = false := by
  refine Bool.eq_false_iff.mpr fun hd => ?_
  have := (sDefaultReady_iff.1 hd).1 (.recv chSenderDone) (by rw [hpc]; exact List.contains_iff_mem.mp hF.1)
  simp [hsd] at this

theorem try1_no_offer {sd : Sender} {m : Msg} (hF : TryGateFacts) (hpc : sd.pc = .try1 m) : offers sd = false :=
  Bool.eq_false_iff.mpr fun ho => (try1_arm (m := m) hF (by rwa [offers, hpc] at ho)).1 chData rfl

theorem settledT_no_delivery {st : State} {l : Label} (hF : TryGateFacts) (h : SettledT st)
    (hl : deliversValue l = true) : step st l = none := by
  obtain ⟨_, hbuf, hq⟩ := h
  cases hst : step st l with
  | none => rfl
  | some st' =>
    exfalso
    cases Step.of_step hst with
    | handoff hsd hm hc => simp [canHandoff, try1_no_offer hF (onlyTry1_pc hq hsd hm)] at hc
    | pop _ hb => rw [hbuf] at hb; cases hb
    | sender _ h => cases h <;> cases hl
    | recv h => cases h <;> first | cases hl | simp [deliversValue, chData, chCtx, chSenderDone] at hl
    | _ => cases hl

theorem settledT_step {st st' : State} {l : Label} (hF : TryGateFacts) (h : SettledT st)
    (hl : startsRealSend l = false) (hs : step st l = some st') :
    SettledT st' ∧ st'.senderErr = st.senderErr := by
  obtain ⟨hsd, hbuf, hq⟩ := h
  have hs := Step.of_step hs
  refine ⟨?_, ((step_monotone hs).2.1 hsd).2.2⟩
  cases hs with
  | @sender i sd _ _ hsdi hmv =>
    refine ⟨hsd, hbuf, ListStore.forall_mem_set i hq ?_⟩
    cases hmv with
    | startSend _ _ _ => cases hl
    | startTry _ _ _ => exact .inr ⟨_, rfl⟩
    | cancel _ => exact hq sd (List.mem_of_getElem? hsdi)
    | recvArm hm htab _ =>
      have hpc := onlyTry1_pc hq hsdi hm
      rw [hpc] at htab
      exact .inl (by rw [hpc]; exact (try1_arm hF htab).2 _ rfl)
    | dflt hm _ hd => rw [try1_no_default hF hsd (onlyTry1_pc hq hsdi hm)] at hd; cases hd
    | @park m hpc _ => cases hpc.symm.trans (onlyTry1_pc hq hsdi (m := m) (by rw [hpc]; rfl))
  | recv _ => exact ⟨hsd, hbuf, hq⟩
  | closeSender _ hopen => rw [hsd] at hopen; cases hopen
  | closeRecv _ _ => exact ⟨hsd, hbuf, hq⟩
  | commit hsdi hm htab _ =>
    rw [onlyTry1_pc hq hsdi hm] at htab
    exact absurd rfl ((try1_arm hF htab).1 chData)
  | handoff hsdi hm hc => simp [canHandoff, try1_no_offer hF (onlyTry1_pc hq hsdi hm)] at hc
  | pop _ hb => rw [hbuf] at hb; cases hb

theorem settledT_run {st st' : State} {ls : List Label} (hF : TryGateFacts) (h : SettledT st)
    (hl : ∀ l ∈ ls, startsRealSend l = false) (hr : run st ls = some st') :
    SettledT st' ∧ st'.senderErr = st.senderErr :=
  isRun.inv (P := fun s => SettledT s ∧ s.senderErr = st.senderErr)
    (fun hp hl hs => let ⟨h1, he1⟩ := settledT_step hF hp.1 hl hs; ⟨h1, he1.trans hp.2⟩) hr hl ⟨h, rfl⟩

/-- Of the tables, only the bodies of `Next` matter for what `Next` returns from such a state on. -/
theorem settledT_results {ls : List Label} (hF : TryGateFacts) (hN : NextBodies) : ∀ {st st' : State}, SettledT st →
    (∀ l ∈ ls, startsRealSend l = false) → run st ls = some st' →
    ∀ r, (Who.recv, r) ∈ runCompletions st ls → r = .ctx ∨ r = endRes st := by
  induction ls with
  | nil => intro st st' _ _ _ r hr; simp [runCompletions] at hr
  | cons l ls ih =>
    intro st st' h hl hrun r hr
    obtain ⟨s1, hs1, hrun⟩ := isRun.cons_eq_some.1 hrun
    simp only [runCompletions, hs1, List.mem_append] at hr
    rcases hr with hr | hr
    · rcases step_delivery_results hN (.of_step hs1) with ⟨m, _, hdel, _⟩ | ⟨_, hres⟩
      · rw [settledT_no_delivery hF h hdel] at hs1; cases hs1
      · exact (hres r hr).imp_right And.left
    · obtain ⟨h1, he1⟩ := settledT_step hF h (hl l (by simp)) hs1
      have := ih h1 (fun x hx => hl x (by simp [hx])) hrun r hr
      simpa [endRes, he1] using this

theorem settledT_run_results {ls : List Label} (hF : TryGateFacts) (hB : Bodies) : ∀ {st st' : State}, SettledT st →
    (∀ l ∈ ls, startsRealSend l = false) → run st ls = some st' →
    ∀ r, (Who.recv, r) ∈ runCompletions st ls → r = .ctx ∨ r = endRes st :=
  settledT_results hF hB.next

theorem sticky_after_report {st s1 s2 : State} {l : Label} {ls : List Label} (hF : TryGateFacts) (hN : NextBodies)
    (hD : DrainFacts) (hI : Inv st) (hq : Quiet st) (hs : step st l = some s1) (hrep : reportsEnd st l = true)
    (hls : ∀ x ∈ ls, startsRealSend x = false) (hrun : run s1 ls = some s2) :
    completions st l = [(.recv, endRes st)] ∧
    ((∀ l', deliversValue l' = true → step s2 l' = none) ∧ s2.buf = [] ∧
      s2.senderDone = true ∧ s2.senderErr = s1.senderErr) ∧
    ∀ r, (Who.recv, r) ∈ runCompletions s1 ls → r = .ctx ∨ r = endRes st := by
  have h1 := settledT_of_quiet_report hD hI hq (.of_step hs) hrep
  obtain ⟨h2, herr⟩ := settledT_run hF h1 hls hrun
  obtain ⟨rfl, _, _, rfl⟩ := report_only_when_drained hD (.of_step hs) hrep
  exact ⟨report_result hN (.of_step hs), ⟨fun l' hl' => settledT_no_delivery hF h2 hl', h2.2.1, h2.1, herr⟩,
    settledT_results hF hN h1 hls hrun⟩

end Juniper.Proofs.Pipe
