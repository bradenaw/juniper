import Juniper.Proofs.ParMapStreamInv
/-! Deadlock freedom of the MapStream LTS: the case analysis showing that a consumer inside `Next` or `Close` never faces a state in which nothing can move
and nothing is owed by the environment. -/

namespace Juniper.Proofs.ParMap.S
open Juniper.Gen Juniper.Facts Juniper.Model.ParMap Juniper.Model.ParMap.Stream Juniper.Proofs.ParMap

def En (cfg : Cfg) (s : St) (l : Label) : Prop := (Stream.step cfg s l).isSome = true

section
variable {cfg : Cfg} (hs : cfg.code.Sound) {s : St}
set_option linter.unusedSectionVars false
include hs

theorem Step.en {l : Label} {s' : St} (h : Step cfg s l s') : En cfg s l := by rw [En, h.to_step hs]; rfl

theorem en_cCtx (h : s.cons = .next false) (hy : canYield cfg s = false) : En cfg s .cCtx :=
  (Step.cCtx h hy).en hs
theorem en_cWaitDone (h : s.cons = .nextWait) (he : s.egLive = 0) : En cfg s .cWaitDone := by
  cases he' : s.egErr with
  | none => exact (Step.cWaitEnd h he he').en hs
  | some e => exact (Step.cWaitErr e h he he').en hs
theorem en_cYield {live} (h : s.cons = .next live) (hy : canYield cfg s = true) : En cfg s .cYield := by
  obtain ⟨⟨k, v⟩, hf⟩ := find_of_ready hs.nextReady hy
  exact (Step.cYield live k v h hy hf).en hs
end

def wActive : WPc → Bool
  | .inF _ => true
  | .sendC _ _ => true
  | .exiting _ => true
  | .egRet _ => true
  | _ => false
def wIdle : WPc → Bool
  | .idle => true
  | _ => false

def consBusy : CPc → Bool
  | .next _ => true
  | .releasing _ _ => true
  | .nextWait => true
  | .closeWait => true
  | _ => false

/-- some internal step is enabled, or a call of `f` / of the source is in progress -/
def Progress (cfg : Cfg) (s : St) : Prop :=
  (∃ l, l.isEnv = false ∧ En cfg s l) ∨ 0 < fRunning s ∨ srcBusy s = true

theorem fRunning_pos_of {s : St} {w k : Nat} (hw : s.ws[w]? = some (WPc.inF k)) : 0 < fRunning s :=
  ListStore.countP_pos hw rfl

theorem progress_of_active {cfg : Cfg} (hs : cfg.code.Sound) {s : St} {w : Nat} {pc : WPc}
    (hw : s.ws[w]? = some pc) (hact : wActive pc = true)
    (hsend : (s.c.length < cCap cfg ∧ s.cClosed = false) ∨ s.ctxCause ≠ none) : Progress cfg s := by
  cases pc with
  | inF k => exact Or.inr (Or.inl (fRunning_pos_of hw))
  | sendC k v =>
    rcases hsend with ⟨h1, h2⟩ | h
    · exact Or.inl ⟨.wSendC w, rfl, (Step.wSendC _ _ _ hw h1 h2).en hs⟩
    · exact Or.inl ⟨.wSendCtx w, rfl, (Step.wSendCtx _ _ _ hw h).en hs⟩
  | exiting r => exact Or.inl ⟨.wDefer w, rfl, (Step.wDefer _ _ hw).en hs⟩
  | egRet r => exact Or.inl ⟨.wEgDone w, rfl, (Step.wEgDone _ _ hw).en hs⟩
  | idle => simp [wActive] at hact
  | done => simp [wActive] at hact

theorem caps {cfg : Cfg} (hs : cfg.code.Sound) (hg : 1 ≤ cfg.gmp) :
    1 ≤ numTokens cfg ∧ readyCap cfg = numTokens cfg ∧ cCap cfg = numTokens cfg := by
  have hp := par_pos hs hg
  have hb := buf_eq hs
  rw [numTokens_eq hs, readyCap_eq hs, cCap_eq hs]
  omega

theorem disp_progress {cfg : Cfg} (hs : cfg.code.Sound) {s : St}
    (hd : s.disp ≠ .done)
    (hwait : ∀ v, s.disp = .waitReady v → 0 < s.ready ∨ s.ctxCause ≠ none)
    (hsend : ∀ v, s.disp = .sendIn v → (∃ w : Nat, s.ws[w]? = some WPc.idle ∧ s.inClosed = false) ∨ s.ctxCause ≠ none) :
    Progress cfg s := by
  cases hdp : s.disp with
  | pull => exact Or.inl ⟨.dPull, rfl, (Step.dPull hdp).en hs⟩
  | inNext => exact Or.inr (Or.inr (by simp [srcBusy, hdp]))
  | waitReady v =>
    rcases hwait v hdp with h | h
    · exact Or.inl ⟨.dTakeToken, rfl, (Step.dTakeToken _ hdp h).en hs⟩
    · exact Or.inl ⟨.dWaitCtx, rfl, (Step.dWaitCtx _ hdp h).en hs⟩
  | sendIn v =>
    rcases hsend v hdp with ⟨w, hw, hc⟩ | h
    · exact Or.inl ⟨.dSend w, rfl, (Step.dSend _ _ hdp hw hc).en hs⟩
    · exact Or.inl ⟨.dSendCtx, rfl, (Step.dSendCtx _ hdp h).en hs⟩
  | exiting r => exact Or.inl ⟨.dCloseIn, rfl, (Step.dCloseIn _ hdp).en hs⟩
  | srcClosing r => exact Or.inr (Or.inr (by simp [srcBusy, hdp]))
  | egRet r => exact Or.inl ⟨.dEgDone, rfl, (Step.dEgDone _ hdp).en hs⟩
  | done => exact absurd hdp hd

theorem idle_or_all_done {ws : List WPc} (h : cnt wActive ws = 0) :
    (∃ w : Nat, ws[w]? = some WPc.idle) ∨ cnt wDone ws = ws.length := by
  by_cases hi : 0 < cnt wIdle ws
  · obtain ⟨w, x, hw, hx⟩ := exists_index_of_cnt_pos hi
    cases x <;> simp [wIdle] at hx
    exact Or.inl ⟨w, hw⟩
  · right
    apply cnt_eq_length
    intro x hx
    have h1 := cnt_eq_zero h x hx
    have h2 := cnt_eq_zero (by omega : cnt wIdle ws = 0) x hx
    cases x <;> simp_all [wIdle, wDone, wActive]

theorem wDone_le_wPastDefer (ws : List WPc) : cnt wDone ws ≤ cnt wPastDefer ws := by
  apply cnt_mono; intro x hx; cases x <;> simp_all [wDone, wPastDefer]
theorem wHolds_le_wActive (k : Nat) (ws : List WPc) : cnt (wHolds k) ws ≤ cnt wActive ws := by
  apply cnt_mono; intro x hx; cases x <;> simp_all [wHolds, wActive]
theorem wNotDone_le (ws : List WPc) : cnt wNotDone ws ≤ cnt wActive ws + cnt wIdle ws := by
  induction ws with
  | nil => simp
  | cons x xs ih => cases x <;> simp [wNotDone, wActive, wIdle] <;> omega

theorem send_ready {cfg : Cfg} {s : St} (hnw : 1 ≤ numWorkers cfg) (hCount : CountInv cfg s) (hExit : ExitInv cfg s)
    (hact0 : cnt wActive s.ws = 0) {v : Nat} (hdv : s.disp = .sendIn v) :
    (∃ w : Nat, s.ws[w]? = some WPc.idle ∧ s.inClosed = false) ∨ s.ctxCause ≠ none := by
  have hin : s.inClosed = false := by
    cases hi : s.inClosed with
    | false => rfl
    | true => have := hCount.inClosed_eq; simp [hdv, dClosedIn, hi] at this
  rcases idle_or_all_done hact0 with ⟨w, hw⟩ | hall
  · exact Or.inl ⟨w, hw, hin⟩
  · right
    have h3 := hCount.len
    rcases hExit.done_why (by omega) with hi | hcx
    · simp [hin] at hi
    · exact hcx

/-- the heart of deadlock freedom: a consumer waiting in `Next` on an empty, open result channel -/
theorem progress_waiting {cfg : Cfg} (hs : cfg.code.Sound) (hg : 1 ≤ cfg.gmp) {s : St} (h : Reach cfg s)
    {live : Bool} (hcons : s.cons = .next live) (hy : canYield cfg s = false) (hc : s.c = [])
    (hcl : s.cClosed = false) : Progress cfg s := by
  have hCount := (inv hs hg h).count
  have hShut := (inv hs hg h).shutdown
  have hExit := (inv hs hg h).exits
  have hPlaced := (inv hs hg h).placed
  have ⟨hnwc, hnw⟩ := numWorkers_cast hs hg
  have ⟨htok, hrc, hcc⟩ := caps hs hg
  by_cases hact : 0 < cnt wActive s.ws
  · obtain ⟨w, pc, hw, hpc⟩ := exists_index_of_cnt_pos hact
    exact progress_of_active hs hw hpc (Or.inl ⟨by simp [hc]; omega, hcl⟩)
  have hact0 : cnt wActive s.ws = 0 := by omega
  by_cases hd : s.disp = .done
  · have hin : s.inClosed = true := by rw [hCount.inClosed_eq, hd]; rfl
    rcases idle_or_all_done hact0 with ⟨w, hw⟩ | hall
    · exact Or.inl ⟨.wExitIdle w, rfl, (Step.wExitIdle _ hw hin).en hs⟩
    · exfalso
      have h1 := wDone_le_wPastDefer s.ws
      have h2 := cnt_le_length wPastDefer s.ws
      have h3 := hCount.len
      have : s.nDone = numWorkers cfg := by rw [hShut.lastCloses.counted]; omega
      have := hShut.lastCloses.closed_iff.2 this
      simp [hcl] at this
  · apply disp_progress hs hd
    · intro v hdv
      by_cases hr : 0 < s.ready
      · exact Or.inl hr
      right
      intro hctx
      -- nothing was dropped, no token was lost
      have hdr : s.dropped = [] := by
        cases hdd : s.dropped with
        | nil => rfl
        | cons a l =>
          rcases (inv hs hg h).traced.trace (.inr (by simp [hdd])) with h | h | h
          · exact absurd hctx (hExit.egErr_cancels h)
          · rw [hdv] at h; cases h
          · have := cnt_mono (p := wHeldSome) (q := wActive) (fun x hx => by cases x <;> first | rfl | cases hx) s.ws
            omega
      have hlost : s.lost = 0 := by have := hCount.lost_le; simp [hdv, dExited] at this; exact this
      have hT := hCount.tokens
      have hY := hCount.yielded
      simp [hdv, dSendIn, hcons, cReleasing, hlost] at hT hY
      have hlt : s.i < s.dispI := by omega
      have := canYield_of_gap hs hPlaced (fun k => by have := wHolds_le_wActive k s.ws; omega) hc hdr hlt
      simp [hy] at this
    · exact fun v hdv => send_ready hnw hCount hExit hact0 hdv

/-- goroutines still to finish while somebody waits in `eg.Wait()` with the context done or `c` closed -/
theorem progress_shutdown {cfg : Cfg} (hs : cfg.code.Sound) (hg : 1 ≤ cfg.gmp) {s : St} (h : Reach cfg s)
    (hlive : 0 < s.egLive) (hcase : s.ctxCause ≠ none ∨ s.cClosed = true) : Progress cfg s := by
  have hCount := (inv hs hg h).count
  have hShut := (inv hs hg h).shutdown
  have hExit := (inv hs hg h).exits
  have ⟨hnwc, hnw⟩ := numWorkers_cast hs hg
  -- an active worker can always move here: with the context done it may drop its result, and with `c`
  -- closed every worker is already past its deferred function
  have hlen := hCount.len
  have hpast : s.cClosed = true → cnt wPastDefer s.ws = s.ws.length := fun hcl => by
    have hnd := hShut.lastCloses.closed_iff.1 hcl
    have h1 := hShut.lastCloses.counted
    omega
  by_cases hact : 0 < cnt wActive s.ws
  · obtain ⟨w, pc, hw, hpc⟩ := exists_index_of_cnt_pos hact
    rcases hcase with hctx | hcl
    · exact progress_of_active hs hw hpc (Or.inr hctx)
    · -- all workers are past the deferred function: `pc` is `egRet`
      have hall := hpast hcl
      have hx : wPastDefer pc = true := by
        by_cases hx : wPastDefer pc = true
        · exact hx
        · have := cnt_add_one_le (p := wPastDefer) hw (by simpa using hx); omega
      cases pc <;> simp [wPastDefer, wActive] at hx hpc
      exact Or.inl ⟨.wEgDone w, rfl, (Step.wEgDone _ _ hw).en hs⟩
  have hact0 : cnt wActive s.ws = 0 := by omega
  by_cases hd : s.disp = .done
  · -- the dispatcher is done, so `in` is closed and idle workers leave
    have hin : s.inClosed = true := by rw [hCount.inClosed_eq, hd]; rfl
    rcases idle_or_all_done hact0 with ⟨w, hw⟩ | hall
    · exact Or.inl ⟨.wExitIdle w, rfl, (Step.wExitIdle _ hw hin).en hs⟩
    · exfalso
      have hEL := hShut.egLive_eq
      have : cnt wNotDone s.ws = 0 := by
        have h1 := cnt_add_cnt_not wDone s.ws
        have h2 : cnt (fun x => !wDone x) s.ws = cnt wNotDone s.ws := by
          unfold cnt; congr 1; funext x; cases x <;> simp [wDone, wNotDone]
        omega
      simp [hd, dNotDone, this] at hEL
      omega
  · apply disp_progress hs hd
    · intro v hdv
      by_cases hr : 0 < s.ready
      · exact Or.inl hr
      right
      rcases hcase with hctx | hcl
      · exact hctx
      · -- `c` closed: every worker is done (none is active), hence the context is done
        have hall := hpast hcl
        rcases idle_or_all_done hact0 with ⟨w, hw⟩ | hall
        · have := cnt_add_one_le (p := wPastDefer) hw (by simp [wPastDefer]); omega
        · rcases hExit.done_why (by omega) with hi | hcx
          · have := hCount.inClosed_eq; simp [hdv, dClosedIn, hi] at this
          · exact hcx
    · exact fun v hdv => send_ready hnw hCount hExit hact0 hdv

theorem progress {cfg : Cfg} (hs : cfg.code.Sound) (hg : 1 ≤ cfg.gmp) {s : St} (h : Reach cfg s)
    (hb : consBusy s.cons = true) : Progress cfg s := by
  have hCount := (inv hs hg h).count
  have hShut := (inv hs hg h).shutdown
  have hPlaced := (inv hs hg h).placed
  have hCompl := (inv hs hg h).compl
  have ⟨htok, hrc, hcc⟩ := caps hs hg
  cases hcons : s.cons with
  | idle => simp [hcons, consBusy] at hb
  | closed => simp [hcons, consBusy] at hb
  | next live =>
    by_cases hy : canYield cfg s = true
    · exact Or.inl ⟨.cYield, rfl, en_cYield hs hcons hy⟩
    have hy' : canYield cfg s = false := by simpa using hy
    cases hc : s.c with
    | cons kv rest => exact Or.inl ⟨.cRecv, rfl, (Step.cRecv _ _ _ hcons hc hy').en hs⟩
    | nil =>
      cases hcl : s.cClosed with
      | true => exact Or.inl ⟨.cRecvClosed, rfl, (Step.cRecvClosed _ hcons hc hy' hcl).en hs⟩
      | false => exact progress_waiting hs hg h hcons hy' hc hcl
  | releasing k v =>
    refine Or.inl ⟨.cRelease, rfl, (Step.cRelease _ _ hcons ?_).en hs⟩
    have hT := hCount.tokens
    have hY := hCount.yielded
    simp [hcons, cReleasing] at hY
    have := hPlaced.i_le
    omega
  | nextWait =>
    by_cases he : s.egLive = 0
    · exact Or.inl ⟨.cWaitDone, rfl, en_cWaitDone hs hcons he⟩
    · exact progress_shutdown hs hg h (by omega) (Or.inr (hCompl.nextWait (by simp [hcons, cNextWait])).1)
  | closeWait =>
    by_cases he : s.egLive = 0
    · exact Or.inl ⟨.cCloseDone, rfl, (Step.cCloseDone hcons he).en hs⟩
    · have hcc := hShut.closeCalled
      have : s.closeCalled = true := hcc.1.2 (by simp [hcons, cClosing])
      exact progress_shutdown hs hg h (by omega) (Or.inl (hcc.2 this))

theorem served {cfg : Cfg} (hs : cfg.code.Sound) (hg : 1 ≤ cfg.gmp) {s : St} (h : Reach cfg s)
    (hb : consBusy s.cons = true) :
    (∃ l s', l.isEnv = false ∧ Stream.step cfg s l = some s') ∨ (0 < fRunning s ∨ srcBusy s = true) :=
  (progress hs hg h hb).imp_left fun ⟨l, hl, hen⟩ => let ⟨s', hs'⟩ := Option.isSome_iff_exists.1 hen; ⟨l, s', hl, hs'⟩

end Juniper.Proofs.ParMap.S
