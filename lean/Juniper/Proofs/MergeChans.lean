import Juniper.Model.Merge
import Juniper.Proofs.LTS
import Juniper.Proofs.ListStore
/-! The LTS of `chans.Merge`: the generated tables in the form the proofs use (`Good`), its steps with the tables
resolved (`MStep`, which `step` agrees with under `Pre`), the inductive invariant, and termination once every input
is closed and delivered. -/
set_option linter.unusedSectionVars false
namespace Juniper.Proofs.MergeChans
open Juniper.Model.Merge Juniper.Facts

variable {V : Type} [HasNil V]

def usesN (n : Nat) : Bool := pathOf n == .m2 || pathOf n == .m3

/-- What the proofs need to know about the generated facts for arity `n`. -/
structure Good (V : Type) [HasNil V] (n : Nat) : Prop where
  arm : ∀ i, i < n → ∃ a, armInfo (pathOf n) n i = some a ∧ a.forwards = true ∧ a.nils = true ∧
      a.incs = usesN n ∧
      ∀ d l : Nat, (usesN n = true → d + l = n) → l < n →
        (retAfterClose (pathOf n) a d = true ↔ (l = 0 ∧ pathOf n ≠ .reflect))
  top : ∀ l : Nat, retAtTop (pathOf n) l = true ↔ (l = 0 ∧ pathOf n = .reflect)
  nopanic : ∀ v : V, panicsOn (pathOf n) v = false
  live0 : (List.range n).filter (fun i => (armInfo (pathOf n) n i).isSome) = List.range n

theorem pathOf_eq (n : Nat) :
    pathOf n = (if n = 1 then .range else if n = 2 then .m2 else if n = 3 then .m3 else .reflect) := by
  unfold pathOf Juniper.Gen.Merge.dispatch1 Juniper.Gen.Merge.dispatch2 Juniper.Gen.Merge.dispatch3
  have e1 : ((n:Int) = 1) ↔ n = 1 := by omega
  have e2 : ((n:Int) = 2) ↔ n = 2 := by omega
  have e3 : ((n:Int) = 3) ↔ n = 3 := by omega
  simp only [e1, e2, e3, decide_eq_true_eq]

theorem good_1 : Good V 1 := by
  refine ⟨?_, ?_, ?_, by decide +kernel⟩
  · intro i hi
    have : i = 0 := by omega
    subst this
    refine ⟨⟨true, true, false, -1⟩, by decide +kernel, rfl, rfl, by decide +kernel, ?_⟩
    intro d l _ hl
    have : l = 0 := by omega
    subst this
    simp [pathOf_eq, retAfterClose, Juniper.Gen.Merge.rangeReturns]
  · intro l; simp [pathOf_eq, retAtTop]
  · intro v; simp [pathOf_eq, panicsOn]

/-- `merge2` / `merge3`: every arm forwards, disables itself and counts on close, and returns when the count
reaches the arity. -/
theorem good_23 {n : Nat} (hn : n = 2 ∨ n = 3) : Good V n := by
  have harm : ∀ i, i < n → armInfo (pathOf n) n i = some ⟨true, true, true, n⟩ := by
    rcases hn with rfl | rfl <;> decide +kernel
  have hu : usesN n = true := by rcases hn with rfl | rfl <;> decide +kernel
  have hp : pathOf n = .m2 ∨ pathOf n = .m3 := by rcases hn with rfl | rfl <;> simp [pathOf_eq]
  refine ⟨fun i hi => ⟨_, harm i hi, rfl, rfl, hu.symm, fun d l h hl => ?_⟩, fun l => ?_, fun v => ?_, ?_⟩
  · have := h hu
    rcases hp with hp | hp <;> simp [hp, retAfterClose] <;> omega
  · rcases hp with hp | hp <;> simp [hp, retAtTop]
  · rcases hp with hp | hp <;> simp [hp, panicsOn]
  · rcases hn with rfl | rfl <;> decide +kernel

theorem pathOf_reflect {n : Nat} (h : n = 0 ∨ 4 ≤ n) : pathOf n = .reflect := by
  rw [pathOf_eq]
  have h1 : n ≠ 1 := by omega
  have h2 : n ≠ 2 := by omega
  have h3 : n ≠ 3 := by omega
  simp [h1, h2, h3]

theorem armInfo_reflect (n i : Nat) (hi : i < n) :
    armInfo .reflect n i = some ⟨true, true, false, -1⟩ := by
  have h1 : (Juniper.Gen.Merge.reflectCasesOver == "in") = true := beq_iff_eq.mpr rfl
  simp [armInfo, hi, h1, Juniper.Gen.Merge.reflectSelects, Juniper.Gen.Merge.reflectSendsOut,
    Juniper.Gen.Merge.reflectRemoves]

theorem good_reflect {n : Nat} (h : n = 0 ∨ 4 ≤ n) : Good V n := by
  have hp := pathOf_reflect h
  refine ⟨?_, ?_, ?_, ?_⟩
  · intro i hi
    refine ⟨_, by rw [hp]; exact armInfo_reflect n i hi, rfl, rfl, ?_, ?_⟩
    · simp [usesN, hp]
    · intro d l _ _
      simp [hp, retAfterClose]
  · intro l
    simp [hp, retAtTop, Juniper.Gen.Merge.reflectRet, Juniper.Gen.Merge.reflectRetReturns]
  · intro v
    have : (Juniper.Gen.Merge.reflectAssert != "commaok") = false := by decide +kernel
    simp [hp, panicsOn, this]
  · simp only [hp]
    apply List.filter_eq_self.mpr
    intro i hi
    rw [armInfo_reflect n i (List.mem_range.mp hi)]
    rfl

theorem good (n : Nat) : Good V n := by
  by_cases h1 : n = 1
  · subst h1; exact good_1
  by_cases h2 : n = 2 ∨ n = 3
  · exact good_23 h2
  exact good_reflect (by omega)

theorem Good.not_top {n : Nat} (g : Good V n) {live : List Nat} {i : Nat} (h : i ∈ live) :
    retAtTop (pathOf n) live.length = false := by
  cases hh : retAtTop (pathOf n) live.length
  · rfl
  · have := ((g.top _).mp hh).1
    have := List.length_pos_of_mem h
    omega

theorem init_live (n : Nat) : (init V n).live = List.range n := (good (V := V) n).live0

/-- Facts of the dispatch that the model does not interpret (argument order of the `merge2`/`merge3`
calls, the `ok` test of the reflect path): a change makes this obligation fail. -/
theorem dispatch_facts :
    Juniper.Gen.Merge.dispatch2Body = ["merge2(out, in[0], in[1])", "return"] ∧
    Juniper.Gen.Merge.dispatch3Body = ["merge3(out, in[0], in[1], in[2])", "return"] ∧
    Juniper.Gen.Merge.reflectOkCond = "ok" ∧
    Juniper.Gen.Merge.merge2Params = ["out", "in0", "in1"] ∧
    Juniper.Gen.Merge.merge3Params = ["out", "in0", "in1", "in2"] ∧
    sameArms Juniper.Gen.Merge.merge2Arms [.recv "in0", .recv "in1"] = true ∧
    sameArms Juniper.Gen.Merge.merge3Arms [.recv "in0", .recv "in1", .recv "in2"] = true :=
  ⟨rfl, rfl, rfl, rfl, rfl, by decide +kernel, by decide +kernel⟩

/-- The steps of `chans.Merge` with the arm tables resolved. On seeing input `i` closed it stops listening to `i`,
counts it on the `merge2`/`merge3` paths, and returns iff nothing is listened to any more; the reflect path returns
at the loop top instead (`exit`). -/
inductive MStep (s : St V) : Label V → St V → Prop
  | envSend (i : Nat) (v : V) (c : Chan V) : s.ins[i]? = some c → c.closed = false →
      MStep s (.envSend i v) { s with ins := s.ins.set i { c with avail := c.avail ++ [v], sent := c.sent ++ [v] } }
  | envClose (i : Nat) (c : Chan V) : s.ins[i]? = some c → c.closed = false →
      MStep s (.envClose i) { s with ins := s.ins.set i { c with closed := true } }
  | recvVal (i : Nat) (c : Chan V) (v : V) (rest : List V) : s.pc = .top → i ∈ s.live → s.ins[i]? = some c →
      c.avail = v :: rest →
      MStep s (.recv i) { s with ins := s.ins.set i { c with avail := rest }, pc := .hold i v }
  | recvClosed (i : Nat) (c : Chan V) : s.pc = .top → i ∈ s.live → s.ins[i]? = some c → c.avail = [] →
      c.closed = true →
      MStep s (.recv i) { s with live := s.live.erase i, nDone := if usesN s.n then s.nDone + 1 else s.nDone,
                                 pc := if s.live.erase i = [] ∧ pathOf s.n ≠ .reflect then .done else .top }
  | deliver (i : Nat) (v : V) : s.pc = .hold i v → MStep s .deliver { s with out := s.out ++ [(i, v)], pc := .top }
  | exit : s.pc = .top → s.live = [] → pathOf s.n = .reflect → MStep s .exit { s with pc := .done }

/-- The part of the invariant under which `step` and `MStep` agree. -/
structure Pre (s : St V) : Prop where
  liveLt : ∀ i, i ∈ s.live → i < s.n
  count : usesN s.n = true → s.nDone + s.live.length = s.n
  lenLe : s.live.length ≤ s.n

theorem MStep.step_eq {s s' : St V} {l : Label V} (hs : Pre s) (m : MStep s l s') : step s l = some s' := by
  have g : Good V s.n := good s.n
  cases m with
  | envSend i v c hc hcl => simp [step, hc, hcl]
  | envClose i c hc hcl => simp [step, hc, hcl]
  | deliver i v hp => simp [step, hp]
  | exit hp hl hr =>
    have : retAtTop (pathOf s.n) s.live.length = true := (g.top _).mpr ⟨by rw [hl]; rfl, hr⟩
    simp [step, hp, this]
  | recvVal i c v rest hp hil hc hav =>
    obtain ⟨a, harm, hf, _, _, _⟩ := g.arm i (hs.liveLt i hil)
    simp [step, hp, hil, g.not_top hil, harm, hc, hav, hf, g.nopanic v]
  | recvClosed i c hp hil hc hav hcl =>
    obtain ⟨a, harm, _, hz, hincs, hret⟩ := g.arm i (hs.liveLt i hil)
    have hlen : (s.live.erase i).length = s.live.length - 1 := List.length_erase_of_mem hil
    have hpos : 0 < s.live.length := List.length_pos_of_mem hil
    have hle := hs.lenLe
    have hr := hret (if usesN s.n = true then s.nDone + 1 else s.nDone) (s.live.erase i).length
      (fun hu => by have := hs.count hu; rw [hu]; simp; omega) (by omega)
    rw [List.length_eq_zero_iff] at hr
    simp [step, hp, hil, g.not_top hil, harm, hc, hav, hcl, hz, hincs, hr]

theorem mstep_of_step {s s' : St V} {l : Label V} (hs : Pre s) (h : step s l = some s') : MStep s l s' := by
  have g : Good V s.n := good s.n
  have key : ∀ {x : St V}, MStep s l x → MStep s l s' := fun m => by
    rw [m.step_eq hs] at h; cases h; exact m
  cases l with
  | envSend i v =>
    rcases hc : s.ins[i]? with _ | c
    · simp [step, hc] at h
    cases hcl : c.closed
    · exact key (.envSend i v c hc hcl)
    · simp [step, hc, hcl] at h
  | envClose i =>
    rcases hc : s.ins[i]? with _ | c
    · simp [step, hc] at h
    cases hcl : c.closed
    · exact key (.envClose i c hc hcl)
    · simp [step, hc, hcl] at h
  | deliver =>
    cases hp : s.pc with
    | hold i v => exact key (.deliver i v hp)
    | _ => simp [step, hp] at h
  | exit =>
    cases hp : s.pc with
    | top =>
      cases hr : retAtTop (pathOf s.n) s.live.length
      · simp [step, hp, hr] at h
      · have := (g.top _).mp hr
        exact key (.exit hp (List.length_eq_zero_iff.mp this.1) this.2)
    | _ => simp [step, hp] at h
  | recv i =>
    cases hp : s.pc with
    | top =>
      by_cases hil : i ∈ s.live
      · obtain ⟨a, harm, _⟩ := g.arm i (hs.liveLt i hil)
        have hrt := g.not_top hil
        rcases hc : s.ins[i]? with _ | c
        · simp [step, hp, hil, hrt, harm, hc] at h
        rcases hav : c.avail with _ | ⟨v, rest⟩
        · cases hcl : c.closed
          · simp [step, hp, hil, hrt, harm, hc, hav, hcl] at h
          · exact key (.recvClosed i c hp hil hc hav hcl)
        · exact key (.recvVal i c v rest hp hil hc hav)
      · simp [step, hp, hil] at h
    | _ => simp [step, hp] at h

structure Inv (n : Nat) (s : St V) : Prop where
  hn : s.n = n
  len : s.ins.length = n
  conserve : ∀ i c, s.ins[i]? = some c → proj i s.out ++ held i s.pc ++ c.avail = c.sent
  nodup : s.live.Nodup
  liveLt : ∀ i, i ∈ s.live → i < n
  dead : ∀ i, i < n → i ∉ s.live → ∃ c, s.ins[i]? = some c ∧ c.closed = true ∧ c.avail = []
  count : usesN n = true → s.nDone + s.live.length = n
  lenLe : s.live.length ≤ n
  doneLive : s.pc = .done → s.live = []
  emptyLive : s.pc ≠ .done → s.live = [] → pathOf n = .reflect
  noPanic : s.pc ≠ .panicked
  holdLt : ∀ i v, s.pc = .hold i v → i < n
  tags : ∀ p, p ∈ s.out → p.1 < n

theorem Inv.pre {n : Nat} {s : St V} (hi : Inv n s) : Pre s := by
  have hn := hi.hn
  subst hn
  exact ⟨hi.liveLt, hi.count, hi.lenLe⟩

theorem proj_append_same (i : Nat) (out : List (Nat × V)) (v : V) :
    proj i (out ++ [(i, v)]) = proj i out ++ [v] := by
  simp [proj, List.filter_append]

theorem proj_append_ne {i j : Nat} (h : j ≠ i) (out : List (Nat × V)) (v : V) :
    proj i (out ++ [(j, v)]) = proj i out := by
  simp [proj, List.filter_append, h]

theorem inv_init (n : Nat) : Inv n (init V n) := by
  have hl := init_live (V := V) n
  refine ⟨rfl, by simp [init], ?_, ?_, ?_, ?_, ?_, by rw [hl]; simp, ?_, ?_, ?_, ?_, ?_⟩
  · intro i c hc
    simp [init, List.getElem?_replicate] at hc
    obtain ⟨_, rfl⟩ := hc
    simp [init, proj, held]
  · rw [hl]; exact List.nodup_range
  · intro i hi; rw [hl] at hi; exact List.mem_range.mp hi
  · intro i hi hni; rw [hl] at hni; exact absurd (List.mem_range.mpr hi) hni
  · intro hu
    rw [hl]
    simp [init]
  · intro h; simp [init] at h
  · intro _ h
    rw [hl] at h
    have : n = 0 := by simpa using h
    exact pathOf_reflect (.inl this)
  · simp [init]
  · intro i v h; simp [init] at h
  · intro p hp; simp [init] at hp

theorem inv_setChan {n : Nat} {s : St V} (hi : Inv n s) {i : Nat} {c c' : Chan V} (hc : s.ins[i]? = some c)
    (hcl : c.closed = false)
    (hcons : ∀ X, X ++ c.avail = c.sent → X ++ c'.avail = c'.sent) : Inv n { s with ins := s.ins.set i c' } := by
  refine ⟨hi.hn, by simpa using hi.len, ?_, hi.nodup, hi.liveLt, ?_, hi.count, hi.lenLe, hi.doneLive,
    hi.emptyLive, hi.noPanic, hi.holdLt, hi.tags⟩
  · intro j c'' hc''
    rcases ListStore.getElem?_set_some hc'' with ⟨rfl, rfl⟩ | ⟨_, hc''⟩
    · exact hcons _ (hi.conserve i c hc)
    · exact hi.conserve j c'' hc''
  · intro j hj hnj
    obtain ⟨c'', hc'', h1, h2⟩ := hi.dead j hj hnj
    have hne : i ≠ j := by
      intro e; subst e
      rw [hc] at hc''; cases hc''; rw [hcl] at h1; cases h1
    exact ⟨c'', by simp [hne, hc''], h1, h2⟩

theorem inv_step {n : Nat} {s s' : St V} {l : Label V} (hi : Inv n s)
    (h : step s l = some s') : Inv n s' := by
  have hn := hi.hn
  subst hn
  cases mstep_of_step hi.pre h with
  | envSend i v c hc hcl => exact inv_setChan hi hc hcl fun X hX => by simp [← hX]
  | envClose i c hc hcl => exact inv_setChan hi hc hcl fun X hX => hX
  | deliver i v hp =>
    refine ⟨hi.hn, hi.len, ?_, hi.nodup, hi.liveLt, hi.dead, hi.count, hi.lenLe, by simp, ?_, by simp,
      by simp, ?_⟩
    · intro j c hc
      have := hi.conserve j c hc
      rw [hp] at this
      by_cases hij : i = j
      · subst hij
        simp [proj_append_same, held, ← this]
      · simp [held, hij] at this
        simp [proj_append_ne hij, held, ← this]
    · intro _ hl
      exact hi.emptyLive (by rw [hp]; simp) hl
    · intro p hp'
      simp at hp'
      rcases hp' with hp' | rfl
      · exact hi.tags p hp'
      · exact hi.holdLt i v hp
  | exit hp hl _ =>
    refine ⟨hi.hn, hi.len, ?_, hi.nodup, hi.liveLt, hi.dead, hi.count, hi.lenLe, fun _ => hl, by simp, by simp,
      by simp, hi.tags⟩
    intro j c hc
    have := hi.conserve j c hc
    rw [hp] at this
    simpa [held] using this
  | recvVal i c v rest hp hil hc hav =>
    have hin : i < s.n := hi.liveLt i hil
    refine ⟨hi.hn, by simpa using hi.len, ?_, hi.nodup, hi.liveLt, ?_, hi.count, hi.lenLe, by simp, ?_,
      by simp, ?_, hi.tags⟩
    · intro j c' hc'
      rcases ListStore.getElem?_set_some hc' with ⟨rfl, rfl⟩ | ⟨hij, hc'⟩
      · have := hi.conserve i c hc
        rw [hp, hav] at this
        simp [held, ← this]
      · have := hi.conserve j c' hc'
        rw [hp] at this
        simp [held, hij, ← this]
    · intro j hj hnj
      obtain ⟨c', hc', h1, h2⟩ := hi.dead j hj hnj
      have hne : i ≠ j := by
        intro e; subst e; exact hnj hil
      exact ⟨c', by simp [hne, hc'], h1, h2⟩
    · intro _ hl
      exact hi.emptyLive (by rw [hp]; simp) hl
    · intro j w hjw
      simp at hjw
      rw [← hjw.1]; exact hin
  | recvClosed i c hp hil hc hav hcl =>
    have hlen : (s.live.erase i).length = s.live.length - 1 := List.length_erase_of_mem hil
    have hpos : 0 < s.live.length := List.length_pos_of_mem hil
    have hle := hi.lenLe
    have hmem : ∀ j, j ∈ s.live.erase i ↔ j ≠ i ∧ j ∈ s.live := fun j => hi.nodup.mem_erase_iff
    refine ⟨rfl, hi.len, ?_, hi.nodup.erase i, fun j hj => hi.liveLt j ((hmem j).mp hj).2, ?_, ?_, by simp only; omega,
      ?_, ?_, ?_, ?_, hi.tags⟩
    · intro j c' hc'
      have := hi.conserve j c' hc'
      rw [hp] at this
      simp only
      split <;> simpa [held] using this
    · intro j hj hnj
      by_cases hji : j = i
      · subst hji; exact ⟨c, hc, hcl, hav⟩
      · exact hi.dead j hj (fun hjl => hnj ((hmem j).mpr ⟨hji, hjl⟩))
    · intro hu
      have := hi.count hu
      simp only [hu, if_true]; omega
    · simp only
      split
      · rename_i hh; exact fun _ => hh.1
      · intro hh; cases hh
    · simp only
      split
      · intro hh; exact absurd rfl hh
      · rename_i hnr
        exact fun _ hl => Classical.byContradiction fun hpr => hnr ⟨hl, hpr⟩
    · simp only; split <;> simp
    · simp only; split <;> simp

theorem reach_inv {n : Nat} {s : St V} (h : Reach (init V n) s) : Inv n s := by
  induction h with
  | refl => exact inv_init n
  | step l _ hs ih => exact inv_step ih hs

def AllDone (s : St V) : Prop :=
  ∀ i c, s.ins[i]? = some c → c.closed = true ∧ proj i s.out = c.sent

/-- Termination measure of the internal steps once `AllDone` holds. -/
def mu (s : St V) : Nat := s.live.length + (match s.pc with | .done => 0 | _ => 1)

theorem allDone_top {n : Nat} {s : St V} (hi : Inv n s) (ha : AllDone s) (hnd : s.pc ≠ .done) :
    s.pc = .top ∧ ∀ (i : Nat) (c : Chan V), s.ins[i]? = some c → c.avail = [] := by
  have havail : ∀ (i : Nat) (c : Chan V), s.ins[i]? = some c → held i s.pc = [] ∧ c.avail = [] := by
    intro i c hc
    have h1 := hi.conserve i c hc
    have h2 := (ha i c hc).2
    rw [h2] at h1
    have : held i s.pc ++ c.avail = [] := by
      have := congrArg List.length h1
      simp at this
      apply List.eq_nil_of_length_eq_zero
      simp; omega
    exact List.append_eq_nil_iff.mp this
  refine ⟨?_, fun i c hc => (havail i c hc).2⟩
  cases hp : s.pc with
  | top => rfl
  | done => exact absurd hp hnd
  | panicked => exact absurd hp hi.noPanic
  | hold i v =>
    have hlt := hi.holdLt i v hp
    have : i < s.ins.length := by rw [hi.len]; exact hlt
    have hc : s.ins[i]? = some s.ins[i] := List.getElem?_eq_getElem this
    have := (havail i _ hc).1
    rw [hp] at this
    simp [held] at this

theorem progress {n : Nat} {s : St V} (hi : Inv n s) (ha : AllDone s) (hnd : s.pc ≠ .done) :
    (∃ l, l ∈ internalLabels s ∧ ∃ s', step s l = some s') ∧
    (∀ l, l ∈ internalLabels s → ∀ s', step s l = some s' → AllDone s' ∧ mu s' < mu s) := by
  obtain ⟨hp, hav⟩ := allDone_top hi ha hnd
  constructor
  · cases hl : s.live with
    | nil =>
      have hr : pathOf s.n = .reflect := by rw [hi.hn]; exact hi.emptyLive hnd hl
      exact ⟨.exit, by simp [internalLabels], _, (MStep.exit hp hl hr).step_eq hi.pre⟩
    | cons i rest =>
      have hil : i ∈ s.live := by rw [hl]; simp
      have hin : i < s.n := hi.pre.liveLt i hil
      have hlen : i < s.ins.length := by rw [hi.len, ← hi.hn]; exact hin
      have hc : s.ins[i]? = some s.ins[i] := List.getElem?_eq_getElem hlen
      exact ⟨.recv i, by simp [internalLabels, hin], _,
        (MStep.recvClosed i _ hp hil hc (hav i _ hc) (ha i _ hc).1).step_eq hi.pre⟩
  · intro l _ s' hs
    cases mstep_of_step hi.pre hs with
    | envSend i v c hc hcl => have := (ha i c hc).1; rw [hcl] at this; cases this
    | envClose i c hc hcl => have := (ha i c hc).1; rw [hcl] at this; cases this
    | deliver i v hh => rw [hp] at hh; cases hh
    | exit => exact ⟨ha, by simp [mu, hp]⟩
    | recvVal i c v rest _ _ hc hav' => rw [hav i c hc] at hav'; cases hav'
    | recvClosed i c _ hil =>
      have hlen : (s.live.erase i).length = s.live.length - 1 := List.length_erase_of_mem hil
      have hpos : 0 < s.live.length := List.length_pos_of_mem hil
      refine ⟨ha, ?_⟩
      simp only [mu, hp]
      split <;> omega

/-- Labels of the list are all internal steps of `Merge` in the states they are taken from. -/
def InternalRun : St V → List (Label V) → Prop
  | _, [] => True
  | s, l :: ls => l ∈ internalLabels s ∧ ∀ s', step s l = some s' → InternalRun s' ls

theorem isRun : LTS.IsRun (step (V := V)) run :=
  ⟨fun _ => rfl, fun s l ls => by simp only [run]; cases step s l <;> rfl⟩

theorem InternalRun.of_path {s s' : St V} {ls : List (Label V)}
    (h : LTS.Path step (fun s l => l ∈ internalLabels s) s ls s') : InternalRun s ls := by
  induction h with
  | nil => trivial
  | cons hl hs _ ih => exact ⟨hl, fun s2 hs2 => by rw [hs] at hs2; cases hs2; exact ih⟩

theorem eventually_done {n : Nat} {s : St V} (hi : Inv n s) (ha : AllDone s) :
    ∃ ls s', run s ls = some s' ∧ InternalRun s ls ∧ s'.pc = .done := by
  obtain ⟨ls, s', h, hd, _⟩ := LTS.exists_path (μ := mu) (P := fun s => Inv n s ∧ AllDone s) (Good := fun s => s.pc = .done)
    (Q := fun s l => l ∈ internalLabels s) (fun s ⟨hi, ha⟩ hd => by
      obtain ⟨⟨l, hl, s1, hs1⟩, hdec⟩ := progress hi ha hd
      obtain ⟨ha1, hmu⟩ := hdec l hl s1 hs1
      exact ⟨l, s1, hl, hs1, .inr ⟨hmu, inv_step hi hs1, ha1⟩⟩) ⟨hi, ha⟩
  exact ⟨ls, s', isRun.of_path h, .of_path h, hd⟩

theorem reach_of_run {s0 s : St V} : ∀ (ls : List (Label V)) {s1 : St V}, Reach s0 s1 → run s1 ls = some s →
    Reach s0 s :=
  fun _ _ h hr => isRun.reach (fun h hs => .step _ h hs) h hr

theorem exists_reach_of_run {s0 : St V} {P : St V → Prop} (ls : List (Label V))
    (h : ∃ s, s ∈ run s0 ls ∧ P s) : ∃ s, Reach s0 s ∧ P s :=
  isRun.exists_reach (fun h hs => .step _ h hs) .refl ls h

end Juniper.Proofs.MergeChans
