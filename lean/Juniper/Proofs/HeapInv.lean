import Juniper.Proofs.HeapPerm
import Juniper.Spec.Heap
/-!
# Heap order is restored by `percolateUp` / `percolateDown` / heapify

`UpInv a i`: heap everywhere except between `i` and its parent (and `i`'s children already respect
`i`'s parent) — the loop invariant of `percolateUp`, which walks to the root without early exit.
`DownInv a lo i`: heap on all pairs whose parent is `≥ lo`, except between `i` and its children (and
`i`'s children respect `i`'s parent) — the loop invariant of `percolateDown`, also used with `lo > 0`
inside the bottom-up heapify of `New`. All are stated through `lessAt`, as relations between positions.
-/
namespace Juniper.Proofs.Heap
open Juniper.Gen.Heap Juniper.Model.Heap Juniper.Spec.Heap

variable {α : Type}

theorem _root_.Juniper.Spec.Heap.StrictWeak.asymm {less : α → α → Bool} (sw : StrictWeak less) {a b : α}
    (h : less a b = true) : less b a = false := by
  cases hb : less b a with
  | false => rfl
  | true => have := sw.trans a b a h hb; rw [sw.irrefl] at this; cases this

theorem _root_.Juniper.Spec.Heap.StrictWeak.neg_trans {less : α → α → Bool} (sw : StrictWeak less) {a b c : α}
    (h1 : less a b = false) (h2 : less b c = false) : less a c = false := by
  cases hac : less a c with
  | false => rfl
  | true =>
    cases hba : less b a with
    | true => have := sw.trans b a c hba hac; rw [h2] at this; cases this
    | false =>
      cases hcb : less c b with
      | true => have := sw.trans a c b hac hcb; rw [h1] at this; cases this
      | false => have := sw.incomp_trans a b c h1 hba h2 hcb; rw [hac] at this; cases this

theorem lessAt_self {less : α → α → Bool} (sw : StrictWeak less) (a : List α) (i : Nat) :
    lessAt less a i i = false :=
  lessAt_eq_false_iff.mpr fun x y hx hy => by rw [hx] at hy; cases hy; exact sw.irrefl x

theorem lessAt_asymm {less : α → α → Bool} (sw : StrictWeak less) {a : List α} {i j : Nat}
    (h : lessAt less a i j = true) : lessAt less a j i = false := by
  rw [lessAt_eq] at h
  refine lessAt_eq_false_iff.mpr fun y x hy hx => ?_
  rw [hx, hy] at h; exact sw.asymm h

theorem lessAt_neg_trans {less : α → α → Bool} (sw : StrictWeak less) {a : List α} {i j k : Nat}
    (hj : j < a.length) (h1 : lessAt less a i j = false) (h2 : lessAt less a j k = false) :
    lessAt less a i k = false := by
  obtain ⟨y, hy⟩ := exists_getElem? hj
  rw [lessAt_eq_false_iff] at h1 h2 ⊢
  exact fun x z hx hz => sw.neg_trans (h1 x y hx hy) (h2 y z hy hz)

theorem heapInv_iff {less : α → α → Bool} {a : List α} :
    HeapInv less a ↔ ∀ j, 0 < j → lessAt less a j ((j - 1) / 2) = false := by
  simp only [lessAt_eq_false_iff]
  exact ⟨fun h j hj x y => h j x y hj, fun h j x y hj => h j hj x y⟩

/-- heap order on every pair whose parent index is at least `lo` -/
def HeapFrom (less : α → α → Bool) (a : List α) (lo : Nat) : Prop :=
  ∀ j, 0 < j → lo ≤ (j - 1) / 2 → lessAt less a j ((j - 1) / 2) = false

theorem heapInv_iff_heapFrom (less : α → α → Bool) (a : List α) : HeapInv less a ↔ HeapFrom less a 0 :=
  heapInv_iff.trans ⟨fun h j hj _ => h j hj, fun h j hj => h j hj (Nat.zero_le _)⟩

def UpInv (less : α → α → Bool) (a : List α) (i : Nat) : Prop :=
  (∀ j, 0 < j → j ≠ i → lessAt less a j ((j - 1) / 2) = false) ∧
  (∀ j, 0 < i → 0 < j → (j - 1) / 2 = i → lessAt less a j ((i - 1) / 2) = false)

def DownInv (less : α → α → Bool) (a : List α) (lo i : Nat) : Prop :=
  (∀ j, 0 < j → lo ≤ (j - 1) / 2 → (j - 1) / 2 ≠ i → lessAt less a j ((j - 1) / 2) = false) ∧
  (∀ j, 0 < i → lo ≤ (i - 1) / 2 → 0 < j → (j - 1) / 2 = i → lessAt less a j ((i - 1) / 2) = false)

theorem upInv_swap {less : α → α → Bool} (sw : StrictWeak less) {a : List α} {i : Nat} (hi : 0 < i)
    (hlen : i < a.length) (h : UpInv less a i) (hl : lessAt less a i ((i - 1) / 2) = true) :
    UpInv less (swapAt a i ((i - 1) / 2)) ((i - 1) / 2) := by
  have hp : (i - 1) / 2 < a.length := by omega
  have hL := getElem?_swapAt_left hlen hp
  have hR := getElem?_swapAt_right hlen hp
  have hN := fun k => getElem?_swapAt_ne (k := k) hlen hp
  have asym := lessAt_asymm sw hl
  obtain ⟨h1, h2⟩ := h
  constructor
  · intro j hj hne
    by_cases hji : j = i
    · rw [hji, lessAt_congr hL hR]; exact asym
    · by_cases hpp : (j - 1) / 2 = (i - 1) / 2
      · -- a sibling of `i`: it respected the old parent, which respects the new one
        rw [hpp, lessAt_congr (hN j hji hne) hR]
        exact lessAt_neg_trans sw hp (hpp ▸ h1 j hj hji) asym
      · by_cases hpi : (j - 1) / 2 = i
        · rw [hpi, lessAt_congr (hN j hji hne) hL]; exact h2 j hi hj hpi
        · rw [lessAt_congr (hN j hji hne) (hN _ hpi hpp)]; exact h1 j hj hji
  · intro j h0 hj hpj
    have hg := hN (((i - 1) / 2 - 1) / 2) (by omega) (by omega)
    have hpg := h1 _ h0 (by omega)
    by_cases hji : j = i
    · rw [hji, lessAt_congr hL hg]; exact hpg
    · rw [lessAt_congr (hN j hji (by omega)) hg]
      exact lessAt_neg_trans sw hp (hpj ▸ h1 j hj hji) hpg

theorem upInv_noswap {less : α → α → Bool} (sw : StrictWeak less) {a : List α} {i : Nat}
    (hlen : i < a.length) (h : UpInv less a i) (hl : lessAt less a i ((i - 1) / 2) = false) :
    UpInv less a ((i - 1) / 2) := by
  -- the whole array is a heap
  have full : ∀ j, 0 < j → lessAt less a j ((j - 1) / 2) = false := fun j hj => by
    by_cases hji : j = i
    · rw [hji]; exact hl
    · exact h.1 j hj hji
  exact ⟨fun j hj _ => full j hj,
    fun j hpi hj hpj => lessAt_neg_trans sw (by omega) (hpj ▸ full j hj) (full _ hpi)⟩

theorem upLoop_heapInv {less : α → α → Bool} (sw : StrictWeak less) (f : Nat) (a : List α) (i : Nat)
    (hf : i < f) (hlen : i < a.length) (h : UpInv less a i) : HeapInv less (upLoop less f a i).1 := by
  induction f generalizing a i with
  | zero => omega
  | succ f ih =>
    rw [upLoop_succ]
    by_cases hi : 0 < i
    · have hp : (i - 1) / 2 < f := by omega
      simp only [hi, if_true]
      cases hl : lessAt less a i ((i - 1) / 2) with
      | true =>
        simp only [if_true]
        exact ih _ _ hp (by simp; omega) (upInv_swap sw hi hlen h hl)
      | false =>
        simp only [Bool.false_eq_true, if_false]
        exact ih _ _ hp (by omega) (upInv_noswap sw hlen h hl)
    · have : i = 0 := by omega
      subst this
      simp only [Nat.lt_irrefl, if_false]
      exact heapInv_iff.mpr fun j hj => h.1 j hj (by omega)

theorem upLoop_noop {less : α → α → Bool} (f : Nat) (a : List α) (i : Nat)
    (h : ∀ j, 0 < j → j ≤ i → lessAt less a j ((j - 1) / 2) = false) : upLoop less f a i = (a, []) := by
  induction f generalizing i with
  | zero => rfl
  | succ f ih =>
    rw [upLoop_succ]
    by_cases hi : 0 < i
    · simp only [hi, if_true, h i hi (Nat.le_refl _), Bool.false_eq_true, if_false]
      exact ih _ (fun j hj hji => h j hj (by omega))
    · simp [hi]

theorem leastChild_spec {less : α → α → Bool} (sw : StrictWeak less) {a : List α} {i : Nat}
    (h : 2 * i + 1 < a.length) :
    leastChild less a i < a.length ∧ (leastChild less a i - 1) / 2 = i ∧ i < leastChild less a i ∧
    ∀ j, 0 < j → (j - 1) / 2 = i → lessAt less a j (leastChild less a i) = false := by
  have hkids : ∀ j, 0 < j → (j - 1) / 2 = i → j = 2 * i + 1 ∨ j = 2 * i + 2 := fun j _ _ => by omega
  unfold leastChild
  by_cases h2 : a.length ≤ 2 * i + 2
  · simp only [h2, if_true]
    refine ⟨h, by omega, by omega, fun j hj hpj => ?_⟩
    rcases hkids j hj hpj with rfl | rfl
    · exact lessAt_self sw a _
    · exact lessAt_of_length_le h2 _
  · simp only [h2, if_false]
    cases hl : lessAt less a (2 * i + 2) (2 * i + 1) with
    | true =>
      simp only [if_true]
      refine ⟨by omega, by omega, by omega, fun j hj hpj => ?_⟩
      rcases hkids j hj hpj with rfl | rfl
      · exact lessAt_asymm sw hl
      · exact lessAt_self sw a _
    | false =>
      simp only [Bool.false_eq_true, if_false]
      refine ⟨h, by omega, by omega, fun j hj hpj => ?_⟩
      rcases hkids j hj hpj with rfl | rfl
      · exact lessAt_self sw a _
      · exact hl

theorem downInv_swap {less : α → α → Bool} (sw : StrictWeak less) {a : List α} {lo i c : Nat}
    (hlo : lo ≤ i) (hc : c < a.length) (hpc : (c - 1) / 2 = i) (hic : i < c)
    (hleast : ∀ j, 0 < j → (j - 1) / 2 = i → lessAt less a j c = false)
    (h : DownInv less a lo i) (hl : lessAt less a c i = true) :
    DownInv less (swapAt a c i) lo c := by
  have hi : i < a.length := by omega
  have hL := getElem?_swapAt_left hc hi
  have hR := getElem?_swapAt_right hc hi
  have hN := fun k => getElem?_swapAt_ne (k := k) hc hi
  obtain ⟨h1, h2⟩ := h
  constructor
  · intro j hj hloj hne
    by_cases hjc : j = c
    · rw [hjc, hpc, lessAt_congr hL hR]; exact lessAt_asymm sw hl
    · by_cases hji : j = i
      · -- `i`'s slot now holds the old child, which respected `i`'s parent
        rw [hji] at hj hloj hne ⊢
        rw [lessAt_congr hR (hN _ hne (by omega))]; exact h2 c hj hloj (by omega) hpc
      · by_cases hpi : (j - 1) / 2 = i
        · -- a sibling of `c`, and `c` was the least child
          rw [hpi, lessAt_congr (hN j hjc hji) hR]; exact hleast j hj hpi
        · rw [lessAt_congr (hN j hjc hji) (hN _ hne hpi)]; exact h1 j hj hloj hpi
  · intro j h0 hloc hj hpj
    rw [hpc, lessAt_congr (hN j (by omega) (by omega)) hR]
    exact hpj ▸ h1 j hj (by omega) (by omega)

theorem downInv_done {less : α → α → Bool} {a : List α} {lo i : Nat} (h : DownInv less a lo i)
    (hch : ∀ j, 0 < j → (j - 1) / 2 = i → lessAt less a j i = false) : HeapFrom less a lo := by
  intro j hj hlo
  by_cases hp : (j - 1) / 2 = i
  · rw [hp]; exact hch j hj hp
  · exact h.1 j hj hlo hp

theorem downLoop_heapFrom {less : α → α → Bool} (sw : StrictWeak less) (f : Nat) (a : List α) (lo i : Nat)
    (hlo : lo ≤ i) (hf : a.length ≤ f + i) (h : DownInv less a lo i) :
    HeapFrom less (downLoop less f a i).1 lo := by
  induction f generalizing a i with
  | zero =>
    rw [downLoop_zero]
    show HeapFrom less a lo
    exact downInv_done h fun j hj hpj => lessAt_of_length_le (by omega) _
  | succ f ih =>
    rw [downLoop_succ]
    by_cases h1 : a.length ≤ 2 * i + 1
    · simp only [h1, if_true]
      exact downInv_done h fun j hj hpj => lessAt_of_length_le (by omega) _
    · simp only [h1, if_false]
      obtain ⟨hc, hpc, hic, hleast⟩ := leastChild_spec sw (a := a) (i := i) (by omega)
      cases hl : lessAt less a (leastChild less a i) i with
      | true =>
        simp only [if_true]
        exact ih _ _ (by omega) (by simp; omega) (downInv_swap sw hlo hc hpc hic hleast h hl)
      | false =>
        simp only [Bool.false_eq_true, if_false]
        exact downInv_done h fun j hj hpj => lessAt_neg_trans sw hc (hleast j hj hpj) hl

theorem percolateDown_heapFrom {less : α → α → Bool} (sw : StrictWeak less) (a : List α) (lo i : Nat)
    (hlo : lo ≤ i) (h : DownInv less a lo i) : HeapFrom less (percolateDown less a i).1 lo :=
  downLoop_heapFrom sw _ _ _ _ hlo (by omega) h

theorem percolateUp_heapInv {less : α → α → Bool} (sw : StrictWeak less) (a : List α) (i : Nat)
    (hlen : i < a.length) (h : UpInv less a i) : HeapInv less (percolateUp less a i).1 :=
  upLoop_heapInv sw _ _ _ (by omega) hlen h

theorem downInv_of_heapInv {less : α → α → Bool} (sw : StrictWeak less) {a : List α} (i : Nat)
    (h : HeapInv less a) : DownInv less a 0 i := by
  rw [heapInv_iff] at h
  refine ⟨fun j hj _ _ => h j hj, fun j hi _ hj hpj => ?_⟩
  by_cases hil : i < a.length
  · exact lessAt_neg_trans sw hil (hpj ▸ h j hj) (h i hi)
  · exact lessAt_of_length_le (by omega) _

end Juniper.Proofs.Heap
