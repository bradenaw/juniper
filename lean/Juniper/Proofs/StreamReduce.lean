import Juniper.Proofs.StreamComb
import Juniper.Proofs.StreamFacts
import Juniper.Proofs.Fuel
/-!
# Reducers of `stream.go` (C07 values and pull counts, C08 "reducers return E", C09 the deferred `Close`)

A reducer gives up at the first failure of any kind, so its view of a stream is the denotation in
which nothing is soft (`SDen strict`): the items before the first failure, then that failure.
Whatever the context and the fuel, it ends in a state its stream reaches by itself, closed by the deferred
`Close` (`*_reach`, from the regenerated `defer s.Close()` facts).
-/
namespace Juniper.Proofs.StreamDen
open Juniper.Model.Stream Juniper.Spec Juniper.Gen.Comb
universe u v w x y
variable {σ : Type u} {α β : Type v} {γ : Type x}

/-- a value if the stream ended, else the failure -/
def outOf {ρ : Type x} (t : Term) (v : ρ) : ROut ρ :=
  match t with
  | .end_ _ => .ok v
  | .fail e => .error e

theorem cost_deferClose {m : SM σ α} {cost : σ → Nat} (hclose : ∀ s, cost (m.close s) = cost s) (b : Bool) (s : σ) :
    cost (deferClose b m s) = cost s := by
  cases b <;> simp [deferClose, hclose]

/-- the documented result of `Reduce`: fold until the callback fails, then the stream's own termination -/
def foldRes (f : γ → α → Except Err γ) : γ → List α → Term → ROut γ
  | acc, [], .end_ _ => .ok acc
  | _, [], .fail e => .error e
  | acc, a :: l, t =>
    match f acc a with
    | .error e => .error e
    | .ok acc' => foldRes f acc' l t

/-- Reading a strictly denoting stream under a live context with fuel: a statement `P s L t fuel` about a loop
that spends one unit of fuel per step of `m` holds for all large enough fuel if each kind of step carries it
back from the rest of the derivation. -/
theorem strict_fuel {m : SM σ α} {cost : σ → Nat} (P : σ → List (α × Nat) → Term → Nat → Prop)
    (hskip : ∀ {s s' L t k}, m.step s true = (.skip, s') → P s' L t k → P s L t (k + 1))
    (hitem : ∀ {s s' a L t k}, m.step s true = (.item a, s') → P s' L t k → P s ((a, cost s') :: L) t (k + 1))
    (hfail : ∀ {s s' e k}, m.step s true = (.err e, s') → P s [] (.fail e) (k + 1))
    (hdone : ∀ {s s' k}, m.step s true = (.end_, s') → P s [] (.end_ (cost s')) (k + 1))
    {s : σ} {L : List (α × Nat)} {t : Term} (h : SDen strict m cost s L t) : Enough (P s L t) := by
  induction h with
  | skip _ hs _ ih => exact (ih.mono fun _ => hskip hs).succ
  | soft _ _ he _ _ => simp [strict] at he
  | item _ hs _ ih => exact (ih.mono fun _ => hitem hs).succ
  | fail _ hs _ => exact .of_succ fun _ => hfail hs
  | done _ hs _ _ => exact .of_succ fun _ => hdone hs

theorem reduceLoop_run {g : RGuards} {cf : Bool} (hg : g.Canon cf) {m : SM σ α} {cost : σ → Nat} {s : σ}
    {L : List (α × Nat)} {t : Term}
    (f : γ → α → Except Err γ) (hf : cf = false → ∀ acc a, ∃ b, f acc a = .ok b) (h : SDen strict m cost s L t) :
    Enough fun fuel => ∀ acc, (reduceLoop g m f true fuel acc s).1 = foldRes f acc (L.map Prod.fst) t ∧
      ((∀ acc a, ∃ b, f acc a = .ok b) → ∀ e, t = .end_ e → cost (reduceLoop g m f true fuel acc s).2 = e) :=
  strict_fuel (fun s L t fuel => ∀ acc, (reduceLoop g m f true fuel acc s).1 = foldRes f acc (L.map Prod.fst) t ∧
      ((∀ acc a, ∃ b, f acc a = .ok b) → ∀ e, t = .end_ e → cost (reduceLoop g m f true fuel acc s).2 = e))
    (fun hs ih acc => by rw [reduceLoop_succ hg m f hf, hs]; exact ih acc)
    (fun {_ _ a _ _ _} hs ih acc => by
      rw [reduceLoop_succ hg m f hf, hs]
      simp only [List.map_cons, foldRes]
      cases hfa : f acc a with
      | error e => exact ⟨rfl, fun hok => by obtain ⟨b, hb⟩ := hok acc a; rw [hfa] at hb; cases hb⟩
      | ok acc' => exact ih acc')
    (fun hs acc => by rw [reduceLoop_succ hg m f hf, hs]; exact ⟨rfl, fun _ => nofun⟩)
    (fun hs acc => by rw [reduceLoop_succ hg m f hf, hs]; exact ⟨rfl, fun _ e he => by cases he; rfl⟩) h

/-- `stream.Reduce` (live context), result and final state: the documented fold, and with a callback that never fails a
stream that ends has been read to its end, then closed -/
theorem reduce_strict {m : SM σ α} {cost : σ → Nat} {s : σ} {L : List (α × Nat)} {t : Term}
    (f : γ → α → Except Err γ) (h : SDen strict m cost s L t) :
    Enough fun fuel => ∀ init, (reduce m f true fuel init s).1 = foldRes f init (L.map Prod.fst) t ∧
      ((∀ acc a, ∃ acc', f acc a = .ok acc') → ∀ e, t = .end_ e → (∀ s, cost (m.close s) = cost s) →
        cost (reduce m f true fuel init s).2 = e) := by
  have _tie := Skeleton.Tie.stReduce
  exact (reduceLoop_run reduceG_canon f (fun h => by cases h) h).mono fun fuel hF init =>
    ⟨by simpa [reduce] using (hF init).1, fun hok e he hclose =>
      (cost_deferClose hclose stReduceDefersClose _).trans ((hF init).2 hok e he)⟩

theorem foldRes_ok (g : γ → α → γ) (acc : γ) (l : List α) (t : Term) :
    foldRes (fun acc a => .ok (g acc a)) acc l t = outOf t (l.foldl g acc) := by
  induction l generalizing acc with
  | nil => cases t <;> rfl
  | cons a l ih => exact ih _

/-- `stream.Collect` (live context), result and final state: all items or the first failure itself; a stream that ends
has been read to its end, then closed -/
theorem collect_strict {m : SM σ α} {cost : σ → Nat} {s : σ} {L : List (α × Nat)} {t : Term}
    (h : SDen strict m cost s L t) :
    Enough fun fuel => (collect m true fuel s).1 = outOf t (L.map Prod.fst) ∧
      ∀ e, t = .end_ e → (∀ s, cost (m.close s) = cost s) → cost (collect m true fuel s).2 = e := by
  have _tie := Skeleton.Tie.stCollect
  refine (reduceLoop_run collectG_canon (fun (acc : List α) a => Except.ok (acc ++ [a]))
    (fun _ acc a => ⟨_, rfl⟩) h).mono fun fuel hF => ?_
  refine ⟨?_, fun e he hclose =>
    (cost_deferClose hclose stCollectDefersClose _).trans ((hF []).2 (fun _ _ => ⟨_, rfl⟩) e he)⟩
  have := (hF []).1
  rw [foldRes_ok, List.foldl_append_eq_append, ← List.flatMap_def, List.flatMap_singleton'] at this
  simpa [collect] using this

theorem sample_sden {m : SM σ α} {cost : σ → Nat} {s : σ} {L : List (α × Nat)} {t : Term}
    (h : SDen strict m cost s L t) :
    Enough fun fuel => (sampleCount m true fuel s).1 = outOf t L.length := by
  have _tie := Skeleton.Tie.sample
  refine (reduceLoop_run sampleG_canon (fun (acc : Nat) (_ : α) => Except.ok (acc + 1))
    (fun _ acc a => ⟨_, rfl⟩) h).mono fun fuel hF => ?_
  have := (hF 0).1
  rw [foldRes_ok] at this
  simpa [sampleCount, sampleStreamW, rSampleCount] using this

/-- what a consumer-level `Next` answers on a strictly denoting state, and the state it leaves -/
def DriveAns (m : SM σ α) (cost : σ → Nat) (r : SStep α) (s' : σ) : List (α × Nat) → Term → Prop
  | [], .end_ e => r = .end_ ∧ cost s' = e
  | [], .fail e => r = .err e
  | p :: L', t => r = .item p.1 ∧ SDen strict m cost s' L' t ∧ cost s' = p.2

theorem drive_strict {m : SM σ α} {cost : σ → Nat} {s : σ} {L : List (α × Nat)} {t : Term}
    (h : SDen strict m cost s L t) :
    ∃ r s', (Enough fun fuel => drive m true fuel s = (some r, s')) ∧ DriveAns m cost r s' L t := by
  induction h with
  | skip _ hs _ ih =>
    obtain ⟨r, s2, hd, ha⟩ := ih
    exact ⟨r, s2, (hd.mono fun k hk => by rw [drive_succ, hs]; exact hk).succ, ha⟩
  | soft _ _ he _ _ => simp [strict] at he
  | @item _ s' a _ _ _ hs h' _ => exact ⟨.item a, s', .of_succ fun k => by rw [drive_succ, hs], rfl, h', rfl⟩
  | @fail _ s' e _ hs _ => exact ⟨.err e, s', .of_succ fun k => by rw [drive_succ, hs], rfl⟩
  | @done _ s' _ hs _ _ => exact ⟨.end_, s', .of_succ fun k => by rw [drive_succ, hs], rfl, rfl⟩

/-- the documented result of `One` -/
def oneRes : List α → Term → ROut α
  | [], .end_ _ => .error .empty
  | [], .fail e => .error e
  | [a], .end_ _ => .ok a
  | [_], .fail e => .error e
  | _ :: _ :: _, _ => .error .moreThanOne

/-- `stream.One` (live context), result and final state: at most two `Next` calls, then the deferred `Close` -/
theorem one_strict {m : SM σ α} {cost : σ → Nat} {s : σ} {L : List (α × Nat)} {t : Term}
    (h : SDen strict m cost s L t) :
    Enough fun fuel => (one m true fuel s).1 = oneRes (L.map Prod.fst) t ∧
      ∀ e, t = .end_ e → (∀ s, cost (m.close s) = cost s) → cost (one m true fuel s).2 = (match L with | [] => e | [_] => e | _ :: q :: _ => q.2) := by
  have _tie := Skeleton.Tie.stOne
  obtain ⟨r1, s1, hd1, ha1⟩ := drive_strict h
  match L, t, ha1 with
  | [], .end_ _, ha1 =>
    refine hd1.mono fun fuel hd1 => ?_
    simp only [one_eq, hd1, ha1.1]
    exact ⟨rfl, fun e he hcl => by cases he; rw [cost_deferClose hcl]; exact ha1.2⟩
  | [], .fail e, ha1 =>
    have ha1 : r1 = .err e := ha1
    refine hd1.mono fun fuel hd1 => ?_
    simp only [one_eq, hd1, ha1]
    exact ⟨rfl, nofun⟩
  | p :: L', t, ha1 =>
    obtain ⟨r2, s2, hd2, ha2⟩ := drive_strict ha1.2.1
    refine (hd1.and hd2).mono fun fuel ⟨hd1, hd2⟩ => ?_
    simp only [one_eq, hd1, ha1.1, hd2]
    match L', t, ha2 with
    | [], .end_ _, ha2 => rw [ha2.1]; exact ⟨rfl, fun e he hcl => by cases he; rw [cost_deferClose hcl]; exact ha2.2⟩
    | [], .fail e, ha2 => rw [show r2 = .err e from ha2]; exact ⟨rfl, nofun⟩
    | q :: _, _, ha2 => rw [ha2.1]; exact ⟨rfl, fun e _ hcl => by rw [cost_deferClose hcl]; exact ha2.2.2⟩

theorem one_sden {m : SM σ α} {cost : σ → Nat} {s : σ} {L : List (α × Nat)} {t : Term}
    (h : SDen strict m cost s L t) :
    Enough fun fuel => (one m true fuel s).1 = oneRes (L.map Prod.fst) t := by
  exact (one_strict h).mono fun _ hF => hF.1

/-- a loop that spends one unit of fuel on one step of `m` and then stops or goes on ends in a state that `m`
reaches by itself -/
theorem loop_reach {A : Type y} {R : Type x} (m : SM σ α) (c : Bool) (loop : Nat → A → σ → R × σ)
    (h0 : ∀ a s, (loop 0 a s).2 = s)
    (hsucc : ∀ fuel a s, (loop (fuel + 1) a s).2 = (m.step s c).2 ∨
      ∃ a', loop (fuel + 1) a s = loop fuel a' (m.step s c).2)
    (fuel : Nat) (a : A) (s : σ) : ∃ cs, (loop fuel a s).2 = afterS m cs s := by
  induction fuel generalizing a s with
  | zero => exact ⟨[], h0 a s⟩
  | succ fuel ih =>
    rcases hsucc fuel a s with h | ⟨a', h⟩
    · exact ⟨[c], h⟩
    · obtain ⟨cs, hcs⟩ := ih a' (m.step s c).2
      exact ⟨c :: cs, by rw [h, hcs]; rfl⟩

theorem reduceLoop_reach {δ : Type x} {g : RGuards} {cf : Bool} (hg : g.Canon cf) (m : SM σ α) (f : δ → α → Except Err δ)
    (hf : cf = false → ∀ acc a, ∃ b, f acc a = .ok b) (c : Bool) :
    ∀ fuel acc s, ∃ cs, (reduceLoop g m f c fuel acc s).2 = afterS m cs s :=
  loop_reach m c (reduceLoop g m f c) (fun _ _ => rfl) (fun fuel acc s => by
    rw [reduceLoop_succ hg m f hf]
    rcases m.step s c with ⟨r, u⟩
    cases r with
    | skip => exact .inr ⟨acc, rfl⟩
    | end_ => exact .inl rfl
    | err e => exact .inl rfl
    | item a =>
      simp only
      cases f acc a with
      | error e => exact .inl rfl
      | ok acc' => exact .inr ⟨acc', rfl⟩)

theorem drive_reach (m : SM σ α) (c : Bool) (fuel : Nat) (s : σ) : ∃ cs, (drive m c fuel s).2 = afterS m cs s :=
  loop_reach m c (fun fuel (_ : Unit) s => drive m c fuel s) (fun _ _ => rfl) (fun fuel _ s => by
    rw [drive_succ]
    rcases m.step s c with ⟨r, u⟩
    cases r with
    | skip => exact .inr ⟨(), rfl⟩
    | _ => exact .inl rfl) fuel () s

theorem collect_reach (m : SM σ α) (c : Bool) (fuel : Nat) (s : σ) :
    ∃ cs, (collect m c fuel s).2 = m.close (afterS m cs s) := by
  have _tie := Skeleton.Tie.stCollect
  obtain ⟨cs, hcs⟩ := reduceLoop_reach collectG_canon m (fun (acc : List α) a => .ok (acc ++ [a])) (fun _ _ _ => ⟨_, rfl⟩) c fuel [] s
  exact ⟨cs, by simp only [collect, deferClose, stCollectDefersClose_fact, if_true, hcs]⟩

theorem reduce_reach {δ : Type x} (m : SM σ α) (f : δ → α → Except Err δ) (c : Bool) (fuel : Nat) (init : δ) (s : σ) :
    ∃ cs, (reduce m f c fuel init s).2 = m.close (afterS m cs s) := by
  have _tie := Skeleton.Tie.stReduce
  obtain ⟨cs, hcs⟩ := reduceLoop_reach reduceG_canon m f nofun c fuel init s
  exact ⟨cs, by simp only [reduce, deferClose, stReduceDefersClose_fact, if_true, hcs]⟩

theorem sample_reach (m : SM σ α) (c : Bool) (fuel : Nat) (s : σ) :
    ∃ cs, (sampleCount m c fuel s).2 = m.close (afterS m cs s) := by
  have _tie := Skeleton.Tie.sample
  obtain ⟨cs, hcs⟩ := reduceLoop_reach sampleG_canon m (fun (acc : Nat) _ => .ok (acc + 1)) (fun _ _ _ => ⟨_, rfl⟩) c fuel 0 s
  exact ⟨cs, by simp only [sampleCount, sampleStreamW, rSampleCount, deferClose, sampleStreamDefersClose_fact, if_true, hcs]⟩

theorem one_reach (m : SM σ α) (c : Bool) (fuel : Nat) (s : σ) :
    ∃ cs, (one m c fuel s).2 = m.close (afterS m cs s) := by
  have _tie := Skeleton.Tie.stOne
  obtain ⟨cs1, h1⟩ := drive_reach m c fuel s
  obtain ⟨cs2, h2⟩ := drive_reach m c fuel (drive m c fuel s).2
  simp only [one, deferClose, stOneDefersClose_fact, if_true]
  rcases hd : drive m c fuel s with ⟨r, s1⟩
  rw [hd] at h1 h2
  simp only at h1 h2
  cases r with
  | none => exact ⟨cs1, by simp [h1]⟩
  | some r =>
    cases r with
    | end_ => exact ⟨cs1, by simp [h1]⟩
    | err e => exact ⟨cs1, by simp [h1]⟩
    | skip => exact ⟨cs1, by simp [h1]⟩
    | item a =>
      simp only [oneFirst_item]
      rcases hd2 : drive m c fuel s1 with ⟨r2, s2⟩
      rw [hd2] at h2
      simp only at h2
      have hs2 : s2 = afterS m (cs1 ++ cs2) s := by rw [afterS_append, ← h1, h2]
      cases r2 with
      | none => exact ⟨cs1 ++ cs2, by simp [hs2]⟩
      | some r2 => cases r2 <;> exact ⟨cs1 ++ cs2, by simp [hs2]⟩

end Juniper.Proofs.StreamDen
