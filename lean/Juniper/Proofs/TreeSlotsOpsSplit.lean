import Juniper.Proofs.TreeSlotsOpsNode
/-!
# Slot-level lemmas (C03 "no retained garbage"): the split in `overfill`

The amalgam view, the ascending fill of the fresh right node, the in-place descending fill of the left
node and the three `xslices.Clear` calls, array by array (`split_fills`: the two loops are `splitRight` and
`splitLeftAliased` of the total model, whose lemmas in `Proofs/TreeSlots.lean` say what they leave) and for the
whole node (`splitNode_rep`, leaf and internal node at once).
-/
namespace Juniper.Proofs.TreeSlotsOps
open Juniper.Model.BTreeSlotsOps Juniper.Gen Juniper.Proofs.Slots

section
variable {α : Type}

/-- one array of a full node through one round of `overfill`, `f` being the amalgam view of the array with
the extra element `x` at position `e`: the fresh right array receives `all[S:]`, the left array is rewritten
in place from the top down and cleared from `L` on, which leaves `all[:L]` (`all` = `l` with `x` inserted at
`e`). `R` = number of entries that go right. -/
theorem split_fills {f : Slots α → Nat → Option α} {a : Slots α} {cap : Nat} {l : List α} {x : α} {e L S R : Nat}
    (hf : ∀ a i, f a i = Model.BTreeSlots.amalgamGet a e (some x) i)
    (h : Rep a cap l) (hfull : l.length = cap) (he : e ≤ cap)
    (hSR : S + R = cap + 1) (hL : L ≤ cap) (hR : R ≤ cap)
    {condR : Nat → Bool} (hc : ∀ i, condR i = decide (i < R)) {first : Nat → Nat} (hfirst : ∀ i, first i = S + i) :
    (∃ ra, fillUp condR (fun i => f a (first i)) (cap + 1) 0 (List.replicate cap none) = some ra ∧
        Rep ra cap ((l.take e ++ x :: l.drop e).drop S)) ∧
    (∃ la la', fillDown f L a = some la ∧ clearFrom la L = some la' ∧
        Rep la' cap ((l.take e ++ x :: l.drop e).take L)) := by
  have he' : e ≤ l.length := hfull ▸ he
  have hall := length_insertAt l x e
  constructor
  · have hfun : (fun i => f a (first i)) = fun i => (l.take e ++ x :: l.drop e)[S + i]? :=
      funext fun i => by rw [hf, hfirst, Tree.amalgamGet_clean x h he']
    have := Tree.slots_refine_splitRight (cap := cap) (l.take e ++ x :: l.drop e) S R hR (by omega)
    rw [List.take_of_length_le (by rw [List.length_drop]; omega)] at this
    exact ⟨_, hfun ▸ fillUp_splitRight hc hR, this⟩
  · exact ⟨_, _, fillDown_total hf L a (by rw [h.length]; exact hL),
      clearFrom_eq (by rw [Tree.length_writeAmalgamDesc, h.length]; exact hL),
      Tree.clean_splitLeftAliased (clears := true) rfl x h he' hL (by omega)⟩

theorem split_shape {β γ : Type} (all : List β) (allc : List γ) {kc m : Nat}
    (h1 : all.length = kc + 1) (h2 : allc.length = kc + 2) (hm : m ≤ kc) :
    (allc.take (m + 1)).length = (all.take m).length + 1 ∧
    (allc.drop (m + 1)).length = (all.drop (m + 1)).length + 1 := by
  simp only [List.length_take, List.length_drop]; omega
end

section
variable {K V C : Type}

theorem split_consts :
    0 ≤ Tree.medianIdx ∧ 0 ≤ Tree.rightN ∧
    (TreeSlots.overfillLeftKeysFrom Tree.leftN + 1).toNat = Tree.medianIdx.toNat ∧
    (TreeSlots.overfillLeftChildrenFrom Tree.leftN + 1).toNat = Tree.medianIdx.toNat + 1 := by decide

theorem split_nums :
    Tree.medianIdx.toNat ≤ keysCap ∧ Tree.rightN.toNat ≤ keysCap ∧
    Tree.medianIdx.toNat + 1 + Tree.rightN.toNat = keysCap + 1 ∧
    Tree.medianIdx.toNat ≤ valuesCap ∧ Tree.rightN.toNat ≤ valuesCap ∧
    Tree.medianIdx.toNat + 1 + Tree.rightN.toNat = valuesCap + 1 ∧
    Tree.medianIdx.toNat + 1 ≤ childrenCap ∧ Tree.rightN.toNat + 1 ≤ childrenCap ∧
    Tree.medianIdx.toNat + 1 + (Tree.rightN.toNat + 1) = childrenCap + 1 ∧
    Tree.leftN = (Tree.medianIdx.toNat : Int) ∧ Tree.rightN = ((keysCap - Tree.medianIdx.toNat : Nat) : Int) ∧
    toIdx Tree.medianIdx = some Tree.medianIdx.toNat ∧ toIdx Tree.rightN = some Tree.rightN.toNat ∧
    toIdx Tree.leftN = some Tree.medianIdx.toNat := by decide

theorem rightKeysCond_eq (i : Nat) :
    TreeSlots.overfillRightKeysCond i Tree.rightN = decide (i < Tree.rightN.toNat) := by
  have := split_consts.2.1
  simp only [TreeSlots.overfillRightKeysCond, decide_eq_decide]; omega

theorem rightChildrenCond_eq (i : Nat) :
    TreeSlots.overfillRightChildrenCond i Tree.rightN = decide (i < Tree.rightN.toNat + 1) := by
  have := split_consts.2.1
  simp only [TreeSlots.overfillRightChildrenCond, decide_eq_decide]; omega

theorem rightFirstIdx_eq (i : Nat) : (Tree.rightFirstIdx i).toNat = Tree.medianIdx.toNat + 1 + i := by
  have := split_consts.1
  simp only [Tree.rightFirstIdx]; omega

theorem rightFirstChildIdx_eq (i : Nat) : (Tree.rightFirstChildIdx i).toNat = Tree.medianIdx.toNat + 1 + i := by
  have := split_consts.1
  simp only [Tree.rightFirstChildIdx]; omega

theorem amalgamKey_total (hd : TreeSlots.amalgamKeyDec = true) (a : Slots K) (x : Option K) (e i : Nat) :
    amalgamKey a x e i = Model.BTreeSlots.amalgamGet a e x i := by
  rw [amalgamKey, hd]
  exact amalgamGet_total (fun i => by simp only [TreeSlots.amalgamKeyIsExtra, decide_eq_decide]; omega)
    (fun i => by simp only [TreeSlots.amalgamKeyShifts, decide_eq_decide]; omega) a x i

theorem amalgamValue_total (hd : TreeSlots.amalgamValueDec = true) (a : Slots V) (x : Option V) (e i : Nat) :
    amalgamValue a x e i = Model.BTreeSlots.amalgamGet a e x i := by
  rw [amalgamValue, hd]
  exact amalgamGet_total (fun i => by simp only [TreeSlots.amalgamValueIsExtra, decide_eq_decide]; omega)
    (fun i => by simp only [TreeSlots.amalgamValueShifts, decide_eq_decide]; omega) a x i

/-- `all.Child(i)` compares with `extraIdx + 1`: the extra child sits behind child `e` -/
theorem amalgamChild_total (hd : TreeSlots.amalgamChildDec = true) (a : Slots C) (x : Option C) (e i : Nat) :
    amalgamChild a x e i = Model.BTreeSlots.amalgamGet a (e + 1) x i := by
  rw [amalgamChild, hd]
  exact amalgamGet_total (fun i => by simp only [TreeSlots.amalgamChildIsExtra, decide_eq_decide]; omega)
    (fun i => by simp only [TreeSlots.amalgamChildShifts, decide_eq_decide]; omega) a x i

/-- `splitNode` in terms of what its loops and `Clear` calls yield. The `do` block branches on `x.leaf()`
around the rest of the function, hence the case distinction in the proof. -/
theorem splitNode_eq {x : SNode K V C} {e : Nat} {k : Option K} {v : Option V} {afterK : Option C} {m rn : Nat}
    (em : toIdx Tree.medianIdx = some m) (er : toIdx Tree.rightN = some rn) (el : toIdx Tree.leftN = some m)
    (hlk : (TreeSlots.overfillLeftKeysFrom Tree.leftN + 1).toNat = m)
    (hlc : (TreeSlots.overfillLeftChildrenFrom Tree.leftN + 1).toNat = m + 1)
    (hck : TreeSlots.overfillClearsKeys = true) (hcv : TreeSlots.overfillClearsValues = true)
    (hcc : TreeSlots.overfillClearsChildren = true)
    {rk lk lk' : Slots K} {rv lv lv' : Slots V} {rc lc lc' : Slots C}
    (hrk : fillUp (fun i => TreeSlots.overfillRightKeysCond i Tree.rightN)
      (fun i => amalgamKey x.keys k e (Tree.rightFirstIdx i).toNat) (keysCap + 1) 0 (List.replicate keysCap none) = some rk)
    (hrv : fillUp (fun i => TreeSlots.overfillRightKeysCond i Tree.rightN)
      (fun i => amalgamValue x.vals v e (Tree.rightFirstIdx i).toNat) (valuesCap + 1) 0 (List.replicate valuesCap none) = some rv)
    (hrc : (if x.isLeaf = true then some (List.replicate childrenCap none) else
      fillUp (fun i => TreeSlots.overfillRightChildrenCond i Tree.rightN)
        (fun i => amalgamChild x.kids afterK e (Tree.rightFirstChildIdx i).toNat) (childrenCap + 1) 0
        (List.replicate childrenCap none)) = some rc)
    (hlk1 : fillDown (fun a i => amalgamKey a k e i) m x.keys = some lk) (hlk2 : clearFrom lk m = some lk')
    (hlv1 : fillDown (fun a i => amalgamValue a v e i) m x.vals = some lv) (hlv2 : clearFrom lv m = some lv')
    (hlc1 : (if x.isLeaf = true then some x.kids else
      fillDown (fun a i => amalgamChild a afterK e i) (m + 1) x.kids) = some lc)
    (hlc2 : clearFrom lc (m + 1) = some lc') :
    splitNode x e k v afterK =
      some ({ x with n := Tree.leftN, keys := lk', vals := lv', kids := lc' }, amalgamKey x.keys k e m,
        amalgamValue x.vals v e m,
        { (SNode.fresh : SNode K V C) with n := Tree.rightN, keys := rk, vals := rv, kids := rc }) := by
  cases hl : x.isLeaf <;> rw [hl] at hrc hlc1
  · rw [if_neg Bool.false_ne_true] at hrc hlc1
    simp [splitNode, em, er, el, hl, SNode.fresh, hrk, hrv, hrc, hlk, hlc, hlk1, hlv1, hlc1, hck, hcv, hcc, hlk2,
      hlv2, hlc2]
  · cases hrc; cases hlc1
    simp [splitNode, em, er, el, hl, SNode.fresh, hrk, hrv, hlk, hlk1, hlv1, hck, hcv, hcc, hlk2, hlv2, hlc2]

/-- the three `Clear` calls of `overfill` and the `i--` of the amalgam's key and value views are in the source -/
abbrev SplitPresent : Prop := TreeSlots.overfillClearsKeys = true ∧ TreeSlots.overfillClearsValues = true ∧
  TreeSlots.overfillClearsChildren = true ∧ TreeSlots.amalgamKeyDec = true ∧ TreeSlots.amalgamValueDec = true

/-- one round of `overfill` on a full node: the entries `kvs` with `(k, v)` inserted at `e` are cut at
`medianIdx`; for an internal node also the children `allc` (the old ones with the new right node
inserted behind child `e`) are cut behind `medianIdx`, for a leaf `allc = []`. -/
theorem splitNode_rep {x : SNode K V C} {kvs : List (K × V)} {kids allc : List C} (h : NodeRep x kvs kids)
    (hfull : kvs.length = keysCap) {e : Nat} (he : e ≤ keysCap) (k : K) (v : V) {afterK : Option C}
    (hkids : kids = [] ∧ allc = [] ∨ kids.length = kvs.length + 1 ∧ TreeSlots.amalgamChildDec = true ∧
      ∃ r, afterK = some r ∧ allc = kids.take (e + 1) ++ r :: kids.drop (e + 1))
    (hf : SplitPresent) :
    ∃ l' r', (splitNode x e (some k) (some v) afterK =
        some (l', ((kvs.take e ++ (k, v) :: kvs.drop e)[Tree.medianIdx.toNat]?).map (·.1),
              ((kvs.take e ++ (k, v) :: kvs.drop e)[Tree.medianIdx.toNat]?).map (·.2), r') ∧
      NodeRep l' ((kvs.take e ++ (k, v) :: kvs.drop e).take Tree.medianIdx.toNat)
        (allc.take (Tree.medianIdx.toNat + 1)) ∧
      NodeRep r' ((kvs.take e ++ (k, v) :: kvs.drop e).drop (Tree.medianIdx.toNat + 1))
        (allc.drop (Tree.medianIdx.toNat + 1))) ∧ l'.parent = x.parent ∧ r'.parent = none := by
  obtain ⟨hn, hk, hv, hc, _⟩ := h
  obtain ⟨hck, hcv, hcc, hdk, hdv⟩ := hf
  have hall : (kvs.take e ++ (k, v) :: kvs.drop e).length = keysCap + 1 := by
    rw [length_insertAt kvs (k, v) e, hfull]
  have hmk := map_insertAt (·.1) kvs (k, v) e e
  have hmv := map_insertAt (·.2) kvs (k, v) e e
  generalize kvs.take e ++ (k, v) :: kvs.drop e = all at hall hmk hmv ⊢
  obtain ⟨cv, cc⟩ := caps
  obtain ⟨n1, n2, n3, n4, n5, n6, n7, n8, n9, nl, nr, em, er, el⟩ := split_nums
  obtain ⟨-, -, hlk, hlc⟩ := split_consts
  have rkc := rightKeysCond_eq
  have rcc := rightChildrenCond_eq
  have rfi := rightFirstIdx_eq
  have rfc := rightFirstChildIdx_eq
  -- the two generated constants become variables: nothing below may evaluate them
  generalize Tree.medianIdx.toNat = m at *
  generalize Tree.rightN.toNat = rn at *
  have hsplit := @splitNode_eq K V C x e (some k) (some v) afterK m rn em er el hlk hlc hck hcv hcc
  clear hlk hlc
  have s1 : (all.take m).length = m := by
    rw [List.length_take, hall]; exact Nat.min_eq_left (Nat.le_succ_of_le n1)
  have s2 : (all.drop (m + 1)).length = keysCap - m := by
    rw [List.length_drop, hall]; exact Nat.add_sub_add_right keysCap 1 m
  have lenk : (kvs.map (·.1)).length = keysCap := by rw [List.length_map, hfull]
  have lenv : (kvs.map (·.2)).length = valuesCap := by rw [List.length_map, hfull, cv]
  obtain ⟨⟨rk, hrk, rrk⟩, lk, lk', hlk1, hlk2, rlk⟩ :=
    split_fills (f := fun a i => amalgamKey a (some k) e i) (fun a i => amalgamKey_total hdk a _ e i) hk lenk he
      n3 n1 n2 (condR := fun i => TreeSlots.overfillRightKeysCond i Tree.rightN) rkc
      (first := fun i => (Tree.rightFirstIdx i).toNat) rfi
  obtain ⟨⟨rv, hrv, rrv⟩, lv, lv', hlv1, hlv2, rlv⟩ :=
    split_fills (f := fun a i => amalgamValue a (some v) e i) (fun a i => amalgamValue_total hdv a _ e i) hv lenv
      (cv ▸ he) n6 n4 n5 (condR := fun i => TreeSlots.overfillRightKeysCond i Tree.rightN) rkc
      (first := fun i => (Tree.rightFirstIdx i).toNat) rfi
  have gkm := (amalgamKey_total hdk x.keys (some k) e m).trans (Tree.amalgamGet_clean k hk (lenk ▸ he) m)
  have gvm := (amalgamValue_total hdv x.vals (some v) e m).trans (Tree.amalgamGet_clean v hv (lenv ▸ cv ▸ he) m)
  rw [← hmk] at gkm rrk rlk
  rw [← hmv] at gvm rrv rlv
  rw [List.getElem?_map] at gkm gvm
  rw [← gkm, ← gvm]
  rw [← s1] at nl
  rw [← s2] at nr
  -- the children: nothing to do in a leaf (`Clear` on zeros), the same two loops in an internal node
  rcases hkids with ⟨rfl, rfl⟩ | ⟨hint, hdc, r, rfl, rfl⟩
  · have hl := isLeaf_of_rep_nil hc
    refine ⟨{ x with n := Tree.leftN, keys := lk', vals := lv' },
            { (SNode.fresh : SNode K V C) with n := Tree.rightN, keys := rk, vals := rv }, ⟨?_, ?_, ?_⟩, rfl, rfl⟩
    · exact hsplit hrk hrv (by rw [hl]; rfl) hlk1 hlk2 hlv1 hlv2 (by rw [hl]; rfl) (rep_clearFrom_id hc (Nat.zero_le _) n7)
    · exact ⟨nl, List.map_take ▸ rlk, List.map_take ▸ rlv, hc, Or.inl rfl⟩
    · exact ⟨nr, List.map_drop ▸ rrk, List.map_drop ▸ rrv, rep_nil _, Or.inl rfl⟩
  · have lenc : kids.length = childrenCap := by rw [hint, hfull, cc]
    have he' : e + 1 ≤ kids.length := by rw [lenc, cc]; exact Nat.succ_le_succ he
    have hl := isLeaf_of_rep_cons hc (List.ne_nil_of_length_eq_add_one hint)
    obtain ⟨⟨rc, hrc, rrc⟩, lc, lc', hlc1, hlc2, rlc⟩ :=
      split_fills (f := fun a i => amalgamChild a (some r) e i) (fun a i => amalgamChild_total hdc a _ e i)
        hc lenc (lenc ▸ he') n9 n7 n8
        (condR := fun i => TreeSlots.overfillRightChildrenCond i Tree.rightN) rcc
        (first := fun i => (Tree.rightFirstChildIdx i).toNat) rfc
    obtain ⟨t1, t2⟩ := split_shape all (kids.take (e + 1) ++ r :: kids.drop (e + 1)) hall
      (by rw [length_insertAt kids r (e + 1), lenc, cc]) n1
    refine ⟨{ x with n := Tree.leftN, keys := lk', vals := lv', kids := lc' },
            { (SNode.fresh : SNode K V C) with n := Tree.rightN, keys := rk, vals := rv, kids := rc }, ⟨?_, ?_, ?_⟩, rfl, rfl⟩
    · exact hsplit hrk hrv (by rw [hl]; exact hrc) hlk1 hlk2 hlv1 hlv2 (by rw [hl]; exact hlc1) hlc2
    · exact ⟨nl, List.map_take ▸ rlk, List.map_take ▸ rlv, rlc, Or.inr t1⟩
    · exact ⟨nr, List.map_drop ▸ rrk, List.map_drop ▸ rrv, rrc, Or.inr t2⟩

theorem split_kinds {x : SNode K V C} {kvs : List (K × V)} {kids : List C} (hr : NodeRep x kvs kids) (e : Nat)
    {afterK : Option C} (h : kids = [] ∨ afterK.isSome = true) (hdc : TreeSlots.amalgamChildDec = true) :
    ∃ allc, kids = [] ∧ allc = [] ∨ kids.length = kvs.length + 1 ∧ TreeSlots.amalgamChildDec = true ∧
      ∃ r, afterK = some r ∧ allc = kids.take (e + 1) ++ r :: kids.drop (e + 1) := by
  rcases hr.hshape with hk | hint
  · exact ⟨[], Or.inl ⟨hk, rfl⟩⟩
  · rcases h with hk | hs
    · rw [hk] at hint; cases hint
    · obtain ⟨r, rfl⟩ := Option.isSome_iff_exists.mp hs
      exact ⟨_, Or.inr ⟨hint, hdc, r, rfl, rfl⟩⟩

end

end Juniper.Proofs.TreeSlotsOps
