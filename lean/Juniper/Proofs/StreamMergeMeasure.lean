import Juniper.Proofs.StreamMergeOnce
/-! The measures of `stream.Merge` and its runs. `nuU` (remaining work of every goroutine plus that of the consumer's
pending call) is decreased by every step but a new call of the consumer and is at most `10·k + 6`; `nu` is `nuU` while
`Close` is in progress, `nu2` its goroutine part. So runs without a new call are bounded, and enabledness plus a measure
give a run of steps that need no further input (`InternalRun`). -/
namespace Juniper.Proofs.StreamMerge
open Juniper.Model.StreamMerge
variable {V : Type}

def cRank : CPc → Nat
  | .closing rest => rest.length
  | _ => 0

/-- Termination measure: remaining work of every goroutine plus the remaining statements of `Close`. -/
def nu (s : St V) : Nat := sumBy (fun g => rank g.pc) s.gs + cRank s.cpc

/-- A hand-over takes its goroutine from `send` (rank 6) back to `next` (rank 10), so the pending `Next` it ends weighs
more than 4; with a live context one more, for `cExpire`. -/
def cRankU : CPc → Nat
  | .closing rest => rest.length
  | .inNext live => if live then 6 else 5
  | .idle => 0

def nuU (s : St V) : Nat := sumBy (fun g => rank g.pc) s.gs + cRankU s.cpc

def nu2 (s : St V) : Nat := sumBy (fun g => rank g.pc) s.gs

def isCall : Label V → Bool
  | .cCall _ => true
  | .cClose => true
  | _ => false

/-- `ho`: the context ends only through `cancel()`, so the environment label `ctxEnds`, which would not decrease
`nuU`, is dead. -/
theorem nuU_decreases {s s' : St V} {l : Label V} (ho : s.origin = .plainCancel) (h : step s l = some s')
    (hl : isCall l = false) : nuU s' < nuU s := by
  rcases step_cases h with ⟨i, g, g', sh, hg, t, rfl⟩ | c
  · have hsum := sumBy_set (fun g => rank g.pc) s.gs i g' g hg
    show sumBy (fun g => rank g.pc) (s.gs.set i g') + cRankU sh.cpc < nuU s
    unfold nuU
    rcases t.handoff with ⟨hc, _, _, hr⟩ | ⟨v, live, hp, rfl, hc, hc', _⟩
    · rw [hc]; omega
    · have h5 : 5 ≤ cRankU (.inNext live) := by cases live <;> decide
      have h0 : cRankU .idle = 0 := rfl
      have h6 : rank g.pc = 6 := by rw [hp]; rfl
      have h10 : rank (again g).pc = 10 := rfl
      rw [hc, hc']; omega
  · cases c with
    | call live hp | close hp => cases hl
    | endd live hp _ => cases live <;> simp [nuU, hp, cRankU]
    | ctx hp | expire hp | closeInner rest hp | closeCancel rest hp | closeWait rest hp _ =>
      simp [nuU, hp, cRankU]
    | ctxEnds ho' _ => exact absurd ho ho'

theorem after_close_decreases {s s' : St V} {l : Label V} {rest : List CloseStep}
    (ho : s.origin = .plainCancel) (hc : s.cpc = .closing rest) (h : step s l = some s') :
    nu s' < nu s ∧ ∃ rest', s'.cpc = .closing rest' := by
  have hcl : isCall l = false ∧ ∃ rest', s'.cpc = .closing rest' := by
    rcases step_cases h with ⟨i, g, g', sh, hg, t, rfl⟩ | c
    · rcases t.handoff with ⟨h1, _⟩ | ⟨_, _, _, _, h1, _⟩
      · exact ⟨by cases t <;> rfl, rest, h1.trans hc⟩
      · rw [hc] at h1; cases h1
    · cases c with
      | call live hp | close hp | endd live hp _ | ctx hp | expire hp => rw [hc] at hp; cases hp
      | closeInner r hp | closeCancel r hp | closeWait r hp _ => exact ⟨rfl, r, rfl⟩
      | ctxEnds ho' _ => exact absurd ho ho'
  obtain ⟨hl, rest', hc'⟩ := hcl
  have := nuU_decreases ho h hl
  refine ⟨?_, rest', hc'⟩
  simpa [nu, nuU, hc, hc', cRank, cRankU] using this

theorem rank_le {g : G V} (h : LocalOK g) : rank g.pc ≤ 10 := by
  have hs := h.shape
  cases hp : g.pc with
  | next => simp [rank]
  | gotErr e => simp [rank]
  | send v => simp [rank]
  | finished => simp [rank]
  | won e r =>
    rw [hp] at hs
    rcases hs with rfl | rfl | rfl <;> simp [rank]
  | exiting r =>
    rw [hp] at hs
    rcases hs with rfl | ⟨d, rfl⟩ | rfl | rfl | rfl <;> simp [rank, wE]

theorem nuU_le {k : Nat} {s : St V} (hI : Inv k s) : nuU s ≤ 10 * k + 6 := by
  have h1 := sumBy_le (fun g : G V => rank g.pc) 10 s.gs (fun g hg => rank_le (hI.localOK g hg))
  rw [hI.length_eq] at h1
  have h2 : cRankU s.cpc ≤ 6 := by
    cases hc : s.cpc with
    | idle => simp [cRankU]
    | inNext live => cases live <;> simp [cRankU]
    | closing rest =>
      rcases hI.stage rest hc with rfl | rfl | ⟨rfl, _⟩ | ⟨rfl, _⟩ <;> simp [cRankU]
  unfold nuU; omega

theorem isRun : LTS.IsRun (step (V := V)) run :=
  ⟨fun _ => rfl, fun s l ls => by simp only [run]; cases step s l <;> rfl⟩

theorem run_nuU {ls : List (Label V)} {s s' : St V} (ho : s.origin = .plainCancel) (h : run s ls = some s')
    (hl : ∀ l ∈ ls, isCall l = false) : ls.length + nuU s' ≤ nuU s :=
  (isRun.measure (P := fun s => s.origin = .plainCancel)
    (fun ho hl h => ⟨nuU_decreases ho h hl, (step_origin h).trans ho⟩) h hl ho).1

/-- Labels of the list are taken from `internalLabels` of the states they are applied to. -/
def InternalRun : St V → List (Label V) → Prop
  | _, [] => True
  | s, l :: ls => l ∈ internalLabels s ∧ ∀ s', step s l = some s' → InternalRun s' ls

theorem InternalRun.of_path {s s' : St V} {ls : List (Label V)}
    (h : LTS.Path step (fun s l => l ∈ internalLabels s) s ls s') : InternalRun s ls := by
  induction h with
  | nil => trivial
  | cons hl hs _ ih => exact ⟨hl, fun s2 hs2 => by rw [hs] at hs2; cases hs2; exact ih⟩

theorem exists_internal_run {P Q : St V → Prop} (m : St V → Nat)
    (hstep : ∀ s, P s → ¬ Q s → ∃ l s1, l ∈ internalLabels s ∧ step s l = some s1 ∧ (Q s1 ∨ (m s1 < m s ∧ P s1)))
    {s : St V} (hp : P s) : ∃ ls s', run s ls = some s' ∧ InternalRun s ls ∧ Q s' :=
  let ⟨ls, s', h, hq, _⟩ := LTS.exists_path hstep hp
  ⟨ls, s', isRun.of_path h, .of_path h, hq⟩

theorem reach_of_run {s0 s : St V} (ls : List (Label V)) {s1 : St V} (h : Reach s0 s1) (hr : run s1 ls = some s) :
    Reach s0 s :=
  isRun.reach (fun h hs => .step _ h hs) h hr

theorem exists_reach_of_run {s0 : St V} {P : St V → Prop} (ls : List (Label V))
    (h : ∃ s, s ∈ run s0 ls ∧ P s) : ∃ s, Reach s0 s ∧ P s :=
  isRun.exists_reach (fun h hs => .step _ h hs) .refl ls h

theorem isCall_of_internal {s : St V} {l : Label V} (h : l ∈ internalLabels s) : isCall l = false := by
  simp only [internalLabels, List.mem_append, List.mem_cons, List.mem_flatMap, List.mem_range, List.not_mem_nil,
    or_false] at h
  rcases h with (rfl | rfl | rfl) | ⟨i, _, rfl | rfl | rfl | rfl | rfl | rfl⟩ <;> rfl

theorem internal_ne_cExpire {s : St V} {l : Label V} (h : l ∈ internalLabels s) : l ≠ .cExpire := by
  intro hh
  subst hh
  simp [internalLabels] at h

def NextOutcome (s0 s : St V) : Prop :=
  ((∃ live, s.cpc = .inNext live) ∧ s.results = s0.results) ∨ (s.cpc = .idle ∧ ∃ r, s.results = s0.results ++ [r])

theorem step_consumer {s s' : St V} {l : Label V} (h : step s l = some s') :
    ((s'.cpc = s.cpc ∨ (s.cpc = .inNext true ∧ s'.cpc = .inNext false)) ∧ s'.results = s.results) ∨
    ((∃ live, s.cpc = .inNext live) ∧ s'.cpc = .idle ∧ ∃ r, s'.results = s.results ++ [r]) ∨
    (isCall l = true) ∨ (∃ x rest, s.cpc = .closing (x :: rest)) := by
  rcases step_cases h with ⟨i, g, g', sh, hg, t, rfl⟩ | c
  · rcases t.handoff with ⟨hc, _, hr, _⟩ | ⟨v, live, _, _, hc, hc', _, hr⟩
    · exact .inl ⟨.inl hc, hr⟩
    · exact .inr (.inl ⟨⟨live, hc⟩, hc', _, hr⟩)
  · cases c with
    | call live hp | close hp => exact .inr (.inr (.inl rfl))
    | endd live hp _ => exact .inr (.inl ⟨⟨live, hp⟩, rfl, _, rfl⟩)
    | ctx hp => exact .inr (.inl ⟨⟨false, hp⟩, rfl, _, rfl⟩)
    | expire hp => exact .inl ⟨.inr ⟨hp, rfl⟩, rfl⟩
    | closeInner rest hp | closeCancel rest hp | closeWait rest hp _ => exact .inr (.inr (.inr ⟨_, rest, hp⟩))
    | ctxEnds _ _ => exact .inl ⟨.inl rfl, rfl⟩

theorem nextOutcome_step {s0 s s' : St V} {l : Label V} (hp : NextOutcome s0 s) (hl : isCall l = false)
    (h : step s l = some s') : NextOutcome s0 s' := by
  rcases step_consumer h with ⟨h1, h2⟩ | ⟨⟨live, h1⟩, h2, r, h3⟩ | hcall | ⟨x, rest, hc⟩
  · rcases h1 with h1 | ⟨h0, h1⟩
    · rcases hp with ⟨⟨live, hp⟩, hr⟩ | ⟨hp, r, hr⟩
      · exact .inl ⟨⟨live, by rw [h1, hp]⟩, by rw [h2, hr]⟩
      · exact .inr ⟨by rw [h1, hp], r, by rw [h2, hr]⟩
    · rcases hp with ⟨_, hr⟩ | ⟨hp, _⟩
      · exact .inl ⟨⟨false, h1⟩, by rw [h2, hr]⟩
      · rw [hp] at h0; cases h0
  · rcases hp with ⟨_, hr⟩ | ⟨hp, _⟩
    · exact .inr ⟨h2, r, by rw [h3, hr]⟩
    · rw [hp] at h1; cases h1
  · rw [hl] at hcall; cases hcall
  · rcases hp with ⟨⟨live, hp⟩, _⟩ | ⟨hp, _⟩ <;> (rw [hp] at hc; cases hc)

end Juniper.Proofs.StreamMerge
