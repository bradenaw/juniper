import Juniper.Proofs.ParDoState
/-! Inductive invariants of the `parallel.Do` / `DoContext` LTS, part 3: error provenance — whatever
errgroup records, a worker returns or the call returns is an error that a call of `f` returned or the
caller's own context error; never the cancellation the errgroup caused itself. -/

namespace Juniper.Proofs.ParDo
open Juniper.Gen Juniper.Model.ParDo

/-- an error that a call of `f` returned, or the caller's context error after the caller cancelled -/
def good (s : St) (e : Err) : Prop :=
  (∃ k i, e = .f k ∧ (i, Res.err k) ∈ s.ended) ∨ (e = .ctxCaller ∧ s.callerCancelled = true)

/-- … or the errgroup's own cancellation, seen by a worker after errgroup has recorded an error -/
def goodOrLib (s : St) (e : Err) : Prop := good s e ∨ (e = .ctxLib ∧ s.egErr ≠ none)

structure ErrInv (cfg : Cfg) (s : St) : Prop where
  egErr_good : ∀ e, s.egErr = some e → good s e
  worker_good : ∀ e, Pc.retErr e ∈ s.ws → goodOrLib s e
  ret_good : ∀ e, s.ret = some (some e) → good s e

theorem errInv_init (cfg : Cfg) : ErrInv cfg (init cfg) := by
  unfold init
  split <;> refine ⟨nofun, ?_, nofun⟩ <;> simp
  split <;> simp

/-- `ended` only grows and the caller's cancellation is never undone -/
theorem Step.good_mono {cfg : Cfg} {s s' : St} {l : Label} (h : Step cfg s l s') {e : Err} (hg : good s e) :
    good s' e := by
  cases h with
  | fEndErr | fEndSeqNext | fEndSeqLast | fEndPar =>
    exact hg.imp_left fun ⟨k, i, he, hm⟩ => ⟨k, i, he, List.mem_append_left _ hm⟩
  | callerCancel => exact hg.imp_right fun ⟨he, _⟩ => ⟨he, rfl⟩
  | _ => exact hg

theorem Step.goodOrLib_mono {cfg : Cfg} {s s' : St} {l : Label} (h : Step cfg s l s') {e : Err}
    (hg : goodOrLib s e) : goodOrLib s' e :=
  hg.imp h.good_mono fun ⟨he, hn⟩ => ⟨he, by cases h <;> first | exact hn | nofun⟩

theorem errInv_step {cfg : Cfg} {s s' : St} {l : Label} (hState : StateInv cfg s) (hi : ErrInv cfg s)
    (h : Step cfg s l s') : ErrInv cfg s' := by
  obtain ⟨iEgErr, iWorker, iRet⟩ := hi
  refine ⟨fun e he => h.good_mono ?_, fun e he => ?_, fun e he => h.good_mono ?_⟩
  · cases h with
    | egFirst hw _ hn =>
      obtain rfl := Option.some.inj he
      exact (iWorker _ (List.mem_of_getElem? hw)).resolve_right fun ⟨_, h⟩ => h hn
    | _ => exact iEgErr e he
  · have old : Pc.retErr e ∈ s.ws → goodOrLib s' e := fun hm => h.goodOrLib_mono (iWorker e hm)
    cases h with
    | @checkSkip _ _ c _ _ hd =>
      refine (List.mem_or_eq_of_mem_set he).elim old fun hc => ?_
      obtain rfl := Pc.retErr.inj hc
      cases c
      · exact .inl (.inr ⟨rfl, hState.cause.2 hd⟩)
      · exact .inr ⟨rfl, hState.cause.1 hd⟩
    | fEndErr =>
      refine (List.mem_or_eq_of_mem_set he).elim old fun hc => ?_
      obtain rfl := Pc.retErr.inj hc
      exact .inl (.inl ⟨_, _, rfl, List.mem_append_right _ (List.mem_singleton_self _)⟩)
    | retSeqErr => cases List.mem_singleton.1 he
    | callerCancel | retSeq | retPar => exact old he
    | fetchDone | fetchCheck | fetchCall | checkPass | «begin» | fEndSeqNext | fEndSeqLast | fEndPar | egFirst
    | egLater => exact (List.mem_or_eq_of_mem_set he).elim old nofun
  · cases h with
    | retSeq => cases he
    | retSeqErr _ hq hws =>
      obtain rfl := Option.some.inj (Option.some.inj he)
      exact (iWorker _ (hws ▸ List.mem_singleton_self _)).resolve_right fun ⟨_, h⟩ => h (hState.seqPath hq).egErr
    | retPar => exact iEgErr e (Option.some.inj he)
    | _ => exact iRet e he

end Juniper.Proofs.ParDo
