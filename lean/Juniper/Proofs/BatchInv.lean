import Juniper.Proofs.BatchBase
/-!
C11: the inductive invariant of the `stream.Batch` LTS, for every `maxWait` and every `full`. It has five parts
(`CtlInv`: control state, timer, clock; `LogInv`: the ghost logs; `EndInv`: how the stream ends, the source's
`Next`/`Close` log; `WaitInv`: an announced consumer is not forgotten; `BgInv`: the background context ends only
through `Close`), each preserved by every `Step`, and `Inv` holds of every reachable state. A step preserves a
part field by field: `{ hi with f := … }` proves again the fields that read a component the step writes and keeps
the rest, so a notion used inside a field has to unfold (a `def`, not a `structure`).
-/
namespace Juniper.Proofs.Batch
open Juniper.Model.Batch

/-- The timer is the one for the batch being built: if it runs or has fired, its channel is what the loop's
`select` listens on and the batch is non-empty; its deadline is `batchStart + maxWait` or has already passed.
(A conjunction, not a structure: a step that writes none of these components keeps it by `{ hi with }`.) -/
def TimerOK (cfg : Cfg) (s : State) : Prop :=
  (s.timer ≠ .idle → s.timerCSet = true ∧ 0 < s.batch.length) ∧
  (∀ t, s.timer = .armed t →
    t = s.batchStart + cfg.maxWait ∨ (s.batchStart + cfg.maxWait ≤ t ∧ t ≤ s.now)) ∧
  (s.timer = .fired → s.batchStart + cfg.maxWait ≤ s.now)

theorem TimerOK.of_idle {cfg : Cfg} {s : State} (h : s.timer = .idle) : TimerOK cfg s :=
  ⟨fun hn => absurd h hn, fun _ ht => (nomatch h.symm.trans ht), fun ht => nomatch h.symm.trans ht⟩

theorem TimerOK.fresh {cfg : Cfg} {s : State} (ht : s.timer = .armed (s.batchStart + cfg.maxWait))
    (hs : s.timerCSet = true) (hl : 0 < s.batch.length) : TimerOK cfg s :=
  ⟨fun _ => ⟨hs, hl⟩, fun _ h => .inl (Timer.armed.inj (ht.symm.trans h)).symm,
    fun h => nomatch ht.symm.trans h⟩

theorem TimerOK.chan {cfg : Cfg} {s : State} (h : TimerOK cfg s) (ht : s.timer ≠ .idle) : s.timerCSet = true :=
  (h.1 ht).1
theorem TimerOK.nonempty {cfg : Cfg} {s : State} (h : TimerOK cfg s) (ht : s.timer ≠ .idle) : 0 < s.batch.length :=
  (h.1 ht).2
theorem TimerOK.deadline {cfg : Cfg} {s : State} (h : TimerOK cfg s) {t : Nat} (ht : s.timer = .armed t) :
    t = s.batchStart + cfg.maxWait ∨ (s.batchStart + cfg.maxWait ≤ t ∧ t ≤ s.now) := h.2.1 t ht
theorem TimerOK.due {cfg : Cfg} {s : State} (h : TimerOK cfg s) (ht : s.timer = .fired) :
    s.batchStart + cfg.maxWait ≤ s.now := h.2.2 ht

structure CtlInv (cfg : Cfg) (s : State) : Prop where
  closed_idle : s.bgCancelled = true → s.cons = .idle
  flush_timer_idle : ∀ r, s.bpc = .flush r → r ≠ .srcEnd → s.timer = .idle
  timer_ok : (s.bpc = .sel ∨ s.bpc = .inFull) → TimerOK cfg s
  inFull_timer_len : s.bpc = .inFull → s.timer ≠ .idle → 2 ≤ s.batch.length
  flush_nonempty : ∀ r, s.bpc = .flush r → 0 < s.batch.length
  inFull_nonempty : s.bpc = .inFull → 0 < s.batch.length
  firstAt_le_now : s.firstAt ≤ s.now
  flush_waited : (s.bpc = .flush .timer ∨ s.bpc = .flush .waiter) → s.batchStart + cfg.maxWait ≤ s.now

theorem ctlInv_step {cfg : Cfg} {s s' : State} {l : Label} (hi : CtlInv cfg s) (h : Step cfg s l s') :
    CtlInv cfg s' := by
  cases h with
  | nextCall live hc hbg => exact { hi with closed_idle := fun h => nomatch hbg.symm.trans h }
  | tick d =>
    exact { hi with
      firstAt_le_now := Nat.le_add_right_of_le hi.firstAt_le_now
      timer_ok := fun hb =>
        have h := hi.timer_ok hb
        ⟨h.1, fun _ ht => (h.deadline ht).imp_right fun h => ⟨h.1, Nat.le_add_right_of_le h.2⟩,
          fun ht => Nat.le_add_right_of_le (h.due ht)⟩
      flush_waited := fun hb => Nat.le_add_right_of_le (hi.flush_waited hb) }
  | close hbg hc => exact { hi with closed_idle := fun _ => hc }
  | prodSend v hp hb =>
    have h := hi.timer_ok (.inl hb)
    exact { hi with
      flush_timer_idle := fun _ h => nomatch h
      timer_ok := fun _ => ⟨fun ht => ⟨h.chan ht, by simp⟩, h.2⟩
      inFull_timer_len := fun _ ht => by have := h.nonempty ht; simp; omega
      flush_nonempty := fun _ h => nomatch h
      inFull_nonempty := fun _ => by simp
      firstAt_le_now := by dsimp only; split; exact Nat.le_refl _; exact hi.firstAt_le_now
      flush_waited := nofun }
  | fullYes hb hf =>
    exact { hi with
      flush_timer_idle := fun _ _ _ => rfl
      timer_ok := nofun, inFull_timer_len := nofun
      flush_nonempty := fun _ _ => hi.inFull_nonempty hb
      inFull_nonempty := nofun, flush_waited := nofun }
  | fullNoFirstWaited hb hf h1 hw =>
    exact { hi with
      flush_timer_idle := nofun, inFull_timer_len := nofun, flush_nonempty := nofun, inFull_nonempty := nofun
      flush_waited := nofun
      timer_ok := fun _ => .fresh rfl rfl (hi.inFull_nonempty hb) }
  | fullNoFirst hb hf h1 hw =>
    have ht : s.timer = .idle := Decidable.byContradiction fun h => by have := hi.inFull_timer_len hb h; omega
    exact { hi with
      flush_timer_idle := nofun, inFull_timer_len := nofun, flush_nonempty := nofun, inFull_nonempty := nofun
      flush_waited := nofun
      timer_ok := fun _ => .of_idle ht }
  | fullNoLater hb hf h1 =>
    exact { hi with
      flush_timer_idle := nofun, inFull_timer_len := nofun, flush_nonempty := nofun, inFull_nonempty := nofun
      flush_waited := nofun
      timer_ok := fun _ => hi.timer_ok (.inr hb) }
  | recvCClosedFlush hb hc hlen =>
    exact { hi with
      flush_timer_idle := fun _ h hne => absurd (BPc.flush.inj h).symm hne
      timer_ok := nofun, inFull_timer_len := nofun, inFull_nonempty := nofun, flush_waited := nofun
      flush_nonempty := fun _ _ => hlen }
  | recvTimer hb ht hset =>
    have h := hi.timer_ok (.inl hb)
    exact { hi with
      flush_timer_idle := fun _ _ _ => rfl
      timer_ok := nofun, inFull_timer_len := nofun, inFull_nonempty := nofun
      flush_nonempty := fun _ _ => h.nonempty (by rw [ht]; nofun)
      flush_waited := fun _ => h.due ht }
  | recvCClosedExit | flushAbort | batchExit =>
    exact { hi with
      flush_timer_idle := nofun, timer_ok := nofun, inFull_timer_len := nofun, flush_nonempty := nofun
      inFull_nonempty := nofun, flush_waited := nofun }
  | announceElapsed hc hb hlen hel =>
    exact { hi with
      closed_idle := fun h => nomatch hc.symm.trans (hi.closed_idle h)
      flush_timer_idle := fun _ _ _ => rfl
      timer_ok := nofun, inFull_timer_len := nofun, inFull_nonempty := nofun
      flush_nonempty := fun _ _ => hlen
      flush_waited := fun _ => Nat.le_of_lt hel }
  | announceArm hc hb hlen hle =>
    exact { hi with
      closed_idle := fun h => nomatch hc.symm.trans (hi.closed_idle h)
      flush_timer_idle := fun _ h => nomatch hb.symm.trans h
      timer_ok := fun _ => .fresh rfl rfl hlen
      inFull_timer_len := fun h => nomatch hb.symm.trans h }
  | announceEmpty hc hb hlen => exact { hi with closed_idle := fun h => nomatch hc.symm.trans (hi.closed_idle h) }
  | deliver r hb hc hr =>
    exact { hi with
      closed_idle := fun _ => rfl
      flush_timer_idle := nofun, inFull_timer_len := nofun, flush_nonempty := nofun, inFull_nonempty := nofun
      flush_waited := nofun
      timer_ok := fun _ => .of_idle (hi.flush_timer_idle r hb hr) }
  | deliverEnd hb hc =>
    exact { hi with
      closed_idle := fun _ => rfl
      flush_timer_idle := nofun, timer_ok := nofun, inFull_timer_len := nofun, flush_nonempty := nofun
      inFull_nonempty := nofun, flush_waited := nofun }
  | consClosed | consCtx => exact { hi with closed_idle := fun _ => rfl }
  | timerExpire t ht hle =>
    have hne : s.timer ≠ .idle := by rw [ht]; nofun
    exact { hi with
      flush_timer_idle := fun r hb hr => absurd (hi.flush_timer_idle r hb hr) hne
      timer_ok := fun hb =>
        have h := hi.timer_ok hb
        ⟨fun _ => h.1 hne, nofun,
          fun _ => (h.deadline ht).elim (fun h => h ▸ hle) fun h => Nat.le_trans h.1 h.2⟩
      inFull_timer_len := fun hb _ => hi.inFull_timer_len hb hne }
  | _ => exact { hi with }

theorem CtlInv.live {cfg : Cfg} {s : State} (h1 : CtlInv cfg s) (hc : s.cons ≠ .idle) : s.bgCancelled = false :=
  Bool.eq_false_iff.2 fun h => hc (h1.closed_idle h)

def flat (d : List Delivered) : List Nat := (d.map (·.items)).flatten

/-- The item the producer holds while blocked at the hand-off to the batcher. -/
def inTransit (s : State) : List Nat :=
  match s.ppc with
  | .send v => [v]
  | _ => []

def batchesOf (rs : List Res) : List (List Nat) :=
  rs.filterMap fun r => match r with | .batch b => some b | _ => none

@[simp] theorem flat_nil : flat [] = [] := rfl
@[simp] theorem flat_append (a b : List Delivered) : flat (a ++ b) = flat a ++ flat b := by
  simp [flat]
@[simp] theorem flat_single (d : Delivered) : flat [d] = d.items := by simp [flat]
@[simp] theorem batchesOf_nil : batchesOf [] = [] := rfl
@[simp] theorem batchesOf_append (a b : List Res) : batchesOf (a ++ b) = batchesOf a ++ batchesOf b := by
  simp [batchesOf]
@[simp] theorem batchesOf_batch (b : List Nat) : batchesOf [.batch b] = [b] := rfl
@[simp] theorem batchesOf_ctx : batchesOf [.ctxErr] = [] := rfl
@[simp] theorem batchesOf_end : batchesOf [.endOK] = [] := rfl
@[simp] theorem batchesOf_err : batchesOf [.srcErr] = [] := rfl

structure LogInv (cfg : Cfg) (s : State) : Prop where
  partition : s.bgCancelled = false → flat s.delivered ++ s.batch ++ inTransit s = s.pulled
  handed_prefix : flat s.delivered <+: s.pulled
  results_eq : batchesOf s.results = s.delivered.map (·.items)
  delivered_nonempty : ∀ d ∈ s.delivered, 0 < d.items.length
  delivered_waited : ∀ d ∈ s.delivered, (d.reason = .timer ∨ d.reason = .waiter) →
    d.start + cfg.maxWait ≤ d.time ∧ d.firstAt ≤ d.start
  delivered_full : ∀ d ∈ s.delivered, d.reason = .full → cfg.fullOK d.items true = true
  firstAt_le_start :
    (s.bpc = .sel ∨ s.bpc = .flush .timer ∨ s.bpc = .flush .waiter ∨ (s.bpc = .inFull ∧ 2 ≤ s.batch.length)) →
    0 < s.batch.length → s.firstAt ≤ s.batchStart
  flush_full : s.bpc = .flush .full → cfg.fullOK s.batch true = true
  flush_srcEnd_closed : s.bpc = .flush .srcEnd → s.cClosed = true

theorem LogInv.delivered_of_mem {cfg : Cfg} {s : State} (h2 : LogInv cfg s) {b : List Nat}
    (hb : b ∈ batchesOf s.results) : ∃ d ∈ s.delivered, d.items = b :=
  List.mem_map.1 (h2.results_eq ▸ hb)

theorem logInv_handedOver {cfg : Cfg} {s : State} {r : Reason} (h1 : CtlInv cfg s) (hi : LogInv cfg s)
    (hb : s.bpc = .flush r) (hc : s.cons ≠ .idle) {b : BPc} (hb' : b = .sel ∨ b = .exit) :
    LogInv cfg (handedOver s r b) :=
  have hlen := h1.flush_nonempty r hb
  { partition := fun h => show flat (s.delivered ++ [_]) ++ [] ++ inTransit s = s.pulled by simpa using hi.partition h
    handed_prefix := show flat (s.delivered ++ [_]) <+: s.pulled by
      rw [← hi.partition (h1.live hc), flat_append, flat_single, List.append_assoc]
      exact (List.prefix_append_right_inj _).2 (List.prefix_append _ _)
    results_eq := by simp [hi.results_eq]
    delivered_nonempty := forall_mem_snoc hi.delivered_nonempty hlen
    delivered_waited := forall_mem_snoc hi.delivered_waited fun (hr : r = .timer ∨ r = .waiter) =>
      have hf : s.bpc = .flush .timer ∨ s.bpc = .flush .waiter :=
        hr.imp (fun (h : r = .timer) => h ▸ hb) fun (h : r = .waiter) => h ▸ hb
      ⟨h1.flush_waited hf, hi.firstAt_le_start (.inr (hf.imp_right .inl)) hlen⟩
    delivered_full := forall_mem_snoc hi.delivered_full fun (hr : r = .full) => hi.flush_full (hr ▸ hb)
    firstAt_le_start := fun _ h => absurd h (Nat.lt_irrefl 0)
    flush_full := fun h => by rcases hb' with rfl | rfl <;> cases h
    flush_srcEnd_closed := fun h => by rcases hb' with rfl | rfl <;> cases h }

theorem logInv_step {cfg : Cfg} {s s' : State} {l : Label} (h1 : CtlInv cfg s) (hi : LogInv cfg s)
    (h : Step cfg s l s') : LogInv cfg s' := by
  cases h with
  | srcItem v hp =>
    exact { hi with
      partition := fun h => by rw [← hi.partition h]; simp [inTransit, hp]
      handed_prefix := hi.handed_prefix.trans (List.prefix_append _ _) }
  | srcEof hp | srcErr hp | srcCancelErr w hp | prodCloseSrc hp =>
    exact { hi with partition := fun h => by simpa [inTransit, hp] using hi.partition h }
  | srcCancelOwn _ hbg | prodCancelled _ hbg | prodSendCancel _ _ hbg =>
    exact { hi with partition := fun h => nomatch hbg.symm.trans h }
  | close => exact { hi with partition := nofun }
  | prodSend v hp hb =>
    exact { hi with
      partition := fun h => by simpa [inTransit, hp] using hi.partition h
      firstAt_le_start := fun h _ => by
        have hl : 1 ≤ s.batch.length := by simpa using h
        simpa [List.ne_nil_of_length_pos hl] using hi.firstAt_le_start (.inl hb) hl
      flush_full := nofun, flush_srcEnd_closed := nofun }
  | prodCloseC hp =>
    exact { hi with
      partition := fun h => by simpa [inTransit, hp] using hi.partition h
      flush_srcEnd_closed := fun _ => rfl }
  | fullYes hb hf =>
    exact { hi with
      firstAt_le_start := nofun, flush_full := fun _ => hf, flush_srcEnd_closed := nofun }
  | fullNoFirstWaited | fullNoFirst =>
    exact { hi with
      firstAt_le_start := fun _ _ => h1.firstAt_le_now, flush_full := nofun, flush_srcEnd_closed := nofun }
  | fullNoLater hb _ hl =>
    exact { hi with
      firstAt_le_start := fun _ (hp : 0 < s.batch.length) =>
        hi.firstAt_le_start (.inr (.inr (.inr ⟨hb, by omega⟩))) hp
      flush_full := nofun, flush_srcEnd_closed := nofun }
  | recvCClosedFlush _ hc =>
    exact { hi with
      firstAt_le_start := nofun, flush_full := nofun, flush_srcEnd_closed := fun _ => hc }
  | recvCClosedExit | flushAbort | batchExit =>
    exact { hi with
      firstAt_le_start := nofun, flush_full := nofun, flush_srcEnd_closed := nofun }
  | recvTimer hb | announceElapsed _ hb =>
    exact { hi with
      firstAt_le_start := fun _ => hi.firstAt_le_start (.inl hb), flush_full := nofun
      flush_srcEnd_closed := nofun }
  | deliver r hb hc => exact logInv_handedOver h1 hi hb hc (.inl rfl)
  | deliverEnd hb hc => exact logInv_handedOver h1 hi hb hc (.inr rfl)
  | consClosed => exact { hi with results_eq := by dsimp only; split <;> simpa using hi.results_eq }
  | consCtx => exact { hi with results_eq := by simpa using hi.results_eq }
  | _ => exact { hi with }

/-! How the stream ends (the source's end / error reaches the consumer after everything that preceded it), and
the source's `Next` / `Close` log -/

/-- What holds of `c`, of the source's log and of `Close` at each program point of the producer: inside its
loop the source has not ended and `c` is open; it leaves the loop only on the source's end / error or after
`Close`; the deferred calls close `c`, then the source (once), and only then can `wg.Wait()` return. -/
abbrev ProdAt (s : State) : PPc → Prop
  | .next | .send _ => s.cClosed = false ∧ s.srcTerm = none ∧ s.srcCloses = 0 ∧ s.closeReturned = false
  | .closeC =>
    s.cClosed = false ∧ (s.srcTerm ≠ none ∨ s.bgCancelled = true) ∧ s.srcCloses = 0 ∧ s.closeReturned = false
  | .closeSrc =>
    s.cClosed = true ∧ (s.srcTerm ≠ none ∨ s.bgCancelled = true) ∧ s.srcCloses = 0 ∧ s.closeReturned = false
  | .done => s.cClosed = true ∧ (s.srcTerm ≠ none ∨ s.bgCancelled = true) ∧ s.srcCloses = 1

structure EndInv (s : State) : Prop where
  prod : ProdAt s s.ppc
  batchC_closed_done : s.batchCClosed = true → s.bpc = .done
  done_batchC_closed : s.bpc = .done → s.batchCClosed = true
  err_iff : s.err = true ↔ s.srcTerm = some .err
  srcTerm_cases : s.srcTerm = none ∨ s.srcTerm = some .eof ∨ s.srcTerm = some .err
  gone_drained : (s.bpc = .exit ∨ s.bpc = .done) → s.bgCancelled = false → s.batch = [] ∧ s.cClosed = true
  no_next_after_close : s.srcNextAfterClose = false
  reported_all : ∀ r ∈ s.results, (r = .endOK ∨ r = .srcErr) →
    s.batchCClosed = true ∧ s.cClosed = true ∧ flat s.delivered = s.pulled
  endOK_eof : .endOK ∈ s.results → s.srcTerm = some .eof
  srcErr_err : .srcErr ∈ s.results → s.srcTerm = some .err
  delivered_srcEnd : ∀ d ∈ s.delivered, d.reason = .srcEnd → s.srcTerm ≠ none

theorem EndInv.returned_all {cfg : Cfg} {s : State} (h3 : EndInv s) (h2 : LogInv cfg s) {r : Res}
    (hr : r ∈ s.results) (he : r = .endOK ∨ r = .srcErr) : (batchesOf s.results).flatten = s.pulled := by
  rw [h2.results_eq]
  exact (h3.reported_all r hr he).2.2

theorem EndInv.at_ {s : State} (hi : EndInv s) {pc : PPc} (hp : s.ppc = pc) : ProdAt s pc :=
  hp ▸ hi.prod

theorem ProdAt.close {s : State} {pc : PPc} (h : ProdAt s pc) : ProdAt { s with bgCancelled := true } pc := by
  cases pc with
  | next | send => exact h
  | _ => exact ⟨h.1, .inr rfl, h.2.2⟩

/-- `c` is closed only by the producer's deferred `close(c)`, which it reaches only after the source's end /
error or after `Close`. -/
theorem EndInv.of_cClosed {s : State} (hi : EndInv s) (hc : s.cClosed = true) :
    (s.ppc = .closeSrc ∨ s.ppc = .done) ∧ (s.srcTerm ≠ none ∨ s.bgCancelled = true) := by
  have := hi.prod
  cases hp : s.ppc <;> rw [hp] at this
  case closeSrc => exact ⟨.inl rfl, this.2.1⟩
  case done => exact ⟨.inr rfl, this.2.1⟩
  all_goals exact nomatch this.1.symm.trans hc

theorem EndInv.srcCloses_eq {s : State} (hi : EndInv s) :
    s.srcCloses = if s.ppc = .done then 1 else 0 := by
  have := hi.prod
  cases hp : s.ppc <;> rw [hp] at this
  case done => exact this.2.2
  all_goals exact this.2.2.1

theorem EndInv.returned {s : State} (hi : EndInv s) (hr : s.closeReturned = true) :
    s.ppc = .done := by
  cases hp : s.ppc <;> first | rfl | exact nomatch (hi.at_ hp).2.2.2.symm.trans hr

theorem EndInv.running {s : State} (hi : EndInv s) (hb : s.bpc ≠ .done) : s.batchCClosed = false :=
  Bool.eq_false_iff.2 fun h => hb (hi.batchC_closed_done h)

/-- The hand-over: `batchC` is still open, so no `Next` has reported the end yet. -/
theorem endInv_handedOver {cfg : Cfg} {s : State} {r : Reason} (h1 : CtlInv cfg s) (h2 : LogInv cfg s)
    (hi : EndInv s) (hb : s.bpc = .flush r) (hc : s.cons ≠ .idle) {b : BPc}
    (hb' : b = .sel ∨ b = .exit ∧ r = .srcEnd) :
    EndInv (handedOver s r b) :=
  have hrun := hi.running (by rw [hb]; nofun)
  { hi with
    batchC_closed_done := fun h => nomatch hrun.symm.trans h
    done_batchC_closed := fun h => by rcases hb' with rfl | ⟨rfl, -⟩ <;> cases h
    gone_drained := fun hx _ => by
      rcases hb' with rfl | ⟨-, rfl⟩
      · exact hx.elim nofun nofun
      · exact ⟨rfl, h2.flush_srcEnd_closed hb⟩
    reported_all := forall_mem_snoc (fun r hr he => nomatch hrun.symm.trans (hi.reported_all r hr he).1) nofun
    endOK_eof := fun h => hi.endOK_eof (by simpa using h)
    srcErr_err := fun h => hi.srcErr_err (by simpa using h)
    delivered_srcEnd := forall_mem_snoc hi.delivered_srcEnd fun (hr : r = .srcEnd) =>
      (hi.of_cClosed (h2.flush_srcEnd_closed (hr ▸ hb))).2.resolve_right (by rw [h1.live hc]; nofun) }

theorem endInv_step {cfg : Cfg} {s s' : State} {l : Label} (h1 : CtlInv cfg s) (h2 : LogInv cfg s) (hi : EndInv s)
    (h : Step cfg s l s') : EndInv s' := by
  cases h with
  | srcItem v hp =>
    have hrow := hi.at_ hp
    exact { hi with
      prod := hrow
      no_next_after_close := by simp [hi.no_next_after_close, hrow.2.2.1]
      reported_all := fun r hr he => nomatch hrow.1.symm.trans (hi.reported_all r hr he).2.1 }
  | srcEof hp =>
    have hrow := hi.at_ hp
    exact { hi with
      prod := ⟨hrow.1, .inl nofun, hrow.2.2⟩
      err_iff := ⟨fun h => absurd (hi.err_iff.1 h) (hrow.2.1 ▸ nofun), nofun⟩
      srcTerm_cases := .inr (.inl rfl)
      no_next_after_close := by simp [hi.no_next_after_close, hrow.2.2.1]
      endOK_eof := fun _ => rfl
      srcErr_err := fun h => nomatch hrow.2.1.symm.trans (hi.srcErr_err h)
      delivered_srcEnd := fun _ _ _ => nofun }
  | srcErr hp | srcCancelErr w hp =>
    have hrow := hi.at_ hp
    exact { hi with
      prod := ⟨hrow.1, .inl nofun, hrow.2.2⟩
      err_iff := ⟨fun _ => rfl, fun _ => rfl⟩
      srcTerm_cases := .inr (.inr rfl)
      no_next_after_close := by simp [hi.no_next_after_close, hrow.2.2.1]
      endOK_eof := fun h => nomatch hrow.2.1.symm.trans (hi.endOK_eof h)
      srcErr_err := fun _ => rfl
      delivered_srcEnd := fun _ _ _ => nofun }
  | srcCancelOwn hp hbg | prodCancelled hp hbg | prodSendCancel _ hp hbg =>
    have hrow := hi.at_ hp
    exact { hi with
      prod := ⟨hrow.1, .inr hbg, hrow.2.2⟩
      no_next_after_close := by simp [hi.no_next_after_close, hrow.2.2.1] }
  | prodSend v hp hb =>
    exact { hi with
      prod := hi.at_ hp
      batchC_closed_done := fun h => nomatch hb.symm.trans (hi.batchC_closed_done h)
      done_batchC_closed := nofun
      gone_drained := nofun }
  | prodCloseC hp =>
    have hrow := hi.at_ hp
    exact { hi with
      prod := ⟨rfl, hrow.2⟩
      gone_drained := fun hb hbg => ⟨(hi.gone_drained hb hbg).1, rfl⟩
      reported_all := fun r hr he => ⟨(hi.reported_all r hr he).1, rfl, (hi.reported_all r hr he).2.2⟩ }
  | prodCloseSrc hp =>
    have hrow := hi.at_ hp
    exact { hi with prod := ⟨hrow.1, hrow.2.1, congrArg (· + 1) hrow.2.2.1⟩ }
  | close => exact { hi with prod := hi.prod.close, gone_drained := fun _ => nofun }
  | fullYes hb | fullNoFirstWaited hb | fullNoFirst hb | fullNoLater hb | recvCClosedFlush hb | recvTimer hb
  | announceElapsed _ hb =>
    exact { hi with
      batchC_closed_done := fun h => nomatch hb.symm.trans (hi.batchC_closed_done h)
      done_batchC_closed := nofun
      gone_drained := nofun }
  | recvCClosedExit hb hc hlen =>
    exact { hi with
      batchC_closed_done := fun h => nomatch hb.symm.trans (hi.batchC_closed_done h)
      done_batchC_closed := nofun
      gone_drained := fun _ _ => ⟨List.eq_nil_of_length_eq_zero hlen, hc⟩ }
  | flushAbort r hb hbg =>
    exact { hi with
      batchC_closed_done := fun h => nomatch hb.symm.trans (hi.batchC_closed_done h)
      done_batchC_closed := nofun
      gone_drained := fun _ h => nomatch hbg.symm.trans h }
  | batchExit hb =>
    exact { hi with
      batchC_closed_done := fun _ => rfl
      done_batchC_closed := fun _ => rfl
      gone_drained := fun _ => hi.gone_drained (.inl hb)
      reported_all := fun r hr he => ⟨rfl, (hi.reported_all r hr he).2⟩ }
  | deliver r hb hc => exact endInv_handedOver h1 h2 hi hb hc (.inl rfl)
  | deliverEnd hb hc => exact endInv_handedOver h1 h2 hi hb hc (.inr ⟨rfl, rfl⟩)
  | consClosed hc hcc =>
    -- the batcher is gone and nobody has called `Close`: the batch is empty, `c` is closed, so the
    -- producer has left its loop after the source's end or error, and everything pulled was handed out
    have hbg := h1.live hc
    obtain ⟨hnil, hccl⟩ := hi.gone_drained (.inr (hi.batchC_closed_done hcc)) hbg
    obtain ⟨hp, hterm⟩ := hi.of_cClosed hccl
    replace hterm : s.srcTerm ≠ none := hterm.resolve_right (by rw [hbg]; nofun)
    have hall : flat s.delivered = s.pulled := by
      have := h2.partition hbg
      rcases hp with hp | hp <;> simpa [hnil, inTransit, hp] using this
    exact { hi with
      reported_all := forall_mem_snoc hi.reported_all fun _ => ⟨hcc, hccl, hall⟩
      endOK_eof := fun h => by
        rcases List.mem_append.1 h with h | h
        · exact hi.endOK_eof h
        · cases he : s.err with
          | true => simp [he] at h
          | false =>
            rcases hi.srcTerm_cases with h0 | h0 | h0
            · exact absurd h0 hterm
            · exact h0
            · rw [hi.err_iff.2 h0] at he; cases he
      srcErr_err := fun h => by
        rcases List.mem_append.1 h with h | h
        · exact hi.srcErr_err h
        · cases he : s.err with
          | true => exact hi.err_iff.1 he
          | false => simp [he] at h }
  | consCtx =>
    exact { hi with
      reported_all := forall_mem_snoc hi.reported_all nofun
      endOK_eof := fun h => hi.endOK_eof (by simpa using h)
      srcErr_err := fun h => hi.srcErr_err (by simpa using h) }
  | closeReturn _ _ hp =>
    exact { hi with prod := show ProdAt _ s.ppc by rw [hp]; exact hi.at_ hp }
  | _ => exact { hi with }

/-! A consumer that announced itself is never forgotten: either the batcher knows it must start the timer with
the first item (`waitingAtEmpty`) or the timer is running -/

structure WaitInv (s : State) : Prop where
  sel_timer : s.cons = .inner → s.bpc = .sel → 0 < s.batch.length → s.timer ≠ .idle
  sel_empty_flag : s.cons = .inner → s.bpc = .sel → s.batch.length = 0 → s.waitingAtEmpty = true
  first_item_flag : s.cons = .inner → s.bpc = .inFull → s.batch.length = 1 → s.waitingAtEmpty = true
  inFull_timer : s.cons = .inner → s.bpc = .inFull → 2 ≤ s.batch.length → s.timer ≠ .idle

theorem waitInv_step {cfg : Cfg} {s s' : State} {l : Label} (h1 : CtlInv cfg s) (hi : WaitInv s)
    (h : Step cfg s l s') : WaitInv s' := by
  cases h with
  | nextCall | deliver | deliverEnd | consClosed | consCtx | fullYes | recvCClosedFlush | recvCClosedExit | recvTimer
  | flushAbort | batchExit | announceElapsed =>
    exact { sel_timer := nofun, sel_empty_flag := nofun, first_item_flag := nofun, inFull_timer := nofun }
  | prodSend v hp hb =>
    exact { hi with
      sel_timer := nofun, sel_empty_flag := nofun
      first_item_flag := fun hc _ hl => hi.sel_empty_flag hc hb (by simpa using hl)
      inFull_timer := fun hc _ hl => hi.sel_timer hc hb (show 1 ≤ s.batch.length by simpa using hl) }
  | fullNoFirstWaited hb hf hl1 =>
    exact {
      sel_timer := fun _ _ _ => nofun
      sel_empty_flag := fun _ _ (hl : s.batch.length = 0) => by omega
      first_item_flag := nofun, inFull_timer := nofun }
  | fullNoFirst hb hf hl1 hw =>
    exact {
      sel_timer := fun hc _ _ => nomatch hw.symm.trans (hi.first_item_flag hc hb hl1)
      sel_empty_flag := fun hc _ _ => nomatch hw.symm.trans (hi.first_item_flag hc hb hl1)
      first_item_flag := nofun, inFull_timer := nofun }
  | fullNoLater hb hf hne =>
    have := h1.inFull_nonempty hb
    exact {
      sel_timer := fun hc _ _ => hi.inFull_timer hc hb (by omega)
      sel_empty_flag := fun _ _ (hl : s.batch.length = 0) => by omega
      first_item_flag := nofun, inFull_timer := nofun }
  | announceArm hc hb hlen =>
    exact {
      sel_timer := fun _ _ _ => nofun
      sel_empty_flag := fun _ _ (hl : s.batch.length = 0) => by omega
      first_item_flag := fun _ h => nomatch hb.symm.trans h
      inFull_timer := fun _ h => nomatch hb.symm.trans h }
  | announceEmpty hc hb hlen =>
    exact {
      sel_timer := fun _ _ (hl : 0 < s.batch.length) => by omega
      sel_empty_flag := fun _ _ _ => rfl
      first_item_flag := fun _ h => nomatch hb.symm.trans h
      inFull_timer := fun _ h => nomatch hb.symm.trans h }
  | timerExpire => exact { hi with sel_timer := fun _ _ _ => nofun, inFull_timer := fun _ _ _ => nofun }
  | _ => exact { hi with }

/-! For the code the proofs are about (`good`: `bgCtx` comes from `context.WithCancel(context.Background())` and
`bgCancel` is called by `Close` only) the background context never ends of its own accord and no `Next`
ever reports its error -/

structure BgInv (s : State) : Prop where
  bg_live : s.bgExpired = false
  no_bgErr : Res.bgErr ∉ s.results

theorem bgInv_step {cfg : Cfg} {s s' : State} {l : Label} (hi : BgInv s) (h : Step cfg s l s') : BgInv s' := by
  cases h with
  | deliver | deliverEnd =>
    exact { hi with no_bgErr := fun h => (List.mem_append.1 h).elim hi.no_bgErr (by simp) }
  | consClosed =>
    exact { hi with
      no_bgErr := fun h => (List.mem_append.1 h).elim hi.no_bgErr fun h => by cases he : s.err <;> simp [he] at h }
  | consCtx => exact { hi with no_bgErr := fun h => (List.mem_append.1 h).elim hi.no_bgErr (by simp) }
  | _ => exact { hi with }

theorem bgDone_iff_close {cfg : Cfg} {s : State} (_h : Reach good cfg s) : bgDone good s = s.bgCancelled := by
  simp [bgDone, Code.bgMayEnd, good]

structure Inv (cfg : Cfg) (s : State) : Prop where
  bg : BgInv s
  ctl : CtlInv cfg s
  logs : LogInv cfg s
  ends : EndInv s
  waiter : WaitInv s

theorem inv_step {cfg : Cfg} {s s' : State} {l : Label} (hi : Inv cfg s) (h : Step cfg s l s') : Inv cfg s' :=
  ⟨bgInv_step hi.bg h, ctlInv_step hi.ctl h, logInv_step hi.ctl hi.logs h, endInv_step hi.ctl hi.logs hi.ends h,
    waitInv_step hi.ctl hi.waiter h⟩

theorem inv_init (cfg : Cfg) : Inv cfg init :=
  ⟨by constructor <;> simp [init], by constructor <;> first | exact fun _ => .of_idle rfl | simp [init],
    by constructor <;> simp [init, inTransit], by constructor <;> first | exact ⟨rfl, rfl, rfl, rfl⟩ | simp [init],
    by constructor <;> simp [init]⟩

theorem inv_reach {cfg : Cfg} {s : State} (h : Reach good cfg s) : Inv cfg s := by
  induction h with
  | init => exact inv_init cfg
  | step l _ hs ih => exact inv_step ih (step_good hs)

end Juniper.Proofs.Batch
