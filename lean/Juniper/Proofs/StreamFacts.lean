import Juniper.Generated.Comb
/-!
# Presence facts of `stream.go` / `xrand.go` that the C09 theorems rest on (tie lemmas)

Each lemma is proved by evaluating the regenerated definition (`by decide`). The theorems of
`Props/C09.lean` and the `*_wraps` / `*_forwards` / `*_reach` lemmas they are built from *use* these lemmas in their
proofs: delete the statement from the Go source (or, for the `defer`s, move it behind an early return:
the fact says "the first statement of the function is `defer s.Close()`") and the lemma of that name
fails, together with every theorem that depends on it. None of them is a hypothesis of a theorem.
-/
namespace Juniper.Proofs.StreamDen
open Juniper.Gen.Comb

theorem stPeekCloseForwards_fact : stPeekCloseForwards = true := by decide
theorem stChunkCloseForwards_fact : stChunkCloseForwards = true := by decide
theorem stCompactCloseForwards_fact : stCompactCloseForwards = true := by decide
theorem stFilterCloseForwards_fact : stFilterCloseForwards = true := by decide
theorem stMapCloseForwards_fact : stMapCloseForwards = true := by decide
theorem stFirstCloseForwards_fact : stFirstCloseForwards = true := by decide
theorem stWhileCloseForwards_fact : stWhileCloseForwards = true := by decide
theorem stFlattenSlicesCloseForwards_fact : stFlattenSlicesCloseForwards = true := by decide
theorem stFlattenCloseForwards_fact : stFlattenCloseForwards = true := by decide
theorem stRunsCloseForwards_fact : stRunsCloseForwards = true := by decide

/-- `flattenStream.Close` closes the current inner stream: `if s.curr != nil { s.curr.Close() }` -/
theorem stFlattenCloseCurr_fact : stFlattenCloseCurr = true ∧ stFlattenCloseCond = "s.curr != nil" := by decide
/-- `flattenStream.Next` closes an inner stream that ended and forgets it -/
theorem stFlattenClosesEnded_fact : stFlattenClosesEnded = true := by decide
theorem stFlattenClearsCurr_fact : stFlattenClearsCurr = true := by decide
/-- `joinStream.Close` closes every remaining argument: `for i := range s.remaining { s.remaining[i].Close() }` -/
theorem stJoinCloseForwards_fact :
    stJoinCloseForwards = true ∧ stJoinCloseRange = "s.remaining" ∧ stJoinCloseStmt = "{ s.remaining[i].Close() }" := by
  decide
/-- `joinStream.Next` closes an argument that ended and drops it -/
theorem stJoinClosesEnded_fact : stJoinClosesEnded = true := by decide
theorem stJoinAdvances_fact : stJoinAdvances = true := by decide

/-- the first statement of every reducer (and of `xrand.rSampleStream`) is `defer s.Close()` -/
theorem stCollectDefersClose_fact : stCollectDefersClose = true := by decide
theorem stReduceDefersClose_fact : stReduceDefersClose = true := by decide
theorem stLastDefersClose_fact : stLastDefersClose = true := by decide
theorem stOneDefersClose_fact : stOneDefersClose = true := by decide
theorem sampleStreamDefersClose_fact : sampleStreamDefersClose = true := by decide

end Juniper.Proofs.StreamDen
