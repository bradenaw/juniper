import Juniper.Proofs.IterRuns
/-!
# Laziness: minimality of the pull counts (C07 `need_minimal_*`)

`Undetermined F l j k b`: the first `j` source items do **not** determine that the `k`-th output of
`F` is `b` — there is an input with the same first `j` items whose `k`-th output is something else
(or absent). Each theorem says: the `k`-th output, delivered at cost `c` (its annotation in the
combinator's denotation), is undetermined by `c - 1` items; so no implementation could deliver it
with fewer pulls.
-/
namespace Juniper.Proofs.IterDen
open Juniper.Model.Iter Juniper.Spec
universe u v
variable {α β : Type v}

theorem ideal_ne_of_length (l1 l2 : List α) (k : Nat) (h1 : l1.length < k) (h2 : k ≤ l2.length) :
    ideal l1 k ≠ ideal l2 k := by
  induction k generalizing l1 l2 with
  | zero => omega
  | succ k ih =>
    cases l2 with
    | nil => simp at h2
    | cons b l2 =>
      cases l1 with
      | nil => simp [ideal]
      | cons a l1 =>
        simp only [ideal]
        intro h
        injection h with _ ht
        exact ih l1 l2 (by simp at h1; omega) (by simp at h2; omega) ht

theorem take_cons_sub {c p : Nat} (a : α) (l : List α) (h : p + 1 < c) :
    (a :: l).take (c - p - 1) = a :: l.take (c - (p + 1) - 1) := by
  obtain ⟨d, hd⟩ : ∃ d, c - p - 1 = d + 1 := ⟨c - p - 2, by omega⟩
  rw [hd, List.take_succ_cons, show c - (p + 1) - 1 = d by omega]

def Undetermined (F : List α → List β) (l : List α) (j k : Nat) (b : β) : Prop :=
  ∃ l', l'.take j = l.take j ∧ (F l')[k]? ≠ some b

theorem undetermined_of_take {F : List α → List β} {l : List α} {j k : Nat} {b : β}
    (h : (F (l.take j))[k]? ≠ some b) : Undetermined F l j k b :=
  ⟨l.take j, by rw [List.take_take, Nat.min_self], h⟩

theorem chunkGo_nil_ne (n : Nat) (pend : List α) (a : α) : (Seq.chunkGo n pend [])[0]? ≠ some (pend ++ [a]) := by
  simp only [Seq.chunkGo]
  split <;> simp

theorem chunk_minimal_go (n : Nat) (l : List α) : ∀ (pend : List α) (p k : Nat) (ch : List α) (c : Nat),
    (chunkGoA n pend (annot p l) (p + l.length))[k]? = some (ch, c) →
      (c = p ∧ l = [] ∧ k = 0 ∧ ch = pend) ∨
        (p < c ∧ (Seq.chunkGo n pend (l.take (c - p - 1)))[k]? ≠ some ch) := by
  induction l with
  | nil =>
    intro pend p k ch c h
    simp only [annot, chunkGoA, List.length_nil, Nat.add_zero] at h
    split at h
    · cases k with
      | zero => simp at h; exact .inl ⟨h.2.symm, rfl, rfl, h.1.symm⟩
      | succ k => simp at h
    · simp at h
  | cons a l ih =>
    intro pend p k ch c h
    rw [show p + (a :: l).length = (p + 1) + l.length by simp; omega] at h
    simp only [annot, chunkGoA] at h
    right
    split at h
    next hfull =>
      cases k with
      | zero =>
        simp only [List.getElem?_cons_zero, Option.some.injEq, Prod.mk.injEq] at h
        obtain ⟨rfl, rfl⟩ := h
        rw [show p + 1 - p - 1 = 0 by omega, List.take_zero]
        exact ⟨by omega, chunkGo_nil_ne n pend a⟩
      | succ k =>
        simp only [List.getElem?_cons_succ] at h
        rcases ih [] (p + 1) k ch c h with ⟨rfl, rfl, rfl, rfl⟩ | ⟨hc, hne⟩
        · simp [annot, chunkGoA] at h
        · rw [take_cons_sub a l hc]
          exact ⟨by omega, by simpa only [Seq.chunkGo, hfull, if_true, List.getElem?_cons_succ] using hne⟩
    next hfull =>
      rcases ih (pend ++ [a]) (p + 1) k ch c h with ⟨rfl, rfl, rfl, rfl⟩ | ⟨hc, hne⟩
      · rw [show p + 1 - p - 1 = 0 by omega, List.take_zero]
        exact ⟨by omega, chunkGo_nil_ne n pend a⟩
      · rw [take_cons_sub a l hc]
        exact ⟨by omega, by simpa only [Seq.chunkGo, hfull, if_false] using hne⟩

theorem flatten_minimal_go (D : β → List α) (cs : List β) : ∀ (p k : Nat) (b : α) (c : Nat),
    ((annot p cs).flatMap fun q => (D q.1).map fun a => (a, q.2))[k]? = some (b, c) →
      p < c ∧ ((cs.take (c - p - 1)).flatMap D).length ≤ k := by
  induction cs with
  | nil => intro p k b c h; simp [annot] at h
  | cons x cs ih =>
    intro p k b c h
    simp only [annot, List.flatMap_cons] at h
    by_cases hk : k < (D x).length
    · rw [List.getElem?_append_left (by simpa using hk)] at h
      simp only [List.getElem?_map] at h
      have : c = p + 1 := by
        cases hx : (D x)[k]? with
        | none => simp [hx] at h
        | some y => simp [hx] at h; exact h.2.symm
      subst this
      refine ⟨by omega, ?_⟩
      have : p + 1 - p - 1 = 0 := by omega
      rw [this]; simp
    · rw [List.getElem?_append_right (by simpa using hk)] at h
      simp only [List.length_map] at h
      obtain ⟨hc, hl⟩ := ih (p + 1) (k - (D x).length) b c h
      refine ⟨by omega, ?_⟩
      rw [take_cons_sub x cs hc, List.flatMap_cons, List.length_append]
      omega

theorem runs_minimal_go (same : α → α → Bool) (hrefl : ∀ a, same a a = true) (l : List α) :
    ∀ (acc : List α) (prev : α) (p k : Nat) (run : List α) (c : Nat),
    (runsGoA same none (some acc) prev (annot p l) (p + l.length))[k]? = some (run, c) →
      (c = p ∧ l = [] ∧ k = 0 ∧ run = acc) ∨
      (p < c ∧ ∃ l', l'.take (c - p - 1) = l.take (c - p - 1) ∧ (Seq.runsGo same acc prev l')[k]? ≠ some run) := by
  induction l with
  | nil =>
    intro acc prev p k run c h
    left
    simp only [annot, runsGoA, List.length_nil, Nat.add_zero] at h
    cases k with
    | zero => simp at h; exact ⟨h.2.symm, rfl, rfl, h.1.symm⟩
    | succ k => simp at h
  | cons b l ih =>
    intro acc prev p k run c h
    right
    have he : p + (b :: l).length = (p + 1) + l.length := by simp; omega
    rw [he] at h
    simp only [annot] at h
    by_cases hb : same prev b = true
    · rw [runsGoA_cons_same hb] at h
      simp only [reached, takeReached, Bool.false_eq_true, if_false] at h
      rcases ih (acc ++ [b]) b (p + 1) k run c h with ⟨rfl, rfl, rfl, rfl⟩ | ⟨hc, l', hl', hne⟩
      · exact ⟨by omega, [], by simp, by simp [Seq.runsGo]⟩
      · refine ⟨by omega, b :: l', ?_, ?_⟩
        · rw [take_cons_sub b l' hc, take_cons_sub b l hc, hl']
        · simpa [Seq.runsGo, hb] using hne
    · have hb' : same prev b = false := by simpa using hb
      rw [runsGoA_cons_diff hb'] at h
      simp only [runsStartA, reached, takeReached, Bool.false_eq_true, if_false] at h
      cases k with
      | zero =>
        simp only [List.getElem?_cons_zero, Option.some.injEq, Prod.mk.injEq] at h
        obtain ⟨rfl, rfl⟩ := h
        refine ⟨by omega, [prev], ?_, ?_⟩
        · have : p + 1 - p - 1 = 0 := by omega
          rw [this]; simp
        · simp [Seq.runsGo, hrefl prev]
      | succ k =>
        simp only [List.getElem?_cons_succ] at h
        rcases ih [b] b (p + 1) k run c h with ⟨rfl, rfl, rfl, rfl⟩ | ⟨hc, l', hl', hne⟩
        · exact ⟨by omega, [], by simp, by simp [Seq.runsGo]⟩
        · refine ⟨by omega, b :: l', ?_, ?_⟩
          · rw [take_cons_sub b l' hc, take_cons_sub b l hc, hl']
          · simpa [Seq.runsGo, hb'] using hne

end Juniper.Proofs.IterDen
