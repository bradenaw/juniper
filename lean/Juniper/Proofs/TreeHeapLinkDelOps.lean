import Juniper.Proofs.TreeHeapLinkLevel
/-!
# Linking the two B-tree models (C03): the rotations and the merge on the store

Store-level description of `Heap.step` for `mergeTwo`, `rotateLeft`, `rotateRight` (three objects change), and
`Heap.siblings`, which looks the parent up through the parent pointer.
-/
namespace Juniper.Proofs.TreeHeapLink
open Juniper Juniper.Model.BTree Juniper.Model.BTreeSlotsOps Juniper.Proofs.Tree Juniper.Proofs.TreeSlotsOps

variable {K V : Type}

theorem step_mergeTwo {h : Heap K V} {p l r idx : Nat} {xp xl xr : SNode K V Nat}
    {pkvs lkvs rkvs : List (K × V)} {pkids lkids rkids : List Nat}
    (hp : h.get p = some xp) (hl : h.get l = some xl) (hr : h.get r = some xr)
    (rp : NodeRep xp pkvs pkids) (rl : NodeRep xl lkvs lkids) (rr : NodeRep xr rkvs rkids)
    (hpl : p ≠ l) (hlr : l ≠ r) (hpr : p ≠ r)
    (hpint : pkids.length = pkvs.length + 1) (hkind : lkids = [] ↔ rkids = [])
    (hidx : idx < pkvs.length) (hfit : lkvs.length + 1 + rkvs.length ≤ keysCap) (w : List Nat) :
    ∃ h' p' l', h.step (.mergeTwo p l r idx) w = some h' ∧ Same h h' ∧
      NodeRep p' (pkvs.take idx ++ pkvs.drop (idx + 1)) (pkids.take (idx + 1) ++ pkids.drop (idx + 2)) ∧
      NodeRep l' (lkvs ++ pkvs[idx] :: rkvs) (lkids ++ rkids) ∧
      p'.parent = xp.parent ∧ l'.parent = xl.parent ∧
      ∀ j, h'.get j = if j = r then none else if j = l then some l' else if j = p then some p' else h.get j := by
  obtain ⟨p', l', r', ⟨hm, rp', rl', _⟩, q1, q2⟩ := mergeNodes_rep rp rl rr hpint hkind hidx hfit (by decide)
  have g4 : ¬ xp.isLeaf = true := by
    rw [isLeaf_of_rep_cons rp.hkids (List.ne_nil_of_length_eq_add_one hpint)]; exact Bool.false_ne_true
  obtain ⟨h', h1, h2, h3⟩ := step_onThree (applyOp_mergeTwo _ p l r idx) hp hl hr
    ⟨hpl, hlr, hpr, g4, by rw [rp.hn]; omega, (kind_iff rl rr).mpr hkind, by rw [rl.hn, rr.hn]; omega⟩
    (t := (p', l', none)) (by rw [hm]; rfl) w
  exact ⟨h', p', l', h1, h2, rp', rl', q1, q2, h3⟩

theorem step_rotateRight {h : Heap K V} {p l r idx : Nat} {xp xl xr : SNode K V Nat}
    {pkvs lkvs rkvs : List (K × V)} {pkids lkids rkids : List Nat}
    (hp : h.get p = some xp) (hl : h.get l = some xl) (hr : h.get r = some xr)
    (rp : NodeRep xp pkvs pkids) (rl : NodeRep xl lkvs lkids) (rr : NodeRep xr rkvs rkids)
    (hpl : p ≠ l) (hlr : l ≠ r) (hpr : p ≠ r) (hkind : lkids = [] ↔ rkids = [])
    (hidx : idx < pkvs.length) (hlne : lkvs ≠ []) (hroom : rkvs.length < keysCap) (w : List Nat) :
    ∃ h' p' l' r', h.step (.rotateRight p l r idx) w = some h' ∧ Same h h' ∧
      NodeRep p' (pkvs.take idx ++ lkvs.getLast hlne :: pkvs.drop (idx + 1)) pkids ∧
      NodeRep l' lkvs.dropLast lkids.dropLast ∧
      NodeRep r' (pkvs[idx] :: rkvs) (lkids.getLast?.toList ++ rkids) ∧
      p'.parent = xp.parent ∧ l'.parent = xl.parent ∧ r'.parent = xr.parent ∧
      ∀ j, h'.get j = if j = r then some r' else if j = l then some l' else if j = p then some p' else h.get j := by
  obtain ⟨p', l', r', ⟨hm, rp', rl', rr'⟩, q1, q2, q3⟩ := rotateRightNodes_rep rp rl rr hkind hidx hlne hroom (by decide)
  have hpos : 0 < lkvs.length := List.length_pos_iff.mpr hlne
  obtain ⟨h', h1, h2, h3⟩ := step_onThree (applyOp_rotateRight _ p l r idx) hp hl hr
    ⟨hpl, hlr, hpr, by rw [rp.hn]; omega, (kind_iff rl rr).mpr hkind, by rw [rl.hn]; omega, by rw [rr.hn]; omega⟩
    (t := (p', l', some r')) (by rw [hm]; rfl) w
  exact ⟨h', p', l', r', h1, h2, rp', rl', rr', q1, q2, q3, h3⟩

theorem step_rotateLeft {h : Heap K V} {p l r a : Nat} {xp xl xr : SNode K V Nat}
    {pkvs lkvs rkvs : List (K × V)} {pkids lkids rkids : List Nat}
    (hp : h.get p = some xp) (hl : h.get l = some xl) (hr : h.get r = some xr)
    (rp : NodeRep xp pkvs pkids) (rl : NodeRep xl lkvs lkids) (rr : NodeRep xr rkvs rkids)
    (hpl : p ≠ l) (hlr : l ≠ r) (hpr : p ≠ r) (hkind : lkids = [] ↔ rkids = [])
    (ha : a < pkvs.length) (hrne : rkvs ≠ []) (hroom : lkvs.length < keysCap) (w : List Nat) :
    ∃ h' p' l' r', h.step (.rotateLeft p l r (a + 1)) w = some h' ∧ Same h h' ∧
      NodeRep p' (pkvs.take a ++ rkvs.head hrne :: pkvs.drop (a + 1)) pkids ∧
      NodeRep l' (lkvs ++ [pkvs[a]]) (lkids ++ rkids.take 1) ∧
      NodeRep r' (rkvs.drop 1) (rkids.drop 1) ∧
      p'.parent = xp.parent ∧ l'.parent = xl.parent ∧ r'.parent = xr.parent ∧
      ∀ j, h'.get j = if j = r then some r' else if j = l then some l' else if j = p then some p' else h.get j := by
  obtain ⟨p', l', r', ⟨hm, rp', rl', rr'⟩, q1, q2, q3⟩ := rotateLeftNodes_rep rp rl rr hkind (idx := a + 1)
    (Nat.succ_pos a) ha hrne hroom (by decide)
  simp only [Nat.add_sub_cancel] at rp' rl'
  have hpos : 0 < rkvs.length := List.length_pos_iff.mpr hrne
  obtain ⟨h', h1, h2, h3⟩ := step_onThree (applyOp_rotateLeft _ p l r (a + 1)) hp hl hr
    ⟨hpl, hlr, hpr, Nat.succ_pos a, by rw [rp.hn]; omega, (kind_iff rl rr).mpr hkind, by rw [rr.hn]; omega,
      by rw [rl.hn]; omega⟩
    (t := (p', l', some r')) (by rw [hm]; rfl) w
  exact ⟨h', p', l', r', h1, h2, rp', rl', rr', q1, q2, q3, h3⟩

theorem siblings_spec {h : Heap K V} {xid id j : Nat} {sc sp : SNode K V Nat} {kvs : List (K × V)} {cids : List Nat}
    (hc : h.get xid = some sc) (hcp : sc.parent = some id) (hp : h.get id = some sp) (rp : NodeRep sp kvs cids)
    (hint : cids.length = kvs.length + 1) (hnd : cids.Nodup) (hj : cids[j]? = some xid) :
    Heap.siblings h xid = some (if 0 < j then cids[j - 1]? else none, if j < kvs.length then cids[j + 1]? else none) := by
  have hjl : j < cids.length := (List.getElem?_eq_some_iff.mp hj).1
  have eL : Gen.Tree.hasLeftSibling (j : Int) = true ↔ 0 < j := by simp [Gen.Tree.hasLeftSibling]
  have eR : Gen.Tree.hasRightSibling (j : Int) sp.n = true ↔ j < kvs.length := by
    rw [rp.hn]; simp [Gen.Tree.hasRightSibling]
  have iL : 0 < j → (toIdx (Gen.Tree.leftSiblingIdx (j : Int))).bind (fun x => sp.kids[x]?) = some cids[j - 1]? := by
    intro h0
    rw [toIdx_eq (n := j - 1) (by simp [Gen.Tree.leftSiblingIdx]; omega), Option.bind_some, rp.hkids.get? (by omega)]
  have iR : j < kvs.length →
      (toIdx (Gen.Tree.rightSiblingIdx (j : Int))).bind (fun x => sp.kids[x]?) = some cids[j + 1]? := by
    intro h1
    rw [toIdx_eq (n := j + 1) (by simp [Gen.Tree.rightSiblingIdx]), Option.bind_some, rp.hkids.get? (by omega)]
  unfold Heap.siblings
  simp only [bind, pure, hc, hcp, hp, indexOf_rep rp.hkids hnd hj, Option.bind_some]
  by_cases h0 : 0 < j <;> by_cases h1 : j < kvs.length <;>
    simp only [eL, eR, h0, h1, if_true, if_false, iL, iR, Option.bind_some]

end Juniper.Proofs.TreeHeapLink
