import Juniper.Proofs.PipeInv
/-!
No loss before close: `Next` drains the data channel before it reports (`Gen.Pipe.nextDrains` and the
drain select's arm table), so a report finds the buffer empty.
-/
namespace Juniper.Proofs.Pipe
open Juniper.Facts Juniper.Gen.Pipe Juniper.Model.Pipe

/-- The facts about the regenerated `pipeStream.Next` that the drain argument needs. -/
structure DrainFacts : Prop where
  drains : nextDrains = true
  popArm : nextDrainArms.contains (.recv chData) = true
  noEndArm : nextDrainArms.contains (.recv chSenderDone) = false

/-- The end was reported only after the sender's `Close`, and everything acknowledged before that
`Close` had been delivered by then. -/
def NoLoss (st : State) : Prop :=
  st.endReported = true → st.senderDone = true ∧ ∀ m ∈ st.ackedBC, m ∈ st.delivered

theorem report_only_when_drained {st st' : State} {l : Label} (hD : DrainFacts)
    (hs : Step st l st') (hrep : reportsEnd st l = true) :
    l = .recv .dflt ∧ st.rpc = .drain ∧ st.buf = [] ∧ st' = reportEnd st := by
  cases hs with
  | recv h =>
    cases h with
    | ctx _ _ => simp [reportsEnd, chCtx, chSenderDone] at hrep
    | toDrain _ _ hn hd => simp [reportsEnd, hn, hd] at hrep
    | reportUndrained htab _ hnd =>
      -- a `senderDone` arm outside the main `select` would have to be in the drain's table
      exfalso
      cases hrpc : st.rpc with
      | idle => simp [hrpc, rtableOf] at htab
      | next p => simp [hrpc, RPc.isNext, hD.drains] at hnd
      | drain => rw [hrpc] at htab; exact Bool.false_ne_true (hD.noEndArm ▸ htab)
    | report _ hpc hr =>
      refine ⟨rfl, hpc, ?_, rfl⟩
      have := (rDefaultReady_iff.1 hr).1 (.recv chData) (by rw [hpc]; exact List.contains_iff_mem.mp hD.popArm)
      simpa using this
    | _ => simp [reportsEnd] at hrep
  | sender _ h => cases h <;> simp [reportsEnd] at hrep
  | pop _ _ => simp [reportsEnd, chData, chSenderDone] at hrep
  | _ => simp [reportsEnd] at hrep

theorem endReported_step {st st' : State} {l : Label} (hs : Step st l st') :
    st'.endReported = st.endReported ∨ reportsEnd st l = true := by
  cases hs with
  | recv h =>
    cases h with
    | reportUndrained _ _ hnd => exact Or.inr (by simp [reportsEnd, chSenderDone, hnd])
    | report _ _ _ => exact Or.inr rfl
    | _ => exact Or.inl rfl
  | _ => exact Or.inl rfl

theorem noLoss_step {st st' : State} {l : Label} (hD : DrainFacts) (hI : Inv st) (h : NoLoss st)
    (hs : Step st l st') : NoLoss st' := by
  intro hend
  obtain ⟨_, hmono, hdel, _⟩ := step_monotone hs
  rcases endReported_step hs with heq | hrep
  · rw [heq] at hend
    obtain ⟨hsd, hall⟩ := h hend
    obtain ⟨hsd', hack, _⟩ := hmono hsd
    exact ⟨hsd', fun m hm => hdel m (hall m (by rwa [hack] at hm))⟩
  · obtain ⟨rfl, hrpc, hbuf, rfl⟩ := report_only_when_drained hD hs hrep
    refine ⟨hI.drain hrpc, fun m hm => ?_⟩
    have := hI.held m hm
    rwa [← hI.fifoAck, hbuf, List.append_nil] at this

theorem noLoss_reach {n b : Nat} {st : State} (hT1 : noSendArm trySendArms1 = true) (hD : DrainFacts)
    (hr : Reach (init n b) st) : NoLoss st := by
  induction hr with
  | refl => intro h; simp [init] at h
  | step hr' hs ih => exact noLoss_step hD (inv_reach hT1 hr') ih (.of_step hs)

end Juniper.Proofs.Pipe
