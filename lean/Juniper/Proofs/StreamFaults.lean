import Juniper.Proofs.StreamReduce
/-!
# What the stream spec functions do with failures (helpers for the per-combinator C08 theorems)
-/
namespace Juniper.Proofs.StreamDen
open Juniper.Model Juniper.Model.Stream Juniper.Spec Juniper.Gen.Comb
universe u v w
variable {σ : Type u} {τ : Type w} {α β : Type v}

theorem filterS_ok (keep : α → Bool) (L : List (α × Nat)) (t : Term) :
    filterS (fun a => Except.ok (keep a)) L t = (L.filter fun p => keep p.1, t) := by
  induction L with
  | nil => rfl
  | cons p L ih =>
    obtain ⟨a, c⟩ := p
    simp only [filterS, List.filter_cons]
    cases keep a <;> simp [ih]

theorem mapS_ok (f : α → β) (L : List (α × Nat)) (t : Term) :
    mapS (fun a => Except.ok (f a)) L t = (L.map fun p => (f p.1, p.2), t) := by
  induction L with
  | nil => rfl
  | cons p L ih => obtain ⟨a, c⟩ := p; simp [mapS, ih]

theorem whileS_all (f : α → Except Err Bool) (L : List (α × Nat)) (t : Term) (h : ∀ p ∈ L, f p.1 = .ok true) :
    whileS f L t = (L, t) := by
  induction L with
  | nil => rfl
  | cons p L ih =>
    obtain ⟨a, c⟩ := p
    have := ih (fun p hp => h p (by simp [hp]))
    simp [whileS, h (a, c) (by simp), this]

theorem firstTermS_short (c0 k : Nat) (L : List (α × Nat)) (t : Term) (h : L.length < k) :
    firstTermS c0 k L t = t := by
  induction k generalizing c0 L with
  | zero => omega
  | succ k ih =>
    cases L with
    | nil => rfl
    | cons p L => obtain ⟨a, c⟩ := p; exact ih c L (by simp at h; omega)

theorem firstTermS_enough (c0 k : Nat) (L : List (α × Nat)) (t : Term) (h : k ≤ L.length) :
    ∃ e, firstTermS c0 k L t = .end_ e := by
  induction k generalizing c0 L with
  | zero => exact ⟨c0, rfl⟩
  | succ k ih =>
    cases L with
    | nil => simp at h
    | cons p L => obtain ⟨a, c⟩ := p; exact ih c L (by simp at h; omega)

/-- the callback says "keep" (without failing) -/
def keptBy (keep : α → Except Err Bool) (a : α) : Bool :=
  match keep a with
  | .ok true => true
  | _ => false

theorem filterS_callback_error (keep : α → Except Err Bool) (a : α) (c : Nat) (E : Err) (hfa : keep a = .error E)
    (pre : List (α × Nat)) (hpre : ∀ p ∈ pre, ∃ b, keep p.1 = .ok b) (post : List (α × Nat)) (t : Term) :
    (filterS keep (pre ++ (a, c) :: post) t).2 = .fail E ∧
    (filterS keep (pre ++ (a, c) :: post) t).1 = pre.filter fun p => keptBy keep p.1 := by
  induction pre with
  | nil => simp [filterS, hfa]
  | cons p pre ih =>
    obtain ⟨x, k⟩ := p
    obtain ⟨b, hb⟩ := hpre (x, k) (by simp)
    have := ih (fun p hp => hpre p (by simp [hp]))
    simp only at hb
    have hk : keptBy keep x = b := by simp [keptBy, hb]; cases b <;> rfl
    simp only [List.cons_append, filterS, hb, List.filter_cons, hk]
    cases b <;> simp [this.1, this.2]

theorem mapS_callback_error (f : α → Except Err β) (a : α) (c : Nat) (E : Err) (hfa : f a = .error E)
    (pre : List (α × Nat)) (hpre : ∀ p ∈ pre, ∃ b, f p.1 = .ok b) (post : List (α × Nat)) (t : Term) :
    (mapS f (pre ++ (a, c) :: post) t).2 = .fail E ∧ (mapS f (pre ++ (a, c) :: post) t).1.length = pre.length := by
  induction pre with
  | nil => simp [mapS, hfa]
  | cons p pre ih =>
    obtain ⟨x, k⟩ := p
    obtain ⟨b, hb⟩ := hpre (x, k) (by simp)
    have := ih (fun p hp => hpre p (by simp [hp]))
    simp only [List.cons_append, mapS, hb, List.length_cons]
    exact ⟨this.1, by rw [this.2]⟩

theorem whileS_callback_error (f : α → Except Err Bool) (a : α) (c : Nat) (E : Err) (hfa : f a = .error E)
    (pre : List (α × Nat)) (hpre : ∀ p ∈ pre, f p.1 = .ok true) (post : List (α × Nat)) (t : Term) :
    whileS f (pre ++ (a, c) :: post) t = (pre, .fail E) := by
  induction pre with
  | nil => simp [whileS, hfa]
  | cons p pre ih =>
    obtain ⟨x, k⟩ := p
    have := ih (fun p hp => hpre p (by simp [hp]))
    simp [whileS, hpre (x, k) (by simp), this]

theorem foldRes_callback_error {γ : Type v} (f : γ → α → Except Err γ) (E : Err) (t : Term)
    (pre : List α) (acc acc' : γ) (a : α) (post : List α)
    (hpre : foldRes f acc pre (.end_ 0) = .ok acc') (hfa : f acc' a = .error E) :
    foldRes f acc (pre ++ a :: post) t = .error E := by
  induction pre generalizing acc with
  | nil =>
    simp only [foldRes, ROut.ok.injEq] at hpre
    subst hpre
    simp [foldRes, hfa]
  | cons x pre ih =>
    simp only [foldRes] at hpre
    simp only [List.cons_append, foldRes]
    cases hx : f acc x with
    | error e => simp [hx] at hpre
    | ok acc1 =>
      simp only [hx] at hpre ⊢
      exact ih acc1 hpre

/-- `D` says that every inner stream of `Lo` ends normally -/
def AllEnd (D : τ → List α × Term) (Lo : List (τ × Nat)) : Prop := ∀ p ∈ Lo, ∃ e, (D p.1).2 = .end_ e

theorem flattenS_allEnd (D : τ → List α × Term) (Lo : List (τ × Nat)) (t : Term) (h : AllEnd D Lo) :
    flattenS D Lo t = (Lo.flatMap fun p => (D p.1).1.map fun a => (a, p.2), t) := by
  induction Lo with
  | nil => rfl
  | cons p Lo ih =>
    obtain ⟨x, k⟩ := p
    obtain ⟨e, he⟩ := h (x, k) (by simp)
    have := ih (fun p hp => h p (by simp [hp]))
    simp [flattenS, he, innerOut, innerTerm, this]

theorem flattenS_inner_fail (D : τ → List α × Term) (pre post : List (τ × Nat)) (x : τ) (k : Nat) (t : Term) (E : Err)
    (hpre : AllEnd D pre) (hx : (D x).2 = .fail E) :
    flattenS D (pre ++ (x, k) :: post) t =
      ((pre.flatMap fun p => (D p.1).1.map fun a => (a, p.2)) ++ (D x).1.map fun a => (a, k), .fail E) := by
  induction pre with
  | nil => simp [flattenS, hx, innerOut, innerTerm]
  | cons p pre ih =>
    obtain ⟨y, j⟩ := p
    obtain ⟨e, he⟩ := hpre (y, j) (by simp)
    have := ih (fun p hp => hpre p (by simp [hp]))
    simp [flattenS, he, innerOut, innerTerm, this]

theorem joinS_fail (D : σ → List α × Term) (pre post : List σ) (x : σ) (E : Err)
    (hpre : ∀ s ∈ pre, ∃ e, (D s).2 = .end_ e) (hx : (D x).2 = .fail E) :
    joinS D (pre ++ x :: post) = ((pre.flatMap fun s => (D s).1.map fun a => (a, 0)) ++ (D x).1.map fun a => (a, 0), .fail E) := by
  induction pre with
  | nil => simp [joinS, hx, innerOut, innerTerm]
  | cons y pre ih =>
    obtain ⟨e, he⟩ := hpre y (by simp)
    have := ih (fun s hs => hpre s (by simp [hs]))
    simp [joinS, he, innerOut, innerTerm, this]

end Juniper.Proofs.StreamDen
