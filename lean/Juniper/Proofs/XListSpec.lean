import Juniper.Spec.XList
/-! The ideal sequence of `Spec.XList`: neighbours (`nextIn`, `prevIn`) and ends of a duplicate-free list
after `erase`, `insBefore`, `insAfter` and appending. From `nextIn_reverse` on, a fact about `prevIn` is the
fact about `nextIn` read in the reversed list; the few that `nextIn_reverse` itself needs are proved directly. -/
namespace Juniper.Proofs.XList
open Juniper.Spec.XList

@[simp, grind =] theorem nextIn_nil (x : Nat) : nextIn [] x = none := rfl
@[simp, grind =] theorem nextIn_single (a x : Nat) : nextIn [a] x = none := rfl
@[simp, grind =] theorem nextIn_cons2 (a b : Nat) (t : List Nat) (x : Nat) :
    nextIn (a :: b :: t) x = if x = a then some b else nextIn (b :: t) x := rfl
@[simp, grind =] theorem prevIn_nil (x : Nat) : prevIn [] x = none := rfl
@[simp, grind =] theorem prevIn_single (a x : Nat) : prevIn [a] x = none := rfl
@[simp, grind =] theorem prevIn_cons2 (a b : Nat) (t : List Nat) (x : Nat) :
    prevIn (a :: b :: t) x = if x = b then some a else prevIn (b :: t) x := rfl

theorem nextIn_cons (a : Nat) (t : List Nat) (x : Nat) :
    nextIn (a :: t) x = if x = a then t.head? else nextIn t x := by
  cases t with
  | nil => simp
  | cons b t => simp

theorem prevIn_cons (a : Nat) (t : List Nat) (x : Nat) :
    prevIn (a :: t) x = if t.head? = some x then some a else prevIn t x := by
  cases t with
  | nil => simp
  | cons b t => simp [eq_comm]

theorem nextIn_mem {l : List Nat} {x y : Nat} (h : nextIn l x = some y) : x ∈ l ∧ y ∈ l := by
  induction l with
  | nil => simp at h
  | cons a t ih =>
    rw [nextIn_cons] at h
    split at h
    · subst_vars; cases t <;> simp_all
    · have := ih h; simp_all

theorem prevIn_mem {l : List Nat} {x y : Nat} (h : prevIn l x = some y) : x ∈ l ∧ y ∈ l := by
  induction l with
  | nil => simp at h
  | cons a t ih =>
    rw [prevIn_cons] at h
    split at h
    · cases t <;> simp_all
    · have := ih h; simp_all

theorem nextIn_not_mem {l : List Nat} {x : Nat} (h : x ∉ l) : nextIn l x = none := by
  cases hn : nextIn l x with
  | none => rfl
  | some y => exact absurd (nextIn_mem hn).1 h

theorem prevIn_not_mem {l : List Nat} {x : Nat} (h : x ∉ l) : prevIn l x = none := by
  cases hn : prevIn l x with
  | none => rfl
  | some y => exact absurd (prevIn_mem hn).1 h

theorem head_prevIn {t : List Nat} {y : Nat} (ht : t.Nodup) (h : t.head? = some y) : prevIn t y = none := by
  cases t with
  | nil => simp at h
  | cons b t' =>
    simp at h; subst h
    cases hp : prevIn (b :: t') b with
    | none => rfl
    | some z =>
      rw [prevIn_cons] at hp
      split at hp
      · cases t' <;> simp_all
      · exact absurd (prevIn_mem hp).1 (List.nodup_cons.1 ht).1

theorem next_iff_prev {l : List Nat} (hl : l.Nodup) (x y : Nat) :
    nextIn l x = some y ↔ prevIn l y = some x := by
  induction hl with
  | nil => simp
  | @cons a t hat ht ih =>
    have h1 := @head_prevIn t y ht
    have h3 := @nextIn_mem t a y
    rw [nextIn_cons, prevIn_cons]
    grind

theorem getLast?_cons' (a : Nat) (t : List Nat) :
    (a :: t).getLast? = if t = [] then some a else t.getLast? := by
  cases t <;> simp [List.getLast?_cons_cons]

theorem nextIn_eq_none_iff {l : List Nat} (hl : l.Nodup) {x : Nat} (hx : x ∈ l) :
    nextIn l x = none ↔ l.getLast? = some x := by
  induction hl with
  | nil => simp at hx
  | @cons a t hat ht ih =>
    rw [nextIn_cons, getLast?_cons']
    cases t <;> grind

theorem nextIn_ne_self {l : List Nat} (hl : l.Nodup) (x : Nat) : nextIn l x ≠ some x := by
  induction hl with
  | nil => simp
  | @cons a t hat ht ih =>
    rw [nextIn_cons]
    cases t <;> grind

theorem prevIn_ne_self {l : List Nat} (hl : l.Nodup) (x : Nat) : prevIn l x ≠ some x := by
  intro h
  exact nextIn_ne_self hl x ((next_iff_prev hl x x).2 h)

theorem erase_cons' (a n : Nat) (t : List Nat) :
    (a :: t).erase n = if a = n then t else a :: t.erase n := by
  simp [List.erase_cons]

theorem head?_erase {l : List Nat} (hl : l.Nodup) (n : Nat) :
    (l.erase n).head? = if l.head? = some n then nextIn l n else l.head? := by
  cases l with
  | nil => simp
  | cons a t =>
    rw [erase_cons', nextIn_cons]
    by_cases h : a = n <;> simp [h]

theorem nextIn_erase {l : List Nat} (hl : l.Nodup) {n x : Nat} (hx : x ≠ n) :
    nextIn (l.erase n) x = if prevIn l n = some x then nextIn l n else nextIn l x := by
  induction hl with
  | nil => simp
  | @cons a t hat ht ih =>
    have h1 := @head_prevIn t n ht
    have h2 := @prevIn_mem t n a
    have h3 := @prevIn_not_mem t n
    have h4 := head?_erase ht n
    rw [erase_cons', prevIn_cons, nextIn_cons, nextIn_cons]
    by_cases han : a = n
    · grind
    · simp only [han, if_false]
      rw [nextIn_cons]
      grind

@[simp, grind =] theorem insBefore_nil (m n : Nat) : insBefore [] m n = [] := rfl
@[simp, grind =] theorem insBefore_cons (a : Nat) (t : List Nat) (m n : Nat) :
    insBefore (a :: t) m n = if a = m then n :: a :: t else a :: insBefore t m n := rfl
@[simp, grind =] theorem insAfter_nil (m n : Nat) : insAfter [] m n = [] := rfl
@[simp, grind =] theorem insAfter_cons (a : Nat) (t : List Nat) (m n : Nat) :
    insAfter (a :: t) m n = if a = m then a :: n :: t else a :: insAfter t m n := rfl

theorem mem_insBefore {l : List Nat} {m n : Nat} (hm : m ∈ l) (x : Nat) :
    x ∈ insBefore l m n ↔ x = n ∨ x ∈ l := by
  induction l with
  | nil => simp at hm
  | cons a t ih => grind

theorem mem_insAfter {l : List Nat} {m n : Nat} (hm : m ∈ l) (x : Nat) :
    x ∈ insAfter l m n ↔ x = n ∨ x ∈ l := by
  induction l with
  | nil => simp at hm
  | cons a t ih => grind

theorem insBefore_not_mem {l : List Nat} {m n : Nat} (hm : m ∉ l) : insBefore l m n = l := by
  induction l with
  | nil => rfl
  | cons a t ih => grind

theorem insAfter_not_mem {l : List Nat} {m n : Nat} (hm : m ∉ l) : insAfter l m n = l := by
  induction l with
  | nil => rfl
  | cons a t ih => grind

theorem nodup_insBefore {l : List Nat} {m n : Nat} (hl : l.Nodup) (hm : m ∈ l) (hn : n ∉ l) :
    (insBefore l m n).Nodup := by
  induction l with
  | nil => simp
  | cons a t ih =>
    have := @mem_insBefore t m n
    grind

theorem nodup_insAfter {l : List Nat} {m n : Nat} (hl : l.Nodup) (hm : m ∈ l) (hn : n ∉ l) :
    (insAfter l m n).Nodup := by
  induction l with
  | nil => simp
  | cons a t ih =>
    have := @mem_insAfter t m n
    grind

theorem length_insBefore {l : List Nat} {m n : Nat} (hm : m ∈ l) :
    (insBefore l m n).length = l.length + 1 := by
  induction l with
  | nil => simp at hm
  | cons a t ih =>
    grind

theorem length_insAfter {l : List Nat} {m n : Nat} (hm : m ∈ l) :
    (insAfter l m n).length = l.length + 1 := by
  induction l with
  | nil => simp at hm
  | cons a t ih =>
    grind

theorem head?_insBefore {l : List Nat} {m n : Nat} :
    (insBefore l m n).head? = if l.head? = some m then some n else l.head? := by
  cases l with
  | nil => simp
  | cons a t => by_cases h : a = m <;> simp [h]

theorem head?_insAfter {l : List Nat} {m n : Nat} :
    (insAfter l m n).head? = l.head? := by
  cases l with
  | nil => simp
  | cons a t => by_cases h : a = m <;> simp [h]

theorem nextIn_insBefore {l : List Nat} {m n : Nat} (hl : l.Nodup) (hm : m ∈ l) (hn : n ∉ l) (x : Nat) :
    nextIn (insBefore l m n) x =
      if x = n then some m else if prevIn l m = some x then some n else nextIn l x := by
  induction hl with
  | nil => simp at hm
  | @cons a t hat ht ih =>
    have h1 := @head_prevIn t m ht
    have h2 := @prevIn_mem t m a
    have h3 := @prevIn_not_mem t m
    have h4 := @head?_insBefore t m n
    have h7 := @List.mem_of_head? _ t
    rw [insBefore_cons, prevIn_cons]
    by_cases ham : a = m
    · simp only [ham, if_true, nextIn_cons]
      grind
    · simp only [ham, if_false, nextIn_cons]
      grind

theorem nextIn_insAfter {l : List Nat} {m n : Nat} (hl : l.Nodup) (hm : m ∈ l) (hn : n ∉ l) (x : Nat) :
    nextIn (insAfter l m n) x =
      if x = n then nextIn l m else if x = m then some n else nextIn l x := by
  induction hl with
  | nil => simp at hm
  | @cons a t hat ht ih =>
    have h4 := @head?_insAfter t m n
    rw [insAfter_cons]
    by_cases ham : a = m
    · simp only [ham, if_true, nextIn_cons]
      grind
    · simp only [ham, if_false, nextIn_cons]
      grind

theorem nextIn_append_single {l : List Nat} {n : Nat} (hl : l.Nodup) (hn : n ∉ l) (x : Nat) :
    nextIn (l ++ [n]) x =
      if x = n then none else if l.getLast? = some x then some n else nextIn l x := by
  induction hl with
  | nil => simp
  | @cons a t hat ht ih =>
    have h2 : ∀ y, t.getLast? = some y → y ∈ t := fun y h => List.mem_of_getLast? h
    rw [List.cons_append, nextIn_cons, nextIn_cons, getLast?_cons']
    cases t <;> grind

theorem nodup_reverse {l : List Nat} (hl : l.Nodup) : l.reverse.Nodup := (List.reverse_perm l).nodup_iff.2 hl

theorem nextIn_reverse {l : List Nat} (hl : l.Nodup) (x : Nat) :
    nextIn l.reverse x = prevIn l x := by
  induction hl with
  | nil => simp
  | @cons a t hat ht ih =>
    have h3 := @prevIn_not_mem t a
    have h7 := @List.mem_of_head? _ t
    have hat' : a ∉ t := fun h => hat a h rfl
    rw [List.reverse_cons, nextIn_append_single (nodup_reverse ht) (by simpa using hat'),
      prevIn_cons, ih, List.getLast?_reverse]
    grind

theorem prevIn_reverse {l : List Nat} (hl : l.Nodup) (x : Nat) : prevIn l.reverse x = nextIn l x := by
  rw [← nextIn_reverse (nodup_reverse hl), List.reverse_reverse]

theorem reverse_erase {l : List Nat} (hl : l.Nodup) (n : Nat) : (l.erase n).reverse = l.reverse.erase n := by
  rw [hl.erase_eq_filter, (nodup_reverse hl).erase_eq_filter, List.filter_reverse]

theorem insAfter_append_of_mem {s : List Nat} {m : Nat} (hm : m ∈ s) (r : List Nat) (n : Nat) :
    insAfter (s ++ r) m n = insAfter s m n ++ r := by
  induction s with
  | nil => simp at hm
  | cons a t ih =>
    by_cases ham : a = m
    · simp [ham]
    · have : m ∈ t := by simpa [Ne.symm ham] using hm
      simp [ham, ih this]

theorem insAfter_append_of_not_mem {s : List Nat} {m : Nat} (hm : m ∉ s) (r : List Nat) (n : Nat) :
    insAfter (s ++ r) m n = s ++ insAfter r m n := by
  induction s with
  | nil => rfl
  | cons a t ih =>
    have ham : ¬ a = m := fun e => hm (e ▸ List.mem_cons_self)
    simp [ham, ih (fun h => hm (List.mem_cons_of_mem _ h))]

theorem reverse_insBefore {l : List Nat} (hl : l.Nodup) (m n : Nat) :
    (insBefore l m n).reverse = insAfter l.reverse m n := by
  induction l with
  | nil => rfl
  | cons a t ih =>
    have hat : a ∉ t := (List.nodup_cons.1 hl).1
    have ih := ih (List.nodup_cons.1 hl).2
    rw [insBefore_cons, List.reverse_cons]
    by_cases ham : a = m
    · subst ham
      rw [if_pos rfl, insAfter_append_of_not_mem (by simpa using hat)]; simp
    · rw [if_neg ham, List.reverse_cons, ih]
      by_cases hmt : m ∈ t
      · rw [insAfter_append_of_mem (by simpa using hmt)]
      · rw [insAfter_append_of_not_mem (by simpa using hmt), insAfter_not_mem (by simpa using hmt)]
        simp [ham]

theorem reverse_insAfter {l : List Nat} (hl : l.Nodup) (m n : Nat) :
    (insAfter l m n).reverse = insBefore l.reverse m n := by
  have := reverse_insBefore (nodup_reverse hl) m n
  rw [List.reverse_reverse] at this
  rw [← this, List.reverse_reverse]

theorem prevIn_eq_none_iff {l : List Nat} (hl : l.Nodup) {x : Nat} (hx : x ∈ l) :
    prevIn l x = none ↔ l.head? = some x := by
  rw [← nextIn_reverse hl, nextIn_eq_none_iff (nodup_reverse hl) (List.mem_reverse.2 hx),
    List.getLast?_reverse]

theorem prevIn_erase {l : List Nat} (hl : l.Nodup) {n x : Nat} (hx : x ≠ n) :
    prevIn (l.erase n) x = if nextIn l n = some x then prevIn l n else prevIn l x := by
  have hr := nodup_reverse hl
  rw [← nextIn_reverse (hl.erase n), reverse_erase hl, nextIn_erase hr hx, prevIn_reverse hl,
    nextIn_reverse hl, nextIn_reverse hl]

theorem getLast?_erase {l : List Nat} (hl : l.Nodup) (n : Nat) :
    (l.erase n).getLast? = if l.getLast? = some n then prevIn l n else l.getLast? := by
  rw [← List.head?_reverse, reverse_erase hl, head?_erase (nodup_reverse hl), List.head?_reverse,
    nextIn_reverse hl]

theorem prevIn_insBefore {l : List Nat} {m n : Nat} (hl : l.Nodup) (hm : m ∈ l) (hn : n ∉ l) (x : Nat) :
    prevIn (insBefore l m n) x =
      if x = n then prevIn l m else if x = m then some n else prevIn l x := by
  rw [← nextIn_reverse (nodup_insBefore hl hm hn), reverse_insBefore hl,
    nextIn_insAfter (nodup_reverse hl) (List.mem_reverse.2 hm) (by simpa using hn),
    nextIn_reverse hl, nextIn_reverse hl]

theorem prevIn_insAfter {l : List Nat} {m n : Nat} (hl : l.Nodup) (hm : m ∈ l) (hn : n ∉ l) (x : Nat) :
    prevIn (insAfter l m n) x =
      if x = n then some m else if nextIn l m = some x then some n else prevIn l x := by
  rw [← nextIn_reverse (nodup_insAfter hl hm hn), reverse_insAfter hl,
    nextIn_insBefore (nodup_reverse hl) (List.mem_reverse.2 hm) (by simpa using hn),
    prevIn_reverse hl, nextIn_reverse hl]

theorem getLast?_insBefore {l : List Nat} {m n : Nat} (hl : l.Nodup) :
    (insBefore l m n).getLast? = l.getLast? := by
  rw [← List.head?_reverse, reverse_insBefore hl, head?_insAfter, List.head?_reverse]

theorem getLast?_insAfter {l : List Nat} {m n : Nat} (hl : l.Nodup) :
    (insAfter l m n).getLast? = if l.getLast? = some m then some n else l.getLast? := by
  rw [← List.head?_reverse, reverse_insAfter hl, head?_insBefore, List.head?_reverse]

theorem prevIn_append_single {l : List Nat} {n : Nat} (hl : l.Nodup) (hn : n ∉ l) (x : Nat) :
    prevIn (l ++ [n]) x = if x = n then l.getLast? else prevIn l x := by
  have hnd : (l ++ [n]).Nodup := by
    have : ∀ a ∈ l, a ≠ n := fun a ha h => hn (h ▸ ha)
    simpa [List.nodup_append, hl] using this
  rw [← nextIn_reverse hnd, List.reverse_append, List.reverse_singleton, List.singleton_append, nextIn_cons,
    List.head?_reverse, nextIn_reverse hl]

theorem prev_ne_next {l : List Nat} (hl : l.Nodup) {n p q : Nat} (hp : prevIn l n = some p)
    (hq : nextIn l n = some q) : p ≠ q := by
  induction hl with
  | nil => simp at hp
  | @cons a t hat ht ih =>
    have h1 := @nextIn_mem t n q
    have h2 := @List.mem_of_head? _ t
    have h3 := @prevIn_mem t n p
    rw [prevIn_cons] at hp
    rw [nextIn_cons] at hq
    grind

theorem moveToFront_list {l : List Nat} (hl : l.Nodup) {n f : Nat} (hn : n ∈ l) (hf : l.head? = some f) :
    (if n = f then l else insBefore (l.erase n) f n) = n :: l.erase n := by
  cases l with
  | nil => simp at hn
  | cons a t =>
    simp at hf; subst hf
    by_cases h : n = a
    · subst h; simp
    · have : ¬ a = n := fun e => h e.symm
      simp [h, this]

theorem not_mem_of_concat_nodup {d : List Nat} {b : Nat} (h : (d ++ [b]).Nodup) : b ∉ d :=
  fun hb => (List.nodup_append.1 h).2.2 b hb b (List.mem_singleton.2 rfl) rfl

theorem insAfter_getLast {k : List Nat} (hk : k.Nodup) {b n : Nat} (hb : k.getLast? = some b) :
    insAfter k b n = k ++ [n] := by
  obtain ⟨d, rfl⟩ := List.getLast?_eq_some_iff.mp hb
  rw [insAfter_append_of_not_mem (not_mem_of_concat_nodup hk)]; simp

theorem erase_append_getLast {l : List Nat} (hl : l.Nodup) {b : Nat} (hb : l.getLast? = some b) :
    l.erase b ++ [b] = l := by
  obtain ⟨d, rfl⟩ := List.getLast?_eq_some_iff.mp hb
  rw [List.erase_append_right _ (not_mem_of_concat_nodup hl)]; simp

theorem moveToBack_list {l : List Nat} (hl : l.Nodup) {n b : Nat} (hb : l.getLast? = some b) :
    (if n = b then l else insAfter (l.erase n) b n) = l.erase n ++ [n] := by
  by_cases h : n = b
  · subst h; simp [erase_append_getLast hl hb]
  · simp only [h, if_false]
    apply insAfter_getLast (hl.erase n)
    rw [getLast?_erase hl, hb]
    have : ¬ b = n := fun e => h e.symm
    simp [this]

end Juniper.Proofs.XList
