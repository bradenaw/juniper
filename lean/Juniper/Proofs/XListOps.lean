import Juniper.Proofs.XListLinked
/-!
# Running the generated statement lists of xlist.go on a heap that represents a sequence

For each of the ten operations (and the internal `remove`): the interpreter does not panic under the
precondition "handles are in the list", the resulting heap represents the ideal result, and nothing
else changes (`Frame`). Every proof first *computes* the final heap by `simp` over the generated
program (`Gen.XList.<op>Stmts`) and then hands the record stored at every identity to the matching
`linked_*` lemma. A changed statement in xlist.go changes the generated program and these
computations no longer go through.

Swapping independent statements of xlist.go must break nothing here, so no proof follows the statements one
by one, and every `simp` set holds each disequality in both orientations: which one a run needs depends on the
order in which the stores happen. Hence also the linter option.
-/
set_option linter.unusedSimpArgs false
namespace Juniper.Proofs.XList
open Juniper.Spec.XList Juniper.Model.XList Juniper.Gen.XList

-- `simp` runs a generated program by unfolding the interpreter
attribute [local simp] exec execStmt execSimples execSimple evalP evalArgs Node.getF Node.setF Store.get_set

theorem unlink_spec {l : List Nat} {h : Heap} (hL : Linked l h) {n : Nat} (hn : n ∈ l)
    (mk : Option Nat) (val : Int) :
    ∃ h', exec procs0 innerRemoveStmts { h := h, node := some n, mark := mk, value := val } =
        { h := h', node := some n, mark := mk, value := val } ∧
      Linked (l.erase n) h' ∧ h'.nodes.get n = h.nodes.get n ∧ Frame l h h' ∧
        h'.size = h.size ∧ h'.nextId = h.nextId := by
  have hnd := hL.nodup
  have hrn := hL.get hn
  have hnp := hL.prev n hn
  have hnn := hL.next n hn
  generalize he : exec procs0 innerRemoveStmts { h := h, node := some n, mark := mk, value := val } = e'
  rcases hL.prev_cases hn with ⟨hp, hfn⟩ | ⟨p, hp, hfn, hpl, hpn, hrp⟩ <;>
    rcases hL.next_cases hn with ⟨hq, hbn⟩ | ⟨q, hq, hbn, hql, hqn, hrq⟩ <;>
    rw [hp] at hnp <;> rw [hq] at hnn
  · simp [innerRemoveStmts, hrn, hnp, hnn, hfn, hbn] at he
    subst he
    refine ⟨_, rfl, And.imp_right (And.imp_right fun hF => ⟨hF, rfl, rfl⟩) (linked_erase hL hn ?_ ?_ ?_)⟩
    · simp [hp, hq]
    · simp [hp, hq]
    · intro x; simp [hp, hq]
  · simp [innerRemoveStmts, hrn, hnp, hnn, hfn, hbn, hrq, hqn, hqn.symm] at he
    subst he
    refine ⟨_, rfl, And.imp_right (And.imp_right fun hF => ⟨hF, rfl, rfl⟩) (linked_erase hL hn ?_ ?_ ?_)⟩
    · simp [hp, hq]
    · simp [hq]
    · intro x; simp [hp, hq, eq_comm]; grind
  · simp [innerRemoveStmts, hrn, hnp, hnn, hfn, hbn, hrp, hpn, hpn.symm] at he
    subst he
    refine ⟨_, rfl, And.imp_right (And.imp_right fun hF => ⟨hF, rfl, rfl⟩) (linked_erase hL hn ?_ ?_ ?_)⟩
    · simp [hp]
    · simp [hp, hq]
    · intro x; simp [hp, hq, eq_comm]; grind
  · have hqp : q ≠ p := fun h => prev_ne_next hnd hp hq h.symm
    simp [innerRemoveStmts, hrn, hnp, hnn, hfn, hbn, hrp, hrq, hpn, hpn.symm, hqn, hqn.symm, hqp, hqp.symm] at he
    subst he
    refine ⟨_, rfl, And.imp_right (And.imp_right fun hF => ⟨hF, rfl, rfl⟩) (linked_erase hL hn ?_ ?_ ?_)⟩
    · simp [hp]
    · simp [hq]
    · intro x; simp [hp, hq, Store.recOf_set, eq_comm]; grind

theorem unlink_proc {l : List Nat} {h : Heap} (hL : Linked l h) {n : Nat} (hn : n ∈ l) :
    ∃ h', mkProc procs0 innerRemoveStmts [some n] h = (h', false) ∧
      Linked (l.erase n) h' ∧ h'.nodes.get n = h.nodes.get n ∧ Frame l h h' ∧
        h'.size = h.size ∧ h'.nextId = h.nextId := by
  obtain ⟨h', he, r⟩ := unlink_spec hL hn none 0
  refine ⟨h', ?_, r⟩
  simp [mkProc, he]

/-- The full invariant: links, counted length, and the allocation discipline (ids are creation
indices: everything in the list is below `nextId`, nothing at or above it is allocated). -/
structure Inv (l : List Nat) (h : Heap) : Prop where
  linked : Linked l h
  size : h.size = l.length
  bound : ∀ x ∈ l, x < h.nextId
  fresh : ∀ x, h.nextId ≤ x → h.nodes.get x = none

theorem frame_fresh {l : List Nat} {h h' : Heap} (hI : Inv l h) (hF : Frame l h h')
    (hid : h'.nextId = h.nextId) : ∀ x, h'.nextId ≤ x → h'.nodes.get x = none := by
  intro x hx
  rw [hid] at hx
  have : x ∉ l := fun hm => by have := hI.bound x hm; omega
  rw [hF.out x this]; exact hI.fresh x hx

theorem remove_spec {l : List Nat} {h : Heap} (hI : Inv l h) {n : Nat} (hn : n ∈ l) :
    let r := apply h (.remove n)
    r.panicked = false ∧ r.ret = none ∧ Inv (l.erase n) r.h ∧ Frame l h r.h ∧
      (r.h.nodes.recOf n).prev = none ∧ (r.h.nodes.recOf n).next = none ∧ r.h.nextId = h.nextId := by
  obtain ⟨h1, hpr, hL1, hg1, hF1, hs1, hid1⟩ := unlink_proc hI.linked hn
  have hrn := hI.linked.get hn
  have hne : n ∉ l.erase n := fun hm => (hI.linked.nodup.mem_erase_iff.1 hm).1 rfl
  simp only [apply, runOp]
  generalize he : exec procs2 removeStmts { h := h, node := some n, mark := none, value := 0 } = e'
  simp [removeStmts, procs2, hpr, hg1, hrn] at he
  subst he
  refine ⟨rfl, rfl, ⟨linked_congr hL1 rfl rfl ?_, ?_, ?_, ?_⟩, ⟨?_, ?_⟩, ?_, ?_, hid1⟩
  · intro x hx
    have : x ≠ n := fun h => hne (h ▸ hx)
    simp [this]
  · simp [hs1, hI.size, List.length_erase_of_mem hn]
    have : 0 < l.length := List.length_pos_of_mem hn
    omega
  · intro x hx
    simp [hid1]
    exact hI.bound x (hI.linked.nodup.mem_erase_iff.1 hx).2
  · intro x hx
    have hxl : x ∉ l := fun hm => by have := hI.bound x hm; simp [hid1] at hx; omega
    have : x ≠ n := fun h => hxl (h ▸ hn)
    simp [hid1] at hx
    simp [this, hF1.out x hxl, hI.fresh x hx]
  · intro x hx
    have : x ≠ n := fun h => hx (h ▸ hn)
    simp [this, hF1.out x hx]
  · intro x hx
    have := hF1.value x hx
    simp [Store.recOf_set]
    have h2 := Store.recOf_of_get (hg1.trans hrn)
    grind
  · simp [Store.recOf_set]
  · simp [Store.recOf_set]

/-- `MoveBefore(node, mark)`, under any call table that resolves `remove` to the generated `remove` -/
theorem moveBefore_exec {l : List Nat} {h : Heap} (hL : Linked l h) {n m : Nat} (hn : n ∈ l) (hm : m ∈ l)
    (procs : Procs) (hpr : procs .remove = some (mkProc procs0 innerRemoveStmts)) (val : Int) :
    let e := exec procs moveBeforeStmts { h := h, node := some n, mark := some m, value := val }
    e.status ≠ .panicked ∧ e.result = none ∧
      Linked (if n = m then l else insBefore (l.erase n) m n) e.h ∧ Frame l h e.h ∧
      e.h.size = h.size ∧ e.h.nextId = h.nextId := by
  by_cases hnm : n = m
  · subst hnm
    generalize he : exec procs moveBeforeStmts { h := h, node := some n, mark := some n, value := val } = e'
    simp [moveBeforeStmts] at he
    subst he
    simp [hL, frame_refl]
  · obtain ⟨h1, hpr1, hL1, hg1, hF1, hs1, hid1⟩ := unlink_proc hL hn
    have hnd := hL.nodup
    have hrn := hL.get hn
    have hmk : m ∈ l.erase n := hnd.mem_erase_iff.2 ⟨Ne.symm hnm, hm⟩
    have hnk : n ∉ l.erase n := fun hx => (hnd.mem_erase_iff.1 hx).1 rfl
    have hrm1 := hL1.get hmk
    have hm1p := hL1.prev m hmk
    have hmn : m ≠ n := Ne.symm hnm
    have hval : (h1.nodes.get n).isSome → (h.nodes.recOf n).value = (h1.nodes.recOf n).value :=
      fun _ => by rw [Store.recOf_of_get (hg1.trans hrn)]
    have hsub : ∀ x ∈ n :: l.erase n, x ∈ l := fun x hx => by
      rcases List.mem_cons.1 hx with rfl | hx
      · exact hn
      · exact (hnd.mem_erase_iff.1 hx).2
    simp only [hnm, if_false]
    generalize he : exec procs moveBeforeStmts { h := h, node := some n, mark := some m, value := val } = e'
    rcases hL1.prev_cases hmk with ⟨hpm, hfm⟩ | ⟨p, hpm, hfm, hpk, hpm', hrp1⟩ <;> rw [hpm] at hm1p
    · simp [moveBeforeStmts, hpr, hpr1, hnm, hg1, hrn, hrm1, hm1p, hfm, hmn, hmn.symm] at he
      subst he
      refine ⟨by simp, rfl, And.imp_right (fun hF2 => ⟨hF1.trans hF2 hsub, hs1, hid1⟩)
        (linked_insBefore hL1 hmk hnk hval ?_ (by rfl) ?_)⟩
      · simp [hpm]
      · intro x; simp [hpm]; grind
    · have hpn : p ≠ n := fun h => hnk (h ▸ hpk)
      simp [moveBeforeStmts, hpr, hpr1, hnm, hg1, hrn, hrm1, hm1p, hfm, hmn, hmn.symm, hrp1, hpn, hpn.symm, hpm', hpm'.symm] at he
      subst he
      refine ⟨by simp, rfl, And.imp_right (fun hF2 => ⟨hF1.trans hF2 hsub, hs1, hid1⟩)
        (linked_insBefore hL1 hmk hnk hval ?_ (by rfl) ?_)⟩
      · simp [hpm]
      · intro x; simp [hpm]; grind

/-- `MoveAfter(node, mark)`, under any call table that resolves `remove` to the generated `remove` -/
theorem moveAfter_exec {l : List Nat} {h : Heap} (hL : Linked l h) {n m : Nat} (hn : n ∈ l) (hm : m ∈ l)
    (procs : Procs) (hpr : procs .remove = some (mkProc procs0 innerRemoveStmts)) (val : Int) :
    let e := exec procs moveAfterStmts { h := h, node := some n, mark := some m, value := val }
    e.status ≠ .panicked ∧ e.result = none ∧
      Linked (if n = m then l else insAfter (l.erase n) m n) e.h ∧ Frame l h e.h ∧
      e.h.size = h.size ∧ e.h.nextId = h.nextId := by
  by_cases hnm : n = m
  · subst hnm
    generalize he : exec procs moveAfterStmts { h := h, node := some n, mark := some n, value := val } = e'
    simp [moveAfterStmts] at he
    subst he
    simp [hL, frame_refl]
  · obtain ⟨h1, hpr1, hL1, hg1, hF1, hs1, hid1⟩ := unlink_proc hL hn
    have hnd := hL.nodup
    have hrn := hL.get hn
    have hmk : m ∈ l.erase n := hnd.mem_erase_iff.2 ⟨Ne.symm hnm, hm⟩
    have hnk : n ∉ l.erase n := fun hx => (hnd.mem_erase_iff.1 hx).1 rfl
    have hrm1 := hL1.get hmk
    have hm1p := hL1.next m hmk
    have hmn : m ≠ n := Ne.symm hnm
    have hval : (h1.nodes.get n).isSome → (h.nodes.recOf n).value = (h1.nodes.recOf n).value :=
      fun _ => by rw [Store.recOf_of_get (hg1.trans hrn)]
    have hsub : ∀ x ∈ n :: l.erase n, x ∈ l := fun x hx => by
      rcases List.mem_cons.1 hx with rfl | hx
      · exact hn
      · exact (hnd.mem_erase_iff.1 hx).2
    simp only [hnm, if_false]
    generalize he : exec procs moveAfterStmts { h := h, node := some n, mark := some m, value := val } = e'
    rcases hL1.next_cases hmk with ⟨hpm, hfm⟩ | ⟨p, hpm, hfm, hpk, hpm', hrp1⟩ <;> rw [hpm] at hm1p
    · simp [moveAfterStmts, hpr, hpr1, hnm, hg1, hrn, hrm1, hm1p, hfm, hmn, hmn.symm] at he
      subst he
      refine ⟨by simp, rfl, And.imp_right (fun hF2 => ⟨hF1.trans hF2 hsub, hs1, hid1⟩)
        (linked_insAfter hL1 hmk hnk hval (by rfl) ?_ ?_)⟩
      · simp [hpm]
      · intro x; simp [hpm]; grind
    · have hpn : p ≠ n := fun h => hnk (h ▸ hpk)
      simp [moveAfterStmts, hpr, hpr1, hnm, hg1, hrn, hrm1, hm1p, hfm, hmn, hmn.symm, hrp1, hpn, hpn.symm, hpm', hpm'.symm] at he
      subst he
      refine ⟨by simp, rfl, And.imp_right (fun hF2 => ⟨hF1.trans hF2 hsub, hs1, hid1⟩)
        (linked_insAfter hL1 hmk hnk hval (by rfl) ?_ ?_)⟩
      · simp [hpm]
      · intro x; simp [hpm]; grind

theorem procs1_remove : procs1 .remove = some (mkProc procs0 innerRemoveStmts) := rfl
theorem procs2_remove : procs2 .remove = some (mkProc procs0 innerRemoveStmts) := rfl

theorem inv_of_linked {l l' : List Nat} {h h' : Heap} (hI : Inv l h) (hL : Linked l' h')
    (hF : Frame l h h') (hs : h'.size = h.size) (hid : h'.nextId = h.nextId)
    (hlen : l'.length = l.length) (hsub : ∀ x ∈ l', x ∈ l) : Inv l' h' :=
  ⟨hL, by rw [hs, hI.size, hlen], fun x hx => by rw [hid]; exact hI.bound x (hsub x hx),
    frame_fresh hI hF hid⟩

/-- moving a node (with either insertion) keeps the length and adds no handle -/
theorem move_len {ins : List Nat → Nat → Nat → List Nat}
    (hlen : ∀ {k : List Nat} {m n : Nat}, m ∈ k → (ins k m n).length = k.length + 1)
    (hmem : ∀ {k : List Nat} {m n : Nat}, m ∈ k → ∀ x, x ∈ ins k m n ↔ x = n ∨ x ∈ k)
    {l : List Nat} (hl : l.Nodup) {n m : Nat} (hn : n ∈ l) (hm : m ∈ l) :
    (if n = m then l else ins (l.erase n) m n).length = l.length ∧
    ∀ x ∈ (if n = m then l else ins (l.erase n) m n), x ∈ l := by
  by_cases h : n = m
  · simp [h]
  · have hmk : m ∈ l.erase n := hl.mem_erase_iff.2 ⟨Ne.symm h, hm⟩
    have : 0 < l.length := List.length_pos_of_mem hn
    simp only [h, if_false]
    refine ⟨by rw [hlen hmk, List.length_erase_of_mem hn]; omega, ?_⟩
    intro x hx
    rcases (hmem hmk x).1 hx with rfl | hx
    · exact hn
    · exact (hl.mem_erase_iff.1 hx).2

theorem moveBefore_spec {l : List Nat} {h : Heap} (hI : Inv l h) {n m : Nat} (hn : n ∈ l) (hm : m ∈ l) :
    let r := apply h (.moveBefore n m)
    r.panicked = false ∧ r.ret = none ∧
      Inv (if n = m then l else insBefore (l.erase n) m n) r.h ∧ Frame l h r.h ∧
      r.h.nextId = h.nextId := by
  obtain ⟨h1, h2, h3, h4, h5, h6⟩ := moveBefore_exec hI.linked hn hm procs2 procs2_remove 0
  obtain ⟨hlen, hsub⟩ := move_len length_insBefore mem_insBefore hI.linked.nodup hn hm
  simp only [apply, runOp]
  refine ⟨by simpa using h1, h2, inv_of_linked hI h3 h4 h5 h6 hlen hsub, h4, h6⟩

theorem moveAfter_spec {l : List Nat} {h : Heap} (hI : Inv l h) {n m : Nat} (hn : n ∈ l) (hm : m ∈ l) :
    let r := apply h (.moveAfter n m)
    r.panicked = false ∧ r.ret = none ∧
      Inv (if n = m then l else insAfter (l.erase n) m n) r.h ∧ Frame l h r.h ∧
      r.h.nextId = h.nextId := by
  obtain ⟨h1, h2, h3, h4, h5, h6⟩ := moveAfter_exec hI.linked hn hm procs2 procs2_remove 0
  obtain ⟨hlen, hsub⟩ := move_len length_insAfter mem_insAfter hI.linked.nodup hn hm
  simp only [apply, runOp]
  refine ⟨by simpa using h1, h2, inv_of_linked hI h3 h4 h5 h6 hlen hsub, h4, h6⟩

/-- `MoveToFront(node)` = `MoveBefore(node, Front())` -/
theorem moveToFront_spec {l : List Nat} {h : Heap} (hI : Inv l h) {n : Nat} (hn : n ∈ l) :
    let r := apply h (.moveToFront n)
    r.panicked = false ∧ r.ret = none ∧ Inv (n :: l.erase n) r.h ∧ Frame l h r.h ∧
      r.h.nextId = h.nextId := by
  obtain ⟨f, hf⟩ : ∃ f, l.head? = some f := by cases l <;> simp at hn ⊢
  have hfl : f ∈ l := List.mem_of_head? hf
  have hfr : h.front = some f := hI.linked.front.trans hf
  obtain ⟨h1, h2, h3, h4, h5, h6⟩ := moveBefore_exec hI.linked hn hfl procs1 procs1_remove 0
  obtain ⟨hlen, hsub⟩ := move_len length_insBefore mem_insBefore hI.linked.nodup hn hfl
  rw [moveToFront_list hI.linked.nodup hn hf] at h3 hlen hsub
  simp only [apply, runOp]
  generalize he : exec procs2 moveToFrontStmts { h := h, node := some n, mark := none, value := 0 } = e'
  simp [moveToFrontStmts, procs2, mkProc, hfr] at he
  subst he
  refine ⟨?_, rfl, inv_of_linked hI h3 h4 h5 h6 hlen hsub, h4, h6⟩
  simp; exact h1

/-- `MoveToBack(node)` = `MoveAfter(node, Back())` -/
theorem moveToBack_spec {l : List Nat} {h : Heap} (hI : Inv l h) {n : Nat} (hn : n ∈ l) :
    let r := apply h (.moveToBack n)
    r.panicked = false ∧ r.ret = none ∧ Inv (l.erase n ++ [n]) r.h ∧ Frame l h r.h ∧
      r.h.nextId = h.nextId := by
  obtain ⟨b, hb⟩ : ∃ b, l.getLast? = some b := by
    cases hl : l.getLast? with
    | none => simp at hl; subst hl; simp at hn
    | some b => exact ⟨b, rfl⟩
  have hbl : b ∈ l := List.mem_of_getLast? hb
  have hbk : h.back = some b := hI.linked.back.trans hb
  obtain ⟨h1, h2, h3, h4, h5, h6⟩ := moveAfter_exec hI.linked hn hbl procs1 procs1_remove 0
  obtain ⟨hlen, hsub⟩ := move_len length_insAfter mem_insAfter hI.linked.nodup hn hbl
  rw [moveToBack_list hI.linked.nodup hb] at h3 hlen hsub
  simp only [apply, runOp]
  generalize he : exec procs2 moveToBackStmts { h := h, node := some n, mark := none, value := 0 } = e'
  simp [moveToBackStmts, procs2, mkProc, hbk] at he
  subst he
  refine ⟨?_, rfl, inv_of_linked hI h3 h4 h5 h6 hlen hsub, h4, h6⟩
  simp; exact h1

theorem clear_spec {l : List Nat} {h : Heap} (hI : Inv l h) :
    let r := apply h .clear
    r.panicked = false ∧ r.ret = none ∧ Inv [] r.h ∧ r.h.nodes = h.nodes ∧ r.h.nextId = h.nextId := by
  simp only [apply, runOp]
  generalize he : exec procs2 clearStmts { h := h, node := none, mark := none, value := 0 } = e'
  simp [clearStmts] at he
  subst he
  exact ⟨rfl, rfl, ⟨linked_nil rfl rfl, rfl, by simp, hI.fresh⟩, rfl, rfl⟩

theorem inv_of_linked_new {l l' : List Nat} {h h' : Heap} (hI : Inv l h)
    (hLF : Linked l' h' ∧ Frame (h.nextId :: l) h h') (hs : h'.size = h.size + 1)
    (hid : h'.nextId = h.nextId + 1) (hlen : l'.length = l.length + 1)
    (hsub : ∀ x ∈ l', x = h.nextId ∨ x ∈ l) {P : Prop} (hp : P) :
    Inv l' h' ∧ Frame (h.nextId :: l) h h' ∧ P ∧ h'.nextId = h.nextId + 1 := by
  refine ⟨⟨hLF.1, by rw [hs, hI.size, hlen]; simp, ?_, ?_⟩, hLF.2, hp, hid⟩
  · intro x hx
    rw [hid]
    rcases hsub x hx with rfl | hx
    · omega
    · have := hI.bound x hx; omega
  · intro x hx
    rw [hid] at hx
    have : x ∉ h.nextId :: l := by
      intro hm
      rcases List.mem_cons.1 hm with rfl | hm
      · omega
      · have := hI.bound x hm; omega
    rw [hLF.2.out x this]; exact hI.fresh x (by omega)

theorem Inv.nextId_not_mem {l : List Nat} {h : Heap} (hI : Inv l h) : h.nextId ∉ l :=
  fun hx => Nat.lt_irrefl _ (hI.bound _ hx)

theorem Inv.new_val {l : List Nat} {h : Heap} (hI : Inv l h) (v : Int) :
    (h.nodes.get h.nextId).isSome → v = (h.nodes.recOf h.nextId).value := fun hs => by
  rw [hI.fresh _ (Nat.le_refl _)] at hs; cases hs

theorem insertBefore_spec {l : List Nat} {h : Heap} (hI : Inv l h) {m : Nat} (hm : m ∈ l) (v : Int) :
    let r := apply h (.insertBefore v m)
    r.panicked = false ∧ r.ret = some h.nextId ∧ Inv (insBefore l m h.nextId) r.h ∧
      Frame (h.nextId :: l) h r.h ∧ r.h.nodes.get h.nextId = some ⟨prevIn l m, some m, v⟩ ∧
      r.h.nextId = h.nextId + 1 := by
  have hL := hI.linked
  have hnl := hI.nextId_not_mem
  have hmn : m ≠ h.nextId := fun e => hnl (e ▸ hm)
  have hrm := hL.get hm
  have hmp := hL.prev m hm
  simp only [apply, runOp]
  generalize he : exec procs2 insertBeforeStmts { h := h, node := none, mark := some m, value := v } = e'
  rcases hL.prev_cases hm with ⟨hpm, hfm⟩ | ⟨p, hpm, hfm, hpl, hpm', hrp⟩ <;> rw [hpm] at hmp
  · simp [insertBeforeStmts, hrm, hmp, hfm, hmn, hmn.symm] at he
    subst he
    refine ⟨rfl, rfl, inv_of_linked_new hI (linked_insBefore hL hm hnl (hI.new_val v) ?_ (by rfl) ?_) rfl rfl
      (length_insBefore hm) (fun x hx => (mem_insBefore hm x).1 hx) ?_⟩
    · simp [hpm]
    · intro x; simp [hpm]; grind
    · simp [hmn.symm, hpm]
  · have hpn : p ≠ h.nextId := fun e => hnl (e ▸ hpl)
    simp [insertBeforeStmts, hrm, hmp, hfm, hmn, hmn.symm, hrp, hpn, hpn.symm, hpm', hpm'.symm] at he
    subst he
    refine ⟨rfl, rfl, inv_of_linked_new hI (linked_insBefore hL hm hnl (hI.new_val v) ?_ (by rfl) ?_) rfl rfl
      (length_insBefore hm) (fun x hx => (mem_insBefore hm x).1 hx) ?_⟩
    · simp [hpm]
    · intro x; simp [hpm]; grind
    · simp [hmn.symm, hpn.symm, hpm]

theorem insertAfter_spec {l : List Nat} {h : Heap} (hI : Inv l h) {m : Nat} (hm : m ∈ l) (v : Int) :
    let r := apply h (.insertAfter v m)
    r.panicked = false ∧ r.ret = some h.nextId ∧ Inv (insAfter l m h.nextId) r.h ∧
      Frame (h.nextId :: l) h r.h ∧ r.h.nodes.get h.nextId = some ⟨some m, nextIn l m, v⟩ ∧
      r.h.nextId = h.nextId + 1 := by
  have hL := hI.linked
  have hnl := hI.nextId_not_mem
  have hmn : m ≠ h.nextId := fun e => hnl (e ▸ hm)
  have hrm := hL.get hm
  have hmp := hL.next m hm
  simp only [apply, runOp]
  generalize he : exec procs2 insertAfterStmts { h := h, node := none, mark := some m, value := v } = e'
  rcases hL.next_cases hm with ⟨hpm, hfm⟩ | ⟨p, hpm, hfm, hpl, hpm', hrp⟩ <;> rw [hpm] at hmp
  · simp [insertAfterStmts, hrm, hmp, hfm, hmn, hmn.symm] at he
    subst he
    refine ⟨rfl, rfl, inv_of_linked_new hI (linked_insAfter hL hm hnl (hI.new_val v) (by rfl) ?_ ?_) rfl rfl
      (length_insAfter hm) (fun x hx => (mem_insAfter hm x).1 hx) ?_⟩
    · simp [hpm]
    · intro x; simp [hpm]; grind
    · simp [hmn.symm, hpm]
  · have hpn : p ≠ h.nextId := fun e => hnl (e ▸ hpl)
    simp [insertAfterStmts, hrm, hmp, hfm, hmn, hmn.symm, hrp, hpn, hpn.symm, hpm', hpm'.symm] at he
    subst he
    refine ⟨rfl, rfl, inv_of_linked_new hI (linked_insAfter hL hm hnl (hI.new_val v) (by rfl) ?_ ?_) rfl rfl
      (length_insAfter hm) (fun x hx => (mem_insAfter hm x).1 hx) ?_⟩
    · simp [hpm]
    · intro x; simp [hpm]; grind
    · simp [hmn.symm, hpn.symm, hpm]

theorem pushFront_spec {l : List Nat} {h : Heap} (hI : Inv l h) (v : Int) :
    let r := apply h (.pushFront v)
    r.panicked = false ∧ r.ret = some h.nextId ∧ Inv (h.nextId :: l) r.h ∧
      Frame (h.nextId :: l) h r.h ∧ r.h.nodes.get h.nextId = some ⟨none, l.head?, v⟩ ∧
      r.h.nextId = h.nextId + 1 := by
  have hL := hI.linked
  have hnl := hI.nextId_not_mem
  have hf := hL.front
  have hb := hL.back
  simp only [apply, runOp]
  cases l with
  | nil =>
    simp at hf hb
    generalize he : exec procs2 pushFrontStmts { h := h, node := none, mark := none, value := v } = e'
    simp [pushFrontStmts, hf, hb] at he
    subst he
    refine ⟨rfl, rfl, inv_of_linked_new hI (linked_cons hL hnl (hI.new_val v) (by rfl) ?_ ?_) rfl rfl (by simp)
      (fun x hx => by simpa using hx) ?_⟩
    · simp [hb]
    · intro x; simp [hf]
    · simp
  | cons f t =>
    simp at hf
    have hfl : f ∈ f :: t := List.mem_cons_self
    have hbn : h.back ≠ none := by rw [hb]; simp [getLast?_cons']; split <;> simp [*]
    have hrf := Store.get_of_isSome (hL.live f hfl)
    have hfn : f ≠ h.nextId := fun e => hnl (e ▸ hfl)
    generalize he : exec procs2 pushFrontStmts { h := h, node := none, mark := none, value := v } = e'
    simp [pushFrontStmts, hf, hbn, hrf, hfn, hfn.symm] at he
    subst he
    refine ⟨rfl, rfl, inv_of_linked_new hI (linked_cons hL hnl (hI.new_val v) (by rfl) ?_ ?_) rfl rfl (by simp)
      (fun x hx => by simpa using hx) ?_⟩
    · simp [hbn]
    · intro x; simp [hf]; grind
    · simp [hfn.symm]

theorem pushBack_spec {l : List Nat} {h : Heap} (hI : Inv l h) (v : Int) :
    let r := apply h (.pushBack v)
    r.panicked = false ∧ r.ret = some h.nextId ∧ Inv (l ++ [h.nextId]) r.h ∧
      Frame (h.nextId :: l) h r.h ∧ r.h.nodes.get h.nextId = some ⟨l.getLast?, none, v⟩ ∧
      r.h.nextId = h.nextId + 1 := by
  have hL := hI.linked
  have hnl := hI.nextId_not_mem
  have hf := hL.front
  have hb := hL.back
  simp only [apply, runOp]
  rcases hlast : l.getLast? with _ | b
  · have hl : l = [] := by simpa using hlast
    subst hl
    simp at hf hb
    generalize he : exec procs2 pushBackStmts { h := h, node := none, mark := none, value := v } = e'
    simp [pushBackStmts, hf, hb] at he
    subst he
    refine ⟨rfl, rfl, inv_of_linked_new hI (linked_snoc hL hnl (hI.new_val v) ?_ (by rfl) ?_) rfl rfl (by simp)
      (fun x hx => by simpa [or_comm] using hx) ?_⟩
    · simp [hf]
    · intro x; simp [hb]
    · simp
  · have hbl : b ∈ l := List.mem_of_getLast? hlast
    rw [hlast] at hb
    have hfn : h.front ≠ none := by rw [hf]; cases l <;> simp at hbl ⊢
    have hrb := Store.get_of_isSome (hL.live b hbl)
    have hbn : b ≠ h.nextId := fun e => hnl (e ▸ hbl)
    generalize he : exec procs2 pushBackStmts { h := h, node := none, mark := none, value := v } = e'
    simp [pushBackStmts, hb, hfn, hrb, hbn, hbn.symm] at he
    subst he
    refine ⟨rfl, rfl, inv_of_linked_new hI (linked_snoc hL hnl (hI.new_val v) ?_ (by rfl) ?_) rfl rfl (by simp)
      (fun x hx => by simpa [or_comm] using hx) ?_⟩
    · simp [hfn]
    · intro x; simp [hb]; grind
    · simp [hbn.symm]

end Juniper.Proofs.XList
