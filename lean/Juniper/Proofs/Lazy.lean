import Juniper.Model.Watch
import Juniper.Proofs.ListStore
/-! `Lazy` (C18): `lstep true` as a relation (`LStep`) and the invariant `LazyInv`. -/
namespace Juniper.Proofs.Watch
open Juniper.Model.Watch Juniper.ListStore

inductive LStep (s : LState) : LState → Prop where
  | start {j : Nat} : s.callers[j]? = some .idle → s.once = .fresh →
      LStep s { once := .running, runs := s.runs + 1, callers := s.callers.set j .inF }
  | park {j : Nat} : s.callers[j]? = some .idle → s.once = .running → LStep s { s with callers := s.callers.set j .waiting }
  | finish {j : Nat} (o : LOut) : s.callers[j]? = some .inF →
      LStep s { s with once := .done o, callers := s.callers.set j (.done o) }
  /-- a call that comes after the run (`c = .idle`) or was parked behind it (`c = .waiting`) -/
  | result {j : Nat} {c : CallPc} {o : LOut} : s.callers[j]? = some c → c ≠ .inF → s.once = .done o →
      LStep s { s with callers := s.callers.set j (.done o) }

theorem lstep_sound {s s' : LState} {l : LLabel} (h : lstep true s l = some s') : LStep s s' := by
  revert h
  -- `fun_cases` follows the branches of `lstep`: those that return `none` go by `cases h`, which in the others puts the
  -- successor state in; what remains comes in the order of the labels (the first is a `Lazy` without `Once`)
  fun_cases lstep true s l <;> intro h <;> cases h
  · cases ‹(!true) = true›
  · exact .start ‹_› ‹_›
  · exact .park ‹_› ‹_›
  · exact .result (c := .idle) ‹_› nofun ‹_›
  · exact .finish _ ‹_›
  · exact .result (c := .waiting) ‹_› nofun ‹_›

structure LazyInv (s : LState) : Prop where
  fresh : s.once = .fresh → s.runs = 0 ∧ ∀ (j : Nat) (c : CallPc), s.callers[j]? = some c → c = .idle
  running : s.once = .running → s.runs = 1 ∧ (∀ (j : Nat) (r : LOut), s.callers[j]? ≠ some (.done r)) ∧
      ∀ (j k : Nat), s.callers[j]? = some .inF → s.callers[k]? = some .inF → j = k
  done : ∀ v, s.once = .done v → s.runs = 1 ∧ (∀ (j : Nat) (r : LOut), s.callers[j]? = some (.done r) → r = v) ∧
      ∀ (j : Nat), s.callers[j]? ≠ some .inF

theorem linv_init (n : Nat) : LazyInv (linit n) :=
  ⟨fun _ => ⟨rfl, fun _ _ h => List.eq_of_mem_replicate (List.mem_of_getElem? h)⟩, nofun, nofun⟩

theorem linv_step {s s' : LState} (hI : LazyInv s) (h : LStep s s') : LazyInv s' := by
  cases h with
  | @start j hj ho =>
    obtain ⟨hr, hall⟩ := hI.fresh ho
    have hj' : ∀ k, (s.callers.set j .inF)[k]? = some .inF → j = k := fun k hk =>
      (getElem?_set_some hk).elim (·.1) (fun h => nomatch hall k _ h.2)
    exact ⟨nofun, fun _ => ⟨congrArg (· + 1) hr, fun k r hk => (nomatch hall k _ (getElem?_of_set_ne hk nofun)),
      fun a b ha hb => (hj' a ha).symm.trans (hj' b hb)⟩, nofun⟩
  | @park j hj ho =>
    obtain ⟨hr, hnd, huniq⟩ := hI.running ho
    exact ⟨fun h => (nomatch ho.symm.trans h), fun _ => ⟨hr, fun k r hk => hnd k r (getElem?_of_set_ne hk nofun),
      fun a b ha hb => huniq a b (getElem?_of_set_ne ha nofun) (getElem?_of_set_ne hb nofun)⟩,
      fun v h => nomatch ho.symm.trans h⟩
  | @finish j o hj =>
    -- the caller in `f` shows that the `Once` is running
    have ho : s.once = .running := by
      cases hs : s.once with
      | fresh => cases (hI.fresh hs).2 j _ hj
      | running => rfl
      | done v => exact absurd hj ((hI.done v hs).2.2 j)
    obtain ⟨hr, hnd, huniq⟩ := hI.running ho
    refine ⟨nofun, nofun, fun v hv => ?_⟩
    cases hv
    refine ⟨hr, fun k r hk => ?_, fun k hk => ?_⟩
    · rcases getElem?_set_some hk with ⟨_, h⟩ | ⟨_, h⟩
      · cases h; rfl
      · exact absurd h (hnd k r)
    · rcases getElem?_set_some hk with ⟨_, h⟩ | ⟨hne, h⟩
      · cases h
      · exact hne (huniq j k hj h)
  | @result j c o hj hc ho =>
    obtain ⟨hr, hd, hnf⟩ := hI.done o ho
    refine ⟨fun h => (nomatch ho.symm.trans h), fun h => (nomatch ho.symm.trans h), fun v hv => ?_⟩
    cases ho.symm.trans hv
    refine ⟨hr, fun k r hk => ?_, fun k hk => hnf k (getElem?_of_set_ne hk nofun)⟩
    rcases getElem?_set_some hk with ⟨_, h⟩ | ⟨_, h⟩
    · cases h; rfl
    · exact hd k r h

theorem linv_reach {s : LState} (h : LReach true s) : LazyInv s := by
  induction h with
  | init n => exact linv_init n
  | step l _ hs ih => exact linv_step ih (lstep_sound hs)


end Juniper.Proofs.Watch
