import Juniper.Model.BTreeSlots
import Juniper.Model.BTree
import Juniper.Proofs.TreeSlotsList
/-!
# Slot level of the B-tree: cleared slots stay cleared (C03, "no retained garbage")

Property clause: *"Keys and values that were deleted or moved elsewhere are no longer referenced from
the live structure, so they can be garbage collected."*

`Clean cap live arr`: the fixed array `arr` (length `cap`) is the live prefix `live` followed by zero
values only. For every array primitive of `btree.go` and every node-level use of it
(`Juniper.Model.BTreeSlots`, written as the Go text is) a lemma

    Clean cap live arr → side conditions → Clean cap (list-level result) (slot-level operation arr)

says that clean arrays stay clean and that the effect on the live prefix is the append-style list
operation of the tree-level model `Juniper/Model/BTree.lean`. Each zeroing statement of the source
enters the model only through its generated presence fact; the proofs discharge `fact = true` by
`decide`, so dropping a zeroing statement from `btree.go` breaks the build of this file.

Side conditions are those under which the Go code does not panic and the node is in the state in which
the code calls the operation. `n` of the node is `live.length` (keys/values) resp. `live.length - 1`
(children of an inner node, stated as `live.length = n + 1`); leaves have `live = []` for the children
array and get their own `_leaf` lemmas.
-/
namespace Juniper.Proofs.Tree
open Juniper.Model.BTreeSlots Juniper.Gen.Tree Juniper.Proofs.Slots
variable {α : Type}

def Clean (cap : Nat) (live : List α) (arr : List (Option α)) : Prop :=
  arr = live.map some ++ List.replicate (cap - live.length) none ∧ live.length ≤ cap

theorem Clean.length_eq {cap : Nat} {live : List α} {arr : List (Option α)}
    (h : Clean cap live arr) : arr.length = cap := by
  obtain ⟨rfl, hle⟩ := h
  exact length_tail hle

theorem clean_of_eq {cap : Nat} {arr : List (Option α)} (live : List α) (k : Nat)
    (heq : arr = live.map some ++ List.replicate k none) (h : live.length + k = cap) :
    Clean cap live arr := by
  subst heq h
  exact ⟨by rw [Nat.add_sub_cancel_left], Nat.le_add_right _ _⟩

theorem clean_fresh (cap : Nat) : Clean cap ([] : List α) (fresh cap) :=
  clean_of_eq [] cap rfl (Nat.zero_add _)

theorem clean_map_some (live : List α) : Clean live.length live (live.map some) :=
  clean_of_eq live 0 (List.append_nil _).symm rfl

theorem Clean.take {cap m : Nat} {live : List α} {arr : List (Option α)}
    (h : Clean cap live arr) (h1 : live.length ≤ m) (h2 : m ≤ cap) : Clean m live (arr.take m) := by
  obtain ⟨rfl, hle⟩ := h
  rw [take_dead h1, List.take_replicate]
  exact clean_of_eq live _ rfl (by omega)

theorem Clean.prefix_eq {cap : Nat} {live : List α} {arr : List (Option α)} (h : Clean cap live arr) :
    arr.take live.length = live.map some := by
  obtain ⟨rfl, -⟩ := h
  rw [take_live (Nat.le_refl _), List.take_length]

theorem Clean.drop {cap m : Nat} {live : List α} {arr : List (Option α)}
    (h : Clean cap live arr) (h1 : live.length ≤ m) :
    arr.drop m = List.replicate (cap - m) none := by
  obtain ⟨rfl, hle⟩ := h
  exact drop_tail h1

theorem Clean.append {m k : Nat} {live : List α} {a : List (Option α)}
    (h : Clean m live a) : Clean (m + k) live (a ++ List.replicate k none) := by
  obtain ⟨rfl, hle⟩ := h
  rw [List.append_assoc, List.replicate_append_replicate]
  exact clean_of_eq live _ rfl (by omega)

theorem clean_onPrefix {cap m : Nat} {live live' : List α} {arr : List (Option α)}
    {f : List (Option α) → List (Option α)}
    (h : Clean cap live arr) (h1 : live.length ≤ m) (h2 : m ≤ cap)
    (hf : Clean m live (arr.take m) → Clean m live' (f (arr.take m))) :
    Clean cap live' (onPrefix m f arr) := by
  have := (hf (h.take h1 h2)).append (k := cap - m)
  rw [onPrefix, h.drop h1]
  rwa [Nat.add_sub_cancel' h2] at this

theorem onPrefix_length (f : List (Option α) → List (Option α)) (arr : List (Option α)) :
    onPrefix arr.length f arr = f arr := by
  rw [onPrefix, List.take_length, List.drop_length, List.append_nil]

theorem length_copyInto (arr src : List (Option α)) {i : Nat} (h : i ≤ arr.length) :
    (copyInto arr i src).length = arr.length := by
  simp only [copyInto, List.length_append, List.length_take, List.length_drop]; omega

theorem removeOne_eq (a : List (Option α)) (idx : Nat) (h : idx < a.length) :
    removeOne a idx = a.take idx ++ a.drop (idx + 1) ++ [none] := by
  have hz : removeOneZeroesLast = true := by decide
  have hlen : (a.take idx ++ a.drop (idx + 1)).length = a.length - 1 := by
    rw [List.length_append, List.length_take, List.length_drop]; omega
  obtain ⟨y, hy⟩ : ∃ y, a.drop (a.length - 1) = [y] :=
    List.length_eq_one_iff.mp (by rw [List.length_drop]; omega)
  rw [removeOne, zeroSlot, if_pos hz, copyInto, setSlot, List.length_drop,
    List.take_of_length_le (l := a.drop (idx + 1)) (by rw [List.length_drop]; omega),
    show idx + (a.length - (idx + 1)) = a.length - 1 by omega,
    List.set_append_right _ _ (by omega), hlen, Nat.sub_self, hy]
  rfl

theorem insertOne_eq (a : List (Option α)) (idx : Nat) (x : Option α) (h : idx < a.length) :
    insertOne a idx x = a.take idx ++ x :: (a.drop idx).take (a.length - idx - 1) := by
  have hlen : (a.take (idx + 1)).length = idx + 1 := by rw [List.length_take]; omega
  rw [insertOne, copyInto, setSlot, List.length_drop,
    List.drop_eq_nil_of_le (as := a) (i := idx + 1 + (a.length - idx)) (by omega),
    List.append_nil, List.set_append_left _ _ (by omega),
    List.set_eq_take_append_cons_drop, if_pos (by omega), List.take_take,
    List.drop_eq_nil_of_le (as := a.take (idx + 1)) (by omega), List.append_assoc,
    Nat.min_eq_left (Nat.le_succ _)]
  rfl

theorem slots_refine_removeOne {cap : Nat} {live : List α} {a : List (Option α)} {idx : Nat}
    (hc : Clean cap live a) (hidx : idx < cap) :
    Clean cap (live.take idx ++ live.drop (idx + 1)) (removeOne a idx) := by
  rw [removeOne_eq _ _ (by rw [hc.length_eq]; exact hidx)]
  obtain ⟨rfl, hle⟩ := hc
  by_cases h : idx < live.length
  · rw [take_live (by omega), drop_live (by omega), ← List.append_assoc, ← List.map_append,
      List.append_assoc, ← List.replicate_succ']
    exact clean_of_eq _ _ rfl (by rw [length_removeAt live h]; omega)
  · rw [take_dead (by omega), drop_dead (by omega), List.take_of_length_le (by omega),
      List.drop_eq_nil_of_le (by omega), List.append_nil, List.take_replicate, List.drop_replicate,
      List.append_assoc, List.append_assoc, ← List.replicate_succ', List.replicate_append_replicate]
    exact clean_of_eq _ _ rfl (by omega)

theorem slots_refine_insertOne {cap : Nat} {live : List α} {a : List (Option α)} {idx : Nat}
    (x : α) (hc : Clean cap live a) (hidx : idx ≤ live.length) (hroom : live.length < cap) :
    Clean cap (live.take idx ++ x :: live.drop idx) (insertOne a idx (some x)) := by
  rw [insertOne_eq _ _ _ (by rw [hc.length_eq]; omega), hc.length_eq]
  obtain ⟨rfl, hle⟩ := hc
  have hd : (live.drop idx).length = live.length - idx := List.length_drop
  rw [take_live hidx, drop_live hidx, take_dead (by rw [hd]; omega), List.take_replicate, hd,
    Nat.min_eq_left (by omega)]
  exact clean_of_eq _ _ (by rw [List.map_append, List.append_assoc]; rfl)
    (by rw [length_insertAt live x idx]; omega)

theorem slots_refine_setNext {cap : Nat} {live : List α} {a : List (Option α)}
    (x : α) (hc : Clean cap live a) (hroom : live.length < cap) :
    Clean cap (live ++ [x]) (setSlot a live.length (some x)) := by
  obtain ⟨rfl, hle⟩ := hc
  obtain ⟨k, hk⟩ : ∃ k, cap - live.length = k + 1 := ⟨cap - live.length - 1, by omega⟩
  rw [setSlot, hk, set_next]
  exact clean_of_eq _ k rfl (by simp; omega)

theorem setSlot_dead {cap : Nat} {live : List α} {a : List (Option α)} {i : Nat}
    (hc : Clean cap live a) (hi : live.length ≤ i) : setSlot a i none = a := by
  obtain ⟨rfl, hle⟩ := hc
  exact set_dead hi _

/-- `xslices.Clear(a[len live:])` behind a prefix that holds `live`, whatever was behind it -/
theorem clean_clearFrom_prefix {cap : Nat} {live : List α} {a : List (Option α)} (hlen : a.length = cap)
    (hpre : a.take live.length = live.map some) (hl : live.length ≤ cap) :
    Clean cap live (clearFrom a live.length) :=
  ⟨by rw [clearFrom, hpre, hlen], hl⟩

theorem clean_clearFrom {cap : Nat} {live : List α} {a : List (Option α)} {i : Nat}
    (hc : Clean cap live a) (hi : i ≤ cap) :
    Clean cap (live.take i) (clearFrom a i) := by
  rw [clearFrom, hc.length_eq]
  obtain ⟨rfl, hle⟩ := hc
  by_cases h : i ≤ live.length
  · rw [take_live h]
    exact clean_of_eq _ _ rfl (by simp; omega)
  · rw [take_dead (by omega), List.take_replicate, List.append_assoc, List.replicate_append_replicate,
      List.take_of_length_le (by omega)]
    exact clean_of_eq _ _ rfl (by omega)

theorem zeroSlot_present {present : Bool} (hp : present = true) (arr : List (Option α)) (i : Nat) :
    zeroSlot present arr i = setSlot arr i none := by
  rw [zeroSlot, if_pos hp]

theorem clean_setSlot_last {cap : Nat} {live : List α} {arr : List (Option α)} (hc : Clean cap live arr)
    (hn : 0 < live.length) : Clean cap live.dropLast (setSlot arr (live.length - 1) none) := by
  obtain ⟨rfl, hle⟩ := hc
  rw [setSlot, set_last hn]
  exact clean_of_eq _ _ rfl (by rw [List.length_dropLast]; omega)

theorem clean_zeroSlot_last {present : Bool} (hp : present = true) {cap : Nat} {live : List α}
    {arr : List (Option α)} (hc : Clean cap live arr) (hn : 0 < live.length) :
    Clean cap live.dropLast (zeroSlot present arr (live.length - 1)) :=
  zeroSlot_present hp arr _ ▸ clean_setSlot_last hc hn

/-- `copy(arr[n:], right[:rn])` directly behind the live prefix appends the live prefix of `right`. -/
theorem clean_copyInto {cap rcap : Nat} {live rlive : List α} {arr right : List (Option α)}
    (hc : Clean cap live arr) (hr : Clean rcap rlive right)
    (hfit : live.length + rlive.length ≤ cap) :
    Clean cap (live ++ rlive) (copyInto arr live.length (right.take rlive.length)) := by
  rw [copyInto, hc.length_eq, hr.prefix_eq]
  obtain ⟨rfl, hle⟩ := hc
  rw [take_live (Nat.le_refl _), List.take_length,
    List.take_of_length_le (l := rlive.map some) (by simp; omega), drop_dead (by simp),
    List.drop_replicate, ← List.map_append]
  exact clean_of_eq _ _ rfl (by simp; omega)

/-- copying zeros onto zeros changes nothing -/
theorem copyInto_dead {cap rcap d cnt : Nat} {live : List α} {arr right : List (Option α)}
    (hc : Clean cap live arr) (hr : Clean rcap ([] : List α) right)
    (h1 : live.length ≤ d) (h2 : d + cnt ≤ cap) (h3 : cnt ≤ rcap) : copyInto arr d (right.take cnt) = arr := by
  have hl := hc.length_eq
  have ht : right.take cnt = List.replicate cnt none := by
    obtain ⟨rfl, -⟩ := hr
    rw [List.map_nil, List.nil_append, List.take_replicate, List.length_nil, Nat.sub_zero, Nat.min_eq_left h3]
  rw [copyInto, ht, List.length_replicate, List.take_replicate, hl, Nat.min_eq_right (by omega), hc.drop (by omega),
    List.append_assoc, List.replicate_append_replicate, show cnt + (cap - (d + cnt)) = cap - d by omega,
    ← hc.drop h1, List.take_append_drop]

theorem writeDesc_eq (all : List α) (m : Nat) (arr : List (Option α))
    (h1 : m ≤ arr.length) (h2 : m ≤ all.length) :
    writeDesc arr all m = (all.take m).map some ++ arr.drop m := by
  induction m generalizing arr with
  | zero => rfl
  | succ m ih =>
    have ih' := ih (setSlot arr m all[m]?) (by simp [setSlot]; omega) (by omega)
    simp only [writeDesc] at ih' ⊢
    rw [List.range_succ, List.foldr_append, List.foldr_cons, List.foldr_nil, ih',
      List.getElem?_eq_getElem (by omega), setSlot, List.set_eq_take_append_cons_drop,
      if_pos (by omega), List.drop_left' (by simp; omega),
      List.take_succ_eq_append_getElem (by omega), List.map_append, List.append_assoc]
    rfl

theorem clean_splitLeft {clears : Bool} (hp : clears = true) {cap m : Nat} {live all : List α}
    {arr : List (Option α)} (hc : Clean cap live arr) (hm : m ≤ cap) (hall : m ≤ all.length) :
    Clean cap (all.take m) (splitLeft clears arr all m) := by
  have hl := hc.length_eq
  have hlen : ((all.take m).map some).length = m := by simp [hall]
  rw [splitLeft, if_pos hp, writeDesc_eq all m arr (by omega) hall, clearFrom, List.take_left' hlen,
    List.length_append, hlen, List.length_drop, hl]
  exact clean_of_eq _ _ rfl (by simp; omega)

theorem slots_refine_splitRight {cap : Nat} (all : List α) (frm cnt : Nat)
    (hcnt : cnt ≤ cap) (hall : frm + cnt ≤ all.length) :
    Clean cap ((all.drop frm).take cnt) (splitRight cap all frm cnt) := by
  induction cnt with
  | zero => exact clean_fresh cap
  | succ cnt ih =>
    have ih' := ih (by omega) (by omega)
    have hlen : ((all.drop frm).take cnt).length = cnt := by simp; omega
    have := slots_refine_setNext all[frm + cnt] ih' (by omega)
    simp only [splitRight] at ih' this ⊢
    rw [List.range_succ, List.foldl_append, List.foldl_cons, List.foldl_nil,
      List.getElem?_eq_getElem (by omega), List.take_succ_eq_append_getElem (by simp; omega),
      List.getElem_drop]
    rwa [hlen] at this

theorem tail_cleared {cap : Nat} {live : List α} {arr : List (Option α)}
    (hc : Clean cap live arr) : ∀ i, live.length ≤ i → i < cap → arr[i]? = some none := by
  intro i h1 h2
  obtain ⟨rfl, hle⟩ := hc
  exact getElem?_tail h1 h2

theorem live_slots {cap : Nat} {live : List α} {arr : List (Option α)}
    (hc : Clean cap live arr) : ∀ i (h : i < live.length), arr[i]? = some (some live[i]) := by
  intro i h1
  obtain ⟨rfl, hle⟩ := hc
  rw [List.getElem?_append_left (by simpa using h1), List.getElem?_map, List.getElem?_eq_getElem h1]
  rfl

theorem clean_getD {cap : Nat} {live : List α} {arr : List (Option α)}
    (hc : Clean cap live arr) (i : Nat) : (arr[i]?).getD none = live[i]? := by
  by_cases h : i < live.length
  · rw [live_slots hc i h, List.getElem?_eq_getElem h]; rfl
  · rw [List.getElem?_eq_none (l := live) (by omega)]
    by_cases h2 : i < cap
    · rw [tail_cleared hc i (by omega) h2]; rfl
    · rw [List.getElem?_eq_none (l := arr) (by rw [hc.length_eq]; omega)]; rfl

theorem amalgamGet_clean {cap : Nat} {live : List α} {arr : List (Option α)} {e : Nat} (x : α)
    (hc : Clean cap live arr) (he : e ≤ live.length) (i : Nat) :
    amalgamGet arr e (some x) i = (live.take e ++ x :: live.drop e)[i]? := by
  rw [amalgamGet, clean_getD hc, clean_getD hc, getElem?_insertAt live x he]

/-- the aliased loop reads slot `m` (and `m - 1`) only before it overwrites it, so it agrees with
the loop over any list `all` that the view `amalgamGet arr e x` shows on the first `m` positions -/
theorem writeAmalgamDesc_congr (arr : List (Option α)) (all : List α) (e : Nat) (x : Option α) :
    ∀ (m : Nat) (arr' : List (Option α)), (∀ i, i < m → arr'[i]? = arr[i]?) →
      (∀ i, i < m → amalgamGet arr e x i = all[i]?) →
      writeAmalgamDesc arr' e x m = writeDesc arr' all m := by
  intro m
  induction m with
  | zero => intros; rfl
  | succ m ih =>
    intro arr' h1 h2
    have hget : amalgamGet arr' e x m = all[m]? := by
      rw [← h2 m (by omega)]
      unfold amalgamGet
      rw [h1 m (by omega)]
      by_cases hm : m > e
      · rw [h1 (m - 1) (by omega)]
      · rw [if_neg hm, if_neg hm]
    have ih' := ih (setSlot arr' m all[m]?)
      (fun i hi => by rw [setSlot, List.getElem?_set_ne (by omega)]; exact h1 i (by omega))
      (fun i hi => h2 i (by omega))
    simp only [writeAmalgamDesc, writeDesc] at ih' ⊢
    rw [List.range_succ, List.foldr_append, List.foldr_append, List.foldr_cons, List.foldr_nil,
      List.foldr_cons, List.foldr_nil, hget]
    exact ih'

/-- the aliased write loop of the source (`all` is a view of the very array being overwritten)
behaves as the loop over the pure list `insertAt live e x`. -/
theorem writeAmalgamDesc_eq {cap : Nat} {live : List α} {arr : List (Option α)} {e : Nat} (x : α)
    (hc : Clean cap live arr) (he : e ≤ live.length) (m : Nat) :
    writeAmalgamDesc arr e (some x) m = writeDesc arr (live.take e ++ x :: live.drop e) m :=
  writeAmalgamDesc_congr arr _ e (some x) m arr (fun _ _ => rfl)
    (fun i _ => amalgamGet_clean x hc he i)

theorem length_writeAmalgamDesc (e : Nat) (x : Option α) :
    ∀ (m : Nat) (arr : List (Option α)), (writeAmalgamDesc arr e x m).length = arr.length := by
  intro m
  induction m with
  | zero => intro arr; rfl
  | succ m ih =>
    intro arr
    have := ih (setSlot arr m (amalgamGet arr e x m))
    simp only [writeAmalgamDesc] at this ⊢
    rw [List.range_succ, List.foldr_append, List.foldr_cons, List.foldr_nil, this, setSlot, List.length_set]

theorem clean_splitLeftAliased {clears : Bool} (hp : clears = true) {cap m e : Nat} {live : List α}
    {arr : List (Option α)} (x : α) (hc : Clean cap live arr) (he : e ≤ live.length) (hm : m ≤ cap)
    (hall : m ≤ live.length + 1) :
    Clean cap ((live.take e ++ x :: live.drop e).take m) (splitLeftAliased clears arr e (some x) m) := by
  have := clean_splitLeft hp (all := live.take e ++ x :: live.drop e) hc hm (by simp; omega)
  rwa [splitLeft, ← writeAmalgamDesc_eq x hc he] at this

/-! ## the node-level operations of `Model/BTreeSlots.lean`, one array each: instances of the above -/

theorem slots_refine_leafInsert {cap : Nat} {live : List α} {arr : List (Option α)} {idx : Nat}
    (x : α) (hc : Clean cap live arr) (hidx : idx ≤ live.length) (hroom : live.length < cap) :
    Clean cap (live.take idx ++ x :: live.drop idx) (leafInsert arr live.length idx (some x)) :=
  clean_onPrefix hc (Nat.le_succ _) hroom fun h => slots_refine_insertOne x h hidx (Nat.lt_succ_self _)

theorem slots_refine_remove {cap : Nat} {live : List α} {arr : List (Option α)} {idx : Nat}
    (hc : Clean cap live arr) (hidx : idx < live.length) :
    Clean cap (live.take idx ++ live.drop (idx + 1)) (remove arr live.length idx) :=
  clean_onPrefix hc (Nat.le_refl _) hc.2 fun h => slots_refine_removeOne h hidx

theorem slots_refine_replace {cap : Nat} {live : List α} {arr : List (Option α)} {idx : Nat}
    (x : α) (hc : Clean cap live arr) (hidx : idx < live.length) :
    Clean cap (live.take idx ++ x :: live.drop (idx + 1)) (replace arr idx (some x)) := by
  obtain ⟨rfl, hle⟩ := hc
  rw [replace, setSlot, set_live hidx]
  exact clean_of_eq _ _ rfl (by rw [length_replace live hidx]; omega)

theorem slots_refine_removeRightmost {cap : Nat} {live : List α} {arr : List (Option α)}
    (hc : Clean cap live arr) (hn : 0 < live.length) :
    Clean cap live.dropLast (removeRightmostKeys arr live.length) :=
  clean_zeroSlot_last (present := removeRightmostZeroesKey) (by decide) hc hn

theorem slots_refine_removeRightmost_values {cap : Nat} {live : List α} {arr : List (Option α)}
    (hc : Clean cap live arr) (hn : 0 < live.length) :
    Clean cap live.dropLast (removeRightmostValues arr live.length) :=
  clean_zeroSlot_last (present := removeRightmostZeroesValue) (by decide) hc hn

theorem slots_refine_rotateRight_donor {cap : Nat} {live : List α} {arr : List (Option α)}
    (hc : Clean cap live arr) (hn : 0 < live.length) :
    Clean cap live.dropLast (rotateRightDonorKeys arr live.length) :=
  clean_zeroSlot_last (present := rotateRightZeroesKey) (by decide) hc hn

theorem slots_refine_rotateRight_donor_values {cap : Nat} {live : List α} {arr : List (Option α)}
    (hc : Clean cap live arr) (hn : 0 < live.length) :
    Clean cap live.dropLast (rotateRightDonorValues arr live.length) :=
  clean_zeroSlot_last (present := rotateRightZeroesValue) (by decide) hc hn

/-- inner donor: `live` are the `n + 1` children. -/
theorem slots_refine_rotateRight_donor_children {cap n : Nat} {live : List α}
    {arr : List (Option α)} (hc : Clean cap live arr) (hn : live.length = n + 1) :
    Clean cap live.dropLast (rotateRightDonorChildren arr n) := by
  have := clean_zeroSlot_last (present := rotateRightZeroesChild) (by decide) hc (by omega)
  rwa [hn, Nat.add_sub_cancel] at this

/-- leaf donor: no children, `children[n] = nil` changes nothing. -/
theorem slots_refine_rotateRight_donor_children_leaf {cap n : Nat} {arr : List (Option α)}
    (hc : Clean cap ([] : List α) arr) :
    Clean cap ([] : List α) (rotateRightDonorChildren arr n) := by
  rw [rotateRightDonorChildren, zeroSlot_present (by decide), setSlot_dead hc (Nat.zero_le _)]
  exact hc

theorem slots_refine_rotateRight_receiver {cap : Nat} {live : List α} {arr : List (Option α)}
    (sep : α) (hc : Clean cap live arr) (hroom : live.length < cap) :
    Clean cap (sep :: live) (rotateRightReceiver arr (some sep)) := by
  rw [rotateRightReceiver, hc.length_eq]
  exact clean_onPrefix hc hc.2 (Nat.le_refl _) fun h =>
    slots_refine_insertOne (idx := 0) sep h (Nat.zero_le _) hroom

/-- leaf receiver, children array: `insertOne(right.children[:], 0, nil)`. -/
theorem slots_refine_rotateRight_receiver_children_leaf {cap : Nat} {arr : List (Option α)}
    (hc : Clean cap ([] : List α) arr) :
    Clean cap ([] : List α) (rotateRightReceiver arr none) := by
  obtain ⟨rfl, -⟩ := hc
  cases cap with
  | zero => exact clean_of_eq [] 0 rfl rfl
  | succ k =>
    refine clean_of_eq [] (k + 1) ?_ (Nat.zero_add _)
    rw [rotateRightReceiver, onPrefix, List.take_of_length_le (Nat.le_refl _),
      List.drop_eq_nil_of_le (Nat.le_refl _), List.append_nil,
      insertOne_eq _ _ _ (by simp)]
    simp [← List.replicate_succ]

theorem slots_refine_rotateLeft_donor {cap : Nat} {live : List α} {arr : List (Option α)}
    (hc : Clean cap live arr) (hcap : 0 < cap) :
    Clean cap (live.drop 1) (rotateLeftDonor arr) := by
  rw [rotateLeftDonor, hc.length_eq]
  exact clean_onPrefix hc hc.2 (Nat.le_refl _) fun h => slots_refine_removeOne (idx := 0) h hcap

theorem slots_refine_rotateLeft_receiver {cap : Nat} {live : List α} {arr : List (Option α)}
    (sep : α) (hc : Clean cap live arr) (hroom : live.length < cap) :
    Clean cap (live ++ [sep]) (rotateLeftReceiver arr live.length (some sep)) :=
  slots_refine_setNext sep hc hroom

/-- leaf receiver, children array: `left.children[left.n+1] = nil`. -/
theorem slots_refine_rotateLeft_receiver_children_leaf {cap i : Nat} {arr : List (Option α)}
    (hc : Clean cap ([] : List α) arr) :
    Clean cap ([] : List α) (rotateLeftReceiver arr i none) := by
  rw [rotateLeftReceiver, setSlot_dead hc (Nat.zero_le _)]
  exact hc

theorem slots_refine_merge_left {cap rcap : Nat} {live rlive : List α}
    {arr right : List (Option α)} (sep : α)
    (hc : Clean cap live arr) (hr : Clean rcap rlive right)
    (hfit : live.length + 1 + rlive.length ≤ cap) :
    Clean cap (live ++ sep :: rlive)
      (mergeLeft arr live.length (some sep) right rlive.length) := by
  have := clean_copyInto (slots_refine_setNext sep hc (by omega)) hr (by simp; omega)
  rwa [List.length_append, List.append_assoc] at this

/-- inner nodes: `live` are the `n + 1` children of `left`, `rlive` the `rn + 1` children of
`right`. -/
theorem slots_refine_merge_left_children {cap rcap n rn : Nat} {live rlive : List α}
    {arr right : List (Option α)}
    (hc : Clean cap live arr) (hr : Clean rcap rlive right)
    (hn : live.length = n + 1) (hrn : rlive.length = rn + 1)
    (hfit : live.length + rlive.length ≤ cap) :
    Clean cap (live ++ rlive) (mergeLeftChildren arr n right rn) := by
  have h2 := clean_copyInto hc hr hfit
  rwa [hn, hrn] at h2

/-- leaves: both children arrays are all `nil` and stay so. -/
theorem slots_refine_merge_left_children_leaf {cap rcap n rn : Nat}
    {arr right : List (Option α)}
    (hc : Clean cap ([] : List α) arr) (hr : Clean rcap ([] : List α) right)
    (hfit : n + 1 + (rn + 1) ≤ cap) (hrfit : rn + 1 ≤ rcap) :
    Clean cap ([] : List α) (mergeLeftChildren arr n right rn) := by
  rw [mergeLeftChildren, copyInto_dead hc hr (Nat.zero_le _) hfit hrfit]
  exact hc

theorem slots_refine_merge_parent {cap : Nat} {live : List α} {arr : List (Option α)} {idx : Nat}
    (hc : Clean cap live arr) (hidx : idx < live.length) :
    Clean cap (live.take idx ++ live.drop (idx + 1)) (mergeParent arr live.length idx) :=
  slots_refine_remove hc hidx

/-- children of the parent: `live` are its `n + 1` children, the retired `right` sits at
`idx + 1`. -/
theorem slots_refine_merge_parent_children {cap n : Nat} {live : List α} {arr : List (Option α)}
    {idx : Nat} (hc : Clean cap live arr) (hn : live.length = n + 1) (hidx : idx < n) :
    Clean cap (live.take (idx + 1) ++ live.drop (idx + 2)) (mergeParent arr (n + 1) (idx + 1)) := by
  rw [← hn]
  exact slots_refine_remove hc (by omega)

theorem slots_refine_parentInsert {cap : Nat} {live : List α} {arr : List (Option α)} {idx : Nat}
    (sep : α) (hc : Clean cap live arr) (hidx : idx ≤ live.length) (hroom : live.length < cap) :
    Clean cap (live.take idx ++ sep :: live.drop idx) (parentInsert arr live.length idx (some sep)) :=
  slots_refine_leafInsert sep hc hidx hroom

theorem slots_refine_parentInsert_children {cap n : Nat} {live : List α} {arr : List (Option α)}
    {idx : Nat} (right : α) (hc : Clean cap live arr) (hn : live.length = n + 1) (hidx : idx ≤ n)
    (hroom : live.length < cap) :
    Clean cap (live.take (idx + 1) ++ right :: live.drop (idx + 1))
      (parentInsert arr (n + 1) (idx + 1) (some right)) := by
  rw [← hn]
  exact slots_refine_leafInsert right hc (by omega) hroom

theorem slots_refine_split_left_children_leaf {arr : List (Option α)}
    (hc : Clean childrenCap ([] : List α) arr) :
    Clean childrenCap ([] : List α) (splitLeftChildrenLeaf arr) := by
  rw [splitLeftChildrenLeaf, if_pos (by decide)]
  exact clean_clearFrom (i := leftN.toNat + 1) hc (by decide)

/-- the source's aliased loop: the node is clean with live prefix `live`, the amalgam is
`insertAt live e x` (`Model/BTree.lean`, `overfillNode`). -/
theorem slots_refine_split_left_aliased {cap m e : Nat} {live : List α} {arr : List (Option α)}
    (x : α) (hc : Clean cap live arr) (he : e ≤ live.length) (hm : m ≤ cap)
    (hall : m ≤ live.length + 1) :
    Clean cap ((live.take e ++ x :: live.drop e).take m)
      (splitLeftAliased overfillClearsKeys arr e (some x) m) :=
  clean_splitLeftAliased (by decide) x hc he hm hall

theorem slots_refine_split_left_aliased_values {cap m e : Nat} {live : List α}
    {arr : List (Option α)} (x : α) (hc : Clean cap live arr) (he : e ≤ live.length) (hm : m ≤ cap)
    (hall : m ≤ live.length + 1) :
    Clean cap ((live.take e ++ x :: live.drop e).take m)
      (splitLeftAliased overfillClearsValues arr e (some x) m) :=
  clean_splitLeftAliased (by decide) x hc he hm hall

theorem slots_refine_split_left_aliased_children {cap m e : Nat} {live : List α}
    {arr : List (Option α)} (x : α) (hc : Clean cap live arr) (he : e ≤ live.length) (hm : m ≤ cap)
    (hall : m ≤ live.length + 1) :
    Clean cap ((live.take e ++ x :: live.drop e).take m)
      (splitLeftAliased overfillClearsChildren arr e (some x) m) :=
  clean_splitLeftAliased (by decide) x hc he hm hall

/-- a full node's `keys` after `overfill`: `all` is the amalgam (`keysCap + 1` entries). -/
theorem slots_refine_split_left_keys_full {live all : List α} {arr : List (Option α)}
    (hc : Clean keysCap live arr) (hall : all.length = keysCap + 1) :
    Clean keysCap (all.take leftN.toNat) (splitLeftKeys arr all) :=
  clean_splitLeft (clears := overfillClearsKeys) (by decide) hc (by decide) (by rw [hall]; decide)

theorem slots_refine_split_left_values_full {live all : List α} {arr : List (Option α)}
    (hc : Clean valuesCap live arr) (hall : all.length = valuesCap + 1) :
    Clean valuesCap (all.take leftN.toNat) (splitLeftValues arr all) :=
  clean_splitLeft (clears := overfillClearsValues) (by decide) hc (by decide) (by rw [hall]; decide)

theorem slots_refine_split_left_children_full {live all : List α} {arr : List (Option α)}
    (hc : Clean childrenCap live arr) (hall : all.length = childrenCap + 1) :
    Clean childrenCap (all.take (leftN.toNat + 1)) (splitLeftChildren arr all) :=
  clean_splitLeft (clears := overfillClearsChildren) (by decide) hc (by decide) (by rw [hall]; decide)

/-- the right half of the split is a fresh node filled exactly as `overfillNode` says. -/
theorem slots_refine_split_right_keys {all : List α} (hall : all.length = keysCap + 1) :
    Clean keysCap ((all.drop (rightFirstIdx 0).toNat).take rightN.toNat)
      (splitRight keysCap all (rightFirstIdx 0).toNat rightN.toNat) :=
  slots_refine_splitRight all _ _ (by decide) (by rw [hall]; decide)

theorem slots_refine_split_right_children {all : List α} (hall : all.length = childrenCap + 1) :
    Clean childrenCap ((all.drop (rightFirstChildIdx 0).toNat).take (rightN.toNat + 1))
      (splitRight childrenCap all (rightFirstChildIdx 0).toNat (rightN.toNat + 1)) :=
  slots_refine_splitRight all _ _ (by decide) (by rw [hall]; decide)

/-! ## the same statements in the vocabulary of `Model/BTree.lean` -/

open Juniper.Model.BTree in
theorem slots_refine_leafInsert_insertAt {cap : Nat} {live : List α} {arr : List (Option α)}
    {idx : Nat} (x : α) (hc : Clean cap live arr) (hidx : idx ≤ live.length)
    (hroom : live.length < cap) :
    Clean cap (insertAt live idx x) (leafInsert arr live.length idx (some x)) :=
  slots_refine_leafInsert x hc hidx hroom

open Juniper.Model.BTree in
theorem slots_refine_remove_removeAt {cap : Nat} {live : List α} {arr : List (Option α)}
    {idx : Nat} (hc : Clean cap live arr) (hidx : idx < live.length) :
    Clean cap (removeAt live idx) (remove arr live.length idx) :=
  slots_refine_remove hc hidx

open Juniper.Model.BTree in
theorem slots_refine_replace_replaceAt {cap : Nat} {live : List α} {arr : List (Option α)}
    {idx : Nat} (x : α) (hc : Clean cap live arr) (hidx : idx < live.length) :
    Clean cap (replaceAt live idx x) (replace arr idx (some x)) :=
  slots_refine_replace x hc hidx

end Juniper.Proofs.Tree
