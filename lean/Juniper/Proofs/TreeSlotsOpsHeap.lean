import Juniper.Proofs.TreeSlotsOpsHistory
/-!
# Slot-level lemmas (C03 "no retained garbage"): the whole tree

`Heap.put` / `Heap.delete` (the pointer-level model that the correspondence harness compares with the
real code raw slot by raw slot) change the store only through `Heap.step`, i.e. through an enabled
`applyOp`; hence an invariant of the node-level operations is an invariant of every `Put` / `Delete`
history (`runMuts_inv`), in particular every stored node stays clean (`runMuts_clean`).

`Yields I st o` says that whatever the partial computation `o` returns carries a state satisfying `I`;
it is proved by walking along the `do` block (`Yields.bind`, `Yields.ite`, `Yields.pure`). The walk through
`steal` and the rotations is made for any predicate on the whole heap that `Heap.step` and `Heap.event` keep
(`steal_keeps`): the invariants of the store are one instance, "the root pointer stays" is another.
-/
namespace Juniper.Proofs.TreeSlotsOps
open Juniper.Model.BTreeSlotsOps Juniper.Gen
variable {K V : Type}

@[simp] theorem event_nodes (h : Heap K V) (e : String) : (h.event e).nodes = h.nodes := rfl

def Yields {σ β : Type} (I : σ → Prop) (st : β → σ) (o : Option β) : Prop :=
  ∀ b, o = some b → I (st b)

section
variable {σ α β : Type} {I : σ → Prop} {st : β → σ}

theorem Yields.pure {b : β} (h : I (st b)) : Yields I st (some b) := fun _ e => by cases e; exact h

theorem Yields.bind {o : Option α} {f : α → Option β} (h : ∀ a, o = some a → Yields I st (f a)) :
    Yields I st (o.bind f) := fun b hb => by
  obtain ⟨a, ha, hb⟩ := Option.bind_eq_some_iff.mp hb
  exact h a ha b hb

theorem Yields.of {o : Option β} {b : β} (hb : o = some b) (h : Yields I st o) : I (st b) := h b hb

theorem Yields.ite {c : Prop} [Decidable c] {a b : Option β} (ha : Yields I st a) (hb : Yields I st b) :
    Yields I st (if c then a else b) := by
  split <;> assumption
end

/-! ## the calls of `steal` / `merge`, evaluated on the shipped source

`Heap.steal` / `Heap.mergeFrom` execute the call that the generated facts `Gen.Tree.stealRightCall`,
`stealLeftCall`, `mergeLeftCall`, `mergeRightCall` prescribe; on the shipped source these are
`rotateLeft(x, right)`, `rotateRight(left, x)`, `mergeTwo(left, x)`, `mergeTwo(x, right)`. -/

theorem rotCall_stealRight (h : Heap K V) (xid r : Nat) (left : Option Nat) :
    Heap.rotCall h Tree.stealRightCall xid left (some r) = Heap.rotateLeft h xid r := by
  simp [Heap.rotCall, Heap.callArgs, Heap.argNode, Tree.stealRightCall]

theorem rotCall_stealLeft (h : Heap K V) (xid l : Nat) (right : Option Nat) :
    Heap.rotCall h Tree.stealLeftCall xid (some l) right = Heap.rotateRight h l xid := by
  simp [Heap.rotCall, Heap.callArgs, Heap.argNode, Tree.stealLeftCall]

theorem callArgs_merge (xid : Nat) (left right : Option Nat) (c : Bool) :
    Heap.callArgs (if c then Tree.mergeLeftCall else Tree.mergeRightCall) [.mergeTwo] xid left right =
      (if c then left.map (·, xid) else right.map (xid, ·)).map fun lr => (Tree.Callee.mergeTwo, lr.1, lr.2) := by
  cases c <;> cases left <;> cases right <;>
    simp [Heap.callArgs, Heap.argNode, Tree.mergeLeftCall, Tree.mergeRightCall]

section
variable {I : Heap K V → Prop}
  (hS : ∀ {h h' : Heap K V} {op : NodeOp K V Nat} {w : List Nat}, I h → h.step op w = some h' → I h')
  (hE : ∀ {h : Heap K V} {e : String}, I h → I (h.event e))
include hS

theorem setParents_keeps (p : Option Nat) : ∀ (cs : List (Option Nat)) {h : Heap K V},
    I h → Yields I id (h.setParents cs p)
  | [], _, hc => .pure hc
  | c :: cs, h, hc => by
    rw [Heap.setParents, List.foldlM_cons]
    exact .bind fun h1 hh1 => setParents_keeps p cs ((Yields.bind (st := id) fun _ _ _ hs => hS hc hs) h1 hh1)

include hE

theorem rotateLeft_keeps {h : Heap K V} (hc : I h) {lid rid : Nat} : Yields I id (h.rotateLeft lid rid) := by
  unfold Heap.rotateLeft
  refine .bind fun _ _ => .bind fun _ _ => .bind fun _ _ => .bind fun _ _ => .bind fun _ _ => .bind fun child _ =>
    .bind fun h1 hs1 => .bind fun h2 hs2 => .pure (hE ?_)
  cases child with
  | none => cases hs2; exact hS hc hs1
  | some c => exact setParents_keeps hS _ _ (hS hc hs1) h2 hs2

theorem rotateRight_keeps {h : Heap K V} (hc : I h) {lid rid : Nat} : Yields I id (h.rotateRight lid rid) := by
  unfold Heap.rotateRight
  refine .bind fun _ _ => .bind fun _ _ => .bind fun _ _ => .bind fun _ _ => .bind fun _ _ => .bind fun child _ =>
    .bind fun h1 hs1 => .bind fun h2 hs2 => .pure (hE ?_)
  cases child with
  | none => cases hs2; exact hS hc hs1
  | some c => exact setParents_keeps hS _ _ (hS hc hs1) h2 hs2

/-- whichever rotation on whichever nodes the generated call facts prescribe -/
theorem rotCall_keeps {h : Heap K V} (hc : I h)
    {call : Option (Tree.Callee × Tree.NodeArg × Tree.NodeArg)} {xid : Nat} {left right : Option Nat} :
    Yields I id (Heap.rotCall h call xid left right) := by
  unfold Heap.rotCall
  split
  · exact rotateLeft_keeps hS hE hc
  · exact rotateRight_keeps hS hE hc
  · exact fun _ h => nomatch h

theorem steal_keeps {h : Heap K V} (hc : I h) {xid : Nat} : Yields I (·.1) (h.steal xid) := by
  unfold Heap.steal
  refine .bind fun _ _ => .bind fun _ _ => .ite (.bind fun h1 hs1 => .pure (rotCall_keeps hS hE hc h1 hs1))
    (.bind fun _ _ => .ite (.bind fun h1 hs1 => .pure (rotCall_keeps hS hE hc h1 hs1)) (.pure hc))

end

section
variable {I : Fam K V Nat → Prop}
  (hI : ∀ {fam fam' : Fam K V Nat} {op : NodeOp K V Nat}, I fam → applyOp fam op = some fam' → I fam')
include hI

theorem step_inv {h : Heap K V} (hc : I h.nodes) {op : NodeOp K V Nat} {w : List Nat} :
    Yields I (·.nodes) (h.step op w) := fun h' hs => by
  obtain ⟨fam, hfam, rfl⟩ := Option.map_eq_some_iff.mp hs
  exact hI hc hfam

theorem setParents_inv (p : Option Nat) (cs : List (Option Nat)) {h : Heap K V} (hc : I h.nodes) :
    Yields I (·.nodes) (h.setParents cs p) :=
  setParents_keeps (I := fun h => I h.nodes) (fun hc hs => step_inv hI hc _ hs) p cs hc

theorem steal_inv {h : Heap K V} (hc : I h.nodes) {xid : Nat} : Yields I (·.1.nodes) (h.steal xid) :=
  steal_keeps (I := fun h => I h.nodes) (fun hc hs => step_inv hI hc _ hs) (fun hc => hc) hc

theorem mergeFrom_inv : ∀ (fuel : Nat) {h : Heap K V} {xid : Nat},
    I h.nodes → Yields I (·.nodes) (Heap.mergeFrom fuel h xid)
  | 0, _, _, _ => fun _ h => nomatch h
  | fuel + 1, h, xid, hc => by
    unfold Heap.mergeFrom
    refine .bind fun _ _ => .bind fun _ _ => .bind fun _ _ => .bind fun _ _ => .bind fun r _ => .bind fun _ _ =>
      .bind fun _ _ => .bind fun _ _ => .bind fun h1 hs1 => .bind fun h2 hs2 => ?_
    have c1 : I h1.nodes := Yields.of hs1 (.ite (.pure hc) (.bind fun _ _ => setParents_inv hI _ _ hc))
    have c2 : I h2.nodes := step_inv hI c1 h2 hs2
    -- from here on the heap is `h2.event _`, which `by exact c2` reads off the goal
    refine .bind fun _ _ => .ite (.ite (.bind fun h3 hs3 => ?_) (.pure c2)) (.ite (.bind fun st hst => ?_) (.pure c2))
    · have c3 : I h3.nodes := Yields.of hs3 (.ite (step_inv hI (by exact c2)) (.pure c2))
      exact .ite (.bind fun h4 hs4 => .pure (step_inv hI c3 h4 hs4)) (.pure c3)
    · have c3 := steal_inv hI (by exact c2) st hst
      exact .ite (mergeFrom_inv fuel c3) (.pure c3)

theorem overfill_inv (cmp : K → K → Int) : ∀ (fuel : Nat) {h : Heap K V} {xid : Nat} {k : K} {v : V}
    {afterK : Option Nat}, I h.nodes → Yields I (·.nodes) (Heap.overfill cmp fuel h xid k v afterK)
  | 0, _, _, _, _, _, _ => fun _ h => nomatch h
  | fuel + 1, h, xid, k, v, afterK, hc => by
    unfold Heap.overfill
    refine .bind fun _ _ => .bind fun _ _ => .bind fun _ _ => .bind fun h1 hs1 => .bind fun _ _ => .bind fun _ _ =>
      .bind fun h2 hs2 => ?_
    have c1 : I h1.nodes := step_inv hI hc h1 hs1
    have c2 : I h2.nodes := Yields.of hs2 (.ite (.pure c1) (.bind fun h3 hs3 =>
      setParents_inv hI _ _ (setParents_inv hI _ _ (by exact c1) h3 hs3)))
    refine .bind fun _ _ => .bind fun _ _ => .ite
      (.bind fun h3 hs3 => .bind fun h4 hs4 => .pure (setParents_inv hI _ _ (step_inv hI c2 h3 hs3) h4 hs4))
      (.bind fun _ _ => .bind fun _ _ => .bind fun _ _ => .ite
        (.bind fun _ _ => .bind fun h3 hs3 => setParents_inv hI _ _ (step_inv hI c2 h3 hs3))
        (overfill_inv cmp fuel c2))

theorem put_inv (cmp : K → K → Int) {h : Heap K V} (hc : I h.nodes) {k : K} {v : V} :
    Yields I (·.nodes) (h.put cmp k v) := by
  unfold Heap.put
  refine .bind fun _ _ => .bind fun _ _ => .ite (step_inv hI hc) (.bind fun h1 hs1 => .pure ?_)
  have c1 : I h1.nodes :=
    Yields.of hs1 (.ite (.bind fun _ _ => .bind fun _ _ => step_inv hI hc) (overfill_inv hI cmp _ hc))
  exact c1

theorem deleteLeaf_inv {h : Heap K V} (hc : I h.nodes) {curr idx : Nat} :
    Yields I (·.1.nodes) (h.deleteLeaf curr idx) := by
  unfold Heap.deleteLeaf
  refine .bind fun h1 hs1 => .bind fun _ _ => ?_
  have c1 : I h1.nodes := step_inv hI hc h1 hs1
  exact .ite (.pure c1) (.bind fun st hst => .ite (.pure (steal_inv hI c1 st hst)) (.pure (steal_inv hI c1 st hst)))

theorem deleteInner_inv {h : Heap K V} (hc : I h.nodes) {curr idx fuel : Nat} {x : SNode K V Nat} :
    Yields I (·.1.nodes) (h.deleteInner curr idx x fuel) := by
  unfold Heap.deleteInner
  refine .bind fun _ _ => .bind fun _ _ => .bind fun _ _ => .bind fun _ _ => .bind fun _ _ => .bind fun h1 hs1 =>
    .bind fun _ _ => .bind fun _ _ => .bind fun _ _ => .bind fun h2 hs2 => ?_
  have c2 : I h2.nodes := step_inv hI (step_inv hI hc h1 hs1) h2 hs2
  exact .ite (.ite (.pure c2) (.bind fun st hst => .ite (.pure (steal_inv hI c2 st hst)) (.pure (steal_inv hI c2 st hst))))
    (.ite (.pure c2) fun _ h => nomatch h)

theorem delete_inv (cmp : K → K → Int) {h : Heap K V} (hc : I h.nodes) {k : K} :
    Yields I (·.nodes) (h.delete cmp k) := by
  unfold Heap.delete
  refine .bind fun _ _ => .ite (.ite (.pure hc) fun _ h => nomatch h) (.bind fun _ _ => .bind fun hl hhl => ?_)
  have c1 : I hl.1.nodes := Yields.of (st := (·.1.nodes)) hhl (.ite (deleteLeaf_inv hI (by exact hc)) (deleteInner_inv hI (by exact hc)))
  split
  · exact .pure c1
  · exact .ite (mergeFrom_inv hI _ c1) (.pure c1)

theorem runMuts_inv (cmp : K → K → Int) : ∀ (ms : List (Heap.Mut K V)) {h : Heap K V},
    I h.nodes → Yields I (·.nodes) (Heap.runMuts cmp h ms)
  | [], _, hc => .pure hc
  | .put _ _ :: ms, _, hc => .bind fun h1 hp => runMuts_inv cmp ms (put_inv hI cmp hc h1 hp)
  | .del _ :: ms, _, hc => .bind fun h1 hp => runMuts_inv cmp ms (delete_inv hI cmp hc h1 hp)

end

theorem runMuts_clean (hf : ZeroingPresent) (cmp : K → K → Int) (ms : List (Heap.Mut K V)) {h h' : Heap K V}
    (hc : AllClean h.nodes) (hrun : Heap.runMuts cmp h ms = some h') : AllClean h'.nodes :=
  runMuts_inv (fun hc hop => applyOp_clean hf hc _ hop) cmp ms hc h' hrun

end Juniper.Proofs.TreeSlotsOps
