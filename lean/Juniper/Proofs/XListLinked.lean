import Juniper.Proofs.XListSpec
import Juniper.Proofs.XListStore
/-!
# The linked-list invariant in pointwise form, and how the five link surgeries preserve it

`Linked l h`: the heap `h` represents the sequence `l` — pointwise: every node of `l` is allocated,
its `prev` is its predecessor in `l` and its `next` its successor, `front`/`back` are the ends.
The lemmas `linked_*` take a *pointwise description* of the new heap (the record stored at every
identity, in terms of the old heap) and conclude `Linked` for the new sequence together with the
`Frame`; the per-program lemmas in `XListOps.lean` compute such descriptions by running the
interpreter. The surgeries at the back (`linked_insAfter`, `linked_snoc`) are those at the front
(`linked_insBefore`, `linked_cons`) on the mirrored heap.
-/
namespace Juniper.Proofs.XList
open Juniper.Spec.XList Juniper.Model.XList

structure Linked (l : List Nat) (h : Heap) : Prop where
  nodup : l.Nodup
  front : h.front = l.head?
  back : h.back = l.getLast?
  live : ∀ x ∈ l, (h.nodes.get x).isSome
  prev : ∀ x ∈ l, (h.nodes.recOf x).prev = prevIn l x
  next : ∀ x ∈ l, (h.nodes.recOf x).next = nextIn l x

theorem linked_nil {h : Heap} (hf : h.front = none) (hb : h.back = none) : Linked [] h :=
  ⟨List.nodup_nil, by simp [hf], by simp [hb], by simp, by simp, by simp⟩

/-- What an operation may change besides the links of the nodes of `l`: nothing. Values and
allocatedness of every existing node are kept. -/
structure Frame (l : List Nat) (h h' : Heap) : Prop where
  out : ∀ x, x ∉ l → h'.nodes.get x = h.nodes.get x
  value : ∀ x, (h.nodes.get x).isSome →
    (h'.nodes.get x).isSome ∧ (h'.nodes.recOf x).value = (h.nodes.recOf x).value

theorem frame_refl (l : List Nat) (h : Heap) : Frame l h h := ⟨fun _ _ => rfl, fun _ hx => ⟨hx, rfl⟩⟩

theorem frame_mono {l l' : List Nat} {h h' : Heap} (hsub : ∀ x ∈ l, x ∈ l') (hF : Frame l h h') :
    Frame l' h h' :=
  ⟨fun x hx => hF.out x (fun hm => hx (hsub x hm)), hF.value⟩

theorem Frame.trans {l k : List Nat} {h h1 h2 : Heap} (h01 : Frame l h h1) (h12 : Frame k h1 h2)
    (hsub : ∀ x ∈ k, x ∈ l) : Frame l h h2 := by
  refine ⟨fun x hx => ?_, fun x hx => ?_⟩
  · rw [h12.out x (fun hk => hx (hsub x hk)), h01.out x hx]
  · obtain ⟨v1, v2⟩ := h01.value x hx
    obtain ⟨w1, w2⟩ := h12.value x v1
    exact ⟨w1, w2.trans v2⟩

def _root_.Juniper.Model.XList.Node.swap (r : Node) : Node := ⟨r.next, r.prev, r.value⟩

/-- The heap read from the other end: `front`/`back` and every `prev`/`next` exchanged. It represents
the reversed sequence (`linked_mirror`), so a surgery at the back is the one at the front, mirrored. -/
def _root_.Juniper.Model.XList.Heap.mirror (h : Heap) : Heap :=
  { h with nodes := ⟨h.nodes.cells.map (Option.map Node.swap)⟩, front := h.back, back := h.front }

theorem get_mirror (h : Heap) (x : Nat) : h.mirror.nodes.get x = (h.nodes.get x).map Node.swap := by
  simp only [Heap.mirror, Store.get, Array.getElem?_map]
  cases h.nodes.cells[x]? <;> rfl

theorem recOf_mirror (h : Heap) (x : Nat) : h.mirror.nodes.recOf x = (h.nodes.recOf x).swap := by
  rw [Store.recOf, get_mirror, Store.recOf]
  cases h.nodes.get x <;> rfl

theorem mirror_mirror (h : Heap) : h.mirror.mirror = h := by
  obtain ⟨⟨cells⟩, f, b, s, n⟩ := h
  simp [Heap.mirror, Array.map_map, Function.comp_def, Option.map_map, Node.swap]

theorem linked_mirror {l : List Nat} {h : Heap} : Linked l.reverse h.mirror ↔ Linked l h := by
  have key : ∀ {l : List Nat} {h : Heap}, Linked l h → Linked l.reverse h.mirror := by
    intro l h ⟨hnd, hf, hb, hlv, hp, hn⟩
    refine ⟨nodup_reverse hnd, by rw [List.head?_reverse]; exact hb, by rw [List.getLast?_reverse]; exact hf,
      fun x hx => ?_, fun x hx => ?_, fun x hx => ?_⟩
    · rw [get_mirror, Option.isSome_map]; exact hlv x (List.mem_reverse.1 hx)
    · rw [recOf_mirror, prevIn_reverse hnd]; exact hn x (List.mem_reverse.1 hx)
    · rw [recOf_mirror, nextIn_reverse hnd]; exact hp x (List.mem_reverse.1 hx)
  refine ⟨fun hL => ?_, key⟩
  have := key hL
  rwa [List.reverse_reverse, mirror_mirror] at this

theorem Frame.mirror {l l' : List Nat} {h h' : Heap} (hF : Frame l h h') (hl : ∀ x ∈ l, x ∈ l') :
    Frame l' h.mirror h'.mirror := by
  refine ⟨fun x hx => ?_, fun x hx => ?_⟩
  · rw [get_mirror, get_mirror, hF.out x (fun hm => hx (hl x hm))]
  · rw [get_mirror, Option.isSome_map] at hx
    rw [get_mirror, Option.isSome_map, recOf_mirror, recOf_mirror]
    exact hF.value x hx

/-- The conclusion of a `linked_*` lemma about the mirrored heaps, read back. -/
theorem of_mirror {k l l' : List Nat} {h h' : Heap}
    (hm : Linked k.reverse h'.mirror ∧ Frame l h.mirror h'.mirror) (hl : ∀ x ∈ l, x ∈ l') :
    Linked k h' ∧ Frame l' h h' := by
  have hF := hm.2.mirror hl
  rw [mirror_mirror, mirror_mirror] at hF
  exact ⟨linked_mirror.1 hm.1, hF⟩

theorem Linked.get {l : List Nat} {h : Heap} (hL : Linked l h) {x : Nat} (hx : x ∈ l) :
    h.nodes.get x = some (h.nodes.recOf x) :=
  Store.get_of_isSome (hL.live x hx)

theorem Linked.of_records {l : List Nat} {h : Heap} (hnd : l.Nodup) (hf : h.front = l.head?)
    (hb : h.back = l.getLast?)
    (hr : ∀ x ∈ l, ∃ r, h.nodes.get x = some r ∧ r.prev = prevIn l x ∧ r.next = nextIn l x) :
    Linked l h :=
  ⟨hnd, hf, hb, fun x hx => by obtain ⟨r, e, _⟩ := hr x hx; rw [e]; rfl,
    fun x hx => by obtain ⟨r, e, ep, _⟩ := hr x hx; rw [Store.recOf_of_get e, ep],
    fun x hx => by obtain ⟨r, e, _, en⟩ := hr x hx; rw [Store.recOf_of_get e, en]⟩

theorem Linked.prev_cases {l : List Nat} {h : Heap} (hL : Linked l h) {n : Nat} (hn : n ∈ l) :
    (prevIn l n = none ∧ h.front = some n) ∨
      ∃ p, prevIn l n = some p ∧ h.front ≠ some n ∧ p ∈ l ∧ p ≠ n ∧
        h.nodes.get p = some (h.nodes.recOf p) := by
  have hp0 := prevIn_eq_none_iff hL.nodup hn
  rcases hp : prevIn l n with _ | p
  · exact Or.inl ⟨rfl, hL.front.trans (hp0.1 hp)⟩
  · have hpl := (prevIn_mem hp).2
    exact Or.inr ⟨p, rfl, fun e => (by rw [hp0.2 (hL.front.symm.trans e)] at hp; cases hp), hpl,
      fun e => prevIn_ne_self hL.nodup n (e ▸ hp), hL.get hpl⟩

theorem Linked.next_cases {l : List Nat} {h : Heap} (hL : Linked l h) {n : Nat} (hn : n ∈ l) :
    (nextIn l n = none ∧ h.back = some n) ∨
      ∃ q, nextIn l n = some q ∧ h.back ≠ some n ∧ q ∈ l ∧ q ≠ n ∧
        h.nodes.get q = some (h.nodes.recOf q) := by
  have hq0 := nextIn_eq_none_iff hL.nodup hn
  rcases hq : nextIn l n with _ | q
  · exact Or.inl ⟨rfl, hL.back.trans (hq0.1 hq)⟩
  · have hql := (nextIn_mem hq).2
    exact Or.inr ⟨q, rfl, fun e => (by rw [hq0.2 (hL.back.symm.trans e)] at hq; cases hq), hql,
      fun e => nextIn_ne_self hL.nodup n (e ▸ hq), hL.get hql⟩

theorem linked_congr {k : List Nat} {h h' : Heap} (hL : Linked k h) (hf : h'.front = h.front)
    (hb : h'.back = h.back) (hg : ∀ x ∈ k, h'.nodes.get x = h.nodes.get x) : Linked k h' := by
  obtain ⟨hnd, hfront, hback, hlv, hprev, hnext⟩ := hL
  refine ⟨hnd, hf ▸ hfront, hb ▸ hback, ?_, ?_, ?_⟩
  · intro x hx; rw [hg x hx]; exact hlv x hx
  · intro x hx; simp only [Store.recOf, hg x hx]; exact hprev x hx
  · intro x hx; simp only [Store.recOf, hg x hx]; exact hnext x hx

theorem linked_erase {l : List Nat} {h h' : Heap} (hL : Linked l h) {n : Nat} (hn : n ∈ l)
    (hf : h'.front = if prevIn l n = none then nextIn l n else h.front)
    (hb : h'.back = if nextIn l n = none then prevIn l n else h.back)
    (hrec : ∀ x, h'.nodes.get x =
      if prevIn l n = some x then some { h.nodes.recOf x with next := nextIn l n }
      else if nextIn l n = some x then some { h.nodes.recOf x with prev := prevIn l n }
      else h.nodes.get x) :
    Linked (l.erase n) h' ∧ h'.nodes.get n = h.nodes.get n ∧ Frame l h h' := by
  obtain ⟨hnd, hfront, hback, hlv, hprev, hnext⟩ := hL
  have hp0 := prevIn_eq_none_iff hnd hn
  have hq0 := nextIn_eq_none_iff hnd hn
  have hpm : ∀ x, prevIn l n = some x → x ∈ l := fun x e => (prevIn_mem e).2
  have hqm : ∀ x, nextIn l n = some x → x ∈ l := fun x e => (nextIn_mem e).2
  have hpq : ∀ x, prevIn l n = some x → nextIn l n ≠ some x := fun x e1 e2 => prev_ne_next hnd e1 e2 rfl
  refine ⟨Linked.of_records (hnd.erase n) ?_ ?_ ?_, ?_, ?_, ?_⟩
  · rw [hf, head?_erase hnd, hfront]; simp only [hp0]
  · rw [hb, getLast?_erase hnd, hback]; simp only [hq0]
  · intro x hxe
    obtain ⟨hxn, hxl⟩ := hnd.mem_erase_iff.1 hxe
    rw [hrec x, prevIn_erase hnd hxn, nextIn_erase hnd hxn, ← hprev x hxl, ← hnext x hxl]
    by_cases h1 : prevIn l n = some x
    · rw [if_pos h1, if_pos h1, if_neg (hpq x h1)]; exact ⟨_, rfl, rfl, rfl⟩
    · rw [if_neg h1, if_neg h1]
      split
      · exact ⟨_, rfl, rfl, rfl⟩
      · exact ⟨_, Store.get_of_isSome (hlv x hxl), rfl, rfl⟩
  · rw [hrec n, if_neg (prevIn_ne_self hnd n), if_neg (nextIn_ne_self hnd n)]
  · intro x hx
    rw [hrec x, if_neg (fun e => hx (hpm x e)), if_neg (fun e => hx (hqm x e))]
  · intro x hx
    rw [Store.recOf, hrec x]
    split
    · exact ⟨rfl, rfl⟩
    · split
      · exact ⟨rfl, rfl⟩
      · exact ⟨hx, rfl⟩

theorem linked_insBefore {k : List Nat} {h h' : Heap} (hL : Linked k h) {m n : Nat} (hm : m ∈ k)
    (hn : n ∉ k) {val : Int} (hval : (h.nodes.get n).isSome → val = (h.nodes.recOf n).value)
    (hf : h'.front = if prevIn k m = none then some n else h.front)
    (hb : h'.back = h.back)
    (hrec : ∀ x, h'.nodes.get x =
      if x = n then some ⟨prevIn k m, some m, val⟩
      else if x = m then some { h.nodes.recOf m with prev := some n }
      else if prevIn k m = some x then some { h.nodes.recOf x with next := some n }
      else h.nodes.get x) :
    Linked (insBefore k m n) h' ∧ Frame (n :: k) h h' := by
  obtain ⟨hnd, hfront, hback, hlv, hprev, hnext⟩ := hL
  have hp0 := prevIn_eq_none_iff hnd hm
  have hpm : ∀ x, prevIn k m = some x → x ∈ k := fun x e => (prevIn_mem e).2
  refine ⟨Linked.of_records (nodup_insBefore hnd hm hn) ?_ ?_ ?_, ?_, ?_⟩
  · rw [hf, head?_insBefore, hfront]; simp only [hp0]
  · rw [hb, getLast?_insBefore hnd, hback]
  · intro x hxe
    rw [hrec x, prevIn_insBefore hnd hm hn, nextIn_insBefore hnd hm hn]
    by_cases h1 : x = n
    · rw [if_pos h1, if_pos h1, if_pos h1]; exact ⟨_, rfl, rfl, rfl⟩
    · have hxk := ((mem_insBefore hm x).1 hxe).resolve_left h1
      rw [if_neg h1, if_neg h1, if_neg h1, ← hprev x hxk, ← hnext x hxk]
      by_cases h2 : x = m
      · subst h2
        rw [if_pos rfl, if_pos rfl, if_neg (prevIn_ne_self hnd x)]; exact ⟨_, rfl, rfl, rfl⟩
      · rw [if_neg h2, if_neg h2]
        split
        · exact ⟨_, rfl, rfl, rfl⟩
        · exact ⟨_, Store.get_of_isSome (hlv x hxk), rfl, rfl⟩
  · intro x hx
    rw [hrec x, if_neg (fun e : x = n => hx (e ▸ List.mem_cons_self)),
      if_neg (fun e : x = m => hx (e ▸ List.mem_cons_of_mem _ hm)),
      if_neg (fun e => hx (List.mem_cons_of_mem _ (hpm x e)))]
  · intro x hx
    rw [Store.recOf, hrec x]
    by_cases h1 : x = n
    · rw [if_pos h1]; exact ⟨rfl, h1 ▸ hval (h1 ▸ hx)⟩
    · rw [if_neg h1]
      by_cases h2 : x = m
      · rw [if_pos h2, h2]; exact ⟨rfl, rfl⟩
      · rw [if_neg h2]
        split
        · exact ⟨rfl, rfl⟩
        · exact ⟨hx, rfl⟩

theorem linked_insAfter {k : List Nat} {h h' : Heap} (hL : Linked k h) {m n : Nat} (hm : m ∈ k)
    (hn : n ∉ k) {val : Int} (hval : (h.nodes.get n).isSome → val = (h.nodes.recOf n).value)
    (hf : h'.front = h.front)
    (hb : h'.back = if nextIn k m = none then some n else h.back)
    (hrec : ∀ x, h'.nodes.get x =
      if x = n then some ⟨some m, nextIn k m, val⟩
      else if x = m then some { h.nodes.recOf m with next := some n }
      else if nextIn k m = some x then some { h.nodes.recOf x with prev := some n }
      else h.nodes.get x) :
    Linked (insAfter k m n) h' ∧ Frame (n :: k) h h' := by
  have hnd := hL.nodup
  refine of_mirror (l := n :: k.reverse) ?_ (fun x hx => by simpa using hx)
  rw [reverse_insAfter hnd]
  refine linked_insBefore (linked_mirror.2 hL) (List.mem_reverse.2 hm) (by simpa using hn) (val := val)
    (by rw [get_mirror, Option.isSome_map, recOf_mirror]; exact hval)
    (by rw [prevIn_reverse hnd]; exact hb) hf
    (fun x => by
      rw [get_mirror, hrec x, prevIn_reverse hnd, recOf_mirror, recOf_mirror, get_mirror]
      by_cases h1 : x = n
      · rw [if_pos h1, if_pos h1]; rfl
      · rw [if_neg h1, if_neg h1]
        by_cases h2 : x = m
        · rw [if_pos h2, if_pos h2]; rfl
        · rw [if_neg h2, if_neg h2]
          split <;> rfl)

theorem linked_cons {l : List Nat} {h h' : Heap} (hL : Linked l h) {n : Nat} (hn : n ∉ l)
    {val : Int} (hval : (h.nodes.get n).isSome → val = (h.nodes.recOf n).value)
    (hf : h'.front = some n)
    (hb : h'.back = if h.back = none then some n else h.back)
    (hrec : ∀ x, h'.nodes.get x =
      if x = n then some ⟨none, h.front, val⟩
      else if h.front = some x then some { h.nodes.recOf x with prev := some n }
      else h.nodes.get x) :
    Linked (n :: l) h' ∧ Frame (n :: l) h h' := by
  have hfm : ∀ x, h.front = some x → x ∈ l := fun x e => List.mem_of_head? (hL.front ▸ e)
  refine ⟨Linked.of_records (List.nodup_cons.2 ⟨hn, hL.nodup⟩) (by simp [hf]) ?_ ?_, ?_, ?_⟩
  · rw [hb, hL.back, getLast?_cons']
    cases l <;> simp
  · intro x hx
    rw [hrec x, prevIn_cons, nextIn_cons, ← hL.front]
    by_cases h1 : x = n
    · subst h1
      exact ⟨_, if_pos rfl, by rw [if_neg (fun e => hn (hfm x e)), prevIn_not_mem hn], by rw [if_pos rfl]⟩
    · have hxl := (List.mem_cons.1 hx).resolve_left h1
      rw [if_neg h1, if_neg h1, ← hL.prev x hxl, ← hL.next x hxl]
      split
      · exact ⟨_, rfl, rfl, rfl⟩
      · exact ⟨_, hL.get hxl, rfl, rfl⟩
  · intro x hx
    rw [hrec x, if_neg (fun e : x = n => hx (e ▸ List.mem_cons_self)),
      if_neg (fun e => hx (List.mem_cons_of_mem _ (hfm x e)))]
  · intro x hx
    rw [Store.recOf, hrec x]
    by_cases h1 : x = n
    · rw [if_pos h1]; exact ⟨rfl, h1 ▸ hval (h1 ▸ hx)⟩
    · rw [if_neg h1]
      split
      · exact ⟨rfl, rfl⟩
      · exact ⟨hx, rfl⟩

theorem linked_snoc {l : List Nat} {h h' : Heap} (hL : Linked l h) {n : Nat} (hn : n ∉ l)
    {val : Int} (hval : (h.nodes.get n).isSome → val = (h.nodes.recOf n).value)
    (hf : h'.front = if h.front = none then some n else h.front)
    (hb : h'.back = some n)
    (hrec : ∀ x, h'.nodes.get x =
      if x = n then some ⟨h.back, none, val⟩
      else if h.back = some x then some { h.nodes.recOf x with next := some n }
      else h.nodes.get x) :
    Linked (l ++ [n]) h' ∧ Frame (n :: l) h h' := by
  refine of_mirror (l := n :: l.reverse) ?_ (fun x hx => by simpa using hx)
  rw [List.reverse_append, List.reverse_singleton, List.singleton_append]
  refine linked_cons (linked_mirror.2 hL) (by simpa using hn) (val := val)
    (by rw [get_mirror, Option.isSome_map, recOf_mirror]; exact hval) hb hf
    (fun x => by
      rw [get_mirror, hrec x, recOf_mirror, get_mirror]
      by_cases h1 : x = n
      · rw [if_pos h1, if_pos h1]; rfl
      · rw [if_neg h1, if_neg h1]
        by_cases h2 : h.back = some x
        · rw [if_pos h2, if_pos (show h.mirror.front = some x from h2)]; rfl
        · rw [if_neg h2, if_neg (show ¬ h.mirror.front = some x from h2)])

end Juniper.Proofs.XList
