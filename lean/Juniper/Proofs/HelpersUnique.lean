import Juniper.Proofs.HelpersBasic
/-! `xslices.Unique` / `UniqueInPlace` (C19). -/
namespace Juniper.Proofs.Helpers
open Juniper.Model.Helpers Juniper.Spec.Helpers Juniper.Gen.Helpers

variable {α : Type} [DecidableEq α]

theorem mem_firstOccs (s : List α) (x : α) : x ∈ firstOccs s ↔ x ∈ s := by
  induction s with
  | nil => simp [firstOccs]
  | cons y ys ih =>
    simp only [firstOccs, List.mem_cons, List.mem_filter, ih, decide_eq_true_eq]
    by_cases h : x = y <;> simp [h]

theorem nodup_firstOccs (s : List α) : (firstOccs s).Nodup := by
  induction s with
  | nil => simp [firstOccs]
  | cons y ys ih =>
    simp only [firstOccs, List.nodup_cons, List.mem_filter, decide_eq_true_eq]
    refine ⟨fun h => h.2 rfl, ?_⟩
    exact List.Pairwise.sublist List.filter_sublist ih

theorem sublist_firstOccs (s : List α) : (firstOccs s).Sublist s := by
  induction s with
  | nil => simp [firstOccs]
  | cons y ys ih =>
    simp only [firstOccs]
    exact List.Sublist.cons_cons y (List.Sublist.trans List.filter_sublist ih)

theorem filter_firstOccs_cons_of_mem {x : α} {seen : List α} (xs : List α) (hx : x ∈ seen) :
    (firstOccs (x :: xs)).filter (fun y => decide (y ∉ seen)) =
      (firstOccs xs).filter (fun y => decide (y ∉ seen)) := by
  rw [firstOccs, List.filter_cons]
  simp only [hx, not_true_eq_false, decide_false, Bool.false_eq_true, ↓reduceIte, List.filter_filter]
  apply List.filter_congr
  intro y _
  by_cases hy : y ∈ seen
  · simp [hy]
  · have : y ≠ x := fun h => hy (h ▸ hx)
    simp [hy, this]

theorem filter_firstOccs_cons_of_not_mem {x : α} {seen : List α} (xs : List α) (hx : x ∉ seen) :
    (firstOccs (x :: xs)).filter (fun y => decide (y ∉ seen)) =
      x :: (firstOccs xs).filter (fun y => decide (y ∉ x :: seen)) := by
  rw [firstOccs, List.filter_cons]
  simp only [hx, not_false_eq_true, decide_true, ↓reduceIte, List.filter_filter]
  congr 1
  apply List.filter_congr
  intro y _
  simp only [List.mem_cons, not_or, ne_eq]
  by_cases hy : y = x <;> simp [hy, hx]

theorem uniqueInto_eq (into seen s : List α) :
    uniqueInto into seen s = into ++ (firstOccs s).filter (fun y => decide (y ∉ seen)) := by
  induction s generalizing into seen with
  | nil => simp [uniqueInto, firstOccs]
  | cons x xs ih =>
    simp only [uniqueInto, uniqAppends, uniqMarks]
    by_cases hx : x ∈ seen
    · simp only [hx, decide_true, Bool.not_true, Bool.false_eq_true, ↓reduceIte, ih,
        filter_firstOccs_cons_of_mem xs hx]
    · simp only [hx, decide_false, Bool.not_false, ↓reduceIte, ih, filter_firstOccs_cons_of_not_mem xs hx,
        List.append_assoc, List.singleton_append]

theorem unique_eq_firstOccs (s : List α) : unique s = firstOccs s := by
  simp [unique, uniqueInto_eq]

/-- `uniqueInto(s[:0], s)`, where destination and source share the array, computes in the front of the array what
`uniqueInto` computes into a destination of its own: the write index never overtakes the read index, so the unread
part of the array is intact. Both loops branch on the same generated test, which is therefore not looked into here. -/
theorem uipLoop_eq_uniqueInto (s : List α) (fuel : Nat) (arr seen : List α) (w i : Nat)
    (hlen : arr.length = s.length) (hdrop : arr.drop i = s.drop i) (hw : w ≤ i) (hi : i ≤ s.length)
    (hf : s.length - i ≤ fuel) :
    ∃ arr' w', uipLoop fuel arr seen w i = (arr', w') ∧ arr'.length = s.length ∧ w' ≤ s.length ∧
      arr'.take w' = uniqueInto (arr.take w) seen (s.drop i) := by
  induction fuel generalizing arr seen w i with
  | zero =>
    rw [List.drop_eq_nil_of_le (show s.length ≤ i by omega)]
    exact ⟨arr, w, rfl, hlen, by omega, rfl⟩
  | succ fuel ih =>
    unfold uipLoop
    by_cases hil : i < s.length
    · have hai : arr[i]? = some s[i] := by
        have h1 : (arr.drop i)[0]? = (s.drop i)[0]? := by rw [hdrop]
        simpa [List.getElem?_drop, List.getElem?_eq_getElem hil] using h1
      have hdrop' : arr.drop (i + 1) = s.drop (i + 1) := by
        have := congrArg (List.drop 1) hdrop
        simpa [List.drop_drop, Nat.add_comm] using this
      rw [List.drop_eq_getElem_cons hil, uniqueInto]
      simp only [hai]
      split
      · rw [← take_succ_set arr w s[i] (by omega)]
        exact ih (arr.set w s[i]) _ (w + 1) (i + 1) (by simp [hlen])
          (by rw [List.drop_set]; simp [show w < i + 1 by omega, hdrop']) (by omega) hil (by omega)
      · exact ih arr seen w (i + 1) hlen hdrop' (by omega) hil (by omega)
    · rw [show arr[i]? = none by simp [hlen]; omega, List.drop_eq_nil_of_le (by omega)]
      exact ⟨arr, w, rfl, hlen, by omega, rfl⟩

theorem uniqueInPlace_eq (zero : α) (s : List α) :
    uniqueInPlace zero s =
      some (firstOccs s, firstOccs s ++ List.replicate (s.length - (firstOccs s).length) zero) := by
  obtain ⟨arr', w', h1, h2, h3, h4⟩ :=
    uipLoop_eq_uniqueInto s s.length s [] 0 0 rfl rfl (Nat.le_refl _) (Nat.zero_le _) (by omega)
  have h4' : arr'.take w' = firstOccs s := h4.trans (unique_eq_firstOccs s)
  have hw : w' = (firstOccs s).length := by
    have := congrArg List.length h4'
    simp only [List.length_take] at this
    omega
  have hA : sliceOk 0 (uipIntoHi (s.length : Int) 0) (s.length : Int) = true :=
    (sliceOk_nat 0 0 s.length).2 ⟨Nat.le_refl 0, Nat.zero_le _⟩
  have hB : (uipIntoHi (s.length : Int) 0).toNat = 0 := rfl
  have hC : sliceOk (uipClearLo (s.length : Int) (w' : Int)) (uipClearHi (s.length : Int) (w' : Int)) (s.length : Int) = true :=
    (sliceOk_nat w' s.length s.length).2 ⟨h3, Nat.le_refl _⟩
  have hclear : clearAt zero arr' (uipClearLo (s.length : Int) (w' : Int)) (uipClearHi (s.length : Int) (w' : Int))
      = firstOccs s ++ List.replicate (s.length - w') zero := by
    show clearAt zero arr' (w' : Int) (s.length : Int) = _
    rw [clearAt_nat, h4', ← h2, List.drop_length, List.append_nil]
  unfold uniqueInPlace
  simp only [hA, hB, h1, hC, hclear, Bool.not_true, Bool.false_eq_true, ↓reduceIte]
  congr 2
  · rw [List.take_append_of_le_length (by omega), hw, List.take_length]
  · rw [hw]

end Juniper.Proofs.Helpers
