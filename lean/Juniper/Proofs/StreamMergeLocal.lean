import Juniper.Proofs.StreamMergeStep
import Juniper.Proofs.ListStore
/-! One goroutine of `stream.Merge`: the remaining work at each stage (`rank`), the local invariant (shapes of the
deferred-call lists, input closed once, no `Next` after `Close`), what a step of a goroutine does to the fields the
goroutines share, and the conservation of items. -/
namespace Juniper.Proofs.StreamMerge
open Juniper.Model.StreamMerge
variable {V : Type}

abbrev E0 : List ExitStep := [.markDone, .closeInput, .wgDone]

def wE : ExitStep → Nat
  | .markDone => 2
  | _ => 1

/-- The steps the goroutine has ahead of it at most before `finished`, a further hand-over aside (the longest way: its
input fails and it wins the CAS); `markDone` weighs 2 because its step leaves a `checkLast` in its place. -/
def rank : GPc V → Nat
  | .next => 10
  | .gotErr _ => 9
  | .won _ rest => rest.length + 6
  | .send _ => 6
  | .exiting rest => (rest.map wE).sum + 1
  | .finished => 0

/-- The possible remainders of the deferred-call list / of the CAS winner's statements. -/
def Shape : GPc V → Prop
  | .exiting rest => rest = E0 ∨ (∃ d, rest = [.checkLast d, .closeInput, .wgDone]) ∨
      rest = [.closeInput, .wgDone] ∨ rest = [.wgDone] ∨ rest = []
  | .won _ rest => rest = [.cancel, .closeErr] ∨ rest = [.closeErr] ∨ rest = []
  | _ => True

theorem Shape.tail_exiting {x : ExitStep} {rest : List ExitStep} :
    Shape (.exiting (x :: rest) : GPc V) → rest = match x with
      | .markDone | .checkLast _ => [.closeInput, .wgDone]
      | .closeInput => [.wgDone]
      | .wgDone => [] := by
  rintro (h | ⟨_, h⟩ | h | h | h) <;> cases h <;> rfl

theorem Shape.tail_won {e : Err} {x : WinStep} {rest : List WinStep} :
    Shape (.won e (x :: rest) : GPc V) → rest = match x with
      | .cancel => [.closeErr]
      | .closeErr => [] := by
  rintro (h | h | h) <;> cases h <;> rfl

/-- The goroutine has executed `in[i].Close()`. -/
def closedStage : GPc V → Bool
  | .exiting [.wgDone] => true
  | .exiting [] => true
  | .finished => true
  | _ => false

def inLoop : GPc V → Bool
  | .next => true
  | .gotErr _ => true
  | .won _ _ => true
  | .send _ => true
  | _ => false

/-- The goroutine holds the error `e` of its input's `Next`: it is at the CAS with it or runs the winner's statements. -/
def carries (e : Err) : GPc V → Prop
  | .gotErr e' => e' = e
  | .won e' _ => e' = e
  | _ => False

structure LocalOK (g : G V) : Prop where
  shape : Shape g.pc
  closes : g.closes = if closedStage g.pc then 1 else 0
  nac : g.nextAfterClose = false
  why : g.why = none ↔ inLoop g.pc = true
  dropped : inLoop g.pc = true → g.dropped = []

theorem LocalOK.not_inLoop {g : G V} (h : LocalOK g) (hw : g.why ≠ none) : inLoop g.pc = false := by
  cases hh : inLoop g.pc
  · rfl
  · exact absurd (h.why.mpr hh) hw

theorem localOK_init : LocalOK ({} : G V) :=
  ⟨trivial, rfl, rfl, by simp [inLoop], fun _ => rfl⟩

theorem gstep_localOK {s sh : St V} {i : Nat} {g g' : G V} {l : Label V} (t : GStep s i g l g' sh)
    (h : LocalOK g) : LocalOK g' := by
  obtain ⟨hs, hc, hn, hw, hd⟩ := h
  cases t with
  | item v hp | err e hp | ctxErr hp _ => rw [hp] at hc hw hd; exact ⟨trivial, hc, hn, hw, hd⟩
  | casWin e hp _ => rw [hp] at hc hw hd; exact ⟨.inl rfl, hc, hn, hw, hd⟩
  | ended hp | casLose e hp _ | winDone e hp | sendFail v hp _ =>
    rw [hp] at hc; exact ⟨.inl rfl, hc, hn, by simp [inLoop], by simp [inLoop]⟩
  | winCancel e rest hp | winClose e rest hp =>
    rw [hp] at hs hc hw hd
    obtain rfl := Shape.tail_won hs
    exact ⟨by simp [Shape], hc, hn, hw, hd⟩
  | sendOk v live hp =>
    rw [hp] at hc hw hd
    have hc0 : g.closes = 0 := hc
    exact ⟨trivial, hc, by simp [again, hn, hc0], hw, hd⟩
  | mark rest hp | checkFire rest hp _ | checkSkip d rest hp _ | wgDone rest hp =>
    rw [hp] at hs hc hw
    obtain rfl := Shape.tail_exiting hs
    exact ⟨by simp [Shape], hc, hn, hw, by simp [inLoop]⟩
  | closeIn rest hp =>
    rw [hp] at hs hc hw
    obtain rfl := Shape.tail_exiting hs
    have hc0 : g.closes = 0 := hc
    exact ⟨by simp [Shape], by simp [closedStage, hc0], hn, hw, by simp [inLoop]⟩
  | fin hp => rw [hp] at hc hw; exact ⟨trivial, hc, hn, hw, by simp [inLoop]⟩

/-! What a step of goroutine `i` does to the shared fields, each field once: `const` (never changed), `handoff` (the
consumer's side: `cpc`, `out`, `results`), `told` (`cancelled`, `closeOnce` / `winner`, `errLog`). `nDone`, `wg` and the
sender's two fields are followed where they are counted. -/

theorem GStep.const {s sh : St V} {i : Nat} {g g' : G V} {l : Label V} (t : GStep s i g l g' sh) :
    sh.k = s.k ∧ sh.origin = s.origin ∧ sh.streamDone = s.streamDone := by
  cases t <;> exact ⟨rfl, rfl, rfl⟩

theorem CStep.frame {s s' : St V} {l : Label V} (c : CStep s l s') :
    s'.k = s.k ∧ s'.origin = s.origin ∧ s'.gs = s.gs ∧ s'.out = s.out := by
  cases c <;> exact ⟨rfl, rfl, rfl, rfl⟩

theorem step_origin {s s' : St V} {l : Label V} (h : step s l = some s') : s'.origin = s.origin := by
  rcases step_cases h with ⟨i, g, g', sh, _, t, rfl⟩ | c
  · exact t.const.2.1
  · exact c.frame.2.1

theorem GStep.handoff {s sh : St V} {i : Nat} {g g' : G V} {l : Label V} (t : GStep s i g l g' sh) :
    (sh.cpc = s.cpc ∧ sh.out = s.out ∧ sh.results = s.results ∧ rank g'.pc < rank g.pc) ∨
    (∃ v live, g.pc = .send v ∧ g' = again g ∧ s.cpc = .inNext live ∧ sh.cpc = .idle ∧
      sh.out = s.out ++ [(i, v)] ∧ sh.results = s.results ++ [.item i v]) := by
  cases t with
  | sendOk v live hp hc => exact .inr ⟨v, live, hp, rfl, hc, rfl, rfl, rfl⟩
  | item v hp | ended hp | err e hp | ctxErr hp _ | casWin e hp _ | casLose e hp _ | winCancel e rest hp
  | winClose e rest hp | winDone e hp | sendFail v hp _ | mark rest hp | checkFire rest hp _
  | checkSkip d rest hp _ | closeIn rest hp | wgDone rest hp | fin hp =>
    exact .inl ⟨rfl, rfl, rfl, by simp [hp, rank, wE]⟩

/-- Who tells the others what: `cancelled` is set only by the CAS winner's `cancel()`, `closeOnce` and `winner` only by
the CAS of a goroutine that carries an error, and an error enters `errLog` as its goroutine comes to carry it. -/
theorem GStep.told {s sh : St V} {i : Nat} {g g' : G V} {l : Label V} (t : GStep s i g l g' sh) :
    (sh.cancelled = s.cancelled ∨ (sh.cancelled = true ∧ ∃ e r, g.pc = .won e r)) ∧
    ((sh.closeOnce = s.closeOnce ∧ sh.winner = s.winner) ∨
      (s.closeOnce = false ∧ sh.closeOnce = true ∧ ∃ e, g.pc = .gotErr e ∧ sh.winner = some (i, e))) ∧
    (∀ p, p ∈ sh.errLog → p ∈ s.errLog ∨ (p.1 = i ∧ carries (.inj p.2) g'.pc)) := by
  cases t with
  | err e hp =>
    refine ⟨.inl rfl, .inl ⟨rfl, rfl⟩, fun p hp' => ?_⟩
    rcases List.mem_append.mp hp' with hp' | hp'
    · exact .inl hp'
    · obtain rfl := List.mem_singleton.mp hp'; exact .inr ⟨rfl, rfl⟩
  | casWin e hp hco => exact ⟨.inl rfl, .inr ⟨hco, rfl, e, hp, rfl⟩, fun _ h => .inl h⟩
  | winCancel e rest hp => exact ⟨.inr ⟨rfl, e, _, hp⟩, .inl ⟨rfl, rfl⟩, fun _ h => .inl h⟩
  | item v hp | ended hp | ctxErr hp _ | casLose e hp _ | winClose e rest hp | winDone e hp | sendOk v live hp _
  | sendFail v hp _ | mark rest hp | checkFire rest hp _ | checkSkip d rest hp _ | closeIn rest hp | wgDone rest hp
  | fin hp => exact ⟨.inl rfl, .inl ⟨rfl, rfl⟩, fun _ h => .inl h⟩

theorem GStep.cancelled_mono {s sh : St V} {i : Nat} {g g' : G V} {l : Label V} (t : GStep s i g l g' sh)
    (h : s.cancelled = true) : sh.cancelled = true :=
  t.told.1.elim (fun e => e.trans h) (·.1)

structure LocalInv (k : Nat) (s : St V) : Prop where
  k_eq : s.k = k
  origin_eq : s.origin = ctxOrigin
  length_eq : s.gs.length = k
  localOK : ∀ g, g ∈ s.gs → LocalOK g

theorem localInv_init (k : Nat) : LocalInv k (init V k) :=
  ⟨rfl, by simp only [init], List.length_replicate, fun g hg => List.eq_of_mem_replicate hg ▸ localOK_init⟩

theorem localInv_step {k : Nat} {s s' : St V} {l : Label V} (hi : LocalInv k s) (h : step s l = some s') :
    LocalInv k s' := by
  rcases step_cases h with ⟨i, g, g', sh, hg, t, rfl⟩ | c
  · refine ⟨t.const.1.trans hi.k_eq, t.const.2.1.trans hi.origin_eq, by simpa using hi.length_eq,
      ListStore.forall_mem_set i hi.localOK (gstep_localOK t (hi.localOK g (List.mem_of_getElem? hg)))⟩
  · obtain ⟨h1, h2, h3, _⟩ := c.frame
    exact ⟨h1 ▸ hi.k_eq, h2 ▸ hi.origin_eq, h3 ▸ hi.length_eq, h3 ▸ hi.localOK⟩

theorem LocalInv.pos {k : Nat} {s : St V} (ha : LocalInv k s) {g : G V} (hg : g ∈ s.gs) : 0 < k := by
  have := List.length_pos_of_mem hg
  rwa [ha.length_eq] at this

theorem proj_append_same (i : Nat) (out : List (Nat × V)) (v : V) :
    proj i (out ++ [(i, v)]) = proj i out ++ [v] := by
  simp [proj, List.filter_append]

theorem proj_append_ne {i j : Nat} (h : j ≠ i) (out : List (Nat × V)) (v : V) :
    proj i (out ++ [(j, v)]) = proj i out := by
  simp [proj, List.filter_append, h]

theorem gstep_conserve {s sh : St V} {i : Nat} {g g' : G V} {l : Label V} (t : GStep s i g l g' sh)
    (h : LocalOK g) (hx : proj i s.out ++ heldG g.pc ++ g.dropped = g.items) :
    proj i sh.out ++ heldG g'.pc ++ g'.dropped = g'.items := by
  have hd := h.dropped
  cases t with
  | item v hp => rw [hp] at hx hd; simp [heldG, hd rfl] at hx ⊢; exact hx
  | sendOk v live hp => rw [hp] at hx; simpa [proj_append_same, again, heldG] using hx
  | sendFail v hp _ => rw [hp] at hx hd; simp [heldG, hd rfl] at hx ⊢; exact hx
  | ended hp | err e hp | ctxErr hp _ | casWin e hp _ | casLose e hp _ | winCancel e rest hp
  | winClose e rest hp | winDone e hp | mark rest hp | checkFire rest hp _ | checkSkip d rest hp _
  | closeIn rest hp | wgDone rest hp | fin hp => rw [hp] at hx; exact hx

/-- What the consumer received from input `i`, then the item goroutine `i` is trying
to send, then the item whose send failed, is exactly what `in[i].Next` returned. -/
structure ConserveInv (k : Nat) (s : St V) : Prop where
  conserve : ∀ i g, s.gs[i]? = some g → proj i s.out ++ heldG g.pc ++ g.dropped = g.items
  tags : ∀ p, p ∈ s.out → p.1 < k

theorem conserveInv_init (k : Nat) : ConserveInv k (init V k) := by
  refine ⟨fun i g hg => ?_, fun p hp => (nomatch hp)⟩
  cases List.eq_of_mem_replicate (List.mem_of_getElem? hg)
  rfl

theorem conserveInv_step {k : Nat} {s s' : St V} {l : Label V} (ha : LocalInv k s) (hi : ConserveInv k s)
    (h : step s l = some s') : ConserveInv k s' := by
  rcases step_cases h with ⟨i, g, g', sh, hg, t, rfl⟩ | c
  · have hlt := (List.getElem?_eq_some_iff.mp hg).1
    refine ⟨fun j x hx => ?_, fun p hp => ?_⟩
    · rcases ListStore.getElem?_set_some hx with ⟨rfl, rfl⟩ | ⟨hij, hx'⟩
      · exact gstep_conserve (sh := sh) t (ha.localOK g (List.mem_of_getElem? hg)) (hi.conserve i g hg)
      · rcases t.handoff with ⟨_, ho, _⟩ | ⟨v, _, _, _, _, _, ho, _⟩
        · exact (congrArg (fun o => proj j o ++ heldG x.pc ++ x.dropped) ho).trans (hi.conserve j x hx')
        · show proj j sh.out ++ _ ++ _ = _
          rw [ho, proj_append_ne hij]; exact hi.conserve j x hx'
    · rcases t.handoff with ⟨_, ho, _⟩ | ⟨v, _, _, _, _, _, ho, _⟩
      · exact hi.tags p (ho ▸ hp)
      · rcases List.mem_append.mp (ho ▸ hp) with hp | hp
        · exact hi.tags p hp
        · obtain rfl := List.mem_singleton.mp hp
          exact ha.length_eq ▸ hlt
  · obtain ⟨_, _, h3, h4⟩ := c.frame
    exact ⟨h3 ▸ h4 ▸ hi.conserve, h4 ▸ hi.tags⟩

end Juniper.Proofs.StreamMerge
