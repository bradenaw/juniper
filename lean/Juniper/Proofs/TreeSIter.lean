import Juniper.Proofs.TreeListIter
/-!
# The resume-key iterator of the specification (C02)

`SIter` remembers only a resume key, over a map that changes between calls: `sraw` yields the first entry at or beyond
it in the *current* contents and resumes from that entry's successor, `snext` is `iterator.While` around it (sticky
`done`), `smk` is what `Range` / `RangeReverse` create.
-/
namespace Juniper.Proofs.Tree
open Juniper.Model.BTree Juniper.Gen.Tree

variable {K V : Type}

/-- `resume = none`: exhausted; otherwise the key to resume from -/
structure SIter (K : Type) where
  resume : Option K
  fwd : Bool
  stop : Option (CmpOp × K)
  done : Bool

/-- one step of the bare resume-key iterator on the current map `L`: yield the first entry at or beyond
the resume key, resume from its successor in `L` -/
def sraw (cmp : K → K → Int) (L : List (K × V)) (fwd : Bool) : Option K → Option K × Option (K × V)
  | none => (none, none)
  | some k =>
    match ahead cmp L fwd k with
    | [] => (none, none)
    | e :: S' => (S'.head?.map (·.1), some e)

/-- `iterator.While` around it -/
def snext (cmp : K → K → Int) (L : List (K × V)) (it : SIter K) : SIter K × Option (K × V) :=
  match it.stop with
  | none =>
    let r := sraw cmp L it.fwd it.resume
    ({ it with resume := r.1 }, r.2)
  | some (op, key) =>
    if it.done then (it, none)
    else
      let r := sraw cmp L it.fwd it.resume
      match r.2 with
      | none => ({ it with resume := r.1 }, none)
      | some e =>
        if evalOp op (cmp e.1 key) then ({ it with resume := r.1 }, some e)
        else ({ it with resume := r.1, done := true }, none)

/-- the specification's iterator for `Range` / `RangeReverse` on the map `L` -/
def smk (cmp : K → K → Int) (L : List (K × V)) (fwd : Bool) (lo hi : Bound K) : SIter K :=
  { resume := (startOf cmp L fwd lo hi).head?.map (·.1), fwd := fwd, stop := stopOf fwd lo hi, done := false }

end Juniper.Proofs.Tree
