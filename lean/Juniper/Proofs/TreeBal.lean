import Juniper.Proofs.TreeBasic
import Juniper.Proofs.TreeCalls
/-!
# Balance and occupancy of the B-tree model (C03)

`Bal h x`: below `x` all leaves are at depth `h`, every inner node has `n+1` children and every node
other than `x` itself has `minKVs ≤ n ≤ maxKVs`. The occupancy of `x` itself is stated separately
(`Occ`) because it is what the operations violate transiently. Splits, rotations and merges are built from
two operations on nodes, cutting at an entry and joining around a separator (`cut_*`, `join_bal`, `toList_join`).
-/
namespace Juniper.Proofs.Tree
open Juniper.Model.BTree Juniper.Gen.Tree

variable {K V : Type}

/-- the arithmetic facts about the generated constants that the proofs rely on (re-proved by
`decide` against the constants as they are in the source now) -/
theorem consts :
    1 ≤ minKVs ∧ 2 * minKVs ≤ maxKVs ∧ keysLen = maxKVs ∧ amalgamLen = maxKVs + 1 ∧
    medianIdx = leftN ∧ minKVs ≤ leftN ∧ minKVs ≤ rightN ∧ leftN + 1 + rightN = maxKVs + 1 ∧
    rightFirstIdx 0 = leftN + 1 ∧ rightFirstChildIdx 0 = leftN + 1 := by decide

def Occ (x : Node K V) : Prop := minKVs ≤ x.n ∧ x.n ≤ maxKVs

def Bal : Nat → Node K V → Prop
  | 0, .mk _ _ kids => kids = []
  | h + 1, .mk _ kvs kids => kids.length = kvs.length + 1 ∧ ∀ c ∈ kids, Bal h c ∧ Occ c

theorem bal_zero {id : Nat} {kvs : List (K × V)} {kids : List (Node K V)} :
    Bal 0 (.mk id kvs kids) ↔ kids = [] := by simp [Bal]

theorem bal_succ {h id : Nat} {kvs : List (K × V)} {kids : List (Node K V)} :
    Bal (h + 1) (.mk id kvs kids) ↔ kids.length = kvs.length + 1 ∧ ∀ c ∈ kids, Bal h c ∧ Occ c := by
  simp [Bal]

theorem bal_leaf_iff {h id : Nat} {kvs : List (K × V)} : Bal h (.mk id kvs []) ↔ h = 0 := by
  cases h with
  | zero => simp [Bal]
  | succ h => simp [Bal]

theorem bal_inner {h id : Nat} {kvs : List (K × V)} {kids : List (Node K V)} (hne : kids ≠ [])
    (hb : Bal h (.mk id kvs kids)) :
    ∃ h', h = h' + 1 ∧ kids.length = kvs.length + 1 ∧ ∀ c ∈ kids, Bal h' c ∧ Occ c := by
  cases h with
  | zero => exact absurd (bal_zero.mp hb) hne
  | succ h => exact ⟨h, rfl, bal_succ.mp hb⟩

theorem node_n (id : Nat) (kvs : List (K × V)) (kids : List (Node K V)) :
    (Node.mk id kvs kids).n = kvs.length := rfl

theorem one_le_n_of_ne_zero {x : Node K V} (h : x.n ≠ 0) : 1 ≤ x.n := by
  have : 0 ≤ x.n := by simp [Node.n]
  omega

theorem bal_cases {h id : Nat} {kvs : List (K × V)} {kids : List (Node K V)} :
    Bal h (.mk id kvs kids) ↔
      (h = 0 ∧ kids = []) ∨
      (∃ h', h = h' + 1 ∧ kids.length = kvs.length + 1 ∧ ∀ c ∈ kids, Bal h' c ∧ Occ c) := by
  cases h <;> simp [Bal]

theorem bal_kids {h id : Nat} {kvs : List (K × V)} {kids : List (Node K V)} (hb : Bal h (.mk id kvs kids)) :
    kids = [] ∨ kids.length = kvs.length + 1 := by
  rcases bal_cases.mp hb with ⟨_, h⟩ | ⟨_, _, h, _⟩
  · exact Or.inl h
  · exact Or.inr h

theorem bal_child {h id : Nat} {kvs : List (K × V)} {kids : List (Node K V)} {i : Nat} {c : Node K V}
    (hb : Bal h (.mk id kvs kids)) (hc : kids[i]? = some c) :
    ∃ h', h = h' + 1 ∧ kids.length = kvs.length + 1 ∧ (∀ d ∈ kids, Bal h' d ∧ Occ d) ∧ Bal h' c ∧ Occ c := by
  have hcm := List.mem_of_getElem? hc
  obtain ⟨h', rfl, hlen, hall⟩ := bal_inner (List.ne_nil_of_mem hcm) hb
  exact ⟨h', rfl, hlen, hall, hall c hcm⟩

theorem bal_has_child {h id i : Nat} {kvs : List (K × V)} {kids : List (Node K V)} (hb : Bal h (.mk id kvs kids))
    (hne : kids ≠ []) {cmp : K → K → Int} {k : K} {f : Bool} (hs : searchNode cmp k kvs = (i, f)) : kids[i]? ≠ none := by
  obtain ⟨_, _, hlen, -⟩ := bal_inner hne hb
  have := searchNode_le hs
  simp; omega

theorem bal_replace_child {h id : Nat} {kvs : List (K × V)} {kids : List (Node K V)} {i : Nat}
    {c c' : Node K V} (hb : Bal (h + 1) (.mk id kvs kids)) (hi : kids[i]? = some c)
    (hc : Bal h c') (ho : Occ c') : Bal (h + 1) (.mk id kvs (replaceAt kids i c')) := by
  obtain ⟨hlen, hall⟩ := bal_succ.mp hb
  have hil : i < kids.length := (List.getElem?_eq_some_iff.mp hi).1
  refine bal_succ.mpr ⟨by rw [length_replaceAt _ _ _ hil]; exact hlen, fun d hd => ?_⟩
  rcases mem_replaceAt hd with rfl | hd
  · exact ⟨hc, ho⟩
  · exact hall d hd

theorem bal_insert {h id : Nat} {kvs : List (K × V)} {kids : List (Node K V)} {r : Node K V}
    (hb : Bal (h + 1) (.mk id kvs kids)) (hr : Bal h r ∧ Occ r) (e p : Nat) (kv : K × V) :
    Bal (h + 1) (.mk id (insertAt kvs e kv) (insertAt kids p r)) := by
  obtain ⟨hlen, hall⟩ := bal_succ.mp hb
  refine bal_succ.mpr ⟨by rw [length_insertAt, length_insertAt, hlen], fun d hd => ?_⟩
  rcases mem_insertAt hd with rfl | hd
  · exact hr
  · exact hall d hd

theorem cut_bal {h id : Nat} {all : List (K × V)} {allKids : List (Node K V)} (hb : Bal h (.mk id all allKids))
    (fresh : Nat) {m : Nat} (hm : m < all.length) :
    Bal h (.mk id (all.take m) (allKids.take (m + 1))) ∧
    Bal h (.mk fresh (all.drop (m + 1)) (allKids.drop (m + 1))) := by
  rcases bal_cases.mp hb with ⟨rfl, rfl⟩ | ⟨h', rfl, hlen, hall⟩
  · exact ⟨bal_zero.mpr rfl, bal_zero.mpr rfl⟩
  · refine ⟨bal_succ.mpr ⟨?_, fun c hc => hall c (List.mem_of_mem_take hc)⟩,
      bal_succ.mpr ⟨?_, fun c hc => hall c (List.mem_of_mem_drop hc)⟩⟩
    · simp only [List.length_take]; omega
    · simp only [List.length_drop]; omega

theorem cut_toList {id : Nat} {all : List (K × V)} {allKids : List (Node K V)}
    (hk : allKids = [] ∨ allKids.length = all.length + 1) (fresh : Nat) {m : Nat} (hm : m < all.length) :
    toList (.mk id (all.take m) (allKids.take (m + 1))) ++ all[m] ::
      toList (.mk fresh (all.drop (m + 1)) (allKids.drop (m + 1))) = toList (.mk id all allKids) := by
  rw [toList_at_sep_self hk (List.getElem?_eq_getElem hm), toList_mk, toList_mk]

/-- joining two nodes around a separator is what `mergeTwo` does; it undoes a cut -/
theorem join_bal {h lid rid : Nat} {lkvs rkvs : List (K × V)} {lkids rkids : List (Node K V)}
    (hbL : Bal h (.mk lid lkvs lkids)) (hbR : Bal h (.mk rid rkvs rkids)) (id : Nat) (s : K × V) :
    Bal h (.mk id (lkvs ++ s :: rkvs) (lkids ++ rkids)) := by
  rcases bal_cases.mp hbL with ⟨rfl, rfl⟩ | ⟨h', rfl, hl, hc⟩
  · obtain rfl := bal_zero.mp hbR
    exact bal_zero.mpr rfl
  · obtain ⟨hrl, hrc⟩ := bal_succ.mp hbR
    refine bal_succ.mpr ⟨by simp only [List.length_append, List.length_cons]; omega, fun c hcm => ?_⟩
    rcases List.mem_append.mp hcm with hcm | hcm
    · exact hc c hcm
    · exact hrc c hcm

theorem toList_join {h lid rid : Nat} {lkvs rkvs : List (K × V)} {lkids rkids : List (Node K V)}
    (hbL : Bal h (.mk lid lkvs lkids)) (hbR : Bal h (.mk rid rkvs rkids)) (id : Nat) (s : K × V) :
    toList (.mk id (lkvs ++ s :: rkvs) (lkids ++ rkids)) =
      toList (.mk lid lkvs lkids) ++ s :: toList (.mk rid rkvs rkids) := by
  rw [toList_mk, toList_mk, toList_mk, List.map_append]
  apply inorder_at_sep
  rcases bal_cases.mp hbL with ⟨rfl, rfl⟩ | ⟨h', rfl, hl, _⟩
  · obtain rfl := bal_zero.mp hbR
    exact Or.inl ⟨rfl, rfl⟩
  · obtain ⟨hrl, _⟩ := bal_succ.mp hbR
    refine Or.inr ⟨by simp; omega, fun h0 => ?_⟩
    obtain rfl := List.map_eq_nil_iff.mp h0
    simp at hrl

/-- `overfillNode` on a full node is the amalgam (the extra entry at its place, its right child just right of it)
cut at the median: the right part takes all that is left -/
theorem overfillNode_eq (cmp : K → K → Int) (id : Nat) (kvs : List (K × V)) (kids : List (Node K V))
    (kv : K × V) (afterK : Option (Node K V)) (fresh : Nat)
    (hfull : (kvs.length : Int) = maxKVs) (hk : kids.length ≤ kvs.length + 1) :
    overfillNode cmp id kvs kids kv afterK fresh =
      let e := lowerIdx amalgamLess cmp kv.1 kvs
      let all := insertAt kvs e kv
      let allKids := match afterK with
        | none => kids
        | some r => insertAt kids (e + 1) r
      (.mk id (all.take leftN.toNat) (allKids.take (leftN.toNat + 1)), all.getD leftN.toNat kv,
        .mk fresh (all.drop (leftN.toNat + 1)) (allKids.drop (leftN.toNat + 1))) := by
  obtain ⟨c1, c2, c3, c4, c5, c6, c7, c8, c9, c10⟩ := consts
  have e2 : (rightFirstIdx 0).toNat = leftN.toNat + 1 := by omega
  have e3 : (rightFirstChildIdx 0).toNat = leftN.toNat + 1 := by omega
  have tk : ∀ {α : Type} (l : List α) (n : Nat), l.length ≤ leftN.toNat + 1 + n →
      (l.drop (leftN.toNat + 1)).take n = l.drop (leftN.toNat + 1) :=
    fun l n h => List.take_of_length_le (by rw [List.length_drop]; omega)
  have hall := length_insertAt kvs (lowerIdx amalgamLess cmp kv.1 kvs) kv
  cases afterK with
  | none =>
    simp only [overfillNode, c5, e2, e3]
    rw [tk _ _ (by omega), tk _ _ (by omega)]
  | some r =>
    simp only [overfillNode, extraChildPos_eq, c5, e2, e3]
    rw [tk _ _ (by omega), tk _ _ (by rw [length_insertAt]; omega)]

theorem cut_occ {id fresh : Nat} {all : List (K × V)} (hall : (all.length : Int) = maxKVs + 1)
    (ak bk : List (Node K V)) :
    Occ (.mk id (all.take leftN.toNat) ak) ∧ Occ (.mk fresh (all.drop (leftN.toNat + 1)) bk) := by
  obtain ⟨c1, -, -, -, -, c6, c7, c8, -⟩ := consts
  have hl : leftN.toNat ≤ all.length := by omega
  simp only [Occ, node_n, List.length_take, List.length_drop, Nat.min_eq_left hl]
  omega

/-- a leaf takes an entry directly, and a parent a separator, unless all `maxKVs` slots are taken -/
theorem putInsertsDirect_iff (n : Nat) : putInsertsDirect (full n) = true ↔ (n : Int) ≠ maxKVs := by
  simp [putInsertsDirect, full, consts.2.2.1]

theorem overfillParentHasRoom_iff (n : Nat) : overfillParentHasRoom (full n) = true ↔ (n : Int) ≠ maxKVs := by
  simp [overfillParentHasRoom, full, consts.2.2.1]

/-- balance and occupancy of a whole tree: the root may hold fewer than `minKVs` entries, but at least
one unless it is a leaf (invariants 1–3 of `btree.go`) -/
def BalTree (t : Tree K V) : Prop :=
  ∃ h, Bal h t.root ∧ t.root.n ≤ maxKVs ∧ (0 < h → 1 ≤ t.root.n)

theorem balTree_empty : BalTree (Tree.empty : Tree K V) :=
  ⟨0, bal_zero.mpr rfl, by simp [Tree.empty, node_n]; decide, by intro h; omega⟩

end Juniper.Proofs.Tree
