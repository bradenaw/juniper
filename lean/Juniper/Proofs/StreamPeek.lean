import Juniper.Proofs.Pulls
import Juniper.Proofs.StreamSrc
/-!
# `stream.WithPeek` under any interleaving of `Peek` and `Next`, any per-call contexts (C07 laziness, C08)

Over a fault-free scripted source. The abstract state is `(j, has)`: `j` items consumed by `Next`, an
item buffered or not. A call with an expired context and nothing buffered changes nothing and answers
the context error; with an item buffered it is served from the buffer (as the Go code does).
-/
namespace Juniper.Proofs.StreamDen
open Juniper.Model Juniper.Model.Stream Juniper.Gen.Comb
open Juniper.Proofs.IterDen (PeekOp peekTrack peekNexts)
variable {α : Type}

inductive SPeekOp where
  | next (c : Bool)
  | peek (c : Bool)
  deriving DecidableEq, Repr

def speekOp {σ : Type} (m : SM σ α) : SPeekOp → Stream.PeekSt σ α → SStep α × Stream.PeekSt σ α
  | .next c, p => Stream.peekNext m p c
  | .peek c, p => Stream.peekPeek m p c

def speekRun {σ : Type} (m : SM σ α) : List SPeekOp → Stream.PeekSt σ α → List (SStep α) × Stream.PeekSt σ α
  | [], p => ([], p)
  | o :: ops, p =>
    let (r, p') := speekOp m o p
    let (rs, p'') := speekRun m ops p'
    (r :: rs, p'')

def SPeekOp.ctx : SPeekOp → Bool
  | .next c => c
  | .peek c => c

/-- one call on the abstract state -/
def speekStep (len : Nat) : SPeekOp → Nat × Bool → Nat × Bool
  | .next c, (j, has) => if has || (c && decide (j < len)) then (j + 1, false) else (j, false)
  | .peek c, (j, has) => (j, has || (c && decide (j < len)))

def speekTrack (len : Nat) : List SPeekOp → Nat × Bool → Nat × Bool
  | [], x => x
  | o :: ops, x => speekTrack len ops (speekStep len o x)

/-- the answer of one call in the abstract state -/
def speekAnswer (l : List α) (o : SPeekOp) (x : Nat × Bool) : SStep α :=
  if x.2 || o.ctx then (match l[x.1]? with | some a => .item a | none => .end_) else .err .ctx

def speekAnswers (l : List α) : List SPeekOp → Nat × Bool → List (SStep α)
  | [], _ => []
  | o :: ops, x => speekAnswer l o x :: speekAnswers l ops (speekStep l.length o x)

/-- `WithPeek` over the fault-free source of `l` after `Next` consumed `j` items, one more buffered if `has` -/
def speekSt (l : List α) (j : Nat) (has : Bool) (calls af : Nat) : Stream.PeekSt (Stream.Src α) α :=
  ⟨⟨(l.map Ev.item).drop (j + has.toNat), calls, j + has.toNat, 0, af⟩, if has then l[j]? else none⟩

theorem ssrc_step_live (l : List α) (k calls af : Nat) :
    (Stream.src (α := α)).step ⟨(l.map Ev.item).drop k, calls, k, 0, af⟩ true =
      if h : k < l.length then (.item l[k], ⟨(l.map Ev.item).drop (k + 1), calls + 1, k + 1, 0, af⟩)
      else (.end_, ⟨(l.map Ev.item).drop k, calls + 1, k, 0, af⟩) := by
  split
  · next h => rw [List.drop_eq_getElem_cons (by simpa using h)]; simp [Stream.src, Stream.srcStep]
  · next h => rw [List.drop_of_length_le (by simpa using h)]; simp [Stream.src, Stream.srcStep]

theorem speekOp_src (l : List α) (o : SPeekOp) (j : Nat) (has : Bool) (calls af : Nat) (hh : has = true → j < l.length) :
    ∃ calls', speekOp Stream.src o (speekSt l j has calls af) =
      (speekAnswer l o (j, has),
        speekSt l (speekStep l.length o (j, has)).1 (speekStep l.length o (j, has)).2 calls' af) := by
  have _tie := Skeleton.Tie.stPeek
  cases has with
  | true =>
    have hjl : j < l.length := hh rfl
    cases o with
    | next c => exact ⟨calls, by simp [speekSt, speekOp, peekNext_step_some, speekAnswer, speekStep, hjl]⟩
    | peek c => exact ⟨calls, by simp [speekSt, speekOp, peekPeek_step_some, speekAnswer, speekStep, hjl]⟩
  | false =>
    cases o with
    | next c =>
      cases c with
      | false => exact ⟨calls, by simp [speekSt, speekOp, peekNext_step_none, src_step_expired, pullThen, speekAnswer, speekStep, SPeekOp.ctx]⟩
      | true =>
        refine ⟨calls + 1, ?_⟩
        by_cases hjl : j < l.length <;>
          simp [speekSt, speekOp, peekNext_step_none, ssrc_step_live, pullThen, speekAnswer, speekStep, SPeekOp.ctx, hjl]
    | peek c =>
      cases c with
      | false => exact ⟨calls, by simp [speekSt, speekOp, peekPeek_step_none, src_step_expired, pullThen, speekAnswer, speekStep, SPeekOp.ctx]⟩
      | true =>
        refine ⟨calls + 1, ?_⟩
        by_cases hjl : j < l.length <;>
          simp [speekSt, speekOp, peekPeek_step_none, ssrc_step_live, pullThen, speekAnswer, speekStep, SPeekOp.ctx, hjl]

theorem speekStep_buffered (len : Nat) (o : SPeekOp) (j : Nat) (has : Bool) (hh : has = true → j < len) :
    (speekStep len o (j, has)).2 = true → (speekStep len o (j, has)).1 < len := by
  intro h
  cases o with
  | next c => simp only [speekStep] at h; split at h <;> cases h
  | peek c =>
    simp only [speekStep, Bool.or_eq_true, Bool.and_eq_true, decide_eq_true_eq] at h ⊢
    rcases h with h | h
    · exact hh h
    · exact h.2

theorem speekRun_src (l : List α) (ops : List SPeekOp) : ∀ (j : Nat) (has : Bool) (calls af : Nat), (has = true → j < l.length) →
    ∃ calls', speekRun Stream.src ops (speekSt l j has calls af) =
      (speekAnswers l ops (j, has),
        speekSt l (speekTrack l.length ops (j, has)).1 (speekTrack l.length ops (j, has)).2 calls' af) := by
  induction ops with
  | nil => intro j has calls af _; exact ⟨calls, rfl⟩
  | cons o ops ih =>
    intro j has calls af hh
    obtain ⟨c1, h1⟩ := speekOp_src l o j has calls af hh
    obtain ⟨c2, h2⟩ := ih _ _ c1 af (speekStep_buffered l.length o j has hh)
    exact ⟨c2, by simp only [speekRun, h1, h2, speekAnswers, speekTrack]⟩

/-- with live contexts the abstract state evolves as for the iterator's `peekable` -/
def liveOp : PeekOp → SPeekOp
  | .next => .next true
  | .peek => .peek true

theorem speekTrack_live (len : Nat) (ops : List PeekOp) : ∀ (j : Nat) (has : Bool), (has = true → j < len) →
    speekTrack len (ops.map liveOp) (j, has) = peekTrack len ops (j, has) := by
  induction ops with
  | nil => intro j has _; rfl
  | cons o ops ih =>
    intro j has hh
    cases o with
    | next =>
      simp only [List.map_cons, liveOp, speekTrack, speekStep, peekTrack, Bool.true_and]
      by_cases hjl : j < len
      · simp only [hjl, decide_true, Bool.or_true, if_true]
        exact ih (j + 1) false (by simp)
      · have hf : has = false := by cases has; rfl; exact absurd (hh rfl) hjl
        subst hf
        simp only [hjl, decide_false, Bool.or_false, Bool.false_eq_true, if_false]
        exact ih j false (by simp)
    | peek =>
      simp only [List.map_cons, liveOp, speekTrack, speekStep, peekTrack, Bool.true_and]
      by_cases hjl : j < len
      · simp only [hjl, decide_true, Bool.or_true]
        exact ih j true (fun _ => hjl)
      · have hf : has = false := by cases has; rfl; exact absurd (hh rfl) hjl
        subst hf
        simp only [hjl, decide_false, Bool.or_false]
        exact ih j false (by simp)

end Juniper.Proofs.StreamDen
