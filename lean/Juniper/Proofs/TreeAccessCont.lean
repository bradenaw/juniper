import Juniper.Proofs.TreeAccessParent
import Juniper.Proofs.TreeAccessThread
/-!
# Access-level model (C01, concurrent clause): the range reader computes the functional cursor functions

The machine `itNext` of a range reader reads the tree through child and parent pointers; the functional model's cursor
(`Model.BTree`: `find`, `leftmostLeaf`, `rightmostLeaf`, `nextCore`, `prevCore` over `pathTo` frames) derives them from the
tree. `Cont … ph tg` — "continuing from program point `ph` the cursor settles on the functional position `tg`" — says,
program point by program point, in the middle of which of those functions the machine is. On a memory that still holds
the skeleton of `t` (`MemOK`: root, generation, node fields, parent pointers, zero key slots) every read leads to another
`Cont` point with the same target, to a crash, or settles the cursor fields exactly on the target (`StepOK`;
`cont_find`, `cont_desc`, `cont_move`). Nothing here needs the tree to be sorted: only distinct node objects, `n + 1`
children per inner node and at most 15 entries (`TreeOK`).
-/
namespace Juniper.Proofs.TreeAccess
open Juniper.Gen.Tree Juniper.Model.BTree Juniper.Model.BTreeAccess Juniper.Proofs.Tree

variable {K V : Type} {cmp : K → K → Int}

/-- the cursor fields of the reader are the functional position `p` -/
def Is (st : ItSt K V) (p : Pos K) : Prop := st.curr = some p.id ∧ st.i = (p.i : Int) ∧ st.k = some p.k

/-- `y` is the node object `x` of the tree -/
def Real (t : Tree K V) (x : Nat) (y : Node K V) : Prop := Sub t.root y ∧ y.id = x

theorem real_unique {t : Tree K V} (hn : (ids t.root).Nodup) {x : Nat} {y y' : Node K V} (h : Real t x y) (h' : Real t x y') :
    y = y' := sub_id_inj hn h.1 h'.1 (h.2.trans h'.2.symm)

/-- where the cursor will settle if the reader continues from program point `ph` (`none`: off the edge).
`fwd`: direction of the move in progress; `k`: the key a `find` looks for. -/
def Cont (cmp : K → K → Int) (t : Tree K V) (fwd : Bool) (k : K) (st : ItSt K V) : Ph → Option (Pos K) → Prop
  -- `find`
  | .ftest x i, tg => ∃ y, Real t x y ∧ (findIn cmp k y).map (·.1) = tg ∧ i ≤ (searchNode cmp k y.kvs).1
  | .fkey x i, tg => ∃ y, Real t x y ∧ (findIn cmp k y).map (·.1) = tg ∧ i ≤ (searchNode cmp k y.kvs).1 ∧ i < y.kvs.length
  | .fretn x, tg => ∃ y, Real t x y ∧ (findIn cmp k y).map (·.1) = tg ∧ searchNode cmp k y.kvs = (y.kvs.length, false)
  | .fleaf x idx, tg => ∃ y, Real t x y ∧ (findIn cmp k y).map (·.1) = tg ∧ searchNode cmp k y.kvs = (idx, false)
  | .fn x idx, tg => ∃ y, Real t x y ∧ (findIn cmp k y).map (·.1) = tg ∧ searchNode cmp k y.kvs = (idx, false) ∧ y.kids = []
  | .fchild x idx, tg => ∃ y, Real t x y ∧ (findIn cmp k y).map (·.1) = tg ∧ searchNode cmp k y.kvs = (idx, false) ∧ y.kids ≠ []
  -- `c.k = c.curr.keys[c.i]`
  | .rdK x j, tg => ∃ y, Real t x y ∧ (0 ≤ j → j.toNat < y.kvs.length → posAt y j.toNat = tg)
  -- `leftmostLeaf` / `rightmostLeaf`
  | .dl x, tg => ∃ y, Real t x y ∧ posAt (leftmostLeaf y) 0 = tg
  | .dl2 x, tg => ∃ y, Real t x y ∧ posAt (leftmostLeaf y) 0 = tg
  | .dr x, tg => ∃ y, Real t x y ∧ posAt (rightmostLeaf y) (prevLeafLast (rightmostLeaf y).n).toNat = tg
  | .drn x, tg => ∃ y, Real t x y ∧ y.kids ≠ [] ∧ posAt (rightmostLeaf y) (prevLeafLast (rightmostLeaf y).n).toNat = tg
  | .drc x n, tg => ∃ y, Real t x y ∧ y.kids ≠ [] ∧ n = y.n ∧
      posAt (rightmostLeaf y) (prevLeafLast (rightmostLeaf y).n).toNat = tg
  | .lastN x, tg => ∃ y, Real t x y ∧ y.kids = [] ∧ posAt y (prevLeafLast y.n).toNat = tg
  -- `cursor.Next` / `cursor.Prev`
  | .mGen, tg => ∃ p y fr, Is st p ∧ pathTo p.id t.root = some (fr, y) ∧ p.i < y.kvs.length ∧
      (if fwd then nextCore t p else prevCore t p) = tg
  | .mLeaf x, tg => ∃ p y fr, Is st p ∧ p.id = x ∧ pathTo p.id t.root = some (fr, y) ∧ p.i < y.kvs.length ∧
      (if fwd then nextCore t p else prevCore t p) = tg
  | .mN x i', tg => fwd = true ∧ ∃ y fr, pathTo x t.root = some (fr, y) ∧ y.id = x ∧
      (if nextLeafStay i' y.n then posAt y i'.toNat else climbNext fr.reverse) = tg ∧ 0 ≤ i'
  | .mIN x, tg => fwd = true ∧ ∃ y fr, pathTo x t.root = some (fr, y) ∧ y.id = x ∧ 0 ≤ st.i ∧
      (if nextInnerDescend st.i y.n then
        (y.kids[(nextChildIdx st.i).toNat]?).bind (fun c => posAt (leftmostLeaf c) 0)
       else climbNext fr.reverse) = tg
  | .mCh x j, tg => ∃ y, Real t x y ∧ 0 ≤ j ∧ j.toNat ≤ y.kvs.length ∧
      (y.kids[j.toNat]?).bind (fun c => if fwd then posAt (leftmostLeaf c) 0
                    else posAt (rightmostLeaf c) (prevLeafLast (rightmostLeaf c).n).toNat) = tg
  | .cPar x, tg => ∃ y up, Zip t.root y up ∧ y.id = x ∧ (if fwd then climbNext up else climbPrev up) = tg
  | .cPar2 x, tg => ∃ y q idx up, Zip t.root y ((q, idx) :: up) ∧ y.id = x ∧
      (if fwd then climbNext ((q, idx) :: up) else climbPrev ((q, idx) :: up)) = tg
  | .cIdx x p j, tg => ∃ y q idx up, Zip t.root y ((q, idx) :: up) ∧ y.id = x ∧ q.id = p ∧ j ≤ idx ∧
      (if fwd then climbNext ((q, idx) :: up) else climbPrev ((q, idx) :: up)) = tg
  | .cPar3 x idxI, tg => ∃ y q idx up, Zip t.root y ((q, idx) :: up) ∧ y.id = x ∧ idxI = (idx : Int) ∧
      (if fwd then climbNext ((q, idx) :: up) else climbPrev ((q, idx) :: up)) = tg
  | .cN p i, tg => fwd = true ∧ ∃ q up, Zip t.root q up ∧ q.id = p ∧ 0 ≤ i ∧
      (if nextClimbStop i q.n then posAt q i.toNat else climbNext up) = tg
  | _, _ => True

structure MemOK (m : Mem K V) (t : Tree K V) : Prop where
  root : m.root = some t.root.id
  gen : m.gen = t.gen
  struct : ∀ y, Sub t.root y → NodeS m y
  aux : AuxRep m t

theorem MemOK.n {m : Mem K V} {t : Tree K V} (h : MemOK m t) {x : Nat} {y : Node K V} (hr : Real t x y) :
    m.n x = y.kvs.length := by rw [← hr.2]; exact (h.struct y hr.1).1

theorem MemOK.key {m : Mem K V} {t : Tree K V} (h : MemOK m t) {x : Nat} {y : Node K V} (hr : Real t x y) (i : Nat) :
    m.key x i = (y.kvs[i]?).map (·.1) := by
  rw [← hr.2]
  by_cases hi : i < y.kvs.length
  · rw [(h.struct y hr.1).2.1 i hi, List.getElem?_eq_getElem hi]; rfl
  · rw [h.aux.2 y hr.1 i (by omega), List.getElem?_eq_none (by omega)]; rfl

theorem MemOK.child {m : Mem K V} {t : Tree K V} (h : MemOK m t) {x : Nat} {y : Node K V} (hr : Real t x y) {i : Nat}
    (hi : i ≤ y.kvs.length) : m.child x i = (y.kids[i]?).map Node.id := by
  rw [← hr.2]; exact (h.struct y hr.1).2.2 i hi

theorem real_kid {t : Tree K V} {x : Nat} {y c : Node K V} (hr : Real t x y) {i : Nat} (hc : y.kids[i]? = some c) :
    Real t c.id c := ⟨hr.1.snoc (List.mem_of_getElem? hc), rfl⟩

theorem isEmpty_iff_head {y : Node K V} : y.kids = [] ↔ y.kids[0]? = none := by
  cases y.kids <;> simp

/-- `leaf()` as the machine tests it: `children[0] == nil` -/
theorem isLeaf_eq_head (y : Node K V) : y.isLeaf = (y.kids[0]?).isNone := by
  unfold Node.isLeaf; cases y.kids <;> rfl

theorem findIn_eq (k : K) (y : Node K V) :
    findIn cmp k y = match searchNode cmp k y.kvs with
      | (i, true) => (posAt y i).map fun p => (p, true)
      | (i, false) =>
        if y.kids.isEmpty then
          (posAt y ((if findBacksUp i y.kvs.length && findBackUpDec then (i : Int) - 1 else i) : Int).toNat).map fun p => (p, false)
        else (y.kids[i]?).bind (findIn cmp k) := by
  obtain ⟨id, kvs, kids⟩ := y
  -- `rw`, since `simp only [Node.kids]` would leave the `Decidable` instance of the `if` with the projection in it
  rw [findIn, show (Node.mk id kvs kids).kvs = kvs from rfl, show (Node.mk id kvs kids).kids = kids from rfl]
  rcases searchNode cmp k kvs with ⟨i, _ | _⟩
  · dsimp only; split
    · rfl
    · split <;> rename_i h <;> rw [h] <;> rfl
  · rfl

def Settles (st' : ItSt K V) : Option (Pos K) → Prop
  | none => st'.curr = none
  | some p => Is st' p

theorem Settles.is {st : ItSt K V} {tg : Option (Pos K)} (hs : Settles st tg) {x : Nat} (hx : st.curr = some x) :
    ∃ p, tg = some p ∧ Is st p := by
  cases tg with
  | none => rw [show st.curr = none from hs] at hx; cases hx
  | some p => exact ⟨p, rfl, hs⟩

/-- program points: 1 = inside `find`, 2 = a descent or the key read, 3 = inside `cursor.Next` / `Prev`, 0 = the others -/
def phClass : Ph → Nat
  | .ftest _ _ | .fkey _ _ | .fretn _ | .fleaf _ _ | .fn _ _ | .fchild _ _ => 1
  | .rdK _ _ | .dl _ | .dl2 _ | .dr _ | .drn _ | .drc _ _ | .lastN _ => 2
  | .mGen | .mLeaf _ | .mN _ _ | .mIN _ | .mCh _ _ | .cPar _ | .cPar2 _ | .cIdx _ _ _ | .cPar3 _ _ | .cN _ _ => 3
  | _ => 0

/-- what a read at a `Cont` program point leads to: another `Cont` point with the same target and fields; a crash /
`unmodelled`; or the cursor has settled on the target (the fields are the target's, the mode is unchanged) and
the reader goes on to `c.gen = c.t.gen` (inside a seek) resp. to the top of its loop -/
def StepOK (cmp : K → K → Int) (t : Tree K V) (fwd : Bool) (k : K) (st : ItSt K V) (ph : Ph) (tg : Option (Pos K))
    (pc : PC K V) : Prop :=
  (∃ ph', pc = .it ph' st ∧ Cont cmp t fwd k st ph' tg ∧ (phClass ph' = phClass ph ∨ phClass ph' = 2)) ∨
  (∃ r, pc = .done r) ∨
  (∃ st', Settles st' tg ∧ Settled t st' ∧ (st.mode = .seek → tg ≠ none) ∧ st'.mode = st.mode ∧
    pc = (match st.mode with | .seek => .it .sgen st' | _ => iterTop st'))

theorem stepOK_cont {t : Tree K V} {fwd : Bool} {k : K} {st : ItSt K V} {ph ph' : Ph} {tg : Option (Pos K)}
    (h : Cont cmp t fwd k st ph' tg) (hc : phClass ph' = phClass ph ∨ phClass ph' = 2) :
    StepOK cmp t fwd k st ph tg (.it ph' st) := Or.inl ⟨ph', rfl, h, hc⟩

theorem stepOK_done {t : Tree K V} {fwd : Bool} {k : K} {st : ItSt K V} {ph : Ph} {tg : Option (Pos K)} (r : Res V) :
    StepOK cmp t fwd k st ph tg (.done r) := Or.inr (Or.inl ⟨r, rfl⟩)

theorem good_iterTop {t : Tree K V} {op : Op K V} (hns : op.isSearch = false) {st : ItSt K V} (h : Settled t st) :
    Good cmp t op (iterTop st) := by
  unfold iterTop; split <;> exact ⟨hns, h, nofun⟩

/-- a read at a `Cont` program point keeps the cursor fields together (`Good`): they change only where the cursor settles -/
theorem good_of_stepOK {t : Tree K V} {op : Op K V} (hns : op.isSearch = false) {fwd : Bool} {k : K} {st : ItSt K V}
    (hst : Settled t st) {ph : Ph} (hcl : phClass ph ≠ 0) {tg : Option (Pos K)} {pc : PC K V}
    (h : StepOK cmp t fwd k st ph tg pc) : Good cmp t op pc := by
  rcases h with ⟨ph', rfl, _, hcl'⟩ | ⟨r, rfl⟩ | ⟨st', _, hst', _, _, rfl⟩
  · refine ⟨hns, hst, ?_⟩
    rintro rfl
    rcases hcl' with h | h
    · exact (hcl h.symm).elim
    · cases h
  · exact fun h => nomatch hns.symm.trans h
  · cases st.mode
    · exact ⟨hns, hst', nofun⟩
    · exact good_iterTop hns hst'
    · exact good_iterTop hns hst'

/-- `find`: `searchNode`'s loop, `curr.leaf()`, `idx == int(curr.n)`, `curr = curr.children[idx]` -/
theorem cont_find {t : Tree K V} {m : Mem K V} (hm : MemOK m t) (op : Op K V) (fwd : Bool) {st : ItSt K V}
    {ph : Ph} {tg : Option (Pos K)} (hcl : phClass ph = 1) (hc : Cont cmp t fwd op.key st ph tg) :
    StepOK cmp t fwd op.key st ph tg (itNext cmp op m ph st) := by
  cases ph with
  | ftest x i =>
    obtain ⟨y, hr, rfl, hi⟩ := hc
    -- `itNext.eq_def`, here and below: for `itNext` simp proves the thirty equation lemmas anew in every proof that asks
    simp only [itNext.eq_def, hm.n hr, Int.ofNat_lt]
    split
    · exact stepOK_cont ⟨y, hr, rfl, hi, ‹_›⟩ (Or.inl rfl)
    · exact stepOK_cont ⟨y, hr, rfl, (searchNode_at cmp op.key y.kvs i hi).2 (by omega)⟩ (Or.inl rfl)
  | fkey x i =>
    obtain ⟨y, hr, rfl, hi, hlt⟩ := hc
    obtain ⟨a1, a2, a3⟩ := (searchNode_at cmp op.key y.kvs i hi).1 hlt
    simp only [itNext.eq_def, hm.key hr, List.getElem?_eq_getElem hlt, Option.map_some]
    cases h1 : searchLess (cmp op.key y.kvs[i].1) with
    | true => exact stepOK_cont ⟨y, hr, rfl, a1 h1⟩ (Or.inl rfl)
    | false =>
      cases h2 : searchEq (cmp op.key y.kvs[i].1) with
      | true =>
        refine stepOK_cont ⟨y, hr, fun _ _ => ?_⟩ (Or.inr rfl)
        rw [findIn_eq, a2 h1 h2]
        simp only [Int.toNat_natCast, posAt, List.getElem?_eq_getElem hlt, Option.map_some]
      | false => exact stepOK_cont ⟨y, hr, rfl, a3 h1 h2⟩ (Or.inl rfl)
  | fretn x =>
    obtain ⟨y, hr, rfl, hs⟩ := hc
    simp only [itNext.eq_def, hm.n hr, Int.toNat_natCast]
    exact stepOK_cont ⟨y, hr, rfl, hs⟩ (Or.inl rfl)
  | fleaf x idx =>
    obtain ⟨y, hr, rfl, hs⟩ := hc
    simp only [itNext.eq_def, hm.child hr (Nat.zero_le _)]
    cases hk : y.kids[0]? with
    | none => exact stepOK_cont ⟨y, hr, rfl, hs, isEmpty_iff_head.mpr hk⟩ (Or.inl rfl)
    | some c =>
      refine stepOK_cont ⟨y, hr, rfl, hs, fun h => ?_⟩ (Or.inl rfl)
      rw [isEmpty_iff_head.mp h] at hk; cases hk
  | fn x idx =>
    obtain ⟨y, hr, rfl, hs, hl⟩ := hc
    simp only [itNext.eq_def, hm.n hr]
    refine stepOK_cont ⟨y, hr, fun _ _ => ?_⟩ (Or.inr rfl)
    rw [findIn_eq, hs]; simp only [hl, List.isEmpty_nil, if_true]
    cases posAt y (if (findBacksUp ↑idx ↑y.kvs.length && findBackUpDec) = true then (idx : Int) - 1 else ↑idx).toNat <;> rfl
  | fchild x idx =>
    obtain ⟨y, hr, rfl, hs, hl⟩ := hc
    simp only [itNext.eq_def, hm.child hr (searchNode_le hs)]
    cases hk : y.kids[idx]? with
    | none => exact stepOK_done _
    | some c =>
      simp only [Option.map_some]
      refine stepOK_cont ⟨c, real_kid hr hk, ?_, Nat.zero_le _⟩ (Or.inl rfl)
      rw [findIn_eq _ y, hs]; simp only [List.isEmpty_iff, hl, if_false, hk]; rfl
  | _ => cases hcl

theorem leftmostLeaf_eq (y : Node K V) :
    leftmostLeaf y = match y.kids[0]? with | none => y | some c => leftmostLeaf c := by
  obtain ⟨id, kvs, kids⟩ := y
  rw [leftmostLeaf]; dsimp only [Node.kids]; split <;> rename_i h <;> rw [h]

theorem rightmostLeaf_eq (y : Node K V) :
    rightmostLeaf y = match y.kids[y.kvs.length]? with | none => y | some c => rightmostLeaf c := by
  obtain ⟨id, kvs, kids⟩ := y
  rw [rightmostLeaf]; dsimp only [Node.kids, Node.kvs]; split <;> rename_i h <;> rw [h]

theorem seekLastIdx_eq (n : Int) : seekLastIdx n = prevLeafLast n := by simp [seekLastIdx, prevLeafLast]

/-- `leftmostLeaf`, `rightmostLeaf`, `c.i = int(c.curr.n) - 1`, and the key read that settles the cursor -/
theorem cont_desc {t : Tree K V} {m : Mem K V} (hm : MemOK m t) (op : Op K V) (fwd : Bool) (k : K) {st : ItSt K V}
    {ph : Ph} {tg : Option (Pos K)} (hcl : phClass ph = 2) (hc : Cont cmp t fwd k st ph tg) :
    StepOK cmp t fwd k st ph tg (itNext cmp op m ph st) := by
  cases ph with
  | rdK x j =>
    obtain ⟨y, hr, hp⟩ := hc
    simp only [itNext.eq_def]
    by_cases hj : j < 0
    · simp only [hj, if_true]; exact stepOK_done _
    · simp only [hj, if_false, hm.key hr]
      cases hk : y.kvs[j.toNat]? with
      | none => exact stepOK_done _
      | some kv =>
        have hlt : j.toNat < y.kvs.length := (List.getElem?_eq_some_iff.mp hk).1
        have htg := hp (by omega) hlt
        rw [posAt_eq hk] at htg
        simp only [Option.map_some]
        refine Or.inr (Or.inr ⟨{ st with curr := some x, i := j, k := some kv.1 }, ?_, ?_, ?_, rfl, ?_⟩)
        · rw [← htg]
          exact ⟨by simp [hr.2], by simp; omega, rfl⟩
        · -- the key remembered is the one the tree holds in that slot
          rintro x' ⟨⟩
          refine ⟨kv.1, rfl, fun y' hy' hid hlt' => ?_⟩
          have h1 := (hm.struct y' hy').2.1 j.toNat hlt'
          rw [hid, hm.key hr, hk] at h1
          exact (Option.some.inj h1).symm
        · intro _ h; rw [← htg] at h; cases h
        · cases st.mode <;> rfl
  | dl x =>
    obtain ⟨y, hr, rfl⟩ := hc
    simp only [itNext.eq_def, hm.child hr (Nat.zero_le _)]
    cases hk : y.kids[0]? with
    | none => exact stepOK_cont ⟨y, hr, fun _ _ => by rw [leftmostLeaf_eq, hk]; rfl⟩ (Or.inl rfl)
    | some c => exact stepOK_cont ⟨y, hr, rfl⟩ (Or.inl rfl)
  | dl2 x =>
    obtain ⟨y, hr, rfl⟩ := hc
    simp only [itNext.eq_def, hm.child hr (Nat.zero_le _)]
    cases hk : y.kids[0]? with
    | none => exact stepOK_done _
    | some c => exact stepOK_cont ⟨c, real_kid hr hk, by rw [leftmostLeaf_eq y, hk]⟩ (Or.inl rfl)
  | dr x =>
    obtain ⟨y, hr, rfl⟩ := hc
    simp only [itNext.eq_def, hm.child hr (Nat.zero_le _)]
    cases hk : y.kids[0]? with
    | none =>
      have hnil := isEmpty_iff_head.mpr hk
      exact stepOK_cont ⟨y, hr, hnil, by rw [rightmostLeaf_eq, hnil]; rfl⟩ (Or.inl rfl)
    | some c =>
      refine stepOK_cont ⟨y, hr, fun h => ?_, rfl⟩ (Or.inl rfl)
      rw [isEmpty_iff_head.mp h] at hk; cases hk
  | drn x =>
    obtain ⟨y, hr, hne, rfl⟩ := hc
    simp only [itNext.eq_def, hm.n hr]
    exact stepOK_cont ⟨y, hr, hne, rfl, rfl⟩ (Or.inl rfl)
  | drc x n =>
    obtain ⟨y, hr, hne, rfl, rfl⟩ := hc
    simp only [itNext.eq_def, Node.n, Int.toNat_natCast, hm.child hr (Nat.le_refl _)]
    cases hk : y.kids[y.kvs.length]? with
    | none => exact stepOK_done _
    | some c => exact stepOK_cont ⟨c, real_kid hr hk, by rw [rightmostLeaf_eq y, hk]; rfl⟩ (Or.inl rfl)
  | lastN x =>
    obtain ⟨y, hr, hnil, rfl⟩ := hc
    simp only [itNext.eq_def, show m.n x = y.n from hm.n hr, seekLastIdx_eq]
    cases st.mode <;> exact stepOK_cont ⟨y, hr, fun _ _ => rfl⟩ (Or.inl rfl)
  | _ => cases hcl

/-- what the navigation proofs need of the tree: distinct node objects, every node on a path has `n+1` children and
at most `maxKVs` entries -/
structure TreeOK (t : Tree K V) : Prop where
  nodup : (ids t.root).Nodup
  bal : ∃ h, Bal h t.root
  rootMax : t.root.n ≤ maxKVs

theorem treeOK_of_inv {t : Tree K V} (hi : Inv cmp t) : TreeOK t := by
  obtain ⟨h, hb, hmax, _⟩ := hi.wf.bal
  exact ⟨hi.ids.1, ⟨h, hb⟩, hmax⟩

theorem TreeOK.hone {t : Tree K V} (h : TreeOK t) : ∀ i, cnt i t.root ≤ 1 := List.nodup_iff_count.mp h.nodup

theorem zip_parent {t : Tree K V} (ht : TreeOK t) {y q : Node K V} {idx : Nat} {up : List (Node K V × Nat)}
    (hz : Zip t.root y ((q, idx) :: up)) :
    Real t q.id q ∧ q.kids[idx]? = some y ∧ q.kids.length = q.kvs.length + 1 ∧ (q.kvs.length : Int) ≤ maxKVs := by
  obtain ⟨h, hb⟩ := ht.bal
  obtain ⟨hp, _⟩ := zip_bal _ y h hb hz
  refine ⟨⟨zip_sub _ _ hz.2, rfl⟩, hz.1, hp.1, ?_⟩
  obtain ⟨_, h', _, hocc⟩ := zip_bal up q h hb hz.2
  cases up with
  | nil =>
    have : q = t.root := hz.2
    subst this
    exact ht.rootMax
  | cons f up' => exact (hocc (by simp)).2

theorem zip_kid_id_iff {t : Tree K V} (ht : TreeOK t) {y q : Node K V} {idx : Nat} {up : List (Node K V × Nat)}
    (hz : Zip t.root y ((q, idx) :: up)) (j : Nat) : (q.kids[j]?).map Node.id = some y.id ↔ j = idx := by
  refine ⟨fun h => ?_, fun h => by rw [h, hz.1]; rfl⟩
  obtain ⟨c, hk, hc⟩ := Option.map_eq_some_iff.mp h
  -- both frames are the path `pathTo` finds to the identity `y.id`
  have e := pathTo_unique y.id t.root _ c (show Zip t.root c ((q, j) :: up) from ⟨hk, hz.2⟩) ht.hone hc
  rw [pathTo_unique y.id t.root _ y hz ht.hone rfl] at e
  simp only [Option.some.injEq, Prod.mk.injEq, List.reverse_cons, List.append_cancel_left_eq, List.cons.injEq] at e
  exact e.1.1.2.symm

theorem real_of_pathTo {t : Tree K V} {x : Nat} {fr : List (Node K V × Nat)} {y : Node K V}
    (h : pathTo x t.root = some (fr, y)) : Zip t.root y fr.reverse ∧ Real t x y :=
  have ⟨hz, hid⟩ := pathTo_spec x t.root fr y h
  ⟨hz, zip_sub _ _ hz, hid⟩

theorem MemOK.parent {m : Mem K V} {t : Tree K V} (h : MemOK m t) {x : Nat} {y q : Node K V} {idx : Nat}
    {up : List (Node K V × Nat)} (hz : Zip t.root y ((q, idx) :: up)) (hid : y.id = x) : m.parent x = some q.id :=
  hid ▸ h.aux.1.2 q (zip_sub _ _ hz.2) y (List.mem_of_getElem? hz.1)

theorem nextCore_unfold (t : Tree K V) (p : Pos K) {fr : List (Node K V × Nat)} {y : Node K V}
    (h : pathTo p.id t.root = some (fr, y)) :
    nextCore t p =
      (if y.isLeaf then
        (if nextLeafStay ((p.i : Int) + 1) y.n then posAt y ((p.i : Int) + 1).toNat else climbNext fr.reverse)
       else if nextInnerDescend p.i y.n then
        (y.kids[(nextChildIdx p.i).toNat]?).bind (fun c => posAt (leftmostLeaf c) 0)
       else climbNext fr.reverse) := by
  simp only [nextCore, h]
  cases y.kids[(nextChildIdx p.i).toNat]? <;> rfl

theorem prevCore_unfold (t : Tree K V) (p : Pos K) {fr : List (Node K V × Nat)} {y : Node K V}
    (h : pathTo p.id t.root = some (fr, y)) :
    prevCore t p =
      (if y.isLeaf then
        (if prevLeafStay ((p.i : Int) - 1) then posAt y ((p.i : Int) - 1).toNat else climbPrev fr.reverse)
       else if prevInnerDescend p.i then
        (y.kids[(prevChildIdx p.i).toNat]?).bind (fun c => posAt (rightmostLeaf c) (prevLeafLast (rightmostLeaf c).n).toNat)
       else climbPrev fr.reverse) := by
  simp only [prevCore, h]
  cases y.kids[(prevChildIdx p.i).toNat]? <;> rfl

theorem stepOK_settle_none {t : Tree K V} {fwd : Bool} {k : K} {st : ItSt K V} {ph : Ph} (hmode : st.mode ≠ .seek) :
    StepOK cmp t fwd k st ph none (iterTop { st with curr := none }) := by
  refine Or.inr (Or.inr ⟨{ st with curr := none }, rfl, nofun, fun h => absurd h hmode, rfl, ?_⟩)
  cases hm : st.mode with
  | seek => exact absurd hm hmode
  | step => rfl
  | iter => rfl

/-- an index test of a move: the cursor goes on inside the node `y` (at `ph'`), or climbs out of it -/
theorem stepOK_or_climb {t : Tree K V} {fwd : Bool} {k : K} {st : ItSt K V} {ph ph' : Ph} {x : Nat} {y : Node K V}
    {up : List (Node K V × Nat)} (hz : Zip t.root y up) (hid : y.id = x) (hcl : phClass ph = 3) {b : Bool}
    {tg : Option (Pos K)} (h : b = true → Cont cmp t fwd k st ph' tg) (hcl' : phClass ph' = phClass ph ∨ phClass ph' = 2) :
    StepOK cmp t fwd k st ph (if b then tg else if fwd then climbNext up else climbPrev up)
      (if b then .it ph' st else .it (.cPar x) st) := by
  cases b with
  | true => exact stepOK_cont (h rfl) hcl'
  | false => exact stepOK_cont ⟨y, up, hz, hid, rfl⟩ (Or.inl hcl.symm)

/-- `cursor.Next` / `cursor.Prev`: `lost()`, `leaf()`, the index tests, the descent into the next child, the climb through
the parent pointers with `xslices.Index` -/
theorem cont_move {t : Tree K V} (ht : TreeOK t) {m : Mem K V} (hm : MemOK m t) (op : Op K V) (fwd : Bool) (k : K)
    {st : ItSt K V} (hdir : moveFwd op st = fwd) (hmode : st.mode ≠ .seek)
    {ph : Ph} {tg : Option (Pos K)} (hcl : phClass ph = 3) (hc : Cont cmp t fwd k st ph tg) :
    StepOK cmp t fwd k st ph tg (itNext cmp op m ph st) := by
  cases ph with
  | mGen =>
    obtain ⟨p, y, fr, his, hpath, hlt, hp⟩ := hc
    simp only [itNext.eq_def, his.1]
    split
    · exact stepOK_cont ⟨p, y, fr, his, rfl, hpath, hlt, hp⟩ (Or.inl rfl)
    · exact stepOK_done _
  | mLeaf x =>
    obtain ⟨p, y, fr, his, rfl, hpath, hlt, rfl⟩ := hc
    obtain ⟨hz, hr⟩ := real_of_pathTo hpath
    have hid := hr.2
    simp only [itNext.eq_def, hm.child hr (Nat.zero_le _), hdir, his.2.1]
    cases fwd with
    | true =>
      -- `Next` tests the index after it has read `n`, at `mN` / `mIN`
      simp only [if_true, nextCore_unfold t p hpath, isLeaf_eq_head]
      cases y.kids[0]? with
      | none => exact stepOK_cont ⟨rfl, y, fr, hpath, hid, rfl, by omega⟩ (Or.inl rfl)
      | some c => exact stepOK_cont ⟨rfl, y, fr, hpath, hid, by rw [his.2.1]; omega, by rw [his.2.1]; rfl⟩ (Or.inl rfl)
    | false =>
      simp only [Bool.false_eq_true, if_false, prevCore_unfold t p hpath, isLeaf_eq_head]
      cases y.kids[0]? with
      | none => exact stepOK_or_climb hz hid hcl (fun _ => ⟨y, hr, fun _ _ => rfl⟩) (Or.inr rfl)
      | some c =>
        refine stepOK_or_climb hz hid hcl (fun hs => ⟨y, hr, ?_, ?_, rfl⟩) (Or.inl rfl)
        · simp only [prevChildIdx]; omega
        · simp only [prevChildIdx, Int.toNat_natCast]; omega
  | mN x i' =>
    obtain ⟨rfl, y, fr, hpath, hid, rfl, -⟩ := hc
    obtain ⟨hz, hr⟩ := real_of_pathTo hpath
    simp only [itNext.eq_def, show m.n x = y.n from hm.n hr]
    exact stepOK_or_climb hz hid hcl (fun _ => ⟨y, hr, fun _ _ => rfl⟩) (Or.inr rfl)
  | mIN x =>
    obtain ⟨rfl, y, fr, hpath, hid, hi0, rfl⟩ := hc
    obtain ⟨hz, hr⟩ := real_of_pathTo hpath
    simp only [itNext.eq_def, show m.n x = y.n from hm.n hr]
    refine stepOK_or_climb hz hid hcl (fun hs => ⟨y, hr, ?_, ?_, rfl⟩) (Or.inl rfl)
    · simp only [nextChildIdx]; omega
    · have hlt : st.i < (y.kvs.length : Int) := of_decide_eq_true hs
      simp only [nextChildIdx]; omega
  | mCh x j =>
    obtain ⟨y, hr, hj0, hjle, rfl⟩ := hc
    simp only [itNext.eq_def, hm.child hr hjle, hdir]
    cases hk : y.kids[j.toNat]? with
    | none => exact stepOK_done _
    | some c => cases fwd <;> exact stepOK_cont ⟨c, real_kid hr hk, rfl⟩ (Or.inr rfl)
  | cPar x =>
    obtain ⟨y, up, hz, hid, rfl⟩ := hc
    simp only [itNext.eq_def]
    cases up with
    | nil =>
      -- the root has no parent: the cursor falls off the edge
      obtain rfl : y = t.root := hz
      simp only [show m.parent x = none from hid ▸ hm.aux.1.1]
      cases fwd <;> exact stepOK_settle_none hmode
    | cons f up' =>
      simp only [hm.parent hz hid]
      exact stepOK_cont ⟨y, f.1, f.2, up', hz, hid, rfl⟩ (Or.inl rfl)
  | cPar2 x =>
    obtain ⟨y, q, idx, up, hz, hid, rfl⟩ := hc
    simp only [itNext.eq_def, hm.parent hz hid]
    exact stepOK_cont ⟨y, q, idx, up, hz, hid, rfl, Nat.zero_le _, rfl⟩ (Or.inl rfl)
  | cIdx x p j =>
    -- `xslices.Index(parent.children, curr)`: `c.curr` sits at `idx` and nowhere else
    obtain ⟨y, q, idx, up, hz, rfl, rfl, hj, rfl⟩ := hc
    obtain ⟨hq, hqy, hlen, hmax⟩ := zip_parent ht hz
    have hidx : idx < q.kids.length := (List.getElem?_eq_some_iff.mp hqy).1
    simp only [itNext.eq_def, hm.child hq (show j ≤ q.kvs.length by omega), zip_kid_id_iff ht hz]
    by_cases heq : j = idx
    · rw [if_pos heq]
      exact stepOK_cont ⟨y, q, idx, up, hz, rfl, heq ▸ rfl, rfl⟩ (Or.inl rfl)
    · have hcl16 : (j : Int) + 1 < childrenLen := by
        have : childrenLen = 16 := by decide
        have h15 : maxKVs = 15 := by decide
        omega
      rw [if_neg heq, if_pos hcl16]
      exact stepOK_cont ⟨y, q, idx, up, hz, rfl, rfl, by omega, rfl⟩ (Or.inl rfl)
  | cPar3 x idxI =>
    obtain ⟨y, q, idx, up, hz, hid, rfl, rfl⟩ := hc
    simp only [itNext.eq_def, hm.parent hz hid, hdir]
    cases fwd with
    | true =>
      refine stepOK_cont ⟨rfl, q, up, hz.2, rfl, ?_, rfl⟩ (Or.inl rfl)
      simp only [nextClimbIdx]; omega
    | false => exact stepOK_or_climb hz.2 rfl hcl (fun _ => ⟨q, ⟨zip_sub _ _ hz.2, rfl⟩, fun _ _ => rfl⟩) (Or.inr rfl)
  | cN p i =>
    obtain ⟨rfl, q, up, hz, hqp, -, rfl⟩ := hc
    have hr : Real t p q := ⟨zip_sub _ _ hz, hqp⟩
    simp only [itNext.eq_def, show m.n p = q.n from hm.n hr]
    exact stepOK_or_climb hz hqp hcl (fun _ => ⟨q, hr, fun _ _ => rfl⟩) (Or.inr rfl)
  | _ => cases hcl

end Juniper.Proofs.TreeAccess
