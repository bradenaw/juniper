import Juniper.Proofs.IterComb
/-!
# Closed-form pull counts (C07 laziness) over slice sources: `Join`, `peekable` under arbitrary
`Peek`/`Next` interleavings
-/
namespace Juniper.Proofs.IterDen
open Juniper.Model.Iter Juniper.Spec Juniper.Gen.Comb
universe u v w
variable {σ : Type u} {α β : Type v}

def joinRemaining (st : List (Src α)) : Nat := (st.map fun s => s.rest.length).sum

/-- items pulled so far, `N` being the total number of items of all arguments -/
def joinCost (N : Nat) (st : List (Src α)) : Nat := N - joinRemaining st

theorem join_src_head (N : Nat) (r : List (Src α)) {rest : List (α × Nat)}
    (hr : Den (join src) (joinCost N) r rest N) (l : List α) : ∀ c p, l.length + joinRemaining r ≤ N →
    Den (join src) (joinCost N) (⟨l, c, p⟩ :: r) (annot (N - (l.length + joinRemaining r)) l ++ rest) N := by
  have _tie := Skeleton.Tie.itJoin
  induction l with
  | nil =>
    exact fun c p _ => .skip (s := ⟨[], c, p⟩ :: r) (by simp [join, src_step_nil, itJoinLoops, itJoinAdvances]) hr
  | cons a l ih =>
    intro c p hN
    rw [List.length_cons] at hN
    have hs : (join (src (α := α))).step (⟨a :: l, c, p⟩ :: r) = (.item a, ⟨l, c + 1, p + 1⟩ :: r) := by
      simp [join, src_step_cons, itJoinLoops]
    have h := Den.item (cost := joinCost N) hs (ih (c + 1) (p + 1) (by omega))
    have e1 : joinCost N (⟨l, c + 1, p + 1⟩ :: r) = N - ((a :: l).length + joinRemaining r) + 1 := by
      simp only [joinCost, joinRemaining, List.map_cons, List.sum_cons, List.length_cons] at hN ⊢; omega
    have e2 : N - (l.length + joinRemaining r) = N - ((a :: l).length + joinRemaining r) + 1 := by
      rw [List.length_cons]; omega
    rw [e1, e2] at h
    exact h

theorem joinRemaining_of (ls : List (List α)) : joinRemaining (ls.map Src.of) = ls.flatten.length := by
  induction ls with
  | nil => rfl
  | cons l ls ih =>
    simp only [joinRemaining, List.map_cons, List.sum_cons, List.flatten_cons, List.length_append] at ih ⊢
    rw [ih]; rfl

theorem flatMap_rest_of (ls : List (List α)) : ((ls.map Src.of).flatMap fun s => s.rest) = ls.flatten := by
  induction ls with
  | nil => rfl
  | cons l ls ih => simp [Src.of, ih]

/-- For the induction over the arguments: `ls` are those still ahead, `N - ls.flatten.length` items were
pulled from the ones before them. -/
theorem join_src_den (N : Nat) (ls : List (List α)) (hN : ls.flatten.length ≤ N) :
    Den (join src) (joinCost N) (ls.map Src.of) (annot (N - ls.flatten.length) ls.flatten) N := by
  induction ls with
  | nil =>
    simpa [joinCost, joinRemaining, annot] using
      den_of_fixed (m := join (src (α := α))) (cost := joinCost N) (s := []) rfl
  | cons l ls ih =>
    rw [List.flatten_cons, List.length_append] at hN
    have h := join_src_head N _ (ih (by omega)) l 0 0 (by rw [joinRemaining_of]; exact hN)
    rw [joinRemaining_of] at h
    rw [List.flatten_cons, annot_append, List.length_append]
    rwa [show N - (l.length + ls.flatten.length) + l.length = N - ls.flatten.length by omega]

inductive PeekOp where
  | next
  | peek
  deriving DecidableEq, Repr

def peekOp (m : IM σ α) : PeekOp → PeekSt σ α → Step α × PeekSt σ α
  | .next, p => peekNext m p
  | .peek, p => peekPeek m p

def peekRun (m : IM σ α) : List PeekOp → PeekSt σ α → List (Step α) × PeekSt σ α
  | [], p => ([], p)
  | o :: ops, p =>
    let (r, p') := peekOp m o p
    let (rs, p'') := peekRun m ops p'
    (r :: rs, p'')

def toStep : Option α → Step α
  | some a => .item a
  | none => .done

/-- abstract state of a peekable over a list of length `len`: `j` items consumed by `Next`, `has` = an item is buffered -/
def peekTrack (len : Nat) : List PeekOp → Nat × Bool → Nat × Bool
  | [], x => x
  | .next :: ops, (j, _) => peekTrack len ops (if j < len then j + 1 else j, false)
  | .peek :: ops, (j, _) => peekTrack len ops (j, decide (j < len))

/-- the answers: every call answers the item after those consumed by the `Next` calls before it -/
def peekAnswers (l : List α) : List PeekOp → Nat → List (Step α)
  | [], _ => []
  | .next :: ops, j => toStep l[j]? :: peekAnswers l ops (j + 1)
  | .peek :: ops, j => toStep l[j]? :: peekAnswers l ops j

theorem peekAnswers_ge (l : List α) (ops : List PeekOp) (j j' : Nat) (h : l.length ≤ j) (h' : l.length ≤ j') :
    peekAnswers l ops j = peekAnswers l ops j' := by
  induction ops generalizing j j' with
  | nil => rfl
  | cons o ops ih =>
    cases o <;> simp only [peekAnswers]
    · rw [List.getElem?_eq_none h, List.getElem?_eq_none h', ih (j + 1) (j' + 1) (by omega) (by omega)]
    · rw [List.getElem?_eq_none h, List.getElem?_eq_none h', ih j j' h h']

/-- the concrete peekable over the slice `l` that corresponds to `(j, has)` -/
def peekSt (l : List α) (c j : Nat) (has : Bool) : PeekSt (Src α) α :=
  ⟨⟨l.drop (j + has.toNat), c, j + has.toNat⟩, if has then l[j]? else none⟩

theorem peekOp_src (l : List α) (o : PeekOp) (c j : Nat) (has : Bool) (hj : j + has.toNat ≤ l.length) :
    ∃ c', peekOp src o (peekSt l c j has) =
        (toStep l[j]?, peekSt l c' (peekTrack l.length [o] (j, has)).1 (peekTrack l.length [o] (j, has)).2) ∧
      (peekTrack l.length [o] (j, has)).1 + (peekTrack l.length [o] (j, has)).2.toNat ≤ l.length := by
  have _tie := Skeleton.Tie.itPeek
  cases has with
  | true =>
    have hjl : j < l.length := hj
    cases o <;> exact ⟨c, by simp [peekOp, peekSt, peekNext_buf, peekPeek_buf, peekTrack, hjl, toStep],
      by simp [peekTrack, hjl]; omega⟩
  | false =>
    by_cases hjl : j < l.length
    · have hs : ∀ c p, (src (α := α)).step ⟨l.drop j, c, p⟩ = (.item l[j], ⟨l.drop (j + 1), c + 1, p + 1⟩) := by
        rw [List.drop_eq_getElem_cons hjl]; exact src_step_cons _ _
      cases o <;> exact ⟨c + 1, by simp [peekOp, peekSt, peekNext_none, peekPeek_none, hs, peekTrack, hjl, toStep],
        by simp [peekTrack, hjl]; omega⟩
    · have hd : l.drop j = [] := List.drop_of_length_le (by omega)
      cases o <;> exact ⟨c + 1, by simp [peekOp, peekSt, peekNext_none, peekPeek_none, hd, src_step_nil, peekTrack, hjl, toStep],
        by simpa [peekTrack, hjl] using hj⟩

theorem peekRun_src (l : List α) (ops : List PeekOp) : ∀ (c j : Nat) (has : Bool), j + has.toNat ≤ l.length →
    ∃ c', peekRun src ops (peekSt l c j has) =
      (peekAnswers l ops j, peekSt l c' (peekTrack l.length ops (j, has)).1 (peekTrack l.length ops (j, has)).2) := by
  induction ops with
  | nil => exact fun c j has _ => ⟨c, rfl⟩
  | cons o ops ih =>
    intro c j has hj
    obtain ⟨c1, h1, hle⟩ := peekOp_src l o c j has hj
    obtain ⟨c2, h2⟩ := ih c1 _ _ hle
    refine ⟨c2, ?_⟩
    simp only [peekRun, h1, h2]
    cases o with
    | peek => rfl
    | next =>
      simp only [peekAnswers, peekTrack]
      split
      · rfl
      · rw [peekAnswers_ge l ops (j + 1) j (by omega) (by omega)]

def peekNexts (ops : List PeekOp) : Nat := ops.count .next

theorem peekTrack_closed (len : Nat) (ops : List PeekOp) : ∀ (j : Nat) (h : Bool), j ≤ len →
    peekTrack len ops (j, h) =
      (min (j + peekNexts ops) len,
        if ops = [] then h else decide (ops.getLast? = some .peek ∧ j + peekNexts ops < len)) := by
  induction ops with
  | nil => intro j h hj; simp [peekTrack, peekNexts]; omega
  | cons o ops ih =>
    intro j h hj
    cases o with
    | next =>
      have e : (if j < len then j + 1 else j) = min (j + 1) len := by split <;> omega
      have hn : peekNexts (PeekOp.next :: ops) = peekNexts ops + 1 := by simp [peekNexts]
      rw [peekTrack, e, ih _ false (Nat.min_le_right _ _), hn]
      have h1 : min (j + 1) len + peekNexts ops < len ↔ j + (peekNexts ops + 1) < len := by omega
      cases ops with
      | nil => simp [peekNexts]
      | cons o' ops' => simp only [reduceCtorEq, if_false, List.getLast?_cons_cons, h1]; congr 1; omega
    | peek =>
      have hn : peekNexts (PeekOp.peek :: ops) = peekNexts ops := by simp [peekNexts]
      rw [peekTrack, ih j _ hj, hn]
      cases ops with
      | nil => simp [peekNexts]
      | cons o' ops' => simp only [reduceCtorEq, if_false, List.getLast?_cons_cons]

/-- items pulled by a fresh peekable after `ops`: those consumed, and one more if the last call was a `Peek` -/
theorem peekTrack_pulled (len : Nat) (ops : List PeekOp) :
    (peekTrack len ops (0, false)).1 + (peekTrack len ops (0, false)).2.toNat =
      min len (peekNexts ops + if ops.getLast? = some .peek then 1 else 0) := by
  rw [peekTrack_closed len ops 0 false (Nat.zero_le _)]
  simp only [Nat.zero_add]
  cases ops with
  | nil => simp [peekNexts]
  | cons o ops =>
    simp only [reduceCtorEq, if_false]
    by_cases hl : (o :: ops).getLast? = some PeekOp.peek
    · by_cases hn : peekNexts (o :: ops) < len
      · simp [hl, hn]; omega
      · simp [hl, hn]; omega
    · simp [hl]; exact Nat.min_comm _ _

end Juniper.Proofs.IterDen
