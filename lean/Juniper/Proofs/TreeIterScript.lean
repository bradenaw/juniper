import Juniper.Proofs.TreeIterSpec
import Juniper.Proofs.TreeRange
/-!
# Scripts interleaving mutations with `Next` calls of any number of live iterators (C02)
-/
namespace Juniper.Proofs.Tree
open Juniper.Model.BTree Juniper.Gen.Tree

variable {K V : Type} {cmp : K → K → Int}

inductive Step (K V : Type) where
  /-- `Put` / `Delete` -/
  | mutate (m : Mut K V)
  /-- iterator slot `j := Range(lo, hi)` (`fwd`) or `RangeReverse(lo, hi)` -/
  | mk (j : Nat) (fwd : Bool) (lo hi : Bound K)
  /-- `Next` on slot `j` -/
  | next (j : Nat)

/-- what a step shows to the caller -/
inductive Obs (β : Type) where
  | nothing
  | panic
  | yielded (r : Option β)

structure MSt (K V : Type) where
  t : Tree K V
  its : Nat → Option (Iter K)

structure SSt (K V : Type) where
  L : List (K × V)
  its : Nat → Option (SIter K)

def setSlot {β : Type} (f : Nat → Option β) (j : Nat) (x : β) : Nat → Option β := fun i => if i = j then some x else f i

/-- the model; `none` = nil dereference -/
def mstep (cmp : K → K → Int) (s : MSt K V) : Step K V → Option (MSt K V × Obs (K × Option V))
  | .mutate m => (applyMut cmp s.t m).map fun t' => ({ s with t := t' }, .nothing)
  | .mk j fwd lo hi =>
    match (if fwd then range cmp s.t lo hi else rangeReverse cmp s.t lo hi) with
    | none => some (s, .panic)
    | some it => some ({ s with its := setSlot s.its j it }, .nothing)
  | .next j =>
    match s.its j with
    | none => some (s, .nothing)
    | some it =>
      -- `Next` starts with `iter.c.lost()`: a nil dereference if that looks through `curr == nil`
      if iterNextPanics s.t it then none else
      let r := iterNext cmp s.t it
      some ({ s with its := setSlot s.its j r.1 }, .yielded r.2)

def sstep (cmp : K → K → Int) (s : SSt K V) : Step K V → SSt K V × Obs (K × V)
  | .mutate m => ({ s with L := specMut cmp s.L m }, .nothing)
  | .mk j fwd lo hi =>
    if lo.kind = none ∨ hi.kind = none then (s, .panic)
    else ({ s with its := setSlot s.its j (smk cmp s.L fwd lo hi) }, .nothing)
  | .next j =>
    match s.its j with
    | none => (s, .nothing)
    | some it =>
      let r := snext cmp s.L it
      ({ s with its := setSlot s.its j r.1 }, .yielded r.2)

def ObsRel (cmp : K → K → Int) : Obs (K × Option V) → Obs (K × V) → Prop
  | .nothing, .nothing => True
  | .panic, .panic => True
  | .yielded a, .yielded b => OutRel cmp a b
  | _, _ => False

structure Sim (cmp : K → K → Int) (m : MSt K V) (s : SSt K V) : Prop where
  inv : Inv cmp m.t
  list : s.L = toList m.t.root
  /-- every live iterator has a twin `w` in the `While` formulation (`IterEq`: same direction, predicate,
  cut-off flag, and the same cursor unless cut off) that abstracts to the specification's iterator and
  whose cursor satisfies the cursor invariant -/
  its : ∀ j, match m.its j with
    | none => s.its j = none
    | some it => ∃ w, IterEq w it ∧ s.its j = some (absIter w) ∧ CInv m.t w.c

/-- with `c.curr == nil` the regenerated `lost()` expression does not depend on what `c.curr.n` or `c.curr.keys[c.i]`
would be: the guard `c.curr != nil &&` short-circuits them away. Without the guard this lemma fails, and `sim_step` with it. -/
theorem lost_guards_nil (cgen tgen : Int) : lostDerefsNil cgen tgen = false := by
  simp [lostDerefsNil, lost]

theorem Sim.update {m : MSt K V} {s : SSt K V} (h : Sim cmp m s) (j : Nat) {it w : Iter K} (hw : IterEq w it)
    (hc : CInv m.t w.c) :
    Sim cmp { m with its := setSlot m.its j it } { s with its := setSlot s.its j (absIter w) } := by
  refine ⟨h.inv, h.list, fun i => ?_⟩
  simp only [setSlot]
  by_cases hij : i = j
  · simp only [hij, if_true]; exact ⟨w, hw, rfl, hc⟩
  · simp only [hij, if_false]; exact h.its i

theorem sim_step (hs : StrictWeak cmp) {m : MSt K V} {s : SSt K V} (h : Sim cmp m s) (st : Step K V) :
    ∃ m' o, mstep cmp m st = some (m', o) ∧ Sim cmp m' (sstep cmp s st).1 ∧ ObsRel cmp o (sstep cmp s st).2 := by
  cases st with
  | mutate mu =>
    obtain ⟨t1, h1, h2, h3⟩ := inv_applyMut hs m.t mu h.inv
    refine ⟨{ m with t := t1 }, .nothing, by simp [mstep, h1], ⟨h2, ?_, fun j => ?_⟩, trivial⟩
    · simp only [sstep, h.list, h3]
    · have := h.its j
      simp only [sstep]
      cases hj : m.its j with
      | none => rw [hj] at this; exact this
      | some it =>
        rw [hj] at this
        obtain ⟨w, hw1, hw2, hw3⟩ := this
        exact ⟨w, hw1, hw2, cinv_applyMut h.inv hw3 h1⟩
  | mk j fwd lo hi' =>
    by_cases hz : lo.kind = none ∨ hi'.kind = none
    · have h1 : range cmp m.t lo hi' = none := mkIter_none_of_zero cmp m.t rangeSeek rangeStop (by decide) lo hi' hz
      have h2 : rangeReverse cmp m.t lo hi' = none := mkIter_none_of_zero cmp m.t rrangeSeek rrangeStop (by decide) lo hi' hz
      refine ⟨m, .panic, by cases fwd <;> simp [mstep, h1, h2], ?_, ?_⟩
      · simp only [sstep, hz, if_true]; exact h
      · simp only [sstep, hz, if_true, ObsRel]
    · have hl : lo.kind ≠ none := fun h => hz (Or.inl h)
      have hh : hi'.kind ≠ none := fun h => hz (Or.inr h)
      obtain ⟨c, h1, hrun, hgen⟩ := mkIter_spec hs h.inv fwd lo hi' hl hh
      refine ⟨{ m with its := setSlot m.its j ⟨c, fwd, stopOf fwd lo hi', !iterCtorsFresh⟩ }, .nothing,
        by simp [mstep, h1], ?_, ?_⟩
      · have hab : smk cmp s.L fwd lo hi' = absIter ⟨c, fwd, stopOf fwd lo hi', false⟩ := by
          simp [h.list, absIter, smk, hrun.1.resume]
        simp only [sstep, hz, if_false, hab]
        exact h.update j (iterEq_fresh c fwd _) (hrun.1.cinv hgen)
      · simp only [sstep, hz, if_false, ObsRel]
  | next j =>
    have hsj := h.its j
    cases hj : m.its j with
    | none =>
      rw [hj] at hsj
      have hs' : s.its j = none := hsj
      refine ⟨m, .nothing, by simp [mstep, hj], ?_, ?_⟩
      · simp only [sstep, hs']; exact h
      · simp only [sstep, hs', ObsRel]
    | some it =>
      rw [hj] at hsj
      obtain ⟨w, hw, hs', hcw⟩ := hsj
      obtain ⟨r1, r2, r3⟩ := iterNextW_refines hs h.inv w hcw
      rw [← h.list] at r1 r2
      obtain ⟨e1, e2⟩ := iterNext_eq_while cmp m.t hw
      have hnp : iterNextPanics m.t it = false := by simp [iterNextPanics, lost_guards_nil]
      refine ⟨{ m with its := setSlot m.its j (iterNext cmp m.t it).1 }, .yielded (iterNext cmp m.t it).2,
        by simp [mstep, hj, hnp], ?_, ?_⟩
      · simp only [sstep, hs', ← r1]
        exact h.update j e2 r3
      · simp only [sstep, hs', ObsRel]; rw [← e1]; exact r2

def mrun (cmp : K → K → Int) : MSt K V → List (Step K V) → Option (MSt K V × List (Obs (K × Option V)))
  | s, [] => some (s, [])
  | s, st :: sts =>
    match mstep cmp s st with
    | none => none
    | some (s', o) =>
      match mrun cmp s' sts with
      | none => none
      | some (s'', os) => some (s'', o :: os)

def srun (cmp : K → K → Int) : SSt K V → List (Step K V) → SSt K V × List (Obs (K × V))
  | s, [] => (s, [])
  | s, st :: sts =>
    let r := sstep cmp s st
    let rs := srun cmp r.1 sts
    (rs.1, r.2 :: rs.2)

def ObsAll (cmp : K → K → Int) : List (Obs (K × Option V)) → List (Obs (K × V)) → Prop
  | [], [] => True
  | a :: as, b :: bs => ObsRel cmp a b ∧ ObsAll cmp as bs
  | _, _ => False

theorem sim_run (hs : StrictWeak cmp) (sts : List (Step K V)) :
    ∀ (m : MSt K V) (s : SSt K V), Sim cmp m s →
      ∃ m' os, mrun cmp m sts = some (m', os) ∧ Sim cmp m' (srun cmp s sts).1 ∧
        ObsAll cmp os (srun cmp s sts).2 := by
  induction sts with
  | nil => intro m s h; exact ⟨m, [], rfl, h, trivial⟩
  | cons st sts ih =>
    intro m s h
    obtain ⟨m1, o, h1, h2, h3⟩ := sim_step hs h st
    obtain ⟨m', os, h4, h5, h6⟩ := ih m1 _ h2
    exact ⟨m', o :: os, by simp [mrun, h1, h4], h5, ⟨h3, h6⟩⟩

end Juniper.Proofs.Tree
