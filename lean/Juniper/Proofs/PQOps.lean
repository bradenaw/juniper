import Juniper.Proofs.PQIndex
/-!
# Priority-queue operations keep the index map exact and refine a finite map key → priority
-/
set_option linter.unusedSectionVars false
namespace Juniper.Proofs.PQ
open Juniper.Gen.Heap Juniper.Model.Heap Juniper.Model.PQ Juniper.Spec.Heap Juniper.Proofs.Heap
open Juniper.ListStore (lt_of_getElem?)

variable {K P : Type} [DecidableEq K]

/-- The key → index map is exact: keys are distinct, and `m k = i` iff the array holds `k` at `i`. -/
def IndexInv (q : PQ K P) : Prop :=
  (keysOf q.h.a).Nodup ∧
  ∀ k v, mGet q.m k = some v ↔ ∃ (i : Nat) (p : P), v = (i : Int) ∧ q.h.a[i]? = some (k, p)

/-- the queue holds key `k` with priority `p` -/
def Holds (q : PQ K P) (k : K) (p : P) : Prop := (k, p) ∈ q.h.a

theorem mem_keysOf {a : List (KP K P)} {k : K} : k ∈ keysOf a ↔ ∃ (i : Nat) (p : P), a[i]? = some (k, p) := by
  simp only [keysOf, List.mem_map]
  constructor
  · rintro ⟨⟨k', p⟩, hm, rfl⟩
    obtain ⟨i, hi⟩ := List.getElem?_of_mem hm
    exact ⟨i, p, hi⟩
  · rintro ⟨i, p, hi⟩
    exact ⟨(k, p), List.mem_of_getElem? hi, rfl⟩

theorem indexInv_of {h : Heap (KP K P)} {m : IdxMap K} (nd : (keysOf h.a).Nodup) (hi : Idx m h.a)
    (hd : Dom m h.a) : IndexInv ({ h := h, m := m } : PQ K P) := by
  refine ⟨nd, ?_⟩
  intro k v
  constructor
  · intro hv
    obtain ⟨i, p, hip⟩ := mem_keysOf.mp (hd k (by simp [hv]))
    have := hi i k p hip
    rw [hv] at this; cases this
    exact ⟨i, p, rfl, hip⟩
  · rintro ⟨i, p, rfl, hip⟩
    exact hi i k p hip

theorem IndexInv.idx {q : PQ K P} (h : IndexInv q) : Idx q.m q.h.a :=
  fun i k p hip => (h.2 k i).mpr ⟨i, p, rfl, hip⟩

theorem IndexInv.dom {q : PQ K P} (h : IndexInv q) : Dom q.m q.h.a := by
  intro k hk
  obtain ⟨v, hv⟩ := Option.isSome_iff_exists.mp hk
  obtain ⟨i, p, _, hip⟩ := (h.2 k v).mp hv
  exact mem_keysOf.mpr ⟨i, p, hip⟩

theorem mem_keys_of_mem {a : List (KP K P)} {x : KP K P} (h : x ∈ a) : x.1 ∈ keysOf a :=
  List.mem_map.mpr ⟨x, h, rfl⟩

theorem find?_of_mem_keysOf {l : List (KP K P)} {k : K} (h : k ∈ keysOf l) :
    ∃ p, l.find? (fun e => decide (e.1 = k)) = some (k, p) := by
  obtain ⟨x, hx, hk⟩ := List.mem_map.mp h
  have hs : (l.find? (fun e => decide (e.1 = k))).isSome :=
    List.find?_isSome.mpr ⟨x, hx, decide_eq_true hk⟩
  obtain ⟨⟨k', p⟩, hf⟩ := Option.isSome_iff_exists.mp hs
  have : k' = k := by simpa using List.find?_some hf
  exact ⟨p, this ▸ hf⟩

/-- a heap call on an exact map that does not know the written position `i` (whose key may be new) leaves it exact -/
theorem _root_.Juniper.Proofs.Heap.Announced.indexInv {b : List (KP K P)} {h' : Heap (KP K P)} {i : Nat}
    {notes : List (Note (KP K P))} {m : IdxMap K} (h : Announced b i h'.a notes) (nd : (keysOf b).Nodup)
    (hi : ∀ l k p, l ≠ i → b[l]? = some (k, p) → mGet m k = some (l : Int)) (hd : Dom m b) :
    IndexInv ({ h := h', m := applyNotes m notes } : PQ K P) :=
  have r := h.idx_dom nd (fun _ => mem_keys_of_mem) hi hd
  have hk := keysOf_perm h.perm
  indexInv_of (hk.nodup_iff.mpr nd) r.1 fun k hk' => hk.symm.subset (r.2 k hk')

theorem not_mem_keysOf {q : PQ K P} {k : K} (hk : ∀ p0, ¬ Holds q k p0) : k ∉ keysOf q.h.a := by
  intro hm
  obtain ⟨i, p0, hi⟩ := mem_keysOf.mp hm
  exact hk p0 (List.mem_of_getElem? hi)

theorem IndexInv.mGet_none {q : PQ K P} (h : IndexInv q) {k : K} (hk : ∀ p0, ¬ Holds q k p0) :
    mGet q.m k = none := by
  cases hm : mGet q.m k with
  | none => rfl
  | some v => exact absurd (h.dom k (by simp [hm])) (not_mem_keysOf hk)

theorem IndexInv.mGet_of_holds {q : PQ K P} (h : IndexInv q) {k : K} {p : P} (hk : Holds q k p) :
    ∃ i : Nat, q.h.a[i]? = some (k, p) ∧ mGet q.m k = some (i : Int) := by
  obtain ⟨i, hi⟩ := List.getElem?_of_mem hk
  exact ⟨i, hi, h.idx i k p hi⟩

theorem holds_functional {q : PQ K P} (h : IndexInv q) {k : K} {p p' : P} (h1 : Holds q k p)
    (h2 : Holds q k p') : p = p' := by
  obtain ⟨i, hi⟩ := List.getElem?_of_mem h1
  obtain ⟨j, hj⟩ := List.getElem?_of_mem h2
  have := keys_inj h.1 hi hj
  subst this
  rw [hi] at hj; cases hj; rfl

theorem lessKP_eq (less : P → P → Bool) (a b : KP K P) : lessKP less a b = less a.2 b.2 := rfl

theorem lessKP_sw {less : P → P → Bool} (sw : StrictWeak less) : StrictWeak (lessKP (K := K) less) := by
  refine ⟨fun a => ?_, fun a b c => ?_, fun a b c => ?_⟩ <;> simp only [lessKP_eq]
  · exact sw.irrefl _
  · exact sw.trans _ _ _
  · exact sw.incomp_trans _ _ _

theorem holds_root_min {less : P → P → Bool} (sw : StrictWeak less) {q : PQ K P}
    (hh : HeapInv (lessKP less) q.h.a) {k : K} {p0 : P} (h0 : q.h.a[0]? = some (k, p0)) {k' : K} {p' : P}
    (h : Holds q k' p') : less p' p0 = false := by
  simpa only [lessKP_eq] using (isMin_root (lessKP_sw sw) hh h0).2 (k', p') h

/-- `Pop` / `RemoveAt` overwrite position `i`, which held `k`, by the last element and cut the array; after the call
and `delete(m, k)` the map is exact again and exactly `k` is gone. -/
theorem removed {q : PQ K P} (hq : IndexInv q) {i : Nat} {k : K} {p0 : P} {last : KP K P} {a' : List (KP K P)}
    {notes : List (Note (KP K P))} {g : Int} (hi : q.h.a[i]? = some (k, p0)) (hlast : q.h.a.getLast? = some last)
    (c : Announced (moveLast q.h.a i last) i a' notes) :
    IndexInv ({ h := { a := a', gen := g }, m := mDel (applyNotes q.m notes) k } : PQ K P) ∧
    (∀ k' p', (k', p') ∈ a' ↔ k' ≠ k ∧ (k', p') ∈ q.h.a) := by
  have hb := moveLast_perm hi hlast
  -- the map still holds `k` while the call runs: no entry outside the *old* array
  obtain ⟨hidx, hdom⟩ := c.idx_dom (List.nodup_cons.mp ((keysOf_perm hb).nodup_iff.mpr hq.1)).2
    (fun x hx => mem_keys_of_mem (hb.subset (List.mem_cons_of_mem _ hx)))
    (fun l k' p' hli hl => hq.idx l k' p' (getElem?_moveLast hli hl)) hq.dom
  have hperm : ((k, p0) :: a').Perm q.h.a := (c.perm.cons _).trans hb
  have hk : (k :: keysOf a').Perm (keysOf q.h.a) := keysOf_perm hperm
  have nd' : (k :: keysOf a').Nodup := hk.nodup_iff.mpr hq.1
  rw [List.nodup_cons] at nd'
  obtain ⟨hknot, nda'⟩ := nd'
  constructor
  · apply indexInv_of nda'
    · intro l k' p' hl
      have : k ≠ k' := fun e => hknot (by subst e; exact mem_keysOf.mpr ⟨l, p', hl⟩)
      rw [mGet_mDel]; simp [this]; exact hidx l k' p' hl
    · intro k' hk'
      rw [mGet_mDel] at hk'
      by_cases e : k = k'
      · simp [e] at hk'
      · simp [e] at hk'
        exact (List.mem_cons.mp (hk.symm.subset (hdom k' hk'))).resolve_left (Ne.symm e)
  · intro k' p'
    constructor
    · intro hm
      refine ⟨fun e => hknot (by subst e; exact mem_keys_of_mem hm), hperm.subset (List.mem_cons_of_mem _ hm)⟩
    · rintro ⟨hne, hm⟩
      exact (List.mem_cons.mp (hperm.symm.subset hm)).resolve_left fun e => hne (congrArg Prod.fst e)

theorem update_eq (less : P → P → Bool) (q : PQ K P) (k : K) (p : P) :
    update less q k p =
      match mGet q.m k with
      | some idx =>
        if idx < 0 then none else
        match Juniper.Model.Heap.updateAt (lessKP less) q.h idx.toNat (k, p) with
        | none => none
        | some (h', notes) => some { h := h', m := applyNotes q.m notes }
      | none => some { h := (Juniper.Model.Heap.push (lessKP less) q.h (k, p)).1,
                       m := applyNotes q.m (Juniper.Model.Heap.push (lessKP less) q.h (k, p)).2 } := by
  unfold update idxOf
  cases h : mGet q.m k with
  | none => simp [updateExisting, updateCallsPush]
  | some v => simp [updateExisting, updateCallsUpdateAt]; rfl

theorem mem_set_iff {a : List (KP K P)} (nd : (keysOf a).Nodup) {i : Nat} {k : K} {p0 p : P}
    (hi : a[i]? = some (k, p0)) (k' : K) (p' : P) :
    (k', p') ∈ a.set i (k, p) ↔ (k' = k ∧ p' = p) ∨ (k' ≠ k ∧ (k', p') ∈ a) := by
  have hil : i < a.length := lt_of_getElem? hi
  constructor
  · intro hm
    obtain ⟨l, hl⟩ := List.getElem?_of_mem hm
    rw [List.getElem?_set] at hl
    by_cases e : i = l
    · simp [e] at hl
      subst e; simp [hil] at hl; exact Or.inl ⟨hl.1.symm, hl.2.symm⟩
    · simp [e] at hl
      refine Or.inr ⟨fun ek => e ?_, List.mem_of_getElem? hl⟩
      subst ek; exact keys_inj nd hi hl
  · rintro (⟨rfl, rfl⟩ | ⟨hne, hm⟩)
    · apply List.mem_of_getElem? (i := i)
      rw [List.getElem?_set]; simp [hil]
    · obtain ⟨l, hl⟩ := List.getElem?_of_mem hm
      have e : i ≠ l := fun e => hne (by subst e; rw [hi] at hl; cases hl; rfl)
      apply List.mem_of_getElem? (i := l)
      rw [List.getElem?_set]; simp [e, hl]

theorem keysOf_set_same {a : List (KP K P)} {i : Nat} {k : K} {p0 p : P} (hi : a[i]? = some (k, p0)) :
    keysOf (a.set i (k, p)) = keysOf a := by
  obtain ⟨hil, h⟩ := List.getElem?_eq_some_iff.mp hi
  have := List.set_getElem_self (as := keysOf a) (i := i) (by simpa [keysOf] using hil)
  simpa [keysOf, h] using this

theorem update_existing {less : P → P → Bool} {q : PQ K P} (hq : IndexInv q) {k : K} {p0 : P} (p : P)
    (hk : Holds q k p0) :
    ∃ q', update less q k p = some q' ∧ IndexInv q' ∧
      (∀ k' p', Holds q' k' p' ↔ (k' = k ∧ p' = p) ∨ (k' ≠ k ∧ Holds q k' p')) ∧
      (∃ i y notes, q.h.a[i]? = some y ∧ Juniper.Model.Heap.updateAt (lessKP less) q.h i (k, p) = some (q'.h, notes)) := by
  obtain ⟨i, hi, hm⟩ := hq.mGet_of_holds hk
  rw [update_eq, hm]
  have e0 : ¬ ((i : Int) < 0) := by omega
  simp only [e0, if_false, Int.toNat_natCast]
  cases hu : Juniper.Model.Heap.updateAt (lessKP less) q.h i (k, p) with
  | none => exact absurd (lt_of_getElem? hi) ((updateAt_none_iff _ _ _ _).mp hu)
  | some r =>
    obtain ⟨h', notes⟩ := r
    obtain ⟨_, _, _, c⟩ := updateAt_shape hu
    refine ⟨_, rfl, ?_, ?_, ⟨i, _, notes, hi, hu⟩⟩
    · -- `a[i] = (k, p)` keeps the keys
      have ks : keysOf (q.h.a.set i (k, p)) = keysOf q.h.a := keysOf_set_same hi
      exact c.indexInv (ks ▸ hq.1)
        (fun l k' p' hli hl => hq.idx l k' p' (by rwa [List.getElem?_set_ne (Ne.symm hli)] at hl))
        (fun k' hk' => ks ▸ hq.dom k' hk')
    · intro k' p'
      show (k', p') ∈ h'.a ↔ _
      rw [c.perm.mem_iff]
      exact mem_set_iff hq.1 hi k' p'

theorem update_new {less : P → P → Bool} {q : PQ K P} (hq : IndexInv q) {k : K} (p : P)
    (hk : ∀ p0, ¬ Holds q k p0) :
    ∃ q', update less q k p = some q' ∧ IndexInv q' ∧
      (∀ k' p', Holds q' k' p' ↔ (k' = k ∧ p' = p) ∨ (k' ≠ k ∧ Holds q k' p')) ∧
      q'.h = (Juniper.Model.Heap.push (lessKP less) q.h (k, p)).1 := by
  have hknot := not_mem_keysOf hk
  rw [update_eq, hq.mGet_none hk]
  refine ⟨_, rfl, ?_, ?_, rfl⟩
  · -- the appended pair is the one position the map does not know
    exact (push_announced (lessKP less) q.h (k, p)).indexInv
      ((keysOf_perm (List.perm_append_singleton (k, p) q.h.a)).nodup_iff.mpr (List.nodup_cons.mpr ⟨hknot, hq.1⟩))
      (fun l k' p' hl hget => by
        have := lt_of_getElem? hget
        rw [List.getElem?_append_left (by simp at this; omega)] at hget
        exact hq.idx l k' p' hget)
      (fun k' hk' => by simp only [keysOf, List.map_append, List.mem_append]; exact Or.inl (hq.dom k' hk'))
  · intro k' p'
    show (k', p') ∈ (Juniper.Model.Heap.push (lessKP less) q.h (k, p)).1.a ↔ _
    rw [(Juniper.Proofs.Heap.push_perm _ _ _).mem_iff]
    simp only [List.mem_cons, Prod.mk.injEq, Holds]
    constructor
    · rintro (⟨rfl, rfl⟩ | h)
      · exact Or.inl ⟨rfl, rfl⟩
      · exact Or.inr ⟨fun e => hknot (by subst e; exact mem_keys_of_mem h), h⟩
    · rintro (⟨rfl, rfl⟩ | ⟨_, h⟩)
      · exact Or.inl ⟨rfl, rfl⟩
      · exact Or.inr h

theorem remove_eq (less : P → P → Bool) (q : PQ K P) (k : K) :
    remove less q k =
      match mGet q.m k with
      | none => some q
      | some idx =>
        if idx < 0 then none else
        match Juniper.Model.Heap.removeAt (lessKP less) q.h idx.toNat with
        | none => none
        | some (h', notes) => some { h := h', m := mDel (applyNotes q.m notes) k } := by
  unfold remove idxOf
  cases h : mGet q.m k with
  | none => simp [removeAbsent, removeAbsentReturns]
  | some v => simp [removeAbsent, removeAbsentReturns, removeCallsRemoveAt, removeDeletes]; rfl

theorem remove_absent {less : P → P → Bool} {q : PQ K P} (hq : IndexInv q) {k : K}
    (hk : ∀ p0, ¬ Holds q k p0) : remove less q k = some q := by
  rw [remove_eq, hq.mGet_none hk]

theorem remove_present {less : P → P → Bool} {q : PQ K P} (hq : IndexInv q) {k : K} {p0 : P}
    (hk : Holds q k p0) :
    ∃ q', remove less q k = some q' ∧ IndexInv q' ∧
      (∀ k' p', Holds q' k' p' ↔ k' ≠ k ∧ Holds q k' p') ∧
      (∃ i notes, q.h.a[i]? = some (k, p0) ∧
        Juniper.Model.Heap.removeAt (lessKP less) q.h i = some (q'.h, notes)) := by
  obtain ⟨i, hi, hm⟩ := hq.mGet_of_holds hk
  rw [remove_eq, hm]
  have e0 : ¬ ((i : Int) < 0) := by omega
  simp only [e0, if_false, Int.toNat_natCast]
  cases hu : Juniper.Model.Heap.removeAt (lessKP less) q.h i with
  | none => exact absurd (lt_of_getElem? hi) ((removeAt_none_iff _ _ _).mp hu)
  | some r =>
    obtain ⟨h', notes⟩ := r
    obtain ⟨last, _, hlast, _, c, _⟩ := removeAt_shape hu
    obtain ⟨hinv, hholds⟩ := removed (g := h'.gen) hq hi hlast c
    exact ⟨_, rfl, hinv, hholds, ⟨i, notes, hi, hu⟩⟩

theorem pop_eq (less : P → P → Bool) (q : PQ K P) :
    Juniper.Model.PQ.pop less q =
      match Juniper.Model.Heap.pop (lessKP less) q.h with
      | none => none
      | some (h', it, notes) => some ({ h := h', m := mDel (applyNotes q.m notes) it.1 }, it.1) := by
  unfold Juniper.Model.PQ.pop
  simp only [pqPopPops, pqPopDeletes, pqPopReturnsKey, if_true]; rfl

theorem pop_nonempty {less : P → P → Bool} {q : PQ K P} (hq : IndexInv q) (hne : q.h.a ≠ []) :
    ∃ q' k p0 notes, Juniper.Model.PQ.pop less q = some (q', k) ∧ q.h.a[0]? = some (k, p0) ∧
      IndexInv q' ∧ (∀ k' p', Holds q' k' p' ↔ k' ≠ k ∧ Holds q k' p') ∧
      Juniper.Model.Heap.pop (lessKP less) q.h = some (q'.h, (k, p0), notes) := by
  rw [pop_eq]
  cases hu : Juniper.Model.Heap.pop (lessKP less) q.h with
  | none => exact absurd ((pop_none_iff _ _).mp hu) hne
  | some r =>
    obtain ⟨h', ⟨k, p0⟩, notes⟩ := r
    obtain ⟨last, hit, hlast, _, _, c⟩ := pop_shape hu
    obtain ⟨hinv, hholds⟩ := removed (g := h'.gen) hq hit hlast c
    exact ⟨_, k, p0, notes, rfl, hit, hinv, hholds, rfl⟩

theorem contains_iff {q : PQ K P} (hq : IndexInv q) (k : K) : contains q k = true ↔ ∃ p, Holds q k p := by
  simp only [contains, containsRes, idxOf]
  constructor
  · intro h
    obtain ⟨i, p, hi⟩ := mem_keysOf.mp (hq.dom k h)
    exact ⟨p, List.mem_of_getElem? hi⟩
  · rintro ⟨p, hp⟩
    obtain ⟨i, _, hm⟩ := hq.mGet_of_holds hp
    simp [hm]

theorem priority_present {q : PQ K P} (hq : IndexInv q) {k : K} {p : P} (h : Holds q k p) :
    priority q k = some (some p) := by
  obtain ⟨i, hi, hm⟩ := hq.mGet_of_holds h
  have e0 : ¬ ((i : Int) < 0) := by omega
  simp [priority, idxOf, hm, priorityPresent, priorityReadsItem, e0, item, itemIdx, hi]

theorem priority_absent {q : PQ K P} (hq : IndexInv q) {k : K} (h : ∀ p, ¬ Holds q k p) :
    priority q k = some none := by
  simp [priority, idxOf, hq.mGet_none h, priorityPresent]

theorem len_eq (q : PQ K P) : Juniper.Model.PQ.len q = (keysOf q.h.a).length := by
  simp [Juniper.Model.PQ.len, pqLenForwards, len_eq_length, keysOf]

theorem peek_eq (q : PQ K P) : Juniper.Model.PQ.peek q = (q.h.a[0]?).map (·.1) := by
  simp [Juniper.Model.PQ.peek, pqPeekForwards, peek_eq_getElem?]

theorem dedup_nil (m : IdxMap K) : dedup ([] : List (KP K P)) m = ([], m) := rfl

theorem dedup_cons (kp : KP K P) (t : List (KP K P)) (m : IdxMap K) :
    dedup (kp :: t) m =
      if (mGet m kp.1).isSome then dedup t m
      else (kp :: (dedup t (mSet m kp.1 (-1))).1, (dedup t (mSet m kp.1 (-1))).2) := by
  simp only [dedup, dedupSkipCond, dedupSkips, dedupMarks, dedupKeeps, Bool.and_true, if_true]

theorem mem_dedup {l : List (KP K P)} {m : IdxMap K} {k : K} {p : P} :
    (k, p) ∈ (dedup l m).1 ↔
      (mGet m k).isSome = false ∧ l.find? (fun e => decide (e.1 = k)) = some (k, p) := by
  induction l generalizing m with
  | nil => simp [dedup_nil]
  | cons kp t ih =>
    rw [dedup_cons, List.find?_cons]
    by_cases hs : (mGet m kp.1).isSome
    · -- `kp` is dropped, and a key that `m` does not hold is not `kp`'s
      rw [if_pos hs, ih]
      refine and_congr_right fun hk => ?_
      have : kp.1 ≠ k := fun e => by simp [e, hk] at hs
      simp [this]
    · -- `kp` is kept and its key marked, so no later entry of that key is kept
      rw [if_neg hs, List.mem_cons, ih, mGet_mSet]
      by_cases e : kp.1 = k
      · subst e
        simp [eq_comm, hs]
      · have : (k, p) ≠ kp := fun e' => e (e' ▸ rfl)
        simp [e, this]

theorem nodup_dedup (l : List (KP K P)) (m : IdxMap K) : (keysOf (dedup l m).1).Nodup := by
  induction l generalizing m with
  | nil => exact List.nodup_nil
  | cons kp t ih =>
    rw [dedup_cons]
    split
    · exact ih m
    · refine List.nodup_cons.mpr ⟨fun hm => ?_, ih _⟩
      obtain ⟨⟨k, p⟩, hx, rfl⟩ := List.mem_map.mp hm
      simpa [mGet_mSet] using (mem_dedup.mp hx).1

theorem mGet_dedup (l : List (KP K P)) (m : IdxMap K) (k : K) :
    (mGet (dedup l m).2 k).isSome ↔ ((mGet m k).isSome ∨ k ∈ keysOf (dedup l m).1) := by
  induction l generalizing m with
  | nil => simp [dedup_nil, keysOf]
  | cons kp t ih =>
    rw [dedup_cons]
    split
    · exact ih m
    · rw [ih, mGet_mSet]
      show _ ↔ _ ∨ k ∈ kp.1 :: keysOf (dedup t (mSet m kp.1 (-1))).1
      by_cases e : kp.1 = k
      · simp [e]
      · simp [e, Ne.symm e]

theorem new_eq (less : P → P → Bool) (initial : List (KP K P)) :
    Juniper.Model.PQ.new less initial =
      { h := (Juniper.Model.Heap.new (lessKP less) (dedup initial []).1).1,
        m := applyNotes (dedup initial []).2 (Juniper.Model.Heap.new (lessKP less) (dedup initial []).1).2 } := by
  simp only [Juniper.Model.PQ.new, dedupUsesFiltered, if_true]

theorem new_spec (less : P → P → Bool) (initial : List (KP K P)) :
    IndexInv (Juniper.Model.PQ.new less initial) ∧
    (∀ k p, Holds (Juniper.Model.PQ.new less initial) k p ↔ (k, p) ∈ (dedup initial []).1) := by
  rw [new_eq]
  have nd := nodup_dedup initial ([] : IdxMap K)
  have hperm := new_perm (lessKP less) (dedup initial []).1
  have nd' : (keysOf (Juniper.Model.Heap.new (lessKP less) (dedup initial []).1).1.a).Nodup :=
    (keysOf_perm hperm).nodup_iff.mpr nd
  constructor
  · apply indexInv_of nd'
    · rw [new_notes, applyNotes_append]
      exact idx_notifyAll _ nd'
    · apply dom_applyNotes_of (a := (dedup initial []).1)
      · intro k hk
        have := (mGet_dedup initial [] k).mp hk
        simp [mGet] at this
        exact (keysOf_perm hperm).symm.subset this
      · intro n hn
        rw [new_notes] at hn
        simp only [List.mem_append] at hn
        rcases hn with hn | hn
        · exact (heapifyLoop_swaps _ _ _ _).notes_mem hn
        · exact hperm.subset (notifyAll_mem hn)
      · intro x hx; exact (keysOf_perm hperm).symm.subset (mem_keys_of_mem hx)
  · intro k p
    exact hperm.mem_iff

end Juniper.Proofs.PQ
