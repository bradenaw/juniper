import Juniper.Proofs.TreeRange
/-!
# Whole histories with reads: the model's answers are the ideal sorted map's answers (C01)
-/
namespace Juniper.Proofs.Tree
open Juniper.Model.BTree Juniper.Gen.Tree

variable {K V : Type} {cmp : K → K → Int}

/-- every exported operation of `tree.Map` (a `Set` is the same with `V := Unit`; `Iterate` is
`range` with two unbounded bounds) -/
inductive Op (K V : Type) where
  | put (k : K) (v : V)
  | del (k : K)
  | get (k : K)
  | has (k : K)
  | len
  | first
  | last
  | range (lo hi : Bound K)
  | rrange (lo hi : Bound K)

/-- what a call returns (`none` values are Go zero values; `panic` is the "unknown bound" panic) -/
inductive Out (K V : Type) where
  | unit
  | val (v : Option V)
  | bool (b : Bool)
  | int (n : Int)
  | entry (e : Option (K × V))
  | items (l : List (K × Option V))
  | panic

/-- the model: `none` = nil dereference -/
def applyOp (cmp : K → K → Int) (t : Tree K V) : Op K V → Option (Tree K V × Out K V)
  | .put k v => (put cmp t k v).map fun t' => (t', .unit)
  | .del k => (delete cmp t k).map fun t' => (t', .unit)
  | .get k => some (t, .val (get cmp t k))
  | .has k => some (t, .bool (contains cmp t k))
  | .len => some (t, .int (len t))
  | .first => some (t, .entry (first t))
  | .last => some (t, .entry (last t))
  | .range lo hi =>
    some (t, match range cmp t lo hi with
      | none => .panic
      | some it => .items (drain cmp t (t.size.toNat + 1) it))
  | .rrange lo hi =>
    some (t, match rangeReverse cmp t lo hi with
      | none => .panic
      | some it => .items (drain cmp t (t.size.toNat + 1) it))

def specOp (cmp : K → K → Int) (L : List (K × V)) : Op K V → List (K × V) × Out K V
  | .put k v => (sput cmp k v L, .unit)
  | .del k => (serase cmp k L, .unit)
  | .get k => (L, .val ((sget cmp k L).map (·.2)))
  | .has k => (L, .bool (sget cmp k L).isSome)
  | .len => (L, .int L.length)
  | .first => (L, .entry L.head?)
  | .last => (L, .entry L.getLast?)
  | .range lo hi =>
    (L, if lo.kind = none ∨ hi.kind = none then .panic else .items ((srange cmp lo hi L).map outOf))
  | .rrange lo hi =>
    (L, if lo.kind = none ∨ hi.kind = none then .panic else .items ((srangeRev cmp lo hi L).map outOf))

def runOps (cmp : K → K → Int) : Tree K V → List (Op K V) → Option (Tree K V × List (Out K V))
  | t, [] => some (t, [])
  | t, o :: os =>
    match applyOp cmp t o with
    | none => none
    | some (t', out) =>
      match runOps cmp t' os with
      | none => none
      | some (t'', outs) => some (t'', out :: outs)

def specOps (cmp : K → K → Int) : List (K × V) → List (Op K V) → List (K × V) × List (Out K V)
  | L, [] => (L, [])
  | L, o :: os =>
    let r := specOp cmp L o
    let rs := specOps cmp r.1 os
    (rs.1, r.2 :: rs.2)

theorem applyOp_refines (hc : StrictWeak cmp) (t : Tree K V) (o : Op K V) (hi : Inv cmp t) :
    ∃ t' out, applyOp cmp t o = some (t', out) ∧ Inv cmp t' ∧
      specOp cmp (toList t.root) o = (toList t'.root, out) := by
  cases o with
  | put k v =>
    obtain ⟨t', h1, h2, h3⟩ := inv_put hc t k v hi
    exact ⟨t', .unit, by simp [applyOp, h1], h2, by simp [specOp, h3]⟩
  | del k =>
    obtain ⟨t', h1, h2, h3⟩ := inv_delete hc t k hi
    exact ⟨t', .unit, by simp [applyOp, h1], h2, by simp [specOp, h3]⟩
  | get k =>
    refine ⟨t, _, rfl, hi, ?_⟩
    simp only [specOp, Juniper.Model.BTree.get, hi.wf.lookup hc k]
  | has k =>
    refine ⟨t, _, rfl, hi, ?_⟩
    simp only [specOp, contains, hi.wf.lookup hc k]
  | len => exact ⟨t, _, rfl, hi, by simp [specOp, len, hi.wf.size]⟩
  | first => exact ⟨t, _, rfl, hi, by simp only [specOp, first_eq_head hi.wf.bal]⟩
  | last => exact ⟨t, _, rfl, hi, by simp only [specOp, last_eq_getLast hi.wf.bal]⟩
  | range lo hi' =>
    refine ⟨t, _, rfl, hi, ?_⟩
    simp only [specOp, Prod.mk.injEq, true_and]
    by_cases hz : lo.kind = none ∨ hi'.kind = none
    · have : range cmp t lo hi' = none := mkIter_none_of_zero cmp t rangeSeek rangeStop (by decide) lo hi' hz
      simp [hz, this]
    · have h1 : lo.kind ≠ none := fun h => hz (Or.inl h)
      have h2 : hi'.kind ≠ none := fun h => hz (Or.inr h)
      obtain ⟨it, hit, hd⟩ := range_refines_fwd hc hi lo hi' h1 h2
      have := hd (t.size.toNat + 1) (by rw [hi.wf.size]; simp)
      simp [hz, hit, this]
  | rrange lo hi' =>
    refine ⟨t, _, rfl, hi, ?_⟩
    simp only [specOp, Prod.mk.injEq, true_and]
    by_cases hz : lo.kind = none ∨ hi'.kind = none
    · have : rangeReverse cmp t lo hi' = none := mkIter_none_of_zero cmp t rrangeSeek rrangeStop (by decide) lo hi' hz
      simp [hz, this]
    · have h1 : lo.kind ≠ none := fun h => hz (Or.inl h)
      have h2 : hi'.kind ≠ none := fun h => hz (Or.inr h)
      obtain ⟨it, hit, hd⟩ := rangeRev_refines hc hi lo hi' h1 h2
      have := hd (t.size.toNat + 1) (by rw [hi.wf.size]; simp)
      simp [hz, hit, this]

theorem runOps_refines (hc : StrictWeak cmp) (os : List (Op K V)) :
    ∀ t : Tree K V, Inv cmp t →
      ∃ t' outs, runOps cmp t os = some (t', outs) ∧ Inv cmp t' ∧
        specOps cmp (toList t.root) os = (toList t'.root, outs) := by
  induction os with
  | nil => intro t hi; exact ⟨t, [], rfl, hi, rfl⟩
  | cons o os ih =>
    intro t hi
    obtain ⟨t1, out, h1, h2, h3⟩ := applyOp_refines hc t o hi
    obtain ⟨t', outs, h4, h5, h6⟩ := ih t1 h2
    refine ⟨t', out :: outs, by simp [runOps, h1, h4], h5, ?_⟩
    simp only [specOps, h3, h6]

end Juniper.Proofs.Tree
