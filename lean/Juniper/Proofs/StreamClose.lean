import Juniper.Proofs.StreamDen
import Juniper.Proofs.StreamFacts
/-!
# Close discipline (C09): ghost Next/Close logs of the scripted source

`Forwards m m' proj`: the wrapper `m'` touches its inner stream (state `proj t`, machine `m`) only by
at most one `m.step` per step of its own, under the same context, and its `Close` is exactly one
`m.close`. This composes along pipelines, and over the logged source it gives: closed exactly once,
never pulled after `Close`. `Thru S m m' proj` says in addition which step hands on the failures in `S`, and
`Wraps S m m' proj` = `Thru` + the `Close` equation is what each wrapper proves, once and for all `S` (`X_wraps`;
`runsProto_wraps` in StreamRuns); `Forwards` and `SoftThru` (StreamRetry) are read off (`Wraps.forwards`, `Wraps.softThru`).
-/
namespace Juniper.Proofs.StreamDen
open Juniper.Model.Stream Juniper.Gen.Comb
universe u v w x y
variable {σ : Type u} {σ' : Type w} {σ'' : Type y} {α β : Type v} {γ : Type x}

structure Forwards (m : SM σ α) (m' : SM σ' γ) (proj : σ' → σ) : Prop where
  step : ∀ t c, proj (m'.step t c).2 = proj t ∨ proj (m'.step t c).2 = (m.step (proj t) c).2
  close : ∀ t, proj (m'.close t) = m.close (proj t)

theorem Forwards.comp {δ : Type v} {m : SM σ α} {m' : SM σ' γ} {m'' : SM σ'' δ} {p : σ' → σ} {q : σ'' → σ'}
    (h1 : Forwards m m' p) (h2 : Forwards m' m'' q) : Forwards m m'' (p ∘ q) where
  step := by
    intro t c
    simp only [Function.comp]
    rcases h2.step t c with h | h
    · left; rw [h]
    · rw [h]; exact h1.step (q t) c
  close := by
    intro t
    simp only [Function.comp]
    rw [h2.close, h1.close]

theorem Forwards.refl (m : SM σ α) : Forwards m m id := ⟨fun _ _ => Or.inr rfl, fun _ => rfl⟩

theorem Forwards.afterS {m : SM σ α} {m' : SM σ' γ} {proj : σ' → σ} (h : Forwards m m' proj)
    (cs : List Bool) (t : σ') : ∃ ds, proj (afterS m' cs t) = StreamDen.afterS m ds (proj t) := by
  induction cs generalizing t with
  | nil => exact ⟨[], rfl⟩
  | cons c cs ih =>
    obtain ⟨ds, hds⟩ := ih (m'.step t c).2
    simp only [StreamDen.afterS]
    rcases h.step t c with hh | hh
    · exact ⟨ds, by rw [hds, hh]⟩
    · exact ⟨c :: ds, by rw [hds, hh]; rfl⟩

theorem forwards_final {m : SM σ α} {m' : SM σ' γ} {proj : σ' → σ} (h : Forwards m m' proj) (t : σ') (cs : List Bool) :
    ∃ ds, proj (m'.close (afterS m' cs t)) = m.close (StreamDen.afterS m ds (proj t)) := by
  obtain ⟨ds, hds⟩ := h.afterS cs t
  exact ⟨ds, by rw [h.close, hds]⟩

theorem src_step_log (s : Src α) (c : Bool) :
    (srcStep s c).2.closes = s.closes ∧ (s.closes = 0 → (srcStep s c).2.after = s.after) := by
  rcases s with ⟨_ | ⟨_ | _ | _, _⟩, _, _, _, _⟩ <;> cases c <;> simp [srcStep]

/-- what the scripted source consumes of its script is what it answers -/
theorem srcStep_script (s : Src α) (c : Bool) :
    s.script = (match (srcStep s c).1 with
      | .item a => [.item a]
      | .err (.transient n) => [.transient n]
      | _ => []) ++ (srcStep s c).2.script := by
  rcases s with ⟨_ | ⟨_ | _ | _, _⟩, _, _, _, _⟩ <;> cases c <;> rfl

theorem srcStep_ctx (s : Src α) (c : Bool) : (srcStep s c).1 = .err .ctx ↔ c = false := by
  rcases s with ⟨_ | ⟨_ | _ | _, _⟩, _, _, _, _⟩ <;> cases c <;> simp [srcStep]

theorem src_close_afterS (s : Src α) (h0 : s.closes = 0) (cs : List Bool) :
    (srcClose (afterS src cs s)).closes = 1 ∧ (srcClose (afterS src cs s)).after = s.after := by
  have h := afterS_inv (m := src) (fun t => t.closes = 0 ∧ t.after = s.after)
    (fun t c h => ⟨(src_step_log t c).1.trans h.1, ((src_step_log t c).2 h.1).trans h.2⟩) cs ⟨h0, rfl⟩
  exact ⟨congrArg (· + 1) h.1, h.2⟩

theorem forwards_close_once {m' : SM σ' γ} {proj : σ' → Src α} (h : Forwards src m' proj)
    (t : σ') (h0 : (proj t).closes = 0) (cs : List Bool) :
    (proj (m'.close (afterS m' cs t))).closes = 1 ∧
      (proj (m'.close (afterS m' cs t))).after = (proj t).after := by
  obtain ⟨ds, hds⟩ := forwards_final h t cs
  rw [hds]
  exact src_close_afterS (proj t) h0 ds

/-- what `Thru` asks of the step of `m'` at `t` under `c`: it either leaves the inner state alone and answers no
error in `S`, or makes the inner step under the same context and answers the error `e ∈ S` exactly when the inner
step does -/
def ThruAt (S : Err → Prop) (m : SM σ α) (m' : SM σ' γ) (proj : σ' → σ) (t : σ') (c : Bool) : Prop :=
  (proj (m'.step t c).2 = proj t ∧ ∀ e, (m'.step t c).1 = .err e → ¬ S e) ∨
  (proj (m'.step t c).2 = (m.step (proj t) c).2 ∧
    ∀ e, S e → ((m'.step t c).1 = .err e ↔ (m.step (proj t) c).1 = .err e))

/-- `m'` hands the failures in `S` of `m` through. With `S` empty this is `Forwards.step`. -/
def Thru (S : Err → Prop) (m : SM σ α) (m' : SM σ' γ) (proj : σ' → σ) : Prop := ∀ t c, ThruAt S m m' proj t c

theorem Thru.refl (S : Err → Prop) (m : SM σ α) : Thru S m m id := fun _ _ => .inr ⟨rfl, fun _ _ => Iff.rfl⟩

theorem Thru.comp {S : Err → Prop} {δ : Type v} {m : SM σ α} {m' : SM σ' γ} {m'' : SM σ'' δ} {p : σ' → σ} {q : σ'' → σ'}
    (h1 : Thru S m m' p) (h2 : Thru S m' m'' q) : Thru S m m'' (p ∘ q) := by
  intro t c
  simp only [ThruAt, Function.comp]
  rcases h2 t c with ⟨hq, hn⟩ | ⟨hq, hiff⟩
  · exact .inl ⟨by rw [hq], hn⟩
  · rcases h1 (q t) c with ⟨hp, hn⟩ | ⟨hp, hiff'⟩
    · exact .inl ⟨by rw [hq, hp], fun e he hs => hn e ((hiff e hs).mp he) hs⟩
    · exact .inr ⟨by rw [hq, hp], fun e hs => (hiff e hs).trans (hiff' e hs)⟩

/-- **`m'` wraps `m`**: it hands the failures in `S` of `m` through, and its `Close` is exactly one `Close` of `m`.
Every single-source method of `stream.go` wraps its source, for every `S` that contains no failure of its own
callback (`X_wraps`); `Forwards` (C09) and `SoftThru` (C08, `S` = the soft failures) are read off. -/
structure Wraps (S : Err → Prop) (m : SM σ α) (m' : SM σ' γ) (proj : σ' → σ) : Prop where
  thru : Thru S m m' proj
  close : ∀ t, proj (m'.close t) = m.close (proj t)

theorem Wraps.forwards {S : Err → Prop} {m : SM σ α} {m' : SM σ' γ} {proj : σ' → σ} (h : Wraps S m m' proj) :
    Forwards m m' proj :=
  ⟨fun t c => (h.thru t c).imp And.left And.left, h.close⟩

theorem Wraps.refl (S : Err → Prop) (m : SM σ α) : Wraps S m m id := ⟨.refl S m, fun _ => rfl⟩

theorem Wraps.comp {S : Err → Prop} {δ : Type v} {m : SM σ α} {m' : SM σ' γ} {m'' : SM σ'' δ} {p : σ' → σ} {q : σ'' → σ'}
    (h1 : Wraps S m m' p) (h2 : Wraps S m' m'' q) : Wraps S m m'' (p ∘ q) :=
  ⟨h1.thru.comp h2.thru, (h1.forwards.comp h2.forwards).close⟩

abbrev NoneIn (S : Err → Prop) (r : SStep γ) : Prop := ∀ e, r = .err e → ¬ S e

theorem thru_pull {S : Err → Prop} {m : SM σ α} {m' : SM σ' γ} {proj : σ' → σ} {t : σ'} {c : Bool} {put : σ → σ'}
    {item : α → σ → SStep γ × σ'} {end_ : σ → SStep γ × σ'}
    (hstep : m'.step t c = pullThen put item end_ (m.step (proj t) c)) (hput : ∀ s, proj (put s) = s)
    (hitem : ∀ a s, proj (item a s).2 = s ∧ NoneIn S (item a s).1)
    (hend : ∀ s, proj (end_ s).2 = s ∧ NoneIn S (end_ s).1) : ThruAt S m m' proj t c :=
  .inr (by
    rw [hstep]
    exact ⟨pullThen_snd proj hput (fun a s => (hitem a s).1) (fun s => (hend s).1) _, fun e he =>
      pullThen_err (fun a s h => (hitem a s).2 e h he) (fun s h => (hend s).2 e h he) _⟩)

theorem thru_idle {S : Err → Prop} {m : SM σ α} {m' : SM σ' γ} {proj : σ' → σ} {t t' : σ'} {c : Bool} {r : SStep γ}
    (hstep : m'.step t c = (r, t')) (hp : proj t' = proj t) (hr : NoneIn S r) : ThruAt S m m' proj t c :=
  .inl (by rw [hstep]; exact ⟨hp, hr⟩)

variable (S : Err → Prop)

theorem withPeek_wraps (m : SM σ α) : Wraps S m (withPeek m) (fun st => st.inner) where
  thru := by
    intro ⟨s, curr⟩ c
    cases curr with
    | some a => exact thru_idle (m' := withPeek m) (proj := PeekSt.inner) (peekNext_step_some m s a c) rfl nofun
    | none =>
      exact thru_pull (proj := PeekSt.inner) (peekNext_step_none m s c) (fun _ => rfl) (fun _ _ => ⟨rfl, nofun⟩)
        (fun _ => ⟨rfl, nofun⟩)
  close := by intro t; simp [withPeek, peekClose, stPeekCloseForwards_fact]

theorem chunk_wraps (size : Int) (m : SM σ α) : Wraps S m (chunk size m) (fun st => st.inner) where
  thru := fun t c => thru_pull (proj := ChunkSt.inner) (chunk_step size m t c) (fun _ => rfl)
      (fun a s => by rw [chunkOn_item]; split <;> exact ⟨rfl, nofun⟩)
      (fun s => by rw [chunkOn_end]; split <;> exact ⟨rfl, nofun⟩)
  close := by intro t; simp [chunk, stChunkCloseForwards_fact]

theorem compactOn_item_thru (eq : α → α → Bool) (st : CompactSt σ α) (s' : σ) (a : α) :
    (compactOn eq st s' (.item a)).2.inner = s' ∧ NoneIn S (compactOn eq st s' (.item a)).1 := by
  obtain ⟨i, f, p⟩ := st
  rw [compactOn_item]
  cases f with
  | true => exact ⟨rfl, nofun⟩
  | false =>
    cases p with
    | none => exact ⟨rfl, nofun⟩
    | some q => by_cases hq : eq q a = true <;> simp only [hq] <;> exact ⟨rfl, nofun⟩

theorem compact_wraps (eq : α → α → Bool) (m : SM σ α) : Wraps S m (compact eq m) (fun st => st.inner) where
  thru := fun t c => thru_pull (proj := CompactSt.inner) (compact_step eq m t c) (fun _ => rfl)
      (fun a s => compactOn_item_thru S eq t s a)
      (fun s => by rw [compactOn_end]; exact ⟨rfl, nofun⟩)
  close := by intro t; simp [compact, stCompactCloseForwards_fact]

theorem filter_wraps (keep : α → Except Err Bool) (hf : ∀ a e, keep a = .error e → ¬ S e) (m : SM σ α) :
    Wraps S m (filter keep m) (fun st => st.inner) where
  thru := fun t c => thru_pull (proj := Wrap.inner) (filter_step keep m t c) (fun _ => rfl)
      (fun a s => by
        rw [filterOn_item]
        cases hk : keep a with
        | error e0 => exact ⟨rfl, fun e he => by cases he; exact hf a e0 hk⟩
        | ok b => cases b <;> exact ⟨rfl, nofun⟩)
      (fun s => by rw [filterOn_end]; exact ⟨rfl, nofun⟩)
  close := by intro t; simp [filter, stFilterCloseForwards_fact]

theorem map_wraps (f : α → Except Err β) (hf : ∀ a e, f a = .error e → ¬ S e) (m : SM σ α) :
    Wraps S m (map f m) (fun st => st.inner) where
  thru := fun t c => thru_pull (proj := Wrap.inner) (map_step f m t c) (fun _ => rfl)
      (fun a s => by
        rw [mapOn_item]
        cases hk : f a with
        | error e0 => exact ⟨rfl, fun e he => by cases he; exact hf a e0 hk⟩
        | ok b => exact ⟨rfl, nofun⟩)
      (fun s => by rw [mapOn_end]; exact ⟨rfl, nofun⟩)
  close := by intro t; simp [map, stMapCloseForwards_fact]

theorem first_wraps (m : SM σ α) : Wraps S m (first m) (fun st => st.inner) where
  thru := by
    intro t c
    by_cases hx : t.x ≤ 0
    · exact thru_idle (proj := FirstSt.inner) (first_step_done m t hx c) rfl nofun
    · exact thru_pull (proj := FirstSt.inner) (first_step m t (by omega) c) (fun _ => rfl)
        (fun a s => by rw [firstOn_item]; exact ⟨rfl, nofun⟩) (fun s => by rw [firstOn_end]; exact ⟨rfl, nofun⟩)
  close := by intro t; simp [first, stFirstCloseForwards_fact]

theorem whileEval_thru (f : α → Except Err Bool) (hf : ∀ a e, f a = .error e → ¬ S e)
    (st : WhileSt σ α) (a : α) : (whileEval f st a).2.inner = st.inner ∧ NoneIn S (whileEval f st a).1 := by
  rw [whileEval_eq]
  cases hk : f a with
  | error e0 => exact ⟨rfl, fun e he => by cases he; exact hf a e0 hk⟩
  | ok b => cases b <;> exact ⟨rfl, nofun⟩

theorem while_wraps (f : α → Except Err Bool) (hf : ∀ a e, f a = .error e → ¬ S e) (m : SM σ α) :
    Wraps S m (while_ f m) (fun st => st.inner) where
  thru := by
    intro ⟨s, held, done⟩ c
    cases done with
    | true => exact thru_idle (proj := WhileSt.inner) (while_step_done f m s held c) rfl nofun
    | false =>
      cases held with
      | some a =>
        exact thru_idle (proj := WhileSt.inner) (while_step_held f m s a c) (whileEval_thru S f hf _ a).1
          (whileEval_thru S f hf _ a).2
      | none =>
        exact thru_pull (proj := WhileSt.inner) (while_step f m s c) (fun _ => rfl)
          (fun a s' => by rw [whileOn_item]; exact whileEval_thru S f hf _ a)
          (fun s' => by rw [whileOn_end]; exact ⟨rfl, nofun⟩)
  close := by intro t; simp [while_, stWhileCloseForwards_fact]

theorem flattenSlices_wraps (m : SM σ (List α)) : Wraps S m (flattenSlices m) (fun st => st.inner) where
  thru := by
    intro ⟨s, buf⟩ c
    cases buf with
    | cons a r => exact thru_idle (proj := FlattenSlicesSt.inner) (flattenSlices_step_cons m s a r c) rfl nofun
    | nil =>
      exact thru_pull (proj := FlattenSlicesSt.inner) (flattenSlices_step_nil m s c) (fun _ => rfl)
        (fun a s' => by rw [flattenSlicesOn_item]; exact ⟨rfl, nofun⟩)
        (fun s' => by rw [flattenSlicesOn_end]; exact ⟨rfl, nofun⟩)
  close := by intro t; simp [flattenSlices, stFlattenSlicesCloseForwards_fact]

/-- A reducer that runs some `Next` calls and then the deferred `Close`, over any pipeline that
forwards to the logged source: the source is closed exactly once and never pulled afterwards. -/
theorem reducer_closes {m' : SM σ' γ} {proj : σ' → Src α} (h : Forwards src m' proj)
    (t : σ') (h0 : (proj t).closes = 0) {final : σ'} (hr : ∃ cs, final = m'.close (afterS m' cs t)) :
    (proj final).closes = 1 ∧ (proj final).after = (proj t).after := by
  obtain ⟨cs, rfl⟩ := hr
  exact forwards_close_once h t h0 cs

variable {τ : Type w}

theorem flatten_close (mo : SM σ τ) (mi : SM τ α) (so : σ) (curr : Option τ) (fin : List τ) :
    (flatten mo mi).close ⟨so, curr, fin⟩ = ⟨mo.close so, curr.map mi.close, fin⟩ := by
  cases curr <;> simp [flatten, stFlattenCloseForwards_fact, stFlattenCloseCurr_fact.1]

theorem flatten_outer_forwards (mo : SM σ τ) (mi : SM τ α) :
    Forwards mo (flatten mo mi) (fun st => st.outer) where
  step := by
    intro ⟨so, curr, fin⟩ c
    cases curr with
    | none =>
      rw [flatten_step_none]
      exact .inr (pullThen_snd FlattenSt.outer (fun _ => rfl) (fun x s => by rw [flattenOuterOn_item])
        (fun s => by rw [flattenOuterOn_end]) _)
    | some x =>
      rw [flatten_step_some]
      exact .inl (pullThen_proj FlattenSt.outer (fun _ => so) (fun _ => rfl) (fun a s => by rw [flattenInnerOn_item])
        (fun s => by rw [flattenInnerOn_end]; split <;> rfl) _)
  close := fun ⟨so, curr, fin⟩ => by rw [flatten_close]

/-- closed exactly once, not touched afterwards -/
def Closed1 (x : Src α) : Prop := x.closes = 1 ∧ x.after = 0
/-- not closed yet, never misused -/
def Open0 (x : Src α) : Prop := x.closes = 0 ∧ x.after = 0

theorem open0_step {x : Src α} (h : Open0 x) (c : Bool) : Open0 (srcStep x c).2 := by
  have := src_step_log x c
  exact ⟨by rw [this.1, h.1], by rw [this.2 h.1, h.2]⟩

theorem open0_close {x : Src α} (h : Open0 x) : Closed1 (srcClose x) := by
  obtain ⟨h1, h2⟩ := h
  exact ⟨by simp [srcClose, h1], by simp [srcClose, h2]⟩

theorem peekNext_has (m : SM σ α) (s : σ) (a : α) (c : Bool) :
    (peekNext m ⟨s, some a⟩ c).2.inner = s := by
  simp [peekNext, stPeekNextHas]

end Juniper.Proofs.StreamDen
