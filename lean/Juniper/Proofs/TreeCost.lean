import Juniper.Model.BTreeCost
import Juniper.Proofs.TreeGet
import Juniper.Proofs.ListStore
/-!
# Comparison counting (C03)

`cost_skeleton` is the tie to `btree.go`: one loop in each of `searchNode`, `Get`, `Contains`; one
comparator call per iteration of `searchNode`'s loop and none outside it; one `searchNode` call per level of
`Get` / `Contains`, none outside the descent loop, no direct comparison. The bounds below use it.
-/
namespace Juniper.Proofs.Tree
open Juniper.Model.BTree Juniper.Gen.Tree Juniper.Gen.TreeAccess

variable {K V : Type} {cmp : K → K → Int}

/-- **tie lemma**: the regenerated call / loop counts of `searchNode`, `Get`, `Contains` are the ones the cost
model is entitled to (a comparison or a `searchNode` call outside the loops, a second loop, a second call per
iteration all change one of these numbers). -/
theorem cost_skeleton :
    (searchLoops = 1 ∧ searchCompares = searchLoopCompares ∧ searchLoopCompares = 1) ∧
    (getLoops = 1 ∧ getSearches = getLoopSearches ∧ getLoopSearches = 1 ∧ getCompares = 0) ∧
    (containsLoops = 1 ∧ containsSearches = containsLoopSearches ∧ containsLoopSearches = 1 ∧
      containsCompares = 0) := by decide

/-- the closed form `searchIters = min (idx + 1) n` is the loop of `btree.searchNode` unrolled: no iteration on
an empty node; the iteration on the first key returns (`c < 0`: not found here; `c == 0`: found) or goes on
with the rest — the comparison operators being the regenerated `searchLess` / `searchEq`. -/
theorem searchIters_loop (cmp : K → K → Int) (k : K) :
    searchIters cmp k ([] : List (K × V)) = 0 ∧
    ∀ (k' : K) (v' : V) (rest : List (K × V)),
      searchIters cmp k ((k', v') :: rest) =
        if searchLess (cmp k k') then 1 else if searchEq (cmp k k') then 1 else searchIters cmp k rest + 1 := by
  refine ⟨by simp [searchIters], fun k' v' rest => ?_⟩
  simp only [searchIters, searchNode, List.length_cons]
  split
  · simp
  · split
    · simp
    · simp only []; omega

theorem searchCost_le (cmp : K → K → Int) (k : K) (kvs : List (K × V)) :
    searchCost cmp k kvs ≤ kvs.length := by
  have h := cost_skeleton.1.2.2
  simp only [searchCost, searchIters, h, Nat.one_mul]
  exact Nat.min_le_right _ _

theorem levelCosts_length_le (calls : Nat) (cmp : K → K → Int) (k : K) (x : Node K V) :
    ∀ h, Bal h x → (levelCosts calls cmp k x).length ≤ h + 1 := by
  fun_induction levelCosts calls cmp k x with
  | case1 | case2 => intro h _; simp
  | case3 id kvs kids i hs c hcc ih =>
    intro h hb
    obtain ⟨h', rfl, -, -, hbc, -⟩ := bal_child hb hcc
    have := ih h' hbc
    simp only [List.length_cons]; omega

theorem levelCosts_le (calls : Nat) (cmp : K → K → Int) (k : K) (x : Node K V) :
    ∀ h, Bal h x → x.n ≤ maxKVs → ∀ c ∈ levelCosts calls cmp k x, (c : Int) ≤ calls * maxKVs := by
  have one : ∀ kvs : List (K × V), ((kvs.length : Int) ≤ maxKVs) →
      ((calls * searchCost cmp k kvs : Nat) : Int) ≤ calls * maxKVs := by
    intro kvs hn
    have := searchCost_le cmp k kvs
    push_cast
    exact Int.mul_le_mul_of_nonneg_left (by omega) (by omega)
  fun_induction levelCosts calls cmp k x with
  | case1 id kvs | case2 id kvs =>
    intro h _ hn c hc
    simp only [node_n] at hn
    simp only [List.mem_singleton] at hc; subst hc; exact one kvs hn
  | case3 id kvs kids i hs c hcc ih =>
    intro h hb hn d hd
    simp only [node_n] at hn
    obtain ⟨h', rfl, -, -, hbc, hoc⟩ := bal_child hb hcc
    rcases List.mem_cons.mp hd with hd | hd
    · subst hd; exact one kvs hn
    · exact ih h' hbc hoc.2 d hd

theorem sum_le_of_all_le (l : List Nat) (b : Nat) (h : ∀ c ∈ l, c ≤ b) : l.sum ≤ b * l.length :=
  ListStore.sum_le (f := id) (g := List.sum) rfl (fun _ _ => rfl) l h

theorem levelCosts_sum_le (calls : Nat) (cmp : K → K → Int) (k : K) (x : Node K V) (h : Nat)
    (hb : Bal h x) (hn : x.n ≤ maxKVs) :
    ((levelCosts calls cmp k x).sum : Int) ≤ calls * maxKVs * (h + 1) := by
  have hmax : (0 : Int) ≤ maxKVs := by decide
  have h1 := levelCosts_le calls cmp k x h hb hn
  have h2 := levelCosts_length_le calls cmp k x h hb
  have e : ((calls * maxKVs.toNat : Nat) : Int) = calls * maxKVs := by
    push_cast; rw [Int.toNat_of_nonneg hmax]
  have h3 := sum_le_of_all_le (levelCosts calls cmp k x) (calls * maxKVs.toNat) (fun c hc => by
    have := h1 c hc; omega)
  have h4 : (((calls * maxKVs.toNat) * (levelCosts calls cmp k x).length : Nat) : Int) ≤ calls * maxKVs * (h + 1) := by
    rw [Int.natCast_mul, e]
    exact Int.mul_le_mul_of_nonneg_left (by omega) (Int.mul_nonneg (by omega) hmax)
  omega

end Juniper.Proofs.Tree
