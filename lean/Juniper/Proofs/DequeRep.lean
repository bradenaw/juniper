import Juniper.Proofs.DequeArith
/-!
# Representation relation of the deque model

`Rep d l`: the ring state `d` represents the sequence `l`. It is stated cell by cell — ring
position `k` (0 = front) lives in raw slot `ridx front cap k` and holds `l[k]?`, so every position
behind the live window holds `none` — which makes every single-slot update a one-line case split.
-/
namespace Juniper.Proofs.Deque
open Juniper.Gen.Deque Juniper.Model.Deque

variable {α : Type}

theorem slot_of_nonneg (a : List (Option α)) {i : Int} (h : 0 ≤ i) : slot a i = a[i.toNat]? :=
  if_neg (Int.not_lt.2 h)

theorem slot_natCast (a : List (Option α)) (k : Nat) : slot a (k : Int) = a[k]? :=
  slot_of_nonneg a (Int.natCast_nonneg k)

theorem setSlot_eq (a : List (Option α)) {p : Int} (v : Option α) (h0 : 0 ≤ p)
    (h1 : p < (a.length : Int)) : setSlot a p v = some (a.set p.toNat v) := by
  unfold setSlot
  rw [if_neg (Int.not_lt.2 h0), if_pos (by omega)]

theorem slot_set (a : List (Option α)) {p q : Int} (v : Option α) (h0 : 0 ≤ p)
    (h1 : p < (a.length : Int)) (hq : 0 ≤ q) :
    slot (a.set p.toNat v) q = if q = p then some v else slot a q := by
  rw [slot_of_nonneg _ hq, slot_of_nonneg _ hq, List.getElem?_set]
  have h3 : p.toNat < a.length := by omega
  by_cases h : q = p
  · subst h; simp [h3]
  · have : p.toNat ≠ q.toNat := by omega
    simp [h, this]

structure Rep (d : Deque α) (l : List α) : Prop where
  nil_a : d.isNil = true → d.a = [] ∧ d.back = 0
  front_nonneg : 0 ≤ d.front
  front_lt : d.front < cap d ∨ (d.front = 0 ∧ cap d = 0)
  len_le : (l.length : Int) ≤ cap d
  front_empty : l = [] → d.front = 0
  back_empty : l = [] → d.isNil = false → d.back = -1
  back_nonempty : l ≠ [] → d.back = ridx d.front (cap d) ((l.length : Int) - 1)
  cells : ∀ k : Nat, (k : Int) < cap d → slot d.a (ridx d.front (cap d) k) = some l[k]?

theorem cap_nonneg (d : Deque α) : 0 ≤ cap d := by unfold cap; omega

theorem rep_zero : Rep (zero : Deque α) [] := by
  refine ⟨?_, ?_, ?_, ?_, ?_, ?_, ?_, ?_⟩ <;> simp [zero, cap]
  intro k hk; omega

/-- `Rep` of an allocated state holding a non-empty sequence: the degenerate clauses are void -/
theorem rep_intro {a : List (Option α)} {n : Bool} {f b g : Int} {l : List α} (hn : n = false)
    (hne : l ≠ []) (hf0 : 0 ≤ f) (hf1 : f < (a.length : Int)) (hl : (l.length : Int) ≤ (a.length : Int))
    (hb : b = ridx f (a.length : Int) ((l.length : Int) - 1))
    (hcells : ∀ k : Nat, (k : Int) < (a.length : Int) →
      slot a (ridx f (a.length : Int) k) = some l[k]?) :
    Rep { a := a, isNil := n, front := f, back := b, gen := g } l := by
  subst hn
  exact ⟨by simp, hf0, Or.inl hf1, hl, fun h => absurd h hne, fun h _ => absurd h hne, fun _ => hb, hcells⟩

theorem Rep.notNil_of_cap {d : Deque α} {l : List α} (h : Rep d l) (hc : 0 < cap d) :
    d.isNil = false := by
  cases hn : d.isNil with
  | false => rfl
  | true => have := (h.nil_a hn).1; simp only [cap, this, List.length_nil] at hc; omega

theorem Rep.front_lt_cap {d : Deque α} {l : List α} (h : Rep d l) (hc : 0 < cap d) :
    d.front < cap d := by
  have := h.front_lt; omega

theorem Rep.notNil_of_ne {d : Deque α} {l : List α} (h : Rep d l) (hl : l ≠ []) :
    d.isNil = false :=
  h.notNil_of_cap (by have := h.len_le; have := List.length_pos_iff.2 hl; omega)

theorem Rep.back_bounds {d : Deque α} {l : List α} (h : Rep d l) (hl : l ≠ []) :
    0 ≤ d.back ∧ d.back < cap d := by
  have hb := h.back_nonempty hl
  have hp := List.length_pos_iff.2 hl
  have h1 := h.len_le; have h2 := h.front_nonneg; have h3 := h.front_lt
  have := ridx_cases d.front (cap d) ((l.length : Int) - 1)
  omega

theorem Rep.len_eq {d : Deque α} {l : List α} (h : Rep d l) : len d = l.length := by
  unfold len lenEmpty lenContig lenContigVal lenWrapVal
  by_cases hl : l = []
  · subst hl
    cases hn : d.isNil with
    | true => simp
    | false => simp [h.back_empty rfl hn]
  · have hn := h.notNil_of_ne hl
    have hb := h.back_nonempty hl
    have hp := List.length_pos_iff.2 hl
    have h1 := h.len_le; have h2 := h.front_nonneg
    have hc := ridx_cases d.front (cap d) ((l.length : Int) - 1)
    have hne : ¬ (d.back = -1) := by omega
    simp only [hn, hne, Bool.false_or, decide_false, Bool.false_eq_true, if_false]
    by_cases hfb : d.front ≤ d.back
    · simp only [hfb, decide_true, if_true]; omega
    · simp only [hfb, decide_false, Bool.false_eq_true, if_false]; omega

theorem getElem?_map_some_append_replicate (l : List α) (m k : Nat) (hk : k < l.length + m) :
    (l.map some ++ List.replicate m (none : Option α))[k]? = some l[k]? := by
  rw [List.getElem?_append, List.length_map]
  by_cases h : k < l.length
  · simp [h]
  · have : k - l.length < m := by omega
    simp [h, this]

theorem Rep.ring_eq {d : Deque α} {l : List α} (h : Rep d l) :
    d.a.drop d.front.toNat ++ d.a.take d.front.toNat =
      l.map some ++ List.replicate (d.a.length - l.length) none := by
  have hcap : cap d = d.a.length := rfl
  have h0 := h.front_nonneg
  have h1 := h.front_lt
  have h2 := h.len_le
  apply List.ext_getElem?
  intro k
  by_cases hk : k < d.a.length
  · have hr := ridx_cases d.front (cap d) k
    rw [getElem?_map_some_append_replicate l _ k (by omega), ← h.cells k (by omega), slot_of_nonneg _ (by omega)]
    by_cases hw : d.front.toNat + k < d.a.length
    · rw [List.getElem?_append_left (by rw [List.length_drop]; omega), List.getElem?_drop]
      congr 1; omega
    · rw [List.getElem?_append_right (by rw [List.length_drop]; omega), List.length_drop,
        List.getElem?_take_of_lt (by omega)]
      congr 1; omega
  · rw [List.getElem?_eq_none (by simp; omega), List.getElem?_eq_none (by simp; omega)]

/-- The live window (what `resize` copies) is the represented sequence: the ring read from the front, cut
after `l.length` slots. -/
theorem Rep.window_eq {d : Deque α} {l : List α} (h : Rep d l) : window d = l.map some := by
  unfold window resizeCopies resizeContig
  by_cases hl : l = []
  · subst hl
    cases hn : d.isNil with
    | true => simp
    | false => simp [h.back_empty rfl hn]
  · have hn := h.notNil_of_ne hl
    have ⟨hb0, hb1⟩ := h.back_bounds hl
    have hne : ¬ (d.back = -1) := by omega
    have h1 := h.len_le; have h2 := h.front_nonneg; have h3 := h.front_lt
    have hcap : cap d = d.a.length := rfl
    -- the two cut points are the two cases of `len`
    have hlen := h.len_eq
    unfold len lenEmpty lenContig lenContigVal lenWrapVal at hlen
    simp only [hn, hne, Bool.false_or, decide_false, Bool.not_false, Bool.false_eq_true, if_false, if_true]
      at hlen ⊢
    have hcut : (d.a.drop d.front.toNat ++ d.a.take d.front.toNat).take l.length = l.map some := by
      rw [h.ring_eq, List.take_left' (List.length_map some)]
    rw [← hcut]
    by_cases hfb : d.front ≤ d.back
    · simp only [hfb, decide_true, if_true] at hlen ⊢
      rw [List.take_append_of_le_length (by rw [List.length_drop]; omega)]
      congr 1; omega
    · simp only [hfb, decide_false, Bool.false_eq_true, if_false] at hlen ⊢
      rw [List.take_append, List.take_of_length_le (l := d.a.drop d.front.toNat) (by rw [List.length_drop]; omega),
        List.take_take, List.length_drop]
      congr 2; omega

/-- A freshly unwrapped buffer (what `resize` builds) represents the same sequence. -/
theorem rep_fresh (l : List α) (m : Nat) (g : Int) :
    Rep { a := l.map some ++ List.replicate m none, isNil := false, front := 0,
          back := (l.length : Int) - 1, gen := g } l := by
  have hlen : (l.map some ++ List.replicate m (none : Option α)).length = l.length + m := by simp
  refine ⟨?_, ?_, ?_, ?_, ?_, ?_, ?_, ?_⟩
  · simp
  · simp
  · simp only [cap, hlen, true_and]; omega
  · simp only [cap, hlen]; omega
  · simp
  · intro hl _; subst hl; simp
  · intro _
    simp only [cap, hlen]
    have := ridx_cases 0 ((l.length + m : Nat) : Int) ((l.length : Int) - 1)
    omega
  · intro k hk
    simp only [cap, hlen] at hk ⊢
    have hr := ridx_cases 0 ((l.length + m : Nat) : Int) (k : Int)
    have : ridx 0 ((l.length + m : Nat) : Int) (k : Int) = (k : Int) := by omega
    rw [this, slot_natCast]
    exact getElem?_map_some_append_replicate l m k (by omega)

theorem Rep.resize {d : Deque α} {l : List α} (h : Rep d l) {n : Int} (hn : (l.length : Int) ≤ n) :
    ∃ d', resize d n = .ok d' () ∧ Rep d' l ∧ cap d' = n ∧ d'.gen = bump resizeBumpsGen d.gen := by
  have hn0 : ¬ n < 0 := by omega
  have htake : (window d).take n.toNat = l.map some := by
    rw [h.window_eq]; apply List.take_of_length_le; simp; omega
  unfold Juniper.Model.Deque.resize
  simp only [hn0, if_false, htake, h.len_eq, resizeFront, resizeBack, List.length_map]
  refine ⟨_, rfl, rep_fresh l _ _, ?_, rfl⟩
  simp only [cap, List.length_append, List.length_map, List.length_replicate]
  omega

theorem le_bump (b : Bool) (g : Int) : g ≤ bump b g := by unfold bump; split <;> omega
theorem lt_bump {b : Bool} (hb : b = true) (g : Int) : g < bump b g := by
  subst hb; simp only [bump, if_true]; omega

theorem Rep.grow {d : Deque α} {l : List α} (h : Rep d l) (n : Int) :
    ∃ d', grow d n = .ok d' () ∧ Rep d' l ∧ n ≤ cap d' - l.length ∧
      (d' = d ∨ d'.gen = bump resizeBumpsGen d.gen) := by
  unfold Juniper.Model.Deque.grow growExtra growCond growArg
  have h1 := h.len_le
  simp only [h.len_eq]
  by_cases hc : cap d - (l.length : Int) < n
  · simp only [hc, decide_true, if_true]
    obtain ⟨d', he, hr, hcap, hg⟩ := h.resize (n := cap d + n) (by omega)
    exact ⟨d', he, hr, by omega, Or.inr hg⟩
  · simp only [hc, decide_false, Bool.false_eq_true, if_false]
    exact ⟨d, rfl, h, by omega, Or.inl rfl⟩

theorem Rep.shrink {d : Deque α} {l : List α} (h : Rep d l) {n : Int} (hn : 0 ≤ n) :
    ∃ d', shrink d n = .ok d' () ∧ Rep d' l ∧ cap d' - l.length ≤ n ∧
      (d' = d ∨ d'.gen = bump resizeBumpsGen d.gen) := by
  unfold Juniper.Model.Deque.shrink shrinkPanic shrinkCond shrinkArg
  have hn' : ¬ n < 0 := by omega
  simp only [h.len_eq, hn', decide_false, Bool.false_eq_true, if_false]
  by_cases hc : cap d - (l.length : Int) > n
  · simp only [hc, decide_true, if_true]
    obtain ⟨d', he, hr, hcap, hg⟩ := h.resize (n := (l.length : Int) + n) (by omega)
    exact ⟨d', he, hr, by omega, Or.inr hg⟩
  · simp only [hc, decide_false, Bool.false_eq_true, if_false]
    exact ⟨d, rfl, h, by omega, Or.inl rfl⟩

theorem shrink_neg (d : Deque α) {n : Int} (hn : n < 0) : shrink d n = .panic d := by
  unfold Juniper.Model.Deque.shrink shrinkPanic
  simp [hn]

theorem Rep.maybeExpand {d : Deque α} {l : List α} (h : Rep d l) :
    ∃ d', maybeExpand d = .ok d' () ∧ Rep d' l ∧ (l.length : Int) < cap d' ∧
      (d' = d ∨ d'.gen = bump resizeBumpsGen d.gen) := by
  unfold Juniper.Model.Deque.maybeExpand expandCond expandArg
  have h1 := h.len_le
  have h0 := cap_nonneg d
  simp only [h.len_eq]
  by_cases hc : (l.length : Int) = cap d
  · simp only [hc, decide_true, if_true]
    have hm : minSize = 16 := rfl
    obtain ⟨d', he, hr, hcap, hg⟩ := h.resize (n := max minSize (cap d * 2)) (by omega)
    exact ⟨d', he, hr, by omega, Or.inr hg⟩
  · simp only [hc, decide_false, Bool.false_eq_true, if_false]
    exact ⟨d, rfl, h, by omega, Or.inl rfl⟩

end Juniper.Proofs.Deque
