import Juniper.Proofs.LTS
/-!
# The first-race argument (C01, concurrent clause)

An abstract interleaving system in which every step of a goroutine is ONE access to ONE location, determined by the
goroutine's private state (`acc`), reads at most the value at that location and changes at most that value (`step`) —
no synchronisation, so "happens before" between goroutines is empty. `no_conflicting_accesses_of_race_free`: if no
reachable configuration has two different goroutines whose *next* accesses conflict (`Race`), then no run contains two
conflicting accesses of different goroutines at all, however far apart. Hence the configuration-local `Race` of
`Model/BTreeAccess.lean` excludes every data race in the sense of the Go memory model. (`Model/BTreeAccess.next` /
`accessOf` are of this form clause by clause; that instantiation is by inspection, see the comment at
`Model.BTreeAccess.Race`.)
-/
namespace Juniper.Proofs.FirstRace

variable {Loc Val P : Type} [DecidableEq Loc]

/-- an access: the location and whether it writes -/
abbrev Acc (Loc : Type) := Loc × Bool

def conflict (a b : Acc Loc) : Prop := a.1 = b.1 ∧ (a.2 = true ∨ b.2 = true)

structure Sys (Loc Val P : Type) where
  /-- the next access of a goroutine, a function of its private state alone; `none`: it has returned -/
  acc : P → Option (Acc Loc)
  /-- performing it: the new private state and (for a write) the value stored, from the value found there -/
  step : P → Val → P × Val

structure Config (Loc Val P : Type) where
  mem : Loc → Val
  pcs : Nat → P

variable (S : Sys Loc Val P)

def stepAt (c : Config Loc Val P) (i : Nat) : Option (Config Loc Val P) :=
  match S.acc (c.pcs i) with
  | none => none
  | some a =>
    some { mem := fun l => if a.2 = true ∧ l = a.1 then (S.step (c.pcs i) (c.mem a.1)).2 else c.mem l,
           pcs := fun k => if k = i then (S.step (c.pcs i) (c.mem a.1)).1 else c.pcs k }

/-- `none`: the schedule names a goroutine that has returned -/
def run : Config Loc Val P → List Nat → Option (Config Loc Val P)
  | c, [] => some c
  | c, i :: σ => (stepAt S c i).bind (run · σ)

/-- the accesses performed by a run, in order: (goroutine, access) -/
def events : Config Loc Val P → List Nat → List (Nat × Acc Loc)
  | _, [] => []
  | c, i :: σ =>
    match S.acc (c.pcs i), stepAt S c i with
    | some a, some c' => (i, a) :: events c' σ
    | _, _ => []

/-- two different goroutines whose NEXT accesses conflict -/
def Race (c : Config Loc Val P) : Prop :=
  ∃ i j a b, i ≠ j ∧ S.acc (c.pcs i) = some a ∧ S.acc (c.pcs j) = some b ∧ conflict a b

def Indep (e1 e2 : Nat × Acc Loc) : Prop := e1.1 = e2.1 ∨ ¬ conflict e1.2 e2.2

variable {S}

theorem stepAt_some {c c' : Config Loc Val P} {i : Nat} (h : stepAt S c i = some c') :
    ∃ a, S.acc (c.pcs i) = some a ∧
      c' = { mem := fun l => if a.2 = true ∧ l = a.1 then (S.step (c.pcs i) (c.mem a.1)).2 else c.mem l,
             pcs := fun k => if k = i then (S.step (c.pcs i) (c.mem a.1)).1 else c.pcs k } := by
  unfold stepAt at h
  cases ha : S.acc (c.pcs i) with
  | none => rw [ha] at h; cases h
  | some a => rw [ha] at h; simp only [Option.some.injEq] at h; exact ⟨a, rfl, h.symm⟩

theorem isRun : LTS.IsRun (stepAt S) (run S) := ⟨fun _ => rfl, fun _ _ _ => rfl⟩

theorem events_cons {c d : Config Loc Val P} {i : Nat} {a : Acc Loc} (σ : List Nat)
    (ha : S.acc (c.pcs i) = some a) (hs : stepAt S c i = some d) :
    events S c (i :: σ) = (i, a) :: events S d σ := by
  simp only [events, ha, hs]

theorem events_append {c c' : Config Loc Val P} {σ : List Nat} (τ : List Nat) (h : run S c σ = some c') :
    events S c (σ ++ τ) = events S c σ ++ events S c' τ := by
  induction σ generalizing c with
  | nil => simp only [run, Option.some.injEq] at h; subst h; rfl
  | cons i σ ih =>
    obtain ⟨d, hs, hr⟩ := isRun.cons_eq_some.1 h
    obtain ⟨a, ha, _⟩ := stepAt_some hs
    rw [List.cons_append, events_cons _ ha hs, events_cons _ ha hs, ih hr, List.cons_append]

theorem mem_events_split {i : Nat} {a : Acc Loc} : ∀ (σ : List Nat) (c cend : Config Loc Val P),
    run S c σ = some cend → (i, a) ∈ events S c σ →
    ∃ A B cA cA', σ = A ++ i :: B ∧ run S c A = some cA ∧ S.acc (cA.pcs i) = some a ∧ stepAt S cA i = some cA' ∧
      run S cA' B = some cend ∧ events S c σ = events S c A ++ (i, a) :: events S cA' B := by
  intro σ
  induction σ with
  | nil => intro c cend _ hm; simp [events] at hm
  | cons k σ ih =>
    intro c cend h hm
    obtain ⟨d, hs, hr⟩ := isRun.cons_eq_some.1 h
    obtain ⟨a0, ha0, _⟩ := stepAt_some hs
    rw [events_cons _ ha0 hs] at hm ⊢
    rcases List.mem_cons.mp hm with heq | hm
    · simp only [Prod.mk.injEq] at heq
      obtain ⟨rfl, rfl⟩ := heq
      exact ⟨[], σ, c, d, rfl, rfl, ha0, hs, hr, by simp [events]⟩
    · obtain ⟨A, B, cA, cA', h1, h2, h3, h4, h5, h6⟩ := ih d cend hr hm
      refine ⟨k :: A, B, cA, cA', by rw [h1]; rfl, by simp only [run, hs, Option.bind_some]; exact h2, h3, h4, h5, ?_⟩
      rw [events_cons _ ha0 hs, h6, List.cons_append]

def Rel (i : Nat) (W : Loc → Prop) (c1 c2 : Config Loc Val P) : Prop :=
  (∀ k, k ≠ i → c1.pcs k = c2.pcs k) ∧ (∀ l, ¬ W l → c1.mem l = c2.mem l)

/-- **dropping the steps of goroutine `i`** from a run in which the other goroutines never touch what `i` wrote (`W`:
written before; later writes: no conflicting pair among the events) leaves a run in which every other goroutine does
what it did, and `i` stays where it was -/
theorem frame (i : Nat) : ∀ (B : List Nat) (c1 c2 c1' : Config Loc Val P) (W : Loc → Prop),
    Rel i W c1 c2 → run S c1 B = some c1' →
    (∀ e ∈ events S c1 B, e.1 ≠ i → ¬ W e.2.1) → (events S c1 B).Pairwise Indep →
    ∃ c2', run S c2 (B.filter (· != i)) = some c2' ∧ (∀ k, k ≠ i → c1'.pcs k = c2'.pcs k) ∧ c2'.pcs i = c2.pcs i := by
  intro B
  induction B with
  | nil =>
    intro c1 c2 c1' W hrel h _ _
    simp only [run, Option.some.injEq] at h; subst h
    exact ⟨c2, rfl, hrel.1, rfl⟩
  | cons k B ih =>
    intro c1 c2 c1' W hrel h hW hP
    obtain ⟨d1, hs, hr⟩ := isRun.cons_eq_some.1 h
    obtain ⟨a, ha, hd1⟩ := stepAt_some hs
    rw [events_cons _ ha hs] at hW hP
    have hP' := List.pairwise_cons.mp hP
    by_cases hk : k = i
    · -- a step of `i`: dropped; what it wrote joins `W`
      subst hk
      have hf : (k :: B).filter (· != k) = B.filter (· != k) := by simp
      rw [hf]
      refine ih d1 c2 c1' (fun l => W l ∨ (a.2 = true ∧ l = a.1)) ⟨?_, ?_⟩ hr ?_ hP'.2
      · intro k' hk'; rw [hd1]; simp only [hk', if_false]; exact hrel.1 k' hk'
      · intro l hl
        have h1 : ¬ W l := fun h => hl (Or.inl h)
        have h2 : ¬ (a.2 = true ∧ l = a.1) := fun h => hl (Or.inr h)
        rw [hd1]; simp only [h2, if_false]; exact hrel.2 l h1
      · intro e he hne hw
        rcases hw with hw | ⟨hw1, hw2⟩
        · exact hW e (List.mem_cons_of_mem _ he) hne hw
        · rcases hP'.1 e he with h | h
          · exact hne h.symm
          · exact h ⟨hw2.symm, Or.inl hw1⟩
    · -- a step of another goroutine: it finds the same private state and the same value
      have hf : (k :: B).filter (· != i) = k :: B.filter (· != i) := by simp [hk]
      rw [hf]
      have hnW : ¬ W a.1 := hW (k, a) (by simp) hk
      have hpc : c1.pcs k = c2.pcs k := hrel.1 k hk
      have hmem : c1.mem a.1 = c2.mem a.1 := hrel.2 a.1 hnW
      have ha2 : S.acc (c2.pcs k) = some a := by rw [← hpc]; exact ha
      let d2 : Config Loc Val P :=
        { mem := fun l => if a.2 = true ∧ l = a.1 then (S.step (c2.pcs k) (c2.mem a.1)).2 else c2.mem l,
          pcs := fun k' => if k' = k then (S.step (c2.pcs k) (c2.mem a.1)).1 else c2.pcs k' }
      have hs2 : stepAt S c2 k = some d2 := by simp only [stepAt, ha2, d2]
      have hrel' : Rel i W d1 d2 := by
        constructor
        · intro k' hk'
          rw [hd1]; simp only [d2, hpc, hmem]
          exact ite_congr rfl (fun _ => rfl) fun _ => hrel.1 k' hk'
        · intro l hl
          rw [hd1]; simp only [d2, hpc, hmem]
          exact ite_congr rfl (fun _ => rfl) fun _ => hrel.2 l hl
      obtain ⟨c2', g1, g2, g3⟩ := ih d1 d2 c1' W hrel' hr (fun e he => hW e (List.mem_cons_of_mem _ he)) hP'.2
      refine ⟨c2', by simp only [run, hs2, Option.bind_some]; exact g1, g2, ?_⟩
      rw [g3]; simp only [d2, Ne.symm hk, if_false]

theorem no_conflicting_accesses_of_race_free (c0 : Config Loc Val P)
    (hfree : ∀ σ c, run S c0 σ = some c → ¬ Race S c) :
    ∀ (σ : List Nat) (c : Config Loc Val P), run S c0 σ = some c → (events S c0 σ).Pairwise Indep := by
  -- by induction on the run from its end: the last step against all the earlier ones
  suffices H : ∀ (ρ : List Nat) (c : Config Loc Val P), run S c0 ρ.reverse = some c →
      (events S c0 ρ.reverse).Pairwise Indep from
    fun σ c h => by rw [← List.reverse_reverse σ] at h ⊢; exact H _ c h
  intro ρ
  induction ρ with
  | nil => intro c _; simp [events]
  | cons j ρ ih =>
    intro c h
    rw [List.reverse_cons] at h ⊢
    generalize ρ.reverse = σ' at h ih ⊢
    rw [isRun.append] at h
    obtain ⟨cσ, hσ, h⟩ := Option.bind_eq_some_iff.mp h
    obtain ⟨d, hs, hr⟩ := isRun.cons_eq_some.1 h
    obtain ⟨b, hb, _⟩ := stepAt_some hs
    have hIH := ih cσ hσ
    rw [events_append _ hσ, events_cons _ hb hs]
    simp only [events]
    refine List.pairwise_append.mpr ⟨hIH, by simp, ?_⟩
    intro e he e' he'
    simp only [List.mem_singleton] at he'
    subst he'
    obtain ⟨i, a⟩ := e
    by_cases hij : i = j
    · exact Or.inl hij
    · refine Or.inr (fun hc => ?_)
      -- the earlier access `a` of goroutine `i` conflicts with `b`: drop `i`'s steps from there on
      obtain ⟨A, B, cA, cA', h1, h2, h3, h4, h5, h6⟩ := mem_events_split σ' c0 cσ hσ he
      obtain ⟨a', ha', hcA'⟩ := stepAt_some h4
      rw [h3] at ha'; cases ha'
      rw [h6] at hIH
      have hP := (List.pairwise_append.mp hIH).2.1
      have hP' := List.pairwise_cons.mp hP
      have hrel : Rel i (fun l => a.2 = true ∧ l = a.1) cA' cA := by
        constructor
        · intro k hk; rw [hcA']; simp only [hk, if_false]
        · intro l hl; rw [hcA']; simp only [hl, if_false]
      obtain ⟨c2', g1, g2, g3⟩ := frame i B cA' cA cσ _ hrel h5
        (by
          intro e he hne hw
          rcases hP'.1 e he with h | h
          · exact hne h.symm
          · exact h ⟨hw.2.symm, Or.inl hw.1⟩)
        hP'.2
      have hreach : run S c0 (A ++ B.filter (· != i)) = some c2' := by
        rw [isRun.append, h2]; exact g1
      refine hfree _ c2' hreach ⟨i, j, a, b, hij, by rw [g3]; exact h3, ?_, hc⟩
      rw [← g2 j (Ne.symm hij)]; exact hb

end Juniper.Proofs.FirstRace
