import Juniper.Proofs.HelpersBasic
/-! `xslices.Runs` (C19): the runs concatenate to the input, are non-empty, each run is
adjacent-`same`, and neighbouring runs are separated by a non-`same` boundary (maximality). -/
namespace Juniper.Proofs.Helpers
open Juniper.Model.Helpers Juniper.Spec.Helpers Juniper.Gen.Helpers
variable {α : Type}

/-- the relation between neighbouring runs in `runs_spec` -/
def RunsBoundary (same : α → α → Bool) (s : List α) (r1 r2 : Int × Int) : Prop :=
  r1.2 = r2.1 ∧ ∀ a b, getI s (r1.2 - 1) = some a → getI s r2.1 = some b → same a b = false

def RunsAdj (same : α → α → Bool) (s : List α) (lo hi : Nat) : Prop :=
  ∀ p, lo ≤ p → p + 1 < hi → ∀ a b, s[p]? = some a → s[p + 1]? = some b → same a b = true

def RunsCut (same : α → α → Bool) (s : List α) (rs : List (Int × Int)) (b : Nat) : Prop :=
  rs ≠ [] → ∀ x y, s[b - 1]? = some x → s[b]? = some y → same x y = false

/-- `rs` is a correct list of maximal runs covering `s[0:b]` -/
structure RunsGood (same : α → α → Bool) (s : List α) (rs : List (Int × Int)) (b : Nat) : Prop where
  flat : (rs.map (fun r => slice s r.1 r.2)).flatten = s.take b
  rng : ∀ r ∈ rs, 0 ≤ r.1 ∧ r.1 < r.2 ∧ r.2 ≤ (b : Int)
  adj : ∀ r ∈ rs, AdjAll (fun a b => same a b = true) (slice s r.1 r.2)
  bnd : AdjAll (RunsBoundary same s) rs
  last : ∀ r, rs.getLast? = some r → r.2 = (b : Int)

theorem runsGood_nil (same : α → α → Bool) (s : List α) : RunsGood same s [] 0 where
  flat := by simp
  rng := by simp
  adj := by simp
  bnd := by intro i hi; simp at hi
  last := by simp

/-- closing the current run `[start, e)` -/
theorem runsGood_snoc (same : α → α → Bool) (s : List α) (rs : List (Int × Int)) (start e : Nat)
    (hg : RunsGood same s rs start) (hse : start < e) (hen : e ≤ s.length)
    (ha : RunsAdj same s start e) (hc : RunsCut same s rs start) :
    RunsGood same s (rs ++ [((start : Int), (e : Int))]) e where
  flat := by
    rw [List.map_append, List.flatten_append, hg.flat]
    simp only [List.map_cons, List.map_nil, List.flatten_cons, List.flatten_nil, List.append_nil]
    rw [slice_nat]
    have : e = start + (e - start) := by omega
    conv => rhs; rw [this, List.take_add]
  rng := by
    simp only [List.forall_mem_append, List.forall_mem_singleton]
    exact ⟨fun r hr => by have := hg.rng r hr; omega, by omega⟩
  adj := by
    simp only [List.forall_mem_append, List.forall_mem_singleton]
    refine ⟨hg.adj, ?_⟩
    rw [slice_nat]
    intro j hj
    simp only [List.length_take, List.length_drop] at hj
    simp only [List.getElem_take, List.getElem_drop]
    exact ha (start + j) (by omega) (by omega) _ _ (List.getElem?_eq_getElem (by omega))
      (List.getElem?_eq_getElem (by omega))
  bnd := by
    apply adjAll_concat _ _ _ hg.bnd
    intro y hy
    have hy2 := hg.last y hy
    have hne : rs ≠ [] := by intro h0; subst h0; simp at hy
    have hym : y ∈ rs := List.mem_of_getLast? hy
    have hr := hg.rng y hym
    refine ⟨hy2, ?_⟩
    simp only
    intro a b h1 h2
    have h3 : y.2 - 1 = ((start - 1 : Nat) : Int) := by omega
    rw [h3, getI_nat] at h1
    rw [getI_nat] at h2
    exact hc hne a b h1 h2
  last := by
    intro r hr
    simp at hr
    subst hr
    rfl

seal Juniper.Facts.wrap64

/-- `i + 1` for `i < len(s) ≤ MaxInt64` is exact in 64-bit arithmetic -/
theorem runsEndSame_nat (i : Nat) (h : i < 9223372036854775807) : runsEndSame (i : Int) = ((i + 1 : Nat) : Int) := by
  unfold runsEndSame; exact wrap64_eq_nat (by omega) (by omega)

theorem runsEndNew_nat (i : Nat) (h : i < 9223372036854775807) : runsEndNew (i : Int) = ((i + 1 : Nat) : Int) := by
  unfold runsEndNew; exact wrap64_eq_nat (by omega) (by omega)

theorem runsLoop_step (same : α → α → Bool) (s : List α) (hl64 : s.length ≤ 9223372036854775807)
    (fuel i start : Nat) (acc : List (Int × Int)) (hi1 : 1 ≤ i) (hlt : i < s.length) (hst : start ≤ i) :
    runsLoop same s (fuel + 1) (i : Int) (start : Int) (i : Int) acc =
      if same (s[i - 1]'(by omega)) s[i] = true
      then runsLoop same s fuel ((i + 1 : Nat) : Int) (start : Int) ((i + 1 : Nat) : Int) acc
      else runsLoop same s fuel ((i + 1 : Nat) : Int) (i : Int) ((i + 1 : Nat) : Int)
        (acc ++ [((start : Int), (i : Int))]) := by
  have hcond : runsCond (i : Int) (s.length : Int) = true := decide_eq_true (Int.ofNat_lt.mpr hlt)
  have h1 : (i : Int) - 1 = ((i - 1 : Nat) : Int) := by omega
  have hga : getI s ((i : Int) - 1) = some (s[i - 1]'(by omega)) := by
    rw [h1]; exact getI_of_lt s (i - 1) (by omega)
  have hcast : (i : Int) + 1 = ((i + 1 : Nat) : Int) := (Int.natCast_add i 1).symm
  have h64 : i < 9223372036854775807 := Nat.lt_of_lt_of_le hlt hl64
  rw [runsLoop, if_pos hcond, hga, getI_of_lt s i hlt]
  simp only [runsSame, runsEndSame_nat i h64, runsCutLo, runsCutHi, runsStartNew, runsEndNew_nat i h64, hcast,
    (sliceOk_nat start i s.length).2 ⟨hst, Nat.le_of_lt hlt⟩, if_true]

theorem runsLoop_inv (same : α → α → Bool) (s : List α) (hl64 : s.length ≤ 9223372036854775807) :
    ∀ (fuel i start : Nat) (acc : List (Int × Int)), s.length - i ≤ fuel → start < i → i ≤ s.length →
      RunsGood same s acc start → RunsAdj same s start i → RunsCut same s acc start →
      ∃ (acc' : List (Int × Int)) (start' : Nat),
        runsLoop same s fuel (i : Int) (start : Int) (i : Int) acc =
          some (acc', (start' : Int), (s.length : Int)) ∧
        RunsGood same s acc' start' ∧ start' < s.length ∧ RunsAdj same s start' s.length ∧
        RunsCut same s acc' start' := by
  intro fuel
  induction fuel with
  | zero =>
    intro i start acc hf hsi hin hg ha hc
    have : i = s.length := by omega
    subst this
    exact ⟨acc, start, rfl, hg, hsi, ha, hc⟩
  | succ fuel ih =>
    intro i start acc hf hsi hin hg ha hc
    by_cases hlt : i < s.length
    · have hf' : s.length - (i + 1) ≤ fuel := by omega
      have hi1 : 1 ≤ i := Nat.lt_of_le_of_lt (Nat.zero_le start) hsi
      have hi : i - 1 + 1 = i := Nat.sub_add_cancel hi1
      rw [runsLoop_step same s hl64 fuel i start acc hi1 hlt (Nat.le_of_lt hsi)]
      by_cases hsame : same (s[i - 1]'(by omega)) s[i] = true
      · rw [if_pos hsame]
        apply ih (i + 1) start acc hf' (Nat.lt_succ_of_lt hsi) hlt hg ?_ hc
        intro p hp1 hp2 a b hpa hpb
        by_cases hp3 : p + 1 < i
        · exact ha p hp1 hp3 a b hpa hpb
        · have hp4 : p = i - 1 := by omega
          subst hp4
          rw [hi] at hpb
          rw [List.getElem?_eq_getElem (by omega)] at hpa hpb
          cases hpa; cases hpb
          exact hsame
      · rw [if_neg hsame]
        apply ih (i + 1) i (acc ++ [((start : Int), (i : Int))]) hf' (Nat.lt_succ_self i) hlt
          (runsGood_snoc same s acc start i hg hsi hin ha hc)
        · intro p hp1 hp2
          omega
        · intro _ x y hx hy
          rw [List.getElem?_eq_getElem (by omega)] at hx hy
          cases hx; cases hy
          exact Bool.eq_false_iff.mpr hsame
    · have : i = s.length := Nat.le_antisymm hin (Nat.le_of_not_lt hlt)
      subst this
      have hcond : runsCond (s.length : Int) (s.length : Int) = false := decide_eq_false (Int.lt_irrefl _)
      rw [runsLoop, hcond]
      exact ⟨acc, start, by simp, hg, hsi, ha, hc⟩

theorem runs_spec (same : α → α → Bool) (s : List α) (hl64 : s.length ≤ 9223372036854775807) :
    ∃ rs, runs same s = some rs ∧
      (rs.map (fun r => slice s r.1 r.2)).flatten = s ∧
      (∀ r ∈ rs, 0 ≤ r.1 ∧ r.1 < r.2 ∧ r.2 ≤ s.length) ∧
      (∀ r ∈ rs, AdjAll (fun a b => same a b = true) (slice s r.1 r.2)) ∧
      AdjAll (fun (r1 r2 : Int × Int) => r1.2 = r2.1 ∧
        ∀ a b, getI s (r1.2 - 1) = some a → getI s r2.1 = some b → same a b = false) rs := by
  by_cases hn : s.length = 0
  · have hs : s = [] := List.eq_nil_of_length_eq_zero hn
    subst hs
    refine ⟨[], ?_, by simp, by simp, by simp, ?_⟩
    · simp [runs, runsLoop, runsFinal, runsNonEmpty, runsEnd0]
    · intro i hi; simp at hi
  · have hpos : 0 < s.length := by omega
    obtain ⟨acc', start', hloop, hg, hsl, ha, hc⟩ :=
      runsLoop_inv same s hl64 s.length 1 0 [] (by omega) (by omega) (by omega)
        (runsGood_nil same s) (by intro p _ hp; omega) (by intro h; exact absurd rfl h)
    have hfin := runsGood_snoc same s acc' start' s.length hg hsl (Nat.le_refl _) ha hc
    refine ⟨acc' ++ [((start' : Int), (s.length : Int))], ?_, ?_, hfin.rng, hfin.adj, hfin.bnd⟩
    · unfold runs
      have hne : runsNonEmpty (s.length : Int) = true := by
        simp only [runsNonEmpty, decide_eq_true_eq]; omega
      simp only [hne, if_true, runsEnd1, runsI0, runsStart0]
      have h : runsLoop same s s.length 1 0 1 [] =
          some (acc', (start' : Int), (s.length : Int)) := hloop
      rw [h]
      have hf : runsFinal (s.length : Int) = true := by
        simp only [runsFinal, decide_eq_true_eq]; omega
      have hok : sliceOk (start' : Int) (s.length : Int) (s.length : Int) = true :=
        (sliceOk_nat _ _ _).2 ⟨Nat.le_of_lt hsl, Nat.le_refl _⟩
      simp only [hf, if_true, runsLastLo, runsLastHi, hok]
    · rw [hfin.flat, List.take_length]

end Juniper.Proofs.Helpers
