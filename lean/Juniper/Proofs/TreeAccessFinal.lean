import Juniper.Proofs.TreeAccessConfig
import Juniper.Proofs.TreeSkel
/-!
# Access-level model (C01, concurrent clause): the final memory is the sequential result

`reval g x`: the tree `x` with the value in slot `(id, j)` replaced by `g id j old`. A present-key `Put`
of the functional model is `reval (upd slot v)` (`ins_found_reval`, `put_reval`); any sequence of such
Puts is one `reval` (`putAll_reval`), which — the slots being pairwise distinct — does not depend on
the order (`Gof_hit` / `Gof_miss`). `final_rep`: the memory of a configuration in which every `Put` has
returned holds exactly that tree.
-/
namespace Juniper.Proofs.TreeAccess
open Juniper.Gen.Tree Juniper.Model.BTree Juniper.Model.BTreeAccess Juniper.Proofs.Tree

variable {K V : Type} {cmp : K → K → Int}

/-- replace the value in slot `(id, j)` by `g id j old` -/
def reval (g : Nat → Nat → V → V) : Node K V → Node K V
  | .mk id kvs kids => .mk id (kvs.mapIdx fun j kv => (kv.1, g id j kv.2)) (kids.map (reval g))

theorem reval_mk (g : Nat → Nat → V → V) (id : Nat) (kvs : List (K × V)) (kids : List (Node K V)) :
    reval g (.mk id kvs kids) = .mk id (kvs.mapIdx fun j kv => (kv.1, g id j kv.2)) (kids.map (reval g)) :=
  reval.eq_1 g id kvs kids

theorem reval_id (g : Nat → Nat → V → V) (x : Node K V) : (reval g x).id = x.id := by
  obtain ⟨id, kvs, kids⟩ := x; rw [reval_mk]; rfl

def upd (a i : Nat) (v : V) : Nat → Nat → V → V := fun b j old => if b = a ∧ j = i then v else old

theorem skel_reval (g : Nat → Nat → V → V) (x : Node K V) : skel (reval g x) = skel x := by
  induction x using node_induct with
  | h id kvs kids ih =>
    rw [reval_mk, skel_mk, skel_mk]
    congr 1
    · apply List.ext_getElem? ; intro j
      simp only [List.getElem?_map, List.getElem?_mapIdx, Option.map_map]
      cases kvs[j]? <;> rfl
    · rw [List.map_map]
      exact List.map_congr_left fun c hc => ih c hc

theorem reval_fix (g : Nat → Nat → V → V) (x : Node K V) (h : ∀ b ∈ ids x, ∀ j old, g b j old = old) :
    reval g x = x := by
  induction x using node_induct with
  | h id kvs kids ih =>
    rw [reval_mk]
    congr 1
    · apply List.ext_getElem?; intro j
      rw [List.getElem?_mapIdx]
      cases kvs[j]? with
      | none => rfl
      | some kv => simp [h id (by simp [ids])]
    · conv => rhs; rw [← List.map_id kids]
      exact List.map_congr_left fun c hc => ih c hc fun b hb => h b (desc_sub_ids (x := .mk id kvs kids) (mem_flatten_ids hc hb))

theorem reval_reval (g g' : Nat → Nat → V → V) (x : Node K V) :
    reval g' (reval g x) = reval (fun b j old => g' b j (g b j old)) x := by
  induction x using node_induct with
  | h id kvs kids ih =>
    rw [reval_mk, reval_mk, reval_mk]
    congr 1
    · apply List.ext_getElem?; intro j
      simp only [List.getElem?_mapIdx, Option.map_map]
      cases kvs[j]? <;> rfl
    · rw [List.map_map]
      exact List.map_congr_left fun c hc => ih c hc

theorem reval_eta (g : Nat → Nat → V → V) (x : Node K V) : reval (fun b j old => g b j old) x = reval g x := rfl

theorem searchNode_skel (cmp : K → K → Int) (k : K) (kvs : List (K × V)) :
    searchNode cmp k (kvs.map fun kv => (kv.1, ())) = searchNode cmp k kvs := by
  induction kvs with
  | nil => rfl
  | cons kv rest ih => obtain ⟨k', v'⟩ := kv; simp only [List.map_cons, searchNode, ih]

theorem slotOf_skel (cmp : K → K → Int) (k : K) (x : Node K V) : slotOf cmp k (skel x) = slotOf cmp k x := by
  fun_induction slotOf cmp k x with
  | case1 id kvs kids i hs =>
    rw [skel_mk]; exact slotOf_found (y := .mk id _ _) ((searchNode_skel cmp k kvs).trans hs)
  | case2 id kvs kids i hs hnone =>
    rw [skel_mk]; exact slotOf_nochild (y := .mk id _ _) ((searchNode_skel cmp k kvs).trans hs) (by simp [Node.kids, hnone])
  | case3 id kvs kids i hs c hcc ih =>
    rw [skel_mk, slotOf_child (y := .mk id _ _) ((searchNode_skel cmp k kvs).trans hs)
      (by simp [Node.kids, hcc] : (Node.mk id (kvs.map fun kv => (kv.1, ())) (kids.map skel)).kids[i]? = some (skel c))]
    exact ih

theorem slotOf_reval (cmp : K → K → Int) (k : K) (g : Nat → Nat → V → V) (x : Node K V) :
    slotOf cmp k (reval g x) = slotOf cmp k x := by
  rw [← slotOf_skel cmp k (reval g x), skel_reval, slotOf_skel]

theorem ids_reval (g : Nat → Nat → V → V) (x : Node K V) : ids (reval g x) = ids x := by
  induction x using node_induct with
  | h id kvs kids ih =>
    rw [reval_mk]
    simp only [ids, List.map_map]
    congr 2
    exact List.map_congr_left fun c hc => ih c hc

theorem setVal_mapIdx {kvs : List (K × V)} {i : Nat} {kv : K × V} (h : kvs[i]? = some kv) (id : Nat) (v : V) :
    setVal kvs i v = kvs.mapIdx fun j e => (e.1, upd id i v id j e.2) := by
  obtain ⟨hi, rfl⟩ := List.getElem?_eq_some_iff.mp h
  rw [setVal_eq h, ← if_pos hi (t := kvs.take i ++ (kvs[i].1, v) :: kvs.drop (i + 1)) (e := kvs),
    ← List.set_eq_take_append_cons_drop]
  apply List.ext_getElem?; intro j
  rw [List.getElem?_set, List.getElem?_mapIdx]
  by_cases hj : i = j
  · subst hj; simp [hi, upd]
  · cases kvs[j]? <;> simp [upd, hj, Ne.symm hj]

theorem ins_found_reval (cmp : K → K → Int) (k : K) (v : V) (x : Node K V) (fresh : Nat) :
    ∀ a i, slotOf cmp k x = some (a, i) → (ids x).Nodup →
      ins cmp k v x fresh = (.found (reval (upd a i v) x), fresh) := by
  have fix : ∀ (a j : Nat) (d : Node K V), a ∉ ids d → reval (upd a j v) d = d := fun a j d ha =>
    reval_fix _ d fun b hb m old => if_neg fun (h : b = a ∧ m = j) => ha (h.1 ▸ hb)
  fun_induction slotOf cmp k x with
  | case1 id kvs kids i hs =>
    rintro a j ⟨⟩ hn
    have hi := searchNode_found_lt hs
    simp only [ids, List.nodup_cons] at hn
    rw [ins]; simp only [hs]
    rw [reval_mk, ← setVal_mapIdx (List.getElem?_eq_getElem hi) id v]
    congr 3
    conv => lhs; rw [← List.map_id kids]
    exact List.map_congr_left fun c hc => (fix id i c fun h => hn.1 (mem_flatten_ids hc h)).symm
  | case2 id kvs kids i hs hnone => intro a j h; cases h
  | case3 id kvs kids i hs c hcc ih =>
    intro a j hsl hn
    have hsplit := split_at_getElem? hcc
    simp only [ids, List.nodup_cons] at hn
    obtain ⟨hnot, hflat⟩ := hn
    rw [hsplit] at hflat
    simp only [List.map_append, List.map_cons, List.flatten_append, List.flatten_cons, List.nodup_append] at hflat
    obtain ⟨_, ⟨hnc, _, hcB⟩, hA⟩ := hflat
    have hac : a ∈ ids c := by
      obtain ⟨y, hs, hid, _⟩ := slotOf_spec cmp k c a j hsl
      exact hid ▸ hs.id_mem
    have hne : kids.isEmpty = false := by cases kids with | nil => cases hcc | cons => rfl
    rw [ins]; simp only [hs, hne, Bool.false_eq_true, if_false]
    split
    · rename_i h0; rw [hcc] at h0; cases h0
    · rename_i c' h0
      cases hcc.symm.trans h0
      rw [ih a j hsl hnc]
      simp only [reval_mk]
      congr 3
      · apply List.ext_getElem?; intro m
        rw [List.getElem?_mapIdx]
        cases kvs[m]? with
        | none => rfl
        | some e =>
          have : id ≠ a := fun h => hnot (mem_flatten_ids (List.mem_of_getElem? hcc) (h ▸ hac))
          simp [upd, this]
      · conv => rhs; rw [hsplit]
        simp only [replaceAt, List.map_append, List.map_cons]
        rw [List.map_congr_left fun d hd => fix a j d fun h => hA a (mem_flatten_ids hd h) a (List.mem_append.mpr (Or.inl hac)) rfl,
          List.map_congr_left fun d hd => fix a j d fun h => hcB a hac a (mem_flatten_ids hd h) rfl]
        simp

theorem put_reval {t : Tree K V} {k : K} {a i : Nat} (v : V) (hsl : slotOf cmp k t.root = some (a, i))
    (hn : (ids t.root).Nodup) : put cmp t k v = some { t with root := reval (upd a i v) t.root } := by
  unfold put
  rw [ins_found_reval cmp k v t.root t.nextId a i hsl hn]

/-- the Puts one after the other (the functional model's `put`) -/
def putAll (cmp : K → K → Int) (t : Tree K V) : List (K × V) → Option (Tree K V)
  | [] => some t
  | p :: ps => (put cmp t p.1 p.2).bind fun t' => putAll cmp t' ps

/-- what the Puts `ps`, in this order, leave in slot `(b, j)` that held `old` -/
def Gof (cmp : K → K → Int) (R : Node K V) : List (K × V) → Nat → Nat → V → V
  | [], _, _, old => old
  | p :: ps, b, j, old => Gof cmp R ps b j (if slotOf cmp p.1 R = some (b, j) then p.2 else old)

theorem putAll_reval (t : Tree K V) (hn : (ids t.root).Nodup) :
    ∀ (ps : List (K × V)) (g : Nat → Nat → V → V), (∀ p ∈ ps, (slotOf cmp p.1 t.root).isSome = true) →
      putAll cmp { t with root := reval g t.root } ps =
        some { t with root := reval (fun b j old => Gof cmp t.root ps b j (g b j old)) t.root } := by
  intro ps
  induction ps with
  | nil => intro g _; rfl
  | cons p ps ih =>
    intro g hp
    obtain ⟨⟨a, i⟩, hsl⟩ := Option.isSome_iff_exists.mp (hp p (by simp))
    have hsl' : slotOf cmp p.1 ({ t with root := reval g t.root } : Tree K V).root = some (a, i) := by
      simp only [slotOf_reval]; exact hsl
    have hn' : (ids ({ t with root := reval g t.root } : Tree K V).root).Nodup := by
      simp only [ids_reval]; exact hn
    simp only [putAll, put_reval p.2 hsl' hn', Option.bind_some, reval_reval]
    rw [ih _ (fun q hq => hp q (by simp [hq]))]
    congr 3
    funext b j old
    simp only [Gof, hsl, upd, Option.some.injEq, Prod.mk.injEq]
    by_cases h : b = a ∧ j = i
    · obtain ⟨rfl, rfl⟩ := h; simp
    · have : ¬ (a = b ∧ i = j) := fun h' => h ⟨h'.1.symm, h'.2.symm⟩
      simp [h, this]

def SlotsDistinct (cmp : K → K → Int) (R : Node K V) (ps : List (K × V)) : Prop :=
  ps.Pairwise fun p q => ∀ s, slotOf cmp p.1 R = some s → slotOf cmp q.1 R ≠ some s

theorem slotsDistinct_of_keys (hc : StrictWeak cmp) {R : Node K V} (hn : (ids R).Nodup) {ps : List (K × V)}
    (h : ps.Pairwise fun p q => cmp p.1 q.1 ≠ 0) : SlotsDistinct cmp R ps := by
  apply List.Pairwise.imp _ h
  intro p q hpq s hp hq
  obtain ⟨a, i⟩ := s
  exact hpq (valPos_inj hc hn (valPos_of_slot hp) (valPos_of_slot hq))

theorem Gof_miss (R : Node K V) (b j : Nat) :
    ∀ (ps : List (K × V)) (old : V), (∀ p ∈ ps, slotOf cmp p.1 R ≠ some (b, j)) → Gof cmp R ps b j old = old := by
  intro ps
  induction ps with
  | nil => intro old _; rfl
  | cons p ps ih =>
    intro old h
    simp only [Gof, h p (by simp), if_false]
    exact ih old fun q hq => h q (by simp [hq])

theorem Gof_hit (R : Node K V) (b j : Nat) :
    ∀ (ps : List (K × V)) (old : V), SlotsDistinct cmp R ps → ∀ p ∈ ps, slotOf cmp p.1 R = some (b, j) →
      Gof cmp R ps b j old = p.2 := by
  intro ps
  induction ps with
  | nil => intro old _ p hp; cases hp
  | cons q ps ih =>
    intro old hd p hp hsl
    obtain ⟨hq, hd'⟩ := List.pairwise_cons.mp hd
    rcases List.mem_cons.mp hp with rfl | hmem
    · simp only [Gof, hsl, if_true]
      exact Gof_miss R b j ps p.2 fun q' hq' => hq q' hq' _ hsl
    · have : slotOf cmp q.1 R ≠ some (b, j) := fun h => hq p hmem _ h hsl
      simp only [Gof, this, if_false]
      exact ih old hd' p hmem hsl

theorem Gof_perm {R : Node K V} {ps ps' : List (K × V)} (hperm : ps'.Perm ps) (hd : SlotsDistinct cmp R ps) :
    Gof cmp R ps' = Gof cmp R ps := by
  have hd' : SlotsDistinct cmp R ps' := by
    unfold SlotsDistinct at hd ⊢
    refine (List.Perm.pairwise_iff ?_ hperm).mpr hd
    intro p q h s hq hp
    exact h s hp hq
  funext b j old
  by_cases h : ∃ p ∈ ps, slotOf cmp p.1 R = some (b, j)
  · obtain ⟨p, hp, hsl⟩ := h
    rw [Gof_hit R b j ps old hd p hp hsl, Gof_hit R b j ps' old hd' p (hperm.mem_iff.mpr hp) hsl]
  · have hm : ∀ p ∈ ps, slotOf cmp p.1 R ≠ some (b, j) := fun p hp hsl => h ⟨p, hp, hsl⟩
    rw [Gof_miss R b j ps old hm, Gof_miss R b j ps' old fun p hp => hm p (hperm.mem_iff.mp hp)]

theorem putAll_perm (hc : StrictWeak cmp) (t : Tree K V) (hn : (ids t.root).Nodup) {ps ps' : List (K × V)}
    (hperm : ps'.Perm ps) (hdist : ps.Pairwise fun p q => cmp p.1 q.1 ≠ 0)
    (hpres : ∀ p ∈ ps, (slotOf cmp p.1 t.root).isSome = true) :
    putAll cmp t ps' = some { t with root := reval (Gof cmp t.root ps) t.root } := by
  have h0 : ({ t with root := reval (fun _ _ old => old) t.root } : Tree K V) = t := by
    rw [reval_fix _ _ (fun _ _ _ _ => rfl)]
  have := putAll_reval (cmp := cmp) t hn ps' (fun _ _ old => old) (fun p hp => hpres p (hperm.mem_iff.mp hp))
  rw [h0] at this
  rw [this, Gof_perm hperm (slotsDistinct_of_keys hc hn hdist)]

theorem sub_reval (g : Nat → Nat → V → V) (x : Node K V) :
    ∀ y', Sub (reval g x) y' → ∃ y, Sub x y ∧ y' = reval g y := by
  induction x using node_induct with
  | h id kvs kids ih =>
    intro y' h
    rw [reval_mk] at h
    rcases h.inv with rfl | ⟨c', hc', hs⟩
    · exact ⟨_, .refl _, (reval_mk g id kvs kids).symm⟩
    · obtain ⟨c, hc, rfl⟩ := List.mem_map.mp hc'
      obtain ⟨y, hy, rfl⟩ := ih c hc y' hs
      exact ⟨y, .kid hc hy, rfl⟩

/-- every `Put` goroutine has returned (the readers may still be under way) -/
def PutsDone (ops : List (Op K V)) (c : Config K V) : Prop :=
  ∀ (j : Nat) k v, ops[j]? = some (.put k v) → ∃ pc, c.pcs[j]? = some pc ∧ pc.isDone = true

theorem putsDone_of_terminal {t : Tree K V} {ops : List (Op K V)} {c : Config K V} (hi : CInv cmp t ops c)
    (ht : Terminal cmp ops c) : PutsDone ops c := by
  intro j k v hj
  exact ⟨_, terminal_results hi ht j _ hj rfl, rfl⟩

theorem final_rep {t : Tree K V} {ops : List (Op K V)} {puts : List (K × V)} (hs : Setup cmp t ops)
    (hput1 : ∀ (j : Nat) k v, ops[j]? = some (.put k v) → (k, v) ∈ puts)
    (hput2 : ∀ p ∈ puts, ∃ j : Nat, ops[j]? = some (.put p.1 p.2))
    (hdist : puts.Pairwise fun p q => cmp p.1 q.1 ≠ 0)
    {c : Config K V} (hi : CInv cmp t ops c) (ht : PutsDone ops c) :
    Rep c.mem { t with root := reval (Gof cmp t.root puts) t.root } := by
  have hsd := slotsDistinct_of_keys hs.sw hs.nodup hdist
  refine ⟨by simp only [reval_id]; exact hi.frozen.root, hi.size, hi.gen, ?_⟩
  intro y' hy'
  obtain ⟨y, hy, rfl⟩ := sub_reval _ _ y' hy'
  have hS := hi.frozen.struct y hy
  obtain ⟨id, kvs, kids⟩ := y
  rw [reval_mk]
  simp only [NodeS, NodeV, Node.id, Node.kvs, Node.kids, List.length_mapIdx, List.getElem_mapIdx] at hS ⊢
  refine ⟨⟨hS.1, hS.2.1, fun i hle => ?_⟩, fun i hlt => ?_⟩
  · rw [hS.2.2 i hle, List.getElem?_map]
    cases kids[i]? with
    | none => rfl
    | some c => simp [reval_id]
  · by_cases h : ∃ p ∈ puts, slotOf cmp p.1 t.root = some (id, i)
    · obtain ⟨p, hp, hsl⟩ := h
      obtain ⟨j, hj⟩ := hput2 p hp
      obtain ⟨pc, hpc, hdone⟩ := ht j _ _ hj
      rw [hi.written j p.1 p.2 pc hj hpc hdone id i hsl, Gof_hit t.root id i puts _ hsd p hp hsl]
    · have hm : ∀ p ∈ puts, slotOf cmp p.1 t.root ≠ some (id, i) := fun p hp hsl => h ⟨p, hp, hsl⟩
      rw [Gof_miss t.root id i puts _ hm]
      apply hi.untouched _ hy i hlt
      intro j k v pc ho _ hsl
      exact absurd hsl (hm (k, v) (hput1 j k v ho))

end Juniper.Proofs.TreeAccess
