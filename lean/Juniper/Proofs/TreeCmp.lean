import Juniper.Model.BTree
/-!
# Comparators (C01–C03)

The Go comparator is `func(K, K) int`, used only through its sign. `StrictWeak cmp` is the documented
contract (a strict weak order given as a three-way comparison): antisymmetric in sign and `≤`
transitive. Everything else (reflexivity, symmetry of equivalence, the mixed transitivities) is derived.
-/
namespace Juniper.Proofs.Tree
open Juniper.Model.BTree Juniper.Gen.Tree

variable {K : Type}

structure StrictWeak (cmp : K → K → Int) : Prop where
  anti : ∀ a b, cmp a b < 0 ↔ 0 < cmp b a
  le_trans : ∀ a b c, cmp a b ≤ 0 → cmp b c ≤ 0 → cmp a c ≤ 0

namespace StrictWeak
variable {cmp : K → K → Int} (h : StrictWeak cmp)
include h

theorem refl (a : K) : cmp a a = 0 := by
  have := h.anti a a; omega

theorem eq_symm {a b : K} (e : cmp a b = 0) : cmp b a = 0 := by
  have h1 := h.anti a b; have h2 := h.anti b a; omega

theorem gt_iff {a b : K} : 0 < cmp a b ↔ cmp b a < 0 := (h.anti b a).symm

theorem flip : StrictWeak (fun a b => cmp b a) where
  anti a b := h.anti b a
  le_trans a b c h1 h2 := h.le_trans c b a h2 h1

/-- `cmp a c ≥ 0` means `c ≤ a`, which with `a ≤ b` gives `c ≤ b` -/
theorem lt_of_le_of_lt {a b c : K} (h1 : cmp a b ≤ 0) (h2 : cmp b c < 0) : cmp a c < 0 := by
  have hca := h.anti a c
  have hac := h.anti c a
  by_cases e : cmp a c < 0
  · exact e
  · have := h.le_trans c a b (by omega) h1
    have := (h.anti b c).mp h2
    omega

theorem lt_of_lt_of_le {a b c : K} (h1 : cmp a b < 0) (h2 : cmp b c ≤ 0) : cmp a c < 0 :=
  h.flip.lt_of_le_of_lt h2 h1

theorem lt_trans {a b c : K} (h1 : cmp a b < 0) (h2 : cmp b c < 0) : cmp a c < 0 :=
  h.lt_of_le_of_lt (by omega) h2

theorem lt_of_lt_of_eq {a b c : K} (h1 : cmp a b < 0) (h2 : cmp b c = 0) : cmp a c < 0 :=
  h.lt_of_lt_of_le h1 (by omega)

theorem lt_of_eq_of_lt {a b c : K} (h1 : cmp a b = 0) (h2 : cmp b c < 0) : cmp a c < 0 :=
  h.lt_of_le_of_lt (by omega) h2

theorem eq_trans {a b c : K} (h1 : cmp a b = 0) (h2 : cmp b c = 0) : cmp a c = 0 := by
  have hac := h.le_trans a b c (by omega) (by omega)
  have hca := h.le_trans c b a (by have := h.eq_symm h2; omega) (by have := h.eq_symm h1; omega)
  have := h.anti a c
  omega

theorem gt_trans {a b c : K} (h1 : 0 < cmp a b) (h2 : 0 < cmp b c) : 0 < cmp a c :=
  h.gt_iff.mpr (h.lt_trans (h.gt_iff.mp h2) (h.gt_iff.mp h1))

theorem gt_of_gt_of_eq {a b c : K} (h1 : 0 < cmp a b) (h2 : cmp b c = 0) : 0 < cmp a c :=
  h.gt_iff.mpr (h.lt_of_eq_of_lt (h.eq_symm h2) (h.gt_iff.mp h1))

theorem gt_of_eq_of_gt {a b c : K} (h1 : cmp a b = 0) (h2 : 0 < cmp b c) : 0 < cmp a c :=
  h.gt_iff.mpr (h.lt_of_lt_of_eq (h.gt_iff.mp h2) (h.eq_symm h1))

end StrictWeak

/-- the natural order of `Int` as a three-way comparison: the comparator of the examples -/
theorem strictWeak_intSub : StrictWeak (fun a b : Int => a - b) := ⟨by intro a b; omega, by intro a b c; omega⟩

/-- a coarse order on `Int`: keys are equivalent when they agree up to the last decimal digit
(equivalent ≠ equal; used by the non-vacuity examples of `Props/C01.lean`) -/
def coarse (a b : Int) : Int := a / 10 - b / 10

theorem coarse_strictWeak : StrictWeak coarse :=
  ⟨by intro a b; unfold coarse; omega, by intro a b c; unfold coarse; omega⟩

/-- A strict weak order given as a `less` function (Go `xsort.Less`): irreflexive, transitive, and
incomparability is transitive. -/
structure StrictWeakLess (less : K → K → Bool) : Prop where
  irrefl : ∀ a, less a a = false
  trans : ∀ a b c, less a b = true → less b c = true → less a c = true
  incomp_trans : ∀ a b c, less a b = false → less b a = false → less b c = false → less c b = false →
    less a c = false ∧ less c a = false

end Juniper.Proofs.Tree
