import Juniper.Proofs.TreeBal
/-!
# The operations on nodes that `Put` and `Delete` are made of (C01, C03)

Counting the occurrences of an identity (`cnt i x`) turns every list-surgery step into linear arithmetic.
Split, rotations and merge are two operations: joining two siblings around their separator and cutting a node at an
entry. `overfill` cuts the amalgam at the median (`overfill_spec`); `mergeTwo` joins (`mergeAt_spec`); `rotateLeft` /
`rotateRight` join and cut again one entry further right / left (`recut`, `recut_spec`).
-/
namespace Juniper.Proofs.Tree
open Juniper.Model.BTree Juniper.Gen.Tree

variable {K V : Type} {α : Type}

def cnt (i : Nat) (x : Node K V) : Nat := (ids x).count i
def cntK (i : Nat) (kids : List (Node K V)) : Nat := ((kids.map ids).flatten).count i

theorem cnt_mk (i id : Nat) (kvs : List (K × V)) (kids : List (Node K V)) :
    cnt i (.mk id kvs kids) = (if id = i then 1 else 0) + cntK i kids := by
  simp only [cnt, ids, cntK, List.count_cons, beq_iff_eq]
  omega

@[simp] theorem cntK_nil (i : Nat) : cntK i ([] : List (Node K V)) = 0 := by simp [cntK]

theorem cntK_cons (i : Nat) (c : Node K V) (cs : List (Node K V)) : cntK i (c :: cs) = cnt i c + cntK i cs := by
  simp [cntK, cnt, List.count_append]

theorem cntK_append (i : Nat) (A B : List (Node K V)) : cntK i (A ++ B) = cntK i A + cntK i B := by
  simp [cntK, List.count_append]

theorem cntK_split (i n : Nat) (kids : List (Node K V)) : cntK i kids = cntK i (kids.take n) + cntK i (kids.drop n) := by
  rw [← cntK_append, List.take_append_drop]

theorem cntK_at {kids : List (Node K V)} {j : Nat} {c : Node K V} (h : kids[j]? = some c) (i : Nat) :
    cntK i kids = cntK i (kids.take j) + cnt i c + cntK i (kids.drop (j + 1)) := by
  conv => lhs; rw [split_at_getElem? h]
  rw [cntK_append, cntK_cons]; omega

theorem cntK_replaceAt (kids : List (Node K V)) (j : Nat) (c' : Node K V) (i : Nat) :
    cntK i (replaceAt kids j c') = cntK i (kids.take j) + cnt i c' + cntK i (kids.drop (j + 1)) := by
  rw [replaceAt, cntK_append, cntK_cons]; omega

theorem cntK_insertAt (kids : List (Node K V)) (j : Nat) (r : Node K V) (i : Nat) :
    cntK i (insertAt kids j r) = cntK i kids + cnt i r := by
  rw [insertAt, cntK_append, cntK_cons, cntK_split i j kids]; omega

theorem cntK_le_of_drop (i n : Nat) (kids : List (Node K V)) : cntK i (kids.drop n) ≤ cntK i kids := by
  rw [cntK_split i n kids]; omega

theorem mem_ids_iff_cnt {i : Nat} {x : Node K V} : i ∈ ids x ↔ 0 < cnt i x := by
  simp [cnt, List.count_pos_iff]

theorem cnt_replace_le {id j : Nat} {kvs kvs1 : List (K × V)} {kids : List (Node K V)} {c c' : Node K V}
    (hc : kids[j]? = some c) (hle : ∀ i, cnt i c' ≤ cnt i c) (i : Nat) :
    cnt i (.mk id kvs1 (replaceAt kids j c')) ≤ cnt i (.mk id kvs kids) := by
  have := hle i
  rw [cnt_mk, cnt_mk, cntK_replaceAt, cntK_at hc i]; omega

theorem cnt_mk_le {kids kids' : List (Node K V)} (h : ∀ i, cntK i kids' ≤ cntK i kids) (id : Nat)
    (kvs kvs' : List (K × V)) (i : Nat) : cnt i (.mk id kvs' kids') ≤ cnt i (.mk id kvs kids) := by
  have := h i; simp only [cnt_mk]; omega

theorem cnt_self (x : Node K V) : 0 < cnt x.id x := by
  obtain ⟨id, kvs, kids⟩ := x
  rw [cnt_mk]; simp [Node.id]; omega

theorem cnt_le_cntK {kids : List (Node K V)} {c : Node K V} (hc : c ∈ kids) (i : Nat) : cnt i c ≤ cntK i kids := by
  induction kids with
  | nil => cases hc
  | cons d ds ih =>
    rw [cntK_cons]
    rcases List.mem_cons.mp hc with rfl | hc
    · omega
    · have := ih hc; omega

theorem cntK_pos_of_mem {X : List (Node K V)} {d : Node K V} (hd : d ∈ X) : 0 < cntK d.id X := by
  have := cnt_self d; have := cnt_le_cntK hd d.id; omega

theorem cnt_pair_le {kids : List (Node K V)} {c d : Node K V} (hc : c ∈ kids) (hd : d ∈ kids) (hne : c ≠ d) (i : Nat) :
    cnt i c + cnt i d ≤ cntK i kids := by
  induction kids with
  | nil => cases hc
  | cons e es ih =>
    rw [cntK_cons]
    rcases List.mem_cons.mp hc with hce | hc'
    · rcases List.mem_cons.mp hd with hde | hd'
      · exact absurd (hce.trans hde.symm) hne
      · have := cnt_le_cntK hd' i; subst hce; omega
    · rcases List.mem_cons.mp hd with hde | hd'
      · have := cnt_le_cntK hc' i; subst hde; omega
      · have := ih hc' hd'; omega

theorem forest_strict {kids : List (Node K V)} (hnd : ∀ i, cntK i kids ≤ 1) {c d : Node K V}
    (hc : c ∈ kids) (hd : d ∈ kids) {j : Nat} (hj : 0 < cnt j c) (hne : j ≠ c.id) : d.id ≠ j := by
  intro he
  by_cases hcd : c = d
  · subst hcd; exact hne he.symm
  · have h1 := cnt_pair_le hc hd hcd j
    have h2 := cnt_self d
    rw [he] at h2
    have := hnd j
    omega

theorem kids_ids_nodup {kids : List (Node K V)} (hnd : ∀ i, cntK i kids ≤ 1) : (kids.map Node.id).Nodup := by
  induction kids with
  | nil => simp
  | cons c cs ih =>
    have hcs : ∀ i, cntK i cs ≤ 1 := by
      intro i; have := hnd i; rw [cntK_cons] at this; omega
    simp only [List.map_cons, List.nodup_cons]
    refine ⟨?_, ih hcs⟩
    intro hm
    obtain ⟨d, hd, hdc⟩ := List.mem_map.mp hm
    have h1 := cnt_self c
    have h2 := cnt_self d
    rw [hdc] at h2
    have h3 := cnt_le_cntK hd c.id
    have := hnd c.id
    rw [cntK_cons] at this
    omega

theorem cnt_child_le {id : Nat} {kvs : List (K × V)} {kids : List (Node K V)} {c : Node K V} (hc : c ∈ kids) (i : Nat) :
    cnt i c ≤ cnt i (.mk id kvs kids) := by
  rw [cnt_mk]; have := cnt_le_cntK hc i; omega

theorem cnt_child_zero {id j : Nat} {kvs : List (K × V)} {kids : List (Node K V)} {c : Node K V} (hc : c ∈ kids)
    (h : cnt j (Node.mk id kvs kids) = 0) : cnt j c = 0 := by
  have := cnt_child_le (id := id) (kvs := kvs) hc j
  omega

theorem ne_id_of_cnt_zero {id j : Nat} {kvs : List (K × V)} {kids : List (Node K V)}
    (h : cnt j (Node.mk id kvs kids) = 0) : j ≠ id := by
  rintro rfl
  rw [cnt_mk, if_pos rfl] at h
  omega

theorem ne_of_cnt {id j : Nat} {kvs : List (K × V)} {kids : List (Node K V)} {c : Node K V}
    (hcnt : cnt j (Node.mk id kvs kids) ≤ 1) (hc : c ∈ kids) (hj : 0 < cnt j c) : j ≠ id := by
  rintro rfl
  rw [cnt_mk, if_pos rfl] at hcnt
  have := cnt_le_cntK hc j
  omega

theorem cntK_le_one {id : Nat} {kvs : List (K × V)} {kids : List (Node K V)}
    (hcnt : ∀ j, cnt j (Node.mk id kvs kids) ≤ 1) : ∀ j, cntK j kids ≤ 1 := by
  intro j
  have := hcnt j
  rw [cnt_mk] at this
  omega

theorem cnt_id_child {id : Nat} {kvs : List (K × V)} {kids : List (Node K V)} {c : Node K V}
    (hcnt : ∀ j, cnt j (Node.mk id kvs kids) ≤ 1) (hc : c ∈ kids) : cnt id c = 0 :=
  Nat.eq_zero_of_not_pos fun h => ne_of_cnt (hcnt id) hc h rfl

theorem exists_child_index {kids : List (Node K V)} {j : Nat} (hj : 0 < cntK j kids) :
    ∃ (i : Nat) (c : Node K V), kids[i]? = some c ∧ 0 < cnt j c := by
  induction kids with
  | nil => simp at hj
  | cons c cs ihc =>
    rw [cntK_cons] at hj
    by_cases hc : 0 < cnt j c
    · exact ⟨0, c, rfl, hc⟩
    · obtain ⟨i, d, hd, hdj⟩ := ihc (by omega)
      exact ⟨i + 1, d, by simpa using hd, hdj⟩

/-- fresh identities handed out by one `Put`: the interval `[fresh, f)` -/
def isNew (fresh f i : Nat) : Nat := if fresh ≤ i ∧ i < f then 1 else 0

theorem isNew_self (f i : Nat) : isNew f f i = 0 := by
  simp only [isNew]; split <;> omega

theorem isNew_succ {fresh f : Nat} (h : fresh ≤ f) (i : Nat) :
    isNew fresh (f + 1) i = isNew fresh f i + if f = i then 1 else 0 := by
  by_cases hi : f = i
  · subst hi
    rw [isNew, isNew, if_pos ⟨h, Nat.lt_succ_self f⟩, if_neg (fun h' => Nat.lt_irrefl f h'.2), if_pos rfl]
  · have : (fresh ≤ i ∧ i < f + 1) ↔ (fresh ≤ i ∧ i < f) := by omega
    simp only [isNew, this, if_neg hi, Nat.add_zero]

def IdsOK (t : Tree K V) : Prop := (ids t.root).Nodup ∧ ∀ i ∈ ids t.root, i < t.nextId

theorem IdsOK.of_cnt_le {t t' : Tree K V} (hi : IdsOK t) (hc : ∀ i, cnt i t'.root ≤ cnt i t.root)
    (hn : t.nextId ≤ t'.nextId) : IdsOK t' := by
  obtain ⟨hnd, hlt⟩ := hi
  have hone : ∀ i, cnt i t.root ≤ 1 := List.nodup_iff_count.mp hnd
  exact ⟨List.nodup_iff_count.mpr fun i => Nat.le_trans (hc i) (hone i), fun i hi =>
    Nat.lt_of_lt_of_le (hlt i (mem_ids_iff_cnt.mpr (Nat.lt_of_lt_of_le (mem_ids_iff_cnt.mp hi) (hc i)))) hn⟩

theorem idsOK_grow {t : Tree K V} (hi : IdsOK t) {r' : Node K V} {n' : Nat} (hle : t.nextId ≤ n')
    (hc : ∀ i, cnt i r' = cnt i t.root + isNew t.nextId n' i) : (ids r').Nodup ∧ ∀ i ∈ ids r', i < n' := by
  obtain ⟨hnd, hlt⟩ := hi
  have hone : ∀ i, cnt i t.root ≤ 1 := List.nodup_iff_count.mp hnd
  have hold : ∀ i, 0 < cnt i t.root → i < t.nextId := fun i h => hlt i (mem_ids_iff_cnt.mpr h)
  refine ⟨List.nodup_iff_count.mpr fun i => ?_, fun i hi => ?_⟩
  all_goals
    have h1 := hc i; have h2 := hone i; have h3 := hold i
    simp only [isNew] at h1
  · show cnt i r' ≤ 1
    split at h1 <;> omega
  · have h0 := mem_ids_iff_cnt.mp hi
    split at h1 <;> omega

/-- the amalgam of `overfill`: the full node with the extra entry at its place and the extra child right of it -/
def amalgam (cmp : K → K → Int) (id : Nat) (kvs : List (K × V)) (kids : List (Node K V)) (kv : K × V)
    (afterK : Option (Node K V)) : Node K V :=
  .mk id (insertAt kvs (lowerIdx amalgamLess cmp kv.1 kvs) kv)
    (match afterK with
      | none => kids
      | some r => insertAt kids (lowerIdx amalgamLess cmp kv.1 kvs + 1) r)

/-- the node `A` cut in two: left half under `A`'s identity, separator, right half under the identity `fresh` -/
structure SplitOK (A : Node K V) (fresh : Nat) (t : Node K V × (K × V) × Node K V) : Prop where
  idL : t.1.id = A.id
  occL : Occ t.1
  occR : Occ t.2.2
  bal : ∀ {h}, Bal h A → Bal h t.1 ∧ Bal h t.2.2
  list : toList t.1 ++ t.2.1 :: toList t.2.2 = toList A
  cnt : ∀ i, cnt i t.1 + cnt i t.2.2 = cnt i A + if fresh = i then 1 else 0

/-- one round of `overfill` on a full node (a leaf, or an inner node taking the right half `r` of a split child) -/
theorem overfill_spec (cmp : K → K → Int) (id : Nat) (kvs : List (K × V)) (kids : List (Node K V))
    (kv : K × V) (afterK : Option (Node K V)) (fresh : Nat) (hfull : (kvs.length : Int) = maxKVs)
    (hk : (afterK = none ∧ kids = []) ∨ (∃ r, afterK = some r ∧ kids.length = kvs.length + 1)) :
    SplitOK (amalgam cmp id kvs kids kv afterK) fresh (overfillNode cmp id kvs kids kv afterK fresh) := by
  have hall := length_insertAt kvs (lowerIdx amalgamLess cmp kv.1 kvs) kv
  have hm : leftN.toNat < (insertAt kvs (lowerIdx amalgamLess cmp kv.1 kvs) kv).length := by
    have := consts; omega
  have hk' : kids.length ≤ kvs.length + 1 := by
    rcases hk with ⟨_, rfl⟩ | ⟨_, _, h⟩
    · exact Nat.zero_le _
    · exact Nat.le_of_eq h
  rw [overfillNode_eq cmp id kvs kids kv afterK fresh hfull hk']
  have ho := cut_occ (K := K) (V := V) (id := id) (fresh := fresh)
    (all := insertAt kvs (lowerIdx amalgamLess cmp kv.1 kvs) kv) (by rw [hall]; omega)
  refine ⟨rfl, (ho _ []).1, (ho [] _).2, fun hb => cut_bal hb fresh hm, ?_, fun i => ?_⟩
  · simp only [List.getD_eq_getElem?_getD, List.getElem?_eq_getElem hm, Option.getD_some]
    apply cut_toList _ fresh hm
    rcases hk with ⟨rfl, rfl⟩ | ⟨r, rfl, hl⟩
    · exact Or.inl rfl
    · exact Or.inr (by rw [length_insertAt, hall, hl])
  · cases afterK with
    | none =>
      have := cntK_split i (leftN.toNat + 1) kids
      simp only [amalgam, cnt_mk]; omega
    | some r =>
      have := cntK_split i (leftN.toNat + 1) (insertAt kids (lowerIdx amalgamLess cmp kv.1 kvs + 1) r)
      simp only [amalgam, cnt_mk]; omega

theorem toList_pair {A : List (Node K V)} {ka : List (K × V)} (h : A.length = ka.length) (L R : Node K V)
    (s : K × V) (B : List (Node K V)) (kb : List (K × V)) (id : Nat) :
    toList (.mk id (ka ++ s :: kb) (A ++ L :: R :: B)) =
      pre (A.map toList) ka ++ (toList L ++ s :: toList R) ++ rest (B.map toList) kb := by
  rw [toList_mk, List.map_append, List.map_cons, List.map_cons, inorder_split _ _ _ _ _ _ _ (by simpa using h)]
  simp

theorem pair_at {kvs : List (K × V)} {kids : List (Node K V)} {a : Nat} {L R : Node K V}
    (hlen : kids.length = kvs.length + 1) (hL : kids[a]? = some L) (hR : kids[a + 1]? = some R) :
    ∃ s, kvs.drop a = s :: kvs.drop (a + 1) ∧ kvs = kvs.take a ++ s :: kvs.drop (a + 1) ∧
      kids = kids.take a ++ L :: R :: kids.drop (a + 2) ∧ (kids.take a).length = (kvs.take a).length ∧
      a < kvs.length := by
  have ha : a + 1 < kids.length := (List.getElem?_eq_some_iff.mp hR).1
  have hsl : a < kvs.length := by omega
  have hsep : kvs.drop a = kvs[a] :: kvs.drop (a + 1) := List.drop_eq_getElem_cons hsl
  refine ⟨kvs[a], hsep, ?_, ?_, by simp; omega, hsl⟩
  · conv => lhs; rw [← List.take_append_drop a kvs, hsep]
  · conv => lhs; rw [← List.take_append_drop a kids, drop_two hL hR]

/-- outcome of a rotation on children `a`, `a+1` of a node -/
structure PairFix (h : Nat) (kvs : List (K × V)) (kids : List (Node K V)) (a : Nat)
    (kvs' : List (K × V)) (kids' : List (Node K V)) (L' R' : Node K V) : Prop where
  kvsLen : kvs'.length = kvs.length
  kidsEq : kids' = kids.take a ++ L' :: R' :: kids.drop (a + 2)
  balL : Bal h L'
  balR : Bal h R'
  list : ∀ id, toList (.mk id kvs' kids') = toList (.mk id kvs kids)
  cnt : ∀ i, cntK i kids' = cntK i kids

/-- the siblings `L`, `R` joined around `s` and cut again at entry `m` (identities stay) -/
def recut (L : Node K V) (s : K × V) (R : Node K V) (m : Nat) : Node K V × Node K V :=
  (.mk L.id ((L.kvs ++ s :: R.kvs).take m) ((L.kids ++ R.kids).take (m + 1)),
   .mk R.id ((L.kvs ++ s :: R.kvs).drop (m + 1)) ((L.kids ++ R.kids).drop (m + 1)))

theorem pair_shape {h li ri : Nat} {lkvs rkvs : List (K × V)} {lkids rkids : List (Node K V)}
    (hbL : Bal h (.mk li lkvs lkids)) (hbR : Bal h (.mk ri rkvs rkids)) :
    (lkids = [] ∧ rkids = []) ∨ (lkids.length = lkvs.length + 1 ∧ rkids.length = rkvs.length + 1) := by
  rcases bal_cases.mp hbL with ⟨rfl, rfl⟩ | ⟨h', rfl, hl, _⟩
  · exact Or.inl ⟨rfl, bal_zero.mp hbR⟩
  · exact Or.inr ⟨hl, (bal_succ.mp hbR).1⟩

theorem recut_spec {h : Nat} {kvs : List (K × V)} {kids : List (Node K V)} {a : Nat} {L R : Node K V}
    (hlen : kids.length = kvs.length + 1) (hL : kids[a]? = some L) (hR : kids[a + 1]? = some R)
    (hbL : Bal h L) (hbR : Bal h R) {s s' : K × V} (hs : kvs[a]? = some s) {m : Nat}
    (hs' : (L.kvs ++ s :: R.kvs)[m]? = some s') :
    PairFix h kvs kids a (kvs.take a ++ s' :: kvs.drop (a + 1))
      (kids.take a ++ (recut L s R m).1 :: (recut L s R m).2 :: kids.drop (a + 2)) (recut L s R m).1 (recut L s R m).2 ∧
    (recut L s R m).1.n = m ∧ (recut L s R m).2.n + m = L.n + R.n := by
  obtain ⟨s0, hsep, hv, hk, hA, hsl⟩ := pair_at hlen hL hR
  obtain rfl : s0 = s := by rw [drop_one hs] at hsep; exact (List.cons.inj hsep).1.symm
  obtain ⟨li, lkvs, lkids⟩ := L
  obtain ⟨ri, rkvs, rkids⟩ := R
  simp only [recut, Node.kvs, Node.kids, Node.id] at hs' ⊢
  have hm : m < (lkvs ++ s0 :: rkvs).length := (List.getElem?_eq_some_iff.mp hs').1
  have hbJ := join_bal hbL hbR li s0
  obtain ⟨hb1, hb2⟩ := cut_bal hbJ ri hm
  have hl := cut_toList (id := li) (bal_kids hbJ) ri hm
  rw [(List.getElem?_eq_some_iff.mp hs').2] at hl
  refine ⟨⟨by simp; omega, rfl, hb1, hb2, fun id => ?_, fun i => ?_⟩, ?_, ?_⟩
  · conv => rhs; rw [hv, hk]
    rw [toList_pair hA, toList_pair hA, hl, toList_join hbL hbR li s0]
  · conv => rhs; rw [hk]
    have := cntK_split i (m + 1) (lkids ++ rkids)
    simp only [cntK_append, cntK_cons, cnt_mk] at this ⊢
    omega
  · simp only [node_n, List.length_take]; omega
  · simp only [node_n, List.length_drop, List.length_append, List.length_cons] at hm ⊢; omega

theorem rotateLeftAt_eq {kvs : List (K × V)} {kids : List (Node K V)} {a li ri : Nat} {lkvs rkvs : List (K × V)}
    {rk : K × V} {lkids rkids : List (Node K V)} (ha : a < kvs.length)
    (hL : kids[a]? = some (.mk li lkvs lkids)) (hR : kids[a + 1]? = some (.mk ri (rk :: rkvs) rkids)) :
    rotateLeftAt kvs kids a = some (kvs.take a ++ rk :: kvs.drop (a + 1),
      kids.take a ++ .mk li (lkvs ++ [kvs[a]]) (lkids ++ rkids.take 1) :: .mk ri rkvs (rkids.drop 1) :: kids.drop (a + 2)) := by
  have hs : (Gen.Tree.rotateLeftSepIdx ((a : Int) + 1)).toNat = a := by simp [Gen.Tree.rotateLeftSepIdx]
  have hsep : kvs.drop a = kvs[a] :: kvs.drop (a + 1) := List.drop_eq_getElem_cons ha
  simp only [rotateLeftAt, hs, drop_two hL hR, hsep]

theorem rotateRightAt_eq {kvs : List (K × V)} {kids : List (Node K V)} {a li ri : Nat} {lkvs rkvs : List (K × V)}
    {lkids rkids : List (Node K V)} (ha : a < kvs.length) (hlne : lkvs ≠ [])
    (hshape : lkids = [] ∨ lkids.length = lkvs.length + 1)
    (hL : kids[a]? = some (.mk li lkvs lkids)) (hR : kids[a + 1]? = some (.mk ri rkvs rkids)) :
    rotateRightAt kvs kids a = some (kvs.take a ++ lkvs.getLast hlne :: kvs.drop (a + 1),
      kids.take a ++ .mk li lkvs.dropLast lkids.dropLast ::
        .mk ri (kvs[a] :: rkvs) (lkids.getLast?.toList ++ rkids) :: kids.drop (a + 2)) := by
  have hs : (Gen.Tree.rotateRightSepIdx (a : Int)).toNat = a := by simp [Gen.Tree.rotateRightSepIdx]
  have hsep : kvs.drop a = kvs[a] :: kvs.drop (a + 1) := List.drop_eq_getElem_cons ha
  have hm : lkvs.length - 1 + 1 = lkvs.length := Nat.sub_add_cancel (List.length_pos_iff.mpr hlne)
  obtain ⟨e1, e2⟩ := take_last hshape
  simp only [rotateRightAt, hs, drop_two hL hR, hsep, List.getLast?_eq_some_getLast hlne, hm, e1, e2]

/-- `rotateLeft`: the cut moves one entry to the right -/
theorem rotateLeftAt_recut {h : Nat} {kvs : List (K × V)} {kids : List (Node K V)} {a : Nat} {L R : Node K V}
    (hL : kids[a]? = some L) (hR : kids[a + 1]? = some R) (hbL : Bal h L) (hbR : Bal h R) (hRn : 1 ≤ R.n)
    {s : K × V} (hs : kvs[a]? = some s) :
    ∃ s', (L.kvs ++ s :: R.kvs)[L.kvs.length + 1]? = some s' ∧
      rotateLeftAt kvs kids a = some (kvs.take a ++ s' :: kvs.drop (a + 1),
        kids.take a ++ (recut L s R (L.kvs.length + 1)).1 :: (recut L s R (L.kvs.length + 1)).2 :: kids.drop (a + 2)) := by
  obtain ⟨ha, rfl⟩ := List.getElem?_eq_some_iff.mp hs
  obtain ⟨li, lkvs, lkids⟩ := L
  obtain ⟨ri, rkvs, rkids⟩ := R
  cases rkvs with
  | nil => simp [node_n] at hRn
  | cons rk rkvs =>
    refine ⟨rk, by simp [Node.kvs], ?_⟩
    rw [rotateLeftAt_eq ha hL hR]
    simp only [recut, Node.kvs, Node.kids, Node.id]
    have k1 : (lkvs ++ kvs[a] :: rk :: rkvs).take (lkvs.length + 1) = lkvs ++ [kvs[a]] := List.take_length_add_append 1
    have k2 : (lkvs ++ kvs[a] :: rk :: rkvs).drop (lkvs.length + 1 + 1) = rkvs := List.drop_length_add_append 2
    have k3 : (lkids ++ rkids).take (lkvs.length + 1 + 1) = lkids ++ rkids.take 1 ∧
        (lkids ++ rkids).drop (lkvs.length + 1 + 1) = rkids.drop 1 := by
      rcases pair_shape hbL hbR with ⟨rfl, rfl⟩ | ⟨h1, _⟩
      · exact ⟨rfl, rfl⟩
      · rw [← h1]; exact ⟨List.take_length_add_append 1, List.drop_length_add_append 1⟩
    rw [k1, k2, k3.1, k3.2]

/-- `rotateRight`: the cut moves one entry to the left -/
theorem rotateRightAt_recut {h : Nat} {kvs : List (K × V)} {kids : List (Node K V)} {a : Nat} {L R : Node K V}
    (hL : kids[a]? = some L) (hR : kids[a + 1]? = some R) (hbL : Bal h L) (hbR : Bal h R) (hLn : 1 ≤ L.n)
    {s : K × V} (hs : kvs[a]? = some s) :
    ∃ s', (L.kvs ++ s :: R.kvs)[L.kvs.length - 1]? = some s' ∧
      rotateRightAt kvs kids a = some (kvs.take a ++ s' :: kvs.drop (a + 1),
        kids.take a ++ (recut L s R (L.kvs.length - 1)).1 :: (recut L s R (L.kvs.length - 1)).2 :: kids.drop (a + 2)) := by
  have hi : (rotateRightSepIdx (a : Int)).toNat = a := by simp [rotateRightSepIdx]
  obtain ⟨li, lkvs, lkids⟩ := L
  obtain ⟨ri, rkvs, rkids⟩ := R
  simp only [node_n] at hLn
  have hm : lkvs.length - 1 < lkvs.length := by omega
  have hlk : lkvs.getLast? = some lkvs[lkvs.length - 1] := by
    rw [List.getLast?_eq_getElem?, List.getElem?_eq_getElem hm]
  refine ⟨lkvs[lkvs.length - 1], by simp only [Node.kvs]; rw [List.getElem?_append_left hm, List.getElem?_eq_getElem hm], ?_⟩
  simp only [rotateRightAt, hi, drop_two hL hR, drop_one hs, hlk, recut, Node.kvs, Node.kids, Node.id,
    List.dropLast_eq_take]
  have e : lkvs.length - 1 + 1 = lkvs.length := by omega
  have j1 : (lkvs ++ s :: rkvs).take (lkvs.length - 1) = lkvs.take (lkvs.length - 1) :=
    List.take_append_of_le_length (by omega)
  have j2 : (lkvs ++ s :: rkvs).drop (lkvs.length - 1 + 1) = s :: rkvs := List.drop_left' e.symm
  have j3 : (lkids ++ rkids).take (lkvs.length - 1 + 1) = lkids.take (lkvs.length - 1 + 1) ∧
      (lkids ++ rkids).drop (lkvs.length - 1 + 1) = (lkids.drop (lkvs.length - 1 + 1)).take 1 ++ rkids := by
    rcases pair_shape hbL hbR with ⟨rfl, rfl⟩ | ⟨h1, _⟩
    · exact ⟨rfl, rfl⟩
    · rw [List.take_append_of_le_length (by omega), List.drop_append_of_le_length (by omega),
        List.take_of_length_le (l := lkids.drop (lkvs.length - 1 + 1)) (by rw [List.length_drop]; omega)]
      exact ⟨rfl, rfl⟩
  rw [j1, j2, j3.1, j3.2]

theorem rotateLeftAt_spec {h : Nat} {kvs : List (K × V)} {kids : List (Node K V)} {a : Nat}
    {L R : Node K V} (hlen : kids.length = kvs.length + 1)
    (hL : kids[a]? = some L) (hR : kids[a + 1]? = some R)
    (hbL : Bal h L) (hbR : Bal h R) (hRn : 1 ≤ R.n) :
    ∃ kvs' kids' L' R', rotateLeftAt kvs kids a = some (kvs', kids') ∧
      PairFix h kvs kids a kvs' kids' L' R' ∧ L'.n = L.n + 1 ∧ R'.n = R.n - 1 := by
  have ha : a < kvs.length := by have := (List.getElem?_eq_some_iff.mp hR).1; omega
  have hs := List.getElem?_eq_getElem ha
  obtain ⟨s', hs', he⟩ := rotateLeftAt_recut hL hR hbL hbR hRn hs
  obtain ⟨hp, h1, h2⟩ := recut_spec hlen hL hR hbL hbR hs hs'
  simp only [Node.n] at h1 h2 ⊢
  exact ⟨_, _, _, _, he, hp, by omega, by omega⟩

theorem rotateRightAt_spec {h : Nat} {kvs : List (K × V)} {kids : List (Node K V)} {a : Nat}
    {L R : Node K V} (hlen : kids.length = kvs.length + 1)
    (hL : kids[a]? = some L) (hR : kids[a + 1]? = some R)
    (hbL : Bal h L) (hbR : Bal h R) (hLn : 1 ≤ L.n) :
    ∃ kvs' kids' L' R', rotateRightAt kvs kids a = some (kvs', kids') ∧
      PairFix h kvs kids a kvs' kids' L' R' ∧ L'.n = L.n - 1 ∧ R'.n = R.n + 1 := by
  have ha : a < kvs.length := by have := (List.getElem?_eq_some_iff.mp hR).1; omega
  have hs := List.getElem?_eq_getElem ha
  obtain ⟨s', hs', he⟩ := rotateRightAt_recut hL hR hbL hbR hLn hs
  obtain ⟨hp, h1, h2⟩ := recut_spec hlen hL hR hbL hbR hs hs'
  simp only [Node.n] at hLn h1 h2 ⊢
  exact ⟨_, _, _, _, he, hp, by omega, by omega⟩

/-- `mergeTwo`: the join of the two siblings replaces them, the separator leaves the parent -/
theorem mergeAt_eq {kvs : List (K × V)} {kids : List (Node K V)} {a li ri : Nat} {lkvs rkvs : List (K × V)}
    {lkids rkids : List (Node K V)} {s : K × V} (hs : kvs[a]? = some s)
    (hL : kids[a]? = some (.mk li lkvs lkids)) (hR : kids[a + 1]? = some (.mk ri rkvs rkids)) :
    mergeAt kvs kids a = some (kvs.take a ++ kvs.drop (a + 1),
      kids.take a ++ .mk li (lkvs ++ s :: rkvs) (lkids ++ rkids) :: kids.drop (a + 2)) := by
  simp only [mergeAt, drop_two hL hR, drop_one hs]

theorem mergeAt_spec {h : Nat} {kvs : List (K × V)} {kids : List (Node K V)} {a : Nat}
    {L R : Node K V} (hlen : kids.length = kvs.length + 1)
    (hL : kids[a]? = some L) (hR : kids[a + 1]? = some R)
    (hbL : Bal h L) (hbR : Bal h R) :
    ∃ kvs' kids' L', mergeAt kvs kids a = some (kvs', kids') ∧
      kvs'.length + 1 = kvs.length ∧ kids' = kids.take a ++ L' :: kids.drop (a + 2) ∧
      Bal h L' ∧ L'.n = L.n + 1 + R.n ∧ (∀ id, toList (.mk id kvs' kids') = toList (.mk id kvs kids)) ∧
      ∀ i, cntK i kids' ≤ cntK i kids := by
  obtain ⟨s, hsep, hv, hk, hA, hsl⟩ := pair_at hlen hL hR
  obtain ⟨li, lkvs, lkids⟩ := L
  obtain ⟨ri, rkvs, rkids⟩ := R
  refine ⟨kvs.take a ++ kvs.drop (a + 1),
    kids.take a ++ .mk li (lkvs ++ s :: rkvs) (lkids ++ rkids) :: kids.drop (a + 2), _,
    mergeAt_eq (by rw [← List.head?_drop, hsep]; rfl) hL hR, ?_, rfl, join_bal hbL hbR li s, ?_, fun id => ?_, fun i => ?_⟩
  · simp; omega
  · simp [node_n]; omega
  · conv => rhs; rw [hv, hk]
    rw [toList_pair hA, toList_mk, List.map_append, List.map_cons, inorder_mid _ _ _ _ _ (by simpa using hA),
      toList_join hbL hbR li s]
  · conv => rhs; rw [hk]
    simp only [cntK_append, cntK_cons, cnt_mk]
    omega

end Juniper.Proofs.Tree
