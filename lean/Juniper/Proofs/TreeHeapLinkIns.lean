import Juniper.Proofs.TreeHeapLinkPut
/-!
# Linking the two B-tree models (C03): `Put`, the induction over `ins`
-/
namespace Juniper.Proofs.TreeHeapLink
open Juniper Juniper.Model.BTree Juniper.Model.BTreeSlotsOps Juniper.Proofs.Tree Juniper.Proofs.TreeSlotsOps

variable {K V : Type}

/-- the children of a node after `ins` has split child `i` into `l`, `r`, with `r` put in at any position `e` -/
theorem split_forest {h h1 : Heap K V} {id i fresh f e : Nat} {kvs : List (K × V)} {kids : List (Node K V)}
    {c l r : Node K V}
    (hcnt : ∀ j, cnt j (Node.mk id kvs kids) ≤ 1) (hlt : ∀ j, 0 < cnt j (Node.mk id kvs kids) → j < h.nodes.length)
    (hc : kids[i]? = some c) (hkids : ∀ d ∈ kids, Sub h.get (some id) d)
    (hcr : ∀ j, cnt j l + cnt j r = cnt j c + isNew fresh f j) (hfresh : fresh = h.nodes.length)
    (hsubl : Sub h1.get (some id) l) (hfr : Frame h h1 c) :
    (∀ j, cntK j (insertAt (replaceAt kids i l) e r) ≤ 1) ∧
    cntK id (insertAt (replaceAt kids i l) e r) = 0 ∧
    (∀ j, cnt j (Node.mk id kvs kids) = 0 → j < h.nodes.length → cntK j (insertAt (replaceAt kids i l) e r) = 0) ∧
    ∀ d ∈ insertAt (replaceAt kids i l) e r, d = r ∨ Sub h1.get (some id) d := by
  have hck := cntK_le_one hcnt
  have hforest : ∀ j, cntK j (insertAt (replaceAt kids i l) e r) = cntK j kids + isNew fresh f j := by
    intro j
    rw [cntK_insertAt, cntK_replaceAt]
    have := cntK_at hc j
    have := hcr j
    omega
  have hkold : ∀ j, h.nodes.length ≤ j → cntK j kids = 0 := by
    intro j hj
    refine Nat.eq_zero_of_not_pos fun hp => ?_
    have := hlt j (by rw [cnt_mk]; omega); omega
  refine ⟨?_, ?_, ?_, ?_⟩
  · intro j
    rw [hforest]
    have h1' := hck j
    simp only [isNew]
    split
    · have := hkold j (by omega); omega
    · omega
  · rw [hforest]
    have := hcnt id
    have hid := hlt id (by rw [cnt_mk, if_pos rfl]; omega)
    rw [cnt_mk, if_pos rfl] at this
    simp only [isNew]
    split <;> omega
  · intro j hj hjl
    rw [hforest]
    rw [cnt_mk] at hj
    simp only [isNew]
    split <;> omega
  · intro d hd
    rcases mem_insertAt hd with rfl | hd
    · exact Or.inl rfl
    · rcases mem_replaceAt' hd with rfl | hd
      · exact Or.inr hsubl
      · exact Or.inr (siblings_keep hc hkids hck
          (fun j hj hk => hfr.get j hj (hlt j (by rw [cnt_mk]; omega))) d hd)

theorem ins_sim (cmp : K → K → Int) (k : K) (v : V) (x : Node K V) (fresh : Nat) :
    ∀ (ht : Nat) (h : Heap K V) (p : Option Nat), Bal ht x → x.n ≤ Gen.Tree.maxKVs →
      (∀ j, cnt j x ≤ 1) → (∀ j, 0 < cnt j x → j < h.nodes.length) → (∀ c ∈ x.kids, cnt h.root c = 0) →
      fresh = h.nodes.length → Sub h.get p x → InsSim cmp k v h p ht x (ins cmp k v x fresh) := by
  induction x using node_induct with
  | h id kvs kids ih =>
  intro ht h p hb hn hcnt hlt hroot hfresh hsub
  rcases hs : searchNode cmp k kvs with ⟨i, _ | _⟩
  · by_cases hk : kids = []
    · -- a leaf without the key: insert here, or split
      subst hk
      obtain rfl := bal_leaf_iff.mp hb
      obtain ⟨sx, hx, hpar, hr, -⟩ := sub_mk.mp hsub
      simp only [List.map_nil] at hr
      have hdesc := fun fuel (hf : 0 + 1 ≤ fuel) => descend_stop hx hr hs (Or.inr rfl) fuel hf
      rw [ins]
      simp only [hs, List.isEmpty_nil, if_true]
      by_cases hroom : Gen.Tree.putInsertsDirect (Gen.Tree.full kvs.length) = true
      · simp only [hroom, if_true, InsSim]
        obtain ⟨h', x', hstep, hsame, hr', hp', hg'⟩ := step_leafInsert hx hr
          (lowerIdx_le Gen.Tree.insertLess cmp k kvs) (room_of_not_full hn hroom) k v [id]
        refine ⟨id, i, sx, h', hdesc, hx, ?_, ?_, ?_, by rw [hsame.len, hfresh]⟩
        · intro fuel _
          unfold putLeaf
          rw [hr.hn, if_pos hroom, toIdx_natCast, Option.bind_some, lowerFrom_rep _ cmp k hr, Option.bind_some]
          exact hstep
        · exact sub_mk.mpr ⟨x', by rw [hg']; simp, hp'.trans hpar, by simp only [List.map_nil]; exact hr', by simp⟩
        · exact ⟨fun j hj _ => by rw [hg', if_neg (ne_id_of_cnt_zero hj)], hsame.root, hsame.size, hsame.gen⟩
      · have hfull : kvs.length = keysCap := full_of_not_room (n := kvs.length) hroom
        have hroom' : Gen.Tree.putInsertsDirect (Gen.Tree.full sx.n) = false := by
          rw [hr.hn, full_iff]; simp [Gen.Tree.putInsertsDirect, hfull]
        rw [if_neg hroom, overfillNode_eq cmp id kvs [] (k, v) none fresh (full_int hfull) (Nat.zero_le _)]
        simp only [capInt.2.2.1, List.take_nil, List.drop_nil, InsSim, Node.id]
        obtain ⟨h1, hov, hroot1, hsize1, hgen1, hlen1, hsubL, hsubR, hrest⟩ :=
          overfill_sim (F := []) cmp k v rfl hx hpar hr hfull (Or.inl ⟨rfl, rfl⟩) rfl (fun _ => Nat.zero_le _)
            (fun _ hd => nomatch hd) rfl
        simp only [List.take_nil, List.drop_nil] at hsubL hsubR
        refine ⟨id, i, sx, h1, hdesc, hx, ?_, hsubL, hfresh ▸ hsubR,
          ⟨fun j hj hjl => hrest j rfl (Nat.ne_of_lt hjl) (ne_id_of_cnt_zero hj), hroot1, hsize1, hgen1⟩,
          by rw [hlen1, hfresh]⟩
        intro fuel
        unfold putLeaf
        rw [hroom', hfresh]
        exact hov fuel
    · -- an inner node without the key: `Put` works below child `i`; what comes back decides (`insUp`)
      obtain ⟨c, hc⟩ := Option.ne_none_iff_exists'.mp (bal_has_child hb hk hs)
      obtain ⟨ht', sx, rfl, hin⟩ := inner_facts hk hb hcnt hroot hsub hc
      have hih := ih c hin.mem ht' h (some id) hin.bal hin.small hin.once hin.lt hin.noRoot hfresh (hin.sub c hin.mem)
      have hsp := ins_spec cmp k v c fresh ht' hin.bal hin.small
      have hsibs : ∀ {h1}, Frame h h1 c → ∀ d, (d ∈ kids.take i ∨ d ∈ kids.drop (i + 1)) → Sub h1.get (some id) d :=
        fun hfr => siblings_keep hc hin.sub hin.onceK (fun j hj hk => hfr.get j hj (hlt j (by rw [cnt_mk]; omega)))
      have hobj : ∀ {h1}, Frame h h1 c → h1.get id = some sx :=
        fun hfr => by rw [hfr.get id hin.noId (get_lt hin.obj)]; exact hin.obj
      rw [ins_inner cmp k v fresh hs hk hc]
      rcases hres : ins cmp k v c fresh with ⟨res, f⟩
      rw [hres] at hih hsp
      cases res with
      | crash => exact hih.elim
      | found c' =>
        obtain ⟨curr, idx, xs, h', hdesc, hxs, hstep, hsub', hfr, hlen'⟩ := hih
        exact ⟨curr, idx, xs, h', descend_below hin.obj hin.rep hs hk hc hdesc, hxs, hstep,
          sub_replace_child (hobj hfr) hin.par hin.rep hc (skel_id hsp.ok.2.1) hsub' (hsibs hfr), hfr.of_child hin.mem, hlen'⟩
      | one c' =>
        obtain ⟨curr, idx, xs, h', hdesc, hxs, hput, hsub', hfr, hlen'⟩ := hih
        exact ⟨curr, idx, xs, h', descend_below hin.obj hin.rep hs hk hc hdesc, hxs, fun fuel hf => hput fuel (by omega),
          sub_replace_child (hobj hfr) hin.par hin.rep hc hsp.ok.2.2.2.2 hsub' (hsibs hfr), hfr.of_child hin.mem, hlen'⟩
      | split l sep r =>
        -- the child was split: the separator and `r` go into this node if it has room, else it is split in turn
        obtain ⟨curr, idx, xs, h1, hdesc, hxs, hput, hsubl, hsubr, hfr, hlen1⟩ := hih
        obtain ⟨-, -, -, -, hlid⟩ := hsp.ok
        have hx1 := hobj hfr
        have hforest := fun e => split_forest (e := e) (r := r) hcnt hlt hc hin.sub hsp.cnt hfresh hsubl hfr
        have hframe : ∀ {h2 : Heap K V}, h2.root = h1.root → h2.size = h1.size → h2.gen = h1.gen →
            (∀ j, cnt j (Node.mk id kvs kids) = 0 → j < h.nodes.length → h2.get j = h1.get j) →
            Frame h h2 (.mk id kvs kids) := fun e1 e2 e3 hg =>
          ⟨fun j hj hjl => (hg j hj hjl).trans (hfr.get j (cnt_child_zero hin.mem hj) hjl), e1.trans hfr.root,
            e2.trans hfr.size, e3.trans hfr.gen⟩
        by_cases hroom : Gen.Tree.overfillParentHasRoom (Gen.Tree.full kvs.length) = true
        · simp only [insUp, if_pos hroom, InsSim, (parentIdx_toNat i).1, (parentIdx_toNat i).2]
          obtain ⟨hfnd, hfid, hfold, hall⟩ := hforest (i + 1)
          obtain ⟨h3, hup, hsame3, hsubN, hrest⟩ := up_room_sim cmp sep.1 sep.2 hx1 hin.par hin.rep hin.len hin.nodup
            (hlid ▸ hin.idx) (room_of_not_full hn hroom) (by rw [hlid, hfr.root]; exact hin.neRoot) hfnd hall hsubl hsubr
            (by simp [insertAt]) hfid (by rw [map_insertAt, map_id_replaceAt hc hlid])
          rw [hlid] at hup
          refine ⟨curr, idx, xs, h3, descend_below hin.obj hin.rep hs hk hc hdesc, hxs, ?_, hsubN,
            hframe hsame3.root hsame3.size hsame3.gen (fun j hj hjl => hrest j (hfold j hj hjl) (ne_id_of_cnt_zero hj)),
            by rw [hsame3.len]; exact hlen1⟩
          intro fuel hf
          have := hput (fuel - (ht' + 1))
          rw [Nat.add_assoc, Nat.sub_add_cancel (Nat.le_of_succ_le hf)] at this
          rw [this]
          exact hup _
        · obtain ⟨sk, sv⟩ := sep
          obtain ⟨sl, hsl, hslp, _⟩ := hsubl.root
          rw [hlid] at hsl
          have hfull : kvs.length = keysCap := full_of_not_room (n := kvs.length) hroom
          have hk1len : (replaceAt kids i l).length = kvs.length + 1 := by
            rw [length_replaceAt _ _ _ hin.ilt]; exact hin.len
          simp only [insUp, if_neg hroom]
          rw [overfillNode_eq cmp id kvs _ (sk, sv) (some r) f (full_int hfull) (Nat.le_of_eq hk1len)]
          simp only [capInt.2.2.1, InsSim, Node.id]
          generalize he : lowerIdx Gen.Tree.amalgamLess cmp sk kvs = e
          obtain ⟨hfnd, hfid, hfold, hall⟩ := hforest (e + 1)
          obtain ⟨h2, hov, hroot2, hsize2, hgen2, hlen2, hsubL, hsubR, hrest⟩ :=
            overfill_sim (afterK := some r.id) cmp sk sv he hx1 hin.par hin.rep hfull (Or.inr ⟨by simpa using hin.len, rfl⟩)
              (by rw [map_insertAt, map_id_replaceAt hc hlid]; rfl) hfnd
              (fun d hd => (hall d hd).elim (fun e => ⟨none, e ▸ hsubr⟩) (fun s => ⟨_, s⟩)) hfid
          have hlenle : h.nodes.length ≤ h1.nodes.length := by rw [hlen1, ← hfresh]; exact hsp.le
          rw [hlen1] at hsubR
          refine ⟨curr, idx, xs, h2, descend_below hin.obj hin.rep hs hk hc hdesc, hxs, ?_, hsubL, hsubR,
            hframe hroot2 hsize2 hgen2 (fun j hj hjl =>
              hrest j (hfold j hj hjl) (Nat.ne_of_lt (Nat.lt_of_lt_of_le hjl hlenle)) (ne_id_of_cnt_zero hj)),
            by rw [hlen2, hlen1]⟩
          intro fuel
          have := hput (fuel + 1)
          rw [show fuel + (ht' + 1) + 1 = fuel + 1 + ht' + 1 by ac_rfl, this,
            up_full cmp (fuel + 1) sk sv (by rw [hfr.root]; exact hin.neRoot) hsl hslp hx1 hin.rep hfull, hov fuel, hlen1]
  · -- the key is in this node
    obtain ⟨sx, hx, hpar, hr, hkids⟩ := sub_mk.mp hsub
    have hi : i < kvs.length := searchNode_found_lt hs
    obtain ⟨h', x', hstep, hsame, hr', hp', hg'⟩ := step_setValue hx hr hi v [id]
    rw [ins]
    simp only [hs, InsSim]
    refine ⟨id, i, sx, h', fun fuel hf => descend_stop hx hr hs (Or.inl rfl) fuel (by omega), hx, hstep, ?_, ?_, hsame.len⟩
    · refine sub_mk.mpr ⟨x', by rw [hg']; simp, hp'.trans hpar, ?_, ?_⟩
      · rw [setVal_eq (List.getElem?_eq_getElem hi)]; exact hr'
      · intro c hc
        refine Sub.congr c (fun j hj => ?_) (hkids c hc)
        rw [hg', if_neg (ne_of_cnt (hcnt j) hc hj)]
    · exact ⟨fun j hj _ => by rw [hg', if_neg (ne_id_of_cnt_zero hj)], hsame.root, hsame.size, hsame.gen⟩
end Juniper.Proofs.TreeHeapLink
