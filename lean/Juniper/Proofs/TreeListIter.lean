import Juniper.Proofs.TreeSpec
/-!
# The list side of ranges and iterators (C01, C02): bounds and directed lists

Nothing here mentions a tree. `dlist L fwd` is the sorted contents read in the iterator's direction and `dcmp` the
comparator read that way; `nearFn` / `keepFn (stopOf ..)` are the two bounds of `Range` / `RangeReverse` as predicates
on keys, `startOf` / `ahead` the entries from the near bound / from a resume key on (a `dropWhile` of `dlist`).
`TreeAccess.nearOf` is the near bound as a seek sees it (the keys its regenerated step test does not step over);
`nearOf_eq` is where it meets `nearFn`.
-/
namespace Juniper.Proofs.TreeAccess
open Juniper.Model.BTree Juniper.Gen.Tree

/-- `Range` seeks forward (`SeekFirst`, `SeekFirstGreaterOrEqual`, `SeekFirstGreater`), `RangeReverse` backward -/
def skFwd : SeekKind → Bool
  | .first | .ge | .gt => true
  | _ => false

/-- the near bound as the seek sees it: the keys the seek does not step over -/
def nearOf {K : Type} (cmp : K → K → Int) (sk : SeekKind) (skey k : K) : Bool :=
  match sk with
  | .first => true
  | .last => true
  | .ge => !seekFirstGreaterOrEqualStep (cmp skey k)
  | .gt => !seekFirstGreaterStep (cmp skey k)
  | .le => !seekLastLessOrEqualStep (cmp skey k)
  | .lt => !seekLastLessStep (cmp skey k)

end Juniper.Proofs.TreeAccess

namespace Juniper.Proofs.Tree
open Juniper.Model.BTree Juniper.Gen.Tree

variable {K V : Type} {α : Type} {cmp : K → K → Int}

theorem dropWhile_of_head_false {q : α → Bool} {L : List α} (h : ∀ a ∈ L.head?, q a = false) :
    L.dropWhile q = L := by
  cases L with
  | nil => rfl
  | cons a L => simp [h a (by simp)]

def dlist (L : List (K × V)) (fwd : Bool) : List (K × V) := if fwd then L else L.reverse

/-- the far-bound (`While`) predicate of an iterator -/
def keepFn (cmp : K → K → Int) (stop : Option (CmpOp × K)) (k : K) : Bool :=
  match stop with
  | none => true
  | some (op, key) => evalOp op (cmp k key)

theorem filter_eq_takeWhile {R : α → α → Prop} {p : α → Bool} {L : List α} (hs : L.Pairwise R)
    (hp : ∀ a b, R a b → p b = true → p a = true) : L.filter p = L.takeWhile p := by
  induction L with
  | nil => rfl
  | cons a L ih =>
    have hc := List.pairwise_cons.mp hs
    cases ha : p a with
    | true => rw [List.filter_cons_of_pos ha, List.takeWhile_cons_of_pos ha, ih hc.2]
    | false =>
      rw [List.filter_cons_of_neg (by simp [ha]), List.takeWhile_cons_of_neg (by simp [ha])]
      exact List.filter_eq_nil_iff.mpr fun b hb hpb => by rw [hp a b (hc.1 b hb) hpb] at ha; cases ha

theorem filter_eq_dropWhile {R : α → α → Prop} {p : α → Bool} {L : List α} (hs : L.Pairwise R)
    (hp : ∀ a b, R a b → p a = true → p b = true) : L.filter p = L.dropWhile (fun x => !p x) := by
  induction L with
  | nil => rfl
  | cons a L ih =>
    have hc := List.pairwise_cons.mp hs
    cases ha : p a with
    | true =>
      rw [List.dropWhile_cons_of_neg (by simp [ha])]
      exact List.filter_eq_self.mpr fun b hb =>
        (List.mem_cons.mp hb).elim (fun h => h ▸ ha) fun h => hp a b (hc.1 b h) ha
    | false => rw [List.filter_cons_of_neg (by simp [ha]), List.dropWhile_cons_of_pos (by simp [ha]), ih hc.2]

theorem all_dropWhile_not {R : α → α → Prop} {p : α → Bool} {L : List α} (hs : L.Pairwise R)
    (hp : ∀ a b, R a b → p a = true → p b = true) : ∀ e ∈ L.dropWhile (fun x => !p x), p e = true := by
  rw [← filter_eq_dropWhile hs hp]; exact fun e he => (List.mem_filter.mp he).2

theorem filter_range_sorted {R : α → α → Prop} {lo hi : α → Bool} {L : List α} (hs : L.Pairwise R)
    (hlo : ∀ a b, R a b → lo a = true → lo b = true) (hhi : ∀ a b, R a b → hi b = true → hi a = true) :
    L.filter (fun x => lo x && hi x) = (L.dropWhile (fun x => !lo x)).takeWhile hi := by
  rw [← filter_eq_dropWhile hs hlo, ← filter_eq_takeWhile (hs.sublist List.filter_sublist) hhi, List.filter_filter]
  simp only [Bool.and_comm]

def dcmp (cmp : K → K → Int) (fwd : Bool) : K → K → Int := fun a b => if fwd then cmp a b else cmp b a

theorem dcmp_strictWeak (hs : StrictWeak cmp) (fwd : Bool) : StrictWeak (dcmp cmp fwd) := by
  cases fwd
  · exact hs.flip
  · exact hs

theorem dlist_sorted {L : List (K × V)} (h : Sorted cmp L) (fwd : Bool) : Sorted (dcmp cmp fwd) (dlist L fwd) := by
  cases fwd
  · exact List.pairwise_reverse.mpr h
  · exact h

theorem mem_dlist {L : List (K × V)} {fwd : Bool} {x : K × V} : x ∈ dlist L fwd ↔ x ∈ L := by
  cases fwd <;> simp [dlist]

theorem split_bounds (hc : StrictWeak cmp) {k : K} {B A : List (K × V)} {e : K × V}
    (hs : Sorted cmp (B ++ e :: A)) (he : cmp k e.1 = 0) :
    (∀ b ∈ B, 0 < cmp k b.1) ∧ ∀ a ∈ A, cmp k a.1 < 0 :=
  ⟨below_sep hc hs he,
    fun a ha => hc.lt_of_eq_of_lt he ((List.pairwise_cons.mp (List.pairwise_append.mp hs).2.1).1 a ha)⟩

theorem all_above_of_startsAbove (hc : StrictWeak cmp) {k : K} {A : List (K × V)} (hs : Sorted cmp A)
    (h : StartsAbove cmp k A) : ∀ a ∈ A, cmp k a.1 < 0 := by
  cases A with
  | nil => intro a ha; cases ha
  | cons x A =>
    have hx : cmp k x.1 < 0 := h x (by simp)
    intro a ha
    rcases List.mem_cons.mp ha with rfl | ha
    · exact hx
    · exact hc.lt_trans hx ((List.pairwise_cons.mp hs).1 a ha)

theorem head_dropWhile_le {c : K → K → Int} (hc : StrictWeak c) {q : K → Bool} {D : List (K × V)} (hD : Sorted c D)
    {x : K × V} (hx : x ∈ D) (hqx : q x.1 = true) :
    ∃ h, (D.dropWhile (fun y => !q y.1)).head? = some h ∧ c h.1 x.1 ≤ 0 := by
  -- `x` is not among the dropped entries, and what is kept is sorted
  rw [← List.takeWhile_append_dropWhile (p := fun y : K × V => !q y.1) (l := D)] at hx
  have hx' := (List.mem_append.mp hx).resolve_left fun hb => by
    simpa [hqx] using List.all_eq_true.mp List.all_takeWhile x hb
  have hS := List.Pairwise.sublist (List.dropWhile_sublist fun y : K × V => !q y.1) hD
  cases hd : D.dropWhile (fun y => !q y.1) with
  | nil => rw [hd] at hx'; cases hx'
  | cons a S =>
    rw [hd] at hx' hS
    refine ⟨a, rfl, ?_⟩
    rcases List.mem_cons.mp hx' with rfl | hx'
    · have := hc.refl x.1; omega
    · have := (List.pairwise_cons.mp hS).1 x hx'; omega

theorem evalOp_congr (hs : StrictWeak cmp) (op : CmpOp) {a b c : K} (h : cmp a b = 0) :
    evalOp op (cmp a c) = evalOp op (cmp b c) := by
  have hba := hs.eq_symm h
  have h1 : cmp a c < 0 ↔ cmp b c < 0 :=
    ⟨fun x => hs.lt_of_eq_of_lt hba x, fun x => hs.lt_of_eq_of_lt h x⟩
  have h2 : 0 < cmp a c ↔ 0 < cmp b c :=
    ⟨fun x => hs.gt_of_eq_of_gt hba x, fun x => hs.gt_of_eq_of_gt h x⟩
  cases op <;> simp only [evalOp, decide_eq_decide] <;> omega

def aboveLo (cmp : K → K → Int) (lo : Bound K) (x : K) : Bool :=
  match lo.kind with
  | some .incl => decide (0 ≤ cmp x lo.key)
  | some .excl => decide (0 < cmp x lo.key)
  | _ => true

def belowHi (cmp : K → K → Int) (hi : Bound K) (x : K) : Bool :=
  match hi.kind with
  | some .incl => decide (cmp x hi.key ≤ 0)
  | some .excl => decide (cmp x hi.key < 0)
  | _ => true

/-- the entries inside the bounds, in ascending order -/
def srange (cmp : K → K → Int) (lo hi : Bound K) (L : List (K × V)) : List (K × V) :=
  L.filter fun e => aboveLo cmp lo e.1 && belowHi cmp hi e.1

theorem aboveLo_mono (hc : StrictWeak cmp) (lo : Bound K) {a b : K} (h : cmp a b ≤ 0) (ha : aboveLo cmp lo a = true) :
    aboveLo cmp lo b = true := by
  unfold aboveLo at ha ⊢
  split
  · rename_i hk; simp only [hk, decide_eq_true_eq] at ha ⊢
    by_cases hb : cmp b lo.key < 0
    · have := hc.lt_of_le_of_lt h hb; omega
    · omega
  · rename_i hk; simp only [hk, decide_eq_true_eq] at ha ⊢
    exact (hc.anti _ _).mp (hc.lt_of_lt_of_le ((hc.anti _ _).mpr ha) h)
  · rfl

theorem belowHi_mono (hc : StrictWeak cmp) (hi : Bound K) {a b : K} (h : cmp a b ≤ 0) (hb : belowHi cmp hi b = true) :
    belowHi cmp hi a = true := by
  unfold belowHi at hb ⊢
  split
  · rename_i hk; simp only [hk, decide_eq_true_eq] at hb ⊢
    exact hc.le_trans _ _ _ h hb
  · rename_i hk; simp only [hk, decide_eq_true_eq] at hb ⊢
    exact hc.lt_of_le_of_lt h hb
  · rfl

/-- the near-bound predicate of an iterator -/
def nearFn (cmp : K → K → Int) (fwd : Bool) (lo hi : Bound K) (k : K) : Bool :=
  if fwd then aboveLo cmp lo k else belowHi cmp hi k

/-- the `While` predicate `Range` (fwd) / `RangeReverse` (bwd) installs for the far bound -/
def stopOf (fwd : Bool) (lo hi : Bound K) : Option (CmpOp × K) :=
  if fwd then
    match hi.kind with
    | some .incl => some (.le, hi.key)
    | some .excl => some (.lt, hi.key)
    | _ => none
  else
    match lo.kind with
    | some .incl => some (.ge, lo.key)
    | some .excl => some (.gt, lo.key)
    | _ => none

/-- the entries from the near bound on, in iteration order -/
def startOf (cmp : K → K → Int) (L : List (K × V)) (fwd : Bool) (lo hi : Bound K) : List (K × V) :=
  if fwd then L.dropWhile (fun x => !aboveLo cmp lo x.1)
  else L.reverse.dropWhile (fun x => !belowHi cmp hi x.1)

theorem startOf_eq (cmp : K → K → Int) (L : List (K × V)) (fwd : Bool) (lo hi : Bound K) :
    startOf cmp L fwd lo hi = (dlist L fwd).dropWhile fun y => !nearFn cmp fwd lo hi y.1 := by
  cases fwd <;> simp [startOf, dlist, nearFn]

theorem keepFn_stopOf (cmp : K → K → Int) (fwd : Bool) (lo hi : Bound K) (k : K) :
    keepFn cmp (stopOf fwd lo hi) k = nearFn cmp (!fwd) lo hi k := by
  cases fwd
  · show keepFn cmp (stopOf false lo hi) k = aboveLo cmp lo k
    unfold stopOf aboveLo keepFn
    cases lo.kind with
    | none => rfl
    | some bk => cases bk <;> simp [evalOp, ge_iff_le, gt_iff_lt]
  · show keepFn cmp (stopOf true lo hi) k = belowHi cmp hi k
    unfold stopOf belowHi keepFn
    cases hi.kind with
    | none => rfl
    | some bk => cases bk <;> simp [evalOp]

theorem near_mono (hs : StrictWeak cmp) (fwd : Bool) (lo hi : Bound K) :
    ∀ a b, dcmp cmp fwd a b ≤ 0 → nearFn cmp fwd lo hi a = true → nearFn cmp fwd lo hi b = true := by
  intro a b h ha
  cases fwd
  · exact belowHi_mono hs hi (by simpa [dcmp] using h) ha
  · exact aboveLo_mono hs lo (by simpa [dcmp] using h) ha

theorem keep_mono (hs : StrictWeak cmp) (fwd : Bool) (lo hi : Bound K) :
    ∀ a b, dcmp cmp fwd a b < 0 → keepFn cmp (stopOf fwd lo hi) b = true → keepFn cmp (stopOf fwd lo hi) a = true := by
  intro a b h hb
  rw [keepFn_stopOf] at hb ⊢
  cases fwd
  · exact aboveLo_mono hs lo (by simpa [dcmp] using Int.le_of_lt h) hb
  · exact belowHi_mono hs hi (by simpa [dcmp] using Int.le_of_lt h) hb

/-- the kind of bound a seek stands for -/
def skKind : SeekKind → BoundKind
  | .first | .last => .unb
  | .ge | .le => .incl
  | .gt | .lt => .excl

/-- a seek steps over exactly the keys outside the bound it stands for (the regenerated step tests against
`aboveLo` / `belowHi`) -/
theorem nearOf_eq (hc : StrictWeak cmp) (sk : SeekKind) (b : Bound K) (hk : b.kind = some (skKind sk)) (x : K) :
    TreeAccess.nearOf cmp sk b.key x = nearFn cmp (TreeAccess.skFwd sk) b b x := by
  have h1 := hc.anti x b.key
  have h2 := hc.anti b.key x
  rw [Bool.eq_iff_iff]
  cases sk <;>
    simp only [TreeAccess.nearOf, TreeAccess.skFwd, skKind, nearFn, aboveLo, belowHi, hk, if_true, Bool.false_eq_true, if_false,
      seekFirstGreaterOrEqualStep, seekFirstGreaterStep, seekLastLessOrEqualStep, seekLastLessStep, Bool.not_eq_true',
      decide_eq_false_iff_not, decide_eq_true_eq] <;> omega

theorem nearOf_mono (hc : StrictWeak cmp) (sk : SeekKind) (key : K) (a b : K) (h : dcmp cmp (TreeAccess.skFwd sk) a b < 0) :
    TreeAccess.nearOf cmp sk key a = true → TreeAccess.nearOf cmp sk key b = true := by
  have e : ∀ x, TreeAccess.nearOf cmp sk key x = _ := nearOf_eq hc sk ⟨some (skKind sk), key⟩ rfl
  rw [e a, e b]
  exact near_mono hc _ _ _ a b (Int.le_of_lt h)

/-- everything a seek leaves ahead of the cursor is inside its near bound -/
theorem doSeek_near (hc : StrictWeak cmp) {L : List (K × V)} (hL : Sorted cmp L) (sk : SeekKind) (key : K) :
    ∀ e ∈ (dlist L (TreeAccess.skFwd sk)).dropWhile (fun x => !TreeAccess.nearOf cmp sk key x.1), TreeAccess.nearOf cmp sk key e.1 = true :=
  all_dropWhile_not (p := fun x : K × V => TreeAccess.nearOf cmp sk key x.1) (dlist_sorted hL _)
    fun a b h => nearOf_mono hc sk key a.1 b.1 h

theorem srange_dlist (hs : StrictWeak cmp) {L : List (K × V)} (hL : Sorted cmp L) (fwd : Bool) (lo hi : Bound K) :
    dlist (srange cmp lo hi L) fwd =
      (startOf cmp L fwd lo hi).takeWhile fun e => keepFn cmp (stopOf fwd lo hi) e.1 := by
  have h1 : dlist (srange cmp lo hi L) fwd =
      (dlist L fwd).filter fun e => nearFn cmp fwd lo hi e.1 && keepFn cmp (stopOf fwd lo hi) e.1 := by
    cases fwd <;> simp [dlist, srange, nearFn, keepFn_stopOf, List.filter_reverse, Bool.and_comm]
  rw [h1, startOf_eq]
  exact filter_range_sorted (lo := fun e : K × V => nearFn cmp fwd lo hi e.1) (dlist_sorted hL fwd)
    (fun a b h => near_mono hs fwd lo hi a.1 b.1 (Int.le_of_lt h)) (fun a b h => keep_mono hs fwd lo hi a.1 b.1 h)

/-- the entries with key `≥ k`, ascending -/
def geS (cmp : K → K → Int) (k : K) (L : List (K × V)) : List (K × V) :=
  L.dropWhile fun x => seekFirstGreaterOrEqualStep (cmp k x.1)

/-- the entries with key `≤ k`, descending -/
def leS (cmp : K → K → Int) (k : K) (L : List (K × V)) : List (K × V) :=
  L.reverse.dropWhile fun x => seekLastLessOrEqualStep (cmp k x.1)

/-- the entries still ahead of resume key `k` in the current map -/
def ahead (cmp : K → K → Int) (L : List (K × V)) (fwd : Bool) (k : K) : List (K × V) :=
  if fwd then geS cmp k L else leS cmp k L

theorem ahead_eq (hs : StrictWeak cmp) (L : List (K × V)) (fwd : Bool) (k : K) :
    ahead cmp L fwd k = (dlist L fwd).dropWhile (fun x => decide (0 < dcmp cmp fwd k x.1)) := by
  cases fwd with
  | true => simp [ahead, geS, dlist, dcmp, seekFirstGreaterOrEqualStep]
  | false =>
    simp only [ahead, leS, dlist, dcmp, seekLastLessOrEqualStep, Bool.false_eq_true, if_false]
    congr 1; funext x
    have := hs.anti k x.1
    simp only [decide_eq_decide]; omega

theorem ahead_split (hs : StrictWeak cmp) (L : List (K × V)) (fwd : Bool) (k : K) :
    ∃ B, dlist L fwd = B ++ ahead cmp L fwd k ∧ (∀ b ∈ B, 0 < dcmp cmp fwd k b.1) ∧
      ∀ x ∈ (ahead cmp L fwd k).head?, dcmp cmp fwd k x.1 ≤ 0 := by
  rw [ahead_eq hs]
  refine ⟨(dlist L fwd).takeWhile _, List.takeWhile_append_dropWhile.symm,
    fun b hb => of_decide_eq_true (List.all_eq_true.mp List.all_takeWhile b hb), fun x hx => ?_⟩
  have := List.head?_dropWhile_not (fun x : K × V => decide (0 < dcmp cmp fwd k x.1)) (dlist L fwd)
  rw [Option.mem_def.mp hx] at this
  exact Int.not_lt.mp (of_decide_eq_false this)

end Juniper.Proofs.Tree
