import Juniper.Proofs.IterDen
import Juniper.Proofs.StreamComb
/-!
# Constructors and thin wrappers of `iterator` / `stream` (C07: every name of the property)

`Chan` (both packages, a closed channel holding a list: the sequential reading — the concurrent one is
`Props/C10Chan.lean`), `stream.FromIterator`, the `Compact` wrappers.
-/
namespace Juniper.Proofs.Sources
open Juniper.Model Juniper.Gen.Comb
open Juniper.Proofs.IterDen Juniper.Proofs.StreamDen
universe u v
variable {σ : Type u} {α : Type v}

theorem ichan_step_cons (a : α) (r : List α) (cl : Bool) :
    (Iter.chan (α := α)).step ⟨a :: r, cl⟩ = (.item a, ⟨r, cl⟩) := by
  simp [Iter.chan, itChanBody]

theorem ichan_step_nil : (Iter.chan (α := α)).step ⟨[], true⟩ = (.done, ⟨[], true⟩) := by
  simp [Iter.chan, itChanBody]

variable {soft : Stream.Err → Bool}

theorem schan_ctxOk (st : Stream.ChanSt α) : CtxOk (Stream.chan (α := α)) st := Or.inl (chan_step_expired st)

theorem schan_sden (l : List α) :
    SDen soft (Stream.chan (α := α)) (fun _ => 0) ⟨l, true⟩ (l.map fun a => (a, 0)) (.end_ 0) := by
  have _tie := Skeleton.Tie.stChan
  induction l with
  | nil =>
    have he : SEnded (Stream.chan (α := α)) ⟨[], true⟩ :=
      sended_of_inv (fun s => s = ⟨[], true⟩) (by
        intro s hs
        subst hs
        refine ⟨schan_ctxOk _, by rw [chan_step_live]; rfl, fun c => ?_⟩
        cases c
        · rw [chan_step_expired]
        · rw [chan_step_live]; rfl) rfl
    exact sden_of_ended (soft := soft) (cost := fun _ => 0) he (fun _ => rfl)
  | cons a l ih =>
    exact .item (cost := fun _ => 0) (s' := (⟨l, true⟩ : Stream.ChanSt α)) (schan_ctxOk _) (by rw [chan_step_live]) ih

theorem fromIterator_ctxOk (m : Iter.IM σ α) (s : σ) : CtxOk (Stream.fromIterator m) s := by
  left; rw [fromIterator_step]; rfl

theorem fromIterator_live (m : Iter.IM σ α) (s : σ) :
    (Stream.fromIterator m).step s true = match m.step s with
      | (.item a, s') => (.item a, s')
      | (.skip, s') => (.skip, s')
      | (.done, s') => (.end_, s') := by
  rw [fromIterator_step]; rfl

theorem fromIterator_afterS (m : Iter.IM σ α) (cs : List Bool) (s : σ) :
    ∃ n, afterS (Stream.fromIterator m) cs s = after m n s := by
  induction cs generalizing s with
  | nil => exact ⟨0, rfl⟩
  | cons c cs ih =>
    cases c with
    | false =>
      have : ((Stream.fromIterator m).step s false).2 = s := by rw [fromIterator_step]; rfl
      obtain ⟨n, hn⟩ := ih s
      exact ⟨n, by simp only [afterS, this]; exact hn⟩
    | true =>
      have : ((Stream.fromIterator m).step s true).2 = (m.step s).2 := by
        rw [fromIterator_live]
        rcases m.step s with ⟨r, s'⟩
        cases r <;> rfl
      obtain ⟨n, hn⟩ := ih (m.step s).2
      exact ⟨n + 1, by simp only [afterS, this, after]; exact hn⟩

theorem fromIterator_sended {m : Iter.IM σ α} {s : σ} (he : Ended m s) : SEnded (Stream.fromIterator m) s := by
  intro cs
  obtain ⟨n, hn⟩ := fromIterator_afterS m cs s
  rw [hn]
  refine ⟨fromIterator_ctxOk m _, ?_⟩
  have := he n
  rw [fromIterator_live]
  rcases hx : m.step (after m n s) with ⟨r, s'⟩
  rw [hx] at this
  simp only at this
  subst this
  rfl

theorem fromIterator_sden {m : Iter.IM σ α} {cost : σ → Nat} {s : σ} {L : List (α × Nat)} {e : Nat}
    (h : Den m cost s L e) : SDen soft (Stream.fromIterator m) cost s L (.end_ e) := by
  have _tie := Skeleton.Tie.stFromIter
  induction h with
  | @skip s s' L e hs _ ih =>
    exact .skip (fromIterator_ctxOk m s) (by rw [fromIterator_live, hs]) ih
  | @item s s' a L e hs _ ih =>
    exact .item (fromIterator_ctxOk m s) (by rw [fromIterator_live, hs]) ih
  | @done s s' hs he hc =>
    refine .done (fromIterator_ctxOk m s) (by rw [fromIterator_live, hs]) (fromIterator_sended he) ?_
    intro cs
    obtain ⟨n, hn⟩ := fromIterator_afterS m cs s'
    rw [hn]
    exact hc n

/-- `iterator.Compact(iter)` is `CompactFunc(iter, ==)`: the regenerated body applied to the model of `CompactFunc`; likewise `stream.Compact` below -/
theorem icompactEq_eq [DecidableEq α] (m : Iter.IM σ α) :
    Iter.compactEq m = Iter.compact (fun a b => decide (a = b)) m := by
  unfold Iter.compactEq itCompactW
  rfl

theorem scompactEq_eq [DecidableEq α] (m : Stream.SM σ α) :
    Stream.compactEq m = Stream.compact (fun a b => decide (a = b)) m := by
  unfold Stream.compactEq stCompactW
  rfl

end Juniper.Proofs.Sources
