import Juniper.Proofs.BatchBase
/-!
C11, the size invariant (`Batch` only: `full` is the generated `len(batch) >= batchSize`):
no batch ever exceeds `batchSize`. (That a batch flushed because it was full has exactly `batchSize` items follows in
`Props/C11` from this and `LogInv.delivered_full`.)
-/
namespace Juniper.Proofs.Batch
open Juniper.Model.Batch

theorem batchFull_nat (len n : Nat) : Gen.Batch.batchFull (len : Int) (n : Int) = decide (n ≤ len) := by
  simp only [Gen.Batch.batchFull, ge_iff_le, Int.ofNat_le]

/-- `cfg` is a `Batch` configuration with `batchSize = n ≥ 1`. -/
def SizeCfg (cfg : Cfg) (n : Nat) : Prop :=
  1 ≤ n ∧ ∀ b r, cfg.fullOK b r = true → r = decide (n ≤ b.length)

theorem sizeCfg_ofBatch (mw n : Nat) (hn : 1 ≤ n) : SizeCfg (Cfg.ofBatch mw n) n := by
  refine ⟨hn, ?_⟩
  intro b r h
  simp only [Cfg.ofBatch, batchFull_nat, beq_iff_eq] at h
  exact h

structure SizeInv (n : Nat) (s : State) : Prop where
  batch_le : s.batch.length ≤ n
  sel_lt : s.bpc = .sel → s.batch.length < n
  delivered_le : ∀ d ∈ s.delivered, d.items.length ≤ n


theorem sizeInv_step {cfg : Cfg} {s s' : State} {l : Label} {n : Nat} (hn : SizeCfg cfg n) (hi : SizeInv n s)
    (h : Step cfg s l s') : SizeInv n s' := by
  cases h with
  | prodSend v hp hb =>
    exact { hi with
      batch_le := by have := hi.sel_lt hb; simp only [List.length_append, List.length_singleton]; omega
      sel_lt := nofun }
  | fullNoFirstWaited hb hf | fullNoFirst hb hf | fullNoLater hb hf =>
    have hlt : ¬ n ≤ s.batch.length := of_decide_eq_false (hn.2 _ _ hf).symm
    exact { hi with sel_lt := fun _ => Nat.lt_of_not_le hlt }
  | fullYes | recvCClosedFlush | recvCClosedExit | recvTimer | flushAbort | batchExit | announceElapsed =>
    exact { hi with sel_lt := nofun }
  | deliver | deliverEnd =>
    exact ⟨Nat.zero_le n, fun _ => hn.1, forall_mem_snoc hi.delivered_le hi.batch_le⟩
  | _ => exact { hi with }

theorem sizeInv_reach {cfg : Cfg} {s : State} {n : Nat} (hn : SizeCfg cfg n) (h : Reach good cfg s) :
    SizeInv n s := by
  induction h with
  | init => have := hn.1; constructor <;> simp [init] <;> omega
  | step l hr hs ih => exact sizeInv_step hn ih (step_good hs)

end Juniper.Proofs.Batch
