import Juniper.Proofs.TreeHeapLinkDelete
/-!
# Linking the two B-tree models (C03): reachability

`Reach h j`: the node object `j` is reachable from `h.root` through non-nil child slots (all slots of
the fixed child arrays are followed, like the hook's walk). On related states the reachable objects are
exactly the nodes of the functional tree; hence an unlinked object (a tombstone of the heap model) is
not reachable, and every reachable object represents its node (live prefixes, everything else zero).
-/
namespace Juniper.Proofs.TreeHeapLink
open Juniper Juniper.Model.BTree Juniper.Model.BTreeSlotsOps Juniper.Proofs.Tree Juniper.Proofs.TreeSlotsOps

variable {K V : Type}

/-- reachable from the root through non-nil child slots -/
inductive Reach (h : Heap K V) : Nat → Prop
  | root : Reach h h.root
  | child {id c i : Nat} {x : SNode K V Nat} : Reach h id → h.get id = some x → x.kids[i]? = some (some c) → Reach h c

theorem slot_mem {a : Slots Nat} {cap : Nat} {l : List Nat} (hr : Rep a cap l) {i c : Nat} (h : a[i]? = some (some c)) :
    c ∈ l := by
  rcases Nat.lt_or_ge i l.length with hlt | hge
  · rw [hr.get_live hlt] at h
    simp only [Option.some.injEq] at h
    rw [← h]; exact List.getElem_mem hlt
  · rcases Nat.lt_or_ge i cap with hc | hc
    · rw [hr.get_tail hge hc] at h; simp at h
    · rw [List.getElem?_eq_none (by rw [hr.length]; exact hc)] at h; cases h

theorem reach_of_cnt {h : Heap K V} : ∀ (x : Node K V) {p : Option Nat}, Sub h.get p x → Reach h x.id →
    ∀ j, 0 < cnt j x → Reach h j := by
  intro x
  induction x using node_induct with
  | h id kvs kids ih =>
    intro p hs hroot j hj
    obtain ⟨sx, h1, h2, h3, h4⟩ := sub_mk.mp hs
    by_cases hid : id = j
    · subst hid; exact hroot
    · rw [cnt_mk] at hj
      simp only [hid, if_false, Nat.zero_add] at hj
      have := exists_child_index hj
      obtain ⟨i, c, hc, hcj⟩ := this
      have hcm := List.mem_of_getElem? hc
      obtain ⟨hil, rfl⟩ := List.getElem?_eq_some_iff.mp hc
      exact ih _ hcm (h4 _ hcm) (Reach.child hroot h1 (h3.hkids.get_live_map hil)) j hcj

theorem reach_iff {h : Heap K V} {t : Tree K V} (hrel : Rel h t) (j : Nat) : Reach h j ↔ 0 < cnt j t.root := by
  constructor
  · intro hr
    induction hr with
    | root => rw [hrel.root]; exact cnt_self t.root
    | child _ hx hslot ih =>
      obtain ⟨sy, ykvs, ykids, e1, e2, e4⟩ := Sub.at t.root hrel.sub _ ih
      rw [e1] at hx
      cases hx
      obtain ⟨d, hd, hde⟩ := List.mem_map.mp (slot_mem e2.hkids hslot)
      rw [← hde]; exact e4 d hd
  · intro hj
    exact reach_of_cnt t.root hrel.sub (by rw [← hrel.root]; exact Reach.root) j hj

theorem unreachable_of_none {h : Heap K V} {t : Tree K V} (hrel : Rel h t) {j : Nat} (hn : h.get j = none) : ¬ Reach h j := by
  intro hr
  have := Sub.present t.root hrel.sub j ((reach_iff hrel j).mp hr)
  rw [hn] at this
  cases this

theorem reachable_rep {h : Heap K V} {t : Tree K V} (hrel : Rel h t) {j : Nat} (hr : Reach h j) :
    ∃ x kvs kids, h.get j = some x ∧ NodeRep x kvs kids ∧ TailOK x := by
  obtain ⟨sy, ykvs, ykids, e1, e2, _⟩ := Sub.at t.root hrel.sub j ((reach_iff hrel j).mp hr)
  exact ⟨sy, ykvs, _, e1, e2, e2.tailOK⟩

end Juniper.Proofs.TreeHeapLink
