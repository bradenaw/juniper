import Juniper.Proofs.TreeDel
/-!
# Lookups: `Get`/`Contains`/`First`/`Last` against the sorted list; entries and height of a balanced tree (C01, C03)
-/
namespace Juniper.Proofs.Tree
open Juniper.Model.BTree Juniper.Gen.Tree

variable {K V : Type} {α : Type} {cmp : K → K → Int}

theorem lookup_refines (hc : StrictWeak cmp) (k : K) (x : Node K V) :
    ∀ h, Bal h x → Sorted cmp (toList x) → lookup cmp k x = sget cmp k (toList x) := by
  fun_induction lookup cmp k x with
  | case1 id kvs kids i hs =>
    intro h hb hsort
    obtain ⟨kv, hkv, he⟩ := (search_bounds cmp k kvs hs).2.2 rfl
    rw [toList_at_sep_self (bal_kids hb) hkv] at hsort ⊢
    rw [sget_at_sep hc hsort he, hkv]
  | case2 id kvs kids i hs hnone =>
    intro h hb hsort
    rcases bal_cases.mp hb with ⟨rfl, rfl⟩ | ⟨h', rfl, hlen, hall⟩
    · simp only [toList_leaf]; exact (leaf_sget cmp k kvs hs).symm
    · exact absurd hnone (bal_has_child hb (List.ne_nil_of_length_pos (by omega)) hs)
  | case3 id kvs kids i hs c hcc ih =>
    intro h hb hsort
    obtain ⟨h', rfl, hlen, hall, hbc, _⟩ := bal_child hb hcc
    obtain ⟨P, S, hP, hS, hsc, e0, _⟩ := at_child hc hlen hcc hs hsort
    rw [e0, sget_mid hP hS, ih h' hbc hsc]

theorem WF.lookup (hc : StrictWeak cmp) {t : Tree K V} (hw : WF cmp t) (k : K) :
    lookup cmp k t.root = sget cmp k (toList t.root) :=
  let ⟨h, hbal, _⟩ := hw.bal
  lookup_refines hc k t.root h hbal hw.sorted

/-- `lo` is the bound for the subtree's own root: `minKVs` for a child, 1 for the root of a tree -/
theorem length_toList_ge (x : Node K V) :
    ∀ h, Bal h x → ∀ lo : Nat, (lo : Int) ≤ x.n →
      (lo + 1) * (minKVs.toNat + 1) ^ h ≤ (toList x).length + 1 := by
  have hmin : (0 : Int) ≤ minKVs := by decide
  induction x using node_induct with
  | h id kvs kids ih =>
    intro h hb lo hlo
    simp only [node_n] at hlo
    rcases bal_cases.mp hb with ⟨rfl, rfl⟩ | ⟨h', rfl, hlen, hall⟩
    · simp only [toList_leaf, Nat.pow_zero, Nat.mul_one]; omega
    · -- every child contributes at least (minKVs+1)^(h'+1) - 1 entries, and there are n+1 ≥ lo+1 children
      have hchild : ∀ c ∈ kids, (minKVs.toNat + 1) ^ (h' + 1) ≤ (toList c).length + 1 := by
        intro c hc
        have := ih c hc h' (hall c hc).1 minKVs.toNat (by have := (hall c hc).2.1; omega)
        rw [Nat.pow_succ, Nat.mul_comm]; exact this
      have hlenI : ∀ (cs : List (Node K V)) (ks : List (K × V)), cs.length = ks.length + 1 →
          (∀ c ∈ cs, (minKVs.toNat + 1) ^ (h' + 1) ≤ (toList c).length + 1) →
          (ks.length + 1) * (minKVs.toNat + 1) ^ (h' + 1) ≤ (inorder (cs.map toList) ks).length + 1 := by
        intro cs
        induction cs with
        | nil => intro ks hl; simp at hl
        | cons c cs ihc =>
          intro ks hl hall'
          cases ks with
          | nil =>
            have : cs = [] := by simpa using hl
            subst this
            simp only [List.map_cons, List.map_nil, inorder, rest_nil_left, List.append_nil, List.length_nil, Nat.zero_add,
              Nat.one_mul]
            exact hall' c List.mem_cons_self
          | cons kv ks =>
            simp only [List.length_cons, Nat.add_right_cancel_iff] at hl
            cases cs with
            | nil => simp at hl
            | cons d ds =>
              have ih' := ihc ks (by simpa using hl) (fun c hc => hall' c (List.mem_cons_of_mem _ hc))
              have hc0 := hall' c List.mem_cons_self
              simp only [List.map_cons, inorder, rest, List.length_append, List.length_cons] at ih' ⊢
              rw [Nat.add_mul, Nat.one_mul]
              omega
      have hI := hlenI kids kvs hlen hchild
      rw [toList_mk]
      have hmono : (lo + 1) * (minKVs.toNat + 1) ^ (h' + 1) ≤ (kvs.length + 1) * (minKVs.toNat + 1) ^ (h' + 1) :=
        Nat.mul_le_mul_right _ (by omega)
      omega

theorem height_of_bal (x : Node K V) : ∀ h, Bal h x → height x = h := by
  induction x using node_induct with
  | h id kvs kids ih =>
    intro h hb
    rcases bal_cases.mp hb with ⟨rfl, rfl⟩ | ⟨h', rfl, hlen, hall⟩
    · simp [height]
    · cases kids with
      | nil => simp at hlen
      | cons c cs =>
        simp only [height]
        rw [ih c List.mem_cons_self h' (hall c List.mem_cons_self).1]

theorem BalTree.at_height {t : Tree K V} (hb : BalTree t) :
    Bal (height t.root) t.root ∧ t.root.n ≤ maxKVs ∧ (0 < height t.root → 1 ≤ t.root.n) := by
  obtain ⟨h, hbal, hmax, hroot⟩ := hb
  rw [height_of_bal t.root h hbal]
  exact ⟨hbal, hmax, hroot⟩

theorem height_pos_of_large {K V : Type} {cmp : K → K → Int} {t : Tree K V} (hw : WF cmp t)
    (hl : maxKVs < ((toList t.root).length : Int)) : 0 < height t.root := by
  obtain ⟨hbal, hmax, _⟩ := hw.bal.at_height
  cases hh : height t.root with
  | succ h => omega
  | zero =>
    exfalso
    rw [hh] at hbal
    cases hr : t.root with
    | mk id kvs kids =>
      rw [hr] at hbal hmax hl
      have := bal_zero.mp hbal
      subst this
      rw [toList_leaf] at hl
      simp only [node_n] at hmax
      omega

theorem toList_nil_of_root_n_zero {t : Tree K V} (hb : BalTree t) (h0 : t.root.n = 0) : toList t.root = [] := by
  obtain ⟨h, hbal, -, hroot⟩ := hb
  obtain ⟨⟨id, kvs, kids⟩, size, gen, nextId⟩ := t
  cases h with
  | succ h => have := hroot (Nat.succ_pos _); omega
  | zero =>
    obtain rfl : kids = [] := bal_zero.mp hbal
    obtain rfl : kvs = [] := by simpa [node_n] using h0
    exact toList_leaf id []

end Juniper.Proofs.Tree
