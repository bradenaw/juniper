import Juniper.Proofs.ParMapStreamData
/-! Inductive invariants of the MapStream LTS, the end: an error on its way to the errgroup is not lost, so a failure
is never swallowed; completeness (when `Next` reports the normal end, the source has ended, nothing failed and every
item taken from it has been yielded; `closed` means every goroutine of the errgroup has finished). `Inv` is the
conjunction of all the invariants, `Inv.*` what it says in the caller's terms. -/

namespace Juniper.Proofs.ParMap.S
open Juniper.Gen Juniper.Facts Juniper.Model.ParMap Juniper.Model.ParMap.Stream Juniper.Proofs.ParMap

def resIsErr : Res → Bool
  | .err _ => true
  | _ => false
/-- number of failures so far: calls of `f` that returned an error, plus the source's error -/
def nFail (s : St) : Nat := cnt (fun e => resIsErr e.2) s.fEnded + b2n s.srcErr.isSome
def isEnd : NextRes → Bool
  | .end => true
  | _ => false
def wHeldSome : WPc → Bool
  | .exiting (some _) => true
  | .egRet (some _) => true
  | _ => false
def dHeldSome : DPc → Bool
  | .exiting (some _) => true
  | .srcClosing (some _) => true
  | .egRet (some _) => true
  | _ => false

/-- an error is in the errgroup, or on its way there: held by the dispatcher or a worker that is returning it -/
def errPending (s : St) : Prop := s.egErr ≠ none ∨ dHeldSome s.disp = true ∨ 0 < cnt wHeldSome s.ws

/-- an error on its way is not lost: it travels `exiting → egRet → egErr` -/
theorem Step.errPending {cfg : Cfg} {s s' : St} {l : Label} (h : Step cfg s l s') (hp : errPending s) :
    errPending s' := by
  have kset : ∀ w a b, s.ws[w]? = some b → (wHeldSome b = true → wHeldSome a = true) →
      s.egErr ≠ none ∨ dHeldSome s.disp = true ∨ 0 < cnt wHeldSome (s.ws.set w a) :=
    fun w a b hw hm => hp.imp id (Or.imp id (fun h => Nat.lt_of_lt_of_le h (cnt_le_set hw hm)))
  cases h with
  | dPull hd | srcItem v hd | srcEnd hd | dTakeToken v hd hr =>
    exact hp.imp id (Or.imp (fun h => by rw [hd] at h; cases h) id)
  | srcErr k hd | dWaitCtx v hd hx | dSendCtx v hd hx => exact .inr (.inl rfl)
  | dCloseIn r hd | srcCloseRet r hd =>
    exact hp.imp id (Or.imp (fun h => by rw [hd] at h; cases r <;> first | rfl | cases h) id)
  | dEgDone r hd =>
    rcases hp with h | h | h
    · exact .inl (egRecord_egErr (.inl h))
    · rw [hd] at h; cases r with
      | none => cases h
      | some e => exact .inl (egRecord_egErr (.inr nofun))
    · exact .inr (.inr h)
  | dSend w v hd hw hin =>
    exact (kset w _ _ hw (fun h => by cases h)).imp id (Or.imp (fun h => by rw [hd] at h; cases h) id)
  | fOk w k v hw | wSendC w k v hw hc hcl | wExitIdle w hw hin => exact kset w _ _ hw (fun h => by cases h)
  | fErr w k e hw | wSendCtx w k v hw hx => exact .inr (.inr (cnt_set_pos hw rfl))
  | wDefer w r hw => exact kset w _ _ hw (fun h => by cases r <;> first | rfl | cases h)
  | wEgDone w r hw =>
    cases r with
    | none => exact (kset w _ _ hw (fun h => by cases h)).imp (fun h => egRecord_egErr (.inl h)) id
    | some e => exact .inl (egRecord_egErr (.inr nofun))
  | _ => exact hp

/-- a failure or a dropped result leaves a trace until every goroutine is done -/
structure TraceInv (cfg : Cfg) (s : St) : Prop where
  trace : 0 < nFail s ∨ s.dropped ≠ [] → errPending s

theorem traceInv_init (cfg : Cfg) : TraceInv cfg (Stream.init cfg) := ⟨by simp [Stream.init, nFail]⟩

theorem traceInv_step {cfg : Cfg} {s s' : St} {l : Label} (hi : TraceInv cfg s) (h : Step cfg s l s') : TraceInv cfg s' := by
  have kTrace := fun hp => h.errPending (hi.trace hp)
  cases h with
  | srcErr k hd => exact ⟨fun _ => .inr (.inl rfl)⟩
  | fOk w k v hw => exact ⟨fun hp => kTrace (by simpa [nFail, resIsErr] using hp)⟩
  | fErr w k e hw | wSendCtx w k v hw hx => exact ⟨fun _ => .inr (.inr (cnt_set_pos hw rfl))⟩
  | _ => exact ⟨kTrace⟩

theorem wHeldSome_le_wNotDone (ws : List WPc) : cnt wHeldSome ws ≤ cnt wNotDone ws := by
  apply cnt_mono
  intro x hx
  cases x <;> simp_all [wHeldSome, wNotDone]

theorem clean_of_done {cfg : Cfg} {s : St} (hShut : ShutdownInv cfg s) (hTrace : TraceInv cfg s) (he : s.egLive = 0)
    (hee : s.egErr = none) : nFail s = 0 ∧ s.dropped = [] := by
  have hdone := all_done_of_egLive hShut he
  have hno : ¬ errPending s := by
    rintro (h | h | h)
    · exact h hee
    · rw [hdone.1] at h; cases h
    · have := wHeldSome_le_wNotDone s.ws; omega
  refine ⟨Nat.eq_zero_of_not_pos fun hp => hno (hTrace.trace (.inl hp)), ?_⟩
  cases hdd : s.dropped with
  | nil => rfl
  | cons a l => exact absurd (hTrace.trace (.inr (by simp [hdd]))) hno

/-- completeness of a run that reaches the normal end, and what `closed` means -/
structure ComplInv (cfg : Cfg) (s : St) : Prop where
  nextWait : cNextWait s.cons = true → s.cClosed = true ∧ canYield cfg s = false ∧ s.c = []
  exitedClean : dExited s.disp = true → dHeldSome s.disp = false → (s.disp ≠ .done ∨ s.egErr = none) →
        s.srcEnded = true ∧ s.srcItems.length = s.dispI
  closed : cClosedP s.cons = true → s.egLive = 0

theorem complInv_init (cfg : Cfg) : ComplInv cfg (Stream.init cfg) := by
  refine ⟨?_, ?_, ?_⟩ <;> simp [Stream.init, cNextWait, dExited, cClosedP]

theorem dHeldSome_eqs : dHeldSome .pull = false ∧ dHeldSome .inNext = false ∧ (∀ v, dHeldSome (.waitReady v) = false) ∧
    (∀ v, dHeldSome (.sendIn v) = false) ∧ (∀ r, dHeldSome (.exiting r) = r.isSome) ∧
    (∀ r, dHeldSome (.srcClosing r) = r.isSome) ∧ (∀ r, dHeldSome (.egRet r) = r.isSome) ∧ dHeldSome .done = false := by
  refine ⟨rfl, rfl, fun _ => rfl, fun _ => rfl, ?_, ?_, ?_, rfl⟩ <;> intro r <;> cases r <;> rfl

theorem egRecord_egErr_none {s : St} {r : Option Err} (h : (egRecord s r).egErr = none) : s.egErr = none ∧ r = none := by
  cases r <;> cases he : s.egErr <;> simp_all [egRecord]

theorem complInv_step {cfg : Cfg} {s s' : St} {l : Label} (ha : CountInv cfg s) (hi : ComplInv cfg s)
    (h : Step cfg s l s') : ComplInv cfg s' := by
  obtain ⟨iNextWait, iExitedClean, iCloseCalled⟩ := hi
  -- the dispatcher keeps what it returned while it unwinds
  have kExitedClean : ∀ (r : Option Err) (d : DPc),
    s.disp = d → dExited d = true → (dHeldSome d = false ↔ r = none) → d ≠ .done → r = none →
      s.srcEnded = true ∧ s.srcItems.length = s.dispI :=
    fun r d hd he hh hn hr => iExitedClean (hd ▸ he) (hd ▸ hh.2 hr) (.inl (hd ▸ hn))
  have hr : ∀ r : Option Err, (r.isSome = false ↔ r = none) := fun r => by cases r <;> simp
  cases h with
  | dPull hd | srcItem v hd | dTakeToken v hd hr' | dSend w v hd hw hin => exact ⟨iNextWait, (fun h => by cases h),
    iCloseCalled⟩
  | srcErr k hd | dWaitCtx v hd hx | dSendCtx v hd hx => exact ⟨iNextWait, (fun _ h => by cases h), iCloseCalled⟩
  | srcEnd hd =>
    refine ⟨iNextWait, fun _ _ _ => ⟨rfl, ?_⟩, iCloseCalled⟩
    have hS := ha.taken
    simp only [hd, dHolding, dExited, b2n_false, Bool.false_eq_true, false_and, or_false, Nat.add_zero] at hS
    exact hS
  | dCloseIn r hd | srcCloseRet r hd =>
    refine ⟨iNextWait, fun _ h2 _ => kExitedClean r _ hd rfl ?_ nofun ?_, iCloseCalled⟩
    · simpa only [dHeldSome_eqs] using hr r
    · exact (hr r).1 (by simpa only [dHeldSome_eqs] using h2)
  | dEgDone r hd =>
    refine ⟨iNextWait, fun _ _ h3 => ?_, fun h => by show s.egLive - 1 = 0; have := iCloseCalled h; omega⟩
    have he : (egRecord s r).egErr = none := h3.resolve_left (fun h => h rfl)
    have h0 := egRecord_egErr_none he
    exact iExitedClean (hd ▸ rfl) (hd ▸ h0.2 ▸ rfl) (.inr h0.1)
  | wSendC w k v hw hc hcl =>
    exact ⟨(fun h => by have := (iNextWait h).1; rw [hcl] at this; cases this), iExitedClean, iCloseCalled⟩
  | wDefer w r hw => exact ⟨fun h => have ⟨a, b⟩ := iNextWait h; ⟨by rw [a]; rfl, b⟩, iExitedClean, iCloseCalled⟩
  | wEgDone w r hw =>
    exact ⟨iNextWait, fun h1 h2 h3 => iExitedClean h1 h2 (h3.imp id (fun h => (egRecord_egErr_none h).1)),
      fun h => by show s.egLive - 1 = 0; have := iCloseCalled h; omega⟩
  | nextCall live hc | consCtxExpire hc | cYield live k v hc hy hf | cRelease k v hc hr' | cCtx hc hy
  | cWaitErr e hc hl he | cWaitEnd hc hl he | closeCall hc =>
    exact ⟨(fun h => by cases h), iExitedClean, (fun h => by cases h)⟩
  | cRecv live kv rest hc hcs hy => exact ⟨(fun h => by rw [hc] at h; cases h), iExitedClean, iCloseCalled⟩
  | cRecvClosed live hc hcs hy hcl => exact ⟨fun _ => ⟨hcl, hy, hcs⟩, iExitedClean, (fun h => by cases h)⟩
  | cCloseDone hc hl => exact ⟨(fun h => by cases h), iExitedClean, fun _ => hl⟩
  | _ => exact ⟨iNextWait, iExitedClean, iCloseCalled⟩

theorem wHolds_le_wNotDone (k : Nat) (ws : List WPc) : cnt (wHolds k) ws ≤ cnt wNotDone ws := by
  apply cnt_mono; intro x hx; cases x <;> simp_all [wHolds, wNotDone]

/-- the state after `Next` has reported the normal end: everything taken from the source has been yielded, every
goroutine of the errgroup is done, nothing is on its way to the consumer, nothing failed -/
structure AfterEnd (cfg : Cfg) (s : St) : Prop where
  yieldedAll : s.i = s.dispI
  takenAll : s.srcItems.length = s.dispI
  srcEnded : s.srcEnded = true
  notReleasing : cReleasing s.cons = false
  egDone : s.egLive = 0
  cEmpty : s.c = []
  noYield : canYield cfg s = false
  noFail : nFail s = 0

structure EndInv (cfg : Cfg) (s : St) : Prop where
  afterEnd : 0 < cnt isEnd s.results → AfterEnd cfg s

theorem endInv_init (cfg : Cfg) : EndInv cfg (Stream.init cfg) := ⟨by simp [Stream.init]⟩

theorem end_facts {cfg : Cfg} (hs : cfg.code.Sound) {s : St} (hShut : ShutdownInv cfg s) (hPlaced : PlaceInv cfg s)
    (hTrace : TraceInv cfg s) (hCompl : ComplInv cfg s) (hcons : s.cons = .nextWait) (he : s.egLive = 0)
    (hee : s.egErr = none) :
    s.i = s.dispI ∧ s.srcItems.length = s.dispI ∧ s.srcEnded = true ∧ s.c = [] ∧ canYield cfg s = false := by
  have ⟨_, hy, hc⟩ := hCompl.nextWait (by simp [hcons, cNextWait])
  have hdone := all_done_of_egLive hShut he
  have ⟨hse, hlen⟩ := hCompl.exitedClean (by simp [hdone.1, dExited]) (by simp [hdone.1, dHeldSome]) (Or.inr hee)
  have hdr := (clean_of_done hShut hTrace he hee).2
  have hle := hPlaced.i_le
  have hi : s.i = s.dispI := by
    by_cases hlt : s.i < s.dispI
    · exfalso
      have := canYield_of_gap hs hPlaced (fun k => by have := wHolds_le_wNotDone k s.ws; omega) hc hdr hlt
      simp [hy] at this
    · omega
  exact ⟨hi, hlen, hse, hc, hy⟩

theorem endInv_step {cfg : Cfg} (hs : cfg.code.Sound) {s s' : St} {l : Label} (hShut : ShutdownInv cfg s)
    (hPlaced : PlaceInv cfg s) (hTrace : TraceInv cfg s) (hCompl : ComplInv cfg s) (hi : EndInv cfg s)
    (h : Step cfg s l s') : EndInv cfg s' := by
  have iE := hi.afterEnd
  -- after the end every goroutine of the errgroup is done: only the consumer moves, and it finds nothing to take
  have hq := fun hp => all_done_of_egLive hShut (iE hp).egDone
  have noD : ∀ d, s.disp = d → dNotDone d = true → ∀ {p : Prop}, 0 < cnt isEnd s.results → p :=
    fun d hd hn _ hp => by rw [← hd, (hq hp).1] at hn; cases hn
  have noW : ∀ w pc, s.ws[w]? = some pc → wNotDone pc = true → ∀ {p : Prop}, 0 < cnt isEnd s.results → p :=
    fun w pc hw hn _ hp => by have := cnt_ge wNotDone hw; rw [hn, (hq hp).2] at this; cases this
  have kres : ∀ r, isEnd r = false → 0 < cnt isEnd (s.results ++ [r]) → 0 < cnt isEnd s.results :=
    fun r hr hp => by rw [cnt_snoc, hr] at hp; exact hp
  cases h with
  | cWaitEnd hc hl he =>
    have ⟨h1, h2, h3, h4, h5⟩ := end_facts hs hShut hPlaced hTrace hCompl hc hl he
    exact ⟨fun _ => ⟨h1, h2, h3, rfl, hl, h4, h5, (clean_of_done hShut hTrace hl he).1⟩⟩
  | dPull hd | srcItem v hd | srcEnd hd | srcErr k hd | dTakeToken v hd hr | dWaitCtx v hd hx | dSend w v hd hw hin
  | dSendCtx v hd hx | dCloseIn r hd | srcCloseRet r hd | dEgDone r hd => exact ⟨noD _ hd rfl⟩
  | fOk w k v hw | fErr w k e hw | wSendC w k v hw hc hcl | wSendCtx w k v hw hx | wExitIdle w hw hin
  | wDefer w r hw | wEgDone w r hw => exact ⟨noW _ _ hw rfl⟩
  | nextCall live hc | consCtxExpire hc | cRecvClosed live hc hcs hy hcl | closeCall hc | cCloseDone hc hl =>
    exact ⟨fun hp => { iE hp with notReleasing := rfl }⟩
  | cCtx hc hy | cWaitErr e hc hl he =>
    exact ⟨fun hp => { iE (kres _ rfl hp) with notReleasing := rfl }⟩
  | cYield live k v hc hy hf =>
    refine ⟨fun hp => ?_⟩
    have h7 := (iE hp).noYield; rw [hy] at h7; cases h7
  | cRelease k v hc hr =>
    refine ⟨fun hp => ?_⟩
    have h4 := (iE (kres _ rfl hp)).notReleasing; rw [hc] at h4; cases h4
  | cRecv live kv rest hc hcs hy =>
    refine ⟨fun hp => ?_⟩
    have h6 := (iE hp).cEmpty; rw [hcs] at h6; cases h6
  | parentCancel hp => exact ⟨fun hp => { iE hp with }⟩

structure Inv (cfg : Cfg) (s : St) : Prop where
  count : CountInv cfg s
  shutdown : ShutdownInv cfg s
  exits : ExitInv cfg s
  placed : PlaceInv cfg s
  values : ValueInv cfg s
  errs : ErrInv cfg s
  traced : TraceInv cfg s
  srcLog : LogInv cfg s
  compl : ComplInv cfg s
  ends : EndInv cfg s

theorem inv {cfg : Cfg} (hs : cfg.code.Sound) (hg : 1 ≤ cfg.gmp) {s : St} (h : Reach cfg s) : Inv cfg s := by
  induction h with
  | init =>
    exact ⟨countInv_init cfg, shutdownInv_init cfg hs hg, exitInv_init cfg, placeInv_init cfg, valueInv_init cfg,
      errInv_init cfg, traceInv_init cfg, logInv_init cfg, complInv_init cfg, endInv_init cfg⟩
  | step _ hstep ih =>
    have h := Step.of_step hs hstep
    exact ⟨countInv_step ih.count h, shutdownInv_step hs hg ih.count ih.shutdown h, exitInv_step ih.exits h,
      placeInv_step hs ih.placed h, valueInv_step hs ih.count ih.values h, errInv_step ih.shutdown ih.errs h,
      traceInv_step ih.traced h, logInv_step ih.srcLog h, complInv_step ih.count ih.compl h,
      endInv_step hs ih.shutdown ih.placed ih.traced ih.compl ih.ends h⟩

namespace Inv
variable {cfg : Cfg} {s : St} (h : Inv cfg s)
include h

theorem val_lt {k v : Nat} (hm : NextRes.val k v ∈ s.results) : k < s.i := by
  have := lt_of_numbered h.values.numbered hm rfl
  have := h.count.yielded
  omega

theorem dispI_le_srcItems : s.dispI ≤ s.srcItems.length := by
  by_cases h0 : s.dispI = 0
  · omega
  · have hQ := h.placed.begun (s.dispI - 1)
    simp [(by omega : s.dispI - 1 < s.dispI)] at hQ
    obtain ⟨a, ha⟩ := mem_of_icnt_pos (by omega : 0 < icnt (s.dispI - 1) s.fBegun)
    have := h.values.begunOn _ _ ha
    by_cases hlt : s.dispI - 1 < s.srcItems.length
    · omega
    · rw [List.getElem?_eq_none (by omega)] at this; cases this

theorem ended_once {k : Nat} {r : Res} (hm : (k, r) ∈ s.fEnded) :
    ecnt k s.fEnded = 1 ∧ ∃ a, (k, a) ∈ s.fBegun ∧ s.srcItems[k]? = some a :=
  have ⟨h1, a, ha⟩ := h.placed.of_ended (k := k) (cnt_fst_pos hm)
  ⟨h1, a, ha, h.values.begunOn k a ha⟩

theorem failed_ge {k e : Nat} (hm : (k, Res.err e) ∈ s.fEnded) : s.i ≤ k :=
  (h.placed.of_pending (k := k) (by have := h.values.failed_dropped k e hm; omega)).1

theorem of_end (hend : NextRes.end ∈ s.results) :
    s.srcEnded = true ∧ nFail s = 0 ∧ cnt isVal s.results = s.srcItems.length := by
  have hpos : 0 < cnt isEnd s.results := List.countP_pos_iff.2 ⟨_, hend, rfl⟩
  have he := h.ends.afterEnd hpos
  have hY := h.count.yielded
  simp [he.notReleasing] at hY
  exact ⟨he.srcEnded, he.noFail, by have := he.yieldedAll; have := he.takenAll; omega⟩

end Inv

end Juniper.Proofs.ParMap.S
