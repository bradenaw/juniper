import Juniper.Proofs.TreeGet
/-!
# Histories: every sequence of operations from the empty tree (C01, C03)
-/
namespace Juniper.Proofs.Tree
open Juniper.Model.BTree Juniper.Gen.Tree

variable {K V : Type} {cmp : K → K → Int}

/-- the invariant of every reachable tree -/
structure Inv (cmp : K → K → Int) (t : Tree K V) : Prop where
  wf : WF cmp t
  ids : IdsOK t

theorem inv_empty (cmp : K → K → Int) : Inv cmp (Tree.empty : Tree K V) :=
  ⟨wf_empty cmp, by simp [IdsOK, Tree.empty, ids]⟩

theorem inv_put (hc : StrictWeak cmp) (t : Tree K V) (k : K) (v : V) (hi : Inv cmp t) :
    ∃ t', put cmp t k v = some t' ∧ Inv cmp t' ∧ toList t'.root = sput cmp k v (toList t.root) := by
  obtain ⟨t', h1, h2, h3, h4⟩ := put_refines_wf hc t k v hi.wf
  exact ⟨t', h1, ⟨h2, h4 hi.ids⟩, h3⟩

theorem inv_delete (hc : StrictWeak cmp) (t : Tree K V) (k : K) (hi : Inv cmp t) :
    ∃ t', delete cmp t k = some t' ∧ Inv cmp t' ∧ toList t'.root = serase cmp k (toList t.root) := by
  obtain ⟨t', h1, h2, h3, h4⟩ := delete_refines_wf hc t k hi.wf hi.ids.1
  exact ⟨t', h1, ⟨h2, h4 hi.ids⟩, h3⟩

inductive Mut (K V : Type) where
  | put (k : K) (v : V)
  | del (k : K)

def applyMut (cmp : K → K → Int) (t : Tree K V) : Mut K V → Option (Tree K V)
  | .put k v => put cmp t k v
  | .del k => delete cmp t k

def specMut (cmp : K → K → Int) (l : List (K × V)) : Mut K V → List (K × V)
  | .put k v => sput cmp k v l
  | .del k => serase cmp k l

def runMuts (cmp : K → K → Int) : Tree K V → List (Mut K V) → Option (Tree K V)
  | t, [] => some t
  | t, m :: ms => match applyMut cmp t m with
    | none => none
    | some t' => runMuts cmp t' ms

theorem inv_applyMut (hc : StrictWeak cmp) (t : Tree K V) (m : Mut K V) (hi : Inv cmp t) :
    ∃ t', applyMut cmp t m = some t' ∧ Inv cmp t' ∧ toList t'.root = specMut cmp (toList t.root) m := by
  cases m with
  | put k v => exact inv_put hc t k v hi
  | del k => exact inv_delete hc t k hi

theorem inv_runMuts (hc : StrictWeak cmp) (ms : List (Mut K V)) :
    ∀ t : Tree K V, Inv cmp t →
      ∃ t', runMuts cmp t ms = some t' ∧ Inv cmp t' ∧ toList t'.root = ms.foldl (specMut cmp) (toList t.root) := by
  induction ms with
  | nil => intro t hi; exact ⟨t, rfl, hi, rfl⟩
  | cons m ms ih =>
    intro t hi
    obtain ⟨t1, h1, h2, h3⟩ := inv_applyMut hc t m hi
    obtain ⟨t', h4, h5, h6⟩ := ih t1 h2
    refine ⟨t', ?_, h5, ?_⟩
    · simp only [runMuts, h1]; exact h4
    · simp only [List.foldl_cons]; rw [← h3]; exact h6

end Juniper.Proofs.Tree
