import Juniper.Proofs.IterReduce
import Juniper.Proofs.Ring
/-! # `iterator.Last` (C07, D3): the ring buffer with the regenerated index arithmetic returns the last `n` items -/
namespace Juniper.Proofs.IterDen
open Juniper.Model.Iter Juniper.Spec Juniper.Gen.Comb Juniper.Proofs
universe u v
variable {σ : Type u} {α : Type v}

/-- `lastStore` / `lastFinish` are the ring on Go's `int`s (`Ring.storeGo`, `Ring.finishGo`) with the
regenerated guards, slot and slice bounds of `iterator.Last` in place of its arithmetic -/
theorem it_lastStore (buf : List (Option α)) (i n : Nat) (a : α) :
    lastStore buf (i : Int) (n : Int) a = some (Ring.store n buf i a) :=
  (rfl : lastStore buf (i : Int) (n : Int) a = Ring.storeGo buf i n a).trans (Ring.storeGo_eq buf i n a)

theorem it_lastFinish (buf : List (Option α)) (i n : Nat) (hb : buf.length = n) :
    lastFinish buf (i : Int) (n : Int) = .ok (Ring.finish n buf i) :=
  (rfl : lastFinish buf (i : Int) (n : Int) = Ring.finishGo .ok .panic buf i n).trans
    (Ring.finishGo_eq _ _ buf i n hb)

theorem lastLoop_succ (m : IM σ α) (n : Int) (fuel : Nat) (buf : List (Option α)) (i : Int) (s : σ) :
    lastLoop m n (fuel + 1) buf i s = match m.step s with
      | (.item a, s') =>
        (match lastStore buf i n a with
        | none => (.panic, s')
        | some buf' => lastLoop m n fuel buf' (if itLastCounts then i + 1 else i) s')
      | (.skip, s') => lastLoop m n fuel buf i s'
      | (.done, s') => (.ok (buf, i), s') := rfl

theorem lastLoop_run {m : IM σ α} {cost : σ → Nat} {s : σ} {L : List (α × Nat)} {e : Nat} (n : Nat)
    (h : Den m cost s L e) :
    Enough fun fuel => ∀ (buf : List (Option α)) (i : Nat), ∃ s',
      lastLoop m (n : Int) fuel buf (i : Int) s =
        (.ok (Ring.run n buf i (L.map Prod.fst), ((i + L.length : Nat) : Int)), s') ∧ cost s' = e := by
  induction h with
  | skip hs _ ih => exact (ih.mono fun g hg buf i => by rw [lastLoop_succ, hs]; exact hg buf i).succ
  | @item s s' a L e hs _ ih =>
    refine (ih.mono fun g hg buf i => ?_).succ
    obtain ⟨s1, h1, hc⟩ := hg (Ring.store n buf i a) (i + 1)
    refine ⟨s1, ?_, hc⟩
    rw [lastLoop_succ, hs]
    simp only [it_lastStore, itLastCounts, if_true]
    rw [show ((i : Int) + 1) = ((i + 1 : Nat) : Int) by omega, h1]
    simp only [List.map_cons, Ring.run, List.length_cons]
    congr 4
    omega
  | done hs _ _ => exact .of_succ fun g buf i => ⟨_, by rw [lastLoop_succ, hs]; simp [Ring.run], rfl⟩

theorem last_run {m : IM σ α} {cost : σ → Nat} {s : σ} {L : List (α × Nat)} {e : Nat} (n : Nat)
    (h : Den m cost s L e) :
    Enough fun fuel => (last m (n : Int) fuel s).1 = .ok ((Seq.lastN n (L.map Prod.fst)).map some) ∧
      cost (last m (n : Int) fuel s).2 = e := by
  have _tie := Skeleton.Tie.itLast
  refine (lastLoop_run n h).mono fun fuel hF => ?_
  obtain ⟨s', h1, hc⟩ := hF (List.replicate n none) 0
  have hn : ¬ ((n : Int) < 0) := by omega
  rw [show ((0 : Nat) : Int) = 0 from rfl] at h1
  simp only [last, hn, if_false, Int.toNat_natCast, h1, Nat.zero_add]
  rw [it_lastFinish _ _ _ (by rw [Ring.run_length]; simp)]
  have := Ring.run_finish n (L.map Prod.fst)
  rw [List.length_map] at this
  rw [this]
  exact ⟨rfl, hc⟩

end Juniper.Proofs.IterDen
