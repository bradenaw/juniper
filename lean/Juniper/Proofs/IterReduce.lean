import Juniper.Proofs.IterComb
/-!
# Reducers of `iterator.go` (C07): Reduce, Collect, One — value, state left behind and pull count
-/
namespace Juniper.Proofs.IterDen
open Juniper.Model.Iter Juniper.Spec Juniper.Gen.Comb
universe u v w
variable {σ : Type u} {α β : Type v}

theorem reduce_succ (m : IM σ α) (f : β → α → β) (fuel : Nat) (acc : β) (s : σ) :
    reduce m f (fuel + 1) acc s = match m.step s with
      | (.item a, s') => reduce m f fuel (f acc a) s'
      | (.skip, s') => reduce m f fuel acc s'
      | (.done, s') => (some acc, s') := rfl

theorem reduce_run {m : IM σ α} {cost : σ → Nat} {s : σ} {L : List (α × Nat)} {e : Nat} (f : β → α → β)
    (h : Den m cost s L e) :
    Enough fun fuel => ∀ acc, (reduce m f fuel acc s).1 = some ((L.map Prod.fst).foldl f acc) ∧
      Ended m (reduce m f fuel acc s).2 ∧ cost (reduce m f fuel acc s).2 = e := by
  have _tie := Skeleton.Tie.itReduce
  induction h with
  | skip hs _ ih => exact (ih.mono fun g hg acc => by rw [reduce_succ, hs]; exact hg acc).succ
  | item hs _ ih => exact (ih.mono fun g hg acc => by rw [reduce_succ, hs]; exact hg _).succ
  | done hs he _ => exact .of_succ fun g acc => by rw [reduce_succ, hs]; exact ⟨rfl, he, rfl⟩

theorem collect_den {m : IM σ α} {cost : σ → Nat} {s : σ} {L : List (α × Nat)} {e : Nat}
    (h : Den m cost s L e) : Enough fun fuel => (collect m fuel s).1 = some (L.map Prod.fst) := by
  have _tie := Skeleton.Tie.itCollect
  refine (reduce_run (fun (acc : List α) a => acc ++ [a]) h).mono fun fuel hF => ?_
  have := (hF []).1
  rwa [List.foldl_append_eq_append, ← List.flatMap_def, List.flatMap_singleton', List.nil_append] at this

/-- `One` with its two regenerated tests (`if !ok` after the first `Next`, `if ok` after the second) evaluated:
nothing or more than one item → `(zero, false)`; exactly one → that item -/
theorem one_eq (m : IM σ α) (fuel : Nat) (s : σ) :
    one m fuel s =
      match drive m fuel s with
      | (none, s') => (none, s')
      | (some none, s') => (some none, s')
      | (some (some x), s') =>
        match drive m fuel s' with
        | (none, s'') => (none, s'')
        | (some (some _), s'') => (some none, s'')
        | (some none, s'') => (some (some x), s'') := by
  unfold one
  rcases drive m fuel s with ⟨r, s1⟩
  cases r with
  | none => rfl
  | some r1 =>
    cases r1 with
    | none => simp
    | some x =>
      simp only [ValueFacts.itOneEmpty_eq, Option.isSome_some, Bool.not_true, Bool.false_eq_true, if_false]
      rcases drive m fuel s1 with ⟨r2, s2⟩
      cases r2 with
      | none => rfl
      | some r2 => cases r2 <;> simp

/-- what `One` costs: it stops after the second item -/
def oneCost : List (α × Nat) → Nat → Nat
  | [], e => e
  | [_], e => e
  | _ :: q :: _, _ => q.2

theorem oneCost_annot (l : List α) : oneCost (annot 0 l) l.length = min 2 l.length := by
  match l with
  | [] => rfl
  | [_] => rfl
  | _ :: _ :: r => simp [annot, oneCost]

theorem one_run {m : IM σ α} {cost : σ → Nat} {s : σ} {L : List (α × Nat)} {e : Nat} (h : Den m cost s L e) :
    Enough fun fuel => (one m fuel s).1 = some (match L.map Prod.fst with | [a] => some a | _ => none) ∧
      cost (one m fuel s).2 = oneCost L e := by
  have _tie := Skeleton.Tie.itOne
  obtain ⟨s1, hd1, h1⟩ := drive_stable h
  match L, h1 with
  | [], h1 => exact hd1.mono fun fuel hd => by rw [one_eq, hd]; exact ⟨rfl, h1.2⟩
  | p :: L', h1 =>
    obtain ⟨s2, hd2, h2⟩ := drive_stable h1.1
    refine (hd1.and hd2).mono fun fuel ⟨hd1, hd2⟩ => ?_
    rw [one_eq, hd1]
    simp only [List.head?_cons, Option.map_some, hd2]
    match L', h2 with
    | [], h2 => exact ⟨rfl, h2.2⟩
    | q :: _, h2 => exact ⟨rfl, h2.2⟩

end Juniper.Proofs.IterDen
