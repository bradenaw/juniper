import Juniper.Proofs.HelpersMaps
import Juniper.Model.HelpersMore
/-! The small loops of `xslices` (`All`, `CountFunc`, `Group`, `Join`, `LastIndex`, `LastIndexFunc`, `Map`,
`Reduce`, `Repeat`) and the `xmaps.Set` helpers (C19). -/
namespace Juniper.Proofs.Helpers
open Juniper.Gen.Helpers Juniper.Model.Helpers Juniper.Spec.Helpers

variable {α β κ : Type}

theorem all_iff (f : α → Bool) (s : List α) : all f s = true ↔ ∀ x ∈ s, f x = true := by
  induction s with
  | nil => simp [all, allEndVal]
  | cons x xs ih =>
    simp only [all, allStops, allStopVal, List.mem_cons, forall_eq_or_imp]
    cases h : f x <;> simp [ih]

theorem countFuncLoop_eq (f : α → Bool) (s : List α) (n : Int) :
    countFuncLoop f s n = n + (s.countP f : Int) := by
  induction s generalizing n with
  | nil => simp [countFuncLoop]
  | cons x xs ih =>
    simp only [countFuncLoop, cfTakes, cfIncs, ih, List.countP_cons]
    cases h : f x <;> simp <;> omega

theorem reduceLoop_eq (f : β → α → β) (s : List α) (b : β) : reduceLoop f s b = s.foldl f b := by
  induction s generalizing b with
  | nil => rfl
  | cons x xs ih => simp [reduceLoop, reduceBody, ih]

theorem reduce_eq (zero : β) (s : List α) (b : β) (f : β → α → β) : reduce zero s b f = s.foldl f b := by
  simp [reduce, reduceStartsAtInitial, reduceLoop_eq]

theorem map_eq (zero : β) (f : α → β) (s : List α) : map zero f s = some (s.map f) := by
  simp [map, mapMake, mapBody]

theorem repeatN_eq (zero x : α) (n : Int) :
    repeatN zero x n = if n < 0 then none else if n > Model.Stdlib.allocLimit then none else some (List.replicate n.toNat x) := by
  simp [repeatN, repeatMake, repeatBody]

theorem groupLoop_get [DecidableEq κ] (f : α → κ) (s : List α) (m : List (κ × List α)) (u : κ) :
    mget (groupLoop f s m) u =
      if s.any (fun x => decide (f x = u)) then some ((mget m u).getD [] ++ s.filter (fun x => decide (f x = u)))
      else mget m u := by
  induction s generalizing m with
  | nil => simp [groupLoop]
  | cons x xs ih =>
    simp only [groupLoop, groupBody, ↓reduceIte]
    rw [ih, mget_mput]
    by_cases hx : f x = u
    · subst hx
      simp only [↓reduceIte, Option.getD_some, List.any_cons, decide_true, Bool.true_or, List.filter_cons,
        List.append_assoc, List.singleton_append]
      by_cases ha : xs.any (fun y => decide (f y = f x)) = true
      · simp [ha]
      · have hn : xs.filter (fun y => decide (f y = f x)) = [] :=
          List.filter_eq_nil_iff.mpr fun y hy hfy => ha (List.any_eq_true.mpr ⟨y, hy, hfy⟩)
        simp [ha, hn]
    · have hx' : ¬ u = f x := fun e => hx e.symm
      simp [hx, hx']

theorem joinSum_eq (ins : List (List α)) (n : Int) : joinSum ins n = n + (ins.flatten.length : Int) := by
  induction ins generalizing n with
  | nil => simp [joinSum]
  | cons l ls ih =>
    simp only [joinSum, joinSumBody, ↓reduceIte, ih, List.flatten_cons, List.length_append]
    omega

theorem joinAppend_eq (ins : List (List α)) (out : List α) (c : Int)
    (h : (out.length : Int) + ins.flatten.length ≤ c) :
    joinAppend ins (out, some c) = (out ++ ins.flatten, some c) := by
  induction ins generalizing out with
  | nil => simp [joinAppend]
  | cons l ls ih =>
    simp only [List.flatten_cons, List.length_append] at h
    simp only [joinAppend, joinAppendBody, ↓reduceIte, appendTo]
    have h1 : ((out ++ l).length : Int) ≤ c := by simp only [List.length_append]; omega
    rw [if_pos h1, ih (out ++ l) (by simp only [List.length_append]; omega)]
    simp

theorem join_eq (zero : α) (ins : List (List α)) :
    join zero ins = some (ins.flatten, some (ins.flatten.length : Int)) := by
  simp only [join, joinSum_eq, joinN0, joinMakeLen, joinMakeCap]
  simp [joinAppend_eq]

theorem lastIdxLoop_spec (hit : α → Bool) (s : List α) (fuel : Nat) (i : Int)
    (hi : -1 ≤ i) (hlen : i < s.length) (hf : i + 2 ≤ fuel)
    (hafter : ∀ j : Nat, i < j → ∀ y, s[j]? = some y → hit y = false) :
    ∃ r : Int, lastIdxLoop (fun i => decide (i ≥ 0)) hit (fun i => i) (-1) 1 s fuel i = some r ∧
      -1 ≤ r ∧ r < s.length ∧
      (r = -1 → ∀ y ∈ s, hit y = false) ∧
      (0 ≤ r → (∃ y, s[r.toNat]? = some y ∧ hit y = true) ∧ ∀ j : Nat, r < j → ∀ y, s[j]? = some y → hit y = false) := by
  induction fuel generalizing i with
  | zero => omega
  | succ fuel ih =>
    unfold lastIdxLoop
    by_cases hc : i ≥ 0
    · simp only [hc, decide_true, ↓reduceIte]
      obtain ⟨n, rfl⟩ := Int.eq_ofNat_of_zero_le hc
      have hn : n < s.length := by omega
      rw [getI_of_lt s n hn]
      by_cases hh : hit s[n] = true
      · simp only [hh, ↓reduceIte, Option.some.injEq, exists_eq_left']
        refine ⟨by omega, by omega, by omega, fun _ => ⟨⟨s[n], by simp [hn], hh⟩, hafter⟩⟩
      · simp only [hh, Bool.false_eq_true, ↓reduceIte]
        apply ih ((n : Int) - ((1 : Nat) : Int)) (by omega) (by omega) (by omega)
        intro j hj y hy
        by_cases hjn : j = n
        · subst hjn
          rw [List.getElem?_eq_getElem hn] at hy
          cases hy; simpa using hh
        · exact hafter j (by omega) y hy
    · simp only [hc, decide_false, Bool.false_eq_true, ↓reduceIte, Option.some.injEq, exists_eq_left']
      have : i = -1 := by omega
      subst this
      refine ⟨by omega, by omega, fun _ y hy => ?_, by omega⟩
      obtain ⟨j, hj, rfl⟩ := List.getElem_of_mem hy
      exact hafter j (by omega) _ (by simp [hj])

theorem lastIdxLoop_full (hit : α → Bool) (s : List α) :
    ∃ r : Int, lastIdxLoop (fun i => decide (i ≥ 0)) hit (fun i => i) (-1) 1 s (s.length + 1) ((s.length : Int) - 1) =
        some r ∧ -1 ≤ r ∧ r < s.length ∧
      (r = -1 → ∀ y ∈ s, hit y = false) ∧
      (0 ≤ r → (∃ y, s[r.toNat]? = some y ∧ hit y = true) ∧ ∀ j : Nat, r < j → ∀ y, s[j]? = some y → hit y = false) :=
  lastIdxLoop_spec hit s (s.length + 1) ((s.length : Int) - 1) (by omega) (by omega) (by omega)
    (fun j hj y hy => by
      have : j < s.length := (List.getElem?_eq_some_iff.mp hy).1
      omega)

/-- `len(s) - 1` (the start of both `LastIndex` loops) is exact for a length that fits in an `int` -/
theorem liStart_nat (n : Nat) (hn : n ≤ 9223372036854775807) :
    liStart (n : Int) = (n : Int) - 1 ∧ lifStart (n : Int) = (n : Int) - 1 := by
  unfold liStart lifStart
  exact ⟨wrap64_of_range (by omega) (by omega), wrap64_of_range (by omega) (by omega)⟩

theorem nodup_setAdd [DecidableEq κ] (s : List κ) (x : κ) (h : s.Nodup) : (setAdd s x).Nodup := by
  unfold setAdd
  split
  · exact nodup_insert s x h
  · exact h

theorem mem_setRemove [DecidableEq κ] (s : List κ) (x y : κ) : y ∈ setRemove s x ↔ y ∈ s ∧ y ≠ x := by
  simp [setRemove, setRemoveBody]

end Juniper.Proofs.Helpers
