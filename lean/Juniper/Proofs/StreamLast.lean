import Juniper.Proofs.StreamReduce
import Juniper.Proofs.Ring
/-!
# `stream.Last` (C07, C08, C09, D3)

The regenerated slot and rotation arithmetic of `Last` is that of the ring buffer of `Proofs/Ring.lean`: the
read loop computes `Ring.run`, the final rotation `Ring.finish`, hence the last `n` items.
-/
namespace Juniper.Proofs.StreamDen
open Juniper.Model.Stream Juniper.Spec Juniper.Gen.Comb Juniper.Proofs
universe u v
variable {σ : Type u} {α : Type v}

/-- `lastStore` / `lastFinish` are the ring on Go's `int`s (`Ring.storeGo`, `Ring.finishGo`) with the
regenerated guards, slot, slice bounds and returned error operands of `stream.Last` in place of its arithmetic -/
theorem st_lastStore (buf : List (Option α)) (i n : Nat) (a : α) :
    lastStore buf (i : Int) (n : Int) a = some (Ring.store n buf i a) :=
  (rfl : lastStore buf (i : Int) (n : Int) a = Ring.storeGo buf i n a).trans (Ring.storeGo_eq buf i n a)

theorem st_lastFinish (buf : List (Option α)) (i n : Nat) (hb : buf.length = n) :
    lastFinish buf (i : Int) (n : Int) = .ok (Ring.finish n buf i) :=
  (rfl : lastFinish buf (i : Int) (n : Int) = Ring.finishGo .ok .panic buf i n).trans
    (Ring.finishGo_eq _ _ buf i n hb)

theorem lastLoop_run {m : SM σ α} {cost : σ → Nat} {s : σ} {L : List (α × Nat)} {t : Term} (n : Nat)
    (h : SDen strict m cost s L t) :
    Enough fun fuel => ∀ (buf : List (Option α)) (i : Nat),
      (lastLoop m (n : Int) true fuel buf (i : Int) s).1 =
        outOf t (Ring.run n buf i (L.map Prod.fst), ((i + L.length : Nat) : Int)) ∧
      ∀ e, t = .end_ e → cost (lastLoop m (n : Int) true fuel buf (i : Int) s).2 = e :=
  strict_fuel (fun s L t fuel => ∀ (buf : List (Option α)) (i : Nat),
      (lastLoop m (n : Int) true fuel buf (i : Int) s).1 =
        outOf t (Ring.run n buf i (L.map Prod.fst), ((i + L.length : Nat) : Int)) ∧
      ∀ e, t = .end_ e → cost (lastLoop m (n : Int) true fuel buf (i : Int) s).2 = e)
    (fun hs ih buf i => by rw [lastLoop_succ, hs]; exact ih buf i)
    (fun hs ih buf i => by
      rw [lastLoop_succ, hs]
      simp only [st_lastStore, stLastCounts, if_true]
      have e1 : ((i : Int) + 1) = ((i + 1 : Nat) : Int) := by omega
      rw [e1]
      refine ⟨?_, (ih _ (i + 1)).2⟩
      rw [(ih _ (i + 1)).1]
      simp only [List.map_cons, Ring.run, List.length_cons]
      congr 3
      omega)
    (fun hs buf i => by rw [lastLoop_succ, hs]; exact ⟨rfl, nofun⟩)
    (fun hs buf i => by rw [lastLoop_succ, hs]; exact ⟨by simp [Ring.run, outOf], fun e he => by cases he; rfl⟩) h

/-- `stream.Last` (live context), result and final state: the last `n` items or the first failure itself; a stream that
ends has been read to its end, then closed -/
theorem last_strict {m : SM σ α} {cost : σ → Nat} {s : σ} {L : List (α × Nat)} {t : Term} (n : Nat)
    (h : SDen strict m cost s L t) :
    Enough fun fuel =>
      (last m (n : Int) true fuel s).1 = outOf t ((Seq.lastN n (L.map Prod.fst)).map some) ∧
      ∀ e, t = .end_ e → (∀ s, cost (m.close s) = cost s) → cost (last m (n : Int) true fuel s).2 = e := by
  have _tie := Skeleton.Tie.stLast
  refine (lastLoop_run n h).mono fun fuel hF => ?_
  obtain ⟨h1, h2⟩ := hF (List.replicate n none) 0
  have hn : ¬ ((n : Int) < 0) := by omega
  rw [show ((0 : Nat) : Int) = 0 from rfl] at h1 h2
  simp only [last, hn, if_false, Int.toNat_natCast]
  refine ⟨?_, fun e he hclose => (cost_deferClose hclose _ _).trans (h2 e he)⟩
  rcases hl : lastLoop m (n : Int) true fuel (List.replicate n none) 0 s with ⟨r, s'⟩
  rw [hl] at h1
  simp only at h1
  subst h1
  cases t with
  | fail e => simp [outOf]
  | end_ e =>
    simp only [outOf, Nat.zero_add]
    rw [st_lastFinish _ _ _ (by rw [Ring.run_length]; simp)]
    have := Ring.run_finish n (L.map Prod.fst)
    rw [List.length_map] at this
    rw [this]

theorem lastLoop_reach (m : SM σ α) (n : Int) (c : Bool) (fuel : Nat) (buf : List (Option α)) (i : Int) (s : σ) :
    ∃ cs, (lastLoop m n c fuel buf i s).2 = afterS m cs s :=
  loop_reach m c (fun fuel (p : List (Option α) × Int) s => lastLoop m n c fuel p.1 p.2 s) (fun _ _ => rfl)
    (fun fuel p s => by
      rw [lastLoop_succ]
      rcases m.step s c with ⟨r, u⟩
      cases r with
      | skip => exact .inr ⟨p, rfl⟩
      | end_ => exact .inl rfl
      | err e => exact .inl rfl
      | item a =>
        simp only
        cases lastStore p.1 p.2 n a with
        | none => exact .inl rfl
        | some buf' => exact .inr ⟨(buf', _), rfl⟩) fuel (buf, i) s

theorem last_reach (m : SM σ α) (n : Int) (c : Bool) (fuel : Nat) (s : σ) :
    ∃ cs, (last m n c fuel s).2 = m.close (afterS m cs s) := by
  have _tie := Skeleton.Tie.stLast
  by_cases hn : n < 0
  · exact ⟨[], by simp [last, hn, deferClose, stLastDefersClose_fact, afterS]⟩
  · obtain ⟨cs, hcs⟩ := lastLoop_reach m n c fuel (List.replicate n.toNat none) 0 s
    exact ⟨cs, by simp only [last, hn, if_false, deferClose, stLastDefersClose_fact, if_true, hcs]⟩

end Juniper.Proofs.StreamDen
