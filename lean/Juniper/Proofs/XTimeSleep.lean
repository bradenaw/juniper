import Juniper.Model.XTime
/-! Helper lemmas for C20, `SleepContext` part: what the generated guards say, the steps of the
two-arm LTS in closed form (`SStep`), and its invariant. -/
namespace Juniper.Proofs.XTimeSleep
open Juniper.Gen.XTime Juniper.Model.XTime

/-- The composed decision in closed form (this is where the regenerated guards are consumed). -/
theorem sleepDecision_eq (d : Int) (deadline : Option Int) (now : Int) :
    sleepDecision d deadline now =
      if d ≤ 0 then some .nil
      else match deadline with
        | some dl => if dl - now < d then some .tooSoon else none
        | none => none := by
  unfold sleepDecision sleepNonPositive sleepChecksDeadline sleepTooSoon sleepRemaining timeUntil
    sleepNonPositiveRet sleepTooSoonRet
  cases deadline <;> simp

theorem sleepDecision_nil {d : Int} (dl : Option Int) (now : Int) (hd : d ≤ 0) :
    sleepDecision d dl now = some .nil := by
  rw [sleepDecision_eq, if_pos hd]

theorem sleepDecision_tooSoon {d now x : Int} {dl : Option Int} (hd : 0 < d) (hdl : dl = some x)
    (hc : x - now < d) : sleepDecision d dl now = some .tooSoon := by
  subst hdl
  rw [sleepDecision_eq, if_neg (Int.not_le.2 hd)]
  exact if_pos hc

theorem sleepDecision_none {d now : Int} {dl : Option Int} (hd : 0 < d)
    (hn : ∀ x, dl = some x → ¬ x - now < d) : sleepDecision d dl now = none := by
  rw [sleepDecision_eq, if_neg (Int.not_le.2 hd)]
  cases dl with
  | none => rfl
  | some x => exact if_neg (hn x rfl)

theorem sleepDecision_cases (d : Int) (dl : Option Int) (now : Int) :
    (d ≤ 0 ∧ sleepDecision d dl now = some .nil) ∨
    (0 < d ∧ ∃ x, dl = some x ∧ x - now < d ∧ sleepDecision d dl now = some .tooSoon) ∨
    (0 < d ∧ (∀ x, dl = some x → ¬ x - now < d) ∧ sleepDecision d dl now = none) := by
  by_cases hd : d ≤ 0
  · exact .inl ⟨hd, sleepDecision_nil dl now hd⟩
  · have hd := Int.not_le.1 hd
    by_cases hex : ∃ x, dl = some x ∧ x - now < d
    · obtain ⟨x, hx, hc⟩ := hex
      exact .inr (.inl ⟨hd, x, hx, hc, sleepDecision_tooSoon hd hx hc⟩)
    · have hn : ∀ x, dl = some x → ¬ x - now < d := fun x hx hc => hex ⟨x, hx, hc⟩
      exact .inr (.inr ⟨hd, hn, sleepDecision_none hd hn⟩)

theorem armReady_ctx (s : SState) (due : Int) : armReady s due (.recv "ctx.Done()") = s.ctxDone := by
  simp [armReady]

theorem armReady_timer (s : SState) (due : Int) : armReady s due (.recv "t.C") = decide (due ≤ s.now) := by
  simp [armReady]

inductive SStep (s : SState) : SLabel → SState → Prop
  | advance {dt : Int} : 0 ≤ dt → SStep s (.advance dt) { s with now := s.now + dt }
  | cancel : SStep s .cancel { s with ctxDone := true }
  | expire {dl : Int} : s.deadline = some dl → dl ≤ s.now → SStep s .expire { s with ctxDone := true }
  | enterNil : s.phase = .idle → s.d ≤ 0 →
      SStep s .enter { s with start := s.now, phase := .returned .nil s.now }
  | enterTooSoon {dl : Int} : s.phase = .idle → 0 < s.d → s.deadline = some dl → dl - s.now < s.d →
      SStep s .enter { s with start := s.now, phase := .returned .tooSoon s.now }
  | enterWait : s.phase = .idle → 0 < s.d → (∀ dl, s.deadline = some dl → ¬ dl - s.now < s.d) →
      SStep s .enter { s with start := s.now, phase := .waiting (s.now + s.d) }
  | armCtx {due : Int} : s.phase = .waiting due → s.ctxDone = true →
      SStep s (.arm 0) { s with phase := .returned .ctxErr s.now }
  | armTimer {due : Int} : s.phase = .waiting due → due ≤ s.now →
      SStep s (.arm 1) { s with phase := .returned .nil s.now }

theorem sstep_iff {s s' : SState} {l : SLabel} : sstep s l = some s' ↔ SStep s l s' := by
  constructor
  · intro h
    unfold sstep at h
    cases l with
    | advance dt =>
      obtain ⟨hdt, h⟩ := Option.ite_none_right_eq_some.1 h
      cases h; exact .advance hdt
    | cancel => cases h; exact .cancel
    | expire =>
      dsimp only at h
      split at h
      · obtain ⟨hle, h⟩ := Option.ite_none_right_eq_some.1 h
        cases h; exact .expire ‹_› hle
      · cases h
    | enter =>
      dsimp only at h
      split at h
      · rename_i hp
        rcases sleepDecision_cases s.d s.deadline s.now with ⟨hd, e⟩ | ⟨hd, x, hx, hc, e⟩ | ⟨hd, hn, e⟩ <;>
          rw [e] at h <;> cases h
        · exact .enterNil hp hd
        · exact .enterTooSoon hp hd hx hc
        · exact .enterWait hp hd hn
      · cases h
    | arm k =>
      dsimp only at h
      split at h
      · rename_i due hp
        match k with
        | 0 =>
          obtain ⟨hc, h⟩ := Option.ite_none_right_eq_some.1 h
          cases h; exact .armCtx hp ((armReady_ctx s due).symm.trans hc)
        | 1 =>
          obtain ⟨hc, h⟩ := Option.ite_none_right_eq_some.1 h
          cases h; exact .armTimer hp (of_decide_eq_true ((armReady_timer s due).symm.trans hc))
        | k + 2 => cases h
      · cases h
  · intro h
    cases h with
    | advance h => exact if_pos h
    | cancel => rfl
    | expire hd hle => simp only [sstep, hd, if_pos hle]
    | enterNil hp hd => simp only [sstep, hp, sleepDecision_nil _ _ hd]
    | enterTooSoon hp hd hdl hc => simp only [sstep, hp, sleepDecision_tooSoon hd hdl hc]
    | enterWait hp hd hn => simp only [sstep, hp, sleepDecision_none hd hn]; rfl
    | armCtx hp hc =>
      simp only [sstep, hp]
      exact if_pos ((armReady_ctx s _).trans hc)
    | armTimer hp hdue =>
      simp only [sstep, hp]
      exact if_pos ((armReady_timer s _).trans (decide_eq_true hdue))

def SInv (s : SState) : Prop :=
  match s.phase with
  | .idle => True
  | .waiting due => 0 < s.d ∧ due = s.start + s.d ∧ ∀ dl, s.deadline = some dl → ¬ dl - s.start < s.d
  | .returned .nil t => (s.d ≤ 0 ∧ t = s.start) ∨ (0 < s.d ∧ s.start + s.d ≤ t)
  | .returned .tooSoon t => 0 < s.d ∧ t = s.start ∧ ∃ dl, s.deadline = some dl ∧ dl - s.start < s.d
  | .returned .ctxErr _ => 0 < s.d ∧ s.ctxDone = true ∧ ∀ dl, s.deadline = some dl → ¬ dl - s.start < s.d
  | .returned (.other _) _ => False

theorem SInv.ctxDone {s : SState} : SInv s → SInv { s with ctxDone := true } := by
  unfold SInv
  dsimp only
  cases s.phase with
  | returned r t =>
    cases r with
    | ctxErr => exact fun h => ⟨h.1, rfl, h.2.2⟩
    | _ => exact id
  | _ => exact id

theorem sinv_step {s s' : SState} {l : SLabel} (hi : SInv s) (h : sstep s l = some s') : SInv s' := by
  cases sstep_iff.1 h with
  | advance => exact hi
  | cancel => exact hi.ctxDone
  | expire => exact hi.ctxDone
  | enterNil _ hd => exact Or.inl ⟨hd, rfl⟩
  | enterTooSoon _ hd hdl hc => exact ⟨hd, rfl, _, hdl, hc⟩
  | enterWait _ hd hn => exact ⟨hd, rfl, hn⟩
  | armCtx hp hc =>
    rw [SInv, hp] at hi
    exact ⟨hi.1, hc, hi.2.2⟩
  | armTimer hp hdue =>
    rw [SInv, hp] at hi
    exact Or.inr ⟨hi.1, hi.2.1 ▸ hdue⟩

theorem sinv_reach {s0 s : SState} (h0 : s0.phase = .idle) (hr : SReach s0 s) : SInv s := by
  induction hr with
  | refl => rw [SInv, h0]; trivial
  | step l _ hs ih => exact sinv_step ih hs

theorem params_step {s s' : SState} {l : SLabel} (h : sstep s l = some s') :
    s'.d = s.d ∧ s'.deadline = s.deadline := by
  cases sstep_iff.1 h <;> exact ⟨rfl, rfl⟩

/-! ### The summary the conformance driver uses

`driver xtime` judges an observed `SleepContext` call by membership in `sleepOutcomes`, not by running
the LTS. The two lemmas below tie that summary to the LTS the property theorems are about: it has the
closed form one expects, and every outcome it accepts is the result of a run of the LTS, a context
error only at the instant at which the harness says the context ends (`max ctxAt 0`). (Soundness of the
driver's verdict "ok"; the converse is not needed for trace inclusion.) -/

theorem sleepOutcomes_eq (d : Int) (dl ctxAt : Option Int) :
    sleepOutcomes d dl ctxAt =
      match sleepDecision d dl 0 with
      | some r => [(r, 0)]
      | none =>
        match ctxAt with
        | none => [(.nil, max d 0)]
        | some c =>
          (if max c 0 ≤ min (max d 0) (max c 0) then [(.ctxErr, min (max d 0) (max c 0))] else []) ++
          (if max d 0 ≤ min (max d 0) (max c 0) then [(.nil, min (max d 0) (max c 0))] else []) := by
  have hT : sleepSelect.contains (.recv "t.C") = true := by decide +kernel
  have hC : sleepSelect.contains (.recv "ctx.Done()") = true := by decide +kernel
  have hr : List.range sleepSelect.length = [0, 1] := rfl
  unfold sleepOutcomes
  cases sleepDecision d dl 0 with
  | some r => rfl
  | none =>
    dsimp only
    rw [hT, hC, hr, if_pos rfl, if_pos rfl]
    -- unfold the two iterations, then evaluate the arm table (no `simp` before that: the string
    -- tests inside the readiness condition make its congruence steps very slow)
    simp only [List.filterMap_cons, List.filterMap_nil]
    dsimp only [sleepSelect, armRet, sleepArm0Ret, sleepArm1Ret, sleepTimerDur, List.getElem?_cons_zero,
      List.getElem?_cons_succ, String.reduceBEq]
    cases ctxAt with
    | none => simp
    | some c =>
      by_cases ha : max c 0 ≤ min (max d 0) (max c 0) <;> by_cases hb : max d 0 ≤ min (max d 0) (max c 0) <;>
        simp [ha, hb]

theorem reach_arms {now d t : Int} {dl : Option Int} (hd : 0 < d) (hn : ∀ x, dl = some x → ¬ x - now < d)
    (ht : 0 ≤ t) :
    (∃ s, SReach (sInit now d dl false) s ∧ s.phase = .returned .ctxErr (now + t)) ∧
    (d ≤ t → ∃ s, SReach (sInit now d dl false) s ∧ s.phase = .returned .nil (now + t)) := by
  have hw : SReach (sInit now d dl false) ⟨now + t, d, dl, false, now, .waiting (now + d)⟩ :=
    .step (.advance t) (.step .enter .refl (sstep_iff.2 (.enterWait rfl hd hn))) (sstep_iff.2 (.advance ht))
  exact ⟨⟨_, .step (.arm 0) (.step .cancel hw (sstep_iff.2 .cancel)) (sstep_iff.2 (.armCtx rfl rfl)), rfl⟩,
    fun hdt => ⟨_, .step (.arm 1) hw (sstep_iff.2 (.armTimer rfl (Int.add_le_add_left hdt now))), rfl⟩⟩

/-- Every `(result, elapsed)` pair the driver accepts for a call made at instant 0 is reached by a run
of the LTS from the idle call: at once when the decision is immediate; otherwise after the clock ran
to the first instant an arm is ready, where a context error is only accepted at the very instant the
context ends (`max ctxAt 0`; the witness run cancels the context then). -/
theorem sleepOutcomes_reachable {d : Int} {dl ctxAt : Option Int} {r : Ret} {t : Int}
    (h : (r, t) ∈ sleepOutcomes d dl ctxAt) :
    ∃ s, SReach (sInit 0 d dl false) s ∧ s.phase = .returned r t ∧
      (r = .ctxErr → ∃ c, ctxAt = some c ∧ t = max c 0) := by
  rw [sleepOutcomes_eq] at h
  rcases sleepDecision_cases d dl 0 with ⟨hd, e⟩ | ⟨hd, x, hx, hc, e⟩ | ⟨hd, hn, e⟩ <;> rw [e] at h
  · cases List.mem_singleton.1 h
    exact ⟨_, .step .enter .refl (sstep_iff.2 (.enterNil rfl hd)), rfl, fun h => nomatch h⟩
  · cases List.mem_singleton.1 h
    exact ⟨_, .step .enter .refl (sstep_iff.2 (.enterTooSoon rfl hd hx hc)), rfl, fun h => nomatch h⟩
  · cases ctxAt with
    | none =>
      cases List.mem_singleton.1 h
      obtain ⟨s, hs, hp⟩ := (reach_arms hd hn (Int.le_max_right d 0)).2 (Int.le_max_left d 0)
      exact ⟨s, hs, by rw [hp, Int.zero_add], fun h => nomatch h⟩
    | some c =>
      have h0 : 0 ≤ min (max d 0) (max c 0) := Int.le_min.2 ⟨Int.le_max_right d 0, Int.le_max_right c 0⟩
      rcases List.mem_append.1 h with h | h <;> split at h
      · cases List.mem_singleton.1 h
        obtain ⟨s, hs, hp⟩ := (reach_arms hd hn h0).1
        exact ⟨s, hs, by rw [hp, Int.zero_add], fun _ => ⟨c, rfl, Int.le_antisymm (Int.min_le_right _ _) ‹_›⟩⟩
      · cases h
      · cases List.mem_singleton.1 h
        obtain ⟨s, hs, hp⟩ := (reach_arms hd hn h0).2 (Int.le_trans (Int.le_max_left d 0) ‹_›)
        exact ⟨s, hs, by rw [hp, Int.zero_add], fun h => nomatch h⟩
      · cases h

end Juniper.Proofs.XTimeSleep
