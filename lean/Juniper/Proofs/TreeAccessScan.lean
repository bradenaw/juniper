import Juniper.Proofs.TreeAccessCont
import Juniper.Proofs.TreeRange
/-!
# Access-level model (C01, concurrent clause): the range reader follows the functional cursor

`ScanInv` ties the fields of a range reader, program point by program point (`Cont`, `Proofs/TreeAccessCont.lean`), to the
functional cursor that `doSeek`, then `nextCore` / `prevCore` produce and C01/C02 prove correct. Every read preserves it
(`scan_next`), so every position whose *value* the reader reads is a position of the functional iteration, hence (C01's seek
and successor theorems) inside the near bound (`scanGood_near`); inside the far bound it is by the in-range test it passed,
which `Good` remembers.
-/
namespace Juniper.Proofs.TreeAccess
open Juniper.Gen.Tree Juniper.Model.BTree Juniper.Model.BTreeAccess Juniper.Proofs.Tree

variable {K V : Type} {cmp : K → K → Int}

/-- iterating on from the functional cursor `c` yields exactly `S` -/
def Ahead (t : Tree K V) (fwd : Bool) (c : Cursor K) (S : List (K × V)) : Prop := if fwd then Fwd t c S else Bwd t c S

theorem ahead_iff_run {t : Tree K V} {fwd : Bool} {c : Cursor K} {S : List (K × V)} : Ahead t fwd c S ↔ Run fwd t c S := by
  cases fwd
  · exact bwd_iff_run
  · exact fwd_iff_run

/-- where `find` / `SeekFirst` / `SeekLast` put the cursor (before the step a `Seek*` may end with) -/
def preSeek (cmp : K → K → Int) (t : Tree K V) (sk : SeekKind) (skey : K) : Option (Pos K) :=
  match sk with
  | .first => posAt (leftmostLeaf t.root) 0
  | .last => posAt (rightmostLeaf t.root) (prevLeafLast (rightmostLeaf t.root).n).toNat
  | _ => (findIn cmp skey t.root).map (·.1)

/-- the step test of the seek on the key it landed on -/
def seekSteps (cmp : K → K → Int) (sk : SeekKind) (skey k : K) : Bool :=
  match sk with
  | .ge => seekFirstGreaterOrEqualStep (cmp skey k)
  | .gt => seekFirstGreaterStep (cmp skey k)
  | .le => seekLastLessOrEqualStep (cmp skey k)
  | .lt => seekLastLessStep (cmp skey k)
  | _ => false

theorem doSeek_shape (cmp : K → K → Int) (t : Tree K V) (sk : SeekKind) (skey : K) (hne : findEmpty t.root.n = false)
    {pf : Pos K} (hpre : preSeek cmp t sk skey = some pf) :
    doSeek cmp t sk skey =
      (if seekSteps cmp sk skey pf.k then
        { pos := if skFwd sk then nextCore t pf else prevCore t pf, gen := t.gen }
       else { pos := some pf, gen := t.gen }) := by
  have g1 : seekSetsGen = true := by decide
  have g2 : seekFirstSetsGen = true := by decide
  have g3 : seekLastSetsGen = true := by decide
  have g4 : seekStepCalls = true := by decide
  have e1 : seekFirstEmpty t.root.n = false := hne
  have e2 : seekLastEmpty t.root.n = false := hne
  have hl : lostAt cmp t { pos := some pf, gen := t.gen } = false := lostAt_of_gen_eq cmp t _ rfl
  have hfind : ∀ (h : (findIn cmp skey t.root).map (·.1) = some pf), ∃ b, find cmp t skey = some (pf, b) := by
    intro h
    obtain ⟨⟨p, b⟩, hf, rfl⟩ := Option.map_eq_some_iff.mp h
    exact ⟨b, by simp [find, hne, hf]⟩
  cases sk with
  | first =>
    simp only [preSeek] at hpre
    simp [doSeek, seekFirst, e1, g2, hpre, seekSteps]
  | last =>
    simp only [preSeek] at hpre
    simp [doSeek, seekLast, e2, g3, seekLastIdx_eq, hpre, seekSteps]
  | _ =>
    obtain ⟨b, hf⟩ := hfind hpre
    simp only [doSeek, seekFirstGreaterOrEqual, seekFirstGreater, seekLastLessOrEqual, seekLastLess, seekWith, seek, hf, g1,
      g4, if_true, Bool.and_true, seekSteps, skFwd, stepFwd, stepBwd, hl, Bool.false_eq_true, if_false]

theorem doSeek_ahead (hc : StrictWeak cmp) {t : Tree K V} (hi : Inv cmp t) (sk : SeekKind) (skey : K) :
    ∃ S, Ahead t (skFwd sk) (doSeek cmp t sk skey) S ∧ ∀ e ∈ S, nearOf cmp sk skey e.1 = true :=
  ⟨_, ahead_iff_run.mpr (doSeek_run hc hi sk skey), doSeek_near hc hi.wf.sorted sk skey⟩

theorem itNext_sgen (fwd : Bool) (sk : SeekKind) (skey : K) (stop : Option (CmpOp × K)) (limit : Nat) (m : Mem K V)
    {st : ItSt K V} {k : K} (hk : st.k = some k) :
    itNext cmp (.scan fwd sk skey stop limit) m .sgen st =
      if seekSteps cmp sk skey k then .it .mGen { st with cgen := m.gen, mode := .step }
      else iterTop { st with cgen := m.gen } := by
  have g1 : seekSetsGen = true := by decide
  have g2 : seekFirstSetsGen = true := by decide
  have g3 : seekLastSetsGen = true := by decide
  -- `itNext.eq_def` as in `cont_find`: cheaper than the equation lemmas
  cases sk <;> simp [itNext.eq_def, hk, g1, g2, g3, seekStepCalls, seekSteps]

/-- the three regenerated `root.n == 0` tests (`find`, `SeekFirst`, `SeekLast`) are one test -/
theorem itNext_sRootN (fwd : Bool) (sk : SeekKind) (skey : K) (stop : Option (CmpOp × K)) (limit : Nat) (m : Mem K V) (r : Nat)
    (st : ItSt K V) :
    itNext cmp (.scan fwd sk skey stop limit) m (.sRootN r) st =
      if findEmpty (m.n r) then iterTop { st with curr := none } else .it .sRoot2 st := by
  cases sk <;> rfl

/-- the program points at which the cursor is settled (between two moves) -/
def settledPh : Ph → Bool
  | .nGen | .nVal | .fin => true
  | _ => false

/-- **The invariant of a range reader** `scan fwd sk skey …` at program point `ph` with fields `st`.
Inside the seek (before `c.gen = c.t.gen`): the reader is on its way to where `find` / `SeekFirst` / `SeekLast` put the
functional cursor (`preSeek`). Afterwards there is a functional cursor `c` — the one `doSeek`, then `nextCore` /
`prevCore` produce — whose iteration yields a list `S` all inside the near bound, and the reader's fields are `c`'s
position, or the reader is inside the move that settles on it. -/
def ScanInv (cmp : K → K → Int) (t : Tree K V) (fwd : Bool) (sk : SeekKind) (skey : K) (ph : Ph) (st : ItSt K V) : Prop :=
  skFwd sk = fwd ∧
  (ph = .fin ∨
   (st.mode = .seek ∧
     (ph = .sRoot1 ∨ (∃ r, ph = .sRootN r ∧ r = t.root.id) ∨ (ph = .sRoot2 ∧ findEmpty t.root.n = false) ∨
      (ph = .sgen ∧ findEmpty t.root.n = false ∧ ∃ pf, preSeek cmp t sk skey = some pf ∧ Is st pf) ∨
      ((phClass ph = 1 ∨ phClass ph = 2) ∧ findEmpty t.root.n = false ∧ Cont cmp t fwd skey st ph (preSeek cmp t sk skey)))) ∨
   (st.mode ≠ .seek ∧ ∃ (c : Cursor K) (S : List (K × V)), c.gen = t.gen ∧ Ahead t fwd c S ∧
      (∀ e ∈ S, nearOf cmp sk skey e.1 = true) ∧
      ((settledPh ph = true ∧ Settles st c.pos) ∨
       ((phClass ph = 2 ∨ phClass ph = 3) ∧ Cont cmp t fwd skey st ph c.pos))))

def GoodScanPC (cmp : K → K → Int) (t : Tree K V) (fwd : Bool) (sk : SeekKind) (skey : K) : PC K V → Prop
  | .it ph st => ScanInv cmp t fwd sk skey ph st
  | .done _ => True
  | _ => False

theorem moveFwd_scan {fwd : Bool} {sk : SeekKind} {skey : K} {stop : Option (CmpOp × K)} {limit : Nat} (hd : skFwd sk = fwd)
    (st : ItSt K V) : moveFwd (.scan fwd sk skey stop limit : Op K V) st = fwd := by
  subst hd
  simp only [moveFwd]
  cases st.mode <;> cases sk <;> rfl

theorem goodScan_iterTop {t : Tree K V} {fwd : Bool} {sk : SeekKind} {skey : K} (hd : skFwd sk = fwd) {st : ItSt K V}
    {c : Cursor K} {S : List (K × V)} (hg : c.gen = t.gen) (ha : Ahead t fwd c S)
    (hnear : ∀ e ∈ S, nearOf cmp sk skey e.1 = true) (hs : Settles st c.pos) :
    GoodScanPC cmp t fwd sk skey (iterTop st) := by
  unfold iterTop
  split
  · exact ⟨hd, Or.inl rfl⟩
  · exact ⟨hd, Or.inr (Or.inr ⟨by simp, c, S, hg, ha, hnear, Or.inl ⟨rfl, hs⟩⟩)⟩

theorem goodScan_of_stepOK {t : Tree K V} {fwd : Bool} {sk : SeekKind} {skey : K} (hd : skFwd sk = fwd) {st : ItSt K V}
    (hmode : st.mode ≠ .seek) {c : Cursor K} {S : List (K × V)} (hg : c.gen = t.gen) (ha : Ahead t fwd c S)
    (hnear : ∀ e ∈ S, nearOf cmp sk skey e.1 = true) {ph : Ph} (hcl : phClass ph = 2 ∨ phClass ph = 3) {pc : PC K V}
    (h : StepOK cmp t fwd skey st ph c.pos pc) : GoodScanPC cmp t fwd sk skey pc := by
  rcases h with ⟨ph', rfl, hc, hcl'⟩ | ⟨r, rfl⟩ | ⟨st', hs, _, _, _, rfl⟩
  · refine ⟨hd, Or.inr (Or.inr ⟨hmode, c, S, hg, ha, hnear, Or.inr ⟨?_, hc⟩⟩)⟩
    rcases hcl' with h | h
    · rw [h]; exact hcl
    · exact Or.inl h
  · trivial
  · have h := goodScan_iterTop (cmp := cmp) hd hg ha hnear hs
    cases hmd : st.mode with
    | seek => exact absurd hmd hmode
    | step => exact h
    | iter => exact h

theorem goodScan_of_stepOK_seek {t : Tree K V} {fwd : Bool} {sk : SeekKind} {skey : K} (hd : skFwd sk = fwd) {st : ItSt K V}
    (hmode : st.mode = .seek) (hne : findEmpty t.root.n = false) {ph : Ph} (hcl : phClass ph = 1 ∨ phClass ph = 2)
    {pc : PC K V} (h : StepOK cmp t fwd skey st ph (preSeek cmp t sk skey) pc) : GoodScanPC cmp t fwd sk skey pc := by
  rcases h with ⟨ph', rfl, hc, hcl'⟩ | ⟨r, rfl⟩ | ⟨st', hs, _, hsome, hm', rfl⟩
  · refine ⟨hd, Or.inr (Or.inl ⟨hmode, Or.inr (Or.inr (Or.inr (Or.inr ⟨?_, hne, hc⟩)))⟩)⟩
    rcases hcl' with h | h
    · rw [h]; exact hcl
    · exact Or.inr h
  · trivial
  · simp only [hmode]
    cases hp : preSeek cmp t sk skey with
    | none => exact absurd hp (hsome hmode)
    | some pf =>
      rw [hp] at hs
      exact ⟨hd, Or.inr (Or.inl ⟨by rw [hm']; exact hmode, Or.inr (Or.inr (Or.inr (Or.inl ⟨rfl, hne, pf, hp, hs⟩)))⟩)⟩

theorem find_at (hc : StrictWeak cmp) {t : Tree K V} (hi : Inv cmp t) (hne : findEmpty t.root.n = false) (skey : K) {pf : Pos K}
    (h : (findIn cmp skey t.root).map (·.1) = some pf) : ∃ y up e, At t.root pf y up e := by
  rcases find_spec hc hi skey with ⟨hf, _⟩ | ⟨p, f, y, up, e, hf, ha, _⟩ <;>
    simp only [find, hne, Bool.false_eq_true, if_false] at hf
  · rw [hf] at h; cases h
  · rw [hf] at h; cases h; exact ⟨y, up, e, ha⟩

theorem ahead_nil (t : Tree K V) (fwd : Bool) (g : Nat) : Ahead t fwd ({ pos := none, gen := g } : Cursor K) [] :=
  ahead_iff_run.mpr (Run.nil fwd t g)

theorem ahead_step {t : Tree K V} (hi : Inv cmp t) {fwd : Bool} {c : Cursor K} {S : List (K × V)} (ha : Ahead t fwd c S)
    {p : Pos K} (hp : c.pos = some p) :
    ∃ y up e S', At t.root p y up e ∧ p.k = e.1 ∧ S = e :: S' ∧ c.gen = t.gen ∧
      Ahead t fwd { c with pos := if fwd then nextCore t p else prevCore t p } S' := by
  obtain ⟨y, up, e, S', h1, h2, h3, h4, h5⟩ := (ahead_iff_run.mp ha).step hi hp
  exact ⟨y, up, e, S', h1, h2, h3, h4, ahead_iff_run.mpr h5⟩

theorem at_path {t : Tree K V} (ht : TreeOK t) {p : Pos K} {y : Node K V} {up : List (Node K V × Nat)} {e : K × V}
    (ha : At t.root p y up e) : pathTo p.id t.root = some (up.reverse, y) ∧ p.i < y.kvs.length :=
  ⟨pathTo_unique p.id t.root up y ha.zip ht.hone ha.idEq, (List.getElem?_eq_some_iff.mp ha.entry).1⟩

theorem scan_next (hc : StrictWeak cmp) {t : Tree K V} (hi : Inv cmp t) {m : Mem K V} (hm : MemOK m t)
    (fwd : Bool) (sk : SeekKind) (skey : K) (stop : Option (CmpOp × K)) (limit : Nat) {ph : Ph} {st : ItSt K V}
    (h : ScanInv cmp t fwd sk skey ph st) :
    GoodScanPC cmp t fwd sk skey (itNext cmp (.scan fwd sk skey stop limit) m ph st) ∧
    (Good cmp t (.scan fwd sk skey stop limit) (.it ph st) →
      Good cmp t (.scan fwd sk skey stop limit) (itNext cmp (.scan fwd sk skey stop limit) m ph st)) := by
  have ht : TreeOK t := treeOK_of_inv hi
  obtain ⟨hd, h⟩ := h
  have hrootR : Real t t.root.id t.root := ⟨.refl _, rfl⟩
  -- `Good` of the successor: it has returned; it is at another point than `nVal`; it is at the top of its loop
  have D : ∀ r, Good cmp t (.scan fwd sk skey stop limit) (.done r) := fun _ h => nomatch h
  have I : ∀ (st' : ItSt K V) ph', Settled t st' → ph' ≠ Ph.nVal → Good cmp t (.scan fwd sk skey stop limit) (.it ph' st') :=
    fun _ _ h hp => ⟨rfl, h, fun e => absurd e hp⟩
  -- a step from a `Cont` point
  have C : ∀ {tg pc}, phClass ph ≠ 0 → StepOK cmp t fwd skey st ph tg pc →
      Good cmp t (.scan fwd sk skey stop limit) (.it ph st) → Good cmp t (.scan fwd sk skey stop limit) pc :=
    fun hcl h hg => good_of_stepOK rfl hg.2.1 hcl h
  rcases h with rfl | ⟨hmode, h⟩ | ⟨hmode, c, S, hg, ha, hnear, h⟩
  · -- the reader is through
    exact ⟨⟨hd, Or.inl rfl⟩, id⟩
  · rcases h with rfl | ⟨r, rfl, rfl⟩ | ⟨rfl, hne⟩ | ⟨rfl, hne, pf, hpre, his⟩ | ⟨hcl, hne, hcont⟩
    · -- `c.t.root`
      simp only [itNext.eq_def, hm.root]
      exact ⟨⟨hd, Or.inr (Or.inl ⟨hmode, Or.inr (Or.inl ⟨_, rfl, rfl⟩)⟩)⟩, fun hg => I _ _ hg.2.1 nofun⟩
    · -- `c.t.root.n == 0`
      rw [itNext_sRootN, show m.n t.root.id = t.root.n from hm.n hrootR]
      cases hne : findEmpty t.root.n with
      | true =>
        exact ⟨goodScan_iterTop (c := { pos := none, gen := t.gen }) hd rfl (ahead_nil t fwd t.gen) nofun rfl,
          fun _ => good_iterTop rfl nofun⟩
      | false => exact ⟨⟨hd, Or.inr (Or.inl ⟨hmode, Or.inr (Or.inr (Or.inl ⟨rfl, hne⟩))⟩)⟩, fun hg => I _ _ hg.2.1 nofun⟩
    · -- `curr := c.t.root` / `leftmostLeaf(c.t.root)` / `rightmostLeaf(c.t.root)`
      have wrap : ∀ ph', (phClass ph' = 1 ∨ phClass ph' = 2) → Cont cmp t fwd skey st ph' (preSeek cmp t sk skey) →
          GoodScanPC cmp t fwd sk skey (.it ph' st) := fun ph' hcl hcont =>
        ⟨hd, Or.inr (Or.inl ⟨hmode, Or.inr (Or.inr (Or.inr (Or.inr ⟨hcl, hne, hcont⟩)))⟩)⟩
      cases sk <;> simp only [itNext.eq_def, hm.root] <;> refine ⟨?_, fun hg => I _ _ hg.2.1 nofun⟩
      · exact wrap _ (Or.inr rfl) ⟨t.root, hrootR, rfl⟩
      · exact wrap _ (Or.inr rfl) ⟨t.root, hrootR, rfl⟩
      · exact wrap _ (Or.inl rfl) ⟨t.root, hrootR, rfl, Nat.zero_le _⟩
      · exact wrap _ (Or.inl rfl) ⟨t.root, hrootR, rfl, Nat.zero_le _⟩
      · exact wrap _ (Or.inl rfl) ⟨t.root, hrootR, rfl, Nat.zero_le _⟩
      · exact wrap _ (Or.inl rfl) ⟨t.root, hrootR, rfl, Nat.zero_le _⟩
    · -- `c.gen = c.t.gen`, then the step test of the `Seek*`
      obtain ⟨S, hahead, hnear⟩ := doSeek_ahead hc hi sk skey
      rw [hd] at hahead
      have hshape := doSeek_shape cmp t sk skey hne hpre
      rw [itNext_sgen fwd sk skey stop limit m his.2.2]
      cases hs : seekSteps cmp sk skey pf.k with
      | false =>
        -- the seek does not step: the cursor stays where `find` / `SeekFirst` / `SeekLast` put it
        simp only [hs, Bool.false_eq_true, if_false] at hshape ⊢
        refine ⟨goodScan_iterTop (c := doSeek cmp t sk skey) hd (by rw [hshape]) hahead hnear ?_,
          fun hg => good_iterTop rfl hg.2.1⟩
        rw [hshape]; exact his
      | true =>
        -- the seek steps once: `c.Next()` / `c.Prev()` from there
        simp only [hs, if_true] at hshape ⊢
        have hfind : (findIn cmp skey t.root).map (·.1) = some pf := by cases sk <;> first | exact hpre | cases hs
        obtain ⟨y, up, e, hat⟩ := find_at hc hi hne skey hfind
        obtain ⟨hpath, hlt⟩ := at_path ht hat
        refine ⟨⟨hd, Or.inr (Or.inr ⟨nofun, doSeek cmp t sk skey, S, by rw [hshape], hahead, hnear,
          Or.inr ⟨Or.inr rfl, pf, y, up.reverse, his, hpath, hlt, ?_⟩⟩)⟩, fun hg => I _ _ hg.2.1 nofun⟩
        rw [hshape, hd]
    · -- inside `find` / a descent / the key read
      rcases hcl with hcl | hcl
      · have h := cont_find (cmp := cmp) hm (.scan fwd sk skey stop limit) fwd hcl hcont
        exact ⟨goodScan_of_stepOK_seek hd hmode hne (Or.inl hcl) h, C (by rw [hcl]; decide) h⟩
      · have h := cont_desc (cmp := cmp) hm (.scan fwd sk skey stop limit) fwd skey hcl hcont
        exact ⟨goodScan_of_stepOK_seek hd hmode hne (Or.inr hcl) h, C (by rw [hcl]; decide) h⟩
  · rcases h with ⟨hsett, hs⟩ | ⟨hcl, hcont⟩
    · have same : ∀ ph', settledPh ph' = true → GoodScanPC cmp t fwd sk skey (.it ph' st) := fun ph' hp =>
        ⟨hd, Or.inr (Or.inr ⟨hmode, c, S, hg, ha, hnear, Or.inl ⟨hp, hs⟩⟩)⟩
      cases ph with
      | nGen =>
        -- iterator `Next`: `lost()`, `curr == nil`, the in-range test: only a key that passes it leads to the value read
        simp only [itNext.eq_def]
        cases hcurr : st.curr with
        | none => exact ⟨same _ rfl, fun hg => I _ _ hg.2.1 nofun⟩
        | some x =>
          by_cases hgen : st.cgen = m.gen
          · cases hk : st.k with
            | none => simp only [if_pos hgen]; exact ⟨trivial, fun _ => D _⟩
            | some k =>
              simp only [if_pos hgen]
              split
              · exact ⟨same _ rfl, fun hg => I _ _ hg.2.1 nofun⟩
              · rename_i hstop
                exact ⟨same _ rfl, fun hg => ⟨rfl, hg.2.1, fun _ => ⟨x, k, hcurr, hk, inRange_of_not_stops _ k (by simpa using hstop)⟩⟩⟩
          · simp only [if_neg hgen]; exact ⟨trivial, fun _ => D _⟩
      | nVal =>
        -- `valueUnchecked()`, then `iter.c.Next()` / `Prev()`
        simp only [itNext.eq_def]
        split
        · rename_i x k hx hk
          obtain ⟨p, hp, hs⟩ := hs.is hx
          obtain ⟨y, up, e, S', hat, hke, hS, hg', hahead'⟩ := ahead_step hi ha hp
          obtain ⟨hpath, hlt⟩ := at_path ht hat
          refine ⟨⟨hd, Or.inr (Or.inr ⟨hmode, { c with pos := if fwd then nextCore t p else prevCore t p }, S', hg, hahead',
            fun e' he' => hnear e' (by rw [hS]; exact List.mem_cons_of_mem _ he'), Or.inr ⟨Or.inr rfl, ?_⟩⟩)⟩,
            fun hg => I _ _ hg.2.1 nofun⟩
          exact ⟨p, y, up.reverse, hs, hpath, hlt, rfl⟩
        · exact ⟨trivial, fun _ => D _⟩
      | fin => exact ⟨⟨hd, Or.inl rfl⟩, id⟩
      | _ => simp [settledPh] at hsett
    · rcases hcl with hcl | hcl
      · have h := cont_desc (cmp := cmp) hm (.scan fwd sk skey stop limit) fwd skey hcl hcont
        exact ⟨goodScan_of_stepOK hd hmode hg ha hnear (Or.inl hcl) h, C (by rw [hcl]; decide) h⟩
      · have h := cont_move ht hm (.scan fwd sk skey stop limit) fwd skey (moveFwd_scan hd st) hmode hcl hcont
        exact ⟨goodScan_of_stepOK hd hmode hg ha hnear (Or.inr hcl) h, C (by rw [hcl]; decide) h⟩

theorem scanInv_next (hc : StrictWeak cmp) {t : Tree K V} (hi : Inv cmp t) {m : Mem K V} (hm : MemOK m t)
    (fwd : Bool) (sk : SeekKind) (skey : K) (stop : Option (CmpOp × K)) (limit : Nat) {ph : Ph} {st : ItSt K V}
    (h : ScanInv cmp t fwd sk skey ph st) :
    GoodScanPC cmp t fwd sk skey (itNext cmp (.scan fwd sk skey stop limit) m ph st) :=
  (scan_next hc hi hm fwd sk skey stop limit h).1

def nearOp (cmp : K → K → Int) : Op K V → K → Bool
  | .scan _ sk skey _ _, k => nearOf cmp sk skey k
  | _, _ => true

/-- a range reader is one of `Range`'s / `RangeReverse`'s: it seeks in its own direction -/
def ScanWF : Op K V → Prop
  | .scan fwd sk _ _ _ => skFwd sk = fwd
  | _ => True

def ScanGood (cmp : K → K → Int) (t : Tree K V) : Op K V → PC K V → Prop
  | .scan fwd sk skey _ _, .it ph st => ScanInv cmp t fwd sk skey ph st
  | _, _ => True

theorem scanGood_of_search {t : Tree K V} {op : Op K V}
    (h : ∀ fwd sk skey stop limit, op ≠ .scan fwd sk skey stop limit) (pc : PC K V) : ScanGood cmp t op pc := by
  cases op with
  | scan fwd sk skey stop limit => exact absurd rfl (h fwd sk skey stop limit)
  | _ => cases pc <;> trivial

theorem scanGood_start {t : Tree K V} (op : Op K V) (hw : ScanWF op) (pc : PC K V)
    (h : ∀ fwd sk skey stop limit, op = .scan fwd sk skey stop limit → pc = .it .sRoot1 (ItSt.init limit)) :
    ScanGood cmp t op pc := by
  cases op with
  | scan fwd sk skey stop limit =>
    rw [h fwd sk skey stop limit rfl]
    exact ⟨hw, Or.inr (Or.inl ⟨rfl, Or.inl rfl⟩)⟩
  | _ => cases pc <;> trivial

theorem scanGood_next (hc : StrictWeak cmp) {t : Tree K V} {m : Mem K V} (hm : MemOK m t) {op : Op K V}
    (hi : ∀ fwd sk skey stop limit, op = .scan fwd sk skey stop limit → Inv cmp t) {ph : Ph} {st : ItSt K V}
    (h : ScanGood cmp t op (.it ph st)) :
    ScanGood cmp t op (itNext cmp op m ph st) ∧ (Good cmp t op (.it ph st) → Good cmp t op (itNext cmp op m ph st)) := by
  cases op with
  | scan fwd sk skey stop limit =>
    have hinv : Inv cmp t := hi _ _ _ _ _ rfl
    have := scan_next hc hinv hm fwd sk skey stop limit h
    refine ⟨?_, this.2⟩
    have := this.1
    generalize itNext cmp (.scan fwd sk skey stop limit) m ph st = pc at this ⊢
    cases pc <;> first | exact this | trivial
  | _ => exact ⟨by generalize itNext cmp _ m ph st = pc; cases pc <;> trivial, fun hg => nomatch hg.1⟩

/-- **the value slot a range reader is about to read holds a key inside its near bound** -/
theorem scanGood_near {t : Tree K V} (hi : Inv cmp t) {op : Op K V} {st : ItSt K V} (h : ScanGood cmp t op (.it .nVal st))
    {x : Nat} (hx : st.curr = some x) {y : Node K V} (hr : Real t x y) (hlt : st.i.toNat < y.kvs.length) :
    nearOp cmp op y.kvs[st.i.toNat].1 = true := by
  cases op with
  | scan fwd sk skey stop limit =>
    obtain ⟨hd, h⟩ := h
    rcases h with h | ⟨_, h⟩ | ⟨_, c, S, hg, ha, hnear, h⟩
    · cases h
    · rcases h with h | ⟨r, h, _⟩ | ⟨h, _⟩ | ⟨h, _⟩ | ⟨hcl, _⟩
      · cases h
      · cases h
      · cases h
      · cases h
      · rcases hcl with h | h <;> cases h
    · rcases h with ⟨_, hs⟩ | ⟨hcl, _⟩
      · obtain ⟨p, hp, hs⟩ := hs.is hx
        obtain ⟨y', up, e, S', hat, hke, hS, _, _⟩ := ahead_step hi ha hp
        have hid : p.id = x := Option.some.inj (hs.1.symm.trans hx)
        have hy : y = y' := real_unique hi.ids.1 hr ⟨zip_sub _ _ hat.zip, hat.idEq.trans hid⟩
        subst hy
        have hi' : st.i.toNat = p.i := by rw [hs.2.1]; simp
        have hent := hat.entry
        rw [← hi', List.getElem?_eq_getElem hlt] at hent
        simp only [Option.some.injEq] at hent
        rw [hent]
        exact hnear e (by rw [hS]; exact List.mem_cons_self)
      · rcases hcl with h | h <;> cases h
  | _ => rfl

end Juniper.Proofs.TreeAccess
