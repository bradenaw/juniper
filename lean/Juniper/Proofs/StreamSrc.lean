import Juniper.Proofs.IterDen
import Juniper.Proofs.StreamDen
/-!
# The scripted source of `Model/Stream.lean`: what a fault script denotes

`scriptItems er p sc` / `scriptTerm er p sc`: the items of the script `sc` up to its first hard failure, each with the
number of pulls at its delivery (`p` pulls before), and how the script terminates; `src_sden`: the scripted source
denotes them. Then the scripts the property theorems are stated over: items only (`ofList`), items and then a fatal
failure (`fatalAfter`), transient failures in between (`script_two_transients`, `script_transient_then_fatal`), and what
such a source denotes as an inner stream of `Flatten` / an argument of `Join` (`srcD`).
-/
namespace Juniper.Proofs.StreamDen
open Juniper.Model Juniper.Model.Stream
open Juniper.Proofs.IterDen
universe v
variable {α : Type v} {soft : Err → Bool}

/-- items of a fault script up to its first hard failure. `er = true`: transient failures cost
nothing (they are erased); `er = false`: the view of a consumer that gives up at the first failure. -/
def scriptItems (er : Bool) (p : Nat) : List (Ev α) → List (α × Nat)
  | [] => []
  | .item a :: r => (a, p + 1) :: scriptItems er (p + 1) r
  | .transient _ :: r => if er then scriptItems er p r else []
  | .fatal _ :: _ => []

def scriptTerm (er : Bool) (p : Nat) : List (Ev α) → Term
  | [] => .end_ p
  | .item _ :: r => scriptTerm er (p + 1) r
  | .transient n :: r => if er then scriptTerm er p r else .fail (.transient n)
  | .fatal n :: _ => .fail (.fatal n)

def eraseT : List (Ev α) → List (Ev α)
  | [] => []
  | .transient _ :: r => eraseT r
  | e :: r => e :: eraseT r

theorem scriptItems_eraseT (er : Bool) (p : Nat) (sc : List (Ev α)) :
    scriptItems er p (eraseT sc) = scriptItems true p sc := by
  induction sc generalizing p with
  | nil => rfl
  | cons e r ih => cases e <;> simp [eraseT, scriptItems, ih]

theorem scriptTerm_eraseT (er : Bool) (p : Nat) (sc : List (Ev α)) :
    scriptTerm er p (eraseT sc) = scriptTerm true p sc := by
  induction sc generalizing p with
  | nil => rfl
  | cons e r ih => cases e <;> simp [eraseT, scriptTerm, ih]

/-- a source that is not closed answers an expired context with the context error and touches nothing -/
theorem src_step_expired (sc : List (Ev α)) (c p a : Nat) :
    (src (α := α)).step ⟨sc, c, p, 0, a⟩ false = (.err .ctx, ⟨sc, c, p, 0, a⟩) := by
  simp [src, srcStep]

theorem src_ctxOk (sc : List (Ev α)) (c p a : Nat) : CtxOk (src (α := α)) ⟨sc, c, p, 0, a⟩ :=
  .inl (src_step_expired sc c p a)

theorem src_sended (c p a : Nat) : SEnded (src (α := α)) ⟨[], c, p, 0, a⟩ :=
  sended_of_inv (fun s : Src α => s.script = [] ∧ s.closes = 0) (by
    intro s ⟨h1, h2⟩
    obtain ⟨sc, c, p, cl, a⟩ := s
    simp only at h1 h2
    subst h1 h2
    refine ⟨src_ctxOk _ _ _ _, by simp [src, srcStep], fun c => ?_⟩
    cases c <;> simp [src, srcStep]) ⟨rfl, rfl⟩

theorem src_pulled_const (c p a : Nat) (cs : List Bool) :
    (afterS (src (α := α)) cs ⟨[], c, p, 0, a⟩).pulled = p := by
  induction cs generalizing c a with
  | nil => rfl
  | cons b cs ih =>
    cases b
    · simpa [afterS, src, srcStep] using ih c a
    · simpa [afterS, src, srcStep] using ih (c + 1) a

theorem src_sden (er : Bool) (hT : ∀ n, soft (.transient n) = er) (hF : ∀ n, soft (.fatal n) = false)
    (sc : List (Ev α)) (c p a : Nat) :
    SDen soft src (fun s : Src α => s.pulled) ⟨sc, c, p, 0, a⟩ (scriptItems er p sc) (scriptTerm er p sc) := by
  induction sc generalizing c p with
  | nil =>
    exact .done (cost := fun s : Src α => s.pulled) (s' := (⟨[], c + 1, p, 0, a⟩ : Src α)) (src_ctxOk _ _ _ _) (by simp [src, srcStep]) (src_sended _ _ _) (src_pulled_const _ _ _)
  | cons e r ih =>
    cases e with
    | item x =>
      exact .item (s' := (⟨r, c + 1, p + 1, 0, a⟩ : Src α)) (src_ctxOk _ _ _ _) (by simp [src, srcStep]) (ih _ _)
    | transient n =>
      cases er with
      | true =>
        simp only [scriptItems, scriptTerm, if_true]
        exact .soft (e := .transient n) (s' := (⟨r, c + 1, p, 0, a⟩ : Src α)) (src_ctxOk _ _ _ _) (by simp [src, srcStep]) (hT n) (ih _ _)
      | false =>
        simp only [scriptItems, scriptTerm]
        exact .fail (e := .transient n) (s' := (⟨r, c + 1, p, 0, a⟩ : Src α)) (src_ctxOk _ _ _ _) (by simp [src, srcStep]) (hT n)
    | fatal n =>
      exact .fail (e := .fatal n) (s' := (⟨.fatal n :: r, c + 1, p, 0, a⟩ : Src α)) (src_ctxOk _ _ _ _) (by simp [src, srcStep]) (hF n)

/-- a fresh source, transient failures soft: the reading every `Next`-level statement over a script uses -/
theorem script_sden (sc : List (Ev α)) :
    SDen Err.soft src (fun s : Src α => s.pulled) (Src.of sc) (scriptItems true 0 sc) (scriptTerm true 0 sc) :=
  src_sden true (fun _ => rfl) (fun _ => rfl) sc 0 0 0

theorem scriptItems_append_items {α : Type v} (er : Bool) (p : Nat) (l : List α) (rest : List (Ev α)) :
    scriptItems er p (l.map Ev.item ++ rest) =
      scriptItems er p (l.map Ev.item) ++ scriptItems er (p + l.length) rest := by
  induction l generalizing p with
  | nil => rfl
  | cons a l ih =>
    simp only [List.map_cons, List.cons_append, scriptItems, List.length_cons, ih]
    congr 3
    omega

theorem scriptTerm_append_items {α : Type v} (er : Bool) (p : Nat) (l : List α) (rest : List (Ev α)) :
    scriptTerm er p (l.map Ev.item ++ rest) = scriptTerm er (p + l.length) rest := by
  induction l generalizing p with
  | nil => rfl
  | cons a l ih =>
    simp only [List.map_cons, List.cons_append, scriptTerm, List.length_cons, ih]
    congr 1
    omega

section
variable {α : Type}

theorem script_two_transients (l1 l2 l3 : List α) (n1 n2 : Nat) :
    scriptItems true 0 (l1.map Ev.item ++ .transient n1 :: (l2.map Ev.item ++ .transient n2 :: l3.map Ev.item)) =
      scriptItems true 0 ((l1 ++ l2 ++ l3).map Ev.item) ∧
    scriptTerm true 0 (l1.map Ev.item ++ .transient n1 :: (l2.map Ev.item ++ .transient n2 :: l3.map Ev.item)) =
      scriptTerm true 0 ((l1 ++ l2 ++ l3).map Ev.item) := by
  constructor
  · simp only [List.map_append, scriptItems_append_items, scriptItems, if_true, List.append_assoc, Nat.zero_add]
  · simp only [List.map_append, scriptTerm_append_items, scriptTerm, if_true, List.append_assoc, Nat.zero_add]

theorem script_transient_then_fatal (l1 l2 : List α) (n E : Nat) (rest : List (Ev α)) :
    scriptItems true 0 (l1.map Ev.item ++ .transient n :: (l2.map Ev.item ++ .fatal E :: rest)) =
      scriptItems true 0 ((l1 ++ l2).map Ev.item) ∧
    scriptTerm true 0 (l1.map Ev.item ++ .transient n :: (l2.map Ev.item ++ .fatal E :: rest)) = .fail (.fatal E) := by
  constructor
  · simp only [List.map_append, scriptItems_append_items, scriptItems, if_true, List.append_nil, Nat.zero_add]
  · simp only [scriptTerm_append_items, scriptTerm, if_true]

theorem script_fatal (l : List α) (E : Nat) (rest : List (Ev α)) :
    scriptItems true 0 (l.map Ev.item ++ .fatal E :: rest) = scriptItems true 0 (l.map Ev.item) ∧
    scriptTerm true 0 (l.map Ev.item ++ .fatal E :: rest) = .fail (.fatal E) := by
  constructor
  · simp only [scriptItems_append_items, scriptItems, List.append_nil]
  · simp only [scriptTerm_append_items, scriptTerm]

end

theorem scriptItems_map_item (er : Bool) (p : Nat) (l : List α) :
    scriptItems er p (l.map Ev.item) = annot p l := by
  induction l generalizing p with
  | nil => rfl
  | cons a l ih => simp [scriptItems, annot, ih]

theorem scriptTerm_map_item (er : Bool) (p : Nat) (l : List α) :
    scriptTerm er p (l.map Ev.item) = .end_ (p + l.length) := by
  induction l generalizing p with
  | nil => rfl
  | cons a l ih => simp [scriptTerm, ih]; omega

/-- a fresh fault-free scripted source -/
def ofList (l : List α) : Stream.Src α := Stream.Src.of (l.map Ev.item)

theorem ofList_sden (er : Bool) (hT : ∀ n, soft (.transient n) = er) (hF : ∀ n, soft (.fatal n) = false)
    (l : List α) :
    SDen soft Stream.src (fun s : Stream.Src α => s.pulled) (ofList l) (annot 0 l) (.end_ l.length) := by
  have := src_sden (soft := soft) er hT hF (l.map Ev.item) 0 0 0
  rw [scriptItems_map_item, scriptTerm_map_item, Nat.zero_add] at this
  exact this

/-- what a scripted source denotes as an inner stream of `Flatten` / an argument of `Join`: values and termination,
transient failures erased -/
def srcD (x : Stream.Src α) : List α × Term :=
  ((scriptItems true x.pulled x.script).map Prod.fst, scriptTerm true x.pulled x.script)

theorem srcD_ofList (l : List α) : srcD (ofList l) = (l, .end_ l.length) := by
  simp [srcD, ofList, Stream.Src.of, scriptItems_map_item, scriptTerm_map_item, annot_fst]

/-- the script that delivers `l` and then fails for good with `E` (whatever comes after) -/
def fatalAfter (l : List α) (E : Nat) (rest : List (Ev α)) : List (Ev α) := l.map Ev.item ++ .fatal E :: rest

theorem scriptItems_fatalAfter (l : List α) (E : Nat) (rest : List (Ev α)) (p : Nat) :
    scriptItems true p (fatalAfter l E rest) = annot p l := by
  rw [fatalAfter, scriptItems_append_items, scriptItems_map_item]
  exact List.append_nil _

theorem scriptTerm_fatalAfter (l : List α) (E : Nat) (rest : List (Ev α)) (p : Nat) :
    scriptTerm true p (fatalAfter l E rest) = .fail (.fatal E) := by
  rw [fatalAfter, scriptTerm_append_items]
  rfl

theorem fatal_src_sden (l : List α) (E : Nat) (rest : List (Ev α)) :
    SDen Err.soft Stream.src (fun s : Stream.Src α => s.pulled) (Stream.Src.of (fatalAfter l E rest))
      (annot 0 l) (.fail (.fatal E)) := by
  have := script_sden (fatalAfter l E rest)
  rwa [scriptItems_fatalAfter, scriptTerm_fatalAfter] at this

theorem srcD_fatalAfter (l : List α) (E : Nat) (rest : List (Ev α)) :
    srcD (Stream.Src.of (fatalAfter l E rest)) = (l, .fail (.fatal E)) := by
  simp [srcD, Stream.Src.of, scriptItems_fatalAfter, scriptTerm_fatalAfter, annot_fst]

/-- every fresh scripted source satisfies the hypothesis of `flatten_sden` / `join_sden` with `srcD` -/
theorem srcD_hyp_script (sc : List (Ev α)) :
    ∃ (ci : Stream.Src α → Nat) (Li : List (α × Nat)),
      SDen Err.soft Stream.src ci (Stream.Src.of sc) Li (srcD (Stream.Src.of sc)).2 ∧
        Li.map Prod.fst = (srcD (Stream.Src.of sc)).1 :=
  ⟨fun s => s.pulled, scriptItems true 0 sc, script_sden sc, rfl⟩

theorem items_src_sden (l : List α) :
    SDen Err.soft Stream.src (fun s : Stream.Src α => s.pulled) (ofList l) (annot 0 l) (.end_ l.length) :=
  ofList_sden true (fun _ => rfl) (fun _ => rfl) l

theorem items_src_strict (l : List α) :
    SDen strict Stream.src (fun s : Stream.Src α => s.pulled) (ofList l) (annot 0 l) (.end_ l.length) :=
  ofList_sden false (fun _ => rfl) (fun _ => rfl) l

end Juniper.Proofs.StreamDen
