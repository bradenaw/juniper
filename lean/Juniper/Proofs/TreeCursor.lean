import Juniper.Proofs.TreeHistory
/-!
# Cursor navigation (C01 ranges, C02 iterators)

A cursor position `(id, i)` is located through `pathTo` (the model's stand-in for parent pointers).
`Zip root y up`: `up` is the path from node `y` up to the root; `ctxBefore`/`ctxAfter` are the in-order
entries left and right of `y`'s subtree. `cursor.Next` is shown to move to the in-order successor.
-/
namespace Juniper.Proofs.Tree
open Juniper.Model.BTree Juniper.Gen.Tree

variable {K V : Type} {α : Type} {cmp : K → K → Int}

/-- `up` is the path from `y` up to `root`: frames `(ancestor, index of the child taken)`, innermost first -/
def Zip (root : Node K V) : Node K V → List (Node K V × Nat) → Prop
  | y, [] => y = root
  | y, (p, j) :: up => p.kids[j]? = some y ∧ Zip root p up

/-- in-order entries left of the subtree reached by the path -/
def ctxBefore : List (Node K V × Nat) → List (K × V)
  | [] => []
  | (p, j) :: up => ctxBefore up ++ pre ((p.kids.take j).map toList) (p.kvs.take j)

/-- in-order entries right of the subtree reached by the path -/
def ctxAfter : List (Node K V × Nat) → List (K × V)
  | [] => []
  | (p, j) :: up => rest ((p.kids.drop (j + 1)).map toList) (p.kvs.drop j) ++ ctxAfter up

def PathOK : List (Node K V × Nat) → Prop
  | [] => True
  | (p, _) :: up => p.kids.length = p.kvs.length + 1 ∧ PathOK up

theorem zip_bal {root : Node K V} : ∀ (up : List (Node K V × Nat)) (y : Node K V) (h : Nat), Bal h root → Zip root y up →
    PathOK up ∧ ∃ h', Bal h' y ∧ (up ≠ [] → Occ y) := by
  intro up
  induction up with
  | nil =>
    intro y h hb hz; cases hz
    exact ⟨trivial, h, hb, fun h => absurd rfl h⟩
  | cons f up ih =>
    obtain ⟨p, j⟩ := f
    intro y h hb hz
    obtain ⟨hc, hz'⟩ := hz
    obtain ⟨hp, h', hbp, _⟩ := ih p h hb hz'
    obtain ⟨pid, pkvs, pkids⟩ := p
    obtain ⟨h'', rfl, hlen, -, hby, hoy⟩ := bal_child hbp hc
    exact ⟨⟨hlen, hp⟩, h'', hby, fun _ => hoy⟩

theorem zip_snoc {x c : Node K V} {j : Nat} (hc : x.kids[j]? = some c) :
    ∀ (up : List (Node K V × Nat)) (z : Node K V), Zip c z up → Zip x z (up ++ [(x, j)]) := by
  intro up
  induction up with
  | nil => intro z hz; cases hz; exact ⟨hc, rfl⟩
  | cons f up ihu => intro z hz; obtain ⟨q, jq⟩ := f; exact ⟨hz.1, ihu q hz.2⟩

theorem pathTo_spec (id : Nat) (x : Node K V) :
    ∀ fr y, pathTo id x = some (fr, y) → Zip x y fr.reverse ∧ y.id = id := by
  apply pathTo.induct id
    (motive_1 := fun x => ∀ fr y, pathTo id x = some (fr, y) → Zip x y fr.reverse ∧ y.id = id)
    (motive_2 := fun kids j0 => ∀ j fr y, pathIn id kids j0 = some (j, fr, y) →
      ∃ c, j0 ≤ j ∧ kids[j - j0]? = some c ∧ Zip c y fr.reverse ∧ y.id = id)
  · intro kvs kids fr y h
    simp only [pathTo, if_true, Option.some.injEq, Prod.mk.injEq] at h
    obtain ⟨rfl, rfl⟩ := h
    exact ⟨rfl, rfl⟩
  · intro i kvs kids hne j fr y hin ih fr' y' h
    simp only [pathTo, hne, if_false, hin, Option.some.injEq, Prod.mk.injEq] at h
    obtain ⟨rfl, rfl⟩ := h
    obtain ⟨c, _, hc, hz, hid⟩ := ih j fr y hin
    refine ⟨?_, hid⟩
    simp only [List.reverse_cons]
    exact zip_snoc (x := .mk i kvs kids) (by simpa [Node.kids] using hc) _ _ hz
  · intro i kvs kids hne hin _ fr y h
    simp [pathTo, hne, hin] at h
  · intro j0 j fr y h; simp [pathIn] at h
  · intro c cs j0 fr y hp ih j fr' y' h
    simp only [pathIn, hp, Option.some.injEq, Prod.mk.injEq] at h
    obtain ⟨rfl, rfl, rfl⟩ := h
    obtain ⟨hz, hid⟩ := ih fr y hp
    exact ⟨c, Nat.le_refl _, by simp, hz, hid⟩
  · intro c cs j0 hp _ ih j fr y h
    simp only [pathIn, hp] at h
    obtain ⟨d, hle, hd, hz, hid⟩ := ih j fr y h
    refine ⟨d, by omega, ?_, hz, hid⟩
    have : j - j0 = (j - (j0 + 1)) + 1 := by omega
    rw [this]; simpa using hd

theorem zip_snoc_inv {x p : Node K V} {j : Nat} :
    ∀ (up : List (Node K V × Nat)) (z : Node K V), Zip x z (up ++ [(p, j)]) →
      p = x ∧ ∃ c, x.kids[j]? = some c ∧ Zip c z up := by
  intro up
  induction up with
  | nil =>
    intro z hz
    simp only [List.nil_append, Zip] at hz
    obtain ⟨h1, h2⟩ := hz
    subst h2
    exact ⟨rfl, z, h1, rfl⟩
  | cons f up ihu =>
    intro z hz
    obtain ⟨q, jq⟩ := f
    simp only [List.cons_append, Zip] at hz
    obtain ⟨h1, h2⟩ := hz
    obtain ⟨e, c, hc, hz'⟩ := ihu q h2
    exact ⟨e, c, hc, h1, hz'⟩

theorem zip_cnt {root : Node K V} (i : Nat) : ∀ (up : List (Node K V × Nat)) (y : Node K V), Zip root y up →
    cnt i y ≤ cnt i root := by
  intro up
  induction up with
  | nil => intro y hz; cases hz; exact Nat.le_refl _
  | cons f up ih =>
    obtain ⟨p, j⟩ := f
    intro y hz
    obtain ⟨hc, hz'⟩ := hz
    have h1 := ih p hz'
    have h3 := cntK_at hc i
    obtain ⟨pid, pkvs, pkids⟩ := p
    simp only [Node.kids] at h3
    rw [cnt_mk] at h1
    omega

theorem eq_nil_or_snoc (l : List α) : l = [] ∨ ∃ L b, l = L ++ [b] :=
  (List.eq_nil_or_concat l).imp_right fun ⟨L, b, h⟩ => ⟨L, b, h.trans List.concat_eq_append⟩

theorem pathTo_none_of_cnt (id : Nat) (x : Node K V) (h : cnt id x = 0) : pathTo id x = none := by
  cases hp : pathTo id x with
  | none => rfl
  | some r =>
    obtain ⟨hz, hid⟩ := pathTo_spec id x r.1 r.2 hp
    have h1 := zip_cnt id _ _ hz
    have h2 := cnt_self r.2
    rw [hid] at h2; omega

theorem pathIn_at (id : Nat) {r : List (Node K V × Nat) × Node K V} : ∀ (kids : List (Node K V)) (j j0 : Nat) {c : Node K V},
    kids[j]? = some c → pathTo id c = some r → cntK id kids ≤ 1 → 1 ≤ cnt id c →
    pathIn id kids j0 = some (j0 + j, r.1, r.2) := by
  intro kids
  induction kids with
  | nil => intro j j0 c hc; simp at hc
  | cons d ds ih =>
    intro j j0 c hc hp hone hpos
    rw [cntK_cons] at hone
    cases j with
    | zero =>
      simp only [List.getElem?_cons_zero, Option.some.injEq] at hc; subst hc
      simp [pathIn, hp]
    | succ j =>
      simp only [List.getElem?_cons_succ] at hc
      have hd : pathTo id d = none := pathTo_none_of_cnt id d (by have := cntK_at hc id; omega)
      simp only [pathIn, hd]
      rw [ih j (j0 + 1) hc hp (by omega) hpos]; congr 2; omega

theorem pathTo_unique (id : Nat) (x : Node K V) :
    ∀ up y, Zip x y up → (∀ i, cnt i x ≤ 1) → y.id = id → pathTo id x = some (up.reverse, y) := by
  intro up y hz hone hid
  -- outermost frame first, as `pathTo` descends
  suffices h : ∀ (fr : List (Node K V × Nat)) (x : Node K V), Zip x y fr.reverse → (∀ i, cnt i x ≤ 1) →
      pathTo id x = some (fr, y) from h up.reverse x (by simpa using hz) hone
  intro fr
  induction fr with
  | nil =>
    intro x hz _
    cases hz
    obtain ⟨i, kvs, kids⟩ := y
    simp [pathTo, ← hid, Node.id]
  | cons f fr ih =>
    obtain ⟨p, j⟩ := f
    intro x hz hone
    rw [List.reverse_cons] at hz
    obtain ⟨rfl, c, hc, hz'⟩ := zip_snoc_inv _ y hz
    obtain ⟨xid, kvs, kids⟩ := p
    simp only [Node.kids] at hc
    have hx := hone id
    rw [cnt_mk, cntK_at hc id] at hx
    have hcy : 1 ≤ cnt id c := by
      have := zip_cnt id _ y hz'; have := cnt_self y; rw [hid] at this; omega
    have hne : xid ≠ id := by intro h; simp [h] at hx; omega
    have hcone : ∀ i, cnt i c ≤ 1 := by
      intro i; have := hone i; rw [cnt_mk, cntK_at hc i] at this; omega
    have := pathIn_at id kids j 0 hc (ih c hz' hcone) (by have := cntK_at hc id; omega) hcy
    simp [pathTo, hne, this]

/-- entries of `y`'s subtree before / after its own entry `i` -/
def locBefore (y : Node K V) (i : Nat) : List (K × V) := inorder ((y.kids.take (i + 1)).map toList) (y.kvs.take i)
def locAfter (y : Node K V) (i : Nat) : List (K × V) := inorder ((y.kids.drop (i + 1)).map toList) (y.kvs.drop (i + 1))

/-- everything before / after the cursor's entry in the whole tree -/
def befOf (up : List (Node K V × Nat)) (y : Node K V) (i : Nat) : List (K × V) := ctxBefore up ++ locBefore y i
def aftOf (up : List (Node K V × Nat)) (y : Node K V) (i : Nat) : List (K × V) := locAfter y i ++ ctxAfter up

theorem locBefore_leaf (id : Nat) (kvs : List (K × V)) (i : Nat) : locBefore (.mk id kvs []) i = kvs.take i := by
  simp [locBefore, Node.kids, Node.kvs, inorder]

theorem locAfter_leaf (id : Nat) (kvs : List (K × V)) (i : Nat) : locAfter (.mk id kvs []) i = kvs.drop (i + 1) := by
  simp [locAfter, Node.kids, Node.kvs, inorder]

theorem toList_at_entry {h : Nat} {y : Node K V} {i : Nat} {e : K × V} (hb : Bal h y) (he : y.kvs[i]? = some e) :
    toList y = locBefore y i ++ e :: locAfter y i := by
  obtain ⟨id, kvs, kids⟩ := y
  exact toList_at_sep_self (bal_kids hb) he

theorem posAt_eq {x : Node K V} {i : Nat} {e : K × V} (he : x.kvs[i]? = some e) :
    posAt x i = some ⟨x.id, i, e.1⟩ := by simp [posAt, he]

/-! One frame `(x, i)` of a path: what it adds before and after the subtree of child `i` of `x`. -/

section frame
variable {x c : Node K V} {up : List (Node K V × Nat)} {i : Nat} {e : K × V}

theorem befOf_eq_child (hl : x.kids.length = x.kvs.length + 1) (hc : x.kids[i]? = some c) :
    befOf up x i = ctxBefore ((x, i) :: up) ++ toList c := by
  have hi : i < x.kids.length := (List.getElem?_eq_some_iff.mp hc).1
  have h1 : x.kids.take (i + 1) = x.kids.take i ++ [c] := by rw [List.take_add_one, hc]; rfl
  simp only [befOf, locBefore, ctxBefore, h1, List.map_append, List.map_cons, List.map_nil, List.append_assoc]
  rw [inorder_eq_pre_last _ _ _ (by simp; omega)]

theorem aftOf_eq_child (hc : x.kids[i + 1]? = some c) : aftOf up x i = toList c ++ ctxAfter ((x, i + 1) :: up) := by
  have hd : x.kids.drop (i + 1) = c :: x.kids.drop (i + 1 + 1) := by
    rw [List.drop_eq_getElem_cons (List.getElem?_eq_some_iff.mp hc).1, (List.getElem?_eq_some_iff.mp hc).2]
  simp only [aftOf, locAfter, ctxAfter, hd, List.map_cons, inorder, List.append_assoc]

theorem ctxAfter_cons_entry (hl : x.kids.length = x.kvs.length + 1) (he : x.kvs[i]? = some e) :
    ctxAfter ((x, i) :: up) = e :: aftOf up x i := by
  have hi : i < x.kvs.length := (List.getElem?_eq_some_iff.mp he).1
  have hdk : x.kvs.drop i = e :: x.kvs.drop (i + 1) := by
    rw [List.drop_eq_getElem_cons hi, (List.getElem?_eq_some_iff.mp he).2]
  obtain ⟨d, ds, hB⟩ : ∃ d ds, (x.kids.drop (i + 1)).map toList = d :: ds := by
    rw [List.drop_eq_getElem_cons (show i + 1 < x.kids.length by omega)]; exact ⟨_, _, rfl⟩
  simp only [ctxAfter, aftOf, locAfter, hdk, hB, rest_cons_cons, List.cons_append]

theorem ctxAfter_cons_last (he : x.kvs[i]? = none) : ctxAfter ((x, i) :: up) = ctxAfter up := by
  have : x.kvs.drop i = [] := List.drop_eq_nil_iff.mpr (List.getElem?_eq_none_iff.mp he)
  simp only [ctxAfter, this, rest_nil_right, List.nil_append]

theorem ctxBefore_cons_succ (hl : x.kids.length = x.kvs.length + 1) (he : x.kvs[i]? = some e) :
    ctxBefore ((x, i + 1) :: up) = befOf up x i ++ [e] := by
  have hi : i < x.kvs.length := (List.getElem?_eq_some_iff.mp he).1
  obtain ⟨c, hc⟩ : ∃ c, x.kids[i]? = some c := ⟨_, List.getElem?_eq_getElem (by omega)⟩
  have h1 : x.kids.take (i + 1) = x.kids.take i ++ [c] := by rw [List.take_add_one, hc]; rfl
  have h2 : x.kvs.take (i + 1) = x.kvs.take i ++ [e] := by rw [List.take_add_one, he]; rfl
  simp only [ctxBefore, befOf, locBefore, List.append_assoc]
  rw [h2, h1, List.map_append, List.map_cons, List.map_nil, pre_snoc _ _ _ _ (by simp; omega),
    inorder_eq_pre_last _ _ _ (by simp; omega)]

theorem ctxBefore_cons_zero : ctxBefore ((x, 0) :: up) = ctxBefore up := by simp [ctxBefore]

theorem frame_toList (hl : x.kids.length = x.kvs.length + 1) (hc : x.kids[i]? = some c) :
    ctxBefore ((x, i) :: up) ++ toList c ++ ctxAfter ((x, i) :: up) = ctxBefore up ++ toList x ++ ctxAfter up := by
  obtain ⟨id, kvs, kids⟩ := x
  simp only [Node.kids, Node.kvs] at hl hc
  rw [toList_at_child_self hl hc]
  simp only [ctxBefore, ctxAfter, Node.kids, Node.kvs, List.append_assoc]

end frame

theorem zip_toList {root : Node K V} : ∀ (up : List (Node K V × Nat)) (y : Node K V), Zip root y up → PathOK up →
    toList root = ctxBefore up ++ toList y ++ ctxAfter up := by
  intro up
  induction up with
  | nil => intro y hz _; cases hz; simp [ctxBefore, ctxAfter]
  | cons f up ih =>
    obtain ⟨p, j⟩ := f
    intro y hz hp
    rw [ih p hz.2 hp.2, frame_toList hp.1 hz.1]

/-- the cursor is parked on entry `e` of node `y`, reached from the root by `up` -/
structure At (root : Node K V) (p : Pos K) (y : Node K V) (up : List (Node K V × Nat)) (e : K × V) : Prop where
  zip : Zip root y up
  idEq : y.id = p.id
  entry : y.kvs[p.i]? = some e

theorem at_toList {root : Node K V} {h : Nat} (hb : Bal h root) {p : Pos K} {y : Node K V}
    {up : List (Node K V × Nat)} {e : K × V} (ha : At root p y up e) :
    toList root = befOf up y p.i ++ e :: aftOf up y p.i := by
  obtain ⟨hp, h', hby, _⟩ := zip_bal up y h hb ha.zip
  rw [zip_toList up y ha.zip hp, toList_at_entry hby ha.entry]
  simp [befOf, aftOf]

/-- the entry of `p'` follows the entry of `p` in the in-order list: both positions cut the same list, so it is enough to
know it of one side of the cut -/
theorem succ_iff {root : Node K V} {h : Nat} (hb : Bal h root) {p p' : Pos K} {y y' : Node K V}
    {up up' : List (Node K V × Nat)} {e e' : K × V} (ha : At root p y up e) (ha' : At root p' y' up' e') :
    aftOf up y p.i = e' :: aftOf up' y' p'.i ↔ befOf up' y' p'.i = befOf up y p.i ++ [e] := by
  have h2 := at_toList hb ha'
  rw [at_toList hb ha] at h2
  constructor
  · intro h; rw [h, List.append_cons] at h2; exact (List.append_cancel_right h2).symm
  · intro h; rw [h, List.append_assoc] at h2; exact (List.cons.inj (List.append_cancel_left h2)).2

theorem climbNext_spec {root : Node K V} : ∀ (up : List (Node K V × Nat)) (y : Node K V), Zip root y up → PathOK up →
    (ctxAfter up = [] → climbNext up = none) ∧
    (∀ e' A', ctxAfter up = e' :: A' → ∃ p' y' up', climbNext up = some p' ∧ At root p' y' up' e' ∧ p'.k = e'.1 ∧
      aftOf up' y' p'.i = A') := by
  intro up
  induction up with
  | nil => intro y _ _; exact ⟨fun _ => rfl, fun e' A' h => by simp [ctxAfter] at h⟩
  | cons f up ih =>
    obtain ⟨p, j⟩ := f
    intro y hz hp
    obtain ⟨_, hz'⟩ := hz
    obtain ⟨hl, hp'⟩ := hp
    have hidx : (nextClimbIdx (j : Int)).toNat = j := by simp [nextClimbIdx]
    cases hkv : p.kvs[j]? with
    | some e =>
      -- stop at this ancestor
      have hj := (List.getElem?_eq_some_iff.mp hkv).1
      have hstop : nextClimbStop (nextClimbIdx (j : Int)) p.n = true := by
        simp [nextClimbStop, nextClimbIdx, Node.n]; omega
      rw [ctxAfter_cons_entry hl hkv]
      refine ⟨fun h => (by cases h), fun e' A' h => ?_⟩
      obtain ⟨rfl, rfl⟩ := List.cons.inj h
      exact ⟨⟨p.id, j, e.1⟩, p, up, by simp only [climbNext, hstop, if_true, hidx]; exact posAt_eq hkv, ⟨hz', rfl, hkv⟩, rfl, rfl⟩
    | none =>
      -- this ancestor is exhausted too: continue upwards
      have hj := List.getElem?_eq_none_iff.mp hkv
      have hstop : nextClimbStop (nextClimbIdx (j : Int)) p.n = false := by
        simp [nextClimbStop, nextClimbIdx, Node.n]; omega
      have hclimb : climbNext ((p, j) :: up) = climbNext up := by
        simp only [climbNext, hstop, Bool.false_eq_true, if_false]
      rw [ctxAfter_cons_last hkv, hclimb]
      exact ih p hz' hp'

theorem pathOK_append : ∀ (a b : List (Node K V × Nat)), PathOK (a ++ b) ↔ PathOK a ∧ PathOK b := by
  intro a
  induction a with
  | nil => intro b; simp [PathOK]
  | cons f a ih => intro b; obtain ⟨p, j⟩ := f; simp [PathOK, ih, and_assoc]

theorem leftmost_spec {root : Node K V} (c : Node K V) :
    ∀ h, Bal h c → 1 ≤ c.n → ∀ up, Zip root c up → PathOK up →
      ∃ up' e, Zip root (leftmostLeaf c) up' ∧ (leftmostLeaf c).kvs[0]? = some e ∧
        e :: aftOf up' (leftmostLeaf c) 0 = toList c ++ ctxAfter up := by
  have hmin := consts.1
  fun_induction leftmostLeaf c with
  | case1 id kvs kids hnone =>
    intro h hb hn up hz hp
    have hk : kids = [] := by
      cases kids with
      | nil => rfl
      | cons _ _ => simp at hnone
    subst hk
    simp only [node_n] at hn
    cases kvs with
    | nil => simp at hn
    | cons e kvs' =>
      exact ⟨up, e, hz, rfl, by simp [aftOf, locAfter_leaf, toList_mk, inorder]⟩
  | case2 id kvs kids d hd ih =>
    intro h hb hn up hz hp
    obtain ⟨h', rfl, hlen, -, hbd, hod⟩ := bal_child hb hd
    obtain ⟨up', e, h1, h3, h5⟩ := ih h' hbd (by have := hod.1; omega)
      ((Node.mk id kvs kids, 0) :: up) ⟨hd, hz⟩ ⟨hlen, hp⟩
    have := frame_toList (up := up) (x := Node.mk id kvs kids) hlen hd
    rw [ctxBefore_cons_zero, List.append_assoc, List.append_assoc, List.append_cancel_left_eq] at this
    exact ⟨up', e, h1, h3, by rw [h5, this]⟩

theorem next_step {root : Node K V} {h : Nat} (t : Tree K V) (ht : t.root = root) (hb : Bal h root)
    (hone : ∀ i, cnt i root ≤ 1) {p : Pos K} {y : Node K V} {up : List (Node K V × Nat)} {e : K × V}
    (ha : At root p y up e) :
    (aftOf up y p.i = [] → nextCore t p = none) ∧
    (∀ e' A', aftOf up y p.i = e' :: A' → ∃ p' y' up', nextCore t p = some p' ∧ At root p' y' up' e' ∧ p'.k = e'.1 ∧
      befOf up' y' p'.i = befOf up y p.i ++ [e] ∧ aftOf up' y' p'.i = A') := by
  -- what is ahead of the new position; what is behind it then follows (`succ_iff`)
  suffices h : (aftOf up y p.i = [] → nextCore t p = none) ∧
      ∀ e' A', aftOf up y p.i = e' :: A' → ∃ p' y' up', nextCore t p = some p' ∧ At root p' y' up' e' ∧ p'.k = e'.1 ∧
        aftOf up' y' p'.i = A' from
    ⟨h.1, fun e' A' hA => by
      obtain ⟨p', y', up', g1, g2, g3, g4⟩ := h.2 e' A' hA
      exact ⟨p', y', up', g1, g2, g3, (succ_iff hb ha g2).mp (by rw [hA, g4]), g4⟩⟩
  obtain ⟨hp, h', hby, hocc⟩ := zip_bal up y h hb ha.zip
  have hpath : pathTo p.id t.root = some (up.reverse, y) := by
    rw [ht]; exact pathTo_unique p.id root up y ha.zip hone ha.idEq
  obtain ⟨yid, kvs, kids⟩ := y
  have hent : kvs[p.i]? = some e := ha.entry
  have hi : p.i < kvs.length := (List.getElem?_eq_some_iff.mp hent).1
  rcases bal_cases.mp hby with ⟨rfl, rfl⟩ | ⟨h'', rfl, hlen, hall⟩
  · -- the cursor is in a leaf
    cases hkv : kvs[p.i + 1]? with
    | some e2 =>
      have hn := (List.getElem?_eq_some_iff.mp hkv).1
      have hstay : nextLeafStay (((p.i : Nat) : Int) + 1) (Node.mk yid kvs []).n = true := by
        simp only [nextLeafStay, node_n]; exact decide_eq_true (by omega)
      have hnc : nextCore t p = some ⟨yid, p.i + 1, e2.1⟩ := by
        have e1 : (((p.i : Nat) : Int) + 1).toNat = p.i + 1 := by omega
        simp only [nextCore, hpath, List.reverse_reverse, Node.isLeaf, Node.kids, List.isEmpty_nil, if_true, hstay, e1]
        exact posAt_eq (x := Node.mk yid kvs []) hkv
      have haft : aftOf up (Node.mk yid kvs []) p.i = e2 :: aftOf up (Node.mk yid kvs []) (p.i + 1) := by
        simp only [aftOf, locAfter_leaf, List.drop_eq_getElem_cons hn, (List.getElem?_eq_some_iff.mp hkv).2, List.cons_append]
      rw [haft]
      refine ⟨fun h0 => (by cases h0), fun e' A' h0 => ?_⟩
      obtain ⟨rfl, rfl⟩ := List.cons.inj h0
      exact ⟨⟨yid, p.i + 1, e2.1⟩, Node.mk yid kvs [], up, hnc, ⟨ha.zip, rfl, hkv⟩, rfl, rfl⟩
    | none =>
      -- last entry of the leaf: climb
      have hn := List.getElem?_eq_none_iff.mp hkv
      have hstay : nextLeafStay (((p.i : Nat) : Int) + 1) (Node.mk yid kvs []).n = false := by
        simp only [nextLeafStay, node_n]; exact decide_eq_false (by omega)
      have hnc : nextCore t p = climbNext up := by
        simp only [nextCore, hpath, List.reverse_reverse, Node.isLeaf, Node.kids, List.isEmpty_nil, if_true, hstay,
          Bool.false_eq_true, if_false]
      have hd : kvs.drop (p.i + 1) = [] := List.drop_eq_nil_iff.mpr hn
      have haft : aftOf up (Node.mk yid kvs []) p.i = ctxAfter up := by simp [aftOf, locAfter_leaf, hd]
      rw [haft, hnc]
      exact climbNext_spec up (Node.mk yid kvs []) ha.zip hp
  · -- the cursor is in an inner node: descend to the leftmost leaf of the next child
    have hdesc : nextInnerDescend (p.i : Int) (Node.mk yid kvs kids).n = true := by
      simp only [nextInnerDescend, node_n]; exact decide_eq_true (by omega)
    have hci : (nextChildIdx (p.i : Int)).toNat = p.i + 1 := by simp only [nextChildIdx]; omega
    obtain ⟨c, hc⟩ : ∃ c, kids[p.i + 1]? = some c := ⟨_, List.getElem?_eq_getElem (by omega)⟩
    have hcm := List.mem_of_getElem? hc
    have hleaf : (Node.mk yid kvs kids).isLeaf = false := by
      cases kids with
      | nil => simp at hc
      | cons _ _ => rfl
    have hnc : nextCore t p = posAt (leftmostLeaf c) 0 := by
      simp only [nextCore, hpath, hleaf, Bool.false_eq_true, if_false, hdesc, if_true, hci, Node.kids, hc]
    have hmin := consts.1
    obtain ⟨up', e1, g1, g3, g5⟩ := leftmost_spec c h'' (hall _ hcm).1
      (by have := (hall _ hcm).2.1; omega) ((Node.mk yid kvs kids, p.i + 1) :: up) ⟨hc, ha.zip⟩ ⟨hlen, hp⟩
    rw [aftOf_eq_child (x := Node.mk yid kvs kids) hc, ← g5]
    refine ⟨fun h0 => (by cases h0), fun e' A' h0 => ?_⟩
    obtain ⟨rfl, rfl⟩ := List.cons.inj h0
    exact ⟨⟨(leftmostLeaf c).id, 0, e1.1⟩, leftmostLeaf c, _, by rw [hnc]; exact posAt_eq g3, ⟨g1, rfl, g3⟩, rfl, rfl⟩

end Juniper.Proofs.Tree
