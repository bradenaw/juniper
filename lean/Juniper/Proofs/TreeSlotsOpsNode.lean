import Juniper.Proofs.TreeSlotsOps
/-!
# Slot-level lemmas (C03 "no retained garbage"): the node-level operations

`NodeRep x kvs kids`: the three arrays of the node `x` represent (`Rep`) the entries `kvs` and the
children `kids`, `x.n` is the number of entries. Every node-level operation of
`Model/BTreeSlotsOps.lean` maps `NodeRep` to `NodeRep` of the list-level result, provided the zeroing /
clearing / shifting statements are present in the source (hypotheses = generated presence facts). Each
lemma has the form `∃ x', (op x = some x' ∧ NodeRep x' ..) ∧ x'.parent = ..`: the left part is what the
slot-level property needs, the parent pointers are what the link to the heap of nodes needs in addition.
-/
namespace Juniper.Proofs.TreeSlotsOps
open Juniper.Model.BTreeSlotsOps Juniper.Gen Juniper.Proofs.Slots
variable {K V C : Type}

structure NodeRep (x : SNode K V C) (kvs : List (K × V)) (kids : List C) : Prop where
  hn : x.n = (kvs.length : Int)
  hkeys : Rep x.keys keysCap (kvs.map (·.1))
  hvals : Rep x.vals valuesCap (kvs.map (·.2))
  hkids : Rep x.kids childrenCap kids
  hshape : kids = [] ∨ kids.length = kvs.length + 1

theorem caps : valuesCap = keysCap ∧ childrenCap = keysCap + 1 := by decide

theorem caps_pos : 0 < keysCap ∧ 0 < valuesCap ∧ 1 < childrenCap := by decide

theorem NodeRep.le_cap {x : SNode K V C} {kvs kids} (h : NodeRep x kvs kids) : kvs.length ≤ keysCap := by
  have := h.hkeys.2; rwa [List.length_map] at this

theorem isLeaf_of_rep_nil {x : SNode K V C} (h : Rep x.kids childrenCap []) : x.isLeaf = true := by
  have hc := caps_pos.2.2
  obtain ⟨e, _⟩ := h
  have : childrenCap - ([] : List C).length = (childrenCap - 1) + 1 := by simp; omega
  unfold SNode.isLeaf
  rw [e, this, List.replicate_succ]; simp

theorem isLeaf_of_rep_cons {x : SNode K V C} {kids : List C} (h : Rep x.kids childrenCap kids) (hne : kids ≠ []) :
    x.isLeaf = false := by
  obtain ⟨e, _⟩ := h
  obtain ⟨c, cs, rfl⟩ := List.exists_cons_of_ne_nil hne
  unfold SNode.isLeaf
  rw [e]; simp

theorem NodeRep.isLeaf_iff {x : SNode K V C} {kvs kids} (h : NodeRep x kvs kids) : x.isLeaf = true ↔ kids = [] := by
  constructor
  · intro hl
    by_cases hk : kids = []
    · exact hk
    · rw [isLeaf_of_rep_cons h.hkids hk] at hl; simp at hl
  · intro hk; subst hk; exact isLeaf_of_rep_nil h.hkids

/-- `&node[K,V]{}` holds no entries and no children -/
theorem nodeRep_fresh : NodeRep (SNode.fresh : SNode K V C) [] [] :=
  ⟨by simp [SNode.fresh], by simpa [SNode.fresh] using rep_nil keysCap,
    by simpa [SNode.fresh] using rep_nil valuesCap, by simpa [SNode.fresh] using rep_nil childrenCap, Or.inl rfl⟩

/-- what the retention clause says about one node: key and value slots from `n` on are zero; the node
is a leaf with all child slots zero, or its child slots from `n + 1` on are zero -/
def TailOK (x : SNode K V C) : Prop :=
  ∃ n : Nat, x.n = (n : Int) ∧ x.keys.length = keysCap ∧ x.vals.length = valuesCap ∧ x.kids.length = childrenCap ∧
    TailCleared x.keys n ∧ TailCleared x.vals n ∧ (TailCleared x.kids 0 ∨ TailCleared x.kids (n + 1))

theorem NodeRep.tailOK {x : SNode K V C} {kvs kids} (h : NodeRep x kvs kids) : TailOK x := by
  obtain ⟨hn, hk, hv, hc, hs⟩ := h
  refine ⟨kvs.length, hn, hk.length, hv.length, hc.length, by simpa using hk.tailCleared, by simpa using hv.tailCleared, ?_⟩
  rcases hs with h | h
  · left; subst h; simpa using hc.tailCleared
  · right; rw [← h]; exact hc.tailCleared

/-! ## the node that holds given entries and children (the `example`s of `Props/C03Slots.lean` are about such nodes) -/

def mkNode (kvs : List (K × V)) (kids : List C) : SNode K V C :=
  { n := kvs.length,
    keys := kvs.map (some ·.1) ++ List.replicate (keysCap - kvs.length) none,
    vals := kvs.map (some ·.2) ++ List.replicate (valuesCap - kvs.length) none,
    kids := kids.map some ++ List.replicate (childrenCap - kids.length) none,
    parent := none }

theorem mkNode_rep {kvs : List (K × V)} {kids : List C} (h1 : kvs.length ≤ keysCap)
    (h2 : kids = [] ∨ kids.length = kvs.length + 1) : NodeRep (mkNode kvs kids) kvs kids := by
  obtain ⟨cv, cc⟩ := caps
  refine ⟨rfl, ⟨by simp [mkNode], by simpa using h1⟩, ⟨by simp [mkNode], by simp; omega⟩, ⟨by simp [mkNode], ?_⟩, h2⟩
  rcases h2 with h | h
  · subst h; simp
  · omega

theorem leafInsert_rep {x : SNode K V C} {kvs : List (K × V)} (h : NodeRep x kvs [])
    {idx : Nat} (hidx : idx ≤ kvs.length) (hroom : kvs.length < keysCap) (k : K) (v : V)
    (hb : TreeSlots.leafInsertBumpsN = true) :
    ∃ x', (leafInsert x idx k v = some x' ∧ NodeRep x' (kvs.take idx ++ (k, v) :: kvs.drop idx) []) ∧
      x'.parent = x.parent := by
  obtain ⟨hn, hk, hv, hc, hs⟩ := h
  obtain ⟨cv, -⟩ := caps
  have e1 : toIdx (TreeSlots.leafInsertKeysHi x.n) = some (kvs.length + 1) := toIdx_succ hn
  have e2 : toIdx (TreeSlots.leafInsertValuesHi x.n) = some (kvs.length + 1) := toIdx_succ hn
  obtain ⟨a1, h1, r1⟩ := rep_insertOne hk (hi := kvs.length + 1) (idx := idx) (by rwa [List.length_map])
    (by rw [List.length_map]; exact Nat.lt_succ_self _) hroom k
  obtain ⟨a2, h2, r2⟩ := rep_insertOne hv (hi := kvs.length + 1) (idx := idx) (by rwa [List.length_map])
    (by rw [List.length_map]; exact Nat.lt_succ_self _) (cv ▸ hroom) v
  have hlk := hk.length
  have hlv := hv.length
  refine ⟨{ x with keys := a1, vals := a2, n := x.n + 1 }, ⟨?_, ?_⟩, rfl⟩
  · have c1 : kvs.length + 1 ≤ x.keys.length := hlk ▸ hroom
    have c2 : kvs.length + 1 ≤ x.vals.length := hlv ▸ cv ▸ hroom
    simp [leafInsert, e1, e2, h1, h2, hb, bumpIf, c1, c2]
  · exact ⟨by rw [length_insertAt kvs (k, v) idx]; exact congrArg (· + 1) hn,
      map_insertAt _ kvs (k, v) idx idx ▸ r1, map_insertAt _ kvs (k, v) idx idx ▸ r2, hc, Or.inl rfl⟩

theorem setValue_rep {x : SNode K V C} {kvs : List (K × V)} {kids : List C} (h : NodeRep x kvs kids)
    {idx : Nat} (hidx : idx < kvs.length) (v : V) :
    ∃ x', (setValue x idx v = some x' ∧
      NodeRep x' (kvs.take idx ++ ((kvs[idx]).1, v) :: kvs.drop (idx + 1)) kids) ∧ x'.parent = x.parent := by
  obtain ⟨hn, hk, hv, hc, hs⟩ := h
  obtain ⟨a2, h2, r2⟩ := rep_setSlot_replace hv (i := idx) (by rwa [List.length_map]) v
  refine ⟨{ x with vals := a2 }, ⟨by simp [setValue, h2], ?_⟩, rfl⟩
  refine ⟨by rw [length_replace _ hidx]; exact hn, ?_, ?_, hc, by rw [length_replace _ hidx]; exact hs⟩
  · have : (kvs.take idx ++ ((kvs[idx]).1, v) :: kvs.drop (idx + 1)).map (·.1) = kvs.map (·.1) := by
      have e := congrArg (List.map (·.1)) (split_at kvs hidx)
      rw [List.map_append, List.map_cons] at e ⊢
      exact e.symm
    rw [this]; exact hk
  · simpa [List.map_take, List.map_drop] using r2

/-- entry `idx` overwritten in both arrays (`replaceEntry`; the parent's share of a rotation) -/
theorem NodeRep.setEntry {x : SNode K V C} {kvs : List (K × V)} {kids : List C} (h : NodeRep x kvs kids)
    {idx : Nat} (hidx : idx < kvs.length) (kv : K × V) :
    ∃ ks vs, setSlot x.keys idx (some kv.1) = some ks ∧ setSlot x.vals idx (some kv.2) = some vs ∧
      NodeRep { x with keys := ks, vals := vs } (kvs.take idx ++ kv :: kvs.drop (idx + 1)) kids := by
  obtain ⟨hn, hk, hv, hc, hs⟩ := h
  obtain ⟨ks, h1, r1⟩ := rep_setSlot_replace hk (i := idx) (by rwa [List.length_map]) kv.1
  obtain ⟨vs, h2, r2⟩ := rep_setSlot_replace hv (i := idx) (by rwa [List.length_map]) kv.2
  exact ⟨ks, vs, h1, h2, by rw [length_replace _ hidx]; exact hn, map_insertAt _ kvs kv idx (idx + 1) ▸ r1,
    map_insertAt _ kvs kv idx (idx + 1) ▸ r2, hc, by rw [length_replace _ hidx]; exact hs⟩

theorem replaceEntry_rep {x : SNode K V C} {kvs : List (K × V)} {kids : List C} (h : NodeRep x kvs kids)
    {idx : Nat} (hidx : idx < kvs.length) (k : K) (v : V) :
    ∃ x', (replaceEntry x idx (some k) (some v) = some x' ∧
      NodeRep x' (kvs.take idx ++ (k, v) :: kvs.drop (idx + 1)) kids) ∧ x'.parent = x.parent := by
  obtain ⟨ks, vs, h1, h2, hr⟩ := h.setEntry hidx (k, v)
  exact ⟨_, ⟨by simp [replaceEntry, h1, h2], hr⟩, rfl⟩

/-- the statements of the leaf branch of `Delete` are in the source -/
abbrev LeafRemovePresent : Prop := RemoveOnePresent ∧ TreeSlots.leafRemoveShiftsKeys = true ∧
  TreeSlots.leafRemoveShiftsValues = true ∧ TreeSlots.leafRemoveDecN = true

theorem leafRemove_rep {x : SNode K V C} {kvs : List (K × V)} (h : NodeRep x kvs [])
    {idx : Nat} (hidx : idx < kvs.length) (hf : LeafRemovePresent) :
    ∃ x', (leafRemove x idx = some x' ∧ NodeRep x' (kvs.take idx ++ kvs.drop (idx + 1)) []) ∧
      x'.parent = x.parent := by
  obtain ⟨hn, hk, hv, hc, _⟩ := h
  obtain ⟨hr1, hrk, hrv, hd⟩ := hf
  have hkc := hk.2
  have hvc := hv.2
  rw [List.length_map] at hkc hvc
  obtain ⟨a1, h1, r1⟩ := rep_removeOne hk (hi := kvs.length) (idx := idx) (by rwa [List.length_map])
    (by rw [List.length_map]; exact Nat.le_refl _) hkc hr1
  obtain ⟨a2, h2, r2⟩ := rep_removeOne hv (hi := kvs.length) (idx := idx) (by rwa [List.length_map])
    (by rw [List.length_map]; exact Nat.le_refl _) hvc hr1
  refine ⟨{ x with keys := a1, vals := a2, n := x.n + -1 }, ⟨?_, ?_⟩, rfl⟩
  · simp [leafRemove, hn, h1, h2, hrk, hrv, hd, bumpIf]
  · exact ⟨by rw [length_removeAt kvs hidx]; show x.n + -1 = _; rw [hn]; omega,
      map_removeAt _ kvs idx (idx + 1) ▸ r1, map_removeAt _ kvs idx (idx + 1) ▸ r2, hc, Or.inl rfl⟩

/-- the statements of `removeRightmost` are in the source -/
abbrev RemoveRightmostPresent : Prop := TreeSlots.removeRightmostZeroesKey = true ∧
  TreeSlots.removeRightmostZeroesValue = true ∧ TreeSlots.removeRightmostDecN = true

theorem removeRightmostAt_rep {x : SNode K V C} {kvs : List (K × V)} (h : NodeRep x kvs [])
    (hne : kvs ≠ []) (hf : RemoveRightmostPresent) :
    ∃ x', (removeRightmostAt x = some (some (kvs.getLast hne).1, some (kvs.getLast hne).2, x') ∧
      NodeRep x' kvs.dropLast []) ∧ x'.parent = x.parent := by
  obtain ⟨hn, hk, hv, hc, _⟩ := h
  obtain ⟨hzk, hzv, hd⟩ := hf
  have hpos : 0 < kvs.length := List.length_pos_iff.mpr hne
  have e1 : toIdx (TreeSlots.removeRightmostIdx x.n) = some (kvs.length - 1) := toIdx_pred hn hpos
  have e2 : toIdx (x.n - 1) = some (kvs.length - 1) := toIdx_pred hn hpos
  have g1 := hk.get_last_map hne
  have g2 := hv.get_last_map hne
  obtain ⟨a1, h1, r1⟩ := rep_setSlot_clearLast hk (by rwa [List.length_map])
  obtain ⟨a2, h2, r2⟩ := rep_setSlot_clearLast hv (by rwa [List.length_map])
  rw [List.length_map] at h1 h2
  refine ⟨{ x with keys := a1, vals := a2, n := x.n + -1 }, ⟨?_, ?_⟩, rfl⟩
  · simp [removeRightmostAt, e1, e2, g1, g2, h1, h2, hzk, hzv, hd, bumpIf]
  · refine ⟨?_, List.map_dropLast ▸ r1, List.map_dropLast ▸ r2, hc, Or.inl rfl⟩
    rw [List.length_dropLast]; show x.n + -1 = _; rw [hn]; omega

theorem newRootNode_rep (k : K) (v : V) (l r : C) :
    ∃ x' : SNode K V C, (newRootNode (some k) (some v) l r = some x' ∧ NodeRep x' [(k, v)] [l, r]) ∧
      x'.parent = none := by
  obtain ⟨c1, c2, c3⟩ := caps_pos
  obtain ⟨a1, h1, r1⟩ := rep_setSlot_append (rep_nil (α := K) keysCap) (by simpa using c1) k
  obtain ⟨a2, h2, r2⟩ := rep_setSlot_append (rep_nil (α := V) valuesCap) (by simpa using c2) v
  obtain ⟨a3, h3, r3⟩ := rep_setSlot_append (rep_nil (α := C) childrenCap) (by simp; omega) l
  obtain ⟨a4, h4, r4⟩ := rep_setSlot_append r3 (by simp; omega) r
  simp only [List.length_nil, List.nil_append, List.length_cons] at h1 h2 h3 h4
  refine ⟨{ (SNode.fresh : SNode K V C) with n := 1, keys := a1, vals := a2, kids := a4 }, ⟨?_, ?_⟩, rfl⟩
  · simp [newRootNode, SNode.fresh, h1, h2, h3, h4]
  · exact ⟨by simp, by simpa using r1, by simpa using r2, by simpa using r4, Or.inr (by simp)⟩

theorem parentInsert_rep {p : SNode K V C} {kvs : List (K × V)} {kids : List C} (h : NodeRep p kvs kids)
    (hint : kids.length = kvs.length + 1) {idx : Nat} (hidx : idx ≤ kvs.length) (hroom : kvs.length < keysCap)
    (k : K) (v : V) (r : C) (hb : TreeSlots.parentInsertBumpsN = true) :
    ∃ p', (parentInsert p idx (some k) (some v) r = some p' ∧
      NodeRep p' (kvs.take idx ++ (k, v) :: kvs.drop idx) (kids.take (idx + 1) ++ r :: kids.drop (idx + 1))) ∧
      p'.parent = p.parent := by
  obtain ⟨hn, hk, hv, hc, hs⟩ := h
  obtain ⟨cv, cc⟩ := caps
  have e1 : toIdx (TreeSlots.parentInsertKeysHi p.n) = some (kvs.length + 1) := toIdx_succ hn
  have e2 : toIdx (TreeSlots.parentInsertValuesHi p.n) = some (kvs.length + 1) := toIdx_succ hn
  have e3 : toIdx (TreeSlots.parentInsertChildrenHi p.n) = some (kvs.length + 2) :=
    toIdx_eq (by rw [hn]; rfl)
  have i1 : TreeSlots.parentInsertSepIdx (idx : Int) = (idx : Int) := rfl
  have i2 : TreeSlots.parentInsertValueIdx (idx : Int) = (idx : Int) := rfl
  have i3 : TreeSlots.parentInsertChildIdx (idx : Int) = ((idx + 1 : Nat) : Int) := rfl
  obtain ⟨a1, h1, r1⟩ := rep_insertOne hk (hi := kvs.length + 1) (idx := idx) (by rwa [List.length_map])
    (by rw [List.length_map]; exact Nat.lt_succ_self _) hroom k
  obtain ⟨a2, h2, r2⟩ := rep_insertOne hv (hi := kvs.length + 1) (idx := idx) (by rwa [List.length_map])
    (by rw [List.length_map]; exact Nat.lt_succ_self _) (cv ▸ hroom) v
  obtain ⟨a3, h3, r3⟩ := rep_insertOne hc (hi := kvs.length + 2) (idx := idx + 1) (by omega) (by omega) (by omega) r
  have l1 := hk.length
  have l2 := hv.length
  have l3 := hc.length
  push_cast at h3
  refine ⟨{ p with keys := a1, vals := a2, kids := a3, n := p.n + 1 }, ⟨?_, ?_⟩, rfl⟩
  · have c1 : kvs.length + 1 ≤ p.keys.length := l1 ▸ hroom
    have c2 : kvs.length + 1 ≤ p.vals.length := l2 ▸ cv ▸ hroom
    have c3 : kvs.length + 2 ≤ p.kids.length := l3 ▸ cc ▸ Nat.succ_le_succ hroom
    simp [parentInsert, e1, e2, e3, i1, i2, i3, h1, h2, h3, hb, bumpIf, c1, c2, c3]
  · refine ⟨?_, map_insertAt _ kvs (k, v) idx idx ▸ r1, map_insertAt _ kvs (k, v) idx idx ▸ r2, r3, Or.inr ?_⟩
    · rw [length_insertAt kvs (k, v) idx]; exact congrArg (· + 1) hn
    · rw [length_insertAt kids r (idx + 1), length_insertAt kvs (k, v) idx, hint]

theorem kinds {lkvs rkvs : List (K × V)} {lkids rkids : List C}
    (hl : lkids = [] ∨ lkids.length = lkvs.length + 1) (hr : rkids = [] ∨ rkids.length = rkvs.length + 1)
    (hkind : lkids = [] ↔ rkids = []) :
    (lkids = [] ∧ rkids = []) ∨ (lkids.length = lkvs.length + 1 ∧ rkids.length = rkvs.length + 1) := by
  rcases hl with h | h
  · exact Or.inl ⟨h, hkind.mp h⟩
  · rcases hr with h' | h'
    · have := hkind.mpr h'; subst this; simp at h
    · exact Or.inr ⟨h, h'⟩

/-- `applyOp`'s guard that the two siblings of a merge or rotation are of one kind, on represented nodes -/
theorem kind_iff {xl xr : SNode K V C} {lkvs rkvs lkids rkids} (hl : NodeRep xl lkvs lkids) (hr : NodeRep xr rkvs rkids) :
    xl.isLeaf = xr.isLeaf ↔ (lkids = [] ↔ rkids = []) := by
  rw [← hl.isLeaf_iff, ← hr.isLeaf_iff]; exact Bool.eq_iff_iff

theorem inner_of_not_leaf {x : SNode K V C} {kvs kids} (hr : NodeRep x kvs kids) (h : ¬ x.isLeaf = true) :
    kids.length = kvs.length + 1 := by
  rcases hr.hshape with h1 | h1
  · exact absurd (hr.isLeaf_iff.mpr h1) h
  · exact h1

/-! The child arrays of two siblings with `n` and `m` entries under `mergeTwo`, `rotateRight` and
`rotateLeft`: between leaves zeros are written onto zeros, between internal nodes children move. The last
conjuncts are the `hshape` fields of the resulting nodes. -/

theorem merge_kids {lc rc : Slots C} {lkids rkids : List C} {n m : Nat}
    (hl : Rep lc childrenCap lkids) (hr : Rep rc childrenCap rkids)
    (hk : (lkids = [] ∧ rkids = []) ∨ (lkids.length = n + 1 ∧ rkids.length = m + 1))
    (hfit : n + 1 + (m + 1) ≤ childrenCap) :
    ∃ c, copySlots lc (n + 1) lc.length rc 0 (m + 1) = some c ∧ Rep c childrenCap (lkids ++ rkids) ∧
      (lkids ++ rkids = [] ∨ (lkids ++ rkids).length = n + (m + 1) + 1) := by
  rcases hk with ⟨rfl, rfl⟩ | ⟨h1, h2⟩
  · exact ⟨lc, rep_copy_dead hl hr (Nat.zero_le _) hfit (by omega), hl, Or.inl rfl⟩
  · obtain ⟨c, hc, rc'⟩ := rep_copy_append hl hr (by omega)
    rw [h1, h2] at hc
    exact ⟨c, hc, rc', Or.inr (by rw [List.length_append, h1, h2]; omega)⟩

theorem rotateRight_kids {lc rc : Slots C} {lkids rkids : List C} {n m : Nat}
    (hl : Rep lc childrenCap lkids) (hr : Rep rc childrenCap rkids)
    (hk : (lkids = [] ∧ rkids = []) ∨ (lkids.length = n + 1 ∧ rkids.length = m + 1))
    (hn : 0 < n) (hn' : n < childrenCap) (hm : m + 1 < childrenCap) :
    ∃ lc' rc', lc[n]? = some lkids.getLast? ∧
      setSlot lc n none = some lc' ∧ Rep lc' childrenCap lkids.dropLast ∧
      insertOne rc childrenCap 0 lkids.getLast? = some rc' ∧ Rep rc' childrenCap (lkids.getLast?.toList ++ rkids) ∧
      (lkids.dropLast = [] ∨ lkids.dropLast.length = n - 1 + 1) ∧
      (lkids.getLast?.toList ++ rkids = [] ∨ (lkids.getLast?.toList ++ rkids).length = m + 1 + 1) := by
  have hlast := hl.get_last? (hk.imp And.left And.left) hn'
  rcases hk with ⟨rfl, rfl⟩ | ⟨h1, h2⟩
  · exact ⟨lc, rc, hlast, rep_setSlot_dead hl (Nat.zero_le _) hn', hl,
      rep_insertOne_none hr (by omega), hr, Or.inl rfl, Or.inl rfl⟩
  · have hne : lkids ≠ [] := List.ne_nil_of_length_pos (by omega)
    have e : lkids.length - 1 = n := by omega
    obtain ⟨lc', hlc, rlc⟩ := rep_setSlot_clearLast hl (by omega)
    obtain ⟨rc', hrc, rrc⟩ := rep_insertOne_front hr (by omega) (lkids.getLast hne)
    rw [e] at hlc
    rw [List.getLast?_eq_some_getLast hne] at hlast ⊢
    exact ⟨lc', rc', hlast, hlc, rlc, hrc, rrc, Or.inr (by rw [List.length_dropLast]; omega),
      Or.inr (congrArg (· + 1) h2)⟩

theorem rotateLeft_kids {lc rc : Slots C} {lkids rkids : List C} {n m : Nat}
    (hl : Rep lc childrenCap lkids) (hr : Rep rc childrenCap rkids)
    (hk : (lkids = [] ∧ rkids = []) ∨ (lkids.length = n + 1 ∧ rkids.length = m + 1))
    (hn : n + 1 < childrenCap) (hm : 0 < m) (hf : RemoveOnePresent) :
    ∃ lc' rc', rc[0]? = some rkids.head? ∧
      removeOne rc childrenCap 0 = some rc' ∧ Rep rc' childrenCap (rkids.drop 1) ∧
      setSlot lc (n + 1) rkids.head? = some lc' ∧ Rep lc' childrenCap (lkids ++ rkids.take 1) ∧
      (lkids ++ rkids.take 1 = [] ∨ (lkids ++ rkids.take 1).length = n + 1 + 1) ∧
      (rkids.drop 1 = [] ∨ (rkids.drop 1).length = m - 1 + 1) := by
  have hhead := hr.get_head? (by omega : 0 < childrenCap)
  rcases hk with ⟨rfl, rfl⟩ | ⟨h1, h2⟩
  · exact ⟨lc, rc, hhead, rep_removeOne_none hr (by omega) hf, hr,
      rep_setSlot_dead hl (Nat.zero_le _) hn, hl, Or.inl rfl, Or.inl rfl⟩
  · obtain ⟨c, cs, rfl⟩ := List.exists_cons_of_ne_nil (List.ne_nil_of_length_pos (by omega : 0 < rkids.length))
    obtain ⟨rc', hrc, rrc⟩ := rep_removeOne_front hr (Nat.succ_pos _) hf
    obtain ⟨lc', hlc, rlc⟩ := rep_setSlot_append hl (by omega) c
    rw [h1] at hlc
    exact ⟨lc', rc', hhead, hrc, rrc, hlc, rlc,
      Or.inr (by rw [List.length_append, h1]; rfl), Or.inr (by rw [List.length_cons] at h2; show cs.length = _; omega)⟩

/-- the statements of `mergeTwo` are in the source -/
abbrev MergePresent : Prop := RemoveOnePresent ∧ TreeSlots.mergeRemovesSepKey = true ∧
  TreeSlots.mergeRemovesSepValue = true ∧ TreeSlots.mergeRemovesRightChild = true ∧
  TreeSlots.mergeParentDecN = true ∧ TreeSlots.mergeZeroesRight = true

theorem mergeNodes_rep {p l r : SNode K V C} {pkvs lkvs rkvs : List (K × V)} {pkids lkids rkids : List C}
    (hp : NodeRep p pkvs pkids) (hl : NodeRep l lkvs lkids) (hr : NodeRep r rkvs rkids)
    (hpint : pkids.length = pkvs.length + 1) (hkind : lkids = [] ↔ rkids = [])
    {idx : Nat} (hidx : idx < pkvs.length) (hfit : lkvs.length + 1 + rkvs.length ≤ keysCap)
    (hf : MergePresent) :
    ∃ p' l' r', (mergeNodes p l r idx = some (p', l', r') ∧
      NodeRep p' (pkvs.take idx ++ pkvs.drop (idx + 1)) (pkids.take (idx + 1) ++ pkids.drop (idx + 2)) ∧
      NodeRep l' (lkvs ++ pkvs[idx] :: rkvs) (lkids ++ rkids) ∧ r'.n = 0) ∧
      p'.parent = p.parent ∧ l'.parent = l.parent := by
  have pcap := hp.le_cap
  obtain ⟨hr1, hmk, hmv, hmc, hmd, hmz⟩ := hf
  obtain ⟨pn, pk, pv, pc, ps⟩ := hp
  obtain ⟨ln, lk, lv, lc, ls⟩ := hl
  obtain ⟨rn, rk, rv, rc, rs⟩ := hr
  obtain ⟨cv, cc⟩ := caps
  have g1 : p.keys[idx]? = some (some (pkvs[idx]).1) := pk.get_live_map hidx
  have g2 : p.vals[idx]? = some (some (pkvs[idx]).2) := pv.get_live_map hidx
  have e1 : toIdx (TreeSlots.mergeSepKeyIdx l.n) = some lkvs.length := toIdx_eq ln
  have e2 : toIdx (TreeSlots.mergeKeysDst l.n) = some (lkvs.length + 1) := toIdx_succ ln
  have e3 : toIdx (TreeSlots.mergeKeysSrcHi r.n) = some rkvs.length := toIdx_eq rn
  have e4 : toIdx (TreeSlots.mergeSepValueIdx l.n) = some lkvs.length := toIdx_eq ln
  have e5 : toIdx (TreeSlots.mergeValuesDst l.n) = some (lkvs.length + 1) := toIdx_succ ln
  have e6 : toIdx (TreeSlots.mergeValuesSrcHi r.n) = some rkvs.length := toIdx_eq rn
  have e7 : toIdx (TreeSlots.mergeChildrenDst l.n) = some (lkvs.length + 1) := toIdx_succ ln
  have e8 : toIdx (TreeSlots.mergeChildrenSrcHi r.n) = some (rkvs.length + 1) := toIdx_succ rn
  have e9 : toIdx p.n = some pkvs.length := toIdx_eq pn
  obtain ⟨k1, hk1, rk1⟩ := rep_setSlot_append lk (by rw [List.length_map]; omega) (pkvs[idx]).1
  obtain ⟨k2, hk2, rk2⟩ := rep_copy_append rk1 rk (by simp only [List.length_append, List.length_map, List.length_cons, List.length_nil]; omega)
  obtain ⟨v1, hv1, rv1⟩ := rep_setSlot_append lv (by rw [List.length_map]; omega) (pkvs[idx]).2
  obtain ⟨v2, hv2, rv2⟩ := rep_copy_append rv1 rv (by simp only [List.length_append, List.length_map, List.length_cons, List.length_nil]; omega)
  simp only [List.length_append, List.length_map, List.length_cons, List.length_nil] at hk1 hk2 hv1 hv2
  obtain ⟨c2, hc2, rc2, sc2⟩ := merge_kids lc rc (kinds ls rs hkind) (by omega)
  obtain ⟨pk1, hpk1, rpk1⟩ := rep_removeOne pk (hi := pkvs.length) (idx := idx) (by rwa [List.length_map])
    (by rw [List.length_map]; exact Nat.le_refl _) pcap hr1
  obtain ⟨pv1, hpv1, rpv1⟩ := rep_removeOne pv (hi := pkvs.length) (idx := idx) (by rwa [List.length_map])
    (by rw [List.length_map]; exact Nat.le_refl _) (cv ▸ pcap) hr1
  obtain ⟨pc1, hpc1, rpc1⟩ := rep_removeOne pc (hi := pkvs.length + 1) (idx := idx + 1) (by omega) (by omega) (by omega) hr1
  refine ⟨{ p with keys := pk1, vals := pv1, kids := pc1, n := p.n + -1 },
          { l with keys := k2, vals := v2, kids := c2, n := l.n + TreeSlots.mergeAddN r.n },
          { r with n := 0 }, ⟨?_, ?_, ?_, rfl⟩, rfl, rfl⟩
  · simp [mergeNodes, g1, g2, e1, e2, e3, e4, e5, e6, e7, e8, e9, hk1, hk2, hv1, hv2, hc2, hpk1, hpv1, hpc1,
      hmk, hmv, hmc, hmd, hmz, bumpIf]
  · refine ⟨?_, map_removeAt _ pkvs idx (idx + 1) ▸ rpk1, map_removeAt _ pkvs idx (idx + 1) ▸ rpv1, rpc1, Or.inr ?_⟩
    · rw [length_removeAt pkvs hidx]; show p.n + -1 = _; rw [pn]; omega
    · rw [length_removeAt pkvs hidx, length_removeAt pkids (i := idx + 1) (by omega)]; omega
  · refine ⟨?_, by simpa using rk2, by simpa using rv2, rc2,
      sc2.imp id (·.trans (by rw [List.length_append, List.length_cons]))⟩
    rw [List.length_append, List.length_cons]; show l.n + (r.n + 1) = _; rw [ln, rn]; omega

/-- the statements of `rotateRight` are in the source -/
abbrev RotateRightPresent : Prop := TreeSlots.rotateRightZeroesKey = true ∧ TreeSlots.rotateRightZeroesValue = true ∧
  TreeSlots.rotateRightZeroesChild = true ∧ TreeSlots.rotateRightDecLeft = true ∧
  TreeSlots.rotateRightInsertsKey = true ∧ TreeSlots.rotateRightInsertsValue = true ∧
  TreeSlots.rotateRightInsertsChild = true ∧ TreeSlots.rotateRightIncRight = true

theorem rotateRightNodes_rep {p l r : SNode K V C} {pkvs lkvs rkvs : List (K × V)} {pkids lkids rkids : List C}
    (hp : NodeRep p pkvs pkids) (hl : NodeRep l lkvs lkids) (hr : NodeRep r rkvs rkids)
    (hkind : lkids = [] ↔ rkids = [])
    {idx : Nat} (hidx : idx < pkvs.length) (hlne : lkvs ≠ []) (hroom : rkvs.length < keysCap)
    (hf : RotateRightPresent) :
    ∃ p' l' r', (rotateRightNodes p l r idx = some (p', l', r', lkids.getLast?) ∧
      NodeRep p' (pkvs.take idx ++ lkvs.getLast hlne :: pkvs.drop (idx + 1)) pkids ∧
      NodeRep l' lkvs.dropLast lkids.dropLast ∧
      NodeRep r' (pkvs[idx] :: rkvs) (lkids.getLast?.toList ++ rkids)) ∧
      p'.parent = p.parent ∧ l'.parent = l.parent ∧ r'.parent = r.parent := by
  have lcap := hl.le_cap
  obtain ⟨pk1, pv1, hpk1, hpv1, rp'⟩ := hp.setEntry hidx (lkvs.getLast hlne)
  obtain ⟨hzk, hzv, hzc, hd, hik, hiv, hic, hir⟩ := hf
  obtain ⟨pn, pk, pv, pc, ps⟩ := hp
  obtain ⟨ln, lk, lv, lc, ls⟩ := hl
  obtain ⟨rn, rk, rv, rc, rs⟩ := hr
  obtain ⟨cv, cc⟩ := caps
  have hpos : 0 < lkvs.length := List.length_pos_iff.mpr hlne
  have g1 : p.keys[idx]? = some (some (pkvs[idx]).1) := pk.get_live_map hidx
  have g2 : p.vals[idx]? = some (some (pkvs[idx]).2) := pv.get_live_map hidx
  have g3 := lk.get_last_map hlne
  have g4 := lv.get_last_map hlne
  have e1 : toIdx (TreeSlots.rotateRightChildIdx l.n) = some lkvs.length := toIdx_eq ln
  have e2 : toIdx (TreeSlots.rotateRightMaxIdx l.n) = some (lkvs.length - 1) := toIdx_pred ln hpos
  have e3 : toIdx (l.n - 1) = some (lkvs.length - 1) := toIdx_pred ln hpos
  have e4 : toIdx l.n = some lkvs.length := toIdx_eq ln
  obtain ⟨lk1, hlk1, rlk1⟩ := rep_setSlot_clearLast lk (by rwa [List.length_map])
  obtain ⟨lv1, hlv1, rlv1⟩ := rep_setSlot_clearLast lv (by rwa [List.length_map])
  rw [List.length_map] at hlk1 hlv1
  obtain ⟨rk1, hrk1, rrk1⟩ := rep_insertOne_front rk (by rwa [List.length_map]) (pkvs[idx]).1
  obtain ⟨rv1, hrv1, rrv1⟩ := rep_insertOne_front rv (by rwa [List.length_map, cv]) (pkvs[idx]).2
  obtain ⟨lc1, rc1, g5, hlc1, rlc1, hrc1, rrc1, sl, sr⟩ :=
    rotateRight_kids lc rc (kinds ls rs hkind) hpos (by omega) (by omega)
  refine ⟨{ p with keys := pk1, vals := pv1 },
          { l with keys := lk1, vals := lv1, kids := lc1, n := l.n + -1 },
          { r with keys := rk1, vals := rv1, kids := rc1, n := r.n + 1 }, ⟨?_, ?_, ?_, ?_⟩, rfl, rfl, rfl⟩
  · simp [rotateRightNodes, rk.length, rv.length, rc.length, g1, g2, g3, g4, g5, e1, e2, e3, e4, hpk1, hpv1, hlk1,
      hlv1, hlc1, hrk1, hrv1, hrc1, hzk, hzv, hzc, hd, hik, hiv, hic, hir, bumpIf]
  · exact rp'
  · refine ⟨?_, List.map_dropLast ▸ rlk1, List.map_dropLast ▸ rlv1, rlc1,
      sl.imp id (·.trans (by rw [List.length_dropLast]))⟩
    rw [List.length_dropLast]; show l.n + -1 = _; rw [ln]; omega
  · exact ⟨congrArg (· + 1) rn, rrk1, rrv1, rrc1, sr⟩

/-- the statements of `rotateLeft` are in the source -/
abbrev RotateLeftPresent : Prop := RemoveOnePresent ∧ TreeSlots.rotateLeftShiftsKeys = true ∧
  TreeSlots.rotateLeftShiftsValues = true ∧ TreeSlots.rotateLeftShiftsChildren = true ∧
  TreeSlots.rotateLeftDecRight = true ∧ TreeSlots.rotateLeftIncLeft = true

-- the bound of `pkvs[idx - 1]` is written out: the default tactic gets to `omega` only after slower attempts
theorem rotateLeftNodes_rep {p l r : SNode K V C} {pkvs lkvs rkvs : List (K × V)} {pkids lkids rkids : List C}
    (hp : NodeRep p pkvs pkids) (hl : NodeRep l lkvs lkids) (hr : NodeRep r rkvs rkids)
    (hkind : lkids = [] ↔ rkids = [])
    {idx : Nat} (hidx0 : 0 < idx) (hidx : idx ≤ pkvs.length) (hrne : rkvs ≠ []) (hroom : lkvs.length < keysCap)
    (hf : RotateLeftPresent) :
    ∃ p' l' r', (rotateLeftNodes p l r idx = some (p', l', r', rkids.head?) ∧
      NodeRep p' (pkvs.take (idx - 1) ++ rkvs.head hrne :: pkvs.drop idx) pkids ∧
      NodeRep l' (lkvs ++ [pkvs[idx - 1]'(by omega)]) (lkids ++ rkids.take 1) ∧
      NodeRep r' (rkvs.drop 1) (rkids.drop 1)) ∧
      p'.parent = p.parent ∧ l'.parent = l.parent ∧ r'.parent = r.parent := by
  have hi1 : idx - 1 < pkvs.length := by omega
  obtain ⟨pk1, pv1, hpk1, hpv1, rp'⟩ := hp.setEntry hi1 (rkvs.head hrne)
  rw [Nat.sub_add_cancel hidx0] at rp'
  obtain ⟨hr1, hsk, hsv, hsc, hdr, hil⟩ := hf
  obtain ⟨pn, pk, pv, pc, ps⟩ := hp
  obtain ⟨ln, lk, lv, lc, ls⟩ := hl
  obtain ⟨rn, rk, rv, rc, rs⟩ := hr
  obtain ⟨cv, cc⟩ := caps
  have hpos : 0 < rkvs.length := List.length_pos_iff.mpr hrne
  have e0 : toIdx (TreeSlots.rotateLeftSepIdx (idx : Int)) = some (idx - 1) := toIdx_pred rfl hidx0
  have g1 : p.keys[idx - 1]? = some (some (pkvs[idx - 1]).1) := pk.get_live_map hi1
  have g2 : p.vals[idx - 1]? = some (some (pkvs[idx - 1]).2) := pv.get_live_map hi1
  have g3 : r.keys[0]? = some (some (rkvs.head hrne).1) := by rw [List.head_eq_getElem]; exact rk.get_live_map hpos
  have g4 : r.vals[0]? = some (some (rkvs.head hrne).2) := by rw [List.head_eq_getElem]; exact rv.get_live_map hpos
  have e1 : toIdx (TreeSlots.rotateLeftKeyIdx l.n) = some lkvs.length := toIdx_eq ln
  have e2 : toIdx (TreeSlots.rotateLeftValueIdx l.n) = some lkvs.length := toIdx_eq ln
  have e3 : toIdx (TreeSlots.rotateLeftChildIdx l.n) = some (lkvs.length + 1) := toIdx_succ ln
  obtain ⟨rk1, hrk1, rrk1⟩ := rep_removeOne_front rk (by rwa [List.length_map]) hr1
  obtain ⟨rv1, hrv1, rrv1⟩ := rep_removeOne_front rv (by rwa [List.length_map]) hr1
  obtain ⟨lk1, hlk1, rlk1⟩ := rep_setSlot_append lk (by rwa [List.length_map]) (pkvs[idx - 1]).1
  obtain ⟨lv1, hlv1, rlv1⟩ := rep_setSlot_append lv (by rwa [List.length_map, cv]) (pkvs[idx - 1]).2
  rw [List.length_map] at hlk1 hlv1
  obtain ⟨lc1, rc1, g5, hrc1, rrc1, hlc1, rlc1, sl, sr⟩ :=
    rotateLeft_kids lc rc (kinds ls rs hkind) (by omega) hpos hr1
  refine ⟨{ p with keys := pk1, vals := pv1 },
          { l with keys := lk1, vals := lv1, kids := lc1, n := l.n + 1 },
          { r with keys := rk1, vals := rv1, kids := rc1, n := r.n - 1 }, ⟨?_, ?_, ?_, ?_⟩, rfl, rfl, rfl⟩
  · simp [rotateLeftNodes, rk.length, rv.length, rc.length, e0, g1, g2, g3, g4, g5, e1, e2, e3, hpk1, hpv1, hlk1,
      hlv1, hlc1, hrk1, hrv1, hrc1, hsk, hsv, hsc, hdr, hil, bumpIf, Int.sub_eq_add_neg]
  · exact rp'
  · exact ⟨by rw [List.length_append]; exact congrArg (· + 1) ln, List.map_append ▸ rlk1, List.map_append ▸ rlv1, rlc1,
      sl.imp id (·.trans (by rw [List.length_append, List.length_singleton]))⟩
  · refine ⟨?_, List.map_drop ▸ rrk1, List.map_drop ▸ rrv1, rrc1,
      sr.imp id (·.trans (by rw [List.length_drop]))⟩
    rw [List.length_drop]; show r.n - 1 = _; rw [rn]; omega

end Juniper.Proofs.TreeSlotsOps
