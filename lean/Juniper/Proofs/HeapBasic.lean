import Juniper.Model.Heap
import Juniper.Proofs.ListStore
/-!
# Heap model: the generated index arithmetic and guards in closed form, the unfolding equations of
the sift loops with the generated presence facts discharged, and what `swapAt` and `lessAt` look up.
-/
namespace Juniper.Proofs.Heap
open Juniper.Gen.Heap Juniper.Model.Heap
open Juniper.ListStore (lt_of_getElem?)

variable {α : Type}

theorem parentN_eq (i : Nat) : parentN i = (i - 1) / 2 := by
  simp only [parentN, upParent, parent]
  rcases i with _ | i
  · decide
  · have h : ((i + 1 : Nat) : Int) - 1 = (i : Int) := by omega
    rw [h, Int.tdiv_eq_ediv_of_nonneg (by omega)]
    omega

theorem leftN_eq (i : Nat) : leftN i = 2 * i + 1 := by
  simp only [leftN, downChildren, children]; omega

theorem rightN_eq (i : Nat) : rightN i = 2 * i + 2 := by
  simp only [rightN, downChildren, children]; omega

theorem upGuard_eq (i : Nat) : upGuard (i : Int) = decide (0 < i) := by
  simp [upGuard]

theorem upNext_eq (p : Nat) : (upNext (p : Int)).toNat = p := by simp [upNext]

theorem downNoChild_eq (l n : Nat) : downNoChild (l : Int) (n : Int) = decide (n ≤ l) := by
  simp [downNoChild]

theorem downOnlyLeft_eq (r n : Nat) : downOnlyLeft (r : Int) (n : Int) = decide (n ≤ r) := by
  simp [downOnlyLeft]

theorem newStart_eq (n : Nat) : newStart (n : Int) = ((n / 2 : Nat) : Int) - 1 := by
  simp only [newStart]
  rw [Int.tdiv_eq_ediv_of_nonneg (by omega)]; omega

theorem newGuard_eq (i : Int) : newGuard i = decide (0 ≤ i) := by simp [newGuard]

theorem exists_getElem? {a : List α} {i : Nat} (h : i < a.length) : ∃ x, a[i]? = some x :=
  ⟨a[i], List.getElem?_eq_getElem h⟩

theorem lessAt_eq (less : α → α → Bool) (a : List α) (i j : Nat) :
    lessAt less a i j = (match a[i]?, a[j]? with
      | some x, some y => less x y
      | _, _ => false) := by
  simp only [lessAt, lessOrient]; rfl

/-- `lessAt .. i j = false` says that position `i` does not hold less than position `j`, vacuously when
either lies outside the array; the order proofs are written over it, so they argue about indices only. -/
theorem lessAt_eq_false_iff {less : α → α → Bool} {a : List α} {i j : Nat} :
    lessAt less a i j = false ↔ ∀ x y, a[i]? = some x → a[j]? = some y → less x y = false := by
  rw [lessAt_eq]; cases a[i]? <;> cases a[j]? <;> simp

theorem lessAt_congr {less : α → α → Bool} {a b : List α} {i j k l : Nat} (hi : a[i]? = b[k]?)
    (hj : a[j]? = b[l]?) : lessAt less a i j = lessAt less b k l := by
  rw [lessAt_eq, lessAt_eq, hi, hj]

theorem lessAt_append_left {less : α → α → Bool} {d : List α} (e : List α) {i j : Nat}
    (hi : i < d.length) (hj : j < d.length) : lessAt less (d ++ e) i j = lessAt less d i j :=
  lessAt_congr (List.getElem?_append_left hi) (List.getElem?_append_left hj)

theorem lessAt_set_ne {less : α → α → Bool} {a : List α} {i j k : Nat} (x : α) (hj : i ≠ j) (hk : i ≠ k) :
    lessAt less (a.set i x) j k = lessAt less a j k :=
  lessAt_congr (List.getElem?_set_ne hj) (List.getElem?_set_ne hk)

theorem lessAt_of_length_le {less : α → α → Bool} {a : List α} {i : Nat} (h : a.length ≤ i) (j : Nat) :
    lessAt less a i j = false := by
  rw [lessAt_eq, List.getElem?_eq_none h]

theorem lt_of_lessAt {less : α → α → Bool} {a : List α} {i j : Nat} (h : lessAt less a i j = true) :
    i < a.length ∧ j < a.length := by
  rw [lessAt_eq] at h
  cases hi : a[i]? with
  | none => rw [hi] at h; cases h
  | some x =>
    cases hj : a[j]? with
    | none => rw [hi, hj] at h; cases h
    | some y => exact ⟨lt_of_getElem? hi, lt_of_getElem? hj⟩

theorem swapAt_eq (a : List α) (i j : Nat) :
    swapAt a i j = (match a[i]?, a[j]? with
      | some x, some y => (a.set i y).set j x
      | _, _ => a) := by
  simp only [swapAt, swapExchanges, if_true]; rfl

theorem notifyAt_eq (a : List α) (i : Nat) :
    notifyAt a i = (match a[i]? with
      | some x => [(x, i)]
      | none => []) := by
  simp only [notifyAt, notifyReportsItemAndIndex, if_true]; rfl

theorem notifyAt_of_length_le {a : List α} {i : Nat} (h : a.length ≤ i) : notifyAt a i = [] := by
  rw [notifyAt_eq, List.getElem?_eq_none h]

theorem notifyAll_eq (a : List α) : notifyAll a = a.zipIdx := by
  simp only [notifyAll, notifyReportsItemAndIndex, if_true]

theorem swapN_eq (a : List α) (i j : Nat) :
    swapN a i j = (swapAt a i j, notifyAt (swapAt a i j) i ++ notifyAt (swapAt a i j) j) := by
  simp only [swapN, swapNotifiesI, swapNotifiesJ, if_true]

@[simp] theorem length_swapAt (a : List α) (i j : Nat) : (swapAt a i j).length = a.length := by
  rw [swapAt_eq]; split <;> simp

theorem getElem?_swapAt {a : List α} {i j : Nat} (hi : i < a.length) (hj : j < a.length) (k : Nat) :
    (swapAt a i j)[k]? = if k = j then a[i]? else if k = i then a[j]? else a[k]? := by
  obtain ⟨x, hx⟩ := exists_getElem? hi
  obtain ⟨y, hy⟩ := exists_getElem? hj
  simp only [swapAt_eq, hx, hy, List.getElem?_set]
  by_cases h1 : k = j
  · subst h1; simp [hj]
  · by_cases h2 : k = i
    · subst h2; simp [hi, Ne.symm h1, h1]
    · simp [h1, h2, Ne.symm h1, Ne.symm h2]

theorem getElem?_swapAt_left {a : List α} {i j : Nat} (hi : i < a.length) (hj : j < a.length) :
    (swapAt a i j)[i]? = a[j]? := by
  rw [getElem?_swapAt hi hj]; by_cases hij : i = j <;> simp [hij]

theorem getElem?_swapAt_right {a : List α} {i j : Nat} (hi : i < a.length) (hj : j < a.length) :
    (swapAt a i j)[j]? = a[i]? := by
  rw [getElem?_swapAt hi hj, if_pos rfl]

theorem getElem?_swapAt_ne {a : List α} {i j k : Nat} (hi : i < a.length) (hj : j < a.length)
    (hki : k ≠ i) (hkj : k ≠ j) : (swapAt a i j)[k]? = a[k]? := by
  rw [getElem?_swapAt hi hj, if_neg hkj, if_neg hki]

theorem upLoop_zero (less : α → α → Bool) (a : List α) (i : Nat) : upLoop less 0 a i = (a, []) := rfl

theorem upLoop_succ (less : α → α → Bool) (f : Nat) (a : List α) (i : Nat) :
    upLoop less (f + 1) a i =
      if 0 < i then
        if lessAt less a i ((i - 1) / 2) then
          ((upLoop less f (swapAt a i ((i - 1) / 2)) ((i - 1) / 2)).1,
            (swapN a i ((i - 1) / 2)).2 ++ (upLoop less f (swapAt a i ((i - 1) / 2)) ((i - 1) / 2)).2)
        else upLoop less f a ((i - 1) / 2)
      else (a, []) := by
  simp only [upLoop, upGuard_eq, parentN_eq, upNext_eq, upSwapCond, upSwaps, Bool.and_true, decide_eq_true_eq]
  by_cases h : 0 < i
  · by_cases hl : lessAt less a i ((i - 1) / 2) = true
    · simp [h, hl, swapN_eq]
    · simp [h, hl]
  · simp [h]

theorem downLoop_zero (less : α → α → Bool) (a : List α) (i : Nat) : downLoop less 0 a i = (a, []) := rfl

theorem percolateDown_nil (less : α → α → Bool) (i : Nat) : percolateDown less ([] : List α) i = ([], []) := rfl

/-- the child `percolateDown` would exchange with -/
def leastChild (less : α → α → Bool) (a : List α) (i : Nat) : Nat :=
  if a.length ≤ 2 * i + 2 then 2 * i + 1
  else if lessAt less a (2 * i + 2) (2 * i + 1) then 2 * i + 2 else 2 * i + 1

private theorem cast1 (i : Nat) : (2 * (i : Int) + 1).toNat = 2 * i + 1 := by omega
private theorem cast2 (i : Nat) : (2 * (i : Int) + 2).toNat = 2 * i + 2 := by omega
private theorem cast3 (i : Nat) : (max (2 * (i : Int) + 2) 0).toNat = 2 * i + 2 := by omega
private theorem cast4 (i : Nat) : (max (2 * (i : Int) + 1) 0).toNat = 2 * i + 1 := by omega

theorem downLoop_succ (less : α → α → Bool) (f : Nat) (a : List α) (i : Nat) :
    downLoop less (f + 1) a i =
      if a.length ≤ 2 * i + 1 then (a, [])
      else
        if lessAt less a (leastChild less a i) i then
          ((downLoop less f (swapAt a (leastChild less a i) i) (leastChild less a i)).1,
            (swapN a (leastChild less a i) i).2 ++
              (downLoop less f (swapAt a (leastChild less a i) i) (leastChild less a i)).2)
        else (a, []) := by
  simp only [downLoop, leftN_eq, rightN_eq, downNoChild_eq, downOnlyLeft_eq, downLeftCond, downLeftSwaps,
    downPickRight, downLeastAlt, downLeastInit, downSwapCond, downSwaps, downLeftNext, downNext, if_true,
    decide_eq_true_eq, leastChild]
  by_cases h1 : a.length ≤ 2 * i + 1
  · simp [h1]
  · by_cases h2 : a.length ≤ 2 * i + 2
    · simp [h1, h2, swapN_eq, cast1]
    · by_cases h3 : lessAt less a (2 * i + 2) (2 * i + 1) = true
      · simp [h1, h2, h3, swapN_eq, cast2]
      · simp [h1, h2, h3, swapN_eq, cast1]

theorem heapifyLoop_succ (less : α → α → Bool) (f : Nat) (a : List α) (i : Int) :
    heapifyLoop less (f + 1) a i =
      if 0 ≤ i then
        ((heapifyLoop less f (percolateDown less a i.toNat).1 (i - 1)).1,
          (percolateDown less a i.toNat).2 ++ (heapifyLoop less f (percolateDown less a i.toNat).1 (i - 1)).2)
      else (a, []) := by
  simp only [heapifyLoop, newGuard_eq, newSiftsDown, newDecrements, if_true, decide_eq_true_eq]

end Juniper.Proofs.Heap
