import Juniper.Proofs.BatchInv
/-!
C11, "…and then handed to a waiting consumer rather than held back" as stability + rank: an `Overdue`
state stays `Overdue` under every step until the consumer is `Served`; every step of a goroutine or of the
runtime but the hand-off `prodSend` serves it or decreases `waitRank`, and one such step is enabled.
`prodSend` (the batcher's `select` taking `<-c` although the timer arm is due) needs a fresh item each
time; that it is not preferred for ever is Go's select fairness: assumed, not proved.
-/
namespace Juniper.Proofs.Batch
open Juniper.Model.Batch

/-- A consumer is waiting in the inner `select`, the batch is non-empty and `maxWait` has elapsed
since `batchStart`; the batcher is not inside the `full` call for the batch's *first* item (there
`batchStart` is still the previous batch's; the code sets it right after that call). -/
def Overdue (cfg : Cfg) (s : State) : Prop :=
  s.cons = .inner ∧ s.batch ≠ [] ∧ s.batchStart + cfg.maxWait ≤ s.now ∧ (s.bpc = .inFull → 2 ≤ s.batch.length)

instance (cfg : Cfg) (s : State) : Decidable (Overdue cfg s) := by unfold Overdue; infer_instance

/-- The waiting consumer's `Next` has returned: with the batch `s.batch` (logged as a hand-over to an
announced waiter), or with its own context's error. -/
def Served (s s' : State) : Prop :=
  s'.cons = .idle ∧
  ((s'.results = s.results ++ [.batch s.batch] ∧
      ∃ d, s'.delivered = s.delivered ++ [d] ∧ d.items = s.batch ∧ d.toWaiter = true) ∨
    s'.results = s.results ++ [.ctxErr])

def rankTW : Timer → Nat
  | .fired => 0
  | .armed _ => 1
  | .idle => 2

/-- Steps the batcher / the timer still need before the hand-over is the enabled step. -/
def rankW (s : State) : Nat :=
  match s.bpc with
  | .flush _ => (match s.timer with | .armed _ => 1 | _ => 0)
  | .sel => 2 + rankTW s.timer
  | .inFull => 5 + rankTW s.timer
  | _ => 0

/-- The producer's deferred calls once the source has ended (they run while the consumer waits). -/
def rankPW : PPc → Nat
  | .closeC => 2
  | .closeSrc => 1
  | _ => 0

def waitRank (s : State) : Nat := rankW s + rankPW s.ppc

/-- What a step that is not an internal non-`prodSend` step may add to `waitRank`. -/
def waitCost : Label → Nat
  | .prodSend => 3
  | .srcRet .eof => 2
  | .srcRet .err => 2
  | .srcCancelErr _ => 2
  | _ => 0

theorem waitRank_le (s : State) : waitRank s ≤ 9 := by
  have hw : rankW s ≤ 7 := by
    have : rankTW s.timer ≤ 2 := by cases s.timer <;> simp [rankTW]
    unfold rankW
    split <;> (try split) <;> omega
  have hp : rankPW s.ppc ≤ 2 := by cases s.ppc <;> simp [rankPW]
  exact Nat.add_le_add hw hp

theorem overdue_facts {cfg : Cfg} {s : State} (hi : Inv cfg s) (hO : Overdue cfg s) :
    s.bgCancelled = false ∧ s.bpc ≠ .exit ∧ s.bpc ≠ .done ∧ s.batchCClosed = false ∧ 0 < s.batch.length := by
  obtain ⟨hc, hne, _, _⟩ := hO
  have hbg : s.bgCancelled = false := hi.ctl.live (by rw [hc]; nofun)
  have hex : s.bpc ≠ .exit := fun hb => hne (hi.ends.gone_drained (Or.inl hb) hbg).1
  have hdn : s.bpc ≠ .done := fun hb => hne (hi.ends.gone_drained (Or.inr hb) hbg).1
  exact ⟨hbg, hex, hdn, hi.ends.running hdn, List.length_pos_iff.2 hne⟩

theorem served_handedOver {s : State} (r : Reason) (b : BPc) (hc : s.cons = .inner) : Served s (handedOver s r b) :=
  ⟨rfl, .inl ⟨rfl, _, rfl, rfl, decide_eq_true hc⟩⟩

theorem deliver_enabled {cfg : Cfg} {s : State} {r : Reason} (hb : s.bpc = .flush r) (hc : s.cons ≠ .idle) :
    ∃ b, step good cfg s .deliver = some (handedOver s r b) := by
  cases r <;> simp [step, hb, hc, good, afterFull, Gen.Batch.firstItemCond]

theorem waiter_stable {cfg : Cfg} {s s' : State} {l : Label} (hi : Inv cfg s)
    (hO : Overdue cfg s) (h : step good cfg s l = some s') : Overdue cfg s' ∨ Served s s' := by
  obtain ⟨hbg, hex, hdn, hcc, hlen⟩ := overdue_facts hi hO
  obtain ⟨hc, hne, hel, hfl⟩ := hO
  cases step_good h with
  | nextCall _ hc' | close _ hc' => exact nomatch hc.symm.trans hc'
  | announceElapsed hc' | announceArm hc' | announceEmpty hc' => exact nomatch hc.symm.trans hc'
  | tick d => exact .inl ⟨hc, hne, Nat.le_add_right_of_le hel, hfl⟩
  | prodSend v hp hb =>
    exact .inl ⟨hc, List.append_ne_nil_of_left_ne_nil hne _, hel, fun _ => by
      simp only [List.length_append, List.length_singleton]; omega⟩
  | fullYes | fullNoLater | recvCClosedFlush | recvTimer => exact .inl ⟨hc, hne, hel, nofun⟩
  | fullNoFirstWaited hb _ hl1 | fullNoFirst hb _ hl1 => have := hfl hb; omega
  | recvCClosedExit _ _ hl0 => omega
  | flushAbort _ _ hbg' => exact nomatch hbg.symm.trans hbg'
  | batchExit hb => exact absurd hb hex
  | consClosed _ hcc' => exact nomatch hcc.symm.trans hcc'
  | deliver | deliverEnd => exact .inr (served_handedOver _ _ hc)
  | consCtx => exact .inr ⟨rfl, .inr rfl⟩
  | _ => exact .inl ⟨hc, hne, hel, hfl⟩

theorem waiter_rank {cfg : Cfg} {s s' : State} {l : Label} (hi : Inv cfg s)
    (hO : Overdue cfg s) (hl : l.internal = true) (hps : l ≠ .prodSend)
    (h : step good cfg s l = some s') : Served s s' ∨ waitRank s' < waitRank s := by
  obtain ⟨hbg, hex, hdn, hcc, hlen⟩ := overdue_facts hi hO
  obtain ⟨hc, hne, hel, hfl⟩ := hO
  cases step_good h with
  | srcItem | srcEof | srcErr | srcCancelErr | srcCancelOwn | nextCall | ctxExpire | tick | close => cases hl
  | prodSend => exact absurd rfl hps
  | prodCancelled _ hbg' | prodSendCancel _ _ hbg' | flushAbort _ _ hbg' => exact nomatch hbg.symm.trans hbg'
  | announceElapsed hc' | announceArm hc' | announceEmpty hc' => exact nomatch hc.symm.trans hc'
  | fullNoFirstWaited hb _ hl1 | fullNoFirst hb _ hl1 => have := hfl hb; omega
  | recvCClosedExit _ _ hl0 => omega
  | batchExit hb => exact absurd hb hex
  | closeReturn _ _ _ hb => exact absurd hb hdn
  | consClosed _ hcc' => exact nomatch hcc.symm.trans hcc'
  | deliver | deliverEnd => exact .inl (served_handedOver _ _ hc)
  | consCtx => exact .inl ⟨rfl, .inr rfl⟩
  | prodCloseC hp | prodCloseSrc hp => exact .inr (by simp only [waitRank, rankW, rankPW, hp]; omega)
  | fullYes hb | fullNoLater hb => exact .inr (by simp only [waitRank, rankW, rankTW, hb]; omega)
  | recvCClosedFlush hb => exact .inr (by simp only [waitRank, rankW, hb]; split <;> omega)
  | recvTimer hb ht => exact .inr (by simp only [waitRank, rankW, rankTW, hb, ht]; omega)
  | timerExpire t ht =>
    refine .inr ?_
    cases hb : s.bpc with
    | exit => exact absurd hb hex
    | done => exact absurd hb hdn
    | _ => simp only [waitRank, rankW, rankTW, hb, ht]; omega

theorem waiter_cost {cfg : Cfg} {s s' : State} {l : Label} (hi : Inv cfg s)
    (hO : Overdue cfg s) (h : step good cfg s l = some s') :
    Served s s' ∨ waitRank s' ≤ waitRank s + waitCost l := by
  cases hl : l.internal with
  | true =>
    by_cases hps : l = .prodSend
    · subst hps
      cases step_good h with
      | prodSend v hp hb => exact .inr (by simp only [waitRank, rankW, rankPW, waitCost, hp, hb]; omega)
    · exact (waiter_rank hi hO hl hps h).imp_right fun h => Nat.le_add_right_of_le (Nat.le_of_lt h)
  | false =>
    have hc := hO.1
    cases step_good h with
    | srcItem v hp | srcEof hp | srcErr hp | srcCancelErr w hp | srcCancelOwn hp =>
      exact .inr (by simp only [waitRank, rankW, rankPW, waitCost, hp]; omega)
    | nextCall _ hc' | close _ hc' => exact nomatch hc.symm.trans hc'
    | ctxExpire | tick => exact .inr (Nat.le_refl _)
    | _ => cases hl

theorem waiter_enabled {cfg : Cfg} {s : State} (hi : Inv cfg s)
    (hfull : ∃ b, cfg.fullOK s.batch b = true) (hO : Overdue cfg s) :
    ∃ l, l.internal = true ∧ l ≠ .prodSend ∧ (step good cfg s l).isSome = true := by
  obtain ⟨hbg, hex, hdn, hcc, hlen⟩ := overdue_facts hi hO
  obtain ⟨hc, hne, hel, hfl⟩ := hO
  cases hb : s.bpc with
  | exit => exact absurd hb hex
  | done => exact absurd hb hdn
  | flush r =>
    obtain ⟨b, hs⟩ := deliver_enabled (cfg := cfg) hb (by rw [hc]; nofun)
    exact ⟨.deliver, rfl, nofun, by rw [hs]; rfl⟩
  | inFull =>
    obtain ⟨b, hb'⟩ := hfull
    refine ⟨.fullRet b, rfl, by simp, ?_⟩
    cases b <;> simp [step, hb, hb']
  | sel =>
    have ht := hi.waiter.sel_timer hc hb hlen
    have htm := hi.ctl.timer_ok (.inl hb)
    have hset := htm.chan ht
    cases htm' : s.timer with
    | idle => exact absurd htm' ht
    | fired => exact ⟨.recvTimer, rfl, by simp, by simp [step, hb, htm', hset, good]⟩
    | armed t =>
      have := htm.deadline htm'
      have hle : t ≤ s.now := by omega
      exact ⟨.timerExpire, rfl, by simp, by simp [step, htm', hle]⟩

theorem waiter_sees_end {cfg : Cfg} {s : State} (hi : Inv cfg s) (hc : s.cons ≠ .idle) :
    (s.bpc = .exit → (step good cfg s .batchExit).isSome = true) ∧
    (s.bpc = .done → ∃ s', step good cfg s .consClosed = some s' ∧ s'.cons = .idle ∧
      (s'.results = s.results ++ [.endOK] ∨ s'.results = s.results ++ [.srcErr])) := by
  refine ⟨fun hb => by simp [step, hb], fun hb => ?_⟩
  have hcc := hi.ends.done_batchC_closed hb
  cases he : s.err <;> simp [step, hc, hcc, good, he, Code.bgMayEnd]

end Juniper.Proofs.Batch
