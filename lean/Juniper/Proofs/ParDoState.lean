import Juniper.Proofs.ParDoCount
/-! Inductive invariants of the `parallel.Do` / `DoContext` LTS, part 2: simple state facts (after the
return every worker is done; `Do` never sees a context; the sequential path never holds a parallel-path
program counter; errgroup error implies a cancelled context; who cancelled first). -/

namespace Juniper.Proofs.ParDo
open Juniper.Gen Juniper.Model.ParDo

def notDone : Pc → Bool
  | .done => false
  | _ => true
def isRetErr : Pc → Bool
  | .retErr _ => true
  | _ => false
def isCheck : Pc → Bool
  | .check _ => true
  | _ => false
def isFetch : Pc → Bool
  | .fetch => true
  | _ => false
def isCall : Pc → Bool
  | .call _ => true
  | _ => false
def isDone : Pc → Bool
  | .done => true
  | _ => false

theorem allDone_iff (ws : List Pc) : allDone ws = true ↔ cnt notDone ws = 0 := by
  simp only [allDone, List.all_eq_true, cnt, List.countP_eq_zero]
  exact forall_congr' fun a => imp_congr_right fun _ => by cases a <;> simp [notDone]

/-- `Do` (no context): nothing of the cancellation and error machinery is ever used -/
structure NoCtx (s : St) : Prop where
  dCause : s.dCause = none
  live : s.callerCancelled = false
  noRetErr : cnt isRetErr s.ws = 0
  noFail : noFailure s

/-- the sequential fast path: no errgroup, no derived context, none of the parallel path's program counters -/
structure SeqPath (s : St) : Prop where
  egErr : s.egErr = none
  dCause : s.callerCancelled = false → s.dCause = none
  noCheck : cnt isCheck s.ws = 0
  noFetch : cnt isFetch s.ws = 0

structure StateInv (cfg : Cfg) (s : St) : Prop where
  retDone : s.ret ≠ none → cnt notDone s.ws = 0
  noCtx : cfg.code.ctxMode = false → NoCtx s
  seqPath : s.seq = true → SeqPath s
  egErr_cancels : s.egErr ≠ none → s.dCause ≠ none
  cause : (s.dCause = some .lib → s.egErr ≠ none) ∧ (s.dCause = some .caller → s.callerCancelled = true)
  skipped_cancelled : s.skipped ≠ [] → s.dCause ≠ none
  ret_egErr : s.seq = false → ∀ r, s.ret = some r → r = s.egErr

theorem noFailure_snoc {s : St} {i v} (h : noFailure s) : noFailure { s with ended := s.ended ++ [(i, .ok v)] } := by
  intro e he
  rcases List.mem_append.1 he with he | he
  · exact h e he
  · obtain rfl := List.mem_singleton.1 he; rfl

theorem firstCause_ne_none {d : Option Cause} {c : Cause} : d.or (some c) ≠ none := by
  cases d <;> simp

theorem firstCause_eq {d : Option Cause} {c c' : Cause} (hne : c ≠ c') (h : d.or (some c) = some c') :
    d = some c' := by
  cases d <;> simp_all

theorem ret_none_of_active {s : St} (hD : s.ret ≠ none → cnt notDone s.ws = 0) {w : Nat} {b : Pc}
    (hw : s.ws[w]? = some b) (hb : notDone b = true) : s.ret = none :=
  Decidable.byContradiction fun hr => Nat.ne_of_gt (cnt_pos hw hb) (hD hr)

theorem stateInv_step {cfg : Cfg} {s s' : St} {l : Label} (hi : StateInv cfg s)
    (h : Step cfg s l s') : StateInv cfg s' := by
  obtain ⟨iRetDone, iNoCtx, iSeqPath, iEgErrCancels, iCause, iSkippedCancelled, iRetEgErr⟩ := hi
  refine ⟨?_, ?_, ?_, ?_, ?_, ?_, ?_⟩
  · cases h with
    | callerCancel => exact iRetDone
    | retSeq _ _ hws => exact fun _ => hws ▸ rfl
    | retSeqErr => exact fun _ => rfl
    | retPar _ _ hall => exact fun _ => (allDone_iff _).1 hall
    | fetchDone hw | fetchCheck hw | fetchCall hw | checkSkip hw | checkPass hw | «begin» hw | fEndErr hw
    | fEndSeqNext hw | fEndSeqLast hw | fEndPar hw | egFirst hw | egLater hw => exact fun hr => absurd (ret_none_of_active iRetDone hw rfl) hr
  · intro hm
    obtain ⟨m1, m2, m4, m6⟩ := iNoCtx hm
    cases h with
    | fetchCheck _ _ _ hm' | fEndErr _ hm' | callerCancel hm' => cases hm'.symm.trans hm
    | checkSkip _ _ hd => cases m1.symm.trans hd
    | egFirst hw | egLater hw => exact absurd m4 (Nat.ne_of_gt (cnt_pos hw rfl))
    | retSeqErr _ _ hws => rw [hws] at m4; cases m4
    | retSeq | retPar => exact ⟨m1, m2, m4, m6⟩
    | fetchDone hw | fetchCall hw | checkPass hw | «begin» hw =>
      exact ⟨m1, m2, cnt_set_zero m4 rfl, m6⟩
    | fEndSeqNext hw | fEndSeqLast hw | fEndPar hw =>
      exact ⟨m1, m2, cnt_set_zero m4 rfl, noFailure_snoc m6⟩
  · intro hq
    rw [h.seq_eq] at hq
    obtain ⟨s1, s2, s4, s5⟩ := iSeqPath hq
    cases h with
    | fetchDone _ hq' | fetchCheck _ hq' | fetchCall _ hq' | checkSkip _ hq' | checkPass _ hq' | fEndPar _ hq'
    | egFirst _ hq' | egLater _ hq' | retPar _ hq' => cases hq'.symm.trans hq
    | «begin» | fEndErr | fEndSeqNext | fEndSeqLast => exact ⟨s1, s2, cnt_set_zero s4 rfl, cnt_set_zero s5 rfl⟩
    | callerCancel => exact ⟨s1, nofun, s4, s5⟩
    | retSeq => exact ⟨s1, s2, s4, s5⟩
    | retSeqErr => exact ⟨s1, s2, rfl, rfl⟩
  · cases h with
    | egFirst | callerCancel => exact fun _ => firstCause_ne_none
    | _ => exact iEgErrCancels
  · cases h with
    | egFirst => exact ⟨fun _ => nofun, fun hd => iCause.2 (firstCause_eq (by decide) hd)⟩
    | callerCancel => exact ⟨fun hd => iCause.1 (firstCause_eq (by decide) hd), fun _ => rfl⟩
    | _ => exact iCause
  · cases h with
    | checkSkip _ _ hd => exact fun _ => hd ▸ nofun
    | egFirst | callerCancel => exact fun _ => firstCause_ne_none
    | _ => exact iSkippedCancelled
  · cases h with
    | egFirst hw => exact fun _ r hr => by rw [ret_none_of_active iRetDone hw rfl] at hr; cases hr
    | retSeq _ hq | retSeqErr _ hq => exact fun hq' => nomatch hq.symm.trans hq'
    | retPar => exact fun _ r hr => (Option.some.inj hr).symm
    | _ => exact iRetEgErr

theorem stateInv_init (cfg : Cfg) : StateInv cfg (init cfg) := by
  unfold init
  split <;> refine ⟨?_, fun _ => ⟨?_, ?_, ?_, ?_⟩, fun hq => ⟨?_, ?_, ?_, ?_⟩, ?_, ?_, ?_, ?_⟩ <;>
    simp [noFailure] at *
  all_goals (try split) <;> simp [isRetErr, isCheck, isFetch]

theorem StateInv.egErr_of_ret_nil {cfg : Cfg} {s : St} (h : StateInv cfg s) (hr : s.ret = some none) : s.egErr = none := by
  cases hq : s.seq
  · exact (h.ret_egErr hq _ hr).symm
  · exact (h.seqPath hq).egErr

end Juniper.Proofs.ParDo
