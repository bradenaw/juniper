import Juniper.Model.Deque
/-!
# Ring-index arithmetic of `container/deque`

`ridx f c k`: the raw index of ring position `k` counted from `f`, and its algebra. The two shapes in which
`deque.go` computes an index are put into that form under the bounds of the representation invariant: Go's
`(x + i) % c` (`tmod_add`) and the generated `positiveMod(x - 1, c)` (`positiveMod_pred`, proved by unfolding
the definition re-extracted from `deque.go` on every run, so a changed operator there breaks it).
-/
namespace Juniper.Proofs.Deque
open Juniper.Gen.Deque Juniper.Model.Deque

/-- Raw buffer index of ring position `k` (0 = front) in a ring of size `c` whose front is `f`. -/
def ridx (f c k : Int) : Int := if f + k < c then f + k else f + k - c

theorem ridx_cases (f c k : Int) :
    (f + k < c ∧ ridx f c k = f + k) ∨ (c ≤ f + k ∧ ridx f c k = f + k - c) := by
  unfold ridx; split <;> omega

theorem ridx_zero {f c : Int} (h : f < c) : ridx f c 0 = f := by
  have := ridx_cases f c 0; omega

/-- Go's `%` (truncated) on the range that the ring arithmetic uses. -/
theorem tmod_wrap_cases {x c : Int} (h0 : 0 ≤ x) (h1 : x < 2 * c) :
    (x < c ∧ Int.tmod x c = x) ∨ (c ≤ x ∧ Int.tmod x c = x - c) := by
  rw [Int.tmod_eq_emod_of_nonneg h0]
  by_cases h : x < c
  · exact Or.inl ⟨h, Int.emod_eq_of_lt h0 h⟩
  · refine Or.inr ⟨by omega, ?_⟩
    rw [← Int.sub_emod_right]; exact Int.emod_eq_of_lt (by omega) (by omega)

theorem positiveMod_emod (l d : Int) (hd : 0 < d) :
    0 ≤ positiveMod l d ∧ positiveMod l d < d ∧ positiveMod l d = l % d := by
  unfold positiveMod
  simp only [Int.tmod_eq_emod]
  have h0 := Int.emod_nonneg l (Int.ne_of_gt hd)
  have h1 := Int.emod_lt_of_pos l hd
  have hab : d.natAbs = d := by omega
  by_cases hdv : d ∣ l
  · have : l % d = 0 := Int.emod_eq_zero_of_dvd hdv
    simp [hdv, this, hd]
  · by_cases hl : 0 ≤ l
    · simp [hl]; omega
    · simp [hl, hdv]; rw [hab]; omega

/-- `positiveMod(x-1, c)` for `0 ≤ x < c`: one step backwards in the ring is `c - 1` steps forwards. -/
theorem positiveMod_pred {x c : Int} (h0 : 0 ≤ x) (h1 : x < c) : positiveMod (x - 1) c = ridx x c (c - 1) := by
  obtain ⟨_, _, h⟩ := positiveMod_emod (x - 1) c (by omega)
  rw [h]
  rcases ridx_cases x c (c - 1) with ⟨hx, e⟩ | ⟨hx, e⟩
  · have : x = 0 := by omega
    subst this
    rw [e, ← Int.add_emod_right]
    have : (0 : Int) - 1 + c = 0 + (c - 1) := by omega
    rw [this]; exact Int.emod_eq_of_lt (by omega) (by omega)
  · rw [e, Int.emod_eq_of_lt (by omega) (by omega)]; omega

/-- Go's `(f + i) % c` is ring position `i` counted from `f`. -/
theorem tmod_add {f c i : Int} (h0 : 0 ≤ f + i) (h1 : f + i < 2 * c) : Int.tmod (f + i) c = ridx f c i := by
  have := tmod_wrap_cases h0 h1
  have := ridx_cases f c i
  omega

theorem ridx_bounds {f c k : Int} (hf0 : 0 ≤ f) (hf1 : f < c) (hk0 : 0 ≤ k) (hk1 : k < c) :
    0 ≤ ridx f c k ∧ ridx f c k < c := by
  have := ridx_cases f c k; omega

theorem ridx_inj {f c j k : Int} (hj0 : 0 ≤ j) (hj1 : j < c) (hk0 : 0 ≤ k) (hk1 : k < c)
    (h : ridx f c j = ridx f c k) : j = k := by
  have := ridx_cases f c j
  have := ridx_cases f c k
  omega

theorem ridx_surj {f c : Int} (hf0 : 0 ≤ f) (hf1 : f < c) (j : Nat) (hj : (j : Int) < c) :
    ∃ k : Nat, (k : Int) < c ∧ ridx f c k = j := by
  by_cases h : f ≤ j
  · refine ⟨(j - f).toNat, by omega, ?_⟩
    have := ridx_cases f c ((j - f).toNat : Nat); omega
  · refine ⟨(j - f + c).toNat, by omega, ?_⟩
    have := ridx_cases f c ((j - f + c).toNat : Nat); omega

theorem ridx_of_lt {f c k : Int} (h : f + k < c) : ridx f c k = f + k := if_pos h

theorem ridx_of_ge {f c k : Int} (h : c ≤ f + k) : ridx f c k = f + k - c := if_neg (by omega)

theorem ridx_ridx {f c j k : Int} (hf0 : 0 ≤ f) (hf1 : f < c) (hk0 : 0 ≤ k) (hk1 : k < c) :
    ridx (ridx f c j) c k = ridx f c (ridx j c k) := by
  by_cases h1 : f + j < c <;> by_cases h2 : j + k < c
  · rw [ridx_of_lt h1, ridx_of_lt h2]; unfold ridx; rw [Int.add_assoc]
  · rw [ridx_of_lt h1, ridx_of_ge (by omega : c ≤ j + k), ridx_of_ge (by omega : c ≤ f + j + k),
      ridx_of_lt (by omega : f + (j + k - c) < c)]; omega
  · rw [ridx_of_ge (by omega : c ≤ f + j), ridx_of_lt h2, ridx_of_ge (by omega : c ≤ f + (j + k))]
    unfold ridx; split <;> omega
  · rw [ridx_of_ge (by omega : c ≤ f + j), ridx_of_ge (by omega : c ≤ j + k)]
    unfold ridx; split <;> split <;> omega

theorem ridx_succ {f c j : Int} (hf0 : 0 ≤ f) (hf1 : f < c) (hj0 : 0 ≤ j) (hj1 : j + 1 < c) :
    ridx (ridx f c j) c 1 = ridx f c (j + 1) := by
  rw [ridx_ridx hf0 hf1 (by omega) (by omega), ridx_of_lt (f := j) hj1]

theorem ridx_pred {f c j : Int} (hf0 : 0 ≤ f) (hf1 : f < c) (hj0 : 0 < j) :
    ridx (ridx f c j) c (c - 1) = ridx f c (j - 1) := by
  rw [ridx_ridx hf0 hf1 (by omega) (by omega), ridx_of_ge (f := j) (by omega)]; congr 1; omega

end Juniper.Proofs.Deque
