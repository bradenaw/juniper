import Juniper.Proofs.HelpersBasic
namespace Juniper.Proofs.Helpers
open Juniper.Model.Helpers Juniper.Spec.Helpers Juniper.Gen.Helpers

variable {α : Type}

theorem rev_tdiv2_nat (n : Nat) : Int.tdiv (n : Int) 2 = ((n / 2 : Nat) : Int) := by
  rw [Int.tdiv_eq_ediv_of_nonneg (by omega)]
  omega

seal Juniper.Facts.wrap64

/-- `i < len(s)/2` for a length that fits in an `int`: the 64-bit division is exact -/
theorem revCond_nat (t n : Nat) (hn : n ≤ 9223372036854775807) :
    revCond (t : Int) (n : Int) = decide ((t : Int) < ((n / 2 : Nat) : Int)) := by
  unfold revCond
  rw [rev_tdiv2_nat, wrap64_nat (by omega)]

/-- `len(s)-i-1` for `i < len(s) ≤ MaxInt64`: both subtractions are exact -/
theorem revMirror_nat (t n : Nat) (ht : t < n) (hn : n ≤ 9223372036854775807) :
    revMirror (t : Int) (n : Int) = ((n - t - 1 : Nat) : Int) := by
  unfold revMirror
  have e1 : Juniper.Facts.wrap64 ((n : Int) - (t : Int)) = ((n - t : Nat) : Int) := wrap64_eq_nat (by omega) (by omega)
  rw [e1]; exact wrap64_eq_nat (by omega) (by omega)

/-- the invariant of the `Reverse` loop after `t` iterations; `q` is the mirror image of `p` (stated with a
sum, so that the arithmetic of the loop step has no truncated subtraction) -/
def RevInv (s a : List α) (t : Nat) : Prop :=
  a.length = s.length ∧ 2 * t ≤ s.length ∧
  ∀ p q, p + q + 1 = s.length → a[p]? = if p < t ∨ q < t then s[q]? else s[p]?

theorem revInv_final (s a : List α) (t : Nat) (h : RevInv s a t) (ht : s.length / 2 ≤ t) :
    a = s.reverse := by
  obtain ⟨hl, h2, hp⟩ := h
  apply List.ext_getElem?
  intro p
  by_cases hlt : p < s.length
  · obtain ⟨q, hq⟩ : ∃ q, p + q + 1 = s.length := ⟨s.length - 1 - p, by omega⟩
    rw [hp p q hq, List.getElem?_reverse hlt, show s.length - 1 - p = q by omega]
    split
    · rfl
    · rw [show p = q by omega]
  · rw [List.getElem?_eq_none (by omega), List.getElem?_eq_none (by rw [List.length_reverse]; omega)]

theorem revInv_step (s a : List α) (t u : Nat) (h : RevInv s a t) (hu : t + u + 1 = s.length) (htu : t < u)
    (hi : t < a.length) (hj : u < a.length) : RevInv s (swapNat a t u hi hj) (t + 1) := by
  obtain ⟨hl, _, hp⟩ := h
  refine ⟨by rw [length_swapNat]; exact hl, by omega, fun p q hpq => ?_⟩
  rw [getElem?_swapNat, ← List.getElem?_eq_getElem hi, ← List.getElem?_eq_getElem hj, hp t u hu,
    hp u t (by rw [Nat.add_comm u t]; exact hu), hp p q hpq,
    if_neg (fun h : t < t ∨ u < t => h.elim (Nat.lt_irrefl t) (Nat.lt_asymm htu)),
    if_neg (fun h : u < t ∨ t < t => h.elim (Nat.lt_asymm htu) (Nat.lt_irrefl t))]
  by_cases q1 : p = u
  · rw [if_pos q1, if_pos (by omega), show q = t by omega]
  · rw [if_neg q1]
    by_cases q2 : p = t
    · rw [if_pos q2, if_pos (by omega), show q = u by omega]
    · rw [if_neg q2]
      by_cases q3 : p < t ∨ q < t
      · rw [if_pos q3, if_pos (by omega)]
      · rw [if_neg q3, if_neg (by omega)]

theorem reverseLoop_inv (s : List α) (hl64 : s.length ≤ 9223372036854775807) : ∀ (fuel : Nat) (a : List α) (t : Nat),
    RevInv s a t → s.length / 2 - t ≤ fuel → reverseLoop fuel a (t : Int) = some s.reverse := by
  intro fuel
  induction fuel with
  | zero =>
    intro a t h hf
    rw [reverseLoop, revInv_final s a t h (by omega)]
  | succ fuel ih =>
    intro a t h hf
    rw [reverseLoop]
    have hl := h.1
    have hla : a.length ≤ 9223372036854775807 := by rw [hl]; exact hl64
    simp only [revCond_nat _ _ hla, revSwaps, decide_eq_true_eq, if_true]
    by_cases hc : t < s.length / 2
    · obtain ⟨u, hu, htu⟩ : ∃ u, t + u + 1 = s.length ∧ t < u := ⟨s.length - 1 - t, by omega, by omega⟩
      have hi : t < a.length := by omega
      have hj : u < a.length := by omega
      rw [if_pos (by rw [hl]; omega), revMirror_nat t a.length hi hla, show a.length - t - 1 = u by omega,
        swapI_nat a t u hi hj]
      simp only
      have := ih (swapNat a t u hi hj) (t + 1) (revInv_step s a t u h hu htu hi hj) (by omega)
      simpa using this
    · rw [if_neg (by rw [hl]; omega), revInv_final s a t h (by omega)]

theorem reverse_spec (s : List α) (hl64 : s.length ≤ 9223372036854775807) : reverse s = some s.reverse := by
  unfold reverse
  simp only [revI0]
  have := reverseLoop_inv s hl64 s.length s 0 ⟨rfl, by omega, fun p q _ => by rw [if_neg (by omega)]⟩ (by omega)
  simpa using this

end Juniper.Proofs.Helpers
