import Juniper.Model.BTree
/-!
# Statement-level ties of the cursor / iterator code (C01, C02)

Each of these regenerated facts says that a particular statement list of `btree.go` is the expected one
(`mergeTwo` zeroes the unlinked node's `n`; a lost `cursor.Next`/`Prev` re-seeks `>`/`<` its key and
returns; the four `Seek*` step with `c.Next()` / `c.Prev()`; a lost iterator re-seeks `>=`/`<=`). The model
*branches* on them (`retiredN`, `cursorNext`, `cursorPrev`, `seekWith`, `iterReseek`), so with a flipped fact
the model follows the changed code and the lemmas below fail.
-/
namespace Juniper.Proofs.Tree
open Juniper.Model.BTree Juniper.Gen.Tree

@[simp] theorem retiredN_zero (i : Nat) : retiredN i = 0 := by
  have h : mergeZeroesRight = true := by decide
  simp [retiredN, h]

@[simp] theorem cursorLostReseeks_true : cursorLostReseeks = true := by decide
@[simp] theorem seekStepCalls_true : seekStepCalls = true := by decide
@[simp] theorem iterReseeks_true : iterReseeks = true := by decide
@[simp] theorem iterReadsThenSteps_true : iterReadsThenSteps = true := by decide

end Juniper.Proofs.Tree
