import Juniper.Spec.Deque
/-! What holds of `SnapshotOrPanic` whatever the container: observations that are all panics satisfy it for any snapshot
(the deque's iterator once it is stale; the heap's closes that case with `stale_run` directly), and it is kept when
items and snapshot are mapped through the same function (`PriorityQueue.Iterate` maps the inner heap's items to keys). -/
namespace Juniper.Proofs.HeapIter
open Juniper.Spec.Deque (Obs SnapshotOrPanic)

variable {α : Type}

theorem snapshotOrPanic_of_all_panic (s : List α) (obs : List (Obs α))
    (h : ∀ o ∈ obs, o = .panic) : SnapshotOrPanic s obs := by
  cases obs with
  | nil => trivial
  | cons o r =>
    have ho := h o (by simp)
    subst ho
    intro o' ho'; exact h o' (by simp [ho'])

def mapObs {β : Type} (f : α → β) : Obs α → Obs β
  | .item v => .item (v.map f)
  | .done => .done
  | .panic => .panic

theorem snapshotOrPanic_map {β : Type} (f : α → β) (s : List α) (obs : List (Obs α))
    (h : SnapshotOrPanic s obs) : SnapshotOrPanic (s.map f) (obs.map (mapObs f)) := by
  induction obs generalizing s with
  | nil => trivial
  | cons o r ih =>
    cases o with
    | item v =>
      obtain ⟨x, s', rfl, rfl, hr⟩ := h
      exact ⟨f x, s'.map f, by simp, rfl, ih s' hr⟩
    | done =>
      obtain ⟨rfl, hr⟩ := h
      exact ⟨rfl, ih [] hr⟩
    | panic =>
      intro o ho
      obtain ⟨o', ho', rfl⟩ := List.mem_map.mp ho
      rw [h o' ho']; rfl

end Juniper.Proofs.HeapIter
