import Juniper.Proofs.ParMapIterCtl
/-! Inductive invariants of the MapIterator LTS, part 2: values and order, completeness at the end. `Inv` is the conjunction
of all the invariants, `Inv.*` what it says in the caller's terms. -/

namespace Juniper.Proofs.ParMap.I
open Juniper.Gen Juniper.Facts Juniper.Model.ParMap Juniper.Model.ParMap.Iter Juniper.Proofs.ParMap
open Juniper.Proofs.ParMap.S (b2n_true b2n_false icnt_pos_of_mem)

def valIdx : NextRes → Option Nat
  | .val k _ => some k
  | _ => none

/-- values: results are `f` of the source items, in order -/
structure ValueInv (cfg : Cfg) (s : St) : Prop where
  ofWorker : ∀ k v, WPc.sendCh k v ∈ s.ws → (k, v) ∈ s.fEnded
  ofHeap : ∀ k v, (k, v) ∈ s.heap → (k, v) ∈ s.fEnded
  ofResult : ∀ k v, NextRes.val k v ∈ s.results → (k, v) ∈ s.fEnded
  numbered : s.results.filterMap valIdx = List.range (cnt isVal s.results)
  held : ∀ v, (s.disp = .acquire v ∨ s.disp = .checked v ∨ s.disp = .parked v ∨ s.disp = .sendIn v) →
    s.srcItems[s.dispI]? = some v
  begunOn : ∀ k a, (k, a) ∈ s.fBegun → s.srcItems[k]? = some a

theorem valueInv_init (cfg : Cfg) : ValueInv cfg (Iter.init cfg) := by
  refine ⟨?_, ?_, ?_, ?_, ?_, ?_⟩ <;> simp [Iter.init]

theorem valueInv_step {cfg : Cfg} (hs : cfg.code.Sound) {s s' : St} {l : Label} (ha : CtlInv cfg s) (hi : ValueInv cfg s)
    (h : Step cfg s l s') : ValueInv cfg s' := by
  obtain ⟨iOfWorker, iOfHeap, iOfResult, iNumbered, iHeld, iBegunOn⟩ := hi
  -- what a worker offers after it moved: its new program counter's, or what was offered before
  have kset : ∀ w pc, (∀ k v, pc = WPc.sendCh k v → (k, v) ∈ s.fEnded) →
      ∀ k v, WPc.sendCh k v ∈ s.ws.set w pc → (k, v) ∈ s.fEnded := by
    intro w pc hpc k v hm
    rcases (List.mem_or_eq_of_mem_set hm).symm with h | hm
    · exact hpc k v h.symm
    · exact iOfWorker k v hm
  have noHold : ∀ d : DPc, dHolding d = false → ∀ v, d = .acquire v ∨ d = .checked v ∨ d = .parked v ∨ d = .sendIn v →
      s'.srcItems[s'.dispI]? = some v := by
    intro d h v hv; rcases hv with rfl | rfl | rfl | rfl <;> cases h
  cases h with
  | srcItem v hd =>
    have hS := ha.taken
    simp only [hd, dHolding, b2n_false, Nat.add_zero] at hS
    refine ⟨iOfWorker, iOfHeap, iOfResult, iNumbered, ?_,
      fun k a hm => ListStore.getElem?_append_of_some _ (iBegunOn k a hm)⟩
    intro v' hm
    simp only [DPc.acquire.injEq, reduceCtorEq, or_false] at hm
    simp [hS, hm]
  | cYield k v hc hy hf =>
    obtain ⟨rfl, hm⟩ := popped_of_ready hs.nextReady hy hf
    have hY := ha.yielded
    refine ⟨iOfWorker, fun k v hm => iOfHeap k v (List.mem_of_mem_eraseP hm), ?_, ?_, ?_, iBegunOn⟩
    · intro k' v' hm'
      rcases List.mem_append.1 hm' with hm' | hm'
      · exact iOfResult k' v' hm'
      · obtain ⟨rfl, rfl⟩ := NextRes.val.inj (List.mem_singleton.1 hm'); exact iOfHeap _ _ hm
    · rw [List.filterMap_append, iNumbered, cnt_snoc, isVal, b2n_true, List.range_succ, hY]; rfl
    · -- waking the dispatcher keeps the item it holds
      exact fun v' hm' => iHeld v' (woken_holds hm')
  | dPull hd | srcEnd hd => exact ⟨iOfWorker, iOfHeap, iOfResult, iNumbered, noHold _ rfl, iBegunOn⟩
  | dParks v hd hf | dAcquire v hd hf =>
    -- the dispatcher goes on holding `v`
    refine ⟨iOfWorker, iOfHeap, iOfResult, iNumbered, fun v' hv => iHeld v' (Or.inl ?_), iBegunOn⟩
    rcases hv with h | h | h | h <;> cases h; exact hd
  | dSend w v hd hw =>
    -- the item held becomes the item `f` is begun with
    refine ⟨kset w _ (fun k v h => by cases h), iOfHeap, iOfResult, iNumbered, noHold _ rfl, fun k a hm => ?_⟩
    rcases List.mem_append.1 hm with hm | hm
    · exact iBegunOn k a hm
    · cases List.mem_singleton.1 hm; exact iHeld v (.inr (.inr (.inr hd)))
  | fRet w k v hw =>
    refine ⟨fun k' v' hm => ?_, fun k' v' hm => List.mem_append_left _ (iOfHeap k' v' hm),
      fun k' v' hm => List.mem_append_left _ (iOfResult k' v' hm), iNumbered, iHeld, iBegunOn⟩
    rcases (List.mem_or_eq_of_mem_set hm).symm with h | hm
    · cases h; exact List.mem_append_right _ (List.mem_singleton.2 rfl)
    · exact List.mem_append_left _ (iOfWorker k' v' hm)
  | wHandOff w k v hc hw hy hcl =>
    refine ⟨kset w _ (fun k v h => by cases h), fun k' v' hm => ?_, iOfResult, iNumbered, iHeld, iBegunOn⟩
    rcases List.mem_append.1 hm with hm | hm
    · exact iOfHeap k' v' hm
    · cases List.mem_singleton.1 hm; exact iOfWorker k v (List.mem_of_getElem? hw)
  | wExitIdle w hw hin => exact ⟨kset w _ (fun k v h => by cases h), iOfHeap, iOfResult, iNumbered, iHeld, iBegunOn⟩
  | cRecvClosed hc hy hcl =>
    refine ⟨iOfWorker, iOfHeap, fun k v hm => ?_, ?_, iHeld, iBegunOn⟩
    · rcases List.mem_append.1 hm with hm | hm
      · exact iOfResult k v hm
      · cases List.mem_singleton.1 hm
    · simp [List.filterMap_append, valIdx, isVal, iNumbered]
  | nextCall hc => exact ⟨iOfWorker, iOfHeap, iOfResult, iNumbered, iHeld, iBegunOn⟩

theorem wHolds_le_wActive (k : Nat) (ws : List WPc) : cnt (wHolds k) ws ≤ cnt wActive ws := by
  apply cnt_mono; intro x hx; cases x <;> simp_all [wHolds, wActive]

theorem canYield_of_gap {cfg : Cfg} (hs : cfg.code.Sound) {s : St} (hPlaced : PlaceInv cfg s)
    (hact : cnt wActive s.ws = 0) (hlt : s.i < s.dispI) : canYield cfg s = true :=
  hPlaced.ready hs.nextReady (fun k => by have := wHolds_le_wActive k s.ws; omega) (fun _ => rfl) hlt

/-- the state after `Next` has reported the end: everything taken from the source has been yielded and the dispatcher is
done -/
structure AfterEnd (s : St) : Prop where
  yieldedAll : s.i = s.dispI
  takenAll : s.srcItems.length = s.dispI
  dispDone : dDone s.disp = true

structure EndInv (cfg : Cfg) (s : St) : Prop where
  afterEnd : 0 < cnt isEnd s.results → AfterEnd s

theorem endInv_init (cfg : Cfg) : EndInv cfg (Iter.init cfg) := ⟨by simp [Iter.init]⟩

theorem endInv_step {cfg : Cfg} (hs : cfg.code.Sound) (hg : 1 ≤ cfg.gmp) {s s' : St} {l : Label} (hCtl : CtlInv cfg s)
    (hPlaced : PlaceInv cfg s) (hi : EndInv cfg s) (h : Step cfg s l s') : EndInv cfg s' := by
  have iE := hi.afterEnd
  have ⟨hnwc, hnw⟩ := numWorkers_cast hs hg
  cases h with
  | cRecvClosed hc hy hcl =>
    refine ⟨fun _ => ?_⟩
    -- `ch` is closed: every worker is done, hence `in` is closed and the dispatcher done
    have hnd := hCtl.lastCloses.closed_iff.1 hcl
    have hlen := hCtl.len
    have hall : cnt wDone s.ws = s.ws.length := by rw [← hCtl.lastCloses.counted]; omega
    have hin := hCtl.done_closed (by omega)
    have hdd : dDone s.disp = true := by rw [← hCtl.inClosed_eq]; exact hin
    have hact : cnt wActive s.ws = 0 := by
      have h1 := cnt_add_cnt_not wDone s.ws
      have h2 : cnt wActive s.ws ≤ cnt (fun x => !wDone x) s.ws := by
        apply cnt_mono; intro x hx; cases x <;> simp_all [wActive, wDone]
      omega
    have hS := hCtl.taken
    have hhold : dHolding s.disp = false := by cases hd : s.disp <;> simp_all [dDone, dHolding]
    have hle := hPlaced.i_le
    have hi' : s.i = s.dispI := by
      by_cases hlt : s.i < s.dispI
      · have := canYield_of_gap hs hPlaced hact hlt; simp [hy] at this
      · omega
    exact ⟨hi', by simp [hhold] at hS; exact hS, hdd⟩
  | cYield k v hc hy hf =>
    refine ⟨fun hpos => False.elim ?_⟩
    have hpos' : 0 < cnt isEnd s.results := by simpa [isEnd] using hpos
    have h1 := (iE hpos').yieldedAll
    -- nothing is left to yield after the end
    obtain ⟨rfl, hm⟩ := popped_of_ready hs.nextReady hy hf
    have := (hPlaced.of_pending (Nat.lt_add_left _ (icnt_pos_of_mem hm))).2
    omega
  | dPull hd | srcItem v hd | srcEnd hd | dParks v hd hf | dAcquire v hd hf | dSend w v hd hw =>
    refine ⟨fun hpos => ?_⟩
    have h4 := (iE hpos).dispDone
    rw [hd] at h4; cases h4
  | fRet w k v hw | wHandOff w k v hc hw hy hcl | wExitIdle w hw hin | nextCall hc => exact ⟨fun hp => { iE hp with }⟩

structure Inv (cfg : Cfg) (s : St) : Prop where
  placed : PlaceInv cfg s
  ctl : CtlInv cfg s
  values : ValueInv cfg s
  ends : EndInv cfg s

theorem inv {cfg : Cfg} (hs : cfg.code.Sound) (hg : 1 ≤ cfg.gmp) {s : St} (h : Reach cfg s) : Inv cfg s := by
  induction h with
  | init => exact ⟨placeInv_init cfg, ctlInv_init cfg hs hg, valueInv_init cfg, endInv_init cfg⟩
  | step _ hstep ih =>
    have h := Step.of_step hs hstep
    exact ⟨placeInv_step hs ih.placed h, ctlInv_step hs hg ih.placed ih.ctl h, valueInv_step hs ih.ctl ih.values h,
      endInv_step hs hg ih.ctl ih.placed ih.ends h⟩

theorem Inv.ended_once {cfg : Cfg} {s : St} (h : Inv cfg s) {k v : Nat} (hm : (k, v) ∈ s.fEnded) :
    ecnt k s.fEnded = 1 ∧ ∃ a, (k, a) ∈ s.fBegun ∧ s.srcItems[k]? = some a :=
  have ⟨h1, a, ha⟩ := h.placed.of_ended (k := k) (cnt_fst_pos hm)
  ⟨h1, a, ha, h.values.begunOn k a ha⟩

theorem Inv.of_end {cfg : Cfg} {s : St} (h : Inv cfg s) (hend : NextRes.end ∈ s.results) :
    s.srcEnded = true ∧ cnt isVal s.results = s.srcItems.length := by
  have he := h.ends.afterEnd (List.countP_pos_iff.2 ⟨_, hend, rfl⟩)
  have hY := h.ctl.yielded
  exact ⟨h.ctl.srcEnded_eq.trans he.dispDone, by have := he.yieldedAll; have := he.takenAll; omega⟩

end Juniper.Proofs.ParMap.I
