import Juniper.Proofs.TreeCursor
/-!
# Cursor navigation backwards (C01 ranges, C02 iterators)

`cursor.Prev` (`prevCore`) moves a parked cursor to the in-order predecessor. Built like `next_step` in `TreeCursor.lean`, with
what is *behind* the new position (`ctxBefore` / `befOf` and their frame lemmas) in place of what is ahead of it; what is
ahead then follows by `succ_iff`.
-/
namespace Juniper.Proofs.Tree
open Juniper.Model.BTree Juniper.Gen.Tree

variable {K V : Type} {cmp : K → K → Int}

theorem climbPrev_spec {root : Node K V} : ∀ (up : List (Node K V × Nat)) (y : Node K V), Zip root y up → PathOK up →
    (ctxBefore up = [] → climbPrev up = none) ∧
    (∀ B' e', ctxBefore up = B' ++ [e'] → ∃ p' y' up', climbPrev up = some p' ∧ At root p' y' up' e' ∧ p'.k = e'.1 ∧
      befOf up' y' p'.i = B') := by
  intro up
  induction up with
  | nil => intro y _ _; exact ⟨fun _ => rfl, fun B' e' h => by simp [ctxBefore] at h⟩
  | cons f up ih =>
    obtain ⟨p, j⟩ := f
    intro y hz hp
    obtain ⟨hc, hz'⟩ := hz
    obtain ⟨hl, hp'⟩ := hp
    cases j with
    | succ i =>
      -- stop at this ancestor, on the entry left of the child we came from
      have hidx : (prevClimbIdx (((i + 1 : Nat)) : Int)).toNat = i := by simp only [prevClimbIdx]; omega
      have hstop : prevClimbStop (prevClimbIdx (((i + 1 : Nat)) : Int)) = true := by
        simp only [prevClimbStop, prevClimbIdx]; exact decide_eq_true (by omega)
      obtain ⟨e, hkv⟩ : ∃ e, p.kvs[i]? = some e :=
        ⟨_, List.getElem?_eq_getElem (by have := (List.getElem?_eq_some_iff.mp hc).1; omega)⟩
      rw [ctxBefore_cons_succ hl hkv]
      refine ⟨fun h => absurd h (List.concat_ne_nil _ _), fun B' e' h => ?_⟩
      obtain ⟨rfl, rfl⟩ := List.append_singleton_inj.mp h
      exact ⟨⟨p.id, i, e.1⟩, p, up, by simp only [climbPrev, hstop, if_true, hidx]; exact posAt_eq hkv, ⟨hz', rfl, hkv⟩, rfl, rfl⟩
    | zero =>
      -- we came from child 0: nothing before it in this ancestor, continue upwards
      have hstop : prevClimbStop (prevClimbIdx (((0 : Nat)) : Int)) = false := by
        simp only [prevClimbStop, prevClimbIdx]; exact decide_eq_false (by omega)
      have hclimb : climbPrev ((p, 0) :: up) = climbPrev up := by
        simp only [climbPrev, hstop, Bool.false_eq_true, if_false]
      rw [ctxBefore_cons_zero, hclimb]
      exact ih p hz' hp'

theorem rightmost_spec {root : Node K V} (c : Node K V) :
    ∀ h, Bal h c → 1 ≤ c.n → ∀ up, Zip root c up → PathOK up →
      ∃ up' e n, Zip root (rightmostLeaf c) up' ∧
        (rightmostLeaf c).kvs.length = n + 1 ∧ (rightmostLeaf c).kvs[n]? = some e ∧
        befOf up' (rightmostLeaf c) n ++ [e] = ctxBefore up ++ toList c := by
  have hmin := consts.1
  fun_induction rightmostLeaf c with
  | case1 id kvs kids hnone =>
    intro h hb hn up hz hp
    rcases bal_cases.mp hb with ⟨rfl, rfl⟩ | ⟨h', rfl, hlen, hall⟩
    · simp only [node_n] at hn
      rcases eq_nil_or_snoc kvs with rfl | ⟨L, e, rfl⟩
      · simp at hn
      · exact ⟨up, e, L.length, hz, by simp [Node.kvs], by simp [Node.kvs],
          by simp [befOf, locBefore_leaf, toList_mk, inorder]⟩
    · simp at hnone; omega
  | case2 id kvs kids d hd ih =>
    intro h hb hn up hz hp
    obtain ⟨h', rfl, hlen, -, hbd, hod⟩ := bal_child hb hd
    obtain ⟨up', e, n, h1, h3, h3', h5⟩ := ih h' hbd (by have := hod.1; omega)
      ((Node.mk id kvs kids, kvs.length) :: up) ⟨hd, hz⟩ ⟨hlen, hp⟩
    have hlast : (Node.mk id kvs kids).kvs[kvs.length]? = none := by simp [Node.kvs]
    have := frame_toList (up := up) (x := Node.mk id kvs kids) hlen hd
    rw [ctxAfter_cons_last hlast, List.append_cancel_right_eq] at this
    exact ⟨up', e, n, h1, h3, h3', by rw [h5, this]⟩

theorem prev_step {root : Node K V} {h : Nat} (t : Tree K V) (ht : t.root = root) (hb : Bal h root)
    (hone : ∀ i, cnt i root ≤ 1) {p : Pos K} {y : Node K V} {up : List (Node K V × Nat)} {e : K × V}
    (ha : At root p y up e) :
    (befOf up y p.i = [] → prevCore t p = none) ∧
    (∀ B' e', befOf up y p.i = B' ++ [e'] → ∃ p' y' up', prevCore t p = some p' ∧ At root p' y' up' e' ∧ p'.k = e'.1 ∧
      befOf up' y' p'.i = B' ∧ aftOf up' y' p'.i = e :: aftOf up y p.i) := by
  -- what is behind the new position; what is ahead of it then follows (`succ_iff`)
  suffices h : (befOf up y p.i = [] → prevCore t p = none) ∧
      ∀ B' e', befOf up y p.i = B' ++ [e'] → ∃ p' y' up', prevCore t p = some p' ∧ At root p' y' up' e' ∧ p'.k = e'.1 ∧
        befOf up' y' p'.i = B' from
    ⟨h.1, fun B' e' hB => by
      obtain ⟨p', y', up', g1, g2, g3, g4⟩ := h.2 B' e' hB
      exact ⟨p', y', up', g1, g2, g3, g4, (succ_iff hb g2 ha).mpr (by rw [hB, g4])⟩⟩
  obtain ⟨hp, h', hby, hocc⟩ := zip_bal up y h hb ha.zip
  have hpath : pathTo p.id t.root = some (up.reverse, y) := by
    rw [ht]; exact pathTo_unique p.id root up y ha.zip hone ha.idEq
  obtain ⟨yid, kvs, kids⟩ := y
  have hent : kvs[p.i]? = some e := ha.entry
  have hi : p.i < kvs.length := (List.getElem?_eq_some_iff.mp hent).1
  rcases bal_cases.mp hby with ⟨rfl, rfl⟩ | ⟨h'', rfl, hlen, hall⟩
  · -- the cursor is in a leaf
    cases hpi : p.i with
    | succ m =>
      obtain ⟨e2, hkv⟩ : ∃ e2, kvs[m]? = some e2 := ⟨_, List.getElem?_eq_getElem (by omega)⟩
      have hstay : prevLeafStay (((p.i : Nat) : Int) - 1) = true := by
        simp only [prevLeafStay]; exact decide_eq_true (by omega)
      have hnc : prevCore t p = some ⟨yid, m, e2.1⟩ := by
        have e1 : (((p.i : Nat) : Int) - 1).toNat = m := by omega
        simp only [prevCore, hpath, List.reverse_reverse, Node.isLeaf, Node.kids, List.isEmpty_nil, if_true, hstay, e1]
        exact posAt_eq (x := Node.mk yid kvs []) hkv
      have hbef : befOf up (Node.mk yid kvs []) (m + 1) = befOf up (Node.mk yid kvs []) m ++ [e2] := by
        simp only [befOf, locBefore_leaf, List.append_assoc, List.take_add_one, hkv]; rfl
      rw [hbef]
      refine ⟨fun h0 => absurd h0 (List.concat_ne_nil _ _), fun B' e' h0 => ?_⟩
      obtain ⟨rfl, rfl⟩ := List.append_singleton_inj.mp h0
      exact ⟨⟨yid, m, e2.1⟩, Node.mk yid kvs [], up, hnc, ⟨ha.zip, rfl, hkv⟩, rfl, rfl⟩
    | zero =>
      -- first entry of the leaf: climb
      have hstay : prevLeafStay (((p.i : Nat) : Int) - 1) = false := by
        simp only [prevLeafStay]; exact decide_eq_false (by omega)
      have hnc : prevCore t p = climbPrev up := by
        simp only [prevCore, hpath, List.reverse_reverse, Node.isLeaf, Node.kids, List.isEmpty_nil, if_true, hstay,
          Bool.false_eq_true, if_false]
      have hbef : befOf up (Node.mk yid kvs []) 0 = ctxBefore up := by simp [befOf, locBefore_leaf]
      rw [hbef, hnc]
      exact climbPrev_spec up (Node.mk yid kvs []) ha.zip hp
  · -- the cursor is in an inner node: descend to the rightmost leaf of the child left of the entry
    have hdesc : prevInnerDescend (p.i : Int) = true := by
      simp only [prevInnerDescend]; exact decide_eq_true (by omega)
    have hci : (prevChildIdx (p.i : Int)).toNat = p.i := by simp only [prevChildIdx]; omega
    obtain ⟨c, hc⟩ : ∃ c, kids[p.i]? = some c := ⟨_, List.getElem?_eq_getElem (by omega)⟩
    have hcm := List.mem_of_getElem? hc
    have hleaf : (Node.mk yid kvs kids).isLeaf = false := by
      cases kids with
      | nil => simp at hc
      | cons _ _ => rfl
    have hmin := consts.1
    obtain ⟨up', e1, n, g1, g3, g3', g5⟩ := rightmost_spec c h'' (hall _ hcm).1
      (by have := (hall _ hcm).2.1; omega) ((Node.mk yid kvs kids, p.i) :: up) ⟨hc, ha.zip⟩ ⟨hlen, hp⟩
    have hlast : (prevLeafLast (rightmostLeaf c).n).toNat = n := by
      simp only [prevLeafLast, Node.n, g3]; omega
    have hnc : prevCore t p = posAt (rightmostLeaf c) n := by
      simp only [prevCore, hpath, hleaf, Bool.false_eq_true, if_false, hdesc, if_true, hci, Node.kids, hc, hlast]
    rw [befOf_eq_child (x := Node.mk yid kvs kids) hlen hc, ← g5]
    refine ⟨fun h0 => absurd h0 (List.concat_ne_nil _ _), fun B' e' h0 => ?_⟩
    obtain ⟨rfl, rfl⟩ := List.append_singleton_inj.mp h0
    exact ⟨⟨(rightmostLeaf c).id, n, e1.1⟩, rightmostLeaf c, _, by rw [hnc]; exact posAt_eq g3', ⟨g1, rfl, g3'⟩, rfl, rfl⟩

end Juniper.Proofs.Tree
