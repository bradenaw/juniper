import Juniper.Generated.Comb
import Juniper.Model.CombSkel
import Juniper.Proofs.Tie
/-!
# Tie lemmas: the regenerated control skeleton of every combinator method is the one its hand-written
machine was written for (C07–C09, tie 1)

`Tie.<combinator>`: conjunction of `Gen.Comb.sk… = Model.CombSkel.…` over the methods of that combinator
(`Next`, `Close`, `Peek`, and for `Runs` also the inner stream and the shared peekable). Proved by
`rfl`; a change of the Go method's control structure makes the lemma — and every theorem of
`Props/C07–C09` that rests on it (`have _tie := Tie.<combinator>` inside the `Proofs/` lemmas of that
combinator, `under` it in `Props/C09`) — fail.
-/
namespace Juniper.Proofs.Skeleton
open Juniper.Gen.Comb Juniper.Model

theorem Tie.itCounter :
    skItCounterNext = CombSkel.itCounterNext := rfl

theorem Tie.itRepeat :
    skItRepeatNext = CombSkel.itRepeatNext := rfl

theorem Tie.itSlice :
    skItSliceNext = CombSkel.itSliceNext := rfl

theorem Tie.itPeek :
    skItPeekNext = CombSkel.itPeekNext ∧
    skItPeekPeek = CombSkel.itPeekPeek := ⟨rfl, rfl⟩

theorem Tie.itChunk :
    skItChunkNext = CombSkel.itChunkNext := rfl

theorem Tie.itCompact :
    skItCompactNext = CombSkel.itCompactNext := rfl

theorem Tie.itFilter :
    skItFilterNext = CombSkel.itFilterNext := rfl

theorem Tie.itFirst :
    skItFirstNext = CombSkel.itFirstNext := rfl

theorem Tie.itFlatten :
    skItFlattenNext = CombSkel.itFlattenNext := rfl

theorem Tie.itJoin :
    skItJoinNext = CombSkel.itJoinNext := rfl

theorem Tie.itMap :
    skItMapNext = CombSkel.itMapNext := rfl

theorem Tie.itRuns :
    skItRunsNext = CombSkel.itRunsNext ∧
    skItRunsInnerNext = CombSkel.itRunsInnerNext ∧
    skItPeekNext = CombSkel.itPeekNext ∧
    skItPeekPeek = CombSkel.itPeekPeek := ⟨rfl, rfl, rfl, rfl⟩

theorem Tie.itWhile :
    skItWhileNext = CombSkel.itWhileNext := rfl

theorem Tie.itCollect :
    skItCollect = CombSkel.itCollect ∧
    skItReduce = CombSkel.itReduce := ⟨rfl, rfl⟩

theorem Tie.itEqual :
    skItEqual = CombSkel.itEqual := rfl

theorem Tie.itLast :
    skItLast = CombSkel.itLast := rfl

theorem Tie.itOne :
    skItOne = CombSkel.itOne := rfl

theorem Tie.itReduce :
    skItReduce = CombSkel.itReduce := rfl

theorem Tie.stFromIter :
    skStFromIterNext = CombSkel.stFromIterNext ∧
    skStFromIterClose = CombSkel.stFromIterClose := ⟨rfl, rfl⟩

theorem Tie.stPeek :
    skStPeekNext = CombSkel.stPeekNext ∧
    skStPeekPeek = CombSkel.stPeekPeek ∧
    skStPeekClose = CombSkel.stPeekClose := ⟨rfl, rfl, rfl⟩

theorem Tie.stChunk :
    skStChunkNext = CombSkel.stChunkNext ∧
    skStChunkClose = CombSkel.stChunkClose := ⟨rfl, rfl⟩

theorem Tie.stCompact :
    skStCompactNext = CombSkel.stCompactNext ∧
    skStCompactClose = CombSkel.stCompactClose := ⟨rfl, rfl⟩

theorem Tie.stFilter :
    skStFilterNext = CombSkel.stFilterNext ∧
    skStFilterClose = CombSkel.stFilterClose := ⟨rfl, rfl⟩

theorem Tie.stFirst :
    skStFirstNext = CombSkel.stFirstNext ∧
    skStFirstClose = CombSkel.stFirstClose := ⟨rfl, rfl⟩

theorem Tie.stFlatten :
    skStFlattenNext = CombSkel.stFlattenNext ∧
    skStFlattenClose = CombSkel.stFlattenClose := ⟨rfl, rfl⟩

theorem Tie.stFlattenSlices :
    skStFlattenSlicesNext = CombSkel.stFlattenSlicesNext ∧
    skStFlattenSlicesClose = CombSkel.stFlattenSlicesClose := ⟨rfl, rfl⟩

theorem Tie.stJoin :
    skStJoinNext = CombSkel.stJoinNext ∧
    skStJoinClose = CombSkel.stJoinClose := ⟨rfl, rfl⟩

theorem Tie.stMap :
    skStMapNext = CombSkel.stMapNext ∧
    skStMapClose = CombSkel.stMapClose := ⟨rfl, rfl⟩

theorem Tie.stRuns :
    skStRunsNext = CombSkel.stRunsNext ∧
    skStRunsClose = CombSkel.stRunsClose ∧
    skStRunsInnerNext = CombSkel.stRunsInnerNext ∧
    skStRunsInnerClose = CombSkel.stRunsInnerClose ∧
    skStPeekNext = CombSkel.stPeekNext ∧
    skStPeekPeek = CombSkel.stPeekPeek ∧
    skStPeekClose = CombSkel.stPeekClose := ⟨rfl, rfl, rfl, rfl, rfl, rfl, rfl⟩

theorem Tie.stWhile :
    skStWhileNext = CombSkel.stWhileNext ∧
    skStWhileClose = CombSkel.stWhileClose := ⟨rfl, rfl⟩

theorem Tie.stCollect :
    skStCollect = CombSkel.stCollect := rfl

theorem Tie.stLast :
    skStLast = CombSkel.stLast := rfl

theorem Tie.stOne :
    skStOne = CombSkel.stOne := rfl

theorem Tie.stReduce :
    skStReduce = CombSkel.stReduce := rfl

theorem Tie.itChan :
    skItChanNext = CombSkel.itChanNext := rfl

theorem Tie.itEmpty :
    skItEmptyNext = CombSkel.itEmptyNext := rfl

theorem Tie.stChan :
    skStChanNext = CombSkel.stChanNext ∧
    skStChanClose = CombSkel.stChanClose := ⟨rfl, rfl⟩

theorem Tie.stEmpty :
    skStEmptyNext = CombSkel.stEmptyNext ∧
    skStEmptyClose = CombSkel.stEmptyClose := ⟨rfl, rfl⟩

theorem Tie.stError :
    skStErrorNext = CombSkel.stErrorNext ∧
    skStErrorClose = CombSkel.stErrorClose := ⟨rfl, rfl⟩

/-- `xrand.rSampleStream` (C09: the deferred `Close`; C08: returns the error itself) -/
theorem Tie.sample :
    skSampleStream = CombSkel.sampleStream := rfl

/-- the exported API of the three packages is the one the models and the harness generator cover; a
function added to `iterator` / `stream`, or an `xslices` function that gets (or has) a namesake there,
breaks this lemma until model, driver, harness and theorems cover it -/
theorem Tie.api :
    itApi = CombSkel.itApi ∧ stApi = CombSkel.stApi ∧
    xsApi.filter (fun n => CombSkel.itApi.contains n || CombSkel.stApi.contains n) = CombSkel.xsCounterparts := ⟨rfl, rfl, by decide +kernel⟩

/-- the caller's-goroutine combinators and reducers start no goroutine and touch no channel -/
theorem Tie.sequential : combConcurrencyOps = 0 := rfl

end Juniper.Proofs.Skeleton
