import Juniper.Proofs.StreamMergeMeasure
import Juniper.Proofs.StreamMergeResults
/-! Progress of `stream.Merge`. Enabledness: a goroutine that has not finished can move unless it waits for its input
or for the consumer (`goroutine_enabled`); a consumer inside `Next` is served (`next_served`); after an error it is never
stuck. Runs of steps needing no further input: after `Close` everything finishes, once every input has ended the
normal end is delivered. -/
namespace Juniper.Proofs.StreamMerge
open Juniper.Model.StreamMerge
variable {V : Type}

theorem goroutine_enabled {k : Nat} {s : St V} {g : G V} (hI : Inv k s) (hgm : g ∈ s.gs)
    (hnf : g.pc ≠ .finished) (hnext : g.pc = .next → s.cancelled = true)
    (hsend : ∀ v, g.pc = .send v → s.cancelled = true ∨ ∃ live, s.cpc = .inNext live) :
    ∃ l, l ∈ internalLabels s ∧ ∃ s', step s l = some s' := by
  obtain ⟨i, hi, hgi⟩ := List.getElem_of_mem hgm
  have hg : s.gs[i]? = some g := by rw [List.getElem?_eq_getElem hi, hgi]
  have hik : i < s.k := by rw [hI.k_eq, ← hI.length_eq]; exact hi
  have hs := (hI.localOK g hgm).shape
  have en : ∀ {l : Label V} {g' : G V} {sh : St V},
      l ∈ [Label.inCtx i, .cas i, .win i, .sendOk i, .sendFail i, .exitStep i] → GStep s i g l g' sh →
      ∃ l, l ∈ internalLabels s ∧ ∃ s', step s l = some s' :=
    fun hl t => ⟨_, List.mem_append_right _ (List.mem_flatMap.mpr ⟨i, List.mem_range.mpr hik, hl⟩), _, t.step_eq hg⟩
  cases hp : g.pc with
  | next => exact en (by simp) (.ctxErr hp (hnext hp))
  | gotErr e =>
    cases hco : s.closeOnce
    · exact en (by simp) (.casWin e hp hco)
    · exact en (by simp) (.casLose e hp hco)
  | won e r =>
    rw [hp] at hs
    rcases hs with rfl | rfl | rfl
    · exact en (by simp) (.winCancel e _ hp)
    · exact en (by simp) (.winClose e _ hp)
    · exact en (by simp) (.winDone e hp)
  | send v =>
    rcases hsend v hp with hcan | ⟨live, hc⟩
    · exact en (by simp) (.sendFail v hp (.inl hcan))
    · exact en (by simp) (.sendOk v live hp hc)
  | exiting r =>
    rw [hp] at hs
    rcases hs with rfl | ⟨d, rfl⟩ | rfl | rfl | rfl
    · exact en (by simp) (.mark _ hp)
    · by_cases hf : d = s.k ∧ s.closeOnce = false
      · obtain ⟨rfl, hco⟩ := hf
        exact en (by simp) (.checkFire _ hp hco)
      · exact en (by simp) (.checkSkip d _ hp hf)
    · exact en (by simp) (.closeIn _ hp)
    · exact en (by simp) (.wgDone _ hp)
    · exact en (by simp) (.fin hp)
  | finished => exact absurd hp hnf

theorem cEnd_enabled {s : St V} {live : Bool} (hc : s.cpc = .inNext live) (hpos : 0 < s.senderCloses) :
    ∃ s', step s .cEnd = some s' ∧
      s'.results = s.results ++ [(match s.senderErr with | none => Res.endd | some e => Res.err e)] := by
  exact ⟨_, (CStep.endd live hc hpos).step_eq, rfl⟩

theorem exists_not_finished {gs : List (G V)} (h : ¬ ∀ g, g ∈ gs → g.pc = .finished) :
    ∃ g, g ∈ gs ∧ g.pc ≠ .finished :=
  Classical.byContradiction fun hn => h fun g hg => Classical.byContradiction fun hne => hn ⟨g, hg, hne⟩

theorem after_close_enabled {k : Nat} {s : St V} {rest : List CloseStep} (hI : Inv k s)
    (hc : s.cpc = .closing rest) (hnf : rest ≠ [] ∨ ∃ g, g ∈ s.gs ∧ g.pc ≠ .finished) :
    ∃ l, l ∈ internalLabels s ∧ ∃ s', step s l = some s' := by
  have hclose : Label.cCloseStep ∈ internalLabels s := by simp [internalLabels]
  have gor : s.cancelled = true → ∀ g, g ∈ s.gs → g.pc ≠ .finished →
      ∃ l, l ∈ internalLabels s ∧ ∃ s', step s l = some s' :=
    fun hcan g hg hgf => goroutine_enabled hI hg hgf (fun _ => hcan) (fun _ _ => .inl hcan)
  rcases hI.stage rest hc with rfl | rfl | ⟨rfl, hcan⟩ | ⟨rfl, hcan, hw⟩
  · exact ⟨.cCloseStep, hclose, _, (CStep.closeInner _ hc).step_eq⟩
  · exact ⟨.cCloseStep, hclose, _, (CStep.closeCancel _ hc).step_eq⟩
  · by_cases hw : s.wg = 0
    · exact ⟨.cCloseStep, hclose, _, (CStep.closeWait _ hc hw).step_eq⟩
    · have hpos : 0 < sumBy wgInd s.gs := by rw [← hI.wg]; omega
      obtain ⟨g, hg, hgi⟩ := sumBy_pos wgInd s.gs hpos
      refine gor hcan g hg fun hf => ?_
      simp [wgInd, hf, pastWg] at hgi
  · rcases hnf with hnf | ⟨g, hg, hgf⟩
    · exact absurd rfl hnf
    · exact gor hcan g hg hgf

theorem after_close_finishes {k : Nat} (ho : ctxOrigin = .plainCancel) {s : St V} {rest : List CloseStep}
    (hI : Inv k s) (hc : s.cpc = .closing rest) :
    ∃ ls s', run s ls = some s' ∧ InternalRun s ls ∧ s'.cpc = .closing [] ∧ ∀ g, g ∈ s'.gs → g.pc = .finished := by
  refine exists_internal_run (P := fun s => Inv k s ∧ ∃ rest, s.cpc = .closing rest)
    (Q := fun s => s.cpc = .closing [] ∧ ∀ g, g ∈ s.gs → g.pc = .finished) nu ?_ ⟨hI, rest, hc⟩
  rintro s ⟨hI, rest, hc⟩ hfin
  have hnf : rest ≠ [] ∨ ∃ g, g ∈ s.gs ∧ g.pc ≠ .finished := by
    by_cases hr : rest = []
    · exact .inr (exists_not_finished fun hh => hfin ⟨by rw [hc, hr], hh⟩)
    · exact .inl hr
  obtain ⟨l, hl, s1, hs1⟩ := after_close_enabled hI hc hnf
  obtain ⟨hlt, rest1, hc1⟩ := after_close_decreases (hI.origin_eq.trans ho) hc hs1
  exact ⟨l, s1, hl, hs1, .inr ⟨hlt, inv_step hI hs1, rest1, hc1⟩⟩

theorem sender_closed_of_all_finished {k : Nat} {s : St V} (hI : Inv k s)
    (hall : ∀ g, g ∈ s.gs → g.pc = .finished) : 0 < s.senderCloses := by
  rcases Nat.eq_zero_or_pos k with hk | hk
  · have := (hI.zero_inputs hk).1; omega
  · cases hco : s.closeOnce with
    | false =>
      exact hI.closed_of_no_candidate hco hk
        (sumBy_eq_zero _ _ fun g hg => by simp [mayNilInd, hall g hg, marked, pendingD])
    | true =>
      obtain ⟨g, hg, hw⟩ := hI.exists_winner hco
      rcases hw with ⟨e, r, hp⟩ | hw
      · rw [hall g hg] at hp; cases hp
      · exact hI.closed_of_wonCas hk hg (hI.localOK g hg) hw

theorem error_never_stuck {k : Nat} {s : St V} (hI : Inv k s) (hf : ResultsInv s)
    (herr : s.errLog ≠ []) {live : Bool} (hcp : s.cpc = .inNext live) :
    ∃ l, l ∈ internalLabels s ∧ ∃ s', step s l = some s' := by
  have winner : ∀ a, a ∈ s.gs → isWinner a → ∃ l, l ∈ internalLabels s ∧ ∃ s', step s l = some s' := by
    intro a haa hw
    rcases hw with ⟨e, r, hp⟩ | hw
    · exact goroutine_enabled hI haa (by simp [hp]) (by simp [hp]) (by simp [hp])
    · exact ⟨.cEnd, by simp [internalLabels], _,
        (CStep.endd live hcp (hI.closed_of_wonCas (hI.pos haa) haa (hI.localOK a haa) hw)).step_eq⟩
  cases hel : s.errLog with
  | nil => exact absurd hel herr
  | cons p rest =>
    obtain ⟨g, hg, hlog⟩ := hf.logged p (by rw [hel]; simp)
    have hgm := List.mem_of_getElem? hg
    rcases hlog with hlog | hlog | hlog
    · cases hp : g.pc with
      | gotErr e => exact goroutine_enabled hI hgm (by simp [hp]) (by simp [hp]) (by simp [hp])
      | won e r => exact winner g hgm (.inl ⟨e, r, hp⟩)
      | next => simp [hp, carries] at hlog
      | send v => simp [hp, carries] at hlog
      | exiting r => simp [hp, carries] at hlog
      | finished => simp [hp, carries] at hlog
    · have hco : s.closeOnce = true := by
        cases hcc : s.closeOnce
        · exact absurd hlog ((hI.before_cas hcc).1 g hgm)
        · rfl
      obtain ⟨a, haa, hw⟩ := hI.exists_winner hco
      exact winner a haa hw
    · exact winner g hgm (.inr hlog)

/-- every input's `Next` has returned `End` -/
def AllEnded (s : St V) : Prop := ∀ g, g ∈ s.gs → g.why = some .ended

theorem allEnded_facts {k : Nat} {s : St V} (hI : Inv k s) (hall : AllEnded s) :
    s.closeOnce = false ∧ s.senderErr = none ∧ ∀ g, g ∈ s.gs → inLoop g.pc = false := by
  have hnl : ∀ g, g ∈ s.gs → inLoop g.pc = false :=
    fun g hg => (hI.localOK g hg).not_inLoop (by rw [hall g hg]; simp)
  have hco : s.closeOnce = false := by
    cases hcc : s.closeOnce
    · rfl
    · obtain ⟨a, haa, hw⟩ := hI.exists_winner hcc
      rcases hw with ⟨e, r, hp⟩ | hw
      · have := hnl a haa; simp [hp, inLoop] at this
      · rw [hall a haa] at hw; cases hw
  exact ⟨hco, (hI.before_cas hco).2.2, hnl⟩

theorem end_progress {k : Nat} {s : St V} (ho : ctxOrigin = .plainCancel) (hI : Inv k s)
    (hall : AllEnded s) (hcp : s.cpc = .inNext true) :
    (∃ l, l ∈ internalLabels s ∧ ∃ s', step s l = some s') ∧
    (∀ l s', l ≠ .cExpire → step s l = some s' → AllEnded s' ∧
      ((s'.cpc = .inNext true ∧ s'.results = s.results ∧ nu2 s' < nu2 s) ∨ s'.results = s.results ++ [.endd])) := by
  obtain ⟨hco, hse, hnl⟩ := allEnded_facts hI hall
  constructor
  · by_cases hfin : ∀ g, g ∈ s.gs → g.pc = .finished
    · obtain ⟨s', hs', _⟩ := cEnd_enabled hcp (sender_closed_of_all_finished hI hfin)
      exact ⟨.cEnd, by simp [internalLabels], s', hs'⟩
    · obtain ⟨g, hg, hne⟩ := exists_not_finished hfin
      have hn := hnl g hg
      exact goroutine_enabled hI hg hne (fun hp => by simp [hp, inLoop] at hn)
        (fun v hp => by simp [hp, inLoop] at hn)
  · intro l s' hne hs
    rcases step_cases hs with ⟨i, g, g', sh, hg, t, rfl⟩ | c
    · have hgm := List.mem_of_getElem? hg
      have hst := gstep_after_loop t (hI.localOK g hgm) (by rw [hall g hgm]; simp)
      rcases t.handoff with ⟨hcpc, _, hres, hr⟩ | ⟨v, _, hp, _⟩
      · refine ⟨fun a (haa : a ∈ s.gs.set i g') => ?_, .inl ⟨hcpc.trans hcp, hres, ?_⟩⟩
        · rcases List.mem_or_eq_of_mem_set haa with haa | rfl
          · exact hall a haa
          · rw [hst]; exact hall g hgm
        · have hsum := sumBy_set (fun g => rank g.pc) s.gs i g' g hg
          show sumBy (fun g => rank g.pc) (s.gs.set i g') < nu2 s
          unfold nu2; omega
      · have := hnl g hgm
        rw [hp] at this; cases this
    · cases c with
      | call live hp | close hp | closeInner rest hp | closeCancel rest hp | closeWait rest hp _ | ctx hp =>
        rw [hcp] at hp; cases hp
      | endd live hp _ => exact ⟨hall, .inr (by simp [hse])⟩
      | expire hp => exact absurd rfl hne
      | ctxEnds ho' _ => exact absurd (hI.origin_eq.trans ho) ho'

theorem end_delivered {k : Nat} (ho : ctxOrigin = .plainCancel) {s : St V} (hI : Inv k s)
    (hall : AllEnded s) (hcp : s.cpc = .inNext true) :
    ∃ ls s', run s ls = some s' ∧ InternalRun s ls ∧ s'.results = s.results ++ [.endd] := by
  refine exists_internal_run
    (P := fun t => Inv k t ∧ AllEnded t ∧ t.cpc = .inNext true ∧ t.results = s.results)
    (Q := fun t => t.results = s.results ++ [.endd]) nu2 ?_ ⟨hI, hall, hcp, rfl⟩
  rintro t ⟨hI, hall, hcp, hr⟩ -
  obtain ⟨⟨l, hli, s1, hs1⟩, hdec⟩ := end_progress ho hI hall hcp
  obtain ⟨hall1, hd⟩ := hdec l s1 (internal_ne_cExpire hli) hs1
  refine ⟨l, s1, hli, hs1, ?_⟩
  rcases hd with ⟨hcp1, hres1, hlt⟩ | hd
  · exact .inr ⟨hlt, inv_step hI hs1, hall1, hcp1, hres1.trans hr⟩
  · exact .inl (hr ▸ hd)

def QuiescentM (s : St V) : Prop := ∀ l, l ∈ internalLabels s → step s l = none

theorem next_served {k : Nat} {s : St V} {live : Bool} (hI : Inv k s) (hcp : s.cpc = .inNext live) :
    (∃ l, l ∈ internalLabels s ∧ ∃ s', step s l = some s') ∨
    ∃ (i : Nat) (g : G V), s.gs[i]? = some g ∧ g.pc = GPc.next ∧ s.cancelled = false := by
  by_cases hall : ∀ g, g ∈ s.gs → g.pc = .finished
  · obtain ⟨s', hs', _⟩ := cEnd_enabled hcp (sender_closed_of_all_finished hI hall)
    exact .inl ⟨.cEnd, by simp [internalLabels], s', hs'⟩
  · obtain ⟨g, hg, hnf⟩ := exists_not_finished hall
    by_cases hnn : g.pc = .next → s.cancelled = true
    · exact .inl (goroutine_enabled hI hg hnf hnn (fun _ _ => .inr ⟨live, hcp⟩))
    · obtain ⟨hp, hcan⟩ := Classical.not_imp.1 hnn
      obtain ⟨i, hi, hgi⟩ := List.getElem_of_mem hg
      exact .inr ⟨i, g, by rw [List.getElem?_eq_getElem hi, hgi], hp, by simpa using hcan⟩

theorem quiescent_next_waits_for_input {k : Nat} {s : St V} {live : Bool} (hI : Inv k s)
    (hcp : s.cpc = .inNext live) (hq : QuiescentM s) :
    ∃ (i : Nat) (g : G V), s.gs[i]? = some g ∧ g.pc = GPc.next ∧ s.cancelled = false :=
  (next_served hI hcp).resolve_left fun ⟨l, hl, s', hs⟩ => by rw [hq l hl] at hs; cases hs

end Juniper.Proofs.StreamMerge
