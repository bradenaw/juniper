import Juniper.Proofs.TreeHeapLinkSplit
/-!
# Linking the two B-tree models (C03): `Put`, the parts of the simulation

The three ways `up` continues after a split, each with what it does to the store; and `InsSim`, which
states, by outcome of `ins`, what the heap model's `Put` (descent, then bottom-up through parent pointers)
has done to the store:

* the descent arrives at the node where `ins` bottoms out;
* `found`: the one value slot is written;
* `one`: the bottom-up phase (`putLeaf`: leaf insert, or `overfill` cascading up to a node with room
  below or at this subtree's root) succeeds and leaves the new subtree in the store;
* `split`: the bottom-up phase, having split this subtree's root into the two halves `l`, `r` that
  `ins` returns, continues with `up` at this node.
-/
namespace Juniper.Proofs.TreeHeapLink
open Juniper Juniper.Model.BTree Juniper.Model.BTreeSlotsOps Juniper.Proofs.Tree Juniper.Proofs.TreeSlotsOps

variable {K V : Type}

theorem parentIdx_toNat (i : Nat) :
    (Gen.Tree.parentSepIdx (i : Int)).toNat = i ∧ (Gen.Tree.parentRightIdx (i : Int)).toNat = i + 1 := by
  simp only [Gen.Tree.parentSepIdx, Gen.Tree.parentRightIdx]
  omega

theorem room_of_not_full {n : Nat} (hn : (n : Int) ≤ Gen.Tree.maxKVs) (h : (!Gen.Tree.full (n : Int)) = true) :
    n < keysCap := by
  have := capInt.1; have := capInt.2.1
  rw [full_iff, Bool.not_eq_true', decide_eq_false_iff_not] at h
  omega

theorem full_of_not_room {n : Nat} (h : ¬ (!Gen.Tree.full (n : Int)) = true) : n = keysCap := by
  rwa [full_iff, Bool.not_eq_true', decide_eq_false_iff_not, Decidable.not_not] at h

theorem map_insertAt {α β : Type} (f : α → β) (l : List α) (i : Nat) (x : α) :
    (insertAt l i x).map f = insertAt (l.map f) i (f x) := by
  simp [insertAt, List.map_take, List.map_drop]

/-- nothing outside the subtree `x` (and the freshly allocated objects) has changed -/
structure Frame (h h' : Heap K V) (x : Node K V) : Prop where
  get : ∀ j, cnt j x = 0 → j < h.nodes.length → h'.get j = h.get j
  root : h'.root = h.root
  size : h'.size = h.size
  gen : h'.gen = h.gen

/-- `Put` once the descent has arrived at the leaf `curr` (object `xs`) without finding the key -/
def putLeaf (cmp : K → K → Int) (fuel : Nat) (h : Heap K V) (curr : Nat) (xs : SNode K V Nat) (k : K) (v : V) :
    Option (Heap K V) :=
  if Gen.Tree.putInsertsDirect (Gen.Tree.full xs.n) then
    (toIdx xs.n).bind fun n => (Heap.lowerFrom Gen.Tree.insertLess cmp k xs.keys n 0).bind fun i =>
      h.step (.leafInsert curr i k v) [curr]
  else Heap.overfill cmp fuel h curr k v none

/-- what the heap model does below the subtree `x` of height `ht`, by outcome of `ins` -/
def InsSim (cmp : K → K → Int) (k : K) (v : V) (h : Heap K V) (p : Option Nat) (ht : Nat) (x : Node K V) :
    InsRes K V × Nat → Prop
  | (.crash, _) => False
  | (.found x', _) => ∃ curr idx xs h',
      (∀ fuel, ht + 1 ≤ fuel → Heap.descend cmp k h fuel x.id = some (curr, idx, true)) ∧ h.get curr = some xs ∧
      h.step (.setValue curr idx v) [curr] = some h' ∧ Sub h'.get p x' ∧ Frame h h' x ∧
      h'.nodes.length = h.nodes.length
  | (.one x', f) => ∃ curr idx xs h',
      (∀ fuel, ht + 1 ≤ fuel → Heap.descend cmp k h fuel x.id = some (curr, idx, false)) ∧ h.get curr = some xs ∧
      (∀ fuel, ht + 1 ≤ fuel → putLeaf cmp fuel h curr xs k v = some h') ∧ Sub h'.get p x' ∧ Frame h h' x ∧
      h'.nodes.length = f
  | (.split l sep r, f) => ∃ curr idx xs h1,
      (∀ fuel, ht + 1 ≤ fuel → Heap.descend cmp k h fuel x.id = some (curr, idx, false)) ∧ h.get curr = some xs ∧
      (∀ fuel, putLeaf cmp (fuel + ht + 1) h curr xs k v = up cmp fuel h1 x.id sep.1 sep.2 r.id) ∧
      Sub h1.get p l ∧ Sub h1.get none r ∧ Frame h h1 x ∧ h1.nodes.length = f

theorem Frame.of_child {h h' : Heap K V} {id : Nat} {kvs : List (K × V)} {kids : List (Node K V)} {c : Node K V}
    (hfr : Frame h h' c) (hc : c ∈ kids) : Frame h h' (.mk id kvs kids) :=
  ⟨fun j hj hjl => hfr.get j (cnt_child_zero hc hj) hjl, hfr.root, hfr.size, hfr.gen⟩

/-- the parent has room: the separator and the new right node `r` go in behind child `i` (`l`, the left half);
`F` are the children afterwards -/
theorem up_room_sim (cmp : K → K → Int) {h1 : Heap K V} {p : Option Nat} {id i : Nat} {sx : SNode K V Nat}
    {kvs : List (K × V)} {kids F : List (Node K V)} {l r : Node K V} (sk : K) (sv : V)
    (hx : h1.get id = some sx) (hpar : sx.parent = p) (hr : NodeRep sx kvs (kids.map Node.id))
    (hint : kids.length = kvs.length + 1) (hnd : (kids.map Node.id).Nodup) (hi : (kids.map Node.id)[i]? = some l.id)
    (hroom : kvs.length < keysCap) (hcr : l.id ≠ h1.root)
    (hF : ∀ j, cntK j F ≤ 1) (hsub : ∀ d ∈ F, d = r ∨ Sub h1.get (some id) d) (hsubl : Sub h1.get (some id) l)
    (hsubr : Sub h1.get none r) (hrF : r ∈ F) (hxF : cntK id F = 0)
    (hFid : F.map Node.id = insertAt (kids.map Node.id) (i + 1) r.id) :
    ∃ h3, (∀ fuel, up cmp fuel h1 l.id sk sv r.id = some h3) ∧ Same h1 h3 ∧
      Sub h3.get p (.mk id (insertAt kvs i (sk, sv)) F) ∧ ∀ j, cntK j F = 0 → j ≠ id → h3.get j = h1.get j := by
  obtain ⟨sl, hsl, hslp, _⟩ := hsubl.root
  have hil : i < kids.length := by simpa using (List.getElem?_eq_some_iff.mp hi).1
  obtain ⟨h2, x2, hstep, hsame2, hr2, hp2, hg2⟩ :=
    step_parentInsert hx hr (by simpa using hint) (idx := i) (by omega) hroom sk sv r.id [id]
  -- the node is not in the forest of its children: the insert leaves them alone
  have hkeep : ∀ d ∈ F, ∀ q, Sub h1.get q d → Sub h2.get q d := fun d hd q s =>
    Sub.congr d (fun j hj => by
      have := cnt_le_cntK hd j
      rw [hg2, if_neg (by rintro rfl; omega)]) s
  obtain ⟨h3, hsp, hsame3, hsub3, hfr3⟩ := setParents_sub (some id) hF [r.id]
    (fun d hd => (hsub d hd).elim (fun e => ⟨none, hkeep d hd _ (e ▸ hsubr)⟩) (fun s => ⟨_, hkeep d hd _ s⟩))
    (fun c hc => List.mem_singleton.mp hc ▸ List.mem_map_of_mem hrF)
  have hroomb : Gen.Tree.overfillParentHasRoom (Gen.Tree.full sx.n) = true := by
    rw [hr.hn, full_iff]
    have : ¬ kvs.length = keysCap := by omega
    simp [Gen.Tree.overfillParentHasRoom, this]
  refine ⟨h3, fun fuel => ?_, hsame2.trans hsame3,
    sub_mk.mpr ⟨x2, by rw [hfr3 _ (not_mem_ids hxF), hg2, if_pos rfl], hp2.trans hpar, by rw [hFid]; exact hr2,
      fun d hd => ?_⟩,
    fun j hj hjid => by rw [hfr3 j (not_mem_ids hj), hg2, if_neg hjid]⟩
  · unfold up
    simp only [if_neg hcr, bind, pure, hsl, hslp, hx, Option.bind_some, hroomb, if_true, indexOf_rep hr.hkids hnd hi, hstep]
    exact hsp
  · -- `r` is re-parented; the others were below `id` already
    rcases hsub d hd with rfl | hs
    · have := hsub3 d hd none (hkeep d hd _ hsubr)
      rwa [if_pos List.mem_cons_self] at this
    · have := hsub3 d hd _ (hkeep d hd _ hs)
      rwa [ite_self] at this

theorem up_full (cmp : K → K → Int) (fuel : Nat) {h1 : Heap K V} {cid id rid : Nat} {sl sx : SNode K V Nat}
    {kvs : List (K × V)} {cids : List Nat} (sk : K) (sv : V)
    (hcr : cid ≠ h1.root) (hl : h1.get cid = some sl) (hlp : sl.parent = some id) (hx : h1.get id = some sx)
    (hr : NodeRep sx kvs cids) (hfull : kvs.length = keysCap) :
    up cmp fuel h1 cid sk sv rid = Heap.overfill cmp fuel h1 id sk sv (some rid) := by
  have hroomb : Gen.Tree.overfillParentHasRoom (Gen.Tree.full sx.n) = false := by
    rw [hr.hn, full_iff]
    simp [Gen.Tree.overfillParentHasRoom, hfull]
  unfold up
  simp only [if_neg hcr, bind, pure, hl, hlp, hx, Option.bind_some, hroomb]
  rfl

theorem up_root_sim (cmp : K → K → Int) {h1 : Heap K V} {l r : Node K V} {ql qr : Option Nat} (sk : K) (sv : V)
    (hcr : l.id = h1.root) (hsubl : Sub h1.get ql l) (hsubr : Sub h1.get qr r) (hF : ∀ j, cntK j [l, r] ≤ 1) :
    ∃ h3, (∀ fuel, up cmp fuel h1 l.id sk sv r.id = some h3) ∧ h3.root = h1.nodes.length ∧ h3.size = h1.size ∧
      h3.gen = h1.gen ∧ h3.nodes.length = h1.nodes.length + 1 ∧
      Sub h3.get none (.mk h1.nodes.length [(sk, sv)] [l, r]) := by
  obtain ⟨h2, x2, hstep, hroot2, hsize2, hgen2, hlen2, hr2, hp2, hg2⟩ :=
    step_newRoot h1 sk sv l.id r.id [h1.nodes.length]
  have hsubs : ∀ d ∈ [l, r], ∃ q, Sub h1.get q d := by
    intro d hd
    simp only [List.mem_cons, List.not_mem_nil, or_false] at hd
    rcases hd with rfl | rfl
    · exact ⟨_, hsubl⟩
    · exact ⟨_, hsubr⟩
  -- the two halves are old objects: allocating the root leaves them alone
  have hold : ∀ d ∈ [l, r], ∃ q, Sub h2.get q d := fun d hd => (hsubs d hd).imp fun q s =>
    Sub.congr d (fun j hj => by rw [hg2, if_neg (Nat.ne_of_lt (s.lt j hj))]) s
  obtain ⟨h3, hsp, hsame3, hsub3, hfr3⟩ :=
    setParents_sub (some h1.nodes.length) hF ([l, r].map Node.id) hold (fun _ hc => hc)
  refine ⟨Heap.event { h3 with root := h1.nodes.length } "newroot", ?_, rfl, hsame3.size.trans hsize2,
    hsame3.gen.trans hgen2, hsame3.len.trans hlen2, ?_⟩
  · intro fuel
    unfold up
    simp only [if_pos hcr, bind, pure, hstep, Option.bind_some]
    exact congrArg (Option.bind · _) hsp
  · show Sub h3.get none _
    refine sub_mk.mpr ⟨x2, ?_, hp2, hr2, fun d hd => ?_⟩
    · rw [hfr3, hg2, if_pos rfl]
      intro hm
      obtain ⟨d, hd, e⟩ := List.mem_map.mp hm
      obtain ⟨q, s⟩ := hsubs d hd
      exact Nat.lt_irrefl _ (e ▸ s.lt d.id (cnt_self d))
    · obtain ⟨q, s⟩ := hold d hd
      have := hsub3 d hd q s
      rwa [if_pos (List.mem_map_of_mem hd)] at this

end Juniper.Proofs.TreeHeapLink
