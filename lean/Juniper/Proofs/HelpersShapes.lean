import Juniper.Generated.Helpers
/-!
# Statement shapes of the helpers whose loop structure is mirrored by hand (C19)

The models in `Model/Helpers*.lean` take their guards, bounds, index expressions, initial and returned
values from `Juniper.Gen.Helpers`; what is written by hand there is the *shape* of the loops: which
statement follows which, what is inside which loop or branch. This file pins that shape: for every
such helper the flattened statement list of the Go function, regenerated on every run
(`Gen.Helpers.shape*`), must be the list recorded here, i.e. the code the hand-written model was
written against. A statement added, dropped, moved or edited in one of these functions makes the
corresponding `shape<Helper>_pinned` theorem fail (a broken tie that names the helper); the correspondence check
and the monitors then look for a behavioural difference. Of a three-clause `for` header only the
condition is in the list (`for i >= 0 {`), not the `init` and `post` statements. The lists were produced by `gofacts` from
the tree the models describe; they are never edited by hand except together with the model.
-/
namespace Juniper.Proofs.Helpers.Shapes
open Juniper.Gen.Helpers

theorem shapeAll_pinned : shapeAll = ["for i := range s { if !f(s[i]) { return false } }",
  "return true"] := rfl

theorem shapeChunk_pinned : shapeChunk = ["if chunkSize <= 0 {",
  "panic(\"xslices.Chunk: chunkSize must be positive\")",
  "}",
  "n := 0",
  "if len(s) > 0 {",
  "n = (len(s)-1)/chunkSize + 1",
  "}",
  "out := make([][]T, n)",
  "for i := range out { start := i * chunkSize end := len(s) if len(s)-start > chunkSize { end = start + chunkSize } out[i] = s[start:end] }",
  "return out"] := rfl

theorem shapeCountFunc_pinned : shapeCountFunc = ["n := 0",
  "for _, s := range s { if f(s) { n++ } }",
  "return n"] := rfl

theorem shapeFill_pinned : shapeFill = ["for i := range s { s[i] = x }"] := rfl

theorem shapeGroup_pinned : shapeGroup = ["m := make(map[U][]T)",
  "for i := range s { g := f(s[i]) m[g] = append(m[g], s[i]) }",
  "return m"] := rfl

theorem shapeJoin_pinned : shapeJoin = ["n := 0",
  "for i := range in { n += len(in[i]) }",
  "out := make([]T, 0, n)",
  "for i := range in { out = append(out, in[i]...) }",
  "return out"] := rfl

theorem shapeLastIndex_pinned : shapeLastIndex = ["for i >= 0 {",
  "if s[i] == x {",
  "return i",
  "}",
  "}",
  "return -1"] := rfl

theorem shapeLastIndexFunc_pinned : shapeLastIndexFunc = ["for i >= 0 {",
  "if f(s[i]) {",
  "return i",
  "}",
  "}",
  "return -1"] := rfl

theorem shapeMap_pinned : shapeMap = ["out := make([]U, len(s))",
  "for i := range s { out[i] = f(s[i]) }",
  "return out"] := rfl

theorem shapePartition_pinned : shapePartition = ["i := 0",
  "j := len(s) - 1",
  "for {",
  "for i < j {",
  "if !f(s[i]) {",
  "i++",
  "} else {",
  "break",
  "}",
  "}",
  "for j > i {",
  "if f(s[j]) {",
  "j--",
  "} else {",
  "break",
  "}",
  "}",
  "if i >= j {",
  "break",
  "}",
  "s[i], s[j] = s[j], s[i]",
  "i++",
  "j--",
  "}",
  "if i < len(s) && !f(s[i]) {",
  "i++",
  "}",
  "return i"] := rfl

theorem shapeReduce_pinned : shapeReduce = ["out := initial",
  "for i := range s { out = f(out, s[i]) }",
  "return out"] := rfl

theorem shapeRemoveUnordered_pinned : shapeRemoveUnordered = ["keepStart := len(s) - n",
  "removeEnd := idx + n",
  "if removeEnd > keepStart {",
  "keepStart = removeEnd",
  "}",
  "copy(s[idx:], s[keepStart:])",
  "Clear(s[len(s)-n:])",
  "return s[:len(s)-n]"] := rfl

theorem shapeRepeat_pinned : shapeRepeat = ["out := make([]T, n)",
  "for i := range out { out[i] = s }",
  "return out"] := rfl

theorem shapeReverse_pinned : shapeReverse = ["for i < len(s)/2 {",
  "s[i], s[len(s)-i-1] = s[len(s)-i-1], s[i]",
  "}"] := rfl

theorem shapeRuns_pinned : shapeRuns = ["var runs [][]T",
  "start := 0",
  "end := 0",
  "if len(s) > 0 {",
  "end = 1",
  "}",
  "for i < len(s) {",
  "if same(s[i-1], s[i]) {",
  "end = i + 1",
  "} else {",
  "runs = append(runs, s[start:end])",
  "start = i",
  "end = i + 1",
  "}",
  "}",
  "if end > 0 {",
  "runs = append(runs, s[start:])",
  "}",
  "return runs"] := rfl

theorem shapeShrink_pinned : shapeShrink = ["if cap(s)-len(s) > n {",
  "x2 := make([]T, len(s)+n)",
  "copy(x2, s)",
  "return x2[:len(s)]",
  "}",
  "return s"] := rfl

theorem shapeUnique_pinned : shapeUnique = ["return uniqueInto([]T{}, s)"] := rfl

theorem shapeUniqueInPlace_pinned : shapeUniqueInPlace = ["filtered := uniqueInto(s[:0], s)",
  "Clear(s[len(filtered):])",
  "return filtered"] := rfl

theorem shapeUniqueInto_pinned : shapeUniqueInto = ["m := make(map[T]struct{}, len(s))",
  "for i := range s { _, ok := m[s[i]] if !ok { into = append(into, s[i]) m[s[i]] = struct{}{} } }",
  "return into"] := rfl

theorem shapeSearch_pinned : shapeSearch = ["return sort.Search(len(x), func(i int) bool { return less(item, x[i]) || !less(x[i], item) })"] := rfl

theorem shapeMergeNext_pinned : shapeMergeNext = ["if iter.h.Len() == 0 {",
  "var zero T",
  "return zero, false",
  "}",
  "item := iter.h.Pop()",
  "nextItem, ok := iter.in[item.source].Next()",
  "if ok {",
  "iter.h.Push(valueAndSource[T]{nextItem, item.source})",
  "}",
  "return item.value, true"] := rfl

theorem shapeMerge_pinned : shapeMerge = ["initial := make([]valueAndSource[T], 0, len(in))",
  "for i := range in { item, ok := in[i].Next() if !ok { continue } initial = append(initial, valueAndSource[T]{item, i}) }",
  "h := heap.New( func(a, b valueAndSource[T]) bool { return less(a.value, b.value) }, func(a valueAndSource[T], i int) {}, initial, )",
  "return &mergeIterator[T]{ in: in, h: h, }"] := rfl

theorem shapeMergeSlices_pinned : shapeMergeSlices = ["n := 0",
  "for i := range in { n += len(in[i]) }",
  "out = xslices.Grow(out[:0], n)",
  "iter := Merge(less, xslices.Map(in, iterator.Slice[T])...)",
  "for {",
  "item, ok := iter.Next()",
  "if !ok {",
  "break",
  "}",
  "out = append(out, item)",
  "}",
  "return out"] := rfl

theorem shapeMinK_pinned : shapeMinK = ["h := heap.New[T](heap.Less[T](Reverse(less)), func(a T, i int) {}, nil)",
  "for {",
  "item, ok := iter.Next()",
  "if !ok {",
  "break",
  "}",
  "h.Push(item)",
  "if h.Len() > k {",
  "h.Pop()",
  "}",
  "}",
  "out := make([]T, h.Len())",
  "for i >= 0 {",
  "out[i] = h.Pop()",
  "}",
  "return out"] := rfl

theorem shapeMapReverse_pinned : shapeMapReverse = ["result := make(map[V][]K, len(m))",
  "for k, v := range m { result[v] = append(result[v], k) }",
  "return result"] := rfl

theorem shapeReverseSingle_pinned : shapeReverseSingle = ["result := make(map[V]K, len(m))",
  "allOk := true",
  "for k, v := range m { if _, ok := result[v]; ok { allOk = false } result[v] = k }",
  "return result, allOk"] := rfl

theorem shapeToIndex_pinned : shapeToIndex = ["m := make(map[K]int, len(keys))",
  "for i := range keys { m[keys[i]] = i }",
  "return m"] := rfl

theorem shapeFromKeysAndValues_pinned : shapeFromKeysAndValues = ["if len(keys) != len(values) {",
  "panic(fmt.Sprintf(\"len(keys)=%d, len(values)=%d\", len(keys), len(values)))",
  "}",
  "m := make(map[K]V, len(keys))",
  "allOk := true",
  "for i := range keys { if _, ok := m[keys[i]]; ok { allOk = false } m[keys[i]] = values[i] }",
  "return m, allOk"] := rfl

theorem shapeSetFromSlice_pinned : shapeSetFromSlice = ["result := make(Set[T], len(items))",
  "for _, k := range items { result[k] = struct{}{} }",
  "return result"] := rfl

theorem shapeUnion_pinned : shapeUnion = ["size := 0",
  "for _, set := range sets { if len(set) > size { size = len(set) } }",
  "out := make(S, size)",
  "for _, set := range sets { for k := range set { out[k] = struct{}{} } }",
  "return out"] := rfl

theorem shapeIntersection_pinned : shapeIntersection = ["out := make(S)",
  "if len(sets) == 0 {",
  "return out",
  "}",
  "sets = xslices.Clone(sets)",
  "xsort.Slice(sets, func(a, b S) bool { return len(a) < len(b) })",
  "for k := range sets[0] { include := true for j := 1; j < len(sets); j++ { if _, ok := sets[j][k]; !ok { include = false break } } if include { out[k] = struct{}{} } }",
  "return out"] := rfl

theorem shapeIntersects_pinned : shapeIntersects = ["if len(sets) == 0 {",
  "return false",
  "}",
  "sets = xslices.Clone(sets)",
  "xsort.Slice(sets, func(a, b S) bool { return len(a) < len(b) })",
  "for k := range sets[0] { include := true for j := 1; j < len(sets); j++ { if _, ok := sets[j][k]; !ok { include = false break } } if include { return true } }",
  "return false"] := rfl

theorem shapeDifference_pinned : shapeDifference = ["size := len(a) - len(b)",
  "if size < 0 {",
  "size = 0",
  "}",
  "result := make(S, size)",
  "for k := range a { if _, ok := b[k]; !ok { result[k] = struct{}{} } }",
  "return result"] := rfl

theorem shapeWithStack_pinned : shapeWithStack = ["if err == nil {",
  "return nil",
  "}",
  "var attached withStack",
  "if errors.As(err, &attached) {",
  "return err",
  "}",
  "var buf [64]uintptr",
  "var ptrs []uintptr",
  "skip := 2",
  "for {",
  "n := runtime.Callers(skip, buf[:])",
  "ptrs = append(ptrs, buf[:n]...)",
  "if n < len(buf) {",
  "break",
  "}",
  "skip += n",
  "}",
  "return withStack{ inner: err, pc: ptrs, }"] := rfl

theorem shapeUnwrap_pinned : shapeUnwrap = ["return err.inner"] := rfl

theorem shapeRShuffle_pinned : shapeRShuffle = ["r.Shuffle(len(a), func(i, j int) { a[i], a[j] = a[j], a[i] })"] := rfl

theorem shapeRSample_pinned : shapeRSample = ["out := make([]int, k)",
  "samp := newSampler(r, k)",
  "for {",
  "next, replace := samp.Next()",
  "if next >= n {",
  "break",
  "}",
  "out[replace] = next",
  "}",
  "if n < k {",
  "out = out[:n]",
  "}",
  "rShuffle(r, out)",
  "return out"] := rfl

theorem shapeRSampleSlice_pinned : shapeRSampleSlice = ["out := make([]T, k)",
  "samp := newSampler(r, k)",
  "for {",
  "next, replace := samp.Next()",
  "if next >= len(a) {",
  "break",
  "}",
  "out[replace] = a[next]",
  "}",
  "if len(a) < k {",
  "out = out[:len(a)]",
  "}",
  "rShuffle(r, out)",
  "return out"] := rfl

theorem shapeRSampleIterator_pinned : shapeRSampleIterator = ["out := make([]T, k)",
  "i := 0",
  "samp := newSampler(r, k)",
  "Outer: for { next, replace := samp.Next() for { item, ok := iter.Next() if !ok { break Outer } if i == next { out[replace] = item i++ break } i++ } }",
  "if i < k {",
  "out = out[:i]",
  "}",
  "rShuffle(r, out)",
  "return out"] := rfl

theorem shapeRSampleStream_pinned : shapeRSampleStream = ["defer s.Close()",
  "out := make([]T, k)",
  "i := 0",
  "samp := newSampler(r, k)",
  "Outer: for { next, replace := samp.Next() for { item, err := s.Next(ctx) if err == stream.End { break Outer } else if err != nil { return nil, err } if i == next { out[replace] = item i++ break } i++ } }",
  "if i < k {",
  "out = out[:i]",
  "}",
  "rShuffle(r, out)",
  "return out, nil"] := rfl

theorem shapeSamplerNext_pinned : shapeSamplerNext = ["if s.i < s.k {",
  "j := s.i",
  "s.i++",
  "return j, j",
  "}",
  "if s.first && s.i == s.k {",
  "s.i--",
  "s.first = false",
  "}",
  "skip := math.Floor(math.Log(s.r.Float64()) / math.Log1p(-s.w))",
  "if math.IsInf(skip, 0) || math.IsNaN(skip) || skip >= float64(math.MaxInt-s.i) {",
  "return math.MaxInt, 0",
  "}",
  "s.i += int(skip) + 1",
  "s.w *= math.Exp(math.Log(s.r.Float64()) / float64(s.k))",
  "return s.i, s.r.Intn(s.k)"] := rfl

theorem shapeNewSampler_pinned : shapeNewSampler = ["return sampler[R]{ i: 0, first: true, w: math.Exp(math.Log(r.Float64()) / float64(k)), k: k, r: r, }"] := rfl

end Juniper.Proofs.Helpers.Shapes
