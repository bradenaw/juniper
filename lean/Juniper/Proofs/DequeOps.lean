import Juniper.Proofs.DequeRep
/-!
# Every deque operation against the representation relation

For each operation of the model: under `Rep d l` it returns what the ideal sequence returns, the
new state represents the new sequence, and the modification counter moves as the generated
presence facts say. A mutating operation overwrites one slot and may move the front: its proof says, position
by position, which list that gives and goes through `Rep.write_from` (`Rep.write` when the front stays);
the pop that empties the deque is `Rep.pop_last`.
-/
namespace Juniper.Proofs.Deque
open Juniper.Gen.Deque Juniper.Model.Deque
variable {α : Type}

theorem Rep.set_cell {d : Deque α} {l : List α} (h : Rep d l) (j : Nat) (hj : (j : Int) < cap d)
    (v : Option α) :
    ∃ a', setSlot d.a (ridx d.front (cap d) j) v = some a' ∧ (a'.length : Int) = cap d ∧
      ∀ k : Nat, (k : Int) < cap d →
        slot a' (ridx d.front (cap d) k) = if k = j then some v else some l[k]? := by
  have hf0 := h.front_nonneg
  have hf1 := h.front_lt_cap (by omega)
  obtain ⟨hp0, hp1⟩ := ridx_bounds hf0 hf1 (Int.natCast_nonneg j) hj
  refine ⟨_, setSlot_eq _ v hp0 hp1, by simp [cap], ?_⟩
  intro k hk
  rw [slot_set _ v hp0 hp1 (ridx_bounds hf0 hf1 (Int.natCast_nonneg k) hk).1]
  by_cases hkj : k = j
  · subst hkj; simp
  · have : ridx d.front (cap d) k ≠ ridx d.front (cap d) j := fun e =>
      hkj (Int.ofNat.inj (ridx_inj (Int.natCast_nonneg k) hk (Int.natCast_nonneg j) hj e))
    simp only [this, hkj, if_false]
    exact h.cells k hk

theorem cells_from {a : List (Option α)} {f c : Int} {g : Nat → Option (Option α)} (hf0 : 0 ≤ f)
    (hf1 : f < c) (h : ∀ k : Nat, (k : Int) < c → slot a (ridx f c k) = g k) {j : Int} (hj0 : 0 ≤ j)
    (hj1 : j < c) (k : Nat) (hk : (k : Int) < c) :
    slot a (ridx (ridx f c j) c k) = g (ridx j c k).toNat := by
  obtain ⟨hb0, hb1⟩ := ridx_bounds hj0 hj1 (Int.natCast_nonneg k) hk
  rw [ridx_ridx hf0 hf1 (Int.natCast_nonneg k) hk]
  have e : ((ridx j c k).toNat : Int) = ridx j c k := by omega
  rw [← e]; exact h _ (by omega)

/-- Overwriting ring position `j` and moving the front to ring position `s`: the state represents every
non-empty `l'` that, read from position `s`, is `l` with position `j` replaced by `v`; its `back` is ring
position `l'.length - 1` from the new front. -/
theorem Rep.write_from {d : Deque α} {l l' : List α} (h : Rep d l) {j : Nat} (hj : (j : Int) < cap d)
    {v : Option α} {s : Int} (hs0 : 0 ≤ s) (hs1 : s < cap d)
    (hw : ∀ k : Nat, (k : Int) < cap d →
      l'[k]? = if (ridx s (cap d) k).toNat = j then v else l[(ridx s (cap d) k).toNat]?)
    (hne : l' ≠ []) (hlen : (l'.length : Int) ≤ cap d) (g : Int) :
    ∃ a', setSlot d.a (ridx d.front (cap d) j) v = some a' ∧ slot a' (ridx d.front (cap d) j) = some v ∧
      Rep { a := a', isNil := d.isNil, front := ridx d.front (cap d) s,
            back := ridx (ridx d.front (cap d) s) (cap d) ((l'.length : Int) - 1), gen := g } l' := by
  obtain ⟨a', hset, hlen', hcells⟩ := h.set_cell j hj v
  have hc : 0 < cap d := by omega
  have hf0 := h.front_nonneg
  have hf1 := h.front_lt_cap hc
  obtain ⟨hF0, hF1⟩ := ridx_bounds hf0 hf1 hs0 hs1
  refine ⟨a', hset, by simpa using hcells j hj, rep_intro (h.notNil_of_cap hc) hne hF0 (hlen' ▸ hF1)
    (hlen' ▸ hlen) (by rw [hlen']) fun k hk => ?_⟩
  rw [hlen'] at hk ⊢
  rw [cells_from hf0 hf1 hcells hs0 hs1 k hk, hw k hk]
  split <;> rfl

/-- `Rep.write_from` with the front where it is: `l'` is `l` with position `j` replaced by `v`. -/
theorem Rep.write {d : Deque α} {l l' : List α} (h : Rep d l) {j : Nat} (hj : (j : Int) < cap d) {v : Option α}
    (hw : ∀ k, l'[k]? = if k = j then v else l[k]?) (hne : l' ≠ []) (hlen : (l'.length : Int) ≤ cap d)
    (g : Int) :
    ∃ a', setSlot d.a (ridx d.front (cap d) j) v = some a' ∧ slot a' (ridx d.front (cap d) j) = some v ∧
      Rep { a := a', isNil := d.isNil, front := d.front,
            back := ridx d.front (cap d) ((l'.length : Int) - 1), gen := g } l' := by
  have hc : 0 < cap d := by omega
  have hr := h.write_from hj (v := v) (Int.le_refl 0) hc (l' := l')
    (fun k hk => by rw [ridx_of_lt (by omega), Int.zero_add, Int.toNat_natCast]; exact hw k) hne hlen g
  rwa [ridx_zero (h.front_lt_cap hc)] at hr

theorem Rep.slot_front {d : Deque α} {l : List α} (h : Rep d l) (hl : l ≠ []) :
    slot d.a d.front = some l.head? := by
  have hp := List.length_pos_iff.2 hl
  have hle := h.len_le
  have := h.cells 0 (by omega)
  rwa [Int.natCast_zero, ridx_zero (h.front_lt_cap (by omega)), ← List.head?_eq_getElem?] at this

theorem Rep.slot_back {d : Deque α} {l : List α} (h : Rep d l) (hl : l ≠ []) :
    slot d.a d.back = some l.getLast? := by
  have hp := List.length_pos_iff.2 hl
  have hle := h.len_le
  have := h.cells (l.length - 1) (by omega)
  rwa [show ((l.length - 1 : Nat) : Int) = (l.length : Int) - 1 by omega, ← h.back_nonempty hl,
    ← List.getLast?_eq_getElem?] at this

theorem Rep.pushBackAt {d : Deque α} {l : List α} (h : Rep d l) (hroom : (l.length : Int) < cap d)
    (x : α) :
    ∃ d', pushBackAt d x = .ok d' () ∧ Rep d' (l ++ [x]) ∧
      d'.gen = bump pushBackBumpsGen d.gen := by
  have hc : 0 < cap d := by omega
  have hn := h.notNil_of_cap hc
  have hf0 := h.front_nonneg
  have hf1 := h.front_lt_cap hc
  -- `l ++ [x]` is `l` with position `l.length` overwritten
  obtain ⟨a', hset, _, hrep⟩ := h.write (j := l.length) (v := some x) (l' := l ++ [x]) hroom
    (fun k => by
      by_cases hkl : k = l.length
      · rw [if_pos hkl, hkl, List.getElem?_concat_length]
      · rw [if_neg hkl, List.getElem?_append]
        split
        · rfl
        · rw [List.getElem?_eq_none (l := l) (by omega),
            List.getElem?_eq_none (by rw [List.length_singleton]; omega)])
    (by simp) (by simp only [List.length_append, List.length_singleton]; omega) (bump pushBackBumpsGen d.gen)
  simp only [List.length_append, List.length_singleton, Int.natCast_add, Int.natCast_one,
    Int.add_sub_cancel] at hrep
  -- the new `back` is ring position `l.length`: the front itself (empty deque), or one step on from `back`
  unfold Juniper.Model.Deque.pushBackAt pushBackWasEmpty pushBackBackEmpty pushBackBack
  by_cases hl : l = []
  · subst hl
    rw [List.length_nil, Int.natCast_zero, ridx_zero hf1] at hset hrep
    simp only [h.back_empty rfl hn, decide_true, if_true, hset]
    exact ⟨_, rfl, hrep, rfl⟩
  · have hp := List.length_pos_iff.2 hl
    have ⟨hb0, hb1⟩ := h.back_bounds hl
    have hne : ¬ d.back = -1 := by omega
    have hback : Int.tmod (d.back + 1) (cap d) = ridx d.front (cap d) l.length := by
      rw [tmod_add (by omega) (by omega), h.back_nonempty hl, ridx_succ hf0 hf1 (by omega) (by omega),
        Int.sub_add_cancel]
    simp only [hne, decide_false, Bool.false_eq_true, if_false, hback, hset]
    exact ⟨_, rfl, hrep, rfl⟩

theorem Rep.pushFrontAt {d : Deque α} {l : List α} (h : Rep d l) (hroom : (l.length : Int) < cap d)
    (x : α) :
    ∃ d', pushFrontAt d x = .ok d' () ∧ Rep d' (x :: l) ∧
      d'.gen = bump pushFrontBumpsGen d.gen := by
  have hc : 0 < cap d := by omega
  have hn := h.notNil_of_cap hc
  have hf0 := h.front_nonneg
  have hf1 := h.front_lt_cap hc
  have hj : ((d.a.length - 1 : Nat) : Int) = cap d - 1 := by unfold cap at *; omega
  -- `x :: l` is `l` read from the last ring position, `cap d - 1`, with that position overwritten
  obtain ⟨a', hset, _, hrep⟩ := h.write_from (j := d.a.length - 1) (v := some x) (s := cap d - 1)
    (l' := x :: l) (by omega) (by omega) (by omega)
    (fun k hk => by
      cases k with
      | zero => rw [Int.natCast_zero, ridx_zero (by omega), if_pos (by omega), List.getElem?_cons_zero]
      | succ k =>
        rw [ridx_of_ge (by omega), if_neg (by omega), List.getElem?_cons_succ]
        congr 1; omega)
    (by simp) (by simp only [List.length_cons]; omega) (bump pushFrontBumpsGen d.gen)
  rw [hj] at hset
  simp only [List.length_cons, Int.natCast_add, Int.natCast_one, Int.add_sub_cancel] at hrep
  have hF := ridx_bounds hf0 hf1 (k := cap d - 1) (by omega) (by omega)
  unfold Juniper.Model.Deque.pushFrontAt pushFrontFixBack pushFrontFront
  simp only [positiveMod_pred hf0 hf1, hset]
  -- `back` becomes the new front (empty deque) or stays: ring position `l.length` from the new front
  by_cases hl : l = []
  · subst hl
    simp only [h.back_empty rfl hn, decide_true, if_true]
    rw [List.length_nil, Int.natCast_zero, ridx_zero hF.2] at hrep
    exact ⟨_, rfl, hrep, rfl⟩
  · have hp := List.length_pos_iff.2 hl
    have ⟨hb0, hb1⟩ := h.back_bounds hl
    have hne : ¬ d.back = -1 := by omega
    have hback : ridx (ridx d.front (cap d) (cap d - 1)) (cap d) (l.length : Int) = d.back := by
      rw [h.back_nonempty hl, ridx_ridx hf0 hf1 (by omega) (by omega), ridx_of_ge (f := cap d - 1) (by omega)]
      congr 1; omega
    rw [hback] at hrep
    simp only [hne, decide_false, Bool.false_eq_true, if_false]
    exact ⟨_, rfl, hrep, rfl⟩

/-- What a push does to the modification counter: `maybeExpand` may bump it, the push itself does. -/
def GenAfterPush (b : Bool) (g g' : Int) : Prop :=
  g' = bump b g ∨ g' = bump b (bump resizeBumpsGen g)

theorem GenAfterPush.le {b : Bool} {g g' : Int} (h : GenAfterPush b g g') : g ≤ g' := by
  have := le_bump b g; have := le_bump resizeBumpsGen g; have := le_bump b (bump resizeBumpsGen g)
  rcases h with h | h <;> omega

theorem GenAfterPush.lt {b : Bool} {g g' : Int} (h : GenAfterPush b g g') (hb : b = true) :
    g < g' := by
  have := lt_bump hb g; have := le_bump resizeBumpsGen g
  have := lt_bump hb (bump resizeBumpsGen g)
  rcases h with h | h <;> omega

theorem Rep.pushBack {d : Deque α} {l : List α} (h : Rep d l) (x : α) :
    ∃ d', pushBack d x = .ok d' () ∧ Rep d' (l ++ [x]) ∧
      GenAfterPush pushBackBumpsGen d.gen d'.gen := by
  obtain ⟨d1, he, hr1, hroom, hg1⟩ := h.maybeExpand
  obtain ⟨d2, hp, hr2, hg2⟩ := hr1.pushBackAt hroom x
  refine ⟨d2, ?_, hr2, ?_⟩
  · unfold Juniper.Model.Deque.pushBack; rw [he]; exact hp
  · rcases hg1 with rfl | hg1
    · exact Or.inl hg2
    · exact Or.inr (by rw [hg2, hg1])

theorem Rep.pushFront {d : Deque α} {l : List α} (h : Rep d l) (x : α) :
    ∃ d', pushFront d x = .ok d' () ∧ Rep d' (x :: l) ∧
      GenAfterPush pushFrontBumpsGen d.gen d'.gen := by
  obtain ⟨d1, he, hr1, hroom, hg1⟩ := h.maybeExpand
  obtain ⟨d2, hp, hr2, hg2⟩ := hr1.pushFrontAt hroom x
  refine ⟨d2, ?_, hr2, ?_⟩
  · unfold Juniper.Model.Deque.pushFront; rw [he]; exact hp
  · rcases hg1 with rfl | hg1
    · exact Or.inl hg2
    · exact Or.inr (by rw [hg2, hg1])

/-- The state after the pop that empties the deque (`l == 1` branch of `PopFront`/`PopBack`). -/
theorem Rep.pop_last {d : Deque α} {x : α} (h : Rep d [x]) (g : Int) :
    ∃ a', setSlot d.a d.front none = some a' ∧ slot a' d.front = some none ∧
      Rep { a := a', isNil := d.isNil, front := 0, back := -1, gen := g } [] := by
  have hle := h.len_le
  simp only [List.length_singleton] at hle
  have hc : 0 < cap d := by omega
  have hn := h.notNil_of_cap hc
  have hf0 := h.front_nonneg
  have hf1 := h.front_lt_cap hc
  obtain ⟨a', hset, hlen', hcells⟩ := h.set_cell 0 (by omega) none
  have e0 : ridx d.front (cap d) ((0 : Nat) : Int) = d.front := ridx_zero hf1
  rw [e0] at hset
  have hcl : slot a' d.front = some none := by
    have := hcells 0 (by omega); rw [e0] at this; simpa using this
  refine ⟨a', hset, hcl, ?_⟩
  rw [hn]
  refine ⟨by simp, Int.le_refl _, Or.inl (by simp only [cap]; omega), by simp only [cap, List.length_nil]; omega,
    fun _ => rfl, fun _ _ => rfl, fun he => absurd rfl he, ?_⟩
  intro k hk
  change (k : Int) < (a'.length : Int) at hk
  change slot a' (ridx 0 (a'.length : Int) k) = _
  rw [hlen'] at hk ⊢
  obtain ⟨k', hk', hkk⟩ := ridx_surj hf0 hf1 k hk
  have hrk := ridx_cases 0 (cap d) k
  have e : ridx 0 (cap d) (k : Int) = ridx d.front (cap d) (k' : Int) := by omega
  rw [e, hcells k' hk']
  by_cases h0 : k' = 0 <;> simp [h0]

theorem Rep.popFront {d : Deque α} {l : List α} (h : Rep d l) (hl : l ≠ [])
    (hc1 : popFrontClearsLast = true)
    (hc2 : afterLast popFrontClears popFrontClearsLast = true) :
    ∃ d', popFront d = .ok d' l.head? ∧ Rep d' l.tail ∧ slot d'.a d.front = some none ∧
      d'.gen = bump (if l.tail = [] then popFrontLastBumpsGen
                     else afterLast popFrontGenBumps popFrontLastBumpsGen) d.gen := by
  obtain ⟨x, t, rfl⟩ := List.exists_cons_of_ne_nil hl
  have hle := h.len_le
  simp only [List.length_cons] at hle
  have hc : 0 < cap d := by omega
  have hf0 := h.front_nonneg
  have hf1 := h.front_lt_cap hc
  have e0 : ridx d.front (cap d) ((0 : Nat) : Int) = d.front := ridx_zero hf1
  have hitem : slot d.a d.front = some (some x) := h.slot_front hl
  unfold Juniper.Model.Deque.popFront popFrontEmpty popFrontLast
  have hne : ¬ ((t.length : Int) + 1 = 0) := by omega
  simp only [hc2, if_true]
  simp only [h.len_eq, List.length_cons, Int.natCast_add, Int.natCast_one, hne, decide_false,
    Bool.false_eq_true, if_false, hitem, hc1, if_true, List.head?_cons, List.tail_cons]
  by_cases ht : t = []
  · subst ht
    obtain ⟨a', hset, hcl, hrep⟩ := h.pop_last (bump popFrontLastBumpsGen d.gen)
    simp only [List.length_nil, Int.natCast_zero, Int.zero_add, decide_true, if_true, hset,
      popFrontLastFront, popFrontLastBack]
    exact ⟨_, rfl, hrep, hcl, rfl⟩
  · have hp := List.length_pos_iff.2 ht
    have hne1 : ¬ ((t.length : Int) + 1 = 1) := by omega
    -- `t` is `x :: t` read from ring position 1 with position 0 cleared
    obtain ⟨a', hset, hcl, hrep⟩ := h.write_from (j := 0) (v := none) (s := 1) (l' := t) (by omega) (by omega)
      (by omega)
      (fun k hk => by
        by_cases hlast : 1 + (k : Int) < cap d
        · rw [ridx_of_lt hlast, if_neg (by omega), show (1 + (k : Int)).toNat = k + 1 by omega,
            List.getElem?_cons_succ]
        · -- the vacated slot is now the last ring position, beyond the live window
          rw [ridx_of_ge (by omega), if_pos (by omega), List.getElem?_eq_none (by omega)])
      ht (by omega) (bump (afterLast popFrontGenBumps popFrontLastBumpsGen) d.gen)
    rw [e0] at hset hcl
    -- the new `front` is ring position 1, and `back` is where it was
    have hfront : popFrontFront d.isNil (cap d) d.front d.back = ridx d.front (cap d) 1 :=
      tmod_add (by omega) (by omega)
    have hback : ridx (ridx d.front (cap d) 1) (cap d) ((t.length : Int) - 1) = d.back := by
      rw [h.back_nonempty (by simp), ridx_ridx hf0 hf1 (by omega) (by omega), ridx_of_lt (f := 1) (by omega)]
      simp only [List.length_cons]; congr 1; omega
    rw [hback] at hrep
    simp only [hne1, decide_false, Bool.false_eq_true, if_false, hset, hfront, ht]
    exact ⟨_, rfl, hrep, hcl, rfl⟩

theorem Rep.popBack {d : Deque α} {l : List α} (h : Rep d l) (hl : l ≠ [])
    (hc1 : popBackClearsLast = true)
    (hc2 : afterLast popBackClears popBackClearsLast = true) :
    ∃ d', popBack d = .ok d' l.getLast? ∧ Rep d' l.dropLast ∧ slot d'.a d.back = some none ∧
      d'.gen = bump (if l.dropLast = [] then popBackLastBumpsGen
                     else afterLast popBackGenBumps popBackLastBumpsGen) d.gen := by
  have hp := List.length_pos_iff.2 hl
  have hle := h.len_le
  have hc : 0 < cap d := by omega
  have hf0 := h.front_nonneg
  have hf1 := h.front_lt_cap hc
  have hb := h.back_nonempty hl
  have ⟨hb0, hb1⟩ := h.back_bounds hl
  have hnat : ((l.length - 1 : Nat) : Int) = (l.length : Int) - 1 := by omega
  have hitem := h.slot_back hl
  unfold Juniper.Model.Deque.popBack popBackEmpty popBackLast
  have hne : ¬ ((l.length : Int) = 0) := by omega
  simp only [hc2, if_true]
  simp only [h.len_eq, hne, decide_false, Bool.false_eq_true, if_false, hitem, hc1, if_true]
  by_cases h1 : l.length = 1
  · obtain ⟨x, rfl⟩ := List.length_eq_one_iff.mp h1
    obtain ⟨a', hset, hcl, hrep⟩ := h.pop_last (bump popBackLastBumpsGen d.gen)
    have hbf : d.back = d.front := hb.trans (ridx_zero hf1)
    simp only [List.length_singleton, Int.natCast_one, decide_true, if_true, hbf, hset,
      popBackLastFront, popBackLastBack, List.dropLast_singleton]
    exact ⟨_, rfl, hrep, hcl, rfl⟩
  · have hne1 : ¬ ((l.length : Int) = 1) := by omega
    have hdl : l.dropLast ≠ [] := List.ne_nil_of_length_pos (by rw [List.length_dropLast]; omega)
    -- `l.dropLast` is `l` with its last position cleared
    obtain ⟨a', hset, hcl, hrep⟩ := h.write (j := l.length - 1) (v := none) (l' := l.dropLast) (by omega)
      (fun k => by
        rw [List.getElem?_dropLast]
        split
        · rw [if_neg (by omega)]
        · split
          · rfl
          · exact (List.getElem?_eq_none (by omega)).symm)
      hdl (by rw [List.length_dropLast]; omega) (bump (afterLast popBackGenBumps popBackLastBumpsGen) d.gen)
    rw [hnat, ← hb] at hset hcl
    have hback : popBackBack d.isNil (cap d) d.front d.back
        = ridx d.front (cap d) ((l.dropLast.length : Int) - 1) := by
      unfold popBackBack
      rw [positiveMod_pred hb0 hb1, hb, ridx_pred hf0 hf1 (by omega), List.length_dropLast, hnat]
    simp only [hne1, decide_false, Bool.false_eq_true, if_false, hset, hback, hdl]
    exact ⟨_, rfl, hrep, hcl, rfl⟩

theorem Rep.isEmpty_panics {d : Deque α} (h : Rep d []) :
    Model.Deque.popFront d = .panic d ∧ Model.Deque.popBack d = .panic d ∧
      Model.Deque.frontOf d = .panic d ∧ Model.Deque.backOf d = .panic d := by
  have hlen := h.len_eq
  simp only [List.length_nil, Int.natCast_zero] at hlen
  refine ⟨?_, ?_, ?_, ?_⟩
  · unfold Juniper.Model.Deque.popFront popFrontEmpty; simp [hlen]
  · unfold Juniper.Model.Deque.popBack popBackEmpty; simp [hlen]
  · unfold Juniper.Model.Deque.frontOf frontPanics
    cases hn : d.isNil with
    | true =>
      obtain ⟨ha, hb⟩ := h.nil_a hn
      simp [hb, ha, h.front_empty rfl, slot]
    | false => simp [h.back_empty rfl hn]
  · unfold Juniper.Model.Deque.backOf
    cases hn : d.isNil with
    | true =>
      obtain ⟨ha, hb⟩ := h.nil_a hn
      simp [hb, ha, slot]
    | false => simp [h.back_empty rfl hn, slot]

theorem Rep.frontOf {d : Deque α} {l : List α} (h : Rep d l) (hl : l ≠ []) :
    frontOf d = .ok d l.head? := by
  have hne : ¬ d.back = -1 := by have := h.back_bounds hl; omega
  unfold Juniper.Model.Deque.frontOf frontPanics
  simp [hne, h.slot_front hl]

theorem Rep.backOf {d : Deque α} {l : List α} (h : Rep d l) (hl : l ≠ []) :
    backOf d = .ok d l.getLast? := by
  unfold Juniper.Model.Deque.backOf
  simp [h.slot_back hl]

theorem Rep.index_eq {d : Deque α} {l : List α} (h : Rep d l) {i : Int} (h0 : 0 ≤ i)
    (h1 : i < l.length) : Int.tmod (d.front + i) (cap d) = ridx d.front (cap d) (i.toNat : Nat) := by
  have hle := h.len_le
  have hf0 := h.front_nonneg
  have hf1 := h.front_lt_cap (by omega)
  rw [tmod_add (by omega) (by omega)]; congr 1; omega

theorem Rep.item {d : Deque α} {l : List α} (h : Rep d l) {i : Int} (h0 : 0 ≤ i)
    (h1 : i < l.length) : item d i = .ok d l[i.toNat]? := by
  have hle := h.len_le
  have hidx := h.index_eq h0 h1
  have hcell := h.cells i.toNat (by omega)
  unfold Juniper.Model.Deque.item itemPanics itemIdx
  have e1 : ¬ i < 0 := by omega
  have e2 : ¬ i ≥ (l.length : Int) := by omega
  have e3 : ¬ cap d = 0 := by omega
  simp only [h.len_eq, e1, e2, e3, decide_false, Bool.or_self, Bool.false_eq_true, if_false, hidx,
    hcell]

theorem item_out_of_range {d : Deque α} {l : List α} (h : Rep d l) {i : Int}
    (hi : i < 0 ∨ (l.length : Int) ≤ i) : item d i = .panic d := by
  unfold Juniper.Model.Deque.item itemPanics
  rw [h.len_eq]
  rcases hi with hi | hi <;> simp [hi]

theorem set_out_of_range {d : Deque α} {l : List α} (h : Rep d l) {i : Int} (x : α)
    (hi : i < 0 ∨ (l.length : Int) ≤ i) : set d i x = .panic d := by
  unfold Juniper.Model.Deque.set setPanics
  rw [h.len_eq]
  rcases hi with hi | hi <;> simp [hi]

theorem Rep.set {d : Deque α} {l : List α} (h : Rep d l) {i : Int} (h0 : 0 ≤ i)
    (h1 : i < l.length) (x : α) :
    ∃ d', set d i x = .ok d' () ∧ Rep d' (l.set i.toNat x) ∧ d'.gen = bump setBumpsGen d.gen := by
  have hle := h.len_le
  have hi : i.toNat < l.length := by omega
  have hl : l ≠ [] := List.ne_nil_of_length_pos (by omega)
  obtain ⟨a', hset, _, hrep⟩ := h.write (j := i.toNat) (v := some x) (l' := l.set i.toNat x) (by omega)
    (fun k => by
      rw [List.getElem?_set, if_pos hi]
      by_cases hk : i.toNat = k
      · rw [if_pos hk, if_pos hk.symm]
      · rw [if_neg hk, if_neg (Ne.symm hk)])
    (fun he => hl ((List.set_eq_nil_iff _ _).1 he)) (by rw [List.length_set]; exact hle) (bump setBumpsGen d.gen)
  rw [List.length_set, ← h.back_nonempty hl] at hrep
  unfold Juniper.Model.Deque.set setPanics setIdx
  have e1 : ¬ i < 0 := by omega
  have e2 : ¬ i ≥ (l.length : Int) := by omega
  have e3 : ¬ cap d = 0 := by omega
  simp only [h.len_eq, e1, e2, e3, decide_false, Bool.or_self, Bool.false_eq_true, if_false,
    h.index_eq h0 h1, hset]
  exact ⟨_, rfl, hrep, rfl⟩

end Juniper.Proofs.Deque
