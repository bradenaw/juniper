import Juniper.Facts
/-! Go's fixed-width integers: `wrap64` / `wrapU64` (`Juniper/Facts.lean`) are the identity on their ranges and wrap around
once outside. Imports the vocabulary of the generated facts only, so that every component with 64-bit arithmetic
(the helpers of C19, the ticker of C20) can use it without the other's facts. -/
namespace Juniper.Proofs.Helpers

open Juniper.Facts in
theorem wrap64_of_range {x : Int} (h1 : -9223372036854775808 ≤ x) (h2 : x ≤ 9223372036854775807) :
    wrap64 x = x := by
  unfold wrap64; omega

open Juniper.Facts in
theorem wrap64_nat {n : Nat} (h : n ≤ 9223372036854775807) : wrap64 (n : Int) = (n : Int) :=
  wrap64_of_range (by omega) (by omega)

open Juniper.Facts in
theorem wrap64_eq_nat {x : Int} {n : Nat} (hx : x = (n : Int)) (h : n ≤ 9223372036854775807) : wrap64 x = (n : Int) := by
  rw [hx]; exact wrap64_nat h

open Juniper.Facts in
theorem wrap64_range (x : Int) : -9223372036854775808 ≤ wrap64 x ∧ wrap64 x ≤ 9223372036854775807 := by
  unfold wrap64; omega

open Juniper.Facts in
theorem wrap64_overflow_pos {x : Int} (h1 : 9223372036854775808 ≤ x) (h2 : x < 18446744073709551616) :
    wrap64 x = x - 18446744073709551616 := by
  unfold wrap64; omega

open Juniper.Facts in
theorem wrap64_overflow_neg {x : Int} (h1 : -18446744073709551616 ≤ x) (h2 : x < -9223372036854775808) :
    wrap64 x = x + 18446744073709551616 := by
  unfold wrap64; omega

open Juniper.Facts in
theorem wrapU64_of_range {x : Int} (h1 : 0 ≤ x) (h2 : x < 18446744073709551616) : wrapU64 x = x :=
  Int.emod_eq_of_lt h1 h2

end Juniper.Proofs.Helpers
