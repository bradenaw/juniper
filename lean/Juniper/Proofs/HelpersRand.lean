import Juniper.Proofs.HelpersBasic
import Juniper.Model.HelpersMisc
namespace Juniper.Proofs.Helpers
open Juniper.Model.Helpers Juniper.Spec.Helpers Juniper.Gen.Helpers
variable {α : Type}

theorem shuffle_perm (a : List α) (swaps : List (Int × Int))
    (h : ∀ p ∈ swaps, 0 ≤ p.1 ∧ p.1 < shuffleN a.length ∧ 0 ≤ p.2 ∧ p.2 < shuffleN a.length) :
    ∃ a', applySwaps swaps a = some a' ∧ a'.Perm a := by
  replace h : ∀ p ∈ swaps, 0 ≤ p.1 ∧ p.1 < a.length ∧ 0 ≤ p.2 ∧ p.2 < a.length := by
    intro p hp
    have := h p hp
    simp only [shuffleN] at this     -- `r.Shuffle(len(a), …)`
    omega
  induction swaps generalizing a with
  | nil => exact ⟨a, rfl, List.Perm.refl _⟩
  | cons p rest ih =>
    obtain ⟨i, j⟩ := p
    have hp := h (i, j) (by simp)
    simp only at hp
    obtain ⟨i', rfl⟩ := Int.eq_ofNat_of_zero_le hp.1
    obtain ⟨j', rfl⟩ := Int.eq_ofNat_of_zero_le hp.2.2.1
    have hi : i' < a.length := by omega
    have hj : j' < a.length := by omega
    obtain ⟨a', h1, h2⟩ := ih (swapNat a i' j' hi hj) (by
      intro p hp'
      rw [length_swapNat]
      exact h p (List.mem_cons_of_mem _ hp'))
    refine ⟨a', ?_, h2.trans (swapNat_perm a i' j' hi hj)⟩
    simp only [applySwaps, shuffleSwaps, if_true, swapI_nat a i' j' hi hj]
    exact h1

/-- recursive form of the sampler contract: `j` = index of the head decision, `lb` = lower bound
for its `next` -/
def SampRest (k n : Int) : Nat → Int → List (Int × Int) → Prop
  | _, _, [] => True
  | j, lb, d :: ds => lb ≤ d.1 ∧ ((j : Int) < k → d = ((j : Int), (j : Int))) ∧
      (k ≤ (j : Int) → k ≤ d.1 ∧ ((0 ≤ d.2 ∧ d.2 < k) ∨ n ≤ d.1)) ∧ SampRest k n (j + 1) (d.1 + 1) ds

/-- `SampRest` read by index: the three clauses of `SamplerContract` shifted by `j`, and `lb` below the first `next` -/
theorem sampRest_iff_index (k n : Int) : ∀ (l : List (Int × Int)) (j : Nat) (lb : Int), SampRest k n j lb l ↔
    (∀ i (h : i < l.length), ((j + i : Nat) : Int) < k →
      l[i] = (((j + i : Nat) : Int), ((j + i : Nat) : Int))) ∧
    (∀ i (h : i < l.length), k ≤ ((j + i : Nat) : Int) →
      k ≤ l[i].1 ∧ ((0 ≤ l[i].2 ∧ l[i].2 < k) ∨ n ≤ l[i].1)) ∧
    AdjAll (fun a b => a.1 < b.1) l ∧
    (∀ h : 0 < l.length, lb ≤ (l[0]'h).1)
  | [], _, _ => by simp [SampRest, AdjAll]
  | d :: t, j, lb => by
    rw [SampRest, sampRest_iff_index k n t (j+1) (d.1+1), adjAll_cons]
    simp only [List.length_cons, Nat.forall_lt_succ_left', List.getElem_cons_zero, List.getElem_cons_succ,
      ← Nat.add_assoc, Nat.add_right_comm j 1, Nat.add_zero, Int.add_one_le_iff, Nat.zero_lt_succ, forall_const]
    constructor
    · rintro ⟨r1, r2, r3, h1, h2, h3, h4⟩; exact ⟨⟨r2, h1⟩, ⟨r3, h2⟩, ⟨h4, h3⟩, r1⟩
    · rintro ⟨⟨r2, h1⟩, ⟨r3, h2⟩, ⟨h4, h3⟩, r1⟩; exact ⟨r1, r2, r3, h1, h2, h3, h4⟩

theorem sampRest_of_contract (k n : Int) (hk : 0 ≤ k) (ds : List (Int × Int)) (hc : SamplerContract k n ds) :
    SampRest k n 0 0 ds := by
  refine (sampRest_iff_index k n ds 0 0).mpr ⟨?_, ?_, hc.2.2, ?_⟩
  · intro i h hi; simpa using hc.1 i h (by simpa using hi)
  · intro i h hi; simpa using hc.2.1 i h (by simpa using hi)
  · intro h
    by_cases h0 : (0 : Int) < k
    · rw [hc.1 0 h (by simpa using h0)]; simp
    · exact Int.le_trans hk (hc.2.1 0 h (by simp; omega)).1

theorem contract_of_sampRest (k n : Int) (ds : List (Int × Int)) (lb : Int) (h : SampRest k n 0 lb ds) :
    SamplerContract k n ds := by
  obtain ⟨h1, h2, h3, _⟩ := (sampRest_iff_index k n ds 0 lb).mp h
  refine ⟨?_, ?_, h3⟩
  · intro i h hi; simpa using h1 i h (by simpa using hi)
  · intro i h hi; simpa using h2 i h (by simpa using hi)

theorem nodup_set_of_not_mem {β : Type} : ∀ (l : List β) (r : Nat) (v : β), l.Nodup → v ∉ l → (l.set r v).Nodup
  | [], _, _, _, _ => by simp
  | x :: t, 0, v, h, hv => by
    simp only [List.set_cons_zero, List.nodup_cons, List.mem_cons, not_or] at *
    exact ⟨hv.2, h.2⟩
  | x :: t, r + 1, v, h, hv => by
    simp only [List.set_cons_succ, List.nodup_cons, List.mem_cons, not_or] at *
    refine ⟨fun hm => ?_, nodup_set_of_not_mem t r v h.2 hv.2⟩
    rcases List.mem_or_eq_of_mem_set hm with hm | hm
    · exact h.1 hm
    · exact hv.1 hm.symm

/-- invariant of the reservoir: `filled` = the slots already written after `j` decisions -/
structure ResvInv (k n : Int) (j : Nat) (lb : Int) (filled : List Int) : Prop where
  len : filled.length = min j k.toNat
  le : (filled.length : Int) ≤ n
  nd : filled.Nodup
  mem : ∀ p ∈ filled, 0 ≤ p ∧ p < n ∧ p < lb

/-- the reservoir: written slots followed by untouched slots -/
def randResv (k f : Int) (filled : List Int) : List Int :=
  filled ++ List.replicate (k.toNat - filled.length) f

theorem set_append_replicate {β : Type} (l : List β) (m : Nat) (f v : β) :
    (l ++ List.replicate (m + 1) f).set l.length v = l ++ [v] ++ List.replicate m f := by
  rw [List.set_append, if_neg (Nat.lt_irrefl _), Nat.sub_self, List.replicate_succ, List.set_cons_zero,
    List.append_assoc]
  rfl

theorem resvInv_step (k n f : Int) (j : Nat) (lb : Int) (d : Int × Int) (filled : List Int)
    (inv : ResvInv k n j lb filled) (hlb : lb ≤ d.1)
    (h1 : (j : Int) < k → d = ((j : Int), (j : Int)))
    (h2 : k ≤ (j : Int) → k ≤ d.1 ∧ ((0 ≤ d.2 ∧ d.2 < k) ∨ n ≤ d.1))
    (hns : d.1 < n) :
    ∃ filled', setI (randResv k f filled) d.2 d.1 = some (randResv k f filled') ∧
      ResvInv k n (j + 1) (d.1 + 1) filled' := by
  obtain ⟨nx, rp⟩ := d
  simp only at *
  have hlen := inv.len
  have hle := inv.le
  have hmem := inv.mem
  by_cases hj : (j : Int) < k
  · -- fill phase: slot `j` is the first untouched one
    obtain ⟨rfl, rfl⟩ := Prod.mk.inj (h1 hj)
    have hl : filled.length = j := by omega
    obtain ⟨m, hm⟩ : ∃ m, k.toNat = filled.length + (m + 1) := ⟨k.toNat - filled.length - 1, by omega⟩
    clear hlen h1 h2
    refine ⟨filled ++ [(j : Int)], ?_, ⟨?_, ?_, ?_, ?_⟩⟩
    · unfold randResv
      rw [List.length_append, List.length_singleton, hm, Nat.add_sub_cancel_left,
        show filled.length + (m + 1) - (filled.length + 1) = m by omega, ← hl,
        setI_nat _ _ _ (by rw [List.length_append, List.length_replicate]; omega), set_append_replicate]
    · rw [List.length_append, List.length_singleton]; omega
    · rw [List.length_append, List.length_singleton]; omega
    · rw [List.nodup_append]
      refine ⟨inv.nd, by simp, fun a ha b hb => ?_⟩
      rw [List.mem_singleton.mp hb]
      have := hmem a ha
      omega
    · intro p hp
      rcases List.mem_append.mp hp with hp | hp
      · have := hmem p hp; omega
      · rw [List.mem_singleton.mp hp]; omega
  · -- replacement phase: the reservoir is full
    obtain ⟨hkn, hr⟩ := h2 (by omega)
    have hr : 0 ≤ rp ∧ rp < k := by omega
    obtain ⟨r, rfl⟩ := Int.eq_ofNat_of_zero_le hr.1
    have hl : filled.length = k.toNat := by omega
    have hrl : r < filled.length := by omega
    clear hlen h1 h2
    refine ⟨filled.set r nx, ?_, ⟨?_, ?_, ?_, ?_⟩⟩
    · unfold randResv
      rw [List.length_set, setI_nat _ r _ (by rw [List.length_append]; omega), List.set_append, if_pos hrl]
    · rw [List.length_set, hl]; omega
    · rw [List.length_set]; exact hle
    · exact nodup_set_of_not_mem _ _ _ inv.nd (fun hm => by have := hmem nx hm; omega)
    · intro p hp
      rcases List.mem_or_eq_of_mem_set hp with hp | rfl
      · have := hmem p hp; omega
      · omega

theorem resvInv_final (k n : Int) (hk : 0 ≤ k) (j : Nat) (lb : Int) (d : Int × Int) (filled : List Int)
    (inv : ResvInv k n j lb filled)
    (h1 : (j : Int) < k → d = ((j : Int), (j : Int)))
    (hs : n ≤ d.1) : (filled.length : Int) = min k n := by
  have hlen := inv.len
  have hle := inv.le
  by_cases hj : (j : Int) < k
  · have := h1 hj
    subst this
    simp only at hs
    omega
  · omega

theorem randResv_trunc (k n f : Int) (hn : 0 ≤ n) (filled : List Int) (hl : (filled.length : Int) = min k n) :
    (if decide (n < k) then
      (if sliceOk 0 n (randResv k f filled).length then some ((randResv k f filled).take n.toNat) else none)
     else some (randResv k f filled)) = some filled := by
  by_cases hnk : n < k
  · have hs : sliceOk 0 n (randResv k f filled).length = true := by
      rw [sliceOk_iff]; simp [randResv]; omega
    simp only [hnk, decide_true, if_true, hs]
    congr 1
    unfold randResv
    rw [List.take_append_of_le_length (by omega), List.take_of_length_le (by omega)]
  · simp only [hnk, decide_false, Bool.false_eq_true, if_false]
    congr 1
    unfold randResv
    rw [show k.toNat - filled.length = 0 by omega]
    simp

theorem exists_mem_tail {β : Type} {P : β → Prop} {d : β} {t : List β} (h : ∃ x ∈ d :: t, P x) (hd : ¬ P d) :
    ∃ x ∈ t, P x := by
  obtain ⟨x, hx, hp⟩ := h
  rcases List.mem_cons.mp hx with rfl | hx
  · exact absurd hp hd
  · exact ⟨x, hx, hp⟩

theorem reservoirLoop_spec (k n f : Int) (hk : 0 ≤ k) : ∀ (ds : List (Int × Int)) (j : Nat) (lb : Int)
    (filled : List Int), SampRest k n j lb ds → (∃ d ∈ ds, n ≤ d.1) → ResvInv k n j lb filled →
    ∃ filled', reservoirLoop (fun next => decide (next ≥ n)) true ds (randResv k f filled) = some (randResv k f filled') ∧
      (filled'.length : Int) = min k n ∧ filled'.Nodup ∧ ∀ p ∈ filled', 0 ≤ p ∧ p < n
  | [], _, _, _, _, hstop, _ => by simp at hstop
  | d :: t, j, lb, filled, ⟨r1, r2, r3, r4⟩, hstop, inv => by
    by_cases hs : n ≤ d.1
    · refine ⟨filled, ?_, resvInv_final k n hk j lb d filled inv r2 hs, inv.nd, ?_⟩
      · obtain ⟨nx, rp⟩ := d
        simp only [reservoirLoop, ge_iff_le]
        simp only at hs
        simp [hs]
      · intro p hp; have := inv.mem p hp; omega
    · obtain ⟨filled', e, inv'⟩ := resvInv_step k n f j lb d filled inv r1 r2 r3 (by omega)
      have hstop' : ∃ d ∈ t, n ≤ d.1 := exists_mem_tail hstop hs
      obtain ⟨out, e2, rest⟩ := reservoirLoop_spec k n f hk t (j+1) (d.1+1) filled' r4 hstop' inv'
      refine ⟨out, ?_, rest⟩
      obtain ⟨nx, rp⟩ := d
      simp only [reservoirLoop, ge_iff_le]
      simp only at hs e
      simp only [hs, decide_false, Bool.false_eq_true, if_false, if_true, e]
      exact e2

theorem resvInv_init (k n : Int) (hn : 0 ≤ n) (lb : Int) : ResvInv k n 0 lb [] :=
  ⟨by simp, by simpa using hn, by simp, by simp⟩

theorem randResv_nil (k f : Int) : randResv k f [] = List.replicate k.toNat f := by simp [randResv]

theorem reservoirLoop_of_contract (k n f : Int) (hk : 0 ≤ k) (hn : 0 ≤ n) (ds : List (Int × Int))
    (hc : SamplerContract k n ds) (hstop : ∃ d ∈ ds, n ≤ d.1) :
    ∃ out, reservoirLoop (fun next => decide (next ≥ n)) true ds (List.replicate k.toNat f) = some (randResv k f out) ∧
      (out.length : Int) = min k n ∧ out.Nodup ∧ ∀ p ∈ out, 0 ≤ p ∧ p < n :=
  randResv_nil k f ▸
    reservoirLoop_spec k n f hk ds 0 0 [] (sampRest_of_contract k n hk ds hc) hstop (resvInv_init k n hn 0)

/-- `next` is at least `lb` at the head and strictly increasing along `ds` -/
def NextsFrom : Int → List (Int × Int) → Prop
  | _, [] => True
  | lb, d :: ds => lb ≤ d.1 ∧ NextsFrom (d.1 + 1) ds

theorem nextsFrom_of_sampRest {k n : Int} : ∀ (ds : List (Int × Int)) (j : Nat) (lb : Int),
    SampRest k n j lb ds → NextsFrom lb ds
  | [], _, _, _ => trivial
  | _ :: t, j, _, ⟨r1, _, _, r4⟩ => ⟨r1, nextsFrom_of_sampRest t (j + 1) _ r4⟩

/-- The pull loop of `rSampleIterator` / `rSampleStream` walks the source positions `i` and stores at the positions
the decisions name; the reservoir loop of `rSample` / `rSampleSlice` walks the decisions. With increasing `next` and
a stopping decision both leave the same reservoir (and the pull loop has then seen all `n` items). -/
theorem pullLoop_eq_reservoirLoop (n : Int) (take : Int → Int → Bool) (ht : ∀ i nx, take i nx = decide (i = nx)) :
    ∀ (fuel : Nat) (ds : List (Int × Int)) (i : Int) (out : List Int),
    NextsFrom i ds → (∃ d ∈ ds, n ≤ d.1) → i ≤ n → (n - i).toNat + ds.length < fuel →
    pullLoop take true 2 n fuel ds i out =
      (reservoirLoop (fun next => decide (next ≥ n)) true ds out).map (fun o => (o, n))
  | 0, _, _, _, _, _, _, hf => by omega
  | _ + 1, [], _, _, _, hstop, _, _ => by simp at hstop
  | fuel + 1, (nx, rp) :: t, i, out, ⟨h1, h2⟩, hstop, hin, hf => by
    simp only at h1 h2
    simp only [List.length_cons] at hf
    by_cases hi : i ≥ n
    · have hs : n ≤ nx := by omega
      simp [pullLoop, reservoirLoop, hs, show i = n by omega]
    · by_cases he : i = nx
      · subst he
        have hs : ¬ n ≤ i := hi
        simp only [pullLoop, reservoirLoop, ht, hi, ge_iff_le, decide_true, decide_false, ne_eq, not_true_eq_false,
          Bool.false_eq_true, if_true, if_false]
        cases setI out rp i with
        | none => rfl
        | some out' =>
          exact pullLoop_eq_reservoirLoop n take ht fuel t (i + 1) out' h2 (exists_mem_tail hstop hs) (by omega) (by omega)
      · simp only [pullLoop, ht, hi, he, decide_false, ne_eq, not_true_eq_false, Bool.false_eq_true, if_false]
        exact pullLoop_eq_reservoirLoop n take ht fuel ((nx, rp) :: t) (i + 1) out ⟨by omega, h2⟩ hstop (by omega)
          (by simp only [List.length_cons]; omega)

theorem sampleIter_count_distinct_positions (stream : Bool) (n k : Int) (hk : 0 ≤ k) (hn : 0 ≤ n) (ds : List (Int × Int))
    (hc : SamplerContract k n ds) (hstop : ∃ d ∈ ds, n ≤ d.1) :
    ∃ out, rSampleIterPos stream n k ds = some out ∧ (out.length : Int) = min k n ∧ out.Nodup ∧ ∀ p ∈ out, 0 ≤ p ∧ p < n := by
  obtain ⟨out, e, h1, h2, h3⟩ := reservoirLoop_of_contract k n (-1) hk hn ds hc hstop
  refine ⟨out, ?_, h1, h2, h3⟩
  unfold rSampleIterPos
  rw [if_neg (by omega)]
  -- the stores `out[replace] = item` and the two `i++` of `rSampleIterator` / `rSampleStream`
  have hst : (if stream then rstStores else rsiStores) = true := by cases stream <;> simp [rstStores, rsiStores]
  have hin : (if stream then rstIncs else rsiIncs) = 2 := by cases stream <;> simp [rstIncs, rsiIncs]
  simp only [hst, hin]
  rw [pullLoop_eq_reservoirLoop n _ (by intro i nx; cases stream <;> simp [rstTake, rsiTake]) _ ds 0 _
    (nextsFrom_of_sampRest ds 0 0 (sampRest_of_contract k n hk ds hc)) hstop hn (by omega), e]
  have := randResv_trunc k n (-1) hn out h1
  cases stream <;> simpa [rstTrunc, rstTruncHi, rsiTrunc, rsiTruncHi] using this

theorem samp_next_fill (i k : Int) (first : Bool) (skip : Option Int) (rnd maxInt : Int) (h : i < k) :
    Samp.next ⟨i, first, k⟩ skip rnd maxInt = ((i, i), ⟨i + 1, first, k⟩) := by
  simp [Samp.next, sampFill, sampFillJ, sampFillNext, sampFillReplace, sampFillIncs, h]

/-- `int(skip) + 1` is exact for a skip below `MaxInt64` -/
theorem sampAdvance_exact (sk : Int) (h0 : 0 ≤ sk) (h1 : sk < 9223372036854775807) : sampAdvance sk = sk + 1 := by
  unfold sampAdvance; exact wrap64_of_range (by omega) (by omega)

theorem samp_next_first (k sk rnd maxInt : Int) (h0 : 0 ≤ sk) (h1 : sk < 9223372036854775807) :
    Samp.next ⟨k, true, k⟩ (some sk) rnd maxInt = ((k - 1 + (sk + 1), rnd), ⟨k - 1 + (sk + 1), false, k⟩) := by
  simp [Samp.next, sampAdvance_exact sk h0 h1, sampFill, sampFirst, sampFirstDecs, sampFirstClears, sampBad, sampAdvanceAdds,
    sampNext, sampReplace]

theorem samp_next_later (i k sk rnd maxInt : Int) (h : k ≤ i) (h0 : 0 ≤ sk) (h1 : sk < 9223372036854775807) :
    Samp.next ⟨i, false, k⟩ (some sk) rnd maxInt = ((i + (sk + 1), rnd), ⟨i + (sk + 1), false, k⟩) := by
  have h' : ¬ i < k := by omega
  simp [Samp.next, sampAdvance_exact sk h0 h1, sampFill, sampFirst, sampBad, sampAdvanceAdds,
    sampNext, sampReplace, h']

theorem samplerRun_sampRest (k n maxInt : Int) : ∀ (m : Nat) (s : Samp) (script : List (Option Int × Int))
    (idx : Nat) (lb : Int), s.k = k →
    (∀ e ∈ script, ∃ sk, e.1 = some sk ∧ 0 ≤ sk ∧ sk < 9223372036854775807 ∧ 0 ≤ e.2 ∧ e.2 < k) →
    ((s.first = true ∧ s.i = idx ∧ (idx : Int) ≤ k ∧ lb ≤ idx) ∨
      (s.first = false ∧ k ≤ s.i ∧ k ≤ (idx : Int) ∧ lb ≤ s.i + 1)) →
    SampRest k n idx lb (samplerRun maxInt m s script)
  | 0, _, _, _, _, _, _, _ => trivial
  | m + 1, ⟨i, first, k'⟩, script, idx, lb, hk', hs, hst => by
    simp only at hk' hst
    subst hk'
    by_cases hf : i < k'
    · -- fill phase
      have hA : first = true ∧ i = idx ∧ (idx : Int) ≤ k' ∧ lb ≤ idx := by
        rcases hst with h | h
        · exact h
        · omega
      obtain ⟨rfl, rfl, _, hlb⟩ := hA
      have hfill : Samp.filling ⟨(idx : Int), true, k'⟩ = true := by simp [Samp.filling, sampFill, hf]
      simp only [samplerRun, hfill, if_true, samp_next_fill _ _ _ _ _ _ hf]
      refine ⟨hlb, fun _ => rfl, fun h => by omega, ?_⟩
      exact samplerRun_sampRest k' n maxInt m _ script (idx + 1) _ rfl hs
        (Or.inl ⟨rfl, by simp, by omega, by omega⟩)
    · have hfill : Samp.filling ⟨i, first, k'⟩ = false := by simp [Samp.filling, sampFill, hf]
      cases script with
      | nil => simp only [samplerRun, hfill]; trivial
      | cons e rest =>
        obtain ⟨skip, rnd⟩ := e
        obtain ⟨sk, hsk, hsk0, hsk1, hr0, hrk⟩ := hs (skip, rnd) (by simp)
        simp only at hsk hr0 hrk
        subst hsk
        have hs' : ∀ e ∈ rest, ∃ sk, e.1 = some sk ∧ 0 ≤ sk ∧ sk < 9223372036854775807 ∧ 0 ≤ e.2 ∧ e.2 < k' :=
          fun e he => hs e (List.mem_cons_of_mem _ he)
        rcases hst with ⟨rfl, hi, hik, hlb⟩ | ⟨rfl, hi, hik, hlb⟩
        · have : i = k' := by omega
          subst this
          simp only [samplerRun, hfill, samp_next_first _ _ _ _ hsk0 hsk1]
          refine ⟨by omega, fun h => by omega, fun _ => ⟨by omega, Or.inl ⟨hr0, hrk⟩⟩, ?_⟩
          exact samplerRun_sampRest i n maxInt m _ rest (idx + 1) _ rfl hs'
            (Or.inr ⟨rfl, by simp only; omega, by omega, by simp only; omega⟩)
        · simp only [samplerRun, hfill, samp_next_later _ _ _ _ _ hi hsk0 hsk1]
          refine ⟨by omega, fun h => by omega, fun _ => ⟨by omega, Or.inl ⟨hr0, hrk⟩⟩, ?_⟩
          exact samplerRun_sampRest k' n maxInt m _ rest (idx + 1) _ rfl hs'
            (Or.inr ⟨rfl, by simp only; omega, by omega, by simp only; omega⟩)

theorem sampler_decisions_contract (k n maxInt : Int) (hk : 0 ≤ k) (m : Nat) (script : List (Option Int × Int))
    (hs : ∀ e ∈ script, ∃ sk, e.1 = some sk ∧ 0 ≤ sk ∧ sk < 9223372036854775807 ∧ 0 ≤ e.2 ∧ e.2 < k) :
    SamplerContract k n (samplerRun maxInt m (newSamp k) script) :=
  contract_of_sampRest k n _ 0 (samplerRun_sampRest k n maxInt m (newSamp k) script 0 0 rfl hs
    (Or.inl ⟨rfl, rfl, by simpa using hk, by simp⟩))

end Juniper.Proofs.Helpers
