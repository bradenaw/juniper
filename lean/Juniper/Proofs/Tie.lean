/-! A *tie* is a closed fact saying that something regenerated from the Go source (a control skeleton, a wiring
fact) is what a hand-written model was written against. -/
namespace Juniper.Proofs

/-- `p`, claimed only for a source for which the tie `k` holds. A lemma stated `under` a tie can be used only where
the tie has been proved, and the tie is part of its proof term: a changed fact stops the tie and with it the build of the lemma's users. -/
theorem under {k p : Prop} (_tie : k) (h : p) : p := h

end Juniper.Proofs
