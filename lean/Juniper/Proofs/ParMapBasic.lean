import Juniper.Model.ParMap
import Juniper.Proofs.ParMapTies
/-! Basic facts for the `parallel.MapStream` / `MapIterator` models: the regenerated guards, channel
capacities and `select` tables mean what the proofs assume (`Code.Sound`), and the clamps, the two counted loops and the
channel capacities in closed form (`S.par_eq` … `S.cCap_eq`, `I.par_eq` … `I.buf_pos`). -/
namespace Juniper.Proofs.ParMap
open Juniper.Gen Juniper.Facts Juniper.Model.ParMap

/-- The sites regenerated from `parallel.MapStream` / `mapStream.Next` / `mapStream.Close` are the ones the
proofs are about (guards, capacities of `in` / `ready` / `c`, the four `select` tables, `defer s.Close()`,
`defer close(in)`, `close(c)`, the token release, `Close` = cancel then wait, the origin of the context), for
bodies whose control skeletons are the ones `Stream.step` hard-wires — **given** the ties `t`. The ties are
not proved here: every property theorem supplies `stream_ties` (decided inside its own proof). -/
theorem stream_code_sound (t : StreamTies) : Stream.code.Sound := t.sound

/-- The sites regenerated from `parallel.MapIterator` / `mapIterator.Next` (among them the lock / cond
discipline `Iter.sectionsAtomic`), for bodies whose control skeletons are the ones `Iter.step` hard-wires —
**given** the ties `t` (`iter_ties`, decided inside every property theorem). -/
theorem iter_code_sound (t : IterTies) : Iter.code.Sound := t.sound

theorem loopCount_lt (cond : Int → Bool) (p : Int) (hc : ∀ j, cond j = decide (j < p)) :
    ∀ (fuel : Nat) (j : Int), 0 ≤ j → (p - j).toNat ≤ fuel → loopCount cond fuel j = (p - j).toNat := by
  intro fuel
  induction fuel with
  | zero => intro j _ h; simp [loopCount]; omega
  | succ f ih =>
    intro j hj h
    simp only [loopCount, hc]
    by_cases hlt : j < p
    · simp [hlt]
      rw [ih (j + 1) (by omega) (by omega)]
      omega
    · simp [hlt]; omega

namespace S
open Juniper.Model.ParMap.Stream

theorem par_eq {cfg : Cfg} (hs : cfg.code.Sound) : par cfg = if cfg.P ≤ 0 then (cfg.gmp : Int) else cfg.P := by
  simp [par, hs.clampLow]

theorem buf_eq {cfg : Cfg} (hs : cfg.code.Sound) : buf cfg = max cfg.B (par cfg) := by
  simp only [buf, hs.bufClamp]; split <;> simp_all <;> omega

theorem numWorkers_eq {cfg : Cfg} (hs : cfg.code.Sound) : numWorkers cfg = (par cfg).toNat := by
  unfold numWorkers
  rw [loopCount_lt _ (par cfg) (fun j => hs.spawnLoop j _) _ 0 (by omega) (by omega)]; simp

theorem numTokens_eq {cfg : Cfg} (hs : cfg.code.Sound) : numTokens cfg = (buf cfg).toNat := by
  unfold numTokens
  rw [loopCount_lt _ (buf cfg) (fun j => hs.tokenLoop j _) _ 0 (by omega) (by omega)]; simp

theorem readyCap_eq {cfg : Cfg} (hs : cfg.code.Sound) : readyCap cfg = (buf cfg).toNat := by
  rw [readyCap, hs.readyCap]

theorem cCap_eq {cfg : Cfg} (hs : cfg.code.Sound) : cCap cfg = (buf cfg).toNat := by
  rw [cCap, hs.cCap]

theorem par_pos {cfg : Cfg} (hs : cfg.code.Sound) (hg : 1 ≤ cfg.gmp) : 1 ≤ par cfg := by
  rw [par_eq hs]; split <;> omega

theorem numWorkers_cast {cfg : Cfg} (hs : cfg.code.Sound) (hg : 1 ≤ cfg.gmp) :
    (numWorkers cfg : Int) = par cfg ∧ 1 ≤ numWorkers cfg := by
  have := par_pos hs hg
  rw [numWorkers_eq hs]; omega

end S

namespace I
open Juniper.Model.ParMap.Iter

theorem par_eq {cfg : Cfg} (hs : cfg.code.Sound) : par cfg = if cfg.P ≤ 0 then (cfg.gmp : Int) else cfg.P := by
  simp [par, hs.clampLow]

theorem buf_eq {cfg : Cfg} (hs : cfg.code.Sound) : buf cfg = max cfg.B (par cfg) := by
  simp only [buf, hs.bufClamp]; split <;> simp_all <;> omega

theorem numWorkers_eq {cfg : Cfg} (hs : cfg.code.Sound) : numWorkers cfg = (par cfg).toNat := by
  unfold numWorkers
  rw [loopCount_lt _ (par cfg) (fun j => hs.spawnLoop j _) _ 0 (by omega) (by omega)]; simp

theorem par_pos {cfg : Cfg} (hs : cfg.code.Sound) (hg : 1 ≤ cfg.gmp) : 1 ≤ par cfg := by
  rw [par_eq hs]; split <;> omega

theorem numWorkers_cast {cfg : Cfg} (hs : cfg.code.Sound) (hg : 1 ≤ cfg.gmp) :
    (numWorkers cfg : Int) = par cfg ∧ 1 ≤ numWorkers cfg := by
  have := par_pos hs hg
  rw [numWorkers_eq hs]; omega

theorem buf_pos {cfg : Cfg} (hs : cfg.code.Sound) (hg : 1 ≤ cfg.gmp) : 1 ≤ buf cfg := by
  have := par_pos hs hg; rw [buf_eq hs]; omega

end I

end Juniper.Proofs.ParMap
