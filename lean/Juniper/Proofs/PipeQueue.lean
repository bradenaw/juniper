import Juniper.Proofs.PipeStep
/-!
Wait-queue discipline of the unbuffered data channel: a `Send` and a `Next` are never parked at the
same time. (The one that arrives second finds the first in the wait queue when it polls — `handoff` —
instead of parking; the poll-and-park of the Go runtime is atomic, and so is the `park` label.) With
`canHandoff` requiring *exactly one* parked side, this is what rules out a lost rendez-vous: a pending
`Send` and a pending `Next` on an unbuffered pipe always have an enabled step
(`unbuffered_send_meets_next`, `Props/C10.lean`).
-/
namespace Juniper.Proofs.Pipe
open Juniper.Facts Juniper.Gen.Pipe Juniper.Model.Pipe

/-- The facts about the regenerated tables this needs: `Send` offers on the data channel, `Next`
accepts from it. -/
structure QueueFacts : Prop where
  sendData : sendArms.contains (.send chData) = true
  nextData : nextArms.contains (.recv chData) = true

def QInv (st : State) : Prop :=
  st.cap = 0 → st.rpc.parked = true → ∀ sd ∈ st.senders, sd.pc.parked = false

theorem parked_send {pc : SPc} (h : pc.parked = true) : ∃ m, pc = .send m true := by
  cases pc with
  | send m p => simp [SPc.parked] at h; subst h; exact ⟨m, rfl⟩
  | _ => simp [SPc.parked] at h

theorem parked_next {pc : RPc} (h : pc.parked = true) : pc = .next true := by
  cases pc with
  | next p => simp [RPc.parked] at h; subst h; rfl
  | _ => simp [RPc.parked] at h

theorem qinv_setSender {st : State} {i : Nat} {sd' : Sender} (h : QInv st)
    (hp : st.cap = 0 → st.rpc.parked = true → sd'.pc.parked = false) : QInv (st.setSender i sd') :=
  fun hc hr => ListStore.forall_mem_set i (h hc hr) (hp hc hr)

theorem canHandoff_send_next {st : State} {sd : Sender} {m : Msg} {p q : Bool} (hF : QueueFacts)
    (hc : st.cap = 0) (hpc : sd.pc = .send m p) (hr : st.rpc = .next q) (hpq : p ≠ q) :
    canHandoff st sd = true := by
  simp only [canHandoff, offers, accepts, hpc, hr, tableOf, rtableOf, SPc.parked, RPc.parked, hc,
    hF.sendData, hF.nextData, beq_self_eq_true, Bool.true_and, bne_iff_ne]
  exact hpq

theorem qinv_step {st st' : State} {l : Label} (hF : QueueFacts) (h : QInv st) (hs : Step st l st') :
    QInv st' := by
  cases hs with
  | @sender _ sd _ _ hsd hmv =>
    refine qinv_setSender h fun hc hr => ?_
    cases hmv with
    | cancel _ => exact h hc hr sd (List.mem_of_getElem? hsd)
    | recvArm _ _ _ => exact after_parked _ _
    | dflt _ _ _ => exact after_parked _ _
    | park hpc hready =>
      -- the poll would have found the parked `Next` instead of parking
      cases (canHandoff_send_next hF hc hpc (parked_next hr) nofun).symm.trans (sDefaultReady_iff.1 hready).2
    | _ => rfl
  | recv hmv =>
    cases hmv with
    | cancelNext _ => exact h
    | park hpc hready =>
      intro hc _ sd hmem
      cases hp : sd.pc.parked with
      | false => rfl
      | true =>
        obtain ⟨m, hm⟩ := parked_send hp
        cases (canHandoff_send_next (st := st) hF hc hm hpc nofun).symm.trans ((rDefaultReady_iff.1 hready).2 sd hmem)
    | _ => exact fun _ hr => nomatch hr
  | closeSender _ _ => exact h
  | closeRecv _ _ => exact h
  | commit _ _ _ _ => exact qinv_setSender (st := st) h fun _ _ => after_parked _ _
  | handoff _ _ _ => exact fun _ hr => nomatch hr
  | pop _ _ => exact fun _ hr => nomatch hr

theorem qinv_reach {n b : Nat} {st : State} (hF : QueueFacts) (hr : Reach (init n b) st) : QInv st := by
  induction hr with
  | refl => exact fun _ hr => nomatch hr
  | step _ hs ih => exact qinv_step hF ih (.of_step hs)

end Juniper.Proofs.Pipe
