import Juniper.Model.Watch
import Juniper.Proofs.ListStore
/-! `Watchable` (C18): `wstep WCfg.std` as a relation (`WStep`) and the invariant `WatchInv`. -/
namespace Juniper.Proofs.Watch
open Juniper.Model.Watch Juniper.ListStore

theorem cellAt_eq {s : WState} {c : Nat} {ce : Cell} (h : s.cells[c]? = some ce) : cellAt s c = ce := by
  rw [cellAt, h]; rfl

inductive WStep (s : WState) : WLabel → WState → Prop where
  | swap {i : Nat} {v : Int} : s.setters[i]? = some (v, .idle) →
      WStep s (.swap i) { s with ptr := some s.cells.length, hist := s.hist ++ [v],
                                 cells := s.cells ++ [{ val := some v, closed := false, epoch := (s.hist ++ [v]).length }],
                                 setters := s.setters.set i (v, .swapped s.ptr) }
  /-- `oldInner == nil`: nothing to close -/
  | skip {i : Nat} {v : Int} : s.setters[i]? = some (v, .swapped none) →
      WStep s (.close i) { s with setters := s.setters.set i (v, .done) }
  | closePanic {i : Nat} {v : Int} {oc : Nat} : s.setters[i]? = some (v, .swapped (some oc)) → (cellAt s oc).closed = true →
      WStep s (.close i) { s with setters := s.setters.set i (v, .panicked) }
  | close {i : Nat} {v : Int} {oc : Nat} : s.setters[i]? = some (v, .swapped (some oc)) → (cellAt s oc).closed = false →
      WStep s (.close i) { s with cells := s.cells.set oc { cellAt s oc with closed := true },
                                  setters := s.setters.set i (v, .done) }
  | load {j c : Nat} : s.readers[j]? = some .idle → s.ptr = some c →
      WStep s (.load j) (setReader s j (.done c s.hist.length))
  | sawNil {j : Nat} : s.readers[j]? = some .idle → s.ptr = none →
      WStep s (.load j) (setReader s j .sawNil)
  | cas {j : Nat} : s.readers[j]? = some .sawNil → s.ptr = none →
      WStep s (.cas j) (setReader { s with ptr := some s.cells.length,
                                           cells := s.cells ++ [{ val := none, closed := false, epoch := s.hist.length }] }
                          j (.done s.cells.length s.hist.length))
  | casFail {j c : Nat} : s.readers[j]? = some .sawNil → s.ptr = some c →
      WStep s (.cas j) (setReader s j .casFailed)
  | reload {j c : Nat} : s.readers[j]? = some .casFailed → s.ptr = some c →
      WStep s (.reload j) (setReader s j (.done c s.hist.length))
  /-- `inner.t` on a nil `inner` -/
  | derefNil {j : Nat} : s.readers[j]? = some .casFailed → s.ptr = none →
      WStep s (.reload j) (setReader s j .panicked)

theorem wstep_iff {s s' : WState} {l : WLabel} : wstep WCfg.std s l = some s' ↔ WStep s l s' := by
  constructor
  · intro h
    revert h
    -- `fun_cases` follows the branches of `wstep`: those that return `none` go by `cases h`, which in the others puts the
    -- successor state in; what remains comes in the order of the constructors of `WStep`, with three branches that the
    -- standard configuration does not have in between
    fun_cases wstep WCfg.std s l <;> intro h <;> cases h
    · rename_i hi _; simp only [setSetter, modify_eq_set hi]; exact .swap hi
    · cases ‹(!WCfg.std.setClosesOld) = true›
    · rename_i hi; simp only [setSetter, modify_eq_set hi]; exact .skip hi
    · exact absurd rfl ‹¬ WCfg.std.setCloseGuarded = true›
    · rename_i hc hi; simp only [setSetter, modify_eq_set hi]; exact .closePanic hi hc
    · rename_i hc hi; simp only [setSetter, modify_eq_set hi]; exact .close hi (Bool.eq_false_iff.mpr hc)
    · exact .load ‹_› ‹_›
    · exact .sawNil ‹_› ‹_›
    · exact .cas ‹_› ‹_›
    · exact .casFail ‹_› ‹_›
    · exact absurd rfl ‹¬ WCfg.std.ptrAtomic = true›
    · exact .reload ‹_› ‹_›
    · exact .derefNil ‹_› ‹_›
  · intro h
    cases h with
    | swap hi | skip hi | closePanic hi _ | close hi _ => simp [wstep, WCfg.std, setSetter, modify_eq_set hi, *]
    | _ => simp [wstep, WCfg.std, *]

/-- some `Set` call has swapped cell `c` out and has not yet closed its channel -/
def Closing (s : WState) (c : Nat) : Prop := ∃ (i : Nat) (v : Int), s.setters[i]? = some (v, .swapped (some c))

structure WatchInv (s : WState) : Prop where
  ptr_last : ∀ c, s.ptr = some c → c + 1 = s.cells.length
  ptr_none : s.ptr = none → s.cells = [] ∧ s.hist = []
  cell : ∀ (c : Nat) (ce : Cell), s.cells[c]? = some ce →
      ce.epoch ≤ s.hist.length ∧ ce.val = latest (s.hist.take ce.epoch) ∧
      (c + 1 = s.cells.length → ce.epoch = s.hist.length ∧ ce.closed = false) ∧
      (c + 1 < s.cells.length → ce.epoch < s.hist.length ∧ (ce.closed = true ∨ Closing s c))
  setter : ∀ (i : Nat) (v : Int) (oc : Nat), s.setters[i]? = some (v, .swapped (some oc)) → oc + 1 < s.cells.length
  reader : ∀ (j c lin : Nat), s.readers[j]? = some (.done c lin) → ∃ ce, s.cells[c]? = some ce ∧ ce.epoch = lin

theorem winit_idle (vals : List Int) (r : Nat) :
    (∀ (i : Nat) (v : Int) (pc : SetPc), (winit vals r).setters[i]? = some (v, pc) → pc = .idle) ∧
    ∀ (j : Nat) (pc : ValPc), (winit vals r).readers[j]? = some pc → pc = .idle := by
  refine ⟨fun i v pc h => ?_, fun j pc h => List.eq_of_mem_replicate (List.mem_of_getElem? h)⟩
  obtain ⟨_, _, e⟩ := List.mem_map.mp (List.mem_of_getElem? h)
  cases e; rfl

theorem winv_init (vals : List Int) (r : Nat) : WatchInv (winit vals r) :=
  ⟨nofun, fun _ => ⟨rfl, rfl⟩, nofun, fun i v _ h => (nomatch (winit_idle vals r).1 i v _ h),
    fun j _ _ h => (nomatch (winit_idle vals r).2 j _ h)⟩

theorem winv_ptr_cell {s : WState} (hI : WatchInv s) {c : Nat} (hp : s.ptr = some c) :
    ∃ ce, s.cells[c]? = some ce ∧ ce.epoch = s.hist.length ∧ ce.closed = false := by
  have hl := hI.ptr_last c hp
  cases hce : s.cells[c]? with
  | none => have := List.getElem?_eq_none_iff.mp hce; omega
  | some ce => exact ⟨ce, rfl, (hI.cell c ce hce).2.2.1 hl⟩

theorem Closing.set {s t : WState} {i c : Nat} {p q : Int × SetPc} (hc : Closing s c) (ht : t.setters = s.setters.set i q)
    (hi : s.setters[i]? = some p) (hp : p.2 ≠ .swapped (some c)) : Closing t c := by
  obtain ⟨k, v, hk⟩ := hc
  have hik : i ≠ k := fun e => hp (by cases (e ▸ hi).symm.trans hk; rfl)
  exact ⟨k, v, by rw [ht, List.getElem?_set_ne hik]; exact hk⟩

theorem winv_swap {s : WState} {i : Nat} {v : Int} (hI : WatchInv s) (hi : s.setters[i]? = some (v, .idle)) :
    WatchInv { s with ptr := some s.cells.length, hist := s.hist ++ [v],
                      cells := s.cells ++ [{ val := some v, closed := false, epoch := (s.hist ++ [v]).length }],
                      setters := s.setters.set i (v, .swapped s.ptr) } := by
  refine ⟨fun c hc => ?_, nofun, fun c ce hce => ?_, fun k v' oc hk => ?_, fun j c lin hj => ?_⟩
  · cases hc; simp
  · rcases getElem?_concat_some hce with h | ⟨rfl, rfl⟩
    · simp only [List.length_append, List.length_singleton]
      obtain ⟨h1, h2, h3, h4⟩ := hI.cell c ce h
      have hlt := (List.getElem?_eq_some_iff.mp h).1
      refine ⟨by omega, by rw [List.take_append_of_le_length h1]; exact h2, by omega, fun _ => ⟨by omega, ?_⟩⟩
      by_cases hlast : c + 1 = s.cells.length
      · -- the cell that was current: the swapping setter holds it now
        have hp : s.ptr = some c := by
          cases hptr : s.ptr with
          | none => rw [(hI.ptr_none hptr).1] at hlt; cases hlt
          | some c' => have := hI.ptr_last c' hptr; congr; omega
        exact .inr ⟨i, v, by rw [hp]; exact List.getElem?_set_self (List.getElem?_eq_some_iff.mp hi).1⟩
      · exact (h4 (by omega)).2.imp id (·.set rfl hi nofun)
    · exact ⟨Nat.le_refl _, ((congrArg latest List.take_length).trans List.getLast?_concat).symm, fun _ => ⟨rfl, rfl⟩,
        fun h => by simp at h⟩
  · simp only [List.length_append, List.length_singleton]
    rcases getElem?_set_some hk with ⟨_, e⟩ | ⟨_, h⟩
    · have := hI.ptr_last oc (SetPc.swapped.inj (Prod.mk.inj e).2).symm; omega
    · have := hI.setter k v' oc h; omega
  · exact (hI.reader j c lin hj).imp fun ce h => ⟨getElem?_append_of_some _ h.1, h.2⟩

theorem winv_setter {s : WState} {i : Nat} {p : Int × SetPc} (hI : WatchInv s) (hp : ∀ oc, p.2 ≠ .swapped (some oc))
    (hcl : ∀ c ce, s.cells[c]? = some ce → Closing s c →
      ce.closed = true ∨ Closing { s with setters := s.setters.set i p } c) :
    WatchInv { s with setters := s.setters.set i p } := by
  refine ⟨hI.ptr_last, hI.ptr_none, fun c ce hce => ?_, fun k v oc hk => ?_, hI.reader⟩
  · obtain ⟨h1, h2, h3, h4⟩ := hI.cell c ce hce
    exact ⟨h1, h2, h3, fun hlt => ⟨(h4 hlt).1, (h4 hlt).2.elim .inl (hcl c ce hce)⟩⟩
  · exact hI.setter k v oc (getElem?_of_set_ne hk fun e => hp oc (e ▸ rfl))

theorem winv_closeCell {s : WState} {oc : Nat} (hI : WatchInv s) (hoc : oc + 1 < s.cells.length) :
    WatchInv { s with cells := s.cells.set oc { cellAt s oc with closed := true } } := by
  cases hget : s.cells[oc]? with
  | none => have := List.getElem?_eq_none_iff.mp hget; omega
  | some ce0 =>
    rw [cellAt_eq hget]
    refine ⟨fun c h => (hI.ptr_last c h).trans List.length_set.symm, fun hp => ?_, fun c ce hce => ?_,
      fun i v oc' h => Nat.lt_of_lt_of_eq (hI.setter i v oc' h) List.length_set.symm, fun j c lin hj => ?_⟩
    · rw [(hI.ptr_none hp).1] at hoc; cases hoc
    · simp only [List.length_set]
      rcases getElem?_set_some hce with ⟨rfl, rfl⟩ | ⟨_, h⟩
      · obtain ⟨h1, h2, _, h4⟩ := hI.cell oc ce0 hget
        exact ⟨h1, h2, by omega, fun hlt => ⟨(h4 hlt).1, .inl rfl⟩⟩
      · exact hI.cell c ce h
    · obtain ⟨ce, hce, he⟩ := hI.reader j c lin hj
      by_cases h : oc = c
      · subst h
        cases hget.symm.trans hce
        exact ⟨_, List.getElem?_set_self (by omega), he⟩
      · exact ⟨ce, by rw [List.getElem?_set_ne h]; exact hce, he⟩

theorem winv_step {s s' : WState} {l : WLabel} (hI : WatchInv s) (h : WStep s l s') : WatchInv s' := by
  have hrd : ∀ {j : Nat} {pc : ValPc}, (∀ c lin, pc = .done c lin → ∃ ce, s.cells[c]? = some ce ∧ ce.epoch = lin) →
      WatchInv (setReader s j pc) := fun hpc =>
    ⟨hI.ptr_last, hI.ptr_none, hI.cell, hI.setter, fun k c lin hk =>
      (getElem?_set_some hk).elim (fun e => hpc c lin e.2.symm) (fun e => hI.reader k c lin e.2)⟩
  cases h with
  | swap hi => exact winv_swap hI hi
  | @skip i v hi => exact winv_setter hI nofun fun c ce _ hc => .inr (hc.set rfl hi nofun)
  | @closePanic i v oc hi hcl =>
    refine winv_setter hI nofun fun c ce hce hc => ?_
    by_cases h : c = oc
    · exact .inl (by rw [← cellAt_eq hce, h]; exact hcl)
    · exact .inr (hc.set rfl hi fun e => h (by cases e; rfl))
  | @close i v oc hi hcl =>
    refine winv_setter (winv_closeCell hI (hI.setter i v oc hi)) nofun fun c ce hce hc => ?_
    by_cases h : c = oc
    · subst h
      rcases getElem?_set_some hce with ⟨_, rfl⟩ | ⟨h, _⟩
      · exact .inl rfl
      · exact absurd rfl h
    · exact .inr (Closing.set (s := s) hc rfl hi fun e => h (by cases e; rfl))
  | load _ hp | reload _ hp =>
    exact hrd fun c lin e => by cases e; exact (winv_ptr_cell hI hp).imp fun ce h => ⟨h.1, h.2.1⟩
  | sawNil | casFail | derefNil => exact hrd nofun
  | @cas j hj hp =>
    obtain ⟨hc, hh⟩ := hI.ptr_none hp
    unfold setReader
    refine ⟨fun c e => ?_, nofun, fun c ce hce => ?_, fun i v oc hi => ?_, fun k c lin hk => ?_⟩
    · cases e; simp
    · rcases getElem?_concat_some hce with h | ⟨rfl, rfl⟩
      · rw [hc] at h; cases h
      · simp [hc, hh, latest]
    · have := hI.setter i v oc hi
      rw [hc] at this; cases this
    · rcases getElem?_set_some hk with ⟨_, e⟩ | ⟨_, h⟩
      · cases e; exact ⟨_, List.getElem?_concat_length, rfl⟩
      · obtain ⟨ce, hce, _⟩ := hI.reader k c lin h
        rw [hc] at hce; cases hce

theorem winv_reach {s : WState} (h : WReach WCfg.std s) : WatchInv s := by
  induction h with
  | init vals r => exact winv_init vals r
  | step l _ hs ih => exact winv_step ih (wstep_iff.mp hs)


end Juniper.Proofs.Watch
