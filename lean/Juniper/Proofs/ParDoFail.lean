import Juniper.Proofs.ParDoState
/-! Inductive invariants of the `parallel.Do` / `DoContext` LTS, part 4: failure tracking (a failed call
or a skipped index leaves a trace until the return), the `parallelism - 1` bound on calls that begin
with a cancelled context. -/

namespace Juniper.Proofs.ParDo
open Juniper.Gen Juniper.Model.ParDo

def hasFail (s : St) : Bool := s.ended.any (·.2.isErr)

theorem noFailure_iff (s : St) : noFailure s ↔ hasFail s = false := by
  simp [noFailure, hasFail]

def isRetF : Pc → Bool
  | .retErr (.f _) => true
  | _ => false

/-- the trace an error leaves, for a class `p` of returning workers: errgroup has recorded an error, or a
worker of that class has not run errgroup's bookkeeping yet, or (sequential path) the call has returned the
error of such a worker -/
def traced (p : Pc → Bool) (s : St) : Prop :=
  s.egErr ≠ none ∨ 0 < cnt p s.ws ∨ ∃ e, s.ret = some (some e) ∧ p (.retErr e) = true

/-- a trace stays: a worker leaves `retErr` only through errgroup's bookkeeping, which records an error
unless one is recorded already, or (sequential path) when the call returns its error -/
theorem Step.traced_mono {cfg : Cfg} {s s' : St} {l : Label} {p : Pc → Bool}
    (hp : ∀ pc, isRetErr pc = false → p pc = false) (h : Step cfg s l s') (ht : traced p s) : traced p s' := by
  rcases ht with he | hc | ⟨e, hr, hpe⟩
  · exact .inl (by cases h <;> first | exact he | nofun)
  · cases h with
    | egFirst => exact .inl nofun
    | egLater _ _ he => exact .inl he
    | @retSeqErr e _ _ hws =>
      refine .inr (.inr ⟨e, rfl, ?_⟩)
      cases hpe : p (.retErr e)
      · rw [hws, cnt_singleton, hpe] at hc; cases hc
      · rfl
    | callerCancel | retSeq | retPar => exact .inr (.inl hc)
    | fetchDone hw | fetchCheck hw | fetchCall hw | checkSkip hw | checkPass hw | «begin» hw | fEndErr hw
    | fEndSeqNext hw | fEndSeqLast hw | fEndPar hw =>
      exact .inr (.inl (Nat.lt_of_lt_of_le hc (cnt_set_ge hw (hp _ rfl))))
  · cases h with
    | retSeq hr' | retSeqErr hr' | retPar hr' => cases hr'.symm.trans hr
    | _ => exact .inr (.inr ⟨e, hr, hpe⟩)

theorem hasFail_snoc_ok {s : St} {i v : Nat} :
    hasFail { s with ended := s.ended ++ [(i, .ok v)] } = hasFail s := by
  simp [hasFail, Res.isErr]

/-- failure tracking: a failed call or a skipped index leaves a trace until the return, a failed call a
trace of its own; without them no worker stops before the counter has passed `n` -/
structure FailInv (cfg : Cfg) (s : St) : Prop where
  trace : s.skipped ≠ [] → traced isRetErr s
  traceF : hasFail s = true → traced isRetF s
  clean : (hasFail s = false ∧ s.skipped = []) →
    cnt isRetErr s.ws = 0 ∧ (0 < cnt isDone s.ws → (cfg.n : Int) ≤ s.x)

theorem failInv_init (cfg : Cfg) (hs : cfg.code.Sound) : FailInv cfg (init cfg) := by
  unfold init
  split <;> refine ⟨?_, ?_, ?_⟩ <;> simp [hasFail, hs.seqLoop, hs.seqInit, effN_eq hs]
  · split <;> simp [isRetErr, isDone]; omega
  · simp [isRetErr, isDone]

theorem failInv_step {cfg : Cfg} {s s' : St} {l : Label} (hi : FailInv cfg s)
    (h : Step cfg s l s') : FailInv cfg s' := by
  obtain ⟨iTrace, iTraceF, iClean⟩ := hi
  have m1 : traced isRetErr s → traced isRetErr s' := h.traced_mono fun _ h => h
  have mc : traced isRetF s → traced isRetF s' :=
    h.traced_mono fun pc h => by cases pc <;> first | rfl | cases h
  refine ⟨?_, ?_, ?_⟩
  · cases h with
    | checkSkip hw => exact fun _ => .inr (.inl (cnt_set_pos hw rfl))
    | _ => exact fun hf => m1 (iTrace hf)
  · cases h with
    | fEndErr hw => exact fun _ => .inr (.inl (cnt_set_pos hw rfl))
    | fEndSeqNext | fEndSeqLast | fEndPar => exact fun hf => mc (iTraceF (hasFail_snoc_ok ▸ hf))
    | _ => exact fun hf => mc (iTraceF hf)
  · -- a step from a clean state to a pc that is neither returning nor done
    have stay : ∀ {w a}, (hasFail s = false ∧ s.skipped = []) → isRetErr a = false → isDone a = false →
        s'.x = s.x ∨ s'.x = s.x + 1 → s'.ws = s.ws.set w a → cnt isRetErr s'.ws = 0 ∧
          (0 < cnt isDone s'.ws → (cfg.n : Int) ≤ s'.x) := fun g h1 h2 hx hws => by
      obtain ⟨c0, d⟩ := iClean g
      rw [hws]
      exact ⟨cnt_set_zero c0 h1, fun hd => by have := d (Nat.lt_of_lt_of_le hd (cnt_set_le h2)); omega⟩
    cases h with
    | checkSkip => exact fun g => nomatch List.append_eq_nil_iff.1 g.2
    | fEndErr => exact fun g => by simp [hasFail, Res.isErr] at g
    | fetchDone _ _ hx | fEndSeqLast _ _ hx =>
      refine fun g => ⟨cnt_set_zero (iClean ?_).1 rfl, fun _ => hx⟩; simpa [hasFail, Res.isErr] using g
    | egFirst hw | egLater hw => exact fun g => absurd (iClean g).1 (Nat.ne_of_gt (cnt_pos hw rfl))
    | retSeqErr _ _ hws => exact fun g => by have := (iClean g).1; rw [hws] at this; cases this
    | callerCancel | retSeq | retPar => exact iClean
    | fetchCheck | fetchCall | checkPass | «begin» => exact fun g => stay g rfl rfl (by simp) rfl
    | fEndSeqNext | fEndPar => exact fun g => stay (hasFail_snoc_ok ▸ g) rfl rfl (by simp) rfl

/-- number of begun calls recorded as started with a cancelled context (kept opaque to `simp`) -/
def bcnt (l : List Begun) : Nat := l.countP (·.cancelled)
@[simp] theorem bcnt_nil : bcnt [] = 0 := rfl
theorem bcnt_snoc (l : List Begun) (b : Begun) : bcnt (l ++ [b]) = bcnt l + if b.cancelled then 1 else 0 := by
  simp [bcnt, List.countP_append, List.countP_cons]
theorem startedCancelled_eq (s : St) : startedCancelled s = bcnt s.begun := rfl

/-- while the caller's context is live: no call begins cancelled before the errgroup cancels, and
afterwards only the workers that were already past their `ctx.Err()` test can still begin one -/
structure CancelInv (cfg : Cfg) (s : St) : Prop where
  startedCancelled_le : s.callerCancelled = false →
        (s.dCause = none → startedCancelled s = 0) ∧
        (s.dCause ≠ none → startedCancelled s + cnt isCall s.ws + 1 ≤ s.ws.length)

theorem cancelInv_init (cfg : Cfg) : CancelInv cfg (init cfg) := by
  unfold init
  split <;> refine ⟨?_⟩ <;> simp [startedCancelled_eq]

theorem cancelInv_step {cfg : Cfg} {s s' : St} {l : Label} (hState : StateInv cfg s) (hi : CancelInv cfg s)
    (h : Step cfg s l s') : CancelInv cfg s' := by
  refine ⟨fun hc => ?_⟩
  -- a step to a pc that is not `call` which leaves the context and the log of begun calls alone
  have stay : ∀ {w a}, s.callerCancelled = false → isCall a = false → s'.ws = s.ws.set w a → s'.dCause = s.dCause →
      s'.begun = s.begun → (s'.dCause = none → startedCancelled s' = 0) ∧
        (s'.dCause ≠ none → startedCancelled s' + cnt isCall s'.ws + 1 ≤ s'.ws.length) := fun {w a} hc ha hws hd hb => by
    obtain ⟨a0, b0⟩ := hi.startedCancelled_le hc
    rw [hd, startedCancelled_eq, hb, hws, List.length_set]
    have := cnt_set_le (ws := s.ws) (w := w) ha
    exact ⟨a0, fun hd => Nat.le_trans (by rw [startedCancelled_eq]; omega) (b0 hd)⟩
  cases h with
  | callerCancel => cases hc
  | fetchDone | fetchCheck | checkSkip | fEndErr | fEndSeqLast | fEndPar | egLater => exact stay hc rfl rfl rfl rfl
  | retSeq | retPar => exact hi.startedCancelled_le hc
  | fetchCall _ _ _ hm => exact ⟨(hi.startedCancelled_le hc).1, fun hd => absurd (hState.noCtx hm).dCause hd⟩
  | checkPass _ _ hd => exact ⟨(hi.startedCancelled_le hc).1, fun h => absurd hd h⟩
  | fEndSeqNext _ hq | retSeqErr _ hq =>
    exact ⟨(hi.startedCancelled_le hc).1, fun hd => absurd ((hState.seqPath hq).dCause hc) hd⟩
  | @egFirst w _ hw =>
    refine ⟨fun hd => absurd hd firstCause_ne_none, fun _ => ?_⟩
    have := cnt_lt_length hw (p := isCall) rfl
    have := cnt_set_le (p := isCall) (ws := s.ws) (w := w) (a := .done) rfl
    obtain ⟨a0, b0⟩ := hi.startedCancelled_le hc
    simp only [startedCancelled_eq, List.length_set] at a0 b0 ⊢
    by_cases hd : s.dCause = none
    · have := a0 hd; omega
    · have := b0 hd; omega
  | @«begin» _ i hw =>
    replace hc : s.callerCancelled = false := hc
    obtain ⟨a0, b0⟩ := hi.startedCancelled_le hc
    have := cnt_set_pred hw (p := isCall) (a := .inF i) rfl rfl
    simp only [startedCancelled_eq, bcnt_snoc, List.length_set] at a0 b0 ⊢
    refine ⟨fun hd => ?_, fun hd => ?_⟩
    · simp [ctxCancelled, hc, hd, a0 hd]
    · have := b0 hd; split <;> omega

end Juniper.Proofs.ParDo
