import Juniper.Proofs.ParDoStep
/-! Inductive invariants of the `parallel.Do` / `DoContext` LTS (`Model/ParDo.lean`), part 1: the
counting backbone — every index handed out by the counter is in exactly one place (held by a worker
that has not called `f` yet, begun, or skipped because of a cancelled context), every begun call is
either running or ended. -/

namespace Juniper.Proofs.ParDo
open Juniper.Gen Juniper.Model.ParDo Juniper.ListStore

def isPend (i : Nat) : Pc → Bool
  | .check j => j == i
  | .call j => j == i
  | _ => false

def isRun (i : Nat) : Pc → Bool
  | .inF j => j == i
  | _ => false

def pendC (s : St) (i : Nat) : Nat := s.ws.countP (isPend i)
def runC (s : St) (i : Nat) : Nat := s.ws.countP (isRun i)

structure CountInv (cfg : Cfg) (s : St) : Prop where
  len : s.ws.length = nW cfg
  seq : s.seq = cfg.code.isSeq (effPar cfg)
  xlo : -1 ≤ s.x
  place : ∀ i, pendC s i + begunCount s i + skippedCount s i = if (i : Int) ≤ s.x ∧ i < cfg.n then 1 else 0
  ended : ∀ i, runC s i + endedCount s i = begunCount s i

theorem countInv_init (cfg : Cfg) (hs : cfg.code.Sound) : CountInv cfg (init cfg) := by
  unfold init
  split
  · refine ⟨?_, ?_, ?_, ?_, ?_⟩ <;> simp [pendC, runC, begunCount, endedCount, skippedCount, hs.seqLoop, hs.seqInit, effN_eq hs, nW, *]
    · intro i
      by_cases h0 : 0 < cfg.n <;> by_cases hi : i = 0 <;> simp [isPend, h0, hi] <;> omega
    · intro i; split <;> simp [isRun]
  · refine ⟨?_, ?_, ?_, ?_, ?_⟩ <;> simp [pendC, runC, begunCount, endedCount, skippedCount, hs.counterInit, isRun, nW, *]
    intro i
    have : ¬ ((i : Int) ≤ -1) := by omega
    simp [this, List.countP_replicate, isPend]

/-- the indices handed out so far, as an indicator: what one more `fetch` below `n` adds -/
theorem handed_succ {x : Int} {n i : Nat} (hx : -1 ≤ x) (hlt : x + 1 < n) :
    (if (i : Int) ≤ x + 1 ∧ i < n then 1 else 0) =
      (if (i : Int) ≤ x ∧ i < n then 1 else 0) + if (x + 1).toNat = i then 1 else 0 := by
  split <;> split <;> split <;> omega

theorem handed_last {x : Int} {n i : Nat} (hge : (n : Int) ≤ x + 1) :
    (if (i : Int) ≤ x + 1 ∧ i < n then 1 else 0) = if (i : Int) ≤ x ∧ i < n then 1 else 0 := by
  split <;> split <;> omega

theorem countInv_step {cfg : Cfg} {s s' : St} {l : Label} (hi : CountInv cfg s)
    (h : Step cfg s l s') : CountInv cfg s' := by
  obtain ⟨iL, iQ, iX, iPlace, iEnded⟩ := hi
  refine ⟨h.length_ws ▸ iL, h.seq_eq ▸ iQ, by cases h <;> dsimp only <;> omega, fun i => ?_, fun i => ?_⟩
  · have hPlace := iPlace i
    cases h
    case retSeqErr _ _ hws => simpa [pendC, hws, isPend, begunCount, skippedCount] using hPlace
    case callerCancel | retSeq | retPar => exact hPlace
    case' fetchCheck _ _ hx _ | fetchCall _ _ hx _ | fEndSeqNext _ _ hx => dsimp only; rw [handed_succ iX hx]
    case' fetchDone _ _ hx | fEndSeqLast _ _ hx => dsimp only; rw [handed_last hx]
    all_goals
      have hp := ite_le_countP (isPend i) ‹_›
      simp only [pendC, begunCount, skippedCount, countP_set_sub ‹_›, isPend, List.countP_append,
        List.countP_singleton, beq_iff_eq, Bool.false_eq_true, if_false] at hPlace hp ⊢
      omega
  · have hEnded := iEnded i
    cases h
    case retSeqErr _ _ hws => simpa [runC, hws, isRun, begunCount, endedCount] using hEnded
    case callerCancel | retSeq | retPar => exact hEnded
    all_goals
      have hp := ite_le_countP (isRun i) ‹_›
      simp only [runC, begunCount, endedCount, countP_set_sub ‹_›, isRun, List.countP_append,
        List.countP_singleton, beq_iff_eq, Bool.false_eq_true, if_false] at hEnded hp ⊢
      omega

theorem CountInv.len_seq {cfg : Cfg} {s : St} (hCount : CountInv cfg s) (hq : s.seq = true) : s.ws.length = 1 := by
  rw [hCount.len, nW, ← hCount.seq, hq]; rfl

theorem CountInv.handed {cfg : Cfg} {s : St} (hCount : CountInv cfg s) (i : Nat) :
    pendC s i + begunCount s i + skippedCount s i ≤ 1 ∧
      (0 < pendC s i + begunCount s i + skippedCount s i → i < cfg.n) := by
  have hPlace := hCount.place i
  split at hPlace <;> omega

theorem running_call_fresh {cfg : Cfg} {s : St} (hCount : CountInv cfg s) {w i : Nat} (hw : s.ws[w]? = some (Pc.inF i)) :
    i < cfg.n ∧ ∀ r', (i, r') ∉ s.ended := by
  have hPlace := hCount.handed i
  have hEnded := hCount.ended i
  have hr : 0 < runC s i := countP_pos hw (by simp [isRun])
  refine ⟨hPlace.2 (by omega), fun r' hm => ?_⟩
  have : 0 < endedCount s i := List.countP_pos_iff.2 ⟨(i, r'), hm, by simp⟩
  omega

theorem pending_call_lt {cfg : Cfg} {s : St} (hCount : CountInv cfg s) {w i : Nat} (hw : s.ws[w]? = some (Pc.call i)) :
    i < cfg.n :=
  have hp : 0 < pendC s i := countP_pos hw (by simp [isPend])
  (hCount.handed i).2 (by omega)

end Juniper.Proofs.ParDo
