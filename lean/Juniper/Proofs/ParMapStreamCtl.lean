import Juniper.Proofs.ParMapStreamStep
/-! Inductive invariants of the MapStream LTS (`Model/ParMap.lean`, namespace `Stream`), control: token conservation,
source-item counting, yield counting, the counters of the shutdown protocol (who is done, when `c` and `in` are closed,
who cancelled the context), and how workers leave. -/

namespace Juniper.Proofs.ParMap.S
open Juniper.Gen Juniper.Facts Juniper.Model.ParMap Juniper.Model.ParMap.Stream Juniper.Proofs.ParMap

def isVal : NextRes → Bool
  | .val _ _ => true
  | _ => false
def dSendIn : DPc → Bool
  | .sendIn _ => true
  | _ => false
def dHolding : DPc → Bool
  | .waitReady _ => true
  | .sendIn _ => true
  | _ => false
def dFetching : DPc → Bool
  | .pull => true
  | .inNext => true
  | _ => false
def dExited : DPc → Bool
  | .exiting _ => true
  | .srcClosing _ => true
  | .egRet _ => true
  | .done => true
  | _ => false
def dClosedIn : DPc → Bool
  | .srcClosing _ => true
  | .egRet _ => true
  | .done => true
  | _ => false
def cReleasing : CPc → Bool
  | .releasing _ _ => true
  | _ => false

def dNotDone : DPc → Bool
  | .done => false
  | _ => true
def cClosing : CPc → Bool
  | .closeWait => true
  | .closed => true
  | _ => false

def cNextWait : CPc → Bool
  | .nextWait => true
  | _ => false
def cClosedP : CPc → Bool
  | .closed => true
  | _ => false

structure CountInv (cfg : Cfg) (s : St) : Prop where
  len : s.ws.length = numWorkers cfg
  tokens : s.ready + b2n (dSendIn s.disp) + s.dispI + s.lost = numTokens cfg + cnt isVal s.results
  taken : s.srcItems.length = s.dispI + b2n (dHolding s.disp) ∨ (dExited s.disp = true ∧ s.srcItems.length ≤ s.dispI + 1)
  yielded : s.i = cnt isVal s.results + b2n (cReleasing s.cons)
  lost_le : s.lost ≤ b2n (dExited s.disp)
  inClosed_eq : s.inClosed = dClosedIn s.disp

theorem countInv_init (cfg : Cfg) : CountInv cfg (Stream.init cfg) := by
  refine ⟨?_, ?_, ?_, ?_, ?_, ?_⟩ <;> simp [Stream.init, dSendIn, dHolding, cReleasing, dExited, dClosedIn]

theorem countInv_step {cfg : Cfg} {s s' : St} {l : Label} (hi : CountInv cfg s) (h : Step cfg s l s') :
    CountInv cfg s' := by
  obtain ⟨ilen, iTokens, iTaken, iYielded, iLostLe, iInClosedEq⟩ := hi
  cases h with
  | fOk w k v hw | fErr w k e hw | wSendC w k v hw hc hcl | wSendCtx w k v hw hx | wExitIdle w hw hin
  | wDefer w r hw | wEgDone w r hw =>
    exact ⟨List.length_set.trans ilen, iTokens, iTaken, iYielded, iLostLe, iInClosedEq⟩
  | nextCall live hc | consCtxExpire hc | cRecvClosed live hc hcs hy hcl | closeCall hc | cCloseDone hc hl =>
    exact ⟨ilen, iTokens, iTaken, by rw [hc] at iYielded; exact iYielded, iLostLe, iInClosedEq⟩
  | cRecv live kv rest hc hcs hy => exact ⟨ilen, iTokens, iTaken, iYielded, iLostLe, iInClosedEq⟩
  | parentCancel hp => exact ⟨ilen, iTokens, iTaken, iYielded, iLostLe, iInClosedEq⟩
  | cCtx hc hy | cWaitErr e hc hl he | cWaitEnd hc hl he | cYield live k v hc hy hf | cRelease k v hc hr =>
    rw [hc] at iYielded
    refine ⟨ilen, ?_, iTaken, ?_, iLostLe, iInClosedEq⟩ <;>
      simp only [cReleasing, b2n_true, b2n_false, cnt_snoc, isVal] at iYielded ⊢ <;>
      omega
  | dPull hd | srcItem v hd | srcEnd hd | srcErr k hd | dTakeToken v hd hr | dWaitCtx v hd hx | dSend w v hd hw hin
  | dSendCtx v hd hx | dCloseIn r hd | srcCloseRet r hd | dEgDone r hd =>
    rw [hd] at iTokens iTaken iLostLe iInClosedEq
    refine ⟨by first | exact ilen | exact List.length_set.trans ilen, ?_, ?_, iYielded, ?_, ?_⟩ <;>
      simp [dSendIn, dHolding, dExited, dClosedIn, egRecord] at iTokens iTaken iLostLe iInClosedEq ⊢ <;> omega

def wPastDefer : WPc → Bool
  | .egRet _ => true
  | .done => true
  | _ => false
def wDone : WPc → Bool
  | .done => true
  | _ => false
def wNotDone : WPc → Bool
  | .done => false
  | _ => true
def wExitNone : WPc → Bool
  | .exiting none => true
  | .egRet none => true
  | _ => false

structure ShutdownInv (cfg : Cfg) (s : St) : Prop where
  lastCloses : LastCloses wPastDefer s.ws s.nDone (numWorkers cfg) s.cClosed
  egLive_eq : s.egLive = b2n (dNotDone s.disp) + cnt wNotDone s.ws
  closeCalled : (s.closeCalled = true ↔ cClosing s.cons = true) ∧ (s.closeCalled = true → s.ctxCause ≠ none)
  cause : (s.ctxCause = some .lib → s.egErr ≠ none) ∧ (s.ctxCause = some .parent → s.parentCancelled = true) ∧
       (s.ctxCause = some .close → s.closeCalled = true)

theorem shutdownInv_init (cfg : Cfg) (hs : cfg.code.Sound) (hg : 1 ≤ cfg.gmp) : ShutdownInv cfg (Stream.init cfg) := by
  have := numWorkers_cast hs hg
  refine ⟨⟨?_, ?_⟩, ?_, ?_, ?_⟩ <;> simp [Stream.init, wPastDefer, wNotDone, dNotDone, cClosing] <;> omega

theorem egRecord_causes {s : St} (r : Option Err) (h2 : s.closeCalled = true → s.ctxCause ≠ none)
    (hCount : (s.ctxCause = some .lib → s.egErr ≠ none) ∧ (s.ctxCause = some .parent → s.parentCancelled = true) ∧
      (s.ctxCause = some .close → s.closeCalled = true)) :
    (s.closeCalled = true → (egRecord s r).ctxCause ≠ none) ∧
    ((egRecord s r).ctxCause = some .lib → (egRecord s r).egErr ≠ none) ∧
    ((egRecord s r).ctxCause = some .parent → s.parentCancelled = true) ∧
    ((egRecord s r).ctxCause = some .close → s.closeCalled = true) := by
  obtain ⟨h3, h4, h5⟩ := hCount
  cases r <;> cases he : s.egErr <;> cases hc : s.ctxCause <;> simp_all [egRecord]

theorem shutdownInv_step {cfg : Cfg} (hs : cfg.code.Sound) (hg : 1 ≤ cfg.gmp) {s s' : St} {l : Label}
    (ha : CountInv cfg s) (hi : ShutdownInv cfg s) (h : Step cfg s l s') : ShutdownInv cfg s' := by
  obtain ⟨iLastCloses, iEgLiveEq, iCloseCalled, iCause⟩ := hi
  -- a worker that stays on its side of `done` leaves the count of live goroutines alone
  have kEgLiveEq : ∀ d w a b, s.ws[w]? = some b → wNotDone a = wNotDone b → dNotDone d = dNotDone s.disp →
      s.egLive = b2n (dNotDone d) + cnt wNotDone (s.ws.set w a) :=
    fun _ _ _ _ hw hp hd => hd ▸ iEgLiveEq.trans (congrArg _ (cnt_set_same hw hp).symm)
  cases h with
  | dPull hd | srcItem v hd | srcEnd hd | srcErr k hd | dTakeToken v hd hr | dWaitCtx v hd hx | dSendCtx v hd hx
  | dCloseIn r hd | srcCloseRet r hd =>
    exact ⟨iLastCloses, by rw [hd] at iEgLiveEq; exact iEgLiveEq, iCloseCalled, iCause⟩
  | dSend w v hd hw hin => exact ⟨iLastCloses.keep hw rfl, kEgLiveEq _ _ _ _ hw rfl (by rw [hd]; rfl), iCloseCalled, iCause⟩
  | fOk w k v hw | fErr w k e hw | wSendC w k v hw hc hcl | wSendCtx w k v hw hx | wExitIdle w hw hin =>
    exact ⟨iLastCloses.keep hw rfl, kEgLiveEq _ _ _ _ hw rfl rfl, iCloseCalled, iCause⟩
  | wDefer w r hw =>
    exact ⟨iLastCloses.count ha.len hw rfl rfl (numWorkers_cast hs hg).1, kEgLiveEq _ _ _ _ hw rfl rfl, iCloseCalled, iCause⟩
  | wEgDone w r hw =>
    have h1 := cnt_set_out (p := wNotDone) (a := .done) hw rfl rfl
    obtain ⟨c1, c2, c3, c4⟩ := egRecord_causes r iCloseCalled.2 iCause
    refine ⟨iLastCloses.keep hw rfl, ?_, ⟨iCloseCalled.1, c1⟩, c2, c3, c4⟩
    show s.egLive - 1 = b2n (dNotDone s.disp) + cnt wNotDone (s.ws.set w .done); omega
  | dEgDone r hd =>
    obtain ⟨c1, c2, c3, c4⟩ := egRecord_causes r iCloseCalled.2 iCause
    refine ⟨iLastCloses, ?_, ⟨iCloseCalled.1, c1⟩, c2, c3, c4⟩
    rw [hd] at iEgLiveEq
    show s.egLive - 1 = b2n (dNotDone .done) + cnt wNotDone s.ws
    simp only [dNotDone, b2n_true, b2n_false] at iEgLiveEq ⊢; omega
  | nextCall live hc | consCtxExpire hc | cYield live k v hc hy hf | cRelease k v hc hr | cRecvClosed live hc hcs hy hcl
  | cCtx hc hy | cWaitErr e hc hl he | cWaitEnd hc hl he | cCloseDone hc hl =>
    exact ⟨iLastCloses, iEgLiveEq, by rw [hc] at iCloseCalled; exact iCloseCalled, iCause⟩
  | cRecv live kv rest hc hcs hy => exact ⟨iLastCloses, iEgLiveEq, iCloseCalled, iCause⟩
  | closeCall hc =>
    obtain ⟨h3, h4, h5⟩ := iCause
    refine ⟨iLastCloses, iEgLiveEq, ⟨⟨fun _ => rfl, fun _ => rfl⟩, fun _ => ?_⟩, ?_, ?_, fun _ => rfl⟩
      <;> clear kEgLiveEq iLastCloses iEgLiveEq <;> cases hx : s.ctxCause <;> simp_all
  | parentCancel hp =>
    obtain ⟨h3, h4, h5⟩ := iCause
    refine ⟨iLastCloses, iEgLiveEq, ⟨iCloseCalled.1, fun hcc => ?_⟩, ?_, fun _ => rfl, ?_⟩
      <;> clear kEgLiveEq iLastCloses iEgLiveEq <;> cases hx : s.ctxCause <;> simp_all

theorem all_done_of_egLive {cfg : Cfg} {s : St} (hShut : ShutdownInv cfg s) (he : s.egLive = 0) :
    s.disp = .done ∧ cnt wNotDone s.ws = 0 := by
  have hEL := hShut.egLive_eq
  rw [he] at hEL
  cases hd : s.disp <;> simp [hd, dNotDone] at hEL <;> first | omega | exact ⟨rfl, by omega⟩

/-- how workers leave: a finished worker means `in` is closed or the context is done -/
structure ExitInv (cfg : Cfg) (s : St) : Prop where
  egErr_cancels : s.egErr ≠ none → s.ctxCause ≠ none
  done_why : 0 < cnt wDone s.ws → s.inClosed = true ∨ s.ctxCause ≠ none
  exitNone_why : 0 < cnt wExitNone s.ws → s.inClosed = true

theorem exitInv_init (cfg : Cfg) : ExitInv cfg (Stream.init cfg) := by
  refine ⟨?_, ?_, ?_⟩ <;> simp [Stream.init, wDone, wExitNone]

theorem egRecord_ctx {s : St} (r : Option Err) (iEgErrCancels : s.egErr ≠ none → s.ctxCause ≠ none) :
    ((egRecord s r).egErr ≠ none → (egRecord s r).ctxCause ≠ none) ∧
    (s.ctxCause ≠ none → (egRecord s r).ctxCause ≠ none) ∧ (r ≠ none → (egRecord s r).ctxCause ≠ none) := by
  cases r <;> cases he : s.egErr <;> cases hc : s.ctxCause <;> simp_all [egRecord]

theorem exitInv_step {cfg : Cfg} {s s' : St} {l : Label} (hi : ExitInv cfg s) (h : Step cfg s l s') :
    ExitInv cfg s' := by
  obtain ⟨iEgErrCancels, iDoneWhy, iExitNoneWhy⟩ := hi
  -- a worker moves, not to `done`
  have kset : ∀ (w : Nat) (a : WPc), wDone a = false → (wExitNone a = true → s.inClosed = true) →
      (0 < cnt wDone (s.ws.set w a) → s.inClosed = true ∨ s.ctxCause ≠ none) ∧
      (0 < cnt wExitNone (s.ws.set w a) → s.inClosed = true) := by
    intro w a ha hn
    refine ⟨fun h => ?_, fun h => (cnt_pos_set h).elim hn iExitNoneWhy⟩
    rcases cnt_pos_set h with h | h
    · rw [ha] at h; cases h
    · exact iDoneWhy h
  have hcancel : ∀ c : Cause, (if s.ctxCause.isSome then s.ctxCause else some c) ≠ none := by
    intro c; cases s.ctxCause <;> simp
  cases h with
  | dSend w v hd hw hin => exact have ⟨a1, a2⟩ := kset w (.inF s.dispI) rfl (fun h => by cases h); ⟨iEgErrCancels, a1, a2⟩
  | fOk w k v hw => exact have ⟨a1, a2⟩ := kset w (.sendC k v) rfl (fun h => by cases h); ⟨iEgErrCancels, a1, a2⟩
  | wSendC w k v hw hc hcl => exact have ⟨a1, a2⟩ := kset w .idle rfl (fun h => by cases h); ⟨iEgErrCancels, a1, a2⟩
  | fErr w k e hw =>
    exact have ⟨a1, a2⟩ := kset w (.exiting (some (.f e))) rfl (fun h => by cases h); ⟨iEgErrCancels, a1, a2⟩
  | wSendCtx w k v hw hx =>
    exact have ⟨a1, a2⟩ := kset w (.exiting (some (ctxErr s))) rfl (fun h => by cases h); ⟨iEgErrCancels, a1, a2⟩
  | wExitIdle w hw hin => exact have ⟨a1, a2⟩ := kset w (.exiting none) rfl (fun _ => hin); ⟨iEgErrCancels, a1, a2⟩
  | wDefer w r hw =>
    have ⟨a1, a2⟩ := kset w (.egRet r) rfl
      (fun h => iExitNoneWhy (Nat.lt_of_lt_of_le (by cases r <;> first | decide | cases h) (cnt_ge wExitNone hw)))
    exact ⟨iEgErrCancels, a1, a2⟩
  | wEgDone w r hw =>
    obtain ⟨c1, c2, c3⟩ := egRecord_ctx r iEgErrCancels
    refine ⟨c1, fun _ => ?_, fun h => (cnt_pos_set h).elim (fun h => by cases h) iExitNoneWhy⟩
    cases r with
    | none => exact .inl (iExitNoneWhy (Nat.lt_of_lt_of_le (by decide) (cnt_ge wExitNone hw)))
    | some e => exact .inr (c3 (by simp))
  | dEgDone r hd =>
    obtain ⟨c1, c2, _⟩ := egRecord_ctx r iEgErrCancels
    exact ⟨c1, fun h => (iDoneWhy h).imp_right c2, iExitNoneWhy⟩
  | dCloseIn r hd => exact ⟨iEgErrCancels, fun _ => .inl rfl, fun _ => rfl⟩
  | closeCall hc => exact ⟨fun _ => hcancel _, fun _ => .inr (hcancel _), iExitNoneWhy⟩
  | parentCancel hp => exact ⟨fun _ => hcancel _, fun _ => .inr (hcancel _), iExitNoneWhy⟩
  | _ => exact ⟨iEgErrCancels, iDoneWhy, iExitNoneWhy⟩

end Juniper.Proofs.ParMap.S
