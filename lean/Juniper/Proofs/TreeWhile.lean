import Juniper.Model.BTree
/-!
# The far bound of `Range` / `RangeReverse`: in-range predicate inside the iterator ≡ `iterator.While` around it

Until the repair of D18 a bounded range was `iterator.While(c.Forward(), pred)`: the cursor iterator read the value
slot of the first key *beyond* the bound before `While` discarded the pair. Now `forwardIterator.Next` /
`backwardIterator.Next` test the predicate on the key before the value is read (`Model.BTree.iterNext`, every guard
regenerated). `iterNextW` is the old formulation with `While`'s semantics written out; `iterNext_eq_while` shows the
two indistinguishable: related iterators (`IterEq`) answer every `Next` identically on every tree and stay related,
whatever happens to the tree between the calls (after the cut-off the cursors differ, but a cut-off iterator never
looks at its cursor again). The theorems of C01 and C02 are proved for the `While` formulation and carried over by
this lemma; flipping any of the regenerated guards breaks it.
-/
namespace Juniper.Proofs.Tree
open Juniper.Model.BTree Juniper.Gen.Tree

variable {K V : Type} {cmp : K → K → Int}

/-- `whileIterator.Next`: `if iter.done` -/
def whileChecksDone (done : Bool) : Bool := done
/-- `whileIterator.Next`: `if !iter.f(item)` -/
def whileStops (keep : Bool) : Bool := !keep
/-- `whileIterator.Next`: `iter.done = true` in the branch of a failed predicate -/
def whileSticky : Bool := true

/-- the `While` formulation: `rawNext` (key and value of the parked entry, cursor moved on), then the predicate -/
def iterNextW (cmp : K → K → Int) (t : Tree K V) (it : Iter K) : Iter K × Option (K × Option V) :=
  match it.stop with
  | none =>
    let r := rawNext cmp t it.fwd it.c
    ({ it with c := r.1 }, r.2)
  | some (op, key) =>
    if whileChecksDone it.done then (it, none)
    else
      let r := rawNext cmp t it.fwd it.c
      match r.2 with
      | none => ({ it with c := r.1 }, none)
      | some (k, v) =>
        if whileStops (evalOp op (cmp k key)) then ({ it with c := r.1, done := whileSticky || it.done }, none)
        else ({ it with c := r.1 }, some (k, v))

def drainW (cmp : K → K → Int) (t : Tree K V) : Nat → Iter K → List (K × Option V)
  | 0, _ => []
  | fuel + 1, it =>
    match iterNextW cmp t it with
    | (_, none) => []
    | (it', some kv) => kv :: drainW cmp t fuel it'

/-- same direction, predicate and cut-off flag; same cursor unless cut off; an iterator without predicate is
never cut off -/
structure IterEq (a b : Iter K) : Prop where
  fwd : a.fwd = b.fwd
  stop : a.stop = b.stop
  done : a.done = b.done
  cur : a.done = false → a.c = b.c
  fresh : a.stop = none → a.done = false

/-- **The regenerated guards of the repaired `Next` are the ones of `While`.** -/
theorem iter_guards :
    (∀ f d, iterChecksDone f d = d) ∧ (∀ f p r, iterStops f p r = (p && !r)) ∧ (∀ f, iterCutoffSticky f = true) ∧
    iterReseeks = true ∧ iterReadsThenSteps = true := by
  refine ⟨?_, ?_, ?_, by decide, by decide⟩
  · intro f d; cases f <;> cases d <;> decide
  · intro f p r; cases f <;> cases p <;> cases r <;> decide
  · intro f; cases f <;> decide

theorem rawNext_eq (cmp : K → K → Int) (t : Tree K V) (fwd : Bool) (c : Cursor K) :
    rawNext cmp t fwd c =
      (match (iterReseek cmp t fwd c).pos with
        | none => (iterReseek cmp t fwd c, none)
        | some p => (if fwd then cursorNext cmp t (iterReseek cmp t fwd c) else cursorPrev cmp t (iterReseek cmp t fwd c),
            some (p.k, valueAt t p))) := by
  have g4 : iterReseeks = true := by decide
  unfold rawNext iterReseek
  simp only [g4, Bool.and_true]
  rfl

theorem iterNext_eq_while (cmp : K → K → Int) (t : Tree K V) {a b : Iter K} (h : IterEq a b) :
    (iterNextW cmp t a).2 = (iterNext cmp t b).2 ∧ IterEq (iterNextW cmp t a).1 (iterNext cmp t b).1 := by
  obtain ⟨g1, g2, g3, _, g5⟩ := iter_guards
  obtain ⟨ca, f, st, d⟩ := a
  obtain ⟨cb, f', st', d'⟩ := b
  obtain ⟨hf, hs, hd, hc, hfr⟩ := h
  simp only at hf hs hd hc hfr
  subst hf hs hd
  -- the successor states agree in direction, predicate and flag; what remains is the cursor and `fresh`
  have rel : ∀ (c c' : Cursor K) (d' : Bool), (d' = false → c = c') → (st = none → d' = false) →
      IterEq (⟨c, f, st, d'⟩ : Iter K) ⟨c', f, st, d'⟩ := fun _ _ _ h1 h2 => ⟨rfl, rfl, rfl, h1, h2⟩
  unfold iterNextW iterNext
  simp only [g1, g2, g3, g5, if_true, Bool.true_or, whileChecksDone, whileStops, whileSticky, rawNext_eq]
  cases d with
  | true =>
    -- cut off: both answer `end`; an iterator without predicate is never cut off
    cases st with
    | none => have := hfr rfl; cases this
    | some s => exact ⟨rfl, rel _ _ true (fun h => by cases h) (fun h => by cases h)⟩
  | false =>
    have hcc : ca = cb := hc rfl
    subst hcc
    simp only [Bool.false_eq_true, if_false]
    cases st with
    | none =>
      cases hp : (iterReseek cmp t f ca).pos with
      | none => exact ⟨rfl, rel _ _ false (fun _ => rfl) (fun _ => rfl)⟩
      | some p => exact ⟨rfl, rel _ _ false (fun _ => rfl) (fun _ => rfl)⟩
    | some s =>
      obtain ⟨op, key⟩ := s
      cases hp : (iterReseek cmp t f ca).pos with
      | none => exact ⟨rfl, rel _ _ false (fun _ => rfl) (fun h => by cases h)⟩
      | some p =>
        simp only [Option.isSome_some, Bool.true_and]
        cases hk : evalOp op (cmp p.k key) with
        | true => exact ⟨rfl, rel _ _ false (fun _ => rfl) (fun h => by cases h)⟩
        | false => exact ⟨rfl, rel _ _ true (fun h => by cases h) (fun h => by cases h)⟩

theorem drain_eq_while (cmp : K → K → Int) (t : Tree K V) : ∀ (fuel : Nat) {a b : Iter K}, IterEq a b →
    drainW cmp t fuel a = drain cmp t fuel b := by
  intro fuel
  induction fuel with
  | zero => intro a b _; rfl
  | succ fuel ih =>
    intro a b h
    obtain ⟨h1, h2⟩ := iterNext_eq_while cmp t h
    unfold drainW drain
    cases ha : iterNextW cmp t a with
    | mk a' oa =>
      cases hb : iterNext cmp t b with
      | mk b' ob =>
        rw [ha, hb] at h1 h2
        simp only at h1 h2
        subst h1
        cases oa with
        | none => rfl
        | some kv => simp only; rw [ih h2]

/-- a freshly created iterator (what `mkIter` returns) is related to itself -/
theorem iterEq_fresh (c : Cursor K) (fwd : Bool) (stop : Option (CmpOp × K)) :
    IterEq (⟨c, fwd, stop, false⟩ : Iter K) ⟨c, fwd, stop, !iterCtorsFresh⟩ := by
  have h : iterCtorsFresh = true := by decide
  refine ⟨rfl, rfl, ?_, fun _ => rfl, fun _ => rfl⟩
  simp [h]

end Juniper.Proofs.Tree
