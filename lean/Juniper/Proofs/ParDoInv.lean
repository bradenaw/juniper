import Juniper.Proofs.ParDoFail
import Juniper.Proofs.ParDoErr
/-! The invariant of the `parallel.Do` / `DoContext` LTS as one predicate on states (`Inv`; every reachable state
has it: `inv`), and the consequences of `Inv` at a state out of which the statements of `Props/C13*.lean` are made. -/

namespace Juniper.Proofs.ParDo
open Juniper.Gen Juniper.Model.ParDo

theorem exists_retF_of_cnt {ws : List Pc} (h : 0 < cnt isRetF ws) : ∃ k, Pc.retErr (.f k) ∈ ws := by
  obtain ⟨pc, hm, hp⟩ := List.countP_pos_iff.1 h
  match pc, hp with
  | .retErr (.f k), _ => exact ⟨k, hm⟩

theorem countP_le_cnt_notDone (p : Pc → Bool) (hp : p .done = false) (ws : List Pc) :
    ws.countP p ≤ cnt notDone ws :=
  List.countP_mono_left fun x _ hx => by cases x <;> first | rfl | exact absurd hx (hp ▸ nofun)

theorem cnt_isDone_of_allDone {ws : List Pc} (h : cnt notDone ws = 0) : cnt isDone ws = ws.length :=
  List.countP_eq_length.2 fun a ha => by
    have := List.countP_eq_zero.1 h a ha
    cases a <;> first | rfl | exact absurd rfl this

structure Inv (cfg : Cfg) (s : St) : Prop
    extends CountInv cfg s, StateInv cfg s, ErrInv cfg s, FailInv cfg s, CancelInv cfg s

theorem inv {cfg : Cfg} (hs : cfg.code.Sound) {s : St} (h : Reach cfg s) : Inv cfg s := by
  induction h with
  | init => exact ⟨countInv_init cfg hs, stateInv_init cfg, errInv_init cfg, failInv_init cfg hs, cancelInv_init cfg⟩
  | step _ hstep ih =>
    have h := Step.of_step hs hstep
    exact ⟨countInv_step ih.toCountInv h, stateInv_step ih.toStateInv h, errInv_step ih.toStateInv ih.toErrInv h,
      failInv_step ih.toFailInv h, cancelInv_step ih.toStateInv ih.toCancelInv h⟩

namespace Inv
variable {cfg : Cfg} {s : St} (hi : Inv cfg s)
include hi

theorem ended_eq_begun (hrun : running s = 0) (i : Nat) : endedCount s i = begunCount s i := by
  have hEnded := hi.ended i
  have : runC s i ≤ running s := List.countP_mono_left fun x _ hx => by cases x <;> first | rfl | cases hx
  omega

theorem running_eq_zero (hret : s.ret ≠ none) : running s = 0 :=
  Nat.eq_zero_of_le_zero (hi.retDone hret ▸ countP_le_cnt_notDone _ rfl s.ws)

theorem all_once_of_clean (hs : cfg.code.Sound) (hg : 1 ≤ cfg.gmp) (hret : s.ret ≠ none) (hf : hasFail s = false)
    (hsk : s.skipped = []) (i : Nat) (hlt : i < cfg.n) : begunCount s i = 1 ∧ endedCount s i = 1 := by
  have hD := hi.retDone hret
  have ⟨_, hx⟩ := hi.clean ⟨hf, hsk⟩
  have hlen := hi.len
  have hpos := nW_pos hs hg (by omega : 0 < cfg.n)
  have hdone := cnt_isDone_of_allDone hD
  have hPlace := hi.place i
  have hEnded := hi.ended_eq_begun (hi.running_eq_zero hret) i
  have hp : pendC s i ≤ cnt notDone s.ws := countP_le_cnt_notDone (isPend i) rfl s.ws
  have hs0 : skippedCount s i = 0 := by simp [skippedCount, hsk]
  rw [if_pos ⟨by omega, hlt⟩] at hPlace
  omega

theorem quiet_of_noFailure (hnf : noFailure s) (hcc : s.callerCancelled = false) :
    s.dCause = none ∧ s.skipped = [] := by
  have heg : s.egErr = none := by
    cases he : s.egErr with
    | none => rfl
    | some e =>
      rcases hi.egErr_good e he with ⟨k, i, _, hm⟩ | ⟨_, hcan⟩
      · cases hnf _ hm
      · cases hcc.symm.trans hcan
  have hdc : s.dCause = none := by
    cases hd : s.dCause with
    | none => rfl
    | some c =>
      cases c with
      | lib => exact absurd heg (hi.cause.1 hd)
      | caller => cases hcc.symm.trans (hi.cause.2 hd)
  exact ⟨hdc, Decidable.byContradiction fun hk => hi.skipped_cancelled hk hdc⟩

theorem clean_of_ret_nil (hret : s.ret = some none) : hasFail s = false ∧ s.skipped = [] := by
  have hD := hi.retDone (hret ▸ nofun)
  have key : ∀ {p}, p .done = false → ¬ traced p s := fun {p} hp ht => by
    have hre : cnt p s.ws ≤ cnt notDone s.ws := countP_le_cnt_notDone p hp s.ws
    rcases ht with h' | h' | ⟨e, h', _⟩
    · exact h' (hi.egErr_of_ret_nil hret)
    · omega
    · cases hret.symm.trans h'
  exact ⟨Bool.eq_false_iff.2 fun hf => key rfl (hi.traceF hf), Decidable.byContradiction fun hk => key rfl (hi.trace hk)⟩

theorem ret_nil_of_noctx (hm : cfg.code.ctxMode = false) {r : Option Err} (hr : s.ret = some r) : r = none := by
  cases r with
  | none => rfl
  | some e =>
    rcases hi.ret_good e hr with ⟨k, i, _, hmem⟩ | ⟨_, hc⟩
    · cases (hi.noCtx hm).noFail _ hmem
    · cases (hi.noCtx hm).live.symm.trans hc

end Inv

end Juniper.Proofs.ParDo
