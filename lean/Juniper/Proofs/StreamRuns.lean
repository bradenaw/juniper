import Juniper.Proofs.StreamComb
import Juniper.Proofs.StreamClose
/-!
# `stream.Runs` (C07, C08, C09): the two-port machine driven by the documented protocol yields the runs,
faults included, and wraps its source

One list of step equations of the protocol machine, state shape by state shape, serves both: `runs_sden` (what it
yields, from the three shapes that pull: `RMode`) and `runsProto_wraps` (it hands its source's failures through
and its `Close` closes the source).
-/
namespace Juniper.Proofs.StreamDen
open Juniper.Model.Stream Juniper.Spec Juniper.Gen.Comb
universe u v w x
variable {σ : Type u} {σ' : Type w} {α β : Type v} {γ : Type x}

open Juniper.Model.Iter (takeReached)

/-- What the protocol machine yields on annotated items when the stream terminates as `t`. A failure
drops the run being collected. -/
def runsGoS (same : α → α → Bool) (take : Option Nat) :
    Option (List α) → α → List (α × Nat) → Term → List (List α × Nat)
  | some acc, _, [], .end_ e => [(acc, e)]
  | some _, _, [], .fail _ => []
  | none, _, [], _ => []
  | mode, prev, (b, c) :: L, t =>
    if same prev b then
      match mode with
      | some acc =>
        if takeReached take (acc ++ [b]).length then (acc ++ [b], c) :: runsGoS same take none b L t
        else runsGoS same take (some (acc ++ [b])) b L t
      | none => runsGoS same take none b L t
    else
      (match mode with | some acc => [(acc, c)] | none => []) ++
        (if takeReached take 0 then ([], c) :: runsGoS same take none b L t
         else if takeReached take 1 then ([b], c) :: runsGoS same take none b L t
         else runsGoS same take (some [b]) b L t)

def runsNewS (same : α → α → Bool) (take : Option Nat) (b : α) (c : Nat) (L : List (α × Nat)) (t : Term) :
    List (List α × Nat) :=
  if takeReached take 0 then ([], c) :: runsGoS same take none b L t
  else if takeReached take 1 then ([b], c) :: runsGoS same take none b L t
  else runsGoS same take (some [b]) b L t

def runsStartS (same : α → α → Bool) (take : Option Nat) : List (α × Nat) → Term → List (List α × Nat)
  | [], _ => []
  | (b, c) :: L, t => runsNewS same take b c L t

theorem runsGoS_cons_same (same : α → α → Bool) (take : Option Nat) (acc : List α) (prev b : α) (c : Nat)
    (L : List (α × Nat)) (t : Term) (hb : same prev b = true) :
    runsGoS same take (some acc) prev ((b, c) :: L) t =
      if takeReached take (acc ++ [b]).length then (acc ++ [b], c) :: runsGoS same take none b L t
      else runsGoS same take (some (acc ++ [b])) b L t := by
  simp [runsGoS, hb]

theorem runsGoS_cons_diff (same : α → α → Bool) (take : Option Nat) (acc : List α) (prev b : α) (c : Nat)
    (L : List (α × Nat)) (t : Term) (hb : same prev b = false) :
    runsGoS same take (some acc) prev ((b, c) :: L) t = (acc, c) :: runsNewS same take b c L t := by
  simp [runsGoS, hb, runsNewS]

theorem runsGoS_none_same (same : α → α → Bool) (take : Option Nat) (prev b : α) (c : Nat)
    (L : List (α × Nat)) (t : Term) (hb : same prev b = true) :
    runsGoS same take none prev ((b, c) :: L) t = runsGoS same take none b L t := by
  simp [runsGoS, hb]

theorem runsGoS_none_diff (same : α → α → Bool) (take : Option Nat) (prev b : α) (c : Nat)
    (L : List (α × Nat)) (t : Term) (hb : same prev b = false) :
    runsGoS same take none prev ((b, c) :: L) t = runsNewS same take b c L t := by
  simp [runsGoS, hb, runsNewS]

section steps
variable {same : α → α → Bool} {take : Option Nat} {cl : Bool} {m : SM σ α}

/-- inner stream `g` is live and attached and is being collected into `acc` (`k` items taken) -/
abbrev RC (s : σ) (pkc : Option α) (gen g : Nat) (prev : α) (acc : List α) (k : Nat) : RunsProtoSt σ α :=
  ⟨⟨⟨s, pkc⟩, gen, some (g, prev, false)⟩, some (g, acc, k)⟩
abbrev RD (s : σ) (pkc : Option α) (gen g : Nat) (prev : α) (det : Bool) : RunsProtoSt σ α :=
  ⟨⟨⟨s, pkc⟩, gen, some (g, prev, det)⟩, none⟩
abbrev RS (s : σ) (pkc : Option α) (gen : Nat) : RunsProtoSt σ α := ⟨⟨⟨s, pkc⟩, gen, none⟩, none⟩

/-! The step of the protocol machine, state shape by state shape (all of them: `runsProto_thru` goes through
the same list). Three shapes pull (`c_pull`, `d_pull`, `s_pull`), the others leave the source alone. -/

theorem c_reached {rs : RunsSt σ α} {g k : Nat} {acc : List α} (c : Bool) (h : takeReached take k = true) :
    (runsProto same take cl m).step ⟨rs, some (g, acc, k)⟩ c = (.item acc, ⟨rs, none⟩) := by
  simp [runsProto, h]

/-- the inner stream being collected answers the end without moving (it is dead, or the buffered item starts
the next run): the run is delivered and the inner stream closed if the protocol says so -/
theorem c_ended {rs : RunsSt σ α} {g k : Nat} {acc : List α} (c : Bool) (h : takeReached take k = false)
    (he : runsInner same m g rs c = (.end_, rs)) :
    (runsProto same take cl m).step ⟨rs, some (g, acc, k)⟩ c =
      (.item acc, ⟨if cl then runsInnerClose g rs else rs, none⟩) := by
  simp [runsProto, h, he]

/-- the detach flag the protocol leaves on a fully read inner stream -/
abbrev clFlag (cl : Bool) : Bool := cl && stRunsInnerCloseDetaches

theorem c_pull {s : σ} {gen g k : Nat} {prev : α} {acc : List α} (h : takeReached take k = false) (c : Bool) :
    (runsProto same take cl m).step (RC s none gen g prev acc k) c =
      pullThen (fun s' => RC s' none gen g prev acc k)
        (fun b s' => if same prev b then (.skip, RC s' none gen g b (acc ++ [b]) (k + 1))
          else (.item acc, RD s' (some b) gen g prev (clFlag cl)))
        (fun s' => (.item acc, RD s' none gen g prev (clFlag cl))) (m.step s c) := by
  simp only [runsProto, h, runsInner_step_none]
  rcases m.step s c with ⟨r, s'⟩
  cases r with
  | item b => by_cases hb : same prev b = true <;> cases cl <;> simp [pullThen, hb, runsInnerClose]
  | _ => cases cl <;> simp [pullThen, runsInnerClose]

theorem c_buf_same {s : σ} {gen g k : Nat} {prev b : α} {acc : List α} (c : Bool) (h : takeReached take k = false)
    (hb : same prev b = true) :
    (runsProto same take cl m).step (RC s (some b) gen g prev acc k) c =
      (.skip, RC s none gen g b (acc ++ [b]) (k + 1)) := by
  simp [runsProto, h, runsInner_step_some, hb]

theorem d_det {s : σ} {pkc : Option α} {gen g : Nat} {prev : α} (c : Bool) :
    (runsProto same take cl m).step (RD s pkc gen g prev true) c = (.skip, RS s pkc gen) := by
  have hd := runsInner_step_dead same m g ⟨⟨s, pkc⟩, gen, some (g, prev, true)⟩ c (fun _ h => by cases h)
  simp only [runsProto, runsOuter, hd, runsDrainOn_end]
  simp [runsInnerClose, stRunsClearsCurr]

theorem d_pull {s : σ} {gen g : Nat} {prev : α} (c : Bool) :
    (runsProto same take cl m).step (RD s none gen g prev false) c =
      pullThen (fun s' => RD s' none gen g prev false)
        (fun b s' => if same prev b then (.skip, RD s' none gen g b false) else (.skip, RS s' (some b) gen))
        (fun s' => (.skip, RS s' none gen)) (m.step s c) := by
  simp only [runsProto, runsOuter, runsInner_step_none]
  rcases m.step s c with ⟨r, s'⟩
  cases r with
  | item b => by_cases hb : same prev b = true <;> simp [pullThen, hb, runsInnerClose, stRunsClearsCurr, stRunsClosesCurr]
  | _ => simp [pullThen, runsInnerClose, stRunsClearsCurr, stRunsClosesCurr]

theorem d_buf {s : σ} {gen g : Nat} {prev b : α} (c : Bool) :
    (runsProto same take cl m).step (RD s (some b) gen g prev false) c =
      (.skip, if same prev b then RD s none gen g b false else RS s (some b) gen) := by
  simp only [runsProto, runsOuter, runsInner_step_some]
  by_cases hb : same prev b = true <;> simp [hb, runsInnerClose, stRunsClearsCurr, stRunsClosesCurr]

theorem s_pull {s : σ} {gen : Nat} (c : Bool) :
    (runsProto same take cl m).step (RS s none gen) c =
      pullThen (fun s' => RS s' none gen) (fun b s' => (.skip, RC s' (some b) (gen + 1) (gen + 1) b [] 0))
        (fun s' => (.end_, RS s' none gen)) (m.step s c) := by
  simp only [runsProto, runsOuter, peekPeek_step_none]
  rcases m.step s c with ⟨r, s'⟩
  cases r <;> simp [pullThen]

theorem s_buf {s : σ} {gen : Nat} {b : α} (c : Bool) :
    (runsProto same take cl m).step (RS s (some b) gen) c = (.skip, RC s (some b) (gen + 1) (gen + 1) b [] 0) := by
  simp [runsProto, runsOuter, peekPeek_step_some]

theorem runsInnerClose_pk (b : Bool) (g : Nat) (st : RunsSt σ α) :
    (if b = true then runsInnerClose g st else st).pk = st.pk := by
  cases b with
  | false => rfl
  | true =>
    simp only [if_true]
    unfold runsInnerClose
    split
    · split <;> rfl
    · rfl

/-- the source behind a protocol state -/
abbrev rsrc (st : RunsProtoSt σ α) : σ := st.rs.pk.inner

variable (same take cl m) in
theorem runsProto_thru (S : Err → Prop) : Thru S m (runsProto same take cl m) (fun st => st.rs.pk.inner) := by
  intro ⟨⟨⟨s, pkc⟩, gen, live⟩, cur⟩ c
  cases cur with
  | none =>
    cases live with
    | none =>
      cases pkc with
      | some b => exact thru_idle (proj := rsrc) (s_buf c) rfl nofun
      | none =>
        exact thru_pull (proj := rsrc) (s_pull c) (fun _ => rfl)
          (fun _ _ => ⟨rfl, nofun⟩) (fun _ => ⟨rfl, nofun⟩)
    | some l =>
      obtain ⟨g, prev, det⟩ := l
      cases det with
      | true => exact thru_idle (proj := rsrc) (d_det c) rfl nofun
      | false =>
        cases pkc with
        | some b => exact thru_idle (proj := rsrc) (d_buf c) (by split <;> rfl) nofun
        | none =>
          exact thru_pull (proj := rsrc) (d_pull c) (fun _ => rfl)
            (fun _ _ => by split <;> exact ⟨rfl, nofun⟩) (fun _ => ⟨rfl, nofun⟩)
  | some x =>
    obtain ⟨g, acc, k⟩ := x
    cases hr : takeReached take k with
    | true => exact thru_idle (proj := rsrc) (c_reached c hr) rfl nofun
    | false =>
      by_cases hl : ∃ prev, live = some (g, prev, false)
      · obtain ⟨prev, rfl⟩ := hl
        cases pkc with
        | none =>
          exact thru_pull (proj := rsrc) (c_pull hr c) (fun _ => rfl)
            (fun _ _ => by split <;> exact ⟨rfl, nofun⟩) (fun _ => ⟨rfl, nofun⟩)
        | some b =>
          cases hb : same prev b with
          | true => exact thru_idle (proj := rsrc) (c_buf_same c hr hb) rfl nofun
          | false =>
            exact thru_idle (proj := rsrc) (c_ended c hr (by rw [runsInner_step_some, hb]; rfl))
              (congrArg PeekSt.inner (runsInnerClose_pk cl g _)) nofun
      · exact thru_idle (proj := rsrc) (c_ended c hr (runsInner_step_dead same m g _ c (fun prev hp => hl ⟨prev, hp⟩)))
          (congrArg PeekSt.inner (runsInnerClose_pk cl g _)) nofun

theorem runsProto_wraps (same : α → α → Bool) (take : Option Nat) (cl : Bool) (m : SM σ α) (S : Err → Prop) :
    Wraps S m (runsProto same take cl m) (fun st => st.rs.pk.inner) :=
  ⟨runsProto_thru same take cl m S, fun t => by
    simp [runsProto, runsClose, stRunsCloseForwards_fact, peekClose, stPeekCloseForwards_fact]⟩

end steps

section main
variable {soft : Err → Bool} {same : α → α → Bool} (hrefl : ∀ a, same a a = true) {take : Option Nat} {cl : Bool}
  {m : SM σ α} {cost : σ → Nat}

abbrev rcost (cost : σ → Nat) : RunsProtoSt σ α → Nat := fun st => cost st.rs.pk.inner

/-- the own state of the protocol machine in the three shapes in which it pulls: collecting a run (`acc`, not yet
`take` items), skipping the rest of a run, looking for the next run -/
inductive RMode (α : Type v) (take : Option Nat) where
  | collect (gen g : Nat) (prev : α) (acc : List α) (h : takeReached take acc.length = false)
  | drop (gen g : Nat) (prev : α)
  | fresh (gen : Nat)

def RMode.mk : RMode α take → σ → RunsProtoSt σ α
  | .collect gen g prev acc _, s => RC s none gen g prev acc acc.length
  | .drop gen g prev, s => RD s none gen g prev false
  | .fresh gen, s => RS s none gen

/-- what the protocol machine yields from each of them -/
def RMode.spec (same : α → α → Bool) : RMode α take → List (α × Nat) → Term → List (List α × Nat) × Term
  | .collect _ _ prev acc _, L, t => (runsGoS same take (some acc) prev L t, t)
  | .drop _ _ prev, L, t => (runsGoS same take none prev L t, t)
  | .fresh _, L, t => (runsStartS same take L t, t)

/-- the induction hypothesis of `runs_sden`: what the machine denotes from every pulling state over `s'` -/
abbrev DenAll (soft : Err → Bool) (same : α → α → Bool) (take : Option Nat) (cl : Bool) (m : SM σ α) (cost : σ → Nat)
    (s' : σ) (L : List (α × Nat)) (t : Term) : Prop :=
  ∀ x : RMode α take, SDen soft (runsProto same take cl m) (rcost cost) (x.mk s') (x.spec same L t).1 (x.spec same L t).2

include hrefl in
theorem runs_buffered {s' : σ} {b : α} {L : List (α × Nat)} {t : Term} (ih : DenAll soft same take cl m cost s' L t)
    (gen g : Nat) :
    SDen soft (runsProto same take cl m) (rcost cost) (RC s' (some b) gen g b [] 0) (runsNewS same take b (cost s') L t) t := by
  unfold runsNewS
  have dbuf : ∀ c, (runsProto same take cl m).step (RD s' (some b) gen g b false) c = (.skip, RD s' none gen g b false) := by
    intro c; rw [d_buf, if_pos (hrefl b)]
  by_cases h0 : takeReached take 0 = true
  · rw [if_pos h0]
    refine .item (cost := rcost cost) (ctxOk_const (c_reached · h0)) (c_reached true h0) ?_
    exact .skip (ctxOk_const dbuf) (dbuf true) (ih (.drop gen g b))
  · have h0' : takeReached take 0 = false := by simpa using h0
    rw [if_neg h0]
    refine .skip (ctxOk_const (c_buf_same · h0' (hrefl b))) (c_buf_same true h0' (hrefl b)) ?_
    by_cases h1 : takeReached take 1 = true
    · rw [if_pos h1]
      exact .item (cost := rcost cost) (ctxOk_const (c_reached · h1)) (c_reached true h1) (ih (.drop gen g b))
    · rw [if_neg h1]
      exact ih (.collect gen g b ([] ++ [b]) (by simpa using h1))

variable (same) (take) (cl) in
theorem runs_sended {s' : σ} (he : SEnded m s') (hc : ∀ cs, cost (afterS m cs s') = cost s') (gen : Nat) :
    SEnded (runsProto same take cl m) (RS s' none gen) ∧
      ∀ cs, rcost cost (afterS (runsProto same take cl m) cs (RS s' none gen)) = cost s' :=
  sended_pull (put := fun s => RS s none gen) (fun st => st.rs.pk.inner) (fun _ c => s_pull c) (fun _ _ => rfl)
    (fun _ => rfl) he hc

include hrefl in
/-- the first item `b` of the next run sits in the peek buffer, no inner stream is live -/
theorem runs_after_buf {s' : σ} {b : α} {L : List (α × Nat)} {t : Term} (ih : DenAll soft same take cl m cost s' L t)
    (gen : Nat) :
    SDen soft (runsProto same take cl m) (rcost cost) (RS s' (some b) gen) (runsNewS same take b (cost s') L t) t :=
  .skip (ctxOk_const (fun c => s_buf c)) (s_buf true) (runs_buffered hrefl ih (gen + 1) (gen + 1))

include hrefl in
/-- … the same, the previous inner stream (which saw that `b` differs) not yet dropped -/
theorem runs_after_diff {s' : σ} {b prev : α} (hb : same prev b = false) {L : List (α × Nat)} {t : Term}
    (ih : DenAll soft same take cl m cost s' L t) (gen g : Nat) (flag : Bool) :
    SDen soft (runsProto same take cl m) (rcost cost) (RD s' (some b) gen g prev flag) (runsNewS same take b (cost s') L t) t := by
  have hstep : ∀ c, (runsProto same take cl m).step (RD s' (some b) gen g prev flag) c = (.skip, RS s' (some b) gen) := by
    intro c
    cases flag with
    | true => exact d_det c
    | false => rw [d_buf, if_neg (by simp [hb])]
  exact .skip (ctxOk_const hstep) (hstep true) (runs_after_buf hrefl ih gen)

/-- the source has ended and the last inner stream is still attached -/
theorem runs_end_rd {s' : σ} (he : SEnded m s') (hc : ∀ cs, cost (afterS m cs s') = cost s') (gen g : Nat) (prev : α)
    (flag : Bool) :
    SDen soft (runsProto same take cl m) (rcost cost) (RD s' none gen g prev flag) [] (.end_ (cost s')) := by
  cases flag with
  | true =>
    have hw := runs_sended same take cl (cost := cost) he hc gen
    exact .skip (ctxOk_const (fun c => d_det c)) (d_det true)
      (sden_of_ended (soft := soft) (cost := rcost cost) hw.1 hw.2)
  | false =>
    obtain ⟨s'', hs2, he2, hc1, hc2⟩ := he.live_cost hc
    have hw := runs_sended same take cl (cost := cost) he2 hc2 gen
    have hd := sden_of_ended (soft := soft) (cost := rcost cost) hw.1 hw.2
    have hstep : (runsProto same take cl m).step (RD s' none gen g prev false) true = (.skip, RS s'' none gen) := by
      rw [d_pull, hs2]; rfl
    have : rcost cost (RS (α := α) s'' none gen) = cost s' := hc1
    rw [this] at hd
    exact .skip (ctxOk_pull d_pull rfl he.ctxOk) hstep hd

/-- what the protocol machine does with an item / at the end of its source, in each pulling state (the right-hand
sides of `c_pull`, `d_pull`, `s_pull`) -/
def RMode.item (same : α → α → Bool) (cl : Bool) : RMode α take → α → σ → SStep (List α) × RunsProtoSt σ α
  | .collect gen g prev acc _, b, s' => if same prev b then (.skip, RC s' none gen g b (acc ++ [b]) (acc.length + 1))
      else (.item acc, RD s' (some b) gen g prev (clFlag cl))
  | .drop gen g prev, b, s' => if same prev b then (.skip, RD s' none gen g b false) else (.skip, RS s' (some b) gen)
  | .fresh gen, b, s' => (.skip, RC s' (some b) (gen + 1) (gen + 1) b [] 0)

def RMode.end_ (cl : Bool) : RMode α take → σ → SStep (List α) × RunsProtoSt σ α
  | .collect gen g prev acc _, s' => (.item acc, RD s' none gen g prev (clFlag cl))
  | .drop gen _ _, s' => (.skip, RS s' none gen)
  | .fresh gen, s' => (.end_, RS s' none gen)

theorem rmode_step (x : RMode α take) (s : σ) (c : Bool) :
    (runsProto same take cl m).step (x.mk s) c = pullThen x.mk (x.item same cl) (x.end_ cl) (m.step s c) := by
  cases x with
  | collect gen g prev acc h => exact c_pull h c
  | drop gen g prev => exact d_pull c
  | fresh gen => exact s_pull c

variable (same) (take) (cl) in
include hrefl in
theorem runs_sden {s : σ} {L : List (α × Nat)} {t : Term} (h : SDen soft m cost s L t) :
    DenAll soft same take cl m cost s L t := by
  have _tie := Skeleton.Tie.stRuns
  intro x
  refine sden_pull (fun x s c => rmode_step x s c) (RMode.spec same) (fun x e => by cases x <;> rfl) ?_ ?_ h
  · intro x s b s' L t hc hs ih
    cases x with
    | collect gen g prev acc hr =>
      by_cases hb : same prev b = true
      · simp only [RMode.spec, runsGoS_cons_same same take acc prev b _ L t hb]
        refine .skip (s' := RC s' none gen g b (acc ++ [b]) (acc.length + 1)) hc (by rw [hs]; simp [RMode.item, hb]) ?_
        by_cases hr' : takeReached take (acc ++ [b]).length = true
        · rw [if_pos hr']
          have hr'' : takeReached take (acc.length + 1) = true := by simpa using hr'
          exact .item (cost := rcost cost) (ctxOk_const (c_reached · hr'')) (c_reached true hr'') (ih (.drop gen g b))
        · rw [if_neg hr']
          have := ih (.collect gen g b (acc ++ [b]) (by simpa using hr'))
          simpa [RMode.mk, RMode.spec] using this
      · have hb' : same prev b = false := by simpa using hb
        simp only [RMode.spec, runsGoS_cons_diff same take acc prev b _ L t hb']
        exact .item (cost := rcost cost) (a := acc) (s' := RD s' (some b) gen g prev (clFlag cl)) hc
          (by rw [hs]; simp [RMode.item, hb']) (runs_after_diff hrefl hb' ih gen g _)
    | drop gen g prev =>
      by_cases hb : same prev b = true
      · simp only [RMode.spec, runsGoS_none_same same take prev b _ L t hb]
        exact .skip (s' := RD s' none gen g b false) hc (by rw [hs]; simp [RMode.item, hb]) (ih (.drop gen g b))
      · have hb' : same prev b = false := by simpa using hb
        simp only [RMode.spec, runsGoS_none_diff same take prev b _ L t hb']
        exact .skip (s' := RS s' (some b) gen) hc (by rw [hs]; simp [RMode.item, hb']) (runs_after_buf hrefl ih gen)
    | fresh gen =>
      exact .skip (s' := RC s' (some b) (gen + 1) (gen + 1) b [] 0) hc hs (runs_buffered hrefl ih (gen + 1) (gen + 1))
  · intro x s s' hc hs he hk
    have hw := fun gen => runs_sended same take cl (cost := cost) he hk gen
    cases x with
    | collect gen g prev acc hr =>
      exact .item (cost := rcost cost) (a := acc) (s' := RD s' none gen g prev (clFlag cl))
        (ctxOk_pull (rmode_step _ s) rfl hc) (by rw [rmode_step, hs]; rfl) (runs_end_rd he hk gen g prev _)
    | drop gen g prev =>
      exact .skip (s' := RS s' none gen) (ctxOk_pull (rmode_step _ s) rfl hc) (by rw [rmode_step, hs]; rfl)
        (sden_of_ended (soft := soft) (cost := rcost cost) (hw gen).1 (hw gen).2)
    | fresh gen =>
      exact .done (cost := rcost cost) (s' := RS s' none gen) (ctxOk_pull (rmode_step _ s) rfl hc)
        (by rw [rmode_step, hs]; rfl) (hw gen).1 (hw gen).2

end main

end Juniper.Proofs.StreamDen
