import Juniper.Proofs.TreeHeapLinkLevel
/-!
# Linking the two B-tree models (C03): one round of `overfill`

`overfill_sim`: one round of `Heap.overfill` on a full node (leaf or inner) succeeds, splits the node as
`overfillNode` does, re-parents the children of both halves and continues with `up` (the rest of the loop body:
new root / separator insert into the parent / next round one level up).
-/
namespace Juniper.Proofs.TreeHeapLink
open Juniper Juniper.Model.BTree Juniper.Model.BTreeSlotsOps Juniper.Proofs.Tree Juniper.Proofs.TreeSlotsOps

variable {K V : Type}

/-- the children of the amalgam: the old children with the new right node behind position `e` -/
def amalKids (cids : List Nat) (e : Nat) : Option Nat → List Nat
  | none => cids
  | some r0 => insertAt cids (e + 1) r0

theorem step_split {h : Heap K V} {i e : Nat} {x : SNode K V Nat} {kvs : List (K × V)} {cids : List Nat}
    {afterK : Option Nat}
    (hx : h.get i = some x) (hr : NodeRep x kvs cids) (hfull : kvs.length = keysCap) (he : e ≤ keysCap)
    (hk : (cids = [] ∧ afterK = none) ∨ (cids.length = kvs.length + 1 ∧ afterK.isSome))
    (k : K) (v : V) (w : List Nat) :
    ∃ h' l' r', splitNode x e (some k) (some v) afterK =
        some (l', some ((insertAt kvs e (k, v)).getD Gen.Tree.medianIdx.toNat (k, v)).1,
              some ((insertAt kvs e (k, v)).getD Gen.Tree.medianIdx.toNat (k, v)).2, r') ∧
      h.step (.split i e k v afterK) w = some h' ∧ h'.root = h.root ∧ h'.size = h.size ∧ h'.gen = h.gen ∧
      h'.nodes.length = h.nodes.length + 1 ∧
      NodeRep l' ((insertAt kvs e (k, v)).take Gen.Tree.medianIdx.toNat)
        ((amalKids cids e afterK).take (Gen.Tree.medianIdx.toNat + 1)) ∧
      NodeRep r' ((insertAt kvs e (k, v)).drop (Gen.Tree.medianIdx.toNat + 1))
        ((amalKids cids e afterK).drop (Gen.Tree.medianIdx.toNat + 1)) ∧
      l'.parent = x.parent ∧ r'.parent = none ∧
      ∀ j, h'.get j = if j = h.nodes.length then some r' else if j = i then some l' else h.get j := by
  have hx0 : getNode h.nodes i = some x := hx
  have g1 : x.n = keysCap := by rw [hr.hn, hfull]
  have hmlt : Gen.Tree.medianIdx.toNat < (insertAt kvs e (k, v)).length := by
    rw [length_insertAt, hfull]
    have := split_nums.1
    omega
  have hsep : (insertAt kvs e (k, v))[Gen.Tree.medianIdx.toNat]? =
      some ((insertAt kvs e (k, v)).getD Gen.Tree.medianIdx.toNat (k, v)) := by
    rw [List.getD_eq_getElem?_getD, List.getElem?_eq_getElem hmlt]; simp
  have hk' : cids = [] ∧ amalKids cids e afterK = [] ∨ cids.length = kvs.length + 1 ∧
      Gen.TreeSlots.amalgamChildDec = true ∧
      ∃ r, afterK = some r ∧ amalKids cids e afterK = cids.take (e + 1) ++ r :: cids.drop (e + 1) := by
    rcases hk with ⟨rfl, rfl⟩ | ⟨hc, ha⟩
    · exact Or.inl ⟨rfl, rfl⟩
    · obtain ⟨r0, rfl⟩ := Option.isSome_iff_exists.mp ha
      exact Or.inr ⟨hc, by decide, r0, rfl, rfl⟩
  obtain ⟨l', r', ⟨hs, hl, hrr⟩, hp1, hp2⟩ := splitNode_rep hr hfull he k v hk' (by decide)
  have hkind : x.isLeaf = true ∨ afterK.isSome = true := hk.imp (fun hc => hr.isLeaf_iff.mpr hc.1) (·.2)
  rw [show kvs.take e ++ (k, v) :: kvs.drop e = insertAt kvs e (k, v) from rfl, hsep] at hs
  have ha : applyOp h.nodes (.split i e k v afterK) = some (h.nodes.set i (some l') ++ [some r']) := by
    rw [applyOp_split, hx0, Option.bind_some, if_pos ⟨g1, he, hkind⟩, hs, Option.bind_some]
  refine ⟨_, l', r', hs, step_some ha, rfl, rfl, rfl, by simp, hl, hrr, hp1, hp2, ?_⟩
  intro j
  show getNode (h.nodes.set i (some l') ++ [some r']) j = _
  rw [getNode_snoc, getNode_set (get_lt hx)]
  simp only [List.length_set]
  rfl

/-- the rest of the body of `overfill`'s loop once the node `xid` has been split into itself and the
fresh node `rid` with separator `(sk, sv)`: a new root, or the separator goes into the parent, or the
parent is full and is split in the next round. -/
def up (cmp : K → K → Int) (fuel : Nat) (h : Heap K V) (xid : Nat) (sk : K) (sv : V) (rid : Nat) : Option (Heap K V) :=
  if xid = h.root then do
    let pid := h.nodes.length
    let h ← h.step (.newRoot sk sv xid rid) [pid]
    let h ← h.setParents [some xid, some rid] (some pid)
    pure (Heap.event { h with root := pid } "newroot")
  else do
    let left ← h.get xid
    let pid ← left.parent
    let p ← h.get pid
    if Gen.Tree.overfillParentHasRoom (Gen.Tree.full p.n) then
      let idx ← indexOf p.kids xid
      let h ← h.step (.parentInsert pid idx sk sv rid) [pid]
      h.setParents [some rid] (some pid)
    else
      Heap.overfill cmp fuel h pid sk sv (some rid)

/-- one round of `overfill` on the full node `xid`, whose children after the insertion of the new right node are the
forest `F`: the two halves are in the store, the first `medianIdx + 1` children below `xid`, the others below the fresh
node -/
theorem overfill_sim (cmp : K → K → Int) {h : Heap K V} {xid : Nat} {x : SNode K V Nat} {p : Option Nat}
    {kvs : List (K × V)} {cids : List Nat} {F : List (Node K V)} (k : K) (v : V) {afterK : Option Nat} {e : Nat}
    (he : lowerIdx Gen.Tree.amalgamLess cmp k kvs = e)
    (hx : h.get xid = some x) (hpar : x.parent = p) (hr : NodeRep x kvs cids) (hfull : kvs.length = keysCap)
    (hk : (cids = [] ∧ afterK = none) ∨ (cids.length = kvs.length + 1 ∧ afterK.isSome))
    (hFid : F.map Node.id = amalKids cids e afterK)
    (hF : ∀ j, cntK j F ≤ 1) (hsub : ∀ d ∈ F, ∃ q, Sub h.get q d) (hxF : cntK xid F = 0) :
    ∃ h1,
      (∀ fuel, Heap.overfill cmp (fuel + 1) h xid k v afterK =
        up cmp fuel h1 xid
          ((insertAt kvs e (k, v)).getD Gen.Tree.medianIdx.toNat (k, v)).1
          ((insertAt kvs e (k, v)).getD Gen.Tree.medianIdx.toNat (k, v)).2
          h.nodes.length) ∧
      h1.root = h.root ∧ h1.size = h.size ∧ h1.gen = h.gen ∧ h1.nodes.length = h.nodes.length + 1 ∧
      Sub h1.get p (.mk xid ((insertAt kvs e (k, v)).take Gen.Tree.medianIdx.toNat)
        (F.take (Gen.Tree.medianIdx.toNat + 1))) ∧
      Sub h1.get none (.mk h.nodes.length ((insertAt kvs e (k, v)).drop (Gen.Tree.medianIdx.toNat + 1))
        (F.drop (Gen.Tree.medianIdx.toNat + 1))) ∧
      ∀ j, cntK j F = 0 → j ≠ h.nodes.length → j ≠ xid → h1.get j = h.get j := by
  -- the identities of the forest are allocated: the fresh one is not among them
  have hrF : cntK h.nodes.length F = 0 := by
    refine Nat.eq_zero_of_not_pos fun hp => ?_
    obtain ⟨i, d, hdi, hjd⟩ := exists_child_index hp
    obtain ⟨q, hq⟩ := hsub d (List.mem_of_getElem? hdi)
    exact Nat.lt_irrefl _ (hq.lt _ hjd)
  have hne : xid ≠ h.nodes.length := Nat.ne_of_lt (get_lt hx)
  have hele : e ≤ keysCap := by rw [← he, ← hfull]; exact lowerIdx_le _ _ _ _
  obtain ⟨h0, l', r', hs, hstep, hroot, hsize, hgen, hlen, hl, hrr, hp1, hp2, hg0⟩ :=
    step_split hx hr hfull hele hk k v [xid, h.nodes.length]
  -- the forest consists of old objects other than `xid`: the split leaves it alone
  have hsub0 : ∀ d ∈ F, ∃ q, Sub (h0.event ("split-" ++ Heap.level x)).get q d := fun d hd =>
    (hsub d hd).imp fun q s => Sub.congr d (fun j hj => by
      have := cnt_le_cntK hd j
      rw [event_get, hg0, if_neg (by rintro rfl; omega), if_neg (by rintro rfl; omega)]) s
  -- the right half's children get the fresh node as parent, then the left half's children `xid`
  obtain ⟨ha, hsa, hsamea, hsubA, hfrA⟩ := setParents_sub (some h.nodes.length) hF
    ((amalKids cids e afterK).drop (Gen.Tree.medianIdx.toNat + 1)) hsub0 (fun c hc => hFid ▸ List.mem_of_mem_drop hc)
  obtain ⟨h1, hsb, hsameb, hsubB, hfrB⟩ := setParents_sub (some xid) hF
    ((amalKids cids e afterK).take (Gen.Tree.medianIdx.toNat + 1))
    (fun d hd => (hsub0 d hd).elim fun q s => ⟨_, hsubA d hd q s⟩) (fun c hc => hFid ▸ List.mem_of_mem_take hc)
  have hln : toIdx l'.n = some ((insertAt kvs e (k, v)).take Gen.Tree.medianIdx.toNat).length := toIdx_eq hl.hn
  have hrn : toIdx r'.n = some ((insertAt kvs e (k, v)).drop (Gen.Tree.medianIdx.toNat + 1)).length := toIdx_eq hrr.hn
  have hsp : (if x.isLeaf = true then some (h0.event ("split-" ++ Heap.level x)) else
      ((h0.event ("split-" ++ Heap.level x)).setParents
        (r'.kids.take (((insertAt kvs e (k, v)).drop (Gen.Tree.medianIdx.toNat + 1)).length + 1)) (some h.nodes.length)).bind
        fun h => h.setParents (l'.kids.take (((insertAt kvs e (k, v)).take Gen.Tree.medianIdx.toNat).length + 1)) (some xid)) =
      some h1 := by
    rcases hk with ⟨rfl, rfl⟩ | ⟨hc, ha'⟩
    · -- a leaf: nothing to re-parent
      obtain rfl : h0.event ("split-" ++ Heap.level x) = ha := Option.some.inj hsa
      rw [if_pos (hr.isLeaf_iff.mpr rfl)]
      exact hsb
    · obtain ⟨r0, rfl⟩ := Option.isSome_iff_exists.mp ha'
      have hlf : x.isLeaf = false := isLeaf_of_rep_cons hr.hkids (List.ne_nil_of_length_eq_add_one hc)
      have hak : (amalKids cids e (some r0)).length = keysCap + 2 := by
        simp only [amalKids, length_insertAt, hc, hfull]
      obtain ⟨s3, s4⟩ := split_shape (insertAt kvs e (k, v)) (amalKids cids e (some r0))
        (by rw [length_insertAt, hfull]) hak split_nums.1
      rw [if_neg (by simp [hlf]), ← s4, hrr.hkids.take, ← s3, hl.hkids.take, hsa, Option.bind_some, hsb]
  rw [← hFid] at hl hrr
  refine ⟨h1, ?_, (hsameb.root.trans hsamea.root).trans hroot, (hsameb.size.trans hsamea.size).trans hsize,
    (hsameb.gen.trans hsamea.gen).trans hgen, (hsameb.len.trans hsamea.len).trans hlen,
    sub_mk.mpr ⟨l', ?_, hp1.trans hpar, by rw [List.map_take]; exact hl, fun d hd => ?_⟩,
    sub_mk.mpr ⟨r', ?_, hp2, by rw [List.map_drop]; exact hrr, fun d hd => ?_⟩, ?_⟩
  · intro fuel
    unfold Heap.overfill
    simp only [bind, pure, hx, Option.bind_some, show x.keys.length = kvs.length by rw [hr.hkeys.length, hfull],
      lowerFrom_rep _ cmp k hr, he, hs, hstep, hrn, hln, hsp]
    rfl
  · rw [hfrB _ (not_mem_ids hxF), hfrA _ (not_mem_ids hxF), event_get, hg0, if_neg hne, if_pos rfl]
  · obtain ⟨q, s⟩ := hsub0 d (List.mem_of_mem_take hd)
    have := hsubB d (List.mem_of_mem_take hd) _ (hsubA d (List.mem_of_mem_take hd) q s)
    rwa [if_pos (by rw [← hFid, ← List.map_take]; exact List.mem_map_of_mem hd)] at this
  · rw [hfrB _ (not_mem_ids hrF), hfrA _ (not_mem_ids hrF), event_get, hg0, if_pos rfl]
  · obtain ⟨q, s⟩ := hsub0 d (List.mem_of_mem_drop hd)
    have hin : d.id ∈ (amalKids cids e afterK).drop (Gen.Tree.medianIdx.toNat + 1) := by
      rw [← hFid, ← List.map_drop]; exact List.mem_map_of_mem hd
    have := hsubB d (List.mem_of_mem_drop hd) _ (hsubA d (List.mem_of_mem_drop hd) q s)
    rwa [if_neg (not_mem_take_of_mem_drop (hFid ▸ kids_ids_nodup hF) hin), if_pos hin] at this
  · intro j hj h1' h2'
    rw [hfrB j (not_mem_ids hj), hfrA j (not_mem_ids hj), event_get, hg0, if_neg h1', if_neg h2']

end Juniper.Proofs.TreeHeapLink
