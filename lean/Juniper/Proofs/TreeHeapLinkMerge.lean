import Juniper.Proofs.TreeHeapLinkFix
/-!
# Linking the two B-tree models (C03): `mergeTwo` at tree level

`mergeFrom_step`: the first half of one round of `Heap.mergeFrom` (choose the pair, re-parent the
children of the right node, `mergeTwo`) produces what `mergeAt` computes;
the second half (`mergeTail`: root collapse / cascade) is kept symbolic.
-/
namespace Juniper.Proofs.TreeHeapLink
open Juniper Juniper.Model.BTree Juniper.Model.BTreeSlotsOps Juniper.Proofs.Tree Juniper.Proofs.TreeSlotsOps

variable {K V : Type}

/-- the epilogue of `mergeTwo` (with the cascade of `merge`): root collapse, or steal / merge one level up -/
def mergeTail (fuel : Nat) (h : Heap K V) (pid lid : Nat) : Option (Heap K V) := do
  let p' ← h.get pid
  if Gen.Tree.mergeRootCheck pid h.root then
    if Gen.Tree.mergeRootEmpty p'.n then
      let h ← (if Gen.Tree.mergeCollapseClearsParent then h.step (.setParent lid none) [lid] else some h)
      if Gen.Tree.mergeCollapseSetsRoot then
        let h ← h.step (.drop pid) []
        pure (Heap.event { h with root := lid } "collapse")
      else pure h
    else pure h
  else if Gen.Tree.mergeCascades p'.n false then
    let hs ← Heap.steal h pid
    if Gen.Tree.mergeCascades p'.n hs.2 then Heap.mergeFrom fuel hs.1 pid else pure hs.1
  else pure h

theorem ids_merge {kids : List (Node K V)} {a : Nat} {L L' : Node K V} (hL : kids[a]? = some L) (h1 : L'.id = L.id) :
    (kids.take a ++ L' :: kids.drop (a + 2)).map Node.id =
      (kids.map Node.id).take (a + 1) ++ (kids.map Node.id).drop (a + 2) := by
  simp only [List.map_append, List.map_cons, List.map_take, List.map_drop, List.take_add_one, List.getElem?_map, hL,
    Option.map_some, Option.toList_some, h1, List.append_assoc, List.singleton_append]

theorem mergeFrom_step {h : Heap K V} {p : Option Nat} {id li ri a xid : Nat} {kvs lkvs rkvs : List (K × V)}
    {kids lkids rkids : List (Node K V)} {left right : Option Nat} {ln : Int}
    (hsub : Sub h.get p (.mk id kvs kids)) (hcnt : ∀ j, cnt j (Node.mk id kvs kids) ≤ 1)
    (hlen : kids.length = kvs.length + 1) (ha : a < kvs.length)
    (hL : kids[a]? = some (.mk li lkvs lkids)) (hR : kids[a + 1]? = some (.mk ri rkvs rkids))
    (hkind : lkids = [] ↔ rkids = []) (hfit : lkvs.length + 1 + rkvs.length ≤ keysCap)
    (hsib : Heap.siblings h xid = some (left, right)) (hnl : Heap.nOf h left = some ln)
    (hch : (if Gen.Tree.mergeIntoLeft left.isSome ln then left.map (·, xid) else right.map (xid, ·)) = some (li, ri)) :
    ∃ h1, (∀ fuel, Heap.mergeFrom (fuel + 1) h xid = mergeTail fuel h1 id li) ∧
      Repl h h1 p (.mk id kvs kids) (.mk id (kvs.take a ++ kvs.drop (a + 1))
        (kids.take a ++ .mk li (lkvs ++ kvs[a] :: rkvs) (lkids ++ rkids) :: kids.drop (a + 2))) := by
  obtain ⟨sp, xl, xr, o⟩ := pair_objects hsub hcnt hL hR
  -- the children of the right node get the left node as parent (a leaf has none)
  obtain ⟨ha', hsp, hsamea, hsubA, hfrA⟩ := setParents_sub (some li) o.forest (rkids.map Node.id)
    (fun d hd => (List.mem_append.mp hd).elim (fun m => ⟨_, o.subL d m⟩) (fun m => ⟨_, o.subR d m⟩))
    (fun c hc => by rw [List.map_append]; exact List.mem_append_right _ hc)
  have hrepar : (if xr.isLeaf = true then some h else
      (toIdx xr.n).bind fun rn => h.setParents (xr.kids.take (rn + 1)) (some li)) = some ha' := by
    by_cases hrl : rkids = []
    · subst hrl
      rw [if_pos (o.repR.isLeaf_iff.mpr rfl)]
      exact hsp
    · have hne : rkids.map Node.id ≠ [] := by simpa using hrl
      rw [if_neg (by simp [isLeaf_of_rep_cons o.repR.hkids hne]), o.repR.hn, toIdx_natCast, Option.bind_some,
        ← o.repR.hshape.resolve_left hne, o.repR.hkids.take]
      exact hsp
  obtain ⟨h1, p', l', hstep, hsame1, rp', rl', q1, q2, hg1⟩ :=
    step_mergeTwo ((hfrA _ (o.off _ (.inl rfl))).trans o.atP) ((hfrA _ (o.off _ (.inr (.inl rfl)))).trans o.atL)
      ((hfrA _ (o.off _ (.inr (.inr rfl)))).trans o.atR) o.repP o.repL o.repR o.neL o.neLR o.neR (by simpa using hlen)
      (by simp [hkind]) ha hfit [li, id]
  have hg1' : ∀ j, j ≠ id → j ≠ li → j ≠ ri → h1.get j = ha'.get j := fun j a b c => by
    rw [hg1, if_neg c, if_neg b, if_neg a]
  obtain ⟨hout, hfr⟩ := o.away (g' := h1.get) (fun j a b c m => (hg1' j a b c).trans (hfrA j m))
  refine ⟨h1.event ("merge-" ++ Heap.level xl), ?_, .of_same ((hsamea.trans hsame1).trans (same_event _ _))
    (sub_mk.mpr ⟨p', by rw [event_get, hg1, if_neg o.neR, if_neg o.neL, if_pos rfl], q1.trans o.parP, ?_, ?_⟩) rfl hfr⟩
  · intro fuel
    unfold Heap.mergeFrom
    simp only [bind, pure, hsib, hnl, callArgs_merge, hch, Option.map_some, o.atL, o.atR, o.parL, o.atP,
      indexOf_rep o.repP.hkids o.nodup o.idxL, Option.bind_some, hrepar, hstep]
    rfl
  · rw [ids_merge (L' := Node.mk li (lkvs ++ kvs[a] :: rkvs) (lkids ++ rkids)) hL rfl]; exact rp'
  · intro d hd
    simp only [List.mem_append, List.mem_cons] at hd
    rcases hd with hd | rfl | hd
    · exact hout d (Or.inl hd)
    · -- the left node with the children of both
      refine sub_mk.mpr ⟨l', by rw [event_get, hg1, if_neg o.neLR, if_pos rfl], q2.trans o.parL, by simpa using rl',
        fun d hd => o.keep hg1' d hd _ ?_⟩
      rcases List.mem_append.mp hd with hm | hm
      · have := hsubA d hd _ (o.subL d hm)
        rwa [ite_self] at this
      · have := hsubA d hd _ (o.subR d hm)
        rwa [if_pos (List.mem_map_of_mem hm)] at this
    · exact hout d (Or.inr hd)

end Juniper.Proofs.TreeHeapLink
