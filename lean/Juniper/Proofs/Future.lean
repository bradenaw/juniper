import Juniper.Model.Watch
import Juniper.Proofs.ListStore
/-! `Future` (C18): `fstep FCfg.std` as a relation (`FStep`, `WaitNext`) and the invariant `FutInv`. -/
namespace Juniper.Proofs.Watch
open Juniper.Model.Watch Juniper.ListStore

inductive WaitNext (s : FState) (w : FWaiter) : FWaiter → Prop where
  | call : w.pc = .idle → WaitNext s w { w with pc := .blocked }
  | recv : w.pc = .blocked → s.closed = true → WaitNext s w { w with pc := .passed }
  | read : w.pc = .passed → WaitNext s w { w with pc := .done (.val s.x) }
  | giveUp : w.pc = .blocked → w.withCtx = true → w.cancelled = true → WaitNext s w { w with pc := .done .ctxErr }
  | cancel : w.cancelled = false → WaitNext s w { w with cancelled := true }

inductive FStep (s : FState) : FState → Prop where
  /-- first statement of `Fill`; the second one if the statements came in the other order -/
  | store {i : Nat} {v : Int} {pc pc' : FillPc} : s.fillers[i]? = some (v, pc) →
      pc = .idle ∧ pc' = .stored ∨ pc = .closedIt ∧ pc' = .done →
      FStep s { s with x := some v, fillers := s.fillers.set i (v, pc') }
  | close {i : Nat} {v : Int} : s.fillers[i]? = some (v, .stored) → s.closed = false →
      FStep s { s with closed := true, fillers := s.fillers.set i (v, .done) }
  | closePanic {i : Nat} {v : Int} : s.fillers[i]? = some (v, .stored) → s.closed = true →
      FStep s { s with fillers := s.fillers.set i (v, .panicked) }
  | wait {j : Nat} {w w' : FWaiter} : s.waiters[j]? = some w → WaitNext s w w' →
      FStep s { s with waiters := s.waiters.set j w' }

theorem fstep_sound {s s' : FState} {l : FLabel} (h : fstep FCfg.std s l = some s') : FStep s s' := by
  revert h
  -- `fun_cases` follows the branches of `fstep`: those that return `none` go by `cases h`, which in the others puts the
  -- successor state in; what remains comes in the order of the labels (the two branches after the first are those of a
  -- `Fill` that closes before it stores, which the standard configuration does not have)
  fun_cases fstep FCfg.std s l <;> intro h <;> cases h
  · rename_i hi _; simp only [setFiller, doStore, modify_eq_set hi]; exact .store hi (.inl ⟨rfl, rfl⟩)
  · exact absurd rfl ‹¬ FCfg.std.fillStoresFirst = true›
  · exact absurd rfl ‹¬ FCfg.std.fillStoresFirst = true›
  · rename_i hi s1 hs1
    obtain ⟨hc, rfl⟩ : s.closed = false ∧ { s with closed := true } = s1 := by simpa [doClose] using hs1
    simp only [setFiller, modify_eq_set hi]; exact .close hi hc
  · rename_i hi hc
    simp only [setFiller, modify_eq_set hi]; exact .closePanic hi (by simpa [doClose] using hc)
  · rename_i hi; simp only [setFiller, doStore, modify_eq_set hi]; exact .store hi (.inr ⟨rfl, rfl⟩)
  · rename_i hw hp; simp only [setWaiter, modify_eq_set hw]; exact .wait hw (.call hp)
  · rename_i hw hc
    simp only [Bool.and_eq_true, decide_eq_true_eq] at hc
    simp only [setWaiter, modify_eq_set hw]; exact .wait hw (.recv hc.1 hc.2)
  · rename_i hw hp; simp only [setWaiter, modify_eq_set hw]; exact .wait hw (.read hp)
  · rename_i hw hc
    simp only [Bool.and_eq_true, decide_eq_true_eq] at hc
    simp only [setWaiter, modify_eq_set hw]; exact .wait hw (.giveUp hc.1.1 hc.1.2 hc.2)
  · rename_i hw hc; rw [modify_eq_set hw]; exact .wait hw (.cancel (by simpa using hc))

/-- the values the `Fill` calls of this run carry (fixed at the start) -/
def fvals (s : FState) : List Int := s.fillers.map (·.1)

theorem fstep_fvals {s s' : FState} (h : FStep s s') : fvals s' = fvals s := by
  have hset : ∀ {i : Nat} {v : Int} {pc pc' : FillPc}, s.fillers[i]? = some (v, pc) →
      (s.fillers.set i (v, pc')).map (·.1) = s.fillers.map (·.1) := by
    intro i v pc pc' hi
    rw [List.map_set]
    exact set_eq_self (by rw [List.getElem?_map, hi]; rfl)
  cases h with
  | store hi | close hi | closePanic hi => exact hset hi
  | _ => rfl

structure FutInv (v : Int) (s : FState) : Prop where
  vals : fvals s = [v]
  filled_x : ∀ (i : Nat) (v' : Int) (pc : FillPc), s.fillers[i]? = some (v', pc) → pc ≠ .idle → s.x = some v
  closed_x : s.closed = true → s.x = some v
  passed : ∀ (j : Nat) (w : FWaiter), s.waiters[j]? = some w → w.pc = .passed → s.closed = true
  doneVal : ∀ (j : Nat) (w : FWaiter) (r : Option Int), s.waiters[j]? = some w → w.pc = .done (.val r) → r = some v
  doneErr : ∀ (j : Nat) (w : FWaiter), s.waiters[j]? = some w → w.pc = .done .ctxErr → w.withCtx = true ∧ w.cancelled = true

theorem finv_init (v : Int) (ws : List Bool) : FutInv v (finit [v] ws) := by
  have hw : ∀ (j : Nat) (w : FWaiter), (finit [v] ws).waiters[j]? = some w → w.pc = .idle := by
    intro j w h
    obtain ⟨c, _, rfl⟩ := List.mem_map.mp (List.mem_of_getElem? h)
    rfl
  refine ⟨rfl, ?_, nofun, fun j w h hp => ?_, fun j w r h hp => ?_, fun j w h hp => ?_⟩
  · intro i v' pc h hne
    cases List.mem_singleton.mp (List.mem_of_getElem? h)
    exact absurd rfl hne
  all_goals cases (hw j w h).symm.trans hp

theorem filler_val {v : Int} {s : FState} (hv : fvals s = [v]) {i : Nat} {v' : Int} {pc : FillPc}
    (h : s.fillers[i]? = some (v', pc)) : v' = v :=
  List.mem_singleton.mp (hv ▸ List.mem_map_of_mem (List.mem_of_getElem? h))

theorem finv_waiter {v : Int} {s : FState} {j : Nat} {w : FWaiter} (hI : FutInv v s)
    (h1 : w.pc = .passed → s.closed = true) (h2 : ∀ r, w.pc = .done (.val r) → r = some v)
    (h3 : w.pc = .done .ctxErr → w.withCtx = true ∧ w.cancelled = true) :
    FutInv v { s with waiters := s.waiters.set j w } :=
  ⟨hI.vals, hI.filled_x, hI.closed_x, forall_set hI.passed h1,
    fun k u r hk => forall_set (fun k u hk => hI.doneVal k u r hk) (h2 r) k u hk, forall_set hI.doneErr h3⟩

theorem finv_step {v : Int} {s s' : FState} (hI : FutInv v s) (h : FStep s s') : FutInv v s' := by
  have hv := (fstep_fvals h).trans hI.vals
  cases h with
  | @store i v' _ _ hi =>
    cases filler_val hI.vals hi
    exact ⟨hv, fun _ _ _ _ _ => rfl, fun _ => rfl, hI.passed, hI.doneVal, hI.doneErr⟩
  | @close i v' hi =>
    have hx := hI.filled_x i v' .stored hi nofun
    exact ⟨hv, fun _ _ _ _ _ => hx, fun _ => hx, fun _ _ _ _ => rfl, hI.doneVal, hI.doneErr⟩
  | @closePanic i v' hi =>
    exact ⟨hv, fun _ _ _ _ _ => hI.filled_x i v' .stored hi nofun, hI.closed_x, hI.passed, hI.doneVal, hI.doneErr⟩
  | @wait j w w' hw hn =>
    cases hn with
    | call => exact finv_waiter hI nofun nofun nofun
    | recv _ hc => exact finv_waiter hI (fun _ => hc) nofun nofun
    | read hp =>
      exact finv_waiter hI nofun (fun r hr => by cases hr; exact hI.closed_x (hI.passed j w hw hp)) nofun
    | giveUp _ hc hcan => exact finv_waiter hI nofun nofun (fun _ => ⟨hc, hcan⟩)
    | cancel =>
      exact finv_waiter hI (hI.passed j w hw) (fun r => hI.doneVal j w r hw) (fun hp => ⟨(hI.doneErr j w hw hp).1, rfl⟩)

theorem finv_reach {v : Int} {s : FState} (h : FReach FCfg.std s) (hv : fvals s = [v]) : FutInv v s := by
  induction h with
  | init vals ws =>
    have : fvals (finit vals ws) = vals := by simp [fvals, finit, List.map_map, Function.comp_def]
    cases this.symm.trans hv
    exact finv_init v ws
  | step l _ hs ih => exact finv_step (ih ((fstep_fvals (fstep_sound hs)).symm.trans hv)) (fstep_sound hs)

end Juniper.Proofs.Watch
