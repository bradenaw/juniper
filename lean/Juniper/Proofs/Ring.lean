import Juniper.Spec.Seq
/-!
# The ring buffer of `Last` (pure part, shared by the iterator and the stream version)
-/
namespace Juniper.Proofs.Ring
open Juniper.Spec
universe u
variable {α : Type u}

/-- store the `i`-th item (0-based) -/
def store (n : Nat) (buf : List (Option α)) (i : Nat) (a : α) : List (Option α) :=
  if n > 0 then buf.set (i % n) (some a) else buf

/-- read the buffer out after `i` items -/
def finish (n : Nat) (buf : List (Option α)) (i : Nat) : List (Option α) :=
  if i < n then buf.take i else if n > 0 then buf.drop (i % n) ++ buf.take (i % n) else []

/-- the buffer after feeding `l` to the ring `buf` of size `n` that has taken `i` items -/
def run (n : Nat) : List (Option α) → Nat → List α → List (Option α)
  | buf, _, [] => buf
  | buf, i, a :: l => run n (store n buf i a) (i + 1) l

theorem succ_mod (i n : Nat) (h : 0 < n) : (i + 1) % n = if i % n + 1 = n then 0 else i % n + 1 := by
  have hr := Nat.mod_lt i h
  rw [Nat.add_mod]
  by_cases h1 : n = 1
  · subst h1; simp [Nat.mod_one]
  · have : 1 % n = 1 := Nat.mod_eq_of_lt (by omega)
    rw [this]
    by_cases h2 : i % n + 1 = n
    · rw [if_pos h2, h2, Nat.mod_self]
    · rw [if_neg h2, Nat.mod_eq_of_lt (by omega)]

theorem lastN_snoc (n : Nat) (l : List α) (a : α) (hn : 0 < n) (hl : n ≤ l.length) :
    Seq.lastN n (l ++ [a]) = (Seq.lastN n l).tail ++ [a] := by
  simp only [Seq.lastN, List.length_append, List.length_cons, List.length_nil]
  rw [List.tail_drop, List.drop_append_of_le_length (by omega)]
  congr 2
  omega

theorem store_fill (n : Nat) (l : List α) (a : α) (hl : l.length < n) :
    store n (l.map some ++ List.replicate (n - l.length) none) l.length a =
      (l ++ [a]).map some ++ List.replicate (n - (l.length + 1)) none := by
  have hn : n > 0 := by omega
  simp only [store, hn, if_true, Nat.mod_eq_of_lt hl]
  obtain ⟨k, hk⟩ : ∃ k, n - l.length = k + 1 := ⟨n - l.length - 1, by omega⟩
  rw [hk, List.replicate_succ]
  have : n - (l.length + 1) = k := by omega
  rw [this, List.set_append_right _ _ (by simp)]
  simp

/-- rotating phase: the invariant `drop r ++ take r = window` is preserved -/
theorem store_rotate (n : Nat) (buf : List (Option α)) (i : Nat) (a : α) (W : List α) (hn : 0 < n)
    (hb : buf.length = n) (hW : W.length = n)
    (hinv : buf.drop (i % n) ++ buf.take (i % n) = W.map some) :
    (store n buf i a).drop ((i + 1) % n) ++ (store n buf i a).take ((i + 1) % n) = (W.tail ++ [a]).map some := by
  have hr := Nat.mod_lt i hn
  generalize hrd : i % n = r at hinv hr
  have hset : store n buf i a = (buf.take r ++ [some a]) ++ buf.drop (r + 1) := by
    simp only [store, hn, if_true, hrd]
    rw [List.set_eq_take_append_cons_drop, if_pos (by omega)]
    simp
  have hlen : (buf.take r ++ [some a]).length = r + 1 := by simp; omega
  have hdrop : buf.drop r = buf[r]'(by omega) :: buf.drop (r + 1) := List.drop_eq_getElem_cons (by omega)
  rw [hdrop] at hinv
  have htail : (W.map some).tail = buf.drop (r + 1) ++ buf.take r := by rw [← hinv]; rfl
  have hmt : (W.tail ++ [a]).map some = (W.map some).tail ++ [some a] := by simp [List.map_tail]
  rw [hmt, htail, hset, succ_mod i n hn, hrd]
  by_cases h2 : r + 1 = n
  · rw [if_pos h2]
    have hnil : buf.drop (r + 1) = [] := List.drop_eq_nil_of_le (by omega)
    simp [hnil]
  · rw [if_neg h2, List.drop_left' hlen, List.take_left' hlen]
    simp

/-- the ring after the items `l` -/
structure RInv (n : Nat) (l : List α) (buf : List (Option α)) : Prop where
  len : buf.length = n
  fill : l.length ≤ n → buf = l.map some ++ List.replicate (n - l.length) none
  rot : 0 < n → n ≤ l.length →
    buf.drop (l.length % n) ++ buf.take (l.length % n) = (Seq.lastN n l).map some

theorem rinv_nil (n : Nat) : RInv n ([] : List α) (List.replicate n none) where
  len := by simp
  fill := by intro _; simp
  rot := by intro h1 h2; simp at h2; omega

theorem store_length (n : Nat) (buf : List (Option α)) (i : Nat) (a : α) : (store n buf i a).length = buf.length := by
  unfold store; split <;> simp

theorem run_length (n : Nat) (buf : List (Option α)) (i : Nat) (l : List α) : (run n buf i l).length = buf.length := by
  induction l generalizing buf i with
  | nil => rfl
  | cons a l ih => rw [run, ih, store_length]

theorem rinv_step (n : Nat) (l : List α) (buf : List (Option α)) (a : α) (h : RInv n l buf) :
    RInv n (l ++ [a]) (store n buf l.length a) where
  len := by rw [store_length, h.len]
  fill := by
    intro hl
    simp only [List.length_append, List.length_cons, List.length_nil] at hl ⊢
    rw [h.fill (by omega)]
    exact store_fill n l a (by omega)
  rot := by
    intro hn hl
    simp only [List.length_append, List.length_cons, List.length_nil] at hl ⊢
    by_cases hlt : l.length < n
    · -- the ring has just become full: l.length + 1 = n
      have hfull : l.length + 1 = n := by omega
      rw [h.fill (by omega), store_fill n l a hlt, hfull, Nat.mod_self]
      have : n - n = 0 := by omega
      simp only [this, List.replicate_zero, List.append_nil, List.drop_zero, List.take_zero]
      have : Seq.lastN n (l ++ [a]) = l ++ [a] := by
        simp [Seq.lastN, hfull]
      rw [this]
    · have hge : n ≤ l.length := by omega
      have hW : (Seq.lastN n l).length = n := by simp [Seq.lastN]; omega
      rw [lastN_snoc n l a hn hge]
      exact store_rotate n buf l.length a (Seq.lastN n l) hn h.len hW (h.rot hn hge)

theorem rinv_run (n : Nat) (l l' : List α) (buf : List (Option α)) (h : RInv n l buf) :
    RInv n (l ++ l') (run n buf l.length l') := by
  induction l' generalizing l buf with
  | nil => simpa [run] using h
  | cons a l' ih =>
    have := ih (l ++ [a]) (store n buf l.length a) (rinv_step n l buf a h)
    simpa [run] using this

theorem rinv_finish (n : Nat) (l : List α) (buf : List (Option α)) (h : RInv n l buf) :
    finish n buf l.length = (Seq.lastN n l).map some := by
  unfold finish
  by_cases hlt : l.length < n
  · rw [if_pos hlt, h.fill (by omega)]
    have : l.length - n = 0 := by omega
    simp [Seq.lastN, this]
  · rw [if_neg hlt]
    by_cases hn : n > 0
    · rw [if_pos hn]; exact h.rot hn (by omega)
    · have : n = 0 := by omega
      subst this
      simp [Seq.lastN]

theorem run_finish (n : Nat) (l : List α) :
    finish n (run n (List.replicate n none) 0 l) l.length = (Seq.lastN n l).map some := by
  have := rinv_run n [] l (List.replicate n none) (rinv_nil n)
  simp only [List.nil_append, List.length_nil] at this
  exact rinv_finish n l _ this

/-! The same ring on Go's `int`s, as `iterator.Last` and `stream.Last` both write it (`i % n` is
`Int.tmod`; the two `copy` calls are list surgery on a fresh `out`). The models' `lastStore` /
`lastFinish` are these with the regenerated expressions in place of the arithmetic. -/

def storeGo (buf : List (Option α)) (i n : Int) (a : α) : Option (List (Option α)) :=
  if decide (n > 0) then
    if n = 0 then none else some (buf.set (Int.tmod i n).toNat (some a))
  else some buf

/-- `ok` / `panic`: how the caller reports a result / an index out of range -/
def finishGo {ρ : Type u} (ok : List (Option α) → ρ) (panic : ρ) (buf : List (Option α)) (i n : Int) : ρ :=
  if decide (i < n) then ok (buf.take i.toNat)
  else if decide (n > 0) then
    if n = 0 then panic
    else
      let idx := Int.tmod i n
      let out : List (Option α) := List.replicate n.toNat none
      let a := buf.drop idx.toNat
      let out := a ++ out.drop a.length
      let split := n - idx
      if split < 0 || split > n then panic
      else
        let k := split.toNat
        let b := buf.take idx.toNat
        ok ((out.take k ++ b ++ out.drop (k + b.length)).take n.toNat)
  else ok (List.replicate n.toNat none)

theorem tmod_cast (i n : Nat) : (Int.tmod (i : Int) (n : Int)).toNat = i % n := by
  rw [← Int.ofNat_tmod]; exact Int.toNat_natCast _

theorem storeGo_eq (buf : List (Option α)) (i n : Nat) (a : α) :
    storeGo buf (i : Int) (n : Int) a = some (store n buf i a) := by
  unfold storeGo store
  by_cases hn : n > 0
  · have h2 : ¬ ((n : Int) = 0) := by omega
    simp only [show ((n : Int) > 0) from by omega, decide_true, if_true, h2, if_false, hn, tmod_cast]
  · simp [hn]

theorem finishGo_eq {ρ : Type u} (ok : List (Option α) → ρ) (panic : ρ) (buf : List (Option α)) (i n : Nat)
    (hb : buf.length = n) : finishGo ok panic buf (i : Int) (n : Int) = ok (finish n buf i) := by
  unfold finishGo finish
  by_cases hlt : i < n
  · simp [hlt]
  · have h1 : ¬ ((i : Int) < n) := by omega
    simp only [h1, decide_false, Bool.false_eq_true, if_false, hlt]
    by_cases hn : n > 0
    · have h3 : ¬ ((n : Int) = 0) := by omega
      have hr := Nat.mod_lt i hn
      have hsplit : (n : Int) - Int.tmod (i : Int) (n : Int) = ((n - i % n : Nat) : Int) := by
        rw [← Int.ofNat_tmod]; omega
      have hc' : (decide (((n - i % n : Nat) : Int) < 0) || decide (((n - i % n : Nat) : Int) > (n : Int))) = false := by
        simp <;> omega
      simp only [show ((n : Int) > 0) from by omega, decide_true, if_true, h3, if_false, hn, tmod_cast, hsplit,
        Int.toNat_natCast, hc', Bool.false_eq_true]
      congr 1
      generalize i % n = r at hr
      have hla : (buf.drop r).length = n - r := by simp [hb]
      have hlb : (buf.take r).length = r := by simp [hb] <;> omega
      have e : n - (n - r) = r := by omega
      simp [List.take_append, List.drop_append, hla, hlb, e]
      exact List.take_of_length_le (by omega)
    · have hn0 : n = 0 := by omega
      subst hn0
      simp

end Juniper.Proofs.Ring
