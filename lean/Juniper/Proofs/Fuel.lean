/-!
The consumer loops of the models (`drive`, `reduce`, `lastLoop`, … on both the iterator and the stream side)
take explicit fuel; what is proved about them holds for every sufficiently large fuel.
-/
namespace Juniper.Proofs

def Enough (P : Nat → Prop) : Prop := ∃ F, ∀ fuel, F ≤ fuel → P fuel

theorem Enough.succ {P : Nat → Prop} (h : Enough fun g => P (g + 1)) : Enough P := by
  obtain ⟨F, hF⟩ := h
  refine ⟨F + 1, fun fuel hf => ?_⟩
  obtain ⟨g, rfl⟩ : ∃ g, fuel = g + 1 := ⟨fuel - 1, by omega⟩
  exact hF g (by omega)

theorem Enough.of_succ {P : Nat → Prop} (h : ∀ g, P (g + 1)) : Enough P :=
  Enough.succ ⟨0, fun g _ => h g⟩

theorem Enough.mono {P Q : Nat → Prop} (h : Enough P) (hpq : ∀ g, P g → Q g) : Enough Q :=
  h.elim fun F hF => ⟨F, fun fuel hf => hpq fuel (hF fuel hf)⟩

theorem Enough.and {P Q : Nat → Prop} (hp : Enough P) (hq : Enough Q) : Enough fun g => P g ∧ Q g := by
  obtain ⟨F1, h1⟩ := hp
  obtain ⟨F2, h2⟩ := hq
  exact ⟨max F1 F2, fun fuel hf => ⟨h1 fuel (by omega), h2 fuel (by omega)⟩⟩

end Juniper.Proofs
