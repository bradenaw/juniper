import Juniper.Proofs.DequeOps
/-!
# The deque iterator on a state that is not touched

`IterAt d l it p`: the iterator is in step with `d` (which represents `l`) and has yielded `p` items. One `Next`
from there, `n` of them, and draining.
-/
namespace Juniper.Proofs.Deque
open Juniper.Gen.Deque Juniper.Model.Deque
open Juniper.Spec.Deque (Op Out Obs SnapshotOrPanic)
variable {α : Type}

/-- Iterator `it` over `d` (representing `l`) is valid and has yielded the first `p` elements. -/
structure IterAt (d : Deque α) (l : List α) (it : Iter) (p : Nat) : Prop where
  gen_eq : it.gen = d.gen
  le : p ≤ l.length
  mid : p < l.length → it.done = false ∧ it.i = ridx d.front (cap d) p
  fin : p = l.length → 0 < l.length → it.done = true

theorem Rep.iterate_at {d : Deque α} {l : List α} (h : Rep d l) : IterAt d l (iterate d) 0 := by
  refine ⟨rfl, Nat.zero_le _, ?_, ?_⟩
  · intro hp
    have hle := h.len_le
    exact ⟨rfl, (ridx_zero (h.front_lt_cap (by omega))).symm⟩
  · intro h0 hp; omega

theorem IterAt.nextObs_item {d : Deque α} {l : List α} {it : Iter} {p : Nat} (h : Rep d l)
    (hi : IterAt d l it p) (hp : p < l.length) :
    (nextObs d it).2 = .item (some l[p]) ∧ IterAt d l (nextObs d it).1 (p + 1) := by
  obtain ⟨hdone, hidx⟩ := hi.mid hp
  have hle := h.len_le
  have hc : 0 < cap d := by omega
  have hf0 := h.front_nonneg
  have hf1 := h.front_lt_cap hc
  have hl : l ≠ [] := by intro he; subst he; simp at hp
  have hb := h.back_nonempty hl
  have hib := ridx_bounds hf0 hf1 (k := p) (by omega) (by omega)
  have hcell : slot d.a it.i = some (some l[p]) := by
    rw [hidx, h.cells p (by omega), List.getElem?_eq_getElem hp]
  have hne0 : ¬ ((l.length : Int) = 0) := by omega
  have hcap : ¬ cap d = 0 := by omega
  unfold nextObs iterNext iterModified iterEmpty iterAtBack
  simp only [hi.gen_eq, decide_true, Bool.not_true, Bool.false_eq_true, if_false, h.len_eq, hne0,
    decide_false, hdone, hcell, hcap]
  by_cases hlast : p + 1 = l.length
  · have : it.i = d.back := by rw [hidx, hb]; congr 1; omega
    simp only [this, decide_true, if_true]
    exact ⟨trivial, rfl, by omega, fun h => by omega, fun _ _ => rfl⟩
  · have : ¬ it.i = d.back := by
      rw [hidx, hb]; intro e
      have := ridx_inj (by omega) (by omega) (by omega) (by omega) e; omega
    simp only [this, decide_false, Bool.false_eq_true, if_false]
    refine ⟨trivial, hi.gen_eq, by omega, fun h => ⟨hdone, ?_⟩, fun h => by omega⟩
    show iterAdvance it.i (cap d) = _
    unfold iterAdvance
    rw [hidx, tmod_add (by omega) (by omega), ridx_succ hf0 hf1 (by omega) (by omega)]
    rfl

theorem IterAt.nextObs_done {d : Deque α} {l : List α} {it : Iter} (h : Rep d l)
    (hi : IterAt d l it l.length) : nextObs d it = (it, .done) := by
  unfold nextObs iterNext iterModified iterEmpty
  simp only [hi.gen_eq, decide_true, Bool.not_true, Bool.false_eq_true, if_false, h.len_eq]
  by_cases h0 : l.length = 0
  · simp [h0]
  · have hne0 : ¬ ((l.length : Int) = 0) := by omega
    simp [hi.fin rfl (by omega)]

theorem nextObs_stale (d : Deque α) (it : Iter) (hg : it.gen ≠ d.gen) :
    nextObs d it = (it, .panic) := by
  unfold nextObs iterNext iterModified; simp [hg]

theorem IterAt.collectFrom {d : Deque α} {l : List α} (h : Rep d l) :
    ∀ (fuel : Nat) (it : Iter) (p : Nat), IterAt d l it p → l.length - p < fuel →
      collectFrom d fuel it = some ((l.drop p).map some) := by
  intro fuel
  induction fuel with
  | zero => intro it p _ hf; omega
  | succ n ih =>
    intro it p hi hf
    unfold Juniper.Model.Deque.collectFrom
    by_cases hp : p < l.length
    · obtain ⟨ho, hi'⟩ := hi.nextObs_item h hp
      have e : nextObs d it = ((nextObs d it).1, Obs.item (some l[p])) := by rw [← ho]
      rw [e]
      simp only [ih _ (p + 1) hi' (by omega), Option.map_some]
      rw [List.drop_eq_getElem_cons hp]; rfl
    · have hpe : p = l.length := by have := hi.le; omega
      subst hpe
      rw [hi.nextObs_done h]
      simp

theorem Rep.collect_eq {d : Deque α} {l : List α} (h : Rep d l) :
    collect d = some (l.map some) := by
  unfold collect
  have hle := h.len_le
  have := IterAt.collectFrom h (d.a.length + 1) (iterate d) 0 h.iterate_at
    (by unfold cap at hle; omega)
  simpa using this

theorem IterAt.nexts {d : Deque α} {l : List α} (h : Rep d l) :
    ∀ (n : Nat) (it : Iter) (p : Nat), IterAt d l it p →
      (nexts d it n).2 = ((l.drop p).take n).map (fun x => Obs.item (some x))
          ++ List.replicate (n - (l.length - p)) Obs.done ∧
      IterAt d l (nexts d it n).1 (min (p + n) l.length) := by
  intro n
  induction n with
  | zero =>
    intro it p hi
    have := hi.le
    simp only [Model.Deque.nexts, List.take_zero, List.map_nil, Nat.zero_sub, List.replicate_zero,
      List.append_nil, Nat.add_zero, true_and]
    rw [Nat.min_eq_left this]; exact hi
  | succ n ih =>
    intro it p hi
    simp only [Model.Deque.nexts]
    by_cases hp : p < l.length
    · obtain ⟨ho, hi'⟩ := hi.nextObs_item h hp
      obtain ⟨h1, h2⟩ := ih _ (p + 1) hi'
      rw [ho, h1]
      refine ⟨?_, ?_⟩
      · rw [List.drop_eq_getElem_cons hp, List.take_succ_cons, List.map_cons, List.cons_append]
        have : n + 1 - (l.length - p) = n - (l.length - (p + 1)) := by omega
        rw [this]
      · have : min (p + (n + 1)) l.length = min (p + 1 + n) l.length := by
          congr 1; omega
        rw [this]; exact h2
    · have hpe : p = l.length := by have := hi.le; omega
      subst hpe
      rw [hi.nextObs_done h]
      obtain ⟨h1, h2⟩ := ih it l.length hi
      simp only at h1 h2 ⊢
      rw [h1]
      refine ⟨?_, ?_⟩
      · simp only [List.drop_length, List.take_nil, List.map_nil, List.nil_append, Nat.sub_self,
          Nat.sub_zero]
        rfl
      · have e1 : min (l.length + n) l.length = l.length := by omega
        have e2 : min (l.length + (n + 1)) l.length = l.length := by omega
        rw [e1] at h2; rw [e2]; exact h2

end Juniper.Proofs.Deque
