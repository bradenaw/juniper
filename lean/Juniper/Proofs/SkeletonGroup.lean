import Juniper.Generated.SkeletonPar
import Juniper.Proofs.Tie
/-!
# Control-skeleton ties for `xsync.Group`

`Juniper.Model.Group` interprets the statement lists of `Stop` / `StopAndWait` and decodes the arm
bodies and `select` tables of the worker loops from `Juniper.Gen.Group`, but the shape of `spawn`
(lock, check, bail out, `wg.Add`, unlock, `go { f(); wg.Done() }`), of the registration functions
(one `g.spawn(func …)`, the trigger function returned) and of the loops (context check, `select`,
re-arm, `f(g.ctx)`) is hard-wired in `threadStep`. The lemmas below pin those shapes to the source
(`Juniper.Gen.SkeletonPar.pskelGroup…`: statement kinds, identifiers and expressions normalised away).
`progs` (Stop, StopAndWait) and the closed forms `loopOf_doOnce`, `loopOf_trigger`, `loopOf_periodic`,
`loopOf_pot` are stated `under` them and `threadStep_facts` (spawn) is proved `under` them, so every C17 property
theorem depends on them: rewriting `PeriodicOrTrigger` as `g.Periodic(…); return g.Trigger(f)`,
hoisting the context check of `spawn` out of the lock as an early return, or adding a fast path to
`StopAndWait` breaks the lemma of that function.
-/
namespace Juniper.Proofs.SkeletonGroup
open Juniper.Gen.SkeletonPar

/-- `spawn`: `RLock`; `if stopped { RUnlock; return }`; `wg.Add(1)`; `RUnlock`; `go func() { f(); wg.Done() }()`
and no other statement (in particular no check or return before the lock is taken). -/
theorem pskelGroupSpawn_tie : pskelGroupSpawn =
    ["mcall", "if{mcall;return}", "mcall", "mcall", "go{call;mcall}"] := rfl

/-- `Do`: exactly `g.spawn(func() { f(g.ctx) })`. -/
theorem pskelGroupDo_tie : pskelGroupDo =
    ["mcall{call}"] := rfl

/-- `Stop`: three calls (`Lock`, `cancel`, `Unlock`; which is which is `stopStmts`). -/
theorem pskelGroupStop_tie : pskelGroupStop =
    ["mcall", "mcall", "mcall"] := rfl

/-- `StopAndWait`: two calls (`g.Stop()`, `g.wg.Wait()`) and nothing else. -/
theorem pskelGroupStopAndWait_tie : pskelGroupStopAndWait =
    ["mcall", "mcall"] := rfl

/-- `Trigger`: make the channel; `g.spawn(func() { for { if stopped { return }; select { Done: return; c: };
f(g.ctx) } })`; return the trigger function `func() { select { c <- …: ; default: } }`. -/
theorem pskelGroupTrigger_tie : pskelGroupTrigger =
    ["define", "mcall{forever{if{return};select{recv{return};recv{}};call}}",
     "return{select{default{};send{}}}"] := rfl

/-- `Periodic`: `g.spawn(func() { t := NewTimer; defer t.Stop(); for { if stopped { return };
select { Done: return; t.C: }; t.Reset(…); f(g.ctx) } })`. -/
theorem pskelGroupPeriodic_tie : pskelGroupPeriodic =
    ["mcall{define;defer;forever{if{return};select{recv{return};recv{}};mcall;call}}"] := rfl

/-- `PeriodicOrTrigger`: make the channel; one `g.spawn(func() { t := NewTimer; defer t.Stop(); for {
if stopped { return }; select { Done: return; t.C: Reset; c: if !Stop { <-t.C }; Reset }; f(g.ctx) } })`;
return the trigger function. One goroutine runs `f` for both causes. -/
theorem pskelGroupPeriodicOrTrigger_tie : pskelGroupPeriodicOrTrigger =
    ["define",
     "mcall{define;defer;forever{if{return};select{recv{if{recv};mcall};recv{mcall};recv{return}};call}}",
     "return{select{default{};send{}}}"] := rfl

end Juniper.Proofs.SkeletonGroup
