import Juniper.Proofs.TreeHeapLinkLevel
/-!
# Linking the two B-tree models (C03): a subtree replaced in place

`Repl h h' p x x'`: the heap `h'` is `h` with the subtree `x` below parent pointer `p` replaced by `x'` — the new
subtree is in the store, nothing outside the old one has changed, nothing was allocated, and the root pointer has
followed if `x` was the root. Every step of `Delete` (removal at a leaf, a rotation, a merge, the collapse of the
root) is such a replacement; they compose (`trans`) and pass through a parent whose child was replaced (`lift`).
-/
namespace Juniper.Proofs.TreeHeapLink
open Juniper Juniper.Model.BTree Juniper.Model.BTreeSlotsOps Juniper.Proofs.Tree Juniper.Proofs.TreeSlotsOps

variable {K V : Type}

structure Repl (h h' : Heap K V) (p : Option Nat) (x x' : Node K V) : Prop where
  sub : Sub h'.get p x'
  frame : ∀ j, cnt j x = 0 → h'.get j = h.get j
  len : h'.nodes.length = h.nodes.length
  size : h'.size = h.size
  gen : h'.gen = h.gen
  root : h'.root = if x.id = h.root then x'.id else h.root
  id : x.id ≠ h.root → x'.id = x.id

theorem root_if {id r : Nat} : r = (if id = r then id else r) := by
  split
  · next e => exact e.symm
  · rfl

theorem Repl.of_same {h h' : Heap K V} {p : Option Nat} {x x' : Node K V} (hsame : Same h h')
    (hsub : Sub h'.get p x') (hid : x'.id = x.id) (hfr : ∀ j, cnt j x = 0 → h'.get j = h.get j) : Repl h h' p x x' :=
  ⟨hsub, hfr, hsame.len, hsame.size, hsame.gen, by rw [hsame.root, hid]; exact root_if, fun _ => hid⟩

theorem Repl.same {h h' : Heap K V} {p : Option Nat} {x x' : Node K V} (r : Repl h h' p x x') (hid : x'.id = x.id) :
    Same h h' :=
  ⟨by rw [r.root, hid]; exact root_if.symm, r.size, r.gen, r.len⟩

/-- `hcle`: the identities of `x1` are among those of `x`, so what was outside `x` is outside `x1` -/
theorem Repl.trans {h h1 h2 : Heap K V} {p : Option Nat} {x x1 x2 : Node K V} (a : Repl h h1 p x x1)
    (b : Repl h1 h2 p x1 x2) (hcle : ∀ j, cnt j x1 ≤ cnt j x) : Repl h h2 p x x2 := by
  refine ⟨b.sub, fun j hj => (b.frame j (Nat.le_zero.mp (hj ▸ hcle j))).trans (a.frame j hj), b.len.trans a.len,
    b.size.trans a.size, b.gen.trans a.gen, ?_, ?_⟩
  · rw [b.root, a.root]
    by_cases hx : x.id = h.root
    · rw [if_pos hx, if_pos rfl, if_pos hx]
    · rw [if_neg hx, a.id hx, if_neg hx]
  · intro hx
    have h1r : h1.root = h.root := by rw [a.root, if_neg hx]
    rw [b.id (by rw [h1r, a.id hx]; exact hx), a.id hx]

/-- the replacement started from a heap `hb` that differs from `h` inside `x` only -/
theorem Repl.rebase {h hb h3 : Heap K V} {p : Option Nat} {x x' : Node K V} (r : Repl hb h3 p x x') (hsame : Same h hb)
    (hfr : ∀ j, cnt j x = 0 → hb.get j = h.get j) : Repl h h3 p x x' :=
  ⟨r.sub, fun j hj => (r.frame j hj).trans (hfr j hj), r.len.trans hsame.len, r.size.trans hsame.size,
    r.gen.trans hsame.gen, by rw [r.root, hsame.root], by rw [← hsame.root]; exact r.id⟩

/-- child `i` of a node has been replaced; the node's own object (which may already hold other entries `kvs1`) and
the other children are as they were -/
theorem Repl.lift {h h' : Heap K V} {p : Option Nat} {id i : Nat} {kvs kvs1 : List (K × V)} {kids : List (Node K V)}
    {c c' : Node K V} {sx : SNode K V Nat} (hcnt : ∀ j, cnt j (Node.mk id kvs kids) ≤ 1) (hc : kids[i]? = some c)
    (hx : h.get id = some sx) (hpar : sx.parent = p) (hrep : NodeRep sx kvs1 (kids.map Node.id))
    (hsibs : ∀ d, (d ∈ kids.take i ∨ d ∈ kids.drop (i + 1)) → Sub h.get (some id) d)
    (r : Repl h h' (some id) c c') (hcid : c'.id = c.id) :
    Repl h h' p (.mk id kvs kids) (.mk id kvs1 (replaceAt kids i c')) := by
  have hcm := List.mem_of_getElem? hc
  have hck := cntK_le_one hcnt
  refine ⟨?_, fun j hj => r.frame j (cnt_child_zero hcm hj), r.len, r.size, r.gen, ?_, fun _ => rfl⟩
  · exact sub_replace_child (by rw [r.frame id (cnt_id_child hcnt hcm)]; exact hx) hpar hrep hc hcid r.sub fun d hd =>
      Sub.congr d (fun j hj => r.frame j (by have := sibling_cnt hc hd j; have := hck j; omega)) (hsibs d hd)
  · rw [(r.same hcid).root]; exact root_if

end Juniper.Proofs.TreeHeapLink
