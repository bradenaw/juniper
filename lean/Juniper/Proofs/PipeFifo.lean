import Juniper.Proofs.PipeInv
/-! Consequences of the invariant for what the receiver sees: only sent values, at most once, each
sender's values in the order of its calls. -/
namespace Juniper.Proofs.Pipe
open Juniper.Facts Juniper.Gen.Pipe Juniper.Model.Pipe

theorem nodup_of_ofSender {l : List Msg} (h : ∀ i, (ofSender i l).Nodup) : l.Nodup := by
  induction l with
  | nil => exact List.nodup_nil
  | cons a t ih =>
    rw [List.nodup_cons]
    constructor
    · intro hmem
      have := h a.sender
      simp only [ofSender, List.filter_cons, beq_self_eq_true, if_true, List.nodup_cons] at this
      exact this.1 (List.mem_filter.mpr ⟨hmem, by simp⟩)
    · apply ih
      intro i
      have := h i
      simp only [ofSender, List.filter_cons] at this
      split at this
      · exact (List.nodup_cons.mp this).2
      · exact this

theorem sent_nodup {L : List Msg} {i : Nat} {sd : Sender} (h : SInv L i sd) : sd.sent.Nodup := by
  have : (sd.sent.map (·.seq)).Nodup := by rw [h.seqs]; exact List.nodup_range
  exact List.Pairwise.of_map (S := (· ≠ ·)) _ (fun _ _ hne hab => hne (congrArg _ hab)) this

theorem fifo_of_inv {st : State} (h : Inv st) :
    (∀ m ∈ st.delivered ++ st.buf, ∃ sd, st.senders[m.sender]? = some sd ∧ m ∈ sd.sent) ∧
    (st.delivered ++ st.buf).Nodup ∧
    (∀ i sd, st.senders[i]? = some sd → (ofSender i (st.delivered ++ st.buf)).Sublist sd.sent) := by
  rw [h.fifoAck]
  have hsub : ∀ i sd, st.senders[i]? = some sd → (ofSender i st.acked).Sublist sd.sent :=
    fun i sd hsd => (List.sublist_append_left _ _).trans (h.snd i sd hsd).sub
  refine ⟨?_, ?_, hsub⟩
  · intro m hm
    have hlt := h.rng m hm
    have hsd : st.senders[m.sender]? = some st.senders[m.sender] := List.getElem?_eq_getElem hlt
    refine ⟨_, hsd, (hsub _ _ hsd).subset ?_⟩
    exact List.mem_filter.mpr ⟨hm, by simp⟩
  · apply nodup_of_ofSender
    intro i
    by_cases hlt : i < st.senders.length
    · have hsd : st.senders[i]? = some st.senders[i] := List.getElem?_eq_getElem hlt
      exact (hsub _ _ hsd).nodup (sent_nodup (h.snd i _ hsd))
    · have : ofSender i st.acked = [] := by
        simp only [ofSender, List.filter_eq_nil_iff]
        intro m hm
        have := h.rng m hm
        simp; omega
      rw [this]; exact List.nodup_nil

end Juniper.Proofs.Pipe
