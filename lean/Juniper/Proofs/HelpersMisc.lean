import Juniper.Proofs.HelpersBasic
import Juniper.Model.HelpersSort
import Juniper.Model.HelpersMisc
/-! `xslices.Shrink`, `xmath.Abs`, `xsort.LessCompare`, `xerrors.WithStack` (C19). -/
namespace Juniper.Proofs.Helpers
open Juniper.Model.Helpers Juniper.Spec.Helpers Juniper.Gen.Helpers

variable {α : Type}

seal Juniper.Facts.wrap64

open Juniper.Facts in
theorem shrink_spec (zero : α) (s : List α) (cap n : Int) (hc : (s.length : Int) ≤ cap) (hn : 0 ≤ n)
    (hcap : cap ≤ 9223372036854775807) :
    ∃ c re, shrink zero s cap n = some (s, c, re) ∧ c ≤ s.length + n ∧ (s.length : Int) ≤ c ∧
      (cap ≤ s.length + n → c = cap ∧ re = false) ∧ (s.length + n < cap → c = s.length + n ∧ re = true) := by
  unfold shrink
  have eg : shrinkGuard cap (s.length : Int) n = decide (cap - (s.length : Int) > n) := by
    simp only [shrinkGuard]; rw [wrap64_of_range (by omega) (by omega)]
  simp only [eg, shrinkRetHi]
  by_cases hg : cap - (s.length : Int) > n
  · -- reallocation: `make([]T, len(s)+n)`, the sum is below `cap ≤ MaxInt64`
    have em : shrinkMake (s.length : Int) n = (s.length : Int) + n := by
      simp only [shrinkMake]; rw [wrap64_of_range (by omega) (by omega)]
    have hm : ¬ ((s.length : Int) + n < 0) := by omega
    have hok : sliceOk 0 (s.length : Int) ((s.length : Int) + n) = true := by
      rw [sliceOk_iff]; omega
    have e1 : ((s.length : Int) + n).toNat = s.length + n.toNat := by omega
    simp only [hg, decide_true, ↓reduceIte, em, hm, hok, Bool.not_true, Bool.false_eq_true, e1, Int.toNat_natCast]
    refine ⟨(s.length : Int) + n, true, ?_, Int.le_refl _, Int.le_add_of_nonneg_right hn,
      fun h => absurd h (by omega), fun _ => ⟨rfl, rfl⟩⟩
    congr 2
    rw [List.take_take, List.take_append_of_le_length (Nat.le_trans (Nat.min_le_left _ _) (Nat.le_refl _)),
      Nat.min_eq_left (Nat.le_add_right _ _), List.take_length]
  · simp only [hg, decide_false, Bool.false_eq_true, ↓reduceIte]
    exact ⟨cap, false, rfl, by omega, hc, fun _ => ⟨rfl, rfl⟩, fun h => absurd h (by omega)⟩

open Juniper.Facts in
/-- a negative `n` (every negative `int`, `MinInt64` included) makes `Shrink` panic: `make` with a
negative length, or `x2[:len(s)]` beyond the new slice's capacity -/
theorem shrink_negative_panics (zero : α) (s : List α) (cap n : Int) (hc : (s.length : Int) ≤ cap) (hn : n < 0)
    (hcap : cap ≤ 9223372036854775807) (hn' : -9223372036854775808 ≤ n) :
    shrink zero s cap n = none := by
  unfold shrink
  have eg : shrinkGuard cap (s.length : Int) n = true := by
    simp only [shrinkGuard]; rw [wrap64_of_range (by omega) (by omega)]; simp; omega
  have em : shrinkMake (s.length : Int) n = (s.length : Int) + n := by
    simp only [shrinkMake]; rw [wrap64_of_range (by omega) (by omega)]
  simp only [eg, em, shrinkRetHi, ↓reduceIte]
  by_cases hm : (s.length : Int) + n < 0
  · simp [hm]
  · have hok : sliceOk 0 (s.length : Int) ((s.length : Int) + n) = false := by
      cases h : sliceOk 0 (s.length : Int) ((s.length : Int) + n) with
      | false => rfl
      | true => rw [sliceOk_iff] at h; omega
    simp [hm, hok]

theorem abs_spec {w : Nat} (hw : 0 < w) (x : BitVec w) :
    (abs w x = none ↔ x = BitVec.intMin w) ∧ (∀ y, abs w x = some y → y.toInt = (x.toInt.natAbs : Int)) := by
  have hmin : (BitVec.intMin w).toInt < 0 := by
    rw [BitVec.toInt_intMin_of_pos hw]
    exact Int.neg_neg_of_pos (Int.pow_pos (by decide))
  have hs : BitVec.slt x (BitVec.ofNat w 0) = decide (x.toInt < 0) := by
    rw [BitVec.slt_eq_decide, BitVec.toInt_zero]
  unfold abs
  rw [hs]
  by_cases h1 : x.toInt < 0
  · by_cases h2 : x = BitVec.intMin w
    · subst h2
      simp [h1, BitVec.neg_intMin]
    · -- away from `intMin` negation is exact, so a negative `x` cannot equal `-x`
      have hneg := BitVec.toInt_neg_of_ne_intMin h2
      have hne : (-x == x) = false := by
        rw [beq_eq_false_iff_ne]; intro h; rw [h] at hneg; omega
      simp only [h1, decide_true, hne, if_true, Bool.false_eq_true, if_false, reduceCtorEq, false_iff,
        Option.some.injEq]
      exact ⟨h2, fun y hy => by rw [← hy, hneg]; omega⟩
  · have h2 : x ≠ BitVec.intMin w := fun h => h1 (h ▸ hmin)
    simp only [h1, decide_false, Bool.false_eq_true, if_false, reduceCtorEq, false_iff, Option.some.injEq]
    exact ⟨h2, fun y hy => by rw [← hy]; omega⟩

theorem lessCompare_spec (less : α → α → Bool) (hw : StrictWeak less) (a b : α) :
    (lessCompareOf less a b < 0 ↔ less a b = true) ∧ (lessCompareOf less a b > 0 ↔ less b a = true) ∧
    (lessCompareOf less a b = 0 ↔ (less a b = false ∧ less b a = false)) ∧
    lessCompareOf less a b = - lessCompareOf less b a := by
  unfold lessCompareOf lessCompare
  cases hab : less a b <;> cases hba : less b a <;> simp
  exact absurd (sw_asymm hw hab) (by simp [hba])

/-- some error in the chain is a `withStack` -/
def hasStack (e : Err) : Bool := e.chain.any Err.isStack

theorem chain_ne_nil (e : Err) : e.chain ≠ [] := by cases e <;> simp [Err.chain]

theorem as_stack_isSome (e : Err) (h : wsHasAsMethod = false) :
    (e.as .stackTy).isSome = hasStack e := by
  unfold Err.as hasStack
  simp only [h, Bool.false_eq_true, ↓reduceIte]
  rw [Bool.eq_iff_iff]
  simp only [List.find?_isSome, List.any_eq_true, decide_eq_true_eq]
  constructor
  · rintro ⟨x, hx, hty⟩
    refine ⟨x, hx, ?_⟩
    cases x <;> simp_all [Err.ty, Err.isStack]
  · rintro ⟨x, hx, hst⟩
    refine ⟨x, hx, ?_⟩
    cases x <;> simp_all [Err.ty, Err.isStack]

theorem hasStack_stack (e : Err) : hasStack (.stack e) = true := by
  simp [hasStack, Err.chain, Err.isStack]

theorem withStack_some (e : Err)
    (hd : wsDetect = "as") (h : wsHasAsMethod = false)
    (h1 : wsNilGuard false = false) (h2 : wsDetectedReturnsErr = true)
    (h3 : wsWrapsErr = true) :
    withStack (some e) = if hasStack e then some e else some (.stack e) := by
  simp only [withStack, wsDetects, hd, as_stack_isSome e h, h1, h2, h3, Bool.false_and, Bool.and_true,
    Bool.false_eq_true, ↓reduceIte]

/-- a `withStack` value is invisible to `errors.Is`: it is `==` no target and unwraps to `e` -/
theorem stack_is (e t : Err) (h5 : wsUnwrapReturnsInner = true) (h6 : wsComparable = false) :
    (Err.stack e).is t = e.is t := by
  simp only [Err.is, Err.chain, h5, ↓reduceIte, List.any_cons]
  have : (t.comparable && decide (Err.stack e = t)) = false := by
    cases t <;> simp [Err.comparable, h6]
  rw [this, Bool.false_or]

theorem stack_as (e : Err) (ty : Err.Ty) (hty : ty ≠ Err.Ty.stackTy) (ha : wsHasAsMethod = false)
    (h5 : wsUnwrapReturnsInner = true) : (Err.stack e).as ty = e.as ty := by
  unfold Err.as
  simp only [ha, Bool.false_eq_true, ↓reduceIte, Err.chain, h5]
  rw [List.find?_cons_of_neg]
  simp only [Err.ty]
  intro h
  exact hty (of_decide_eq_true h).symm

end Juniper.Proofs.Helpers
