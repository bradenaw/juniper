import Juniper.Proofs.ParMapIterInv
/-! Deadlock freedom of the MapIterator LTS: a consumer inside `Next` never faces a state in which nothing can move and
nothing is owed by the environment. -/

namespace Juniper.Proofs.ParMap.I
open Juniper.Gen Juniper.Facts Juniper.Model.ParMap Juniper.Model.ParMap.Iter Juniper.Proofs.ParMap

def En (cfg : Cfg) (s : St) (l : Label) : Prop := (Iter.step cfg s l).isSome = true

/-- some internal step is enabled, or a call of `f` / of the source iterator is in progress -/
def Progress (cfg : Cfg) (s : St) : Prop :=
  (∃ l, l.isEnv = false ∧ En cfg s l) ∨ 0 < fRunning s ∨ s.disp = .inNext

theorem Step.en {cfg : Cfg} (hs : cfg.code.Sound) {s s' : St} {l : Label} (h : Step cfg s l s') : En cfg s l := by
  rw [En, h.to_step hs]; rfl

theorem idle_or_all_done {ws : List WPc} (h : cnt wActive ws = 0) :
    (∃ w : Nat, ws[w]? = some WPc.idle) ∨ cnt wDone ws = ws.length := by
  by_cases hi : 0 < cnt wIdle ws
  · obtain ⟨w, x, hw, hx⟩ := exists_index_of_cnt_pos hi
    cases x <;> simp [wIdle] at hx
    exact Or.inl ⟨w, hw⟩
  · right
    apply cnt_eq_length
    intro x hx
    have h1 := cnt_eq_zero h x hx
    have h2 := cnt_eq_zero (by omega : cnt wIdle ws = 0) x hx
    cases x <;> simp_all [wIdle, wDone, wActive]

theorem progress {cfg : Cfg} (hs : cfg.code.Sound) (hg : 1 ≤ cfg.gmp) {s : St} (h : Reach cfg s)
    (hcons : s.cons = .next) : Progress cfg s := by
  have hCtl := (inv hs hg h).ctl
  have hPlaced := (inv hs hg h).placed
  have ⟨hnwc, hnw⟩ := numWorkers_cast hs hg
  have hbuf := buf_pos hs hg
  by_cases hy : canYield cfg s = true
  · obtain ⟨⟨k, v⟩, hf⟩ := find_of_ready hs.nextReady hy
    exact Or.inl ⟨.cYield, rfl, (Step.cYield k v hcons hy hf).en hs⟩
  have hy' : canYield cfg s = false := by simpa using hy
  cases hcl : s.chClosed with
  | true => exact Or.inl ⟨.cRecvClosed, rfl, (Step.cRecvClosed hcons hy' hcl).en hs⟩
  | false =>
  by_cases hact : 0 < cnt wActive s.ws
  · obtain ⟨w, pc, hw, hpc⟩ := exists_index_of_cnt_pos hact
    cases pc with
    | inF k =>
      exact Or.inr (Or.inl (ListStore.countP_pos hw rfl))
    | sendCh k v => exact Or.inl ⟨.wHandOff w, rfl, (Step.wHandOff w k v hcons hw hy' hcl).en hs⟩
    | idle => simp [wActive] at hpc
    | done => simp [wActive] at hpc
  have hact0 : cnt wActive s.ws = 0 := by omega
  cases hd : s.disp with
  | pull => exact Or.inl ⟨.dPull, rfl, (Step.dPull hd).en hs⟩
  | inNext => exact Or.inr (Or.inr hd)
  | acquire v =>
    by_cases hf : buf cfg ≤ s.inFlight
    · exact Or.inl ⟨.dAcquire, rfl, (Step.dParks v hd hf).en hs⟩
    · exact Or.inl ⟨.dAcquire, rfl, (Step.dAcquire v hd (by omega)).en hs⟩
  | checked v =>
    -- the lock sections are atomic: there is no state between the dispatcher's check and its parking
    exfalso
    have := hCtl.noChecked
    simp [hd, dChecked] at this
  | parked v =>
    exfalso
    have hpk := hCtl.parked_full (by simp [hd, dParked])
    have hT := hCtl.slots
    simp [hd, dSendIn] at hT
    have := canYield_of_gap hs hPlaced hact0 (by omega)
    simp [hy'] at this
  | sendIn v =>
    rcases idle_or_all_done hact0 with ⟨w, hw⟩ | hall
    · exact Or.inl ⟨.dSend w, rfl, (Step.dSend w v hd hw).en hs⟩
    · exfalso
      have h3 := hCtl.len
      have := hCtl.done_closed (by omega)
      have h4 := hCtl.inClosed_eq
      simp [hd, dDone, this] at h4
  | done =>
    have hin : s.inClosed = true := by have := hCtl.inClosed_eq; simp [hd, dDone] at this; exact this
    rcases idle_or_all_done hact0 with ⟨w, hw⟩ | hall
    · exact Or.inl ⟨.wExitIdle w, rfl, (Step.wExitIdle w hw hin).en hs⟩
    · exfalso
      have h3 := hCtl.len
      have : s.nDone = numWorkers cfg := by rw [hCtl.lastCloses.counted]; omega
      have := hCtl.lastCloses.closed_iff.2 this
      simp [hcl] at this

theorem served {cfg : Cfg} (hs : cfg.code.Sound) (hg : 1 ≤ cfg.gmp) {s : St} (h : Reach cfg s) (hb : s.cons = .next) :
    (∃ l s', l.isEnv = false ∧ Iter.step cfg s l = some s') ∨ (0 < fRunning s ∨ s.disp = .inNext) :=
  (progress hs hg h hb).imp_left fun ⟨l, hl, hen⟩ => let ⟨s', hs'⟩ := Option.isSome_iff_exists.1 hen; ⟨l, s', hl, hs'⟩

end Juniper.Proofs.ParMap.I
