import Juniper.Proofs.XListOps
/-! `Rep` (the property's clauses, stated on what the accessors return) is equivalent to the pointwise
invariant `Inv` (`XListOps.lean`: `Linked` plus length and allocation discipline); one well-formed step and
whole histories preserve it. -/
namespace Juniper.Proofs.XList
open Juniper.Spec.XList Juniper.Model.XList Juniper.Gen.XList

theorem frontOf_eq (h : Heap) : frontOf h = h.front := by
  simp [frontOf, evalH, evalP, frontReturns]
theorem backOf_eq (h : Heap) : backOf h = h.back := by
  simp [backOf, evalH, evalP, backReturns]
theorem lenOf_eq (h : Heap) : lenOf h = h.size := by
  simp [lenOf, lenReturnsSize]
theorem nextOf_eq (h : Heap) (x : Nat) : nextOf h x = (h.nodes.get x).bind (·.next) := by
  simp [nextOf, nextReturns, Node.getF]
theorem prevOf_eq (h : Heap) (x : Nat) : prevOf h x = (h.nodes.get x).bind (·.prev) := by
  simp [prevOf, prevReturns, Node.getF]

theorem nextOf_live {h : Heap} {x : Nat} (hx : (h.nodes.get x).isSome) :
    nextOf h x = (h.nodes.recOf x).next := by
  rw [nextOf_eq, Store.get_of_isSome hx]; rfl
theorem prevOf_live {h : Heap} {x : Nat} (hx : (h.nodes.get x).isSome) :
    prevOf h x = (h.nodes.recOf x).prev := by
  rw [prevOf_eq, Store.get_of_isSome hx]; rfl
theorem valueOf_isSome (h : Heap) (x : Nat) : (valueOf h x).isSome = (h.nodes.get x).isSome := by
  simp [valueOf]
theorem valueOf_live {h : Heap} {x : Nat} (hx : (h.nodes.get x).isSome) :
    valueOf h x = some (h.nodes.recOf x).value := by
  rw [valueOf, Store.get_of_isSome hx]; rfl

theorem visits_iff {step : Nat → Option Nat} {l : List Nat} (hl : l.Nodup) (s : Option Nat) :
    Visits step s l ↔ s = l.head? ∧ ∀ x ∈ l, step x = nextIn l x := by
  induction l generalizing s with
  | nil => simp [Visits]
  | cons a t ih =>
    have hat : a ∉ t := (List.nodup_cons.1 hl).1
    have ht := (List.nodup_cons.1 hl).2
    simp only [Visits, ih ht, List.head?_cons, List.mem_cons, nextIn_cons]
    constructor
    · rintro ⟨rfl, h1, h2⟩
      refine ⟨rfl, ?_⟩
      intro x hx
      rcases hx with rfl | hx
      · simp [h1]
      · have : x ≠ a := fun e => hat (e ▸ hx)
        simp [this, h2 x hx]
    · rintro ⟨rfl, h2⟩
      refine ⟨rfl, by simpa using h2 a (Or.inl rfl), ?_⟩
      intro x hx
      have : x ≠ a := fun e => hat (e ▸ hx)
      simpa [this] using h2 x (Or.inr hx)

theorem rep_of_inv {l : List Nat} {h : Heap} (hI : Inv l h) : Rep l h := by
  obtain ⟨⟨hnd, hf, hb, hlv, hp, hn⟩, hs, hbd, hfr⟩ := hI
  have hndr := nodup_reverse hnd
  refine ⟨hnd, ?_, ?_, ?_, ?_, ?_, ?_, hbd, ?_⟩
  · rw [visits_iff hnd, frontOf_eq]
    exact ⟨hf, fun x hx => by rw [nextOf_live (hlv x hx), hn x hx]⟩
  · rw [visits_iff hndr, backOf_eq]
    refine ⟨by rw [hb, List.head?_reverse], fun x hx => ?_⟩
    have hx' : x ∈ l := by simpa using hx
    rw [prevOf_live (hlv x hx'), hp x hx', nextIn_reverse hnd]
  · intro x hx
    have hxl := List.mem_of_head? hx
    rw [prevOf_live (hlv x hxl), hp x hxl]; exact head_prevIn hnd hx
  · intro x hx
    have hxl := List.mem_of_getLast? hx
    rw [nextOf_live (hlv x hxl), hn x hxl]; exact (nextIn_eq_none_iff hnd hxl).2 hx
  · rw [lenOf_eq, hs]
  · intro x hx; rw [valueOf_isSome]; exact hlv x hx
  · intro x hx; simp [valueOf, hfr x hx]

theorem inv_of_rep {l : List Nat} {h : Heap} (hR : Rep l h) : Inv l h := by
  obtain ⟨hnd, hfw, hbw, h1, h2, hlen, hlv, hbd, hfr⟩ := hR
  have hndr := nodup_reverse hnd
  rw [visits_iff hnd, frontOf_eq] at hfw
  rw [visits_iff hndr, backOf_eq] at hbw
  have hlv' : ∀ x ∈ l, (h.nodes.get x).isSome := fun x hx => by rw [← valueOf_isSome]; exact hlv x hx
  refine ⟨⟨hnd, hfw.1, ?_, hlv', ?_, ?_⟩, ?_, hbd, ?_⟩
  · rw [hbw.1, List.head?_reverse]
  · intro x hx
    rw [← prevOf_live (hlv' x hx), hbw.2 x (by simpa using hx), nextIn_reverse hnd]
  · intro x hx
    rw [← nextOf_live (hlv' x hx), hfw.2 x hx]
  · rw [← lenOf_eq, hlen]
  · intro x hx
    have := hfr x hx
    simpa [valueOf] using this

theorem step_inv {l : List Nat} {h : Heap} (hI : Inv l h) (o : Op) (hwf : Op.wellFormed l o) :
    let r := apply h o
    r.panicked = false ∧ r.ret = (if Op.creates o then some h.nextId else none) ∧
      Inv (step l h.nextId o) r.h ∧ r.h.nextId = nextFresh h.nextId o ∧
      Frame (h.nextId :: l) h r.h ∧
      ∀ v, Op.createdValue o = some v → ∃ p q, r.h.nodes.get h.nextId = some ⟨p, q, v⟩ := by
  have hsub : ∀ x ∈ l, x ∈ h.nextId :: l := fun x hx => List.mem_cons_of_mem _ hx
  cases o with
  | pushFront v =>
    obtain ⟨h1, h2, h3, h4, h5, h6⟩ := pushFront_spec hI v
    exact ⟨h1, h2, h3, h6, h4, fun _ e => Option.some.inj e ▸ ⟨_, _, h5⟩⟩
  | pushBack v =>
    obtain ⟨h1, h2, h3, h4, h5, h6⟩ := pushBack_spec hI v
    exact ⟨h1, h2, h3, h6, h4, fun _ e => Option.some.inj e ▸ ⟨_, _, h5⟩⟩
  | insertBefore v m =>
    obtain ⟨h1, h2, h3, h4, h5, h6⟩ := insertBefore_spec hI hwf v
    exact ⟨h1, h2, h3, h6, h4, fun _ e => Option.some.inj e ▸ ⟨_, _, h5⟩⟩
  | insertAfter v m =>
    obtain ⟨h1, h2, h3, h4, h5, h6⟩ := insertAfter_spec hI hwf v
    exact ⟨h1, h2, h3, h6, h4, fun _ e => Option.some.inj e ▸ ⟨_, _, h5⟩⟩
  | remove n =>
    obtain ⟨h1, h2, h3, h4, _, _, h7⟩ := remove_spec hI hwf
    exact ⟨h1, h2, h3, h7, frame_mono hsub h4, nofun⟩
  | moveBefore n m =>
    obtain ⟨h1, h2, h3, h4, h5⟩ := moveBefore_spec hI hwf.1 hwf.2
    exact ⟨h1, h2, h3, h5, frame_mono hsub h4, nofun⟩
  | moveAfter n m =>
    obtain ⟨h1, h2, h3, h4, h5⟩ := moveAfter_spec hI hwf.1 hwf.2
    exact ⟨h1, h2, h3, h5, frame_mono hsub h4, nofun⟩
  | moveToFront n =>
    obtain ⟨h1, h2, h3, h4, h5⟩ := moveToFront_spec hI hwf
    exact ⟨h1, h2, h3, h5, frame_mono hsub h4, nofun⟩
  | moveToBack n =>
    obtain ⟨h1, h2, h3, h4, h5⟩ := moveToBack_spec hI hwf
    exact ⟨h1, h2, h3, h5, frame_mono hsub h4, nofun⟩
  | clear =>
    obtain ⟨h1, h2, h3, h4, h5⟩ := clear_spec hI
    exact ⟨h1, h2, h3, h5, ⟨fun x _ => by rw [h4], fun x hx => ⟨by rw [h4]; exact hx, by rw [h4]⟩⟩, nofun⟩

/-- the nodes in `R` are out of the list, allocated, and have neither neighbour -/
def Unlinked (l : List Nat) (h : Heap) (R : List Nat) : Prop :=
  ∀ x ∈ R, x ∉ l ∧ (h.nodes.get x).isSome ∧ (h.nodes.recOf x).prev = none ∧ (h.nodes.recOf x).next = none

theorem step_mem {l : List Nat} (hl : l.Nodup) {fresh : Nat} (o : Op) (hwf : Op.wellFormed l o) :
    ∀ x ∈ step l fresh o, x = fresh ∨ x ∈ l := by
  intro x hx
  cases o with
  | pushFront v => simpa [step] using hx
  | pushBack v => simpa [step, or_comm] using hx
  | insertBefore v m => exact (mem_insBefore hwf x).1 hx
  | insertAfter v m => exact (mem_insAfter hwf x).1 hx
  | remove n => exact Or.inr (hl.mem_erase_iff.1 hx).2
  | moveBefore n m => exact Or.inr ((move_len length_insBefore mem_insBefore hl hwf.1 hwf.2).2 x hx)
  | moveAfter n m => exact Or.inr ((move_len length_insAfter mem_insAfter hl hwf.1 hwf.2).2 x hx)
  | moveToFront n =>
    simp [step] at hx
    rcases hx with rfl | hx
    · exact Or.inr hwf
    · exact Or.inr (hl.mem_erase_iff.1 hx).2
  | moveToBack n =>
    simp [step] at hx
    rcases hx with hx | rfl
    · exact Or.inr (hl.mem_erase_iff.1 hx).2
    · exact Or.inr hwf
  | clear => simp [step] at hx

theorem removedIn_cons (o : Op) (os : List Op) : removedIn (o :: os) = removedIn [o] ++ removedIn os := by
  cases o <;> rfl

/-- A well-formed step writes no node outside the list, so the nodes of `R` stay as they are; the node a
`remove` takes out joins them. -/
theorem Unlinked.step {l : List Nat} {h : Heap} {R : List Nat} (hI : Inv l h) (hU : Unlinked l h R)
    (o : Op) (hwf : Op.wellFormed l o) :
    Unlinked (step l h.nextId o) (apply h o).h (R ++ removedIn [o]) := by
  intro x hx
  rcases List.mem_append.1 hx with hx | hx
  · obtain ⟨u1, u2, u3, u4⟩ := hU x hx
    have hxn : x ≠ h.nextId := fun e => by simp [e, hI.fresh] at u2
    obtain ⟨_, _, _, _, hF, _⟩ := step_inv hI o hwf
    have hg := hF.out x (by simp [hxn, u1])
    refine ⟨fun hm => (step_mem hI.linked.nodup o hwf x hm).elim hxn u1, ?_⟩
    rw [Store.recOf, hg]
    exact ⟨u2, u3, u4⟩
  · cases o with
    | remove n =>
      obtain rfl : x = n := by simpa [removedIn] using hx
      obtain ⟨_, _, _, g4, g5, g6, _⟩ := remove_spec hI hwf
      exact ⟨hI.linked.nodup.not_mem_erase, (g4.value x (hI.linked.live x hwf)).1, g5, g6⟩
    | _ => simp [removedIn] at hx

theorem history_inv {l : List Nat} {h : Heap} {R : List Nat} (hI : Inv l h) (hU : Unlinked l h R)
    (os : List Op) (hwf : HistWF l h.nextId os) :
    let t := runP h os
    t.2 = false ∧ Inv (runSpec l h.nextId os) t.1 ∧
      (∀ x, (h.nodes.get x).isSome → (t.1.nodes.get x).isSome ∧
        (t.1.nodes.recOf x).value = (h.nodes.recOf x).value) ∧
      (∀ c ∈ createdIn h.nextId os, (t.1.nodes.get c.1).isSome ∧ (t.1.nodes.recOf c.1).value = c.2) ∧
      Unlinked (runSpec l h.nextId os) t.1 (R ++ removedIn os) := by
  induction os generalizing l h R with
  | nil => exact ⟨rfl, hI, fun x hx => ⟨hx, rfl⟩, nofun, by simpa [removedIn, runSpec, runP] using hU⟩
  | cons o os ih =>
    obtain ⟨hwo, hwos⟩ := hwf
    obtain ⟨h1, _, h3, h4, h5, h6⟩ := step_inv hI o hwo
    rw [← h4] at hwos
    obtain ⟨i1, i2, i3, i5, i4⟩ := ih h3 (hU.step hI o hwo) hwos
    simp only [runP, runSpec]
    rw [← h4]
    refine ⟨by simp [h1, i1], i2, ?_, ?_, by rwa [removedIn_cons, ← List.append_assoc]⟩
    · intro x hx
      obtain ⟨v1, v2⟩ := h5.value x hx
      obtain ⟨w1, w2⟩ := i3 x v1
      exact ⟨w1, w2.trans v2⟩
    · -- the node created by `o` has its value right after `o`, and the rest of the history keeps values
      intro c hc
      simp only [createdIn, ← h4] at hc
      split at hc
      next v hv =>
        rcases List.mem_cons.1 hc with rfl | hc
        · obtain ⟨p, q, hg⟩ := h6 v hv
          obtain ⟨w1, w2⟩ := i3 h.nextId (by rw [hg]; rfl)
          exact ⟨w1, by rw [w2, Store.recOf_of_get hg]⟩
        · exact i5 c hc
      next => exact i5 c hc

end Juniper.Proofs.XList
