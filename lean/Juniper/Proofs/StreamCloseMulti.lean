import Juniper.Proofs.Skeleton
import Juniper.Proofs.StreamClose
import Juniper.Proofs.StreamPeek
/-!
# Close discipline of the multi-stream combinators over *pipelines* (C09: Join's later arguments,
Flatten's inner streams, and stages stacked on top of them)

The arguments of `Join` / the inner streams of `Flatten` are states of **any machine `mi` that forwards to a
logged source** (`Forwards src mi proj`: every wrapper, every `SPipe` pipeline, `Runs` under its protocol,
`Flatten`'s outer side …; raw logged sources are the case `Forwards.refl src`), and the `Join` / `Flatten`
machine may itself sit under any forwarding stages (`forwards_final`): what is closed exactly once is the
*source behind* every argument / every inner stream obtained.
-/
namespace Juniper.Proofs.StreamDen
open Juniper.Model.Stream Juniper.Gen.Comb
universe u v w x y
variable {σ : Type u} {σ' : Type w} {τ : Type y} {α β : Type v} {γ : Type x}

section behind
variable {mi : SM σ α} {proj : σ → Src β}

theorem open0_forwards_step (h : Forwards src mi proj) {s : σ} (hs : Open0 (proj s)) (c : Bool) :
    Open0 (proj (mi.step s c).2) := by
  rcases h.step s c with e | e
  · rw [e]; exact hs
  · rw [e]; exact open0_step hs c

theorem closed1_forwards_close (h : Forwards src mi proj) {s : σ} (hs : Open0 (proj s)) :
    Closed1 (proj (mi.close s)) := by
  rw [h.close]; exact open0_close hs

/-- ghost invariant of `Join` over forwarding arguments: the arguments that ended have their source
closed exactly once, the remaining ones have it open; no argument is lost (`n` of them altogether) -/
def JoinInvF (proj : σ → Src β) (n : Nat) (st : JoinSt σ) : Prop :=
  (∀ x ∈ st.finished, Closed1 (proj x)) ∧ (∀ x ∈ st.remaining, Open0 (proj x)) ∧
    st.finished.length + st.remaining.length = n

theorem joinF_inv_step (h : Forwards src mi proj) {n : Nat} {st : JoinSt σ} (hi : JoinInvF proj n st) (c : Bool) :
    JoinInvF proj n ((join mi).step st c).2 := by
  obtain ⟨rem, fin⟩ := st
  obtain ⟨h1, h2, h3⟩ := hi
  cases rem with
  | nil => simpa [join] using ⟨h1, h2, h3⟩
  | cons x r =>
    have hx' := open0_forwards_step h (h2 x (by simp)) c
    have hr : ∀ y ∈ r, Open0 (proj y) := fun y hy' => h2 y (by simp [hy'])
    have keep : JoinInvF proj n ⟨(mi.step x c).2 :: r, fin⟩ := ⟨h1, fun y hy' => by
      rcases List.mem_cons.mp hy' with rfl | hy'
      · exact hx'
      · exact hr y hy', by simpa using h3⟩
    rw [join_step]
    refine pullThen_inv _ keep (fun a _ => by rw [joinOn_item]; exact keep) ?_
    rw [joinOn_end]
    simp only [stJoinClosesEnded_fact, stJoinAdvances_fact, if_true]
    refine ⟨fun y hy' => ?_, hr, ?_⟩
    · simp only [List.mem_append, List.mem_singleton] at hy'
      rcases hy' with hy' | rfl
      · exact h1 y hy'
      · exact closed1_forwards_close h hx'
    · simp only [List.length_append, List.length_cons, List.length_nil] at h3 ⊢
      omega

theorem joinF_close (h : Forwards src mi proj) {n : Nat} {st : JoinSt σ} (hi : JoinInvF proj n st) :
    (∀ x ∈ ((join mi).close st).finished ++ ((join mi).close st).remaining, Closed1 (proj x)) ∧
      (((join mi).close st).finished ++ ((join mi).close st).remaining).length = n := by
  obtain ⟨rem, fin⟩ := st
  obtain ⟨h1, h2, h3⟩ := hi
  have e : (join mi).close ⟨rem, fin⟩ = ⟨rem.map mi.close, fin⟩ := by
    simp only [join, joinCloseAll_eq, stJoinCloseForwards_fact.1, if_true]
  rw [e]
  refine ⟨fun x hx => ?_, by simpa using h3⟩
  simp only [List.mem_append, List.mem_map] at hx
  rcases hx with hx | ⟨y, hy, rfl⟩
  · exact h1 x hx
  · exact closed1_forwards_close h (h2 y hy)

theorem join_pipelines_closed_once (h : Forwards src mi proj) (ss : List σ) (hss : ∀ s ∈ ss, Open0 (proj s))
    (cs : List Bool) :
    let st' := (join mi).close (afterS (join mi) cs ⟨ss, []⟩)
    (∀ x ∈ st'.finished ++ st'.remaining, Closed1 (proj x)) ∧ (st'.finished ++ st'.remaining).length = ss.length := by
  have _tie := Skeleton.Tie.stJoin
  have base : JoinInvF proj ss.length (⟨ss, []⟩ : JoinSt σ) := ⟨fun x hx => by simp at hx, hss, by simp⟩
  exact joinF_close h (afterS_inv (JoinInvF proj ss.length) (fun _ c hi => joinF_inv_step h hi c) cs base)

theorem join_rest_closed_once (ss : List (Src α)) (hss : ∀ x ∈ ss, Open0 x) (cs : List Bool) :
    let st' := (join src).close (afterS (join src) cs ⟨ss, []⟩)
    ∀ x ∈ st'.finished ++ st'.remaining, Closed1 x :=
  (join_pipelines_closed_once (Forwards.refl src) ss hss cs).1

theorem stages_over_join_closed_once {σ'' : Type w} {m' : SM σ'' γ} {q : σ'' → JoinSt σ}
    (h : Forwards src mi proj) (hq : Forwards (join mi) m' q) (t : σ'') (ss : List σ) (ht : q t = ⟨ss, []⟩)
    (hss : ∀ s ∈ ss, Open0 (proj s)) (cs : List Bool) :
    let st' := q (m'.close (afterS m' cs t))
    (∀ x ∈ st'.finished ++ st'.remaining, Closed1 (proj x)) ∧ (st'.finished ++ st'.remaining).length = ss.length := by
  obtain ⟨ds, hds⟩ := forwards_final hq t cs
  intro st'
  have : st' = (join mi).close (afterS (join mi) ds ⟨ss, []⟩) := by rw [← ht]; exact hds
  rw [this]
  exact join_pipelines_closed_once h ss hss ds

def FlatInvF (proj : σ → Src β) (st : FlattenSt σ' σ) : Prop :=
  (∀ x ∈ st.finished, Closed1 (proj x)) ∧ (∀ x, st.curr = some x → Open0 (proj x))

/-- `P` = what is known of the outer state: it only yields fresh inner streams -/
theorem flattenF_inv_step {mo : SM σ' σ} (h : Forwards src mi proj) (P : σ' → Prop)
    (hP : ∀ s c, P s → P (mo.step s c).2)
    (hfresh : ∀ s c x s', P s → mo.step s c = (.item x, s') → Open0 (proj x))
    {st : FlattenSt σ' σ} (hi : FlatInvF proj st) (ho : P st.outer) (c : Bool) :
    FlatInvF proj ((flatten mo mi).step st c).2 ∧ P ((flatten mo mi).step st c).2.outer := by
  obtain ⟨so, curr, fin⟩ := st
  obtain ⟨h1, h2⟩ := hi
  simp only at ho
  cases curr with
  | none =>
    have keep : FlatInvF proj ⟨(mo.step so c).2, none, fin⟩ ∧ P (mo.step so c).2 := ⟨⟨h1, nofun⟩, hP so c ho⟩
    rw [flatten_step_none]
    refine pullThen_inv (P := fun st' => FlatInvF proj st' ∧ P st'.outer) _ keep (fun x hx => ?_)
      (by rw [flattenOuterOn_end]; exact keep)
    rw [flattenOuterOn_item]
    exact ⟨⟨h1, fun y hy' => by cases hy'; exact hfresh so c x _ ho (Prod.ext hx rfl)⟩, keep.2⟩
  | some x =>
    have hx' := open0_forwards_step h (h2 x rfl) c
    have keep : FlatInvF proj ⟨so, some (mi.step x c).2, fin⟩ ∧ P so := ⟨⟨h1, fun y hy' => by cases hy'; exact hx'⟩, ho⟩
    rw [flatten_step_some]
    refine pullThen_inv (P := fun st' => FlatInvF proj st' ∧ P st'.outer) _ keep
      (fun a _ => by rw [flattenInnerOn_item]; exact keep) ?_
    rw [flattenInnerOn_end]
    simp only [stFlattenClosesEnded_fact, stFlattenClearsCurr_fact, if_true]
    refine ⟨⟨fun y hy' => ?_, nofun⟩, ho⟩
    simp only [List.mem_append, List.mem_singleton] at hy'
    rcases hy' with hy' | rfl
    · exact h1 y hy'
    · exact closed1_forwards_close h hx'

theorem flatten_pipelines_inner_closed_once {mo : SM σ' σ} (h : Forwards src mi proj) (P : σ' → Prop)
    (hP : ∀ s c, P s → P (mo.step s c).2)
    (hfresh : ∀ s c x s', P s → mo.step s c = (.item x, s') → Open0 (proj x))
    (so : σ') (hso : P so) (cs : List Bool) :
    let st' := (flatten mo mi).close (afterS (flatten mo mi) cs ⟨so, none, []⟩)
    ∀ x ∈ st'.finished ++ st'.curr.toList, Closed1 (proj x) := by
  have _tie := Skeleton.Tie.stFlatten
  have hinv : FlatInvF proj (afterS (flatten mo mi) cs ⟨so, none, []⟩) :=
    (afterS_inv (fun st => FlatInvF proj st ∧ P st.outer) (fun _ c hi => flattenF_inv_step h P hP hfresh hi.1 hi.2 c) cs
      ⟨⟨fun x hx => by simp at hx, fun x hx => by simp at hx⟩, hso⟩).1
  generalize afterS (flatten mo mi) cs ⟨so, none, []⟩ = st at hinv
  obtain ⟨s1, curr, fin⟩ := st
  obtain ⟨h1, h2⟩ := hinv
  intro st' x hx
  simp only [st', flatten_close, List.mem_append] at hx
  rcases hx with hx | hx
  · exact h1 x hx
  · cases curr with
    | none => cases hx
    | some y =>
      simp only [Option.map_some, Option.toList_some, List.mem_singleton] at hx
      subst hx
      exact closed1_forwards_close h (h2 y rfl)

end behind

theorem flatten_inner_closed_once {mo : SM σ (Src α)}
    (hfresh : ∀ s c x s', mo.step s c = (.item x, s') → Open0 x)
    (so : σ) (cs : List Bool) :
    let st' := (flatten mo src).close (afterS (flatten mo src) cs ⟨so, none, []⟩)
    ∀ x ∈ st'.finished ++ st'.curr.toList, Closed1 x :=
  flatten_pipelines_inner_closed_once (Forwards.refl src) (fun _ => True) (fun _ _ _ => trivial)
    (fun s c x s' _ => hfresh s c x s') so trivial cs

/-- every inner source still to be handed out by the scripted outer source is fresh -/
def FreshScript (s : Src (Src β)) : Prop := ∀ x, Ev.item x ∈ s.script → Open0 x

theorem freshScript_step (s : Src (Src β)) (c : Bool) (h : FreshScript s) : FreshScript (srcStep s c).2 :=
  fun y hy => h y (srcStep_script s c ▸ List.mem_append_right _ hy)

theorem freshScript_item (s : Src (Src β)) (c : Bool) (x : Src β) (s' : Src (Src β)) (h : FreshScript s)
    (hs : srcStep s c = (.item x, s')) : Open0 x :=
  h x (by rw [srcStep_script s c, hs]; exact .head _)

theorem flatten_scripted_closed_once (so : Src (Src β)) (h0 : so.closes = 0) (hfr : FreshScript so) (cs : List Bool) :
    let st' := (flatten src src).close (afterS (flatten src src) cs ⟨so, none, []⟩)
    st'.outer.closes = 1 ∧ st'.outer.after = so.after ∧ ∀ x ∈ st'.finished ++ st'.curr.toList, Closed1 x := by
  intro st'
  have ho := forwards_close_once (flatten_outer_forwards (src (α := Src β)) (src (α := β))) ⟨so, none, []⟩ h0 cs
  refine ⟨ho.1, ho.2, ?_⟩
  exact flatten_pipelines_inner_closed_once (mi := src (α := β)) (proj := id) (Forwards.refl src) FreshScript
    (fun s c hs => freshScript_step s c hs) (fun s c x s' hs hst => freshScript_item s c x s' hs hst) so hfr cs

section peekclose
variable {α : Type}

theorem speekRun_reach {σ : Type} (m : SM σ α) (ops : List SPeekOp) (p : PeekSt σ α) :
    ∃ ds, (speekRun m ops p).2.inner = afterS m ds p.inner := by
  induction ops generalizing p with
  | nil => exact ⟨[], rfl⟩
  | cons o ops ih =>
    simp only [speekRun]
    obtain ⟨ds, hds⟩ := ih (speekOp m o p).2
    have hmove : (speekOp m o p).2.inner = p.inner ∨ (speekOp m o p).2.inner = (m.step p.inner o.ctx).2 := by
      cases o with
      | next c => exact (withPeek_wraps (fun _ => False) m).forwards.step p c
      | peek c =>
        obtain ⟨s, curr⟩ := p
        cases curr with
        | some a => exact .inl (by rw [speekOp, peekPeek_step_some])
        | none =>
          rw [speekOp, peekPeek_step_none]
          exact .inr (pullThen_snd PeekSt.inner (fun _ => rfl) (fun a s => by rw [peekOn_item])
            (fun s => by rw [peekOn_end]) _)
    rcases hmove with h | h
    · exact ⟨ds, by rw [hds, h]⟩
    · exact ⟨o.ctx :: ds, by rw [hds, h]; rfl⟩

theorem peek_interleave_closes_once (s0 : Src α) (h0 : s0.closes = 0) (ops : List SPeekOp) :
    (peekClose src (speekRun src ops ⟨s0, none⟩).2).inner.closes = 1 ∧
    (peekClose src (speekRun src ops ⟨s0, none⟩).2).inner.after = s0.after := by
  obtain ⟨ds, hds⟩ := speekRun_reach src ops ⟨s0, none⟩
  simp only [peekClose, stPeekCloseForwards_fact, if_true]
  rw [hds]
  exact src_close_afterS s0 h0 ds
end peekclose

section flatcount
universe u' v'
variable {τ : Type u'} {α : Type v'}

/-- every inner stream the scripted outer stream has handed out is in the ghost lists -/
def FlatCount (st : FlattenSt (Src τ) τ) : Prop := st.finished.length + st.curr.toList.length = st.outer.pulled

theorem src_pulled_step (s : Src τ) (c : Bool) :
    (srcStep s c).2.pulled = s.pulled + (match (srcStep s c).1 with | .item _ => 1 | _ => 0) := by
  rcases s with ⟨_ | ⟨_ | _ | _, _⟩, _, _, _, _⟩ <;> cases c <;> rfl

theorem flatCount_step (mi : SM τ α) {st : FlattenSt (Src τ) τ} (h : FlatCount st) (c : Bool) :
    FlatCount ((flatten src mi).step st c).2 := by
  obtain ⟨so, curr, fin⟩ := st
  cases curr with
  | none =>
    have h : fin.length + 0 = so.pulled := h
    have hp := src_pulled_step so c
    rw [flatten_step_none]
    rcases hy : srcStep so c with ⟨r, u⟩
    rw [hy] at hp
    rw [show (src (α := τ)).step so c = (r, u) from hy]
    cases r with
    | item x => show fin.length + 1 = u.pulled; simp only at hp; omega
    | skip => show fin.length + 0 = u.pulled; simp only at hp; omega
    | end_ => show fin.length + 0 = u.pulled; simp only at hp; omega
    | err e => show fin.length + 0 = u.pulled; simp only at hp; omega
  | some x =>
    have h : fin.length + 1 = so.pulled := h
    rw [flatten_step_some]
    rcases mi.step x c with ⟨r, x'⟩
    cases r with
    | end_ =>
      simp only [pullThen, flattenInnerOn_end, stFlattenClosesEnded_fact, stFlattenClearsCurr_fact, if_true]
      show (fin ++ [_]).length + 0 = so.pulled
      rw [List.length_append]
      exact h
    | _ => exact h

theorem flatten_none_lost (mi : SM τ α) (so : Src τ) (h0 : so.pulled = 0) (cs : List Bool) :
    let st' := (flatten src mi).close (afterS (flatten src mi) cs ⟨so, none, []⟩)
    (st'.finished ++ st'.curr.toList).length = st'.outer.pulled := by
  have h : FlatCount (afterS (flatten src mi) cs ⟨so, none, []⟩) :=
    afterS_inv FlatCount (fun _ c h => flatCount_step mi h c) cs (by simp [FlatCount, h0])
  generalize afterS (flatten src mi) cs ⟨so, none, []⟩ = st at h
  obtain ⟨s1, curr, fin⟩ := st
  unfold FlatCount at h
  simp only [flatten_close]
  show _ = s1.pulled
  cases curr <;> simpa using h
end flatcount

end Juniper.Proofs.StreamDen
