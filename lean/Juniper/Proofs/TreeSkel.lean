import Juniper.Proofs.TreeCursor
/-!
# The skeleton of a tree: everything but the values (C01, C01's concurrent sentence, C02)

`skel` stands with `InsOK` in `Proofs/TreePut.lean`: an overwrite keeps it. Where a cursor is parked depends on the
skeleton only (`at_of_skel`); a `Put` keeps it or bumps `gen` and `size` (`put_cases`).
-/
namespace Juniper.Proofs.Tree
open Juniper.Model.BTree Juniper.Gen.Tree

variable {K V : Type} {cmp : K → K → Int}

def skelFr (fr : List (Node K V × Nat)) : List (Node K Unit × Nat) := fr.map fun f => (skel f.1, f.2)

theorem pathTo_skel (id : Nat) (x : Node K V) :
    pathTo id (skel x) = (pathTo id x).map fun r => (skelFr r.1, skel r.2) := by
  apply pathTo.induct id
    (motive_1 := fun x => pathTo id (skel x) = (pathTo id x).map fun r => (skelFr r.1, skel r.2))
    (motive_2 := fun kids j0 => pathIn id (kids.map skel) j0 =
      (pathIn id kids j0).map fun r => (r.1, skelFr r.2.1, skel r.2.2))
  · intro kvs kids
    simp [skel_mk, pathTo, skelFr]
  · intro i kvs kids hne j fr y hin ih
    simp only [skel_mk, pathTo, hne, if_false, ih, hin, Option.map_some, skelFr, List.map_cons]
  · intro i kvs kids hne hin ih
    simp only [skel_mk, pathTo, hne, if_false, ih, hin, Option.map_none]
  · intro j0; simp [pathIn]
  · intro c cs j0 fr y hp ih
    simp only [List.map_cons, pathIn, ih, hp, Option.map_some]
  · intro c cs j0 hp ih1 ih2
    simp only [List.map_cons, pathIn, ih1, hp, Option.map_none, ih2]

theorem at_of_skel {root root' : Node K V} (hs : skel root = skel root') (hone : ∀ i, cnt i root ≤ 1)
    {p : Pos K} {y : Node K V} {up : List (Node K V × Nat)} {e : K × V} (ha : At root p y up e) :
    ∃ y' up' e', At root' p y' up' e' ∧ e'.1 = e.1 := by
  have h1 := pathTo_unique p.id root up y ha.zip hone ha.idEq
  have h2 := pathTo_skel p.id root
  have h3 := pathTo_skel p.id root'
  rw [hs, h3, h1] at h2
  cases hp : pathTo p.id root' with
  | none => rw [hp] at h2; simp at h2
  | some r =>
    obtain ⟨fr', y'⟩ := r
    rw [hp] at h2
    simp only [Option.map_some, Option.some.injEq, Prod.mk.injEq] at h2
    obtain ⟨_, hy⟩ := h2
    obtain ⟨hz, hid⟩ := pathTo_spec p.id root' fr' y' hp
    obtain ⟨yid, ykvs, ykids⟩ := y
    obtain ⟨yid', ykvs', ykids'⟩ := y'
    simp only [skel_mk, Node.mk.injEq] at hy
    obtain ⟨_, hk, _⟩ := hy
    have hent := ha.entry
    simp only [Node.kvs] at hent
    have hlen : ykvs'.length = ykvs.length := by
      have := congrArg List.length hk; simpa using this
    have hi : p.i < ykvs'.length := by rw [hlen]; exact (List.getElem?_eq_some_iff.mp hent).1
    refine ⟨_, fr'.reverse, ykvs'[p.i], ⟨hz, hid, List.getElem?_eq_getElem hi⟩, ?_⟩
    have h4 := congrArg (fun l => l[p.i]?) hk
    simp only [List.getElem?_map, hent, List.getElem?_eq_getElem hi, Option.map_some, Option.some.injEq, Prod.mk.injEq,
      and_true] at h4
    exact h4

/-- `Put` either overwrites one value — nothing of the skeleton, `size`, `gen` or the allocation counter changes — or
inserts, and then bumps `size` and `gen` (`t.size++`, `t.gen++`: the regenerated presence facts) -/
theorem put_cases {t t' : Tree K V} {k : K} {v : V} (hb : BalTree t) (hp : put cmp t k v = some t') :
    (∃ r, t' = { t with root := r } ∧ skel r = skel t.root) ∨ (t'.gen = t.gen + 1 ∧ t'.size = t.size + 1) := by
  have hbg : putBumpsGen = true := by decide
  have hbs : putBumpsSize = true := by decide
  obtain ⟨h, hbal, hmax, _⟩ := hb
  have ha := (ins_spec cmp k v t.root t.nextId h hbal hmax).ok
  unfold put at hp
  rcases hres : ins cmp k v t.root t.nextId with ⟨res, f⟩
  rw [hres] at hp ha
  cases res with
  | crash => cases hp
  | found r => exact .inl ⟨r, (Option.some.inj hp).symm, ha.2.1⟩
  | one r => cases hp; exact .inr ⟨by simp only [bump, hbg, if_true], by simp only [hbs, if_true]⟩
  | split l sep r => cases hp; exact .inr ⟨by simp only [bump, hbg, if_true], by simp only [hbs, if_true]⟩

end Juniper.Proofs.Tree
