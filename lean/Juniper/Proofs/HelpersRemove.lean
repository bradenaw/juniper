import Juniper.Proofs.HelpersBasic
namespace Juniper.Proofs.Helpers
open Juniper.Model.Helpers Juniper.Spec.Helpers Juniper.Gen.Helpers

variable {α : Type}

seal Juniper.Facts.wrap64

open Juniper.Facts in
/-- inside the documented domain (`idx + n ≤ len(s) ≤ MaxInt64`) `len(s) - n` and `idx + n` are exact -/
theorem ru_keepStart_nat (len n : Nat) (h : n ≤ len) (hl : len ≤ 9223372036854775807) :
    ruKeepStart (len : Int) (n : Int) = (len : Int) - (n : Int) := by
  unfold ruKeepStart; exact wrap64_of_range (by omega) (by omega)

open Juniper.Facts in
theorem ru_removeEnd_nat (idx n len : Nat) (h : idx + n ≤ len) (hl : len ≤ 9223372036854775807) :
    ruRemoveEnd (idx : Int) (n : Int) = (idx : Int) + (n : Int) := by
  unfold ruRemoveEnd; exact wrap64_of_range (by omega) (by omega)

theorem ru_keepStart_final (idx n len : Nat) (h : idx + n ≤ len) (hl : len ≤ 9223372036854775807) :
    (if ruBump (ruRemoveEnd (idx : Int) (n : Int)) (ruKeepStart (len : Int) (n : Int)) = true
      then ruBumpVal (ruRemoveEnd (idx : Int) (n : Int)) else ruKeepStart (len : Int) (n : Int))
      = ((max (idx + n) (len - n) : Nat) : Int) := by
  rw [ru_keepStart_nat len n (by omega) hl, ru_removeEnd_nat idx n len h hl]
  unfold ruBump ruBumpVal
  simp only [decide_eq_true_eq]
  split <;> omega

/-- `removeUnordered` with all generated definitions evaluated; `k` is the final `keepStart`. -/
theorem removeUnordered_eval (zero : α) (s : List α) (idx n k : Nat) (h : idx + n ≤ s.length)
    (hl : s.length ≤ 9223372036854775807) (hk : k = max (idx + n) (s.length - n)) :
    removeUnordered zero s (idx : Int) (n : Int) =
      some (((s.take idx ++ (s.drop k) ++ s.drop (idx + (s.length - k))).take (s.length - n)),
        ((s.take idx ++ (s.drop k) ++ s.drop (idx + (s.length - k))).take (s.length - n))
          ++ List.replicate n zero) := by
  have hK := ru_keepStart_final idx n s.length h hl
  rw [← hk] at hK
  have hn : n ≤ s.length := Nat.le_trans (Nat.le_add_left n idx) h
  have hkl : k ≤ s.length := hk ▸ Nat.max_le.mpr ⟨h, Nat.sub_le _ _⟩
  have hki : idx ≤ k := hk ▸ Nat.le_trans (Nat.le_add_right idx n) (Nat.le_max_left _ _)
  have hLn : Juniper.Facts.wrap64 ((s.length : Int) - (n : Int)) = ((s.length - n : Nat) : Int) :=
    (ru_keepStart_nat s.length n hn hl).trans (Int.ofNat_sub hn).symm
  have o1 : sliceOk (idx : Int) (s.length : Int) (s.length : Int) = true :=
    (sliceOk_nat _ _ _).2 ⟨Nat.le_trans (Nat.le_add_right idx n) h, Nat.le_refl _⟩
  have o2 : sliceOk (k : Int) (s.length : Int) (s.length : Int) = true := (sliceOk_nat _ _ _).2 ⟨hkl, Nat.le_refl _⟩
  have o3 : sliceOk ((s.length - n : Nat) : Int) (s.length : Int) (s.length : Int) = true :=
    (sliceOk_nat _ _ _).2 ⟨Nat.sub_le _ _, Nat.le_refl _⟩
  have o4 : sliceOk ((0 : Nat) : Int) ((s.length - n : Nat) : Int) (s.length : Int) = true :=
    (sliceOk_nat _ _ _).2 ⟨Nat.zero_le _, Nat.sub_le _ _⟩
  have e1 : (s.drop k).take (s.length - k) = s.drop k :=
    List.take_of_length_le (by rw [List.length_drop]; exact Nat.le_refl _)
  have e2 : min (s.length - idx) (s.drop k).length = s.length - k := by
    rw [List.length_drop]; exact Nat.min_eq_right (Nat.sub_le_sub_left hki _)
  have e4 : s.length - (s.length - n) = n := Nat.sub_sub_self hn
  clear hk h hl
  unfold removeUnordered
  simp only [hK]
  simp only [ruCopyDstLo, ruCopyDstHi, ruCopySrcLo,
    ruCopySrcHi, ruClearLo, ruClearHi, ruRetLo, ruRetHi, ruCopies, ruClears, if_true]
  simp only [hLn]
  have z : (0 : Int) = ((0 : Nat) : Int) := rfl
  rw [z]
  simp only [o1, o2, o3, o4, Bool.not_true, Bool.false_eq_true, if_false]
  rw [slice_nat, slice_nat, copyAt_nat, clearAt_nat, e1, e2, e1]
  generalize hs1 : s.take idx ++ s.drop k ++ s.drop (idx + (s.length - k)) = s1
  have hl1 : s1.length = s.length := by
    rw [← hs1]; simp only [List.length_append, List.length_take, List.length_drop]; omega
  rw [List.drop_of_length_le (Nat.le_of_eq hl1), e4, List.append_nil, List.drop_zero, Nat.sub_zero,
    List.take_left' (by rw [List.length_take, hl1]; exact Nat.min_eq_left (Nat.sub_le _ _))]

theorem removeUnordered_spec (zero : α) (s : List α) (idx n : Nat) (h : idx + n ≤ s.length)
    (hl : s.length ≤ 9223372036854775807) :
    ∃ ret arr, removeUnordered zero s (idx : Int) (n : Int) = some (ret, arr) ∧
      ret.length = s.length - n ∧ ret.take idx = s.take idx ∧
      ret.Perm (s.take idx ++ s.drop (idx + n)) ∧
      (∀ p, idx + n ≤ p → p < s.length - n → ret[p]? = s[p]?) ∧
      arr = ret ++ List.replicate n zero := by
  refine ⟨_, _, removeUnordered_eval zero s idx n _ h hl rfl, ?_⟩
  clear hl
  have ha : (s.take idx).length = idx := List.length_take_of_le (by omega)
  by_cases c : s.length - n ≤ idx + n
  · -- nothing (or not everything) can be taken from the tail: the tail is shifted down
    rw [Nat.max_eq_left c]
    have e : (s.take idx ++ s.drop (idx + n) ++ s.drop (idx + (s.length - (idx + n)))).take (s.length - n)
        = s.take idx ++ s.drop (idx + n) :=
      List.take_left' (by rw [List.length_append, ha, List.length_drop]; omega)
    rw [e]
    refine ⟨by rw [List.length_append, ha, List.length_drop]; omega, ?_, List.Perm.refl _, ?_, rfl⟩
    · exact List.take_left' ha
    · intro p h1 h2; omega
  · -- the last `n` items of the tail fill the gap; `m` items stay between the gap and them
    rw [Nat.max_eq_right (Nat.le_of_lt (Nat.lt_of_not_le c))]
    obtain ⟨m, hm⟩ : ∃ m, s.length = idx + n + m + n := ⟨s.length - (idx + n + n), by omega⟩
    have e5 : s.length - n = idx + n + m := by omega
    have e0 : s.length - (idx + n + m) = n := by omega
    have hR : (s.drop (idx + n)).length = m + n := by rw [List.length_drop]; omega
    clear c h
    rw [e5, e0]
    have l1 : (s.take idx ++ s.drop (idx + n + m)).length = idx + n := by
      rw [List.length_append, ha, List.length_drop, e0]
    have e : (s.take idx ++ s.drop (idx + n + m) ++ s.drop (idx + n)).take (idx + n + m)
        = s.take idx ++ s.drop (idx + n + m) ++ (s.drop (idx + n)).take m := by
      rw [List.take_append, l1, Nat.add_sub_cancel_left,
        List.take_of_length_le (by rw [l1]; exact Nat.le_add_right _ _)]
    rw [e]
    refine ⟨?_, ?_, ?_, ?_, rfl⟩
    · rw [List.length_append, l1, List.length_take, hR, Nat.min_eq_left (Nat.le_add_right _ _)]
    · rw [List.append_assoc]; exact List.take_left' ha
    · have d : (s.drop (idx + n)).take m ++ s.drop (idx + n + m) = s.drop (idx + n) := by
        rw [← List.drop_drop (i := m) (j := idx + n), List.take_append_drop]
      conv => rhs; rw [← d]
      rw [List.append_assoc]
      exact List.Perm.append_left _ List.perm_append_comm
    · intro p h1 h2
      rw [List.getElem?_append_right (by rw [l1]; exact h1), l1, List.getElem?_take,
        if_pos (Nat.sub_lt_left_of_lt_add h1 h2), List.getElem?_drop, Nat.add_sub_of_le h1]

end Juniper.Proofs.Helpers
