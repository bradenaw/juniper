import Juniper.Spec.Seq
import Juniper.Proofs.Skeleton
import Juniper.Proofs.ValueFacts
import Juniper.Proofs.IterDen
/-!
# Every combinator of `iterator.go` denotes its list function (C07)

One lemma per combinator: `Den m cost s L e → Den (C m) (cost ∘ inner) st (C_spec L) e'`, by induction
on the derivation. The annotation carries the source pull count through, which gives the laziness
clause in closed form.
-/
namespace Juniper.Proofs.IterDen
open Juniper.Model.Iter Juniper.Spec Juniper.Gen.Comb
universe u v w x
variable {σ : Type u} {σ' : Type w} {α β : Type v} {γ : Type x}

theorem src_step_cons (a : α) (r : List α) (c p : Nat) :
    (src (α := α)).step ⟨a :: r, c, p⟩ = (.item a, ⟨r, c + 1, p + 1⟩) := by
  simp [src, srcStep, itSliceDone]; omega

theorem src_step_nil (c p : Nat) : (src (α := α)).step ⟨[], c, p⟩ = (.done, ⟨[], c + 1, p⟩) := by
  simp [src, srcStep, itSliceDone]

theorem src_ended (c p : Nat) : Ended (src (α := α)) ⟨[], c, p⟩ ∧
    ∀ n, (after (src (α := α)) n ⟨[], c, p⟩).pulled = p := by
  have hstep : ∀ s : Src α, s.rest = [] → src.step s = (.done, { s with calls := s.calls + 1 }) :=
    fun s h => by simp [src, srcStep, itSliceDone, h]
  exact ⟨ended_of_inv (fun s => s.rest = []) (fun s h => by rw [hstep s h]; exact ⟨rfl, h⟩) rfl,
    fun n => (after_inv (fun s : Src α => s.rest = [] ∧ s.pulled = p)
      (fun s h => by rw [hstep s h.1]; exact h) ⟨rfl, rfl⟩ n).2⟩

theorem src_den (l : List α) (c p : Nat) :
    Den src (fun s : Src α => s.pulled) ⟨l, c, p⟩ (annot p l) (p + l.length) := by
  have _tie := Skeleton.Tie.itSlice
  induction l generalizing c p with
  | nil => exact .done (src_step_nil c p) (src_ended (c + 1) p).1 (src_ended (c + 1) p).2
  | cons a l ih =>
    rw [show p + (a :: l).length = p + 1 + l.length by rw [List.length_cons]; omega]
    exact .item (src_step_cons a l c p) (ih (c + 1) (p + 1))

theorem src_denL (s : Src α) : DenL src s s.rest :=
  ⟨_, _, _, src_den s.rest s.calls s.pulled, annot_fst _ _⟩

theorem map_den (f : α → β) {m : IM σ α} {cost : σ → Nat} {s : σ} {L : List (α × Nat)} {e : Nat}
    (h : Den m cost s L e) : Den (map f m) cost s (L.map fun p => (f p.1, p.2)) e := by
  have _tie := Skeleton.Tie.itMap
  induction h with
  | skip hs _ ih => exact .skip (by simp [map, hs]) ih
  | item hs _ ih => exact .item (by simp [map, hs]) ih
  | @done s s' hs he hc =>
    exact .done_wrapper id (fun _ => True) (fun t _ _ (hx : m.step t = _) => by simp [map, hx])
      (t' := s') (by simp [map, hs]) trivial he hc

theorem filter_den (keep : α → Bool) {m : IM σ α} {cost : σ → Nat} {s : σ} {L : List (α × Nat)} {e : Nat}
    (h : Den m cost s L e) : Den (filter keep m) cost s (L.filter fun p => keep p.1) e := by
  have _tie := Skeleton.Tie.itFilter
  induction h with
  | skip hs _ ih => exact .skip (by simp [filter, hs]) ih
  | @item s s' a L e hs _ ih =>
    by_cases hk : keep a = true
    · simp only [List.filter_cons, hk, if_true]
      exact .item (by simp [filter, hs, hk]) ih
    · simp only [List.filter_cons, hk]
      exact .skip (by simp [filter, hs, hk]) ih
  | @done s s' hs he hc =>
    exact .done_wrapper id (fun _ => True) (fun t _ _ (hx : m.step t = _) => by simp [filter, hx])
      (t' := s') (by simp [filter, hs]) trivial he hc

/-- `Spec.chunkGo` on annotated items: a chunk is delivered with its last item, the trailing
partial chunk when the source reports the end (cost `e`). -/
def chunkGoA (n : Nat) : List α → List (α × Nat) → Nat → List (List α × Nat)
  | pend, [], e => if pend.length > 0 then [(pend, e)] else []
  | pend, (a, c) :: L, e =>
    if (pend ++ [a]).length = n then (pend ++ [a], c) :: chunkGoA n [] L e else chunkGoA n (pend ++ [a]) L e

theorem chunkGoA_fst (n : Nat) (pend : List α) (L : List (α × Nat)) (e : Nat) :
    (chunkGoA n pend L e).map Prod.fst = Seq.chunkGo n pend (L.map Prod.fst) := by
  induction L generalizing pend with
  | nil => simp only [chunkGoA, Seq.chunkGo, List.map_nil]; split <;> simp
  | cons p L ih =>
    obtain ⟨a, c⟩ := p
    simp only [chunkGoA, Seq.chunkGo, List.map_cons]
    split <;> simp [ih]

theorem chunk_den (n : Nat) {m : IM σ α} {cost : σ → Nat} {s : σ} {L : List (α × Nat)} {e : Nat}
    (h : Den m cost s L e) (pend : List α) :
    Den (chunk (n : Int) m) (fun st => cost st.inner) ⟨s, pend⟩ (chunkGoA n pend L e) e := by
  have _tie := Skeleton.Tie.itChunk
  induction h generalizing pend with
  | skip hs _ ih => exact .skip (by simp [chunk, hs]) (ih pend)
  | @item s s' a L e hs _ ih =>
    simp only [chunkGoA]
    by_cases hf : (pend ++ [a]).length = n
    · rw [if_pos hf]
      exact .item (by simp at hf; simp [chunk, hs, itChunkFull]; omega) (ih [])
    · rw [if_neg hf]
      exact .skip (by simp at hf; simp [chunk, hs, itChunkFull]; omega) (ih _)
  | @done s s' hs he hc =>
    have hw := ended_wrapper (m' := chunk (n : Int) m) (fun st => st.inner) (fun st => st.pend = [])
      (fun t _ hq hx => by simp [chunk, hx, hq, itChunkFlush]) (t := ⟨s', []⟩) rfl he hc
    cases pend with
    | nil => exact .done (by simp [chunk, hs, itChunkFlush]) hw.1 hw.2
    | cons b pend =>
      exact .item (by simp [chunk, hs, itChunkFlush])
        (den_of_ended (cost := fun st : ChunkSt σ α => cost st.inner) hw.1 hw.2)

/-- `CompactFunc`: the state `(first, prev)` is `P` = the last item kept, if any. -/
theorem compact_den (eq : α → α → Bool) {m : IM σ α} {cost : σ → Nat} {s : σ} {L : List (α × Nat)} {e : Nat}
    (h : Den m cost s L e) (P : Option (α × Nat)) :
    Den (compact eq m) (fun st => cost st.inner) ⟨s, P.isNone, P.map Prod.fst⟩
      (Seq.compactGo (fun p q => eq p.1 q.1) P L) e := by
  have _tie := Skeleton.Tie.itCompact
  induction h generalizing P with
  | skip hs _ ih => exact .skip (by simp [compact, hs]) (ih P)
  | @item s s' a L e hs _ ih =>
    cases P with
    | none =>
      simp only [Seq.compactGo]
      exact .item (by simp [compact, hs, itCompactSetsPrev, itCompactClearsFirst]) (ih (some (a, cost s')))
    | some p =>
      simp only [Seq.compactGo]
      by_cases hq : eq p.1 a = true
      · rw [if_pos hq]
        exact .skip (by simp [compact, hs, hq]) (ih (some p))
      · rw [if_neg hq]
        exact .item (by simp [compact, hs, hq, itCompactSetsPrev]) (ih (some (a, cost s')))
  | @done s s' hs he hc =>
    rw [show Seq.compactGo (fun (p q : α × Nat) => eq p.1 q.1) P [] = [] by cases P <;> rfl]
    exact .done_wrapper (m' := compact eq m) (fun st => st.inner) (fun _ => True) (fun t _ _ hx => by simp [compact, hx])
      (t' := ⟨s', P.isNone, P.map Prod.fst⟩) (by simp [compact, hs]) trivial he hc

theorem compactGo_fst (eq : α → α → Bool) (P : Option (α × Nat)) (L : List (α × Nat)) :
    (Seq.compactGo (fun p q => eq p.1 q.1) P L).map Prod.fst = Seq.compactGo eq (P.map Prod.fst) (L.map Prod.fst) := by
  induction L generalizing P with
  | nil => cases P <;> rfl
  | cons x L ih =>
    cases P with
    | none => simp [Seq.compactGo, ih]
    | some p =>
      simp only [Seq.compactGo, Option.map_some, List.map_cons]
      split
      · exact ih _
      · simp [ih]

/-- cost at which `While` reports the end: with the first failing item, else with the source's end -/
def whileEnd (f : α → Bool) : List (α × Nat) → Nat → Nat
  | [], e => e
  | (a, c) :: L, e => if f a then whileEnd f L e else c

theorem while_den (f : α → Bool) {m : IM σ α} {cost : σ → Nat} {s : σ} {L : List (α × Nat)} {e : Nat}
    (h : Den m cost s L e) :
    Den (while_ f m) (fun st => cost st.inner) ⟨s, false⟩ (L.takeWhile fun p => f p.1) (whileEnd f L e) := by
  have _tie := Skeleton.Tie.itWhile
  induction h with
  | skip hs _ ih => exact .skip (by simp [while_, hs, itWhileDone]) ih
  | @item s s' a L e hs _ ih =>
    by_cases hf : f a = true
    · simp only [List.takeWhile_cons, hf, whileEnd, if_true]
      exact .item (by simp [while_, hs, hf, itWhileDone]) ih
    · simp only [List.takeWhile_cons, hf, whileEnd]
      have hfix : (while_ f m).step ⟨s', true⟩ = (.done, ⟨s', true⟩) := by simp [while_, itWhileDone]
      have hw := ended_fixed hfix
      exact .done (by simp [while_, hs, hf, itWhileDone, itWhileSetsDone]) hw.1
        (fun n => by rw [hw.2 n])
  | @done s s' hs he hc =>
    exact .done_wrapper (m' := while_ f m) (fun st => st.inner) (fun st => st.done = false)
      (fun t _ hq hx => by simp [while_, hx, hq, itWhileDone]) (t' := ⟨s', false⟩) (by simp [while_, hs, itWhileDone]) rfl he hc

theorem peekNext_buf (m : IM σ α) (s : σ) (a : α) : peekNext m ⟨s, some a⟩ = (.item a, ⟨s, none⟩) := by
  simp [peekNext, itPeekNextHas, itPeekNextClearsHas]

theorem peekNext_none (m : IM σ α) (s : σ) : peekNext m ⟨s, none⟩ = ((m.step s).1, ⟨(m.step s).2, none⟩) := by
  simp [peekNext, itPeekNextHas]

theorem peekPeek_buf (m : IM σ α) (s : σ) (a : α) : peekPeek m ⟨s, some a⟩ = (.item a, ⟨s, some a⟩) := by
  simp [peekPeek, itPeekPulls]

theorem peekPeek_none (m : IM σ α) (s : σ) :
    peekPeek m ⟨s, none⟩ = match m.step s with
      | (.item a, s') => (.item a, ⟨s', some a⟩)
      | (.skip, s') => (.skip, ⟨s', none⟩)
      | (.done, s') => (.done, ⟨s', none⟩) := by
  rcases hx : m.step s with ⟨r, s'⟩
  cases r <;> simp [peekPeek, itPeekPulls, hx]

theorem peek_den {m : IM σ α} {cost : σ → Nat} {s : σ} {L : List (α × Nat)} {e : Nat}
    (h : Den m cost s L e) : Den (withPeek m) (fun st => cost st.inner) ⟨s, none⟩ L e := by
  have _tie := Skeleton.Tie.itPeek
  induction h with
  | skip hs _ ih => exact .skip (by simp [withPeek, peekNext_none, hs]) ih
  | @item s s' a L e hs _ ih =>
    exact .item (by simp [withPeek, peekNext_none, hs]) ih
  | @done s s' hs he hc =>
    exact .done_wrapper (m' := withPeek m) (fun st => st.inner) (fun st => st.curr = none)
      (fun t _ hq hx => by obtain ⟨ti, _⟩ := t; subst hq; simp [withPeek, peekNext_none, hx]) (t' := ⟨s', none⟩)
      (by simp [withPeek, peekNext_none, hs]) rfl he hc

theorem peek_den_has {m : IM σ α} {cost : σ → Nat} {s : σ} {L : List (α × Nat)} {e : Nat} (a : α)
    (h : Den m cost s L e) : Den (withPeek m) (fun st => cost st.inner) ⟨s, some a⟩ ((a, cost s) :: L) e :=
  .item (by simp [withPeek, peekNext_buf]) (peek_den h)

theorem peekPeek_eq (m : IM σ α) (p : PeekSt σ α) :
    peekPeek m p = (match peekNext m p with
      | (.item a, p1) => (.item a, ⟨p1.inner, some a⟩)
      | x => x) ∧ (peekNext m p).2.curr = none := by
  have _tie := Skeleton.Tie.itPeek
  obtain ⟨s, curr⟩ := p
  cases curr with
  | some a => simp [peekPeek_buf, peekNext_buf]
  | none =>
    rcases hx : m.step s with ⟨r, s'⟩
    cases r <;> simp [peekPeek_none, peekNext_none, hx]

/-- cost at which `First(iter, k)` reports the end: after `k` items it needs no further pull -/
def firstEnd : Nat → Nat → List (α × Nat) → Nat → Nat
  | c0, 0, _, _ => c0
  | _, _ + 1, [], e => e
  | _, k + 1, (_, c) :: L, e => firstEnd c k L e

theorem firstEnd_pos (c0 c1 : Nat) {k : Nat} (hk : 0 < k) (L : List (α × Nat)) (e : Nat) :
    firstEnd c0 k L e = firstEnd c1 k L e := by
  obtain ⟨k, rfl⟩ : ∃ j, k = j + 1 := ⟨k - 1, by omega⟩
  cases L with
  | nil => rfl
  | cons p L => rfl

theorem first_done_fixed (m : IM σ α) (s : σ) (x : Int) (hx : x ≤ 0) :
    (first m).step ⟨s, x, false⟩ = (.done, ⟨s, x, false⟩) := by
  simp [first, itFirstDone, hx]

theorem first_step (m : IM σ α) (s : σ) {x : Int} (hx : 0 < x) :
    (first m).step ⟨s, x, false⟩ =
      match m.step s with
      | (.skip, s') => (.skip, ⟨s', x - 1, true⟩)
      | (r, s') => (r, ⟨s', x - 1, false⟩) := by
  have : ¬ x ≤ 0 := by omega
  rcases hs : m.step s with ⟨r, s'⟩
  cases r <;> simp [first, itFirstDone, itFirstDecrements, this, hs]

/-- inside `inner.Next()`, the decrement done, `First` steps as it does before the call with one more to go -/
theorem first_in_call (m : IM σ α) (s : σ) {x : Int} (hx : 0 < x) :
    (first m).step ⟨s, x - 1, true⟩ = (first m).step ⟨s, x, false⟩ := by
  rw [first_step m s hx]
  rfl

theorem first_den {m : IM σ α} {cost : σ → Nat} {s : σ} {L : List (α × Nat)} {e : Nat}
    (h : Den m cost s L e) (x : Int) :
    Den (first m) (fun st => cost st.inner) ⟨s, x, false⟩ (L.take x.toNat) (firstEnd (cost s) x.toNat L e) := by
  have _tie := Skeleton.Tie.itFirst
  have hzero : ∀ (s : σ) (x : Int) (L : List (α × Nat)) (e : Nat), x ≤ 0 →
      Den (first m) (fun st => cost st.inner) ⟨s, x, false⟩ (L.take x.toNat) (firstEnd (cost s) x.toNat L e) := by
    intro s x L e hx
    simpa [show x.toNat = 0 by omega, firstEnd] using
      den_of_fixed (cost := fun st : FirstSt σ => cost st.inner) (first_done_fixed m s x hx)
  induction h generalizing x with
  | @skip s s' L e hs _ ih =>
    by_cases hx : x ≤ 0
    · exact hzero s x L e hx
    · rw [firstEnd_pos (cost s) (cost s') (by omega)]
      exact .skip (by rw [first_step m s (by omega), hs]) (.of_step_eq (first_in_call m s' (by omega)) (ih x))
  | @item s s' a L e hs _ ih =>
    by_cases hx : x ≤ 0
    · exact hzero s x _ e hx
    · rw [show x.toNat = (x - 1).toNat + 1 by omega]
      exact .item (by rw [first_step m s (by omega), hs]) (ih (x - 1))
  | @done s s' hs he hc =>
    by_cases hx : x ≤ 0
    · exact hzero s x [] _ hx
    · rw [show x.toNat = (x - 1).toNat + 1 by omega]
      -- after the inner end, every state that is not inside a call has ended
      exact .done_wrapper (m' := first m) (fun st => st.inner) (fun st => st.inCall = false)
        (fun t _ hq hx => by
          by_cases hd : t.x ≤ 0
          · simp [first, hq, itFirstDone, hd]
          · simp [first, hq, itFirstDone, hd, hx])
        (t' := ⟨s', x - 1, false⟩) (by rw [first_step m s (by omega), hs]) rfl he hc

theorem counter_den (n i : Int) (k : Nat) (hk : k = (n - i).toNat) :
    Den (counter n) (fun _ => 0) i ((List.range k).map fun (j : Nat) => ((i + (j : Int)), 0)) 0 := by
  have _tie := Skeleton.Tie.itCounter
  induction k generalizing i with
  | zero =>
    have hi : n ≤ i := by omega
    exact den_of_fixed (by simp [counter, itCounterDone, hi])
  | succ k ih =>
    have hi : ¬ n ≤ i := by omega
    have e : (List.range (k + 1)).map (fun (j : Nat) => ((i + (j : Int)), 0)) =
        (i, 0) :: (List.range k).map (fun (j : Nat) => ((i + 1 + (j : Int)), 0)) := by
      simp only [List.range_succ_eq_map, List.map_cons, List.map_map, Function.comp_def, Int.natCast_zero, Int.add_zero]
      congr 2
      funext j
      congr 1
      omega
    rw [e]
    exact .item (by simp [counter, itCounterDone, hi, itCounterAdvances, itCounterItem]) (ih (i + 1) (by omega))

theorem repeat_den (a : α) (x : Int) :
    Den (repeat_ a) (fun _ => 0) x (List.replicate x.toNat (a, 0)) 0 := by
  have _tie := Skeleton.Tie.itRepeat
  generalize hk : x.toNat = k
  induction k generalizing x with
  | zero =>
    have hx : x ≤ 0 := by omega
    exact den_of_fixed (by simp [repeat_, itRepeatDone, hx])
  | succ k ih =>
    have hx : ¬ x ≤ 0 := by omega
    exact .item (by simp [repeat_, itRepeatDone, hx, itRepeatDecrements]) (ih (x - 1) (by omega))

variable {τ : Type w}

theorem flatten_inner {mo : IM σ τ} {mi : IM τ α} {co : σ → Nat} {ci : τ → Nat} {so : σ} {c : τ}
    {Li : List (α × Nat)} {ei : Nat} (hi : Den mi ci c Li ei) {rest : List (α × Nat)} {e : Nat}
    (hr : Den (flatten mo mi) (fun st => co st.outer) ⟨so, none⟩ rest e) :
    Den (flatten mo mi) (fun st => co st.outer) ⟨so, some c⟩ (Li.map (fun p => (p.1, co so)) ++ rest) e := by
  induction hi with
  | skip hs _ ih => exact .skip (by simp [flatten, hs]) ih
  | item hs _ ih => exact .item (by simp [flatten, hs]) ih
  | done hs _ _ => exact .skip (by simp [flatten, hs, itFlattenClearsCurr]) hr

/-- `D c` is what the inner iterator `c` denotes; each item costs what the outer iterator had cost when
its inner iterator arrived. -/
theorem flatten_den {mo : IM σ τ} {mi : IM τ α} {co : σ → Nat} (D : τ → List α) {so : σ}
    {Lo : List (τ × Nat)} {eo : Nat} (ho : Den mo co so Lo eo)
    (hD : ∀ p ∈ Lo, DenL mi p.1 (D p.1)) :
    Den (flatten mo mi) (fun st => co st.outer) ⟨so, none⟩
      (Lo.flatMap fun p => (D p.1).map fun a => (a, p.2)) eo := by
  have _tie := Skeleton.Tie.itFlatten
  induction ho with
  | skip hs _ ih => exact .skip (by simp [flatten, hs]) (ih hD)
  | @item s s' c L e hs _ ih =>
    obtain ⟨ci, Li, ei, hi, hLi⟩ := hD (c, co s') (by simp)
    have hrest := ih (fun p hp => hD p (by simp [hp]))
    have := flatten_inner (mo := mo) (co := co) (so := s') hi hrest
    simp only [List.flatMap_cons]
    rw [← hLi, List.map_map]
    exact .skip (by simp [flatten, hs]) this
  | @done s s' hs he hc =>
    exact .done_wrapper (m' := flatten mo mi) (fun st => st.outer) (fun st => st.curr = none) (fun t _ hq hx => by simp [flatten, hx, hq])
      (t' := ⟨s', none⟩) (by simp [flatten, hs]) rfl he hc

theorem flatMap_annot_fst (D : τ → List α) (p : Nat) (cs : List τ) :
    ((annot p cs).flatMap fun q => (D q.1).map fun a => (a, q.2)).map Prod.fst = cs.flatMap D := by
  induction cs generalizing p with
  | nil => rfl
  | cons x cs ih => simp [annot, ih, Function.comp_def]

theorem join_head {m : IM σ α} {ci : σ → Nat} {s : σ} {Li : List (α × Nat)} {ei : Nat} (hi : Den m ci s Li ei)
    (r : List σ) {rest : List (α × Nat)} (hr : Den (join m) (fun _ => 0) r rest 0) :
    Den (join m) (fun _ => 0) (s :: r) (Li.map (fun p => (p.1, 0)) ++ rest) 0 := by
  induction hi with
  | skip hs _ ih => exact .skip (by simp [join, hs]) ih
  | item hs _ ih => exact .item (by simp [join, hs]) ih
  | done hs _ _ => exact .skip (by simp [join, hs, itJoinAdvances]) hr

theorem join_den {m : IM σ α} (D : σ → List α) (ss : List σ)
    (hD : ∀ s ∈ ss, DenL m s (D s)) :
    Den (join m) (fun _ => 0) ss ((ss.flatMap D).map fun a => (a, 0)) 0 := by
  have _tie := Skeleton.Tie.itJoin
  induction ss with
  | nil => exact den_of_fixed (m := join m) (s := []) rfl
  | cons s r ih =>
    obtain ⟨ci, Li, ei, hi, hLi⟩ := hD s (by simp)
    have := join_head hi r (ih (fun s hs => hD s (by simp [hs])))
    simp only [List.flatMap_cons, List.map_append]
    rw [← hLi, List.map_map]
    exact this

end Juniper.Proofs.IterDen
