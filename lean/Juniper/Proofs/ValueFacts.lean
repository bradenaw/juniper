import Juniper.Generated.Comb
/-!
# Value-level expressions of the combinators, evaluated (C07, tie 1)

The machines of `Model/Iter.lean` / `Model/Stream.lean` call the *regenerated* expressions where the Go
methods test a callback's answer, compare items, bound a loop or a slice: which callback is called on
which arguments in which order and with which polarity (`!iter.eq(iter.prev, item)`, `iter.keep(item)`,
`!iter.f(item)`, `!ok || !iter.parent.same(iter.prev, item)`), the two tests of `One`, the loop header and
the three tests of `Equal`, the loop conditions of `Join`, the slice bounds of `Last` and
`FlattenSlices`. The lemmas below state what each evaluates to; they are `simp`
lemmas, so the denotation proofs see the familiar `!eq p a`, `keep a`, …. Swapping the arguments of a
callback, dropping a negation, `for i := 2`, `buf[idx+1:]` in the Go source changes the generated
definition and breaks the lemma of that name (and the theorems of that combinator).
-/
namespace Juniper.Proofs.ValueFacts
open Juniper.Gen.Comb
universe u
variable {α : Type u}

@[simp] theorem itCompactKeeps_eq (eq : α → α → Bool) (p a : α) : itCompactKeeps eq p a = !eq p a := rfl
@[simp] theorem stCompactKeeps_eq (eq : α → α → Bool) (p a : α) : stCompactKeeps eq p a = !eq p a := rfl
@[simp] theorem itFilterKeeps_eq (keep : α → Bool) (a : α) : itFilterKeeps keep a = keep a := rfl
@[simp] theorem stFilterKeeps_eq (b : Bool) : stFilterKeeps b = b := rfl
@[simp] theorem itWhileStops_eq (f : α → Bool) (a : α) : itWhileStops f a = !f a := rfl
@[simp] theorem stWhileStops_eq (b : Bool) : stWhileStops b = !b := rfl
@[simp] theorem itRunsInnerStops_item (same : α → α → Bool) (p a : α) : itRunsInnerStops same p a true = !same p a := by
  simp [itRunsInnerStops]
@[simp] theorem itRunsInnerStops_end (same : α → α → Bool) (p a : α) : itRunsInnerStops same p a false = true := by
  simp [itRunsInnerStops]
@[simp] theorem stRunsInnerStops_eq (same : α → α → Bool) (p a : α) : stRunsInnerStops same p a = !same p a := rfl
@[simp] theorem itOneEmpty_eq (ok : Bool) : itOneEmpty ok = !ok := rfl
@[simp] theorem itOneMore_eq (ok : Bool) : itOneMore ok = ok := rfl
@[simp] theorem itEqualNone_zero : itEqualNone 0 = true := by decide
@[simp] theorem itEqualLenDiff_eq (a b : Bool) : itEqualLenDiff a b = (a != b) := rfl
@[simp] theorem itEqualItemDiff_eq [DecidableEq α] (ok : Bool) (a b : α) : itEqualItemDiff ok a b = (ok && a != b) := rfl
@[simp] theorem itEqualDone_eq (ok : Bool) : itEqualDone ok = !ok := rfl
@[simp] theorem itJoinLoops_eq (n : Nat) : itJoinLoops (n : Int) = decide (0 < n) := by
  simp [itJoinLoops]
@[simp] theorem stJoinLoops_eq (n : Nat) : stJoinLoops (n : Int) = decide (0 < n) := by
  simp [stJoinLoops]
@[simp] theorem stFlattenSlicesHas_eq (n : Nat) : stFlattenSlicesHas (n : Int) = decide (0 < n) := by
  simp [stFlattenSlicesHas]
@[simp] theorem stFlattenSlicesHead_eq : stFlattenSlicesHead.toNat = 0 := by decide
@[simp] theorem stFlattenSlicesRest_eq : stFlattenSlicesRest.toNat = 1 := by decide
@[simp] theorem itLastTake_eq (i n idx : Int) : itLastTake i n idx = i := rfl
@[simp] theorem itLastFrom_eq (i n idx : Int) : itLastFrom i n idx = idx := rfl
@[simp] theorem itLastUpto_eq (i n idx : Int) : itLastUpto i n idx = idx := rfl
@[simp] theorem stLastTake_eq (i n idx : Int) : stLastTake i n idx = i := rfl
@[simp] theorem stLastFrom_eq (i n idx : Int) : stLastFrom i n idx = idx := rfl
@[simp] theorem stLastUpto_eq (i n idx : Int) : stLastUpto i n idx = idx := rfl

end Juniper.Proofs.ValueFacts
