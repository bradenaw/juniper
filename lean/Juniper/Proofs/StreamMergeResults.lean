import Juniper.Proofs.StreamMergeOnce
/-! What the consumer of `stream.Merge` is told: the normal end only when every input ended and everything was
delivered, an error only if it is the CAS winner's. -/
namespace Juniper.Proofs.StreamMerge
open Juniper.Model.StreamMerge
variable {V : Type}

def Closing (s : St V) : Prop := ∃ rest, s.cpc = .closing rest

/-- The CAS on `closeOnce` has been won (an input failed) or `Close` of the merged stream has been called: the only
two reasons for which the context is cancelled, a `Send` fails or an item is dropped. Once true it stays true. -/
def Trouble (s : St V) : Prop := s.closeOnce = true ∨ Closing s

def DropOK (g : G V) : Prop := g.why ≠ some .sendFailed → g.dropped = []

/-- the goroutine has been through the CAS with error `x`, or is about to -/
def Logged (x : Nat) (g : G V) : Prop := carries (.inj x) g.pc ∨ g.why = some .lostCas ∨ g.why = some .wonCas

structure ResultsInv (s : St V) : Prop where
  streamDone_closing : s.streamDone = true → Closing s
  cancelled_trouble : s.cancelled = true → Trouble s
  sendFailed_trouble : ∀ g, g ∈ s.gs → g.why = some .sendFailed → Trouble s
  dropOK : ∀ g, g ∈ s.gs → DropOK g
  told_err : ∀ e, Res.err e ∈ s.results → ∃ i x, e = .inj x ∧ s.winner = some (i, .inj x)
  ctx_winner_closing : ∀ i, s.winner = some (i, .ctx) → Closing s
  ctx_cancelled : ∀ g, g ∈ s.gs → carries .ctx g.pc → s.cancelled = true
  told_end : Res.endd ∈ s.results → s.closeOnce = false ∧ ∀ g, g ∈ s.gs → g.why = some .ended
  logged : ∀ p, p ∈ s.errLog → ∃ g, s.gs[p.1]? = some g ∧ Logged p.2 g

theorem resultsInv_init (k : Nat) : ResultsInv (init V k) := by
  refine ⟨nofun, nofun, ?_, ?_, nofun, nofun, ?_, nofun, nofun⟩
  · intro g hg h; cases List.eq_of_mem_replicate hg; cases h
  · intro g hg; cases List.eq_of_mem_replicate hg; exact fun _ => rfl
  · intro g hg hc; cases List.eq_of_mem_replicate hg; cases hc

theorem gstep_after_loop {s sh : St V} {i : Nat} {g g' : G V} {l : Label V} (t : GStep s i g l g' sh)
    (h : LocalOK g) (hw : g.why ≠ none) :
    g'.why = g.why := by
  have hl := h.not_inLoop hw
  cases t with
  | mark rest hp | checkFire rest hp _ | checkSkip d rest hp _ | closeIn rest hp | wgDone rest hp | fin hp =>
    rfl
  | item v hp | ended hp | err e hp | ctxErr hp _ | casWin e hp _ | casLose e hp _ | winCancel e rest hp
  | winClose e rest hp | winDone e hp | sendOk v live hp _ | sendFail v hp _ => rewrite [hp] at hl; cases hl

theorem gstep_dropOK {s sh : St V} {i : Nat} {g g' : G V} {l : Label V} (t : GStep s i g l g' sh)
    (hl : LocalOK g) (h : DropOK g) : DropOK g' := by
  have hd := hl.dropped
  cases t with
  | ended hp | casLose e hp _ | winDone e hp => intro _; exact hd (by rw [hp]; rfl)
  | sendFail v hp _ => intro hh; simp at hh
  | item v hp | err e hp | ctxErr hp _ | casWin e hp _ | winCancel e rest hp | winClose e rest hp
  | sendOk v live hp _ | mark rest hp | checkFire rest hp _ | checkSkip d rest hp _ | closeIn rest hp
  | wgDone rest hp | fin hp => exact h

theorem gstep_logged {s sh : St V} {i : Nat} {g g' : G V} {l : Label V} (t : GStep s i g l g' sh)
    (hl : LocalOK g) (x : Nat) (h : Logged x g) : Logged x g' := by
  by_cases hw : g.why = none
  · have he : carries (.inj x) g.pc := by
      rcases h with h | h | h
      · exact h
      · rw [hw] at h; cases h
      · rw [hw] at h; cases h
    cases t with
    | casWin e hp _ | winCancel e rest hp | winClose e rest hp => rw [hp] at he; exact .inl he
    | casLose e hp _ => exact .inr (.inl rfl)
    | winDone e hp => exact .inr (.inr rfl)
    | item v hp | ended hp | err e hp | ctxErr hp _ | sendOk v live hp _ | sendFail v hp _ | mark rest hp
    | checkFire rest hp _ | checkSkip d rest hp _ | closeIn rest hp | wgDone rest hp | fin hp =>
      rw [hp] at he; cases he
  · have h1 := gstep_after_loop t hl hw
    have hnl := hl.not_inLoop hw
    rcases h with h | h
    · exfalso
      cases hp : g.pc <;> simp [hp, carries, inLoop] at h hnl
    · right; rw [h1]; exact h

theorem gstep_ctx {s sh : St V} {i : Nat} {g g' : G V} {l : Label V} (t : GStep s i g l g' sh)
    (h : carries .ctx g'.pc) : carries .ctx g.pc ∨ s.cancelled = true := by
  cases t with
  | ctxErr hp hc => exact .inr hc
  | casWin e hp _ | winCancel e rest hp | winClose e rest hp => rw [hp]; exact .inl h
  | item v hp | ended hp | err e hp | casLose e hp _ | winDone e hp | sendOk v live hp _ | sendFail v hp _
  | mark rest hp | checkFire rest hp _ | checkSkip d rest hp _ | closeIn rest hp | wgDone rest hp | fin hp =>
    simp [carries, again] at h

theorem gstep_sendFailed {s sh : St V} {i : Nat} {g g' : G V} {l : Label V} (t : GStep s i g l g' sh)
    (h : g'.why = some .sendFailed) :
    g.why = some .sendFailed ∨
    ((∃ v, g.pc = .send v) ∧ (s.cancelled = true ∨ s.streamDone = true ∨ 0 < s.senderCloses)) := by
  cases t with
  | sendFail v hp hc => exact .inr ⟨⟨v, hp⟩, hc⟩
  | ended hp | casLose e hp _ | winDone e hp => cases h
  | item v hp | err e hp | ctxErr hp _ | casWin e hp _ | winCancel e rest hp | winClose e rest hp
  | sendOk v live hp _ | mark rest hp | checkFire rest hp _ | checkSkip d rest hp _ | closeIn rest hp
  | wgDone rest hp | fin hp => exact .inl h

theorem GStep.closing {s sh : St V} {i : Nat} {g g' : G V} {l : Label V} (t : GStep s i g l g' sh) :
    (Closing s → Closing sh) ∧ (Trouble s → Trouble sh) := by
  have hc : Closing s → Closing sh := fun ⟨rest, hr⟩ => by
    rcases t.handoff with ⟨h, _⟩ | ⟨_, _, _, _, h, _⟩
    · exact ⟨rest, h.trans hr⟩
    · rw [hr] at h; cases h
  refine ⟨hc, fun h => h.elim (fun hco => .inl ?_) (fun h => .inr (hc h))⟩
  rcases t.told.2.1 with ⟨h, _⟩ | ⟨_, h, _⟩
  · exact h.trans hco
  · exact h

theorem resultsInv_gor {k : Nat} {s sh : St V} {l : Label V} (hI : Inv k s) (hi : ResultsInv s) {i : Nat}
    {g g' : G V} (hg : s.gs[i]? = some g) (t : GStep s i g l g' sh) :
    ResultsInv { sh with gs := s.gs.set i g' } := by
  have hgm : g ∈ s.gs := List.mem_of_getElem? hg
  have hloc := hI.localOK g hgm
  have hk : 0 < k := hI.pos hgm
  have hsd := t.const.2.2
  have hcan' := t.cancelled_mono
  obtain ⟨hcan, hco, hel⟩ := t.told
  have hres : ∀ r, r ∈ sh.results → r ∈ s.results ∨ ∃ j v, r = .item j v := fun r hr => by
    rcases t.handoff with ⟨_, _, h, _⟩ | ⟨v, _, _, _, _, _, _, h⟩
    · exact .inl (h ▸ hr)
    · exact (List.mem_append.mp (h ▸ hr)).imp id fun hr => ⟨i, v, List.mem_singleton.mp hr⟩
  obtain ⟨hcl, htr⟩ := t.closing
  refine ⟨fun (h : sh.streamDone = true) => hcl (hi.streamDone_closing (hsd ▸ h)), fun (h : sh.cancelled = true) => ?_, ?_, ?_, ?_, ?_,
    ?_, ?_, ?_⟩
  · rcases hcan with h1 | ⟨_, e, r, hp⟩
    · exact htr (hi.cancelled_trouble (h1 ▸ h))
    · exact htr (.inl (hI.closeOnce_of_won hgm hp))
  · intro a (haa : a ∈ s.gs.set i g') hsf
    refine htr ?_
    rcases List.mem_or_eq_of_mem_set haa with haa | rfl
    · exact hi.sendFailed_trouble a haa hsf
    · rcases gstep_sendFailed t hsf with h | ⟨⟨v, hv⟩, h | h | h⟩
      · exact hi.sendFailed_trouble g hgm h
      · exact hi.cancelled_trouble h
      · exact .inr (hi.streamDone_closing h)
      · cases hcf : s.closeOnce
        · have := hI.not_closed hk hcf hgm (by simp [mayNilInd, hv, marked])
          omega
        · exact .inl hcf
  · exact ListStore.forall_mem_set i hi.dropOK (gstep_dropOK t hloc (hi.dropOK g hgm))
  · intro e (he : Res.err e ∈ sh.results)
    rcases hres _ he with he | ⟨j, v, he⟩
    · obtain ⟨j, x, h1, h2⟩ := hi.told_err e he
      rcases hco with ⟨_, h3⟩ | ⟨h3, _, _⟩
      · exact ⟨j, x, h1, h3.trans h2⟩
      · rw [(hI.before_cas h3).2.1] at h2; cases h2
    · cases he
  · intro j (hw : sh.winner = some (j, .ctx))
    refine hcl ?_
    rcases hco with ⟨_, h3⟩ | ⟨h3, _, e, hp, h4⟩
    · exact hi.ctx_winner_closing j (h3 ▸ hw)
    · rw [h4] at hw; simp at hw
      obtain ⟨_, rfl⟩ := hw
      -- the winner holds the context's error: the context was cancelled, before any CAS was won, so by `Close`
      exact (hi.cancelled_trouble (hi.ctx_cancelled g hgm (by simp [hp, carries]))).resolve_left (by rw [h3]; simp)
  · intro a (haa : a ∈ s.gs.set i g') hx
    show sh.cancelled = true
    rcases List.mem_or_eq_of_mem_set haa with haa | rfl
    · exact hcan' (hi.ctx_cancelled a haa hx)
    · exact hcan' ((gstep_ctx t hx).elim (hi.ctx_cancelled g hgm) id)
  · intro (he : Res.endd ∈ sh.results)
    have he' : Res.endd ∈ s.results := (hres _ he).elim id fun ⟨j, v, h⟩ => nomatch h
    obtain ⟨h1, h2⟩ := hi.told_end he'
    have hgw := h2 g hgm
    have hst := gstep_after_loop t hloc (by rw [hgw]; simp)
    rcases hco with ⟨h3, _⟩ | ⟨_, _, e, hp, _⟩
    · refine ⟨h3.trans h1, fun a (haa : a ∈ s.gs.set i g') => ?_⟩
      rcases List.mem_or_eq_of_mem_set haa with haa | rfl
      · exact h2 a haa
      · rw [hst]; exact hgw
    · have := hloc.why.mpr (by simp [hp, inLoop])
      rw [hgw] at this; cases this
  · intro p (hp : p ∈ sh.errLog)
    show ∃ g, (s.gs.set i g')[p.1]? = some g ∧ _
    have hlt := (List.getElem?_eq_some_iff.mp hg).1
    rcases hel p hp with hp | ⟨h1, h2⟩
    · obtain ⟨a, ha1, ha2⟩ := hi.logged p hp
      by_cases hpi : p.1 = i
      · rw [hpi, hg] at ha1; cases ha1
        exact ⟨g', by rw [hpi]; simp [hlt], gstep_logged t hloc p.2 ha2⟩
      · exact ⟨a, by rw [List.getElem?_set_ne fun h => hpi h.symm]; exact ha1, ha2⟩
    · exact ⟨g', by rw [h1]; simp [hlt], .inl h2⟩

/-- Steps of the consumer: they change `cpc`, `results`, and (`Close`) `streamDone` / `cancelled`. -/
theorem resultsInv_consumer {s s' : St V} (hi : ResultsInv s) (hgs : s'.gs = s.gs)
    (hco : s'.closeOnce = s.closeOnce) (hw : s'.winner = s.winner) (hel : s'.errLog = s.errLog)
    (hcl : Closing s → Closing s') (hsd : s'.streamDone = true → s.streamDone = true ∨ Closing s')
    (hcan : s'.cancelled = true → s.cancelled = true ∨ Closing s') (hcan' : s.cancelled = true → s'.cancelled = true)
    (herr : ∀ e, Res.err e ∈ s'.results → Res.err e ∈ s.results ∨ ∃ i x, e = .inj x ∧ s.winner = some (i, .inj x))
    (hend : Res.endd ∈ s'.results → Res.endd ∈ s.results ∨ (s.closeOnce = false ∧ ∀ g, g ∈ s.gs → g.why = some .ended)) :
    ResultsInv s' := by
  have htr : Trouble s → Trouble s' := fun h => h.elim (fun h => .inl (hco.trans h)) (fun h => .inr (hcl h))
  refine ⟨fun h => (hsd h).elim (fun h => hcl (hi.streamDone_closing h)) id, fun h => (hcan h).elim (fun h => htr (hi.cancelled_trouble h)) .inr,
    fun g hg hsf => htr (hi.sendFailed_trouble g (hgs ▸ hg) hsf), hgs ▸ hi.dropOK, fun e he => hw ▸ (herr e he).elim (hi.told_err e) id,
    fun j hj => hcl (hi.ctx_winner_closing j (hw ▸ hj)), fun g hg hx => hcan' (hi.ctx_cancelled g (hgs ▸ hg) hx),
    fun he => hco ▸ hgs ▸ (hend he).elim hi.told_end id, hel ▸ hgs ▸ hi.logged⟩

/-- `ho`: the context handed to the inputs ends only through `cancel()` (the environment label `ctxEnds` is
dead) — this is what makes "`cancelled` implies the CAS was won or `Close` was called" (`cancelled_trouble`) and "a context error
reaches the CAS only after `cancel()`" (`ctx_cancelled`) invariants. -/
theorem resultsInv_step {k : Nat} {s s' : St V} {l : Label V} (ho : ctxOrigin = .plainCancel) (hI : Inv k s)
    (hi : ResultsInv s) (h : step s l = some s') : ResultsInv s' := by
  rcases step_cases h with ⟨i, g, g', sh, hg, t, rfl⟩ | c
  · exact resultsInv_gor hI hi hg t
  · have nc : ∀ {x : CPc}, s.cpc = x → (∀ rest, x ≠ .closing rest) → Closing s → Closing s' :=
      fun hp hx ⟨rest, hr⟩ => absurd (hp.symm.trans hr) (hx rest)
    cases c with
    | ctxEnds ho' _ => exact absurd (hI.origin_eq.trans ho) ho'
    | call live hp | expire hp =>
      exact resultsInv_consumer hi rfl rfl rfl rfl (nc hp nofun) .inl .inl id (fun _ he => .inl he) (fun he => .inl he)
    | ctx hp =>
      exact resultsInv_consumer hi rfl rfl rfl rfl (nc hp nofun) .inl .inl id
        (fun _ he => by simp at he; exact .inl he) (fun he => by simp at he; exact .inl he)
    | close hp | closeWait rest hp _ =>
      exact resultsInv_consumer hi rfl rfl rfl rfl (fun _ => ⟨_, rfl⟩) .inl .inl id (fun _ he => .inl he) (fun he => .inl he)
    | closeInner rest hp =>
      exact resultsInv_consumer hi rfl rfl rfl rfl (fun _ => ⟨_, rfl⟩) (fun _ => .inr ⟨_, rfl⟩) .inl id (fun _ he => .inl he)
        (fun he => .inl he)
    | closeCancel rest hp =>
      exact resultsInv_consumer hi rfl rfl rfl rfl (fun _ => ⟨_, rfl⟩) .inl (fun _ => .inr ⟨_, rfl⟩) (fun _ => rfl)
        (fun _ he => .inl he) (fun he => .inl he)
    | endd live hp hpos =>
      have hn : ¬ Closing s := fun ⟨rest, hr⟩ => by rw [hp] at hr; cases hr
      refine resultsInv_consumer hi rfl rfl rfl rfl (fun h => absurd h hn) .inl .inl id ?_ ?_
      · intro e he
        simp at he
        rcases he with he | he
        · exact .inl he
        · right
          cases hse : s.senderErr with
          | none => rw [hse] at he; cases he
          | some e' =>
            rw [hse] at he
            simp at he; subst he
            obtain ⟨j, hj⟩ := hI.err_of_winner _ hse
            cases e with
            | inj x => exact ⟨j, x, rfl, hj⟩
            | ctx => exact absurd (hi.ctx_winner_closing j hj) hn
      · intro he
        simp at he
        rcases he with he | he
        · exact .inl he
        · right
          cases hse : s.senderErr with
          | some e' => rw [hse] at he; cases he
          | none =>
            have hco : s.closeOnce = false := by
              cases hcc : s.closeOnce
              · rfl
              · exact absurd hse (hI.err_after_cas hcc hpos)
            refine ⟨hco, fun g hg => ?_⟩
            have hmk : marked g.pc = true := by
              cases hm : marked g.pc
              · have := hI.not_closed (hI.pos hg) hco hg (by simp [mayNilInd, hm]); omega
              · rfl
            have hnl : inLoop g.pc = false := by
              cases hpc : g.pc <;> simp [hpc, marked, inLoop] at hmk ⊢
            have h3 := (hI.before_cas hco).1 g hg
            have h2 := (hI.no_winner hco hg).2
            cases hw : g.why with
            | none => have := (hI.localOK g hg).why.mp hw; rw [hnl] at this; cases this
            | some w =>
              cases w with
              | ended => rfl
              | lostCas => exact absurd hw h3
              | wonCas => exact absurd hw h2
              | sendFailed => exact ((hi.sendFailed_trouble g hg hw).elim (fun h => by rw [hco] at h; cases h) fun h => absurd h hn)

theorem reach_invF {k : Nat} {s : St V} (ho : ctxOrigin = .plainCancel) (h : Reach (init V k) s) : ResultsInv s := by
  induction h with
  | refl => exact resultsInv_init k
  | step l hr hs ih => exact resultsInv_step ho (reach_inv hr) ih hs

/-- The goroutine of an input that has returned an error is at the CAS or left its loop through it, not through `End`. -/
theorem ResultsInv.no_end_after_error {k : Nat} {s : St V} (hf : ResultsInv s) (hI : Inv k s) (hne : s.errLog ≠ []) :
    Res.endd ∉ s.results := by
  intro hend
  obtain ⟨p, hp⟩ := List.exists_mem_of_ne_nil _ hne
  obtain ⟨g, hg, hlog⟩ := hf.logged p hp
  have hgm := List.mem_of_getElem? hg
  have hw := (hf.told_end hend).2 g hgm
  rcases hlog with hlog | hlog | hlog
  · have : inLoop g.pc = true := by
      cases hp : g.pc <;> simp [hp, carries, inLoop] at hlog ⊢
    have := (hI.localOK g hgm).why.mpr this
    rw [hw] at this; cases this
  · rw [hw] at hlog; cases hlog
  · rw [hw] at hlog; cases hlog

end Juniper.Proofs.StreamMerge
