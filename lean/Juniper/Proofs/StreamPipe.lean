import Juniper.Proofs.StreamComb
import Juniper.Proofs.StreamClose
/-!
# Stream pipelines of arbitrary depth (C08 fault sequences, C09 call log)

`SPipe α` is a pipeline of caller's-goroutine stream combinators over *any* base stream machine:
`Filter`, `Map`, `First`, `While`, `CompactFunc`, `WithPeek`, and `Chunk n` followed by `FlattenSlices`
(a composite that changes the element type in between). `spipe_sden`: it denotes the composition of the
stages' spec functions, for every termination of the base stream (end, failure) and whatever soft
failures / expired contexts happen in between. `spipe_wraps`: it hands through every failure that is not a
callback's own and forwards `Next`/`Close` to the base stream (`spipe_forwards`). Callbacks fail with `Err.cb n`
(`liftCb`).
-/
namespace Juniper.Proofs.StreamDen
open Juniper.Model Juniper.Model.Stream Juniper.Spec Juniper.Gen.Comb
universe v
variable {α β : Type}

/-- a user callback that may fail with its own error number `n` -/
def liftCb {γ : Type} (f : α → Except Nat γ) : α → Except Err γ := fun a =>
  match f a with
  | .ok b => .ok b
  | .error n => .error (.cb n)

theorem liftCb_error {γ : Type} {f : α → Except Nat γ} {a : α} {e : Err} (h : liftCb f a = .error e) : ∃ n, e = .cb n := by
  unfold liftCb at h
  split at h <;> cases h
  exact ⟨_, rfl⟩

inductive SPipe (α : Type) where
  | src
  | filter (keep : α → Except Nat Bool) (p : SPipe α)
  | map (f : α → Except Nat α) (p : SPipe α)
  | first (n : Int) (p : SPipe α)
  | while_ (f : α → Except Nat Bool) (p : SPipe α)
  | compact (eq : α → α → Bool) (p : SPipe α)
  | peek (p : SPipe α)
  | chunkFlat (n : Nat) (p : SPipe α)

/-- a machine over the base state type `σ0`: how to wrap a base state, and where the base state sits -/
structure SPacked (σ0 : Type) (α : Type) where
  σ : Type
  m : SM σ α
  wrap : σ0 → σ
  proj : σ → σ0

def SPipe.machine {σ0 : Type} (base : SM σ0 α) : SPipe α → SPacked σ0 α
  | .src => ⟨σ0, base, id, id⟩
  | .filter keep p =>
    let q := p.machine base
    ⟨Wrap q.σ, Stream.filter (liftCb keep) q.m, fun s => ⟨q.wrap s⟩, fun st => q.proj st.inner⟩
  | .map f p =>
    let q := p.machine base
    ⟨Wrap q.σ, Stream.map (liftCb f) q.m, fun s => ⟨q.wrap s⟩, fun st => q.proj st.inner⟩
  | .first n p =>
    let q := p.machine base
    ⟨FirstSt q.σ, Stream.first q.m, fun s => ⟨q.wrap s, n⟩, fun st => q.proj st.inner⟩
  | .while_ f p =>
    let q := p.machine base
    ⟨WhileSt q.σ α, Stream.while_ (liftCb f) q.m, fun s => ⟨q.wrap s, none, false⟩, fun st => q.proj st.inner⟩
  | .compact eq p =>
    let q := p.machine base
    ⟨CompactSt q.σ α, Stream.compact eq q.m, fun s => ⟨q.wrap s, true, none⟩, fun st => q.proj st.inner⟩
  | .peek p =>
    let q := p.machine base
    ⟨PeekSt q.σ α, Stream.withPeek q.m, fun s => ⟨q.wrap s, none⟩, fun st => q.proj st.inner⟩
  | .chunkFlat n p =>
    let q := p.machine base
    ⟨FlattenSlicesSt (ChunkSt q.σ α) α, Stream.flattenSlices (Stream.chunk (n : Int) q.m),
      fun s => ⟨⟨q.wrap s, []⟩, []⟩, fun st => q.proj st.inner.inner⟩

/-- the documented function of the pipeline on (items so far, termination of the base stream);
`c0` = items pulled before the pipeline was built -/
def SPipe.spec : SPipe α → Nat → List (α × Nat) → Term → List (α × Nat) × Term
  | .src, _, L, t => (L, t)
  | .filter keep p, c0, L, t => filterS (liftCb keep) (p.spec c0 L t).1 (p.spec c0 L t).2
  | .map f p, c0, L, t => mapS (liftCb f) (p.spec c0 L t).1 (p.spec c0 L t).2
  | .first n p, c0, L, t => ((p.spec c0 L t).1.take n.toNat, firstTermS c0 n.toNat (p.spec c0 L t).1 (p.spec c0 L t).2)
  | .while_ f p, c0, L, t => whileS (liftCb f) (p.spec c0 L t).1 (p.spec c0 L t).2
  | .compact eq p, c0, L, t => (Seq.compactGo (fun x y => eq x.1 y.1) none (p.spec c0 L t).1, (p.spec c0 L t).2)
  | .peek p, c0, L, t => p.spec c0 L t
  | .chunkFlat n p, c0, L, t =>
    ((chunkGoS n [] (p.spec c0 L t).1 (p.spec c0 L t).2).flatMap fun x => x.1.map fun a => (a, x.2), (p.spec c0 L t).2)

theorem SPipe.proj_wrap {σ0 : Type} (base : SM σ0 α) (p : SPipe α) (s : σ0) :
    (p.machine base).proj ((p.machine base).wrap s) = s := by
  induction p with
  | src => rfl
  | filter keep p ih => exact ih
  | map f p ih => exact ih
  | first n p ih => exact ih
  | while_ f p ih => exact ih
  | compact eq p ih => exact ih
  | peek p ih => exact ih
  | chunkFlat n p ih => exact ih

/-- whatever counts as soft, as long as callback failures do not: `Err.soft` for a consumer of `Next` (`spipe_sden`),
`strict` for a reducer -/
theorem spipe_sden' {soft : Err → Bool} (hcb : ∀ n, soft (.cb n) = false) {σ0 : Type} {base : SM σ0 α} {c : σ0 → Nat}
    (p : SPipe α) {s : σ0} {L : List (α × Nat)} {t : Term} (h : SDen soft base c s L t) :
    SDen soft (p.machine base).m (fun st => c ((p.machine base).proj st)) ((p.machine base).wrap s)
      (p.spec (c s) L t).1 (p.spec (c s) L t).2 := by
  have hf : ∀ {γ : Type} {f : α → Except Nat γ} a e, liftCb f a = .error e → soft e = false := fun a e h => by
    obtain ⟨n, rfl⟩ := liftCb_error h
    exact hcb n
  induction p with
  | src => exact h
  | filter keep p ih => exact filter_sden (liftCb keep) hf ih
  | map f p ih => exact map_sden (liftCb f) hf ih
  | first n p ih =>
    have := first_sden ih n
    simp only [SPipe.proj_wrap] at this
    exact this
  | while_ f p ih => exact while_sden (liftCb f) hf ih
  | compact eq p ih => exact compact_sden eq ih none
  | peek p ih => exact peek_sden ih
  | chunkFlat n p ih => exact flattenSlices_sden (chunk_sden n ih [])

theorem spipe_sden {σ0 : Type} {base : SM σ0 α} {c : σ0 → Nat} (p : SPipe α) {s : σ0} {L : List (α × Nat)} {t : Term}
    (h : SDen Err.soft base c s L t) :
    SDen Err.soft (p.machine base).m (fun st => c ((p.machine base).proj st)) ((p.machine base).wrap s)
      (p.spec (c s) L t).1 (p.spec (c s) L t).2 := spipe_sden' (fun _ => rfl) p h

theorem spipe_wraps {S : Err → Prop} (hcb : ∀ n, ¬ S (.cb n)) {σ0 : Type} (base : SM σ0 α) (p : SPipe α) :
    Wraps S base (p.machine base).m (p.machine base).proj := by
  have hf : ∀ {γ : Type} {f : α → Except Nat γ} a e, liftCb f a = .error e → ¬ S e := fun a e h => by
    obtain ⟨n, rfl⟩ := liftCb_error h
    exact hcb n
  induction p with
  | src => exact .refl S base
  | filter keep p ih => exact ih.comp (filter_wraps S (liftCb keep) hf _)
  | map f p ih => exact ih.comp (map_wraps S (liftCb f) hf _)
  | first n p ih => exact ih.comp (first_wraps S _)
  | while_ f p ih => exact ih.comp (while_wraps S (liftCb f) hf _)
  | compact eq p ih => exact ih.comp (compact_wraps S eq _)
  | peek p ih => exact ih.comp (withPeek_wraps S _)
  | chunkFlat n p ih => exact (ih.comp (chunk_wraps S (n : Int) _)).comp (flattenSlices_wraps S _)

theorem spipe_forwards {σ0 : Type} (base : SM σ0 α) (p : SPipe α) :
    Forwards base (p.machine base).m (p.machine base).proj := by
  have _ties := And.intro Skeleton.Tie.stFilter (And.intro Skeleton.Tie.stMap (And.intro Skeleton.Tie.stFirst
    (And.intro Skeleton.Tie.stWhile (And.intro Skeleton.Tie.stCompact (And.intro Skeleton.Tie.stPeek
    (And.intro Skeleton.Tie.stChunk Skeleton.Tie.stFlattenSlices))))))
  exact (spipe_wraps (S := fun _ => False) (fun _ => id) base p).forwards

/-- the only things a pipeline can make of a base stream that fails with `E`: `E` itself; its own
normal end, when a `First`/`While` stage had already ended; a callback's own failure that came first -/
def TermOk (E : Err) (t : Term) : Prop := t = .fail E ∨ (∃ e, t = .end_ e) ∨ ∃ n, t = .fail (.cb n)

theorem filterS_termOk {E : Err} (keep : α → Except Nat Bool) (L : List (α × Nat)) (t : Term) (h : TermOk E t) :
    TermOk E (filterS (liftCb keep) L t).2 := by
  induction L with
  | nil => exact h
  | cons x L ih =>
    obtain ⟨a, c⟩ := x
    simp only [filterS, liftCb]
    cases keep a with
    | error n => exact Or.inr (Or.inr ⟨n, rfl⟩)
    | ok b => cases b <;> exact ih

theorem mapS_termOk {E : Err} (f : α → Except Nat α) (L : List (α × Nat)) (t : Term) (h : TermOk E t) :
    TermOk E (mapS (liftCb f) L t).2 := by
  induction L with
  | nil => exact h
  | cons x L ih =>
    obtain ⟨a, c⟩ := x
    simp only [mapS, liftCb]
    cases f a with
    | error n => exact Or.inr (Or.inr ⟨n, rfl⟩)
    | ok b => exact ih

theorem whileS_termOk {E : Err} (f : α → Except Nat Bool) (L : List (α × Nat)) (t : Term) (h : TermOk E t) :
    TermOk E (whileS (liftCb f) L t).2 := by
  induction L with
  | nil => exact h
  | cons x L ih =>
    obtain ⟨a, c⟩ := x
    simp only [whileS, liftCb]
    cases f a with
    | error n => exact Or.inr (Or.inr ⟨n, rfl⟩)
    | ok b =>
      cases b
      · exact Or.inr (Or.inl ⟨c, rfl⟩)
      · exact ih

theorem firstTermS_termOk {E : Err} (c0 k : Nat) (L : List (α × Nat)) (t : Term) (h : TermOk E t) :
    TermOk E (firstTermS c0 k L t) := by
  induction k generalizing c0 L with
  | zero => exact Or.inr (Or.inl ⟨c0, rfl⟩)
  | succ k ih =>
    cases L with
    | nil => exact h
    | cons x L => obtain ⟨a, c⟩ := x; exact ih c L

end Juniper.Proofs.StreamDen
