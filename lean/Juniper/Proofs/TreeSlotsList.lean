/-!
# Lists of slots: a live prefix `l.map some` followed by a tail `r`

Both slot-level developments (`Proofs/TreeSlots.lean` over `Model/BTreeSlots.lean`, and
`Proofs/TreeSlotsOps*.lean` over `Model/BTreeSlotsOps.lean`) describe a fixed array as
`l.map some ++ List.replicate k none`. The facts about cutting such a list inside (`_live`) or behind
(`_dead`) the live prefix, about the array of exactly `cap` slots (`_tail`), and about reading the list
`l.take p ++ x :: l.drop p` that an insertion produces, are collected here.
-/
namespace Juniper.Proofs.Slots
variable {α : Type}

theorem take_live {l : List α} {r : List (Option α)} {i : Nat} (h : i ≤ l.length) :
    (l.map some ++ r).take i = (l.take i).map some := by
  rw [List.take_append_of_le_length (by rw [List.length_map]; exact h), List.map_take]

theorem drop_live {l : List α} {r : List (Option α)} {i : Nat} (h : i ≤ l.length) :
    (l.map some ++ r).drop i = (l.drop i).map some ++ r := by
  rw [List.drop_append_of_le_length (by rw [List.length_map]; exact h), List.map_drop]

theorem take_dead {l : List α} {r : List (Option α)} {i : Nat} (h : l.length ≤ i) :
    (l.map some ++ r).take i = l.map some ++ r.take (i - l.length) := by
  rw [List.take_append, List.take_of_length_le (by rw [List.length_map]; exact h), List.length_map]

theorem drop_dead {l : List α} {r : List (Option α)} {i : Nat} (h : l.length ≤ i) :
    (l.map some ++ r).drop i = r.drop (i - l.length) := by
  rw [List.drop_append, List.drop_eq_nil_of_le (by rw [List.length_map]; exact h), List.length_map,
    List.nil_append]

theorem length_tail {l : List α} {cap : Nat} (h : l.length ≤ cap) :
    (l.map some ++ List.replicate (cap - l.length) none).length = cap := by
  rw [List.length_append, List.length_map, List.length_replicate]; omega

theorem drop_tail {l : List α} {cap i : Nat} (hi : l.length ≤ i) :
    (l.map some ++ List.replicate (cap - l.length) none).drop i = List.replicate (cap - i) none := by
  rw [drop_dead hi, List.drop_replicate]
  congr 1; omega

theorem getElem?_tail {l : List α} {cap i : Nat} (h1 : l.length ≤ i) (h2 : i < cap) :
    (l.map some ++ List.replicate (cap - l.length) none)[i]? = some none := by
  rw [List.getElem?_append_right (by rw [List.length_map]; exact h1), List.getElem?_replicate,
    if_pos (by rw [List.length_map]; omega)]

theorem set_live {l : List α} {r : List (Option α)} {i : Nat} (h : i < l.length) (x : α) :
    (l.map some ++ r).set i (some x) = (l.take i ++ x :: l.drop (i + 1)).map some ++ r := by
  rw [List.set_append_left _ _ (by rw [List.length_map]; exact h), List.set_eq_take_append_cons_drop,
    if_pos (by rw [List.length_map]; exact h), ← List.map_take, ← List.map_drop, ← List.map_cons,
    ← List.map_append]

theorem set_next (l : List α) (x : α) (k : Nat) :
    (l.map some ++ List.replicate (k + 1) none).set l.length (some x) =
      (l ++ [x]).map some ++ List.replicate k none := by
  rw [List.set_append_right _ _ (by rw [List.length_map]; exact Nat.le_refl _), List.length_map, Nat.sub_self,
    List.replicate_succ, List.set_cons_zero, List.map_append, List.append_assoc]
  rfl

theorem set_last {l : List α} (h : 0 < l.length) (k : Nat) :
    (l.map some ++ List.replicate k none).set (l.length - 1) none =
      l.dropLast.map some ++ List.replicate (k + 1) none := by
  have hlt : l.length - 1 < (l.map some).length := by rw [List.length_map]; omega
  rw [List.set_append_left _ _ hlt, List.set_eq_take_append_cons_drop, if_pos hlt,
    List.drop_eq_nil_of_le (by rw [List.length_map]; omega), ← List.map_take, ← List.dropLast_eq_take,
    List.append_assoc, List.singleton_append, ← List.replicate_succ]

theorem set_dead {l : List α} {i : Nat} (h : l.length ≤ i) (k : Nat) :
    (l.map some ++ List.replicate k none).set i none = l.map some ++ List.replicate k none := by
  rw [List.set_append_right _ _ (by rw [List.length_map]; exact h), List.set_replicate_self]

theorem length_insertAt (l : List α) (x : α) (p : Nat) :
    (l.take p ++ x :: l.drop p).length = l.length + 1 := by
  rw [List.length_append, List.length_cons, List.length_take, List.length_drop]; omega

theorem length_replace (l : List α) {i : Nat} (h : i < l.length) (x : α) :
    (l.take i ++ x :: l.drop (i + 1)).length = l.length := by
  rw [List.length_append, List.length_cons, List.length_take, List.length_drop]; omega

theorem length_removeAt (l : List α) {i : Nat} (h : i < l.length) :
    (l.take i ++ l.drop (i + 1)).length = l.length - 1 := by
  rw [List.length_append, List.length_take, List.length_drop]; omega

theorem split_at (l : List α) {i : Nat} (h : i < l.length) :
    l = l.take i ++ l[i] :: l.drop (i + 1) := by
  rw [← List.drop_eq_getElem_cons h, List.take_append_drop]

theorem map_insertAt {β : Type} (f : α → β) (l : List α) (x : α) (i j : Nat) :
    (l.take i ++ x :: l.drop j).map f = (l.map f).take i ++ f x :: (l.map f).drop j := by
  rw [List.map_append, List.map_cons, List.map_take, List.map_drop]

theorem map_removeAt {β : Type} (f : α → β) (l : List α) (i j : Nat) :
    (l.take i ++ l.drop j).map f = (l.map f).take i ++ (l.map f).drop j := by
  rw [List.map_append, List.map_take, List.map_drop]

theorem getElem?_insertAt (l : List α) (x : α) {p : Nat} (hp : p ≤ l.length) (i : Nat) :
    (l.take p ++ x :: l.drop p)[i]? = if i = p then some x else if p < i then l[i - 1]? else l[i]? := by
  have hlen : (l.take p).length = p := by rw [List.length_take]; omega
  by_cases h1 : i = p
  · rw [if_pos h1, List.getElem?_append_right (by omega), hlen, h1, Nat.sub_self]; rfl
  · rw [if_neg h1]
    by_cases h2 : p < i
    · obtain ⟨d, rfl⟩ : ∃ d, i = p + d + 1 := ⟨i - p - 1, by omega⟩
      rw [if_pos h2, List.getElem?_append_right (by omega), hlen,
        show p + d + 1 - p = d + 1 by omega, List.getElem?_cons_succ, List.getElem?_drop,
        Nat.add_sub_cancel]
    · rw [if_neg h2, List.getElem?_append_left (by omega), List.getElem?_take_of_lt (by omega)]

end Juniper.Proofs.Slots
