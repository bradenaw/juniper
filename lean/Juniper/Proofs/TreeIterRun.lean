import Juniper.Proofs.TreeIterScript
import Juniper.Proofs.TreeIterProps
/-!
# Script-level form of the iterator clauses (C02, audit C02-F5)

Whatever else a script does, one iterator slot sees a sequence of `snext` calls on the sorted contents of the
moment (`sviews_views`: a `Views` of `TreeIterProps`, whose clauses then hold of it), and the model's answers on the
slot are those of the specification call by call (`OutAll`).
-/
namespace Juniper.Proofs.Tree
open Juniper.Model.BTree Juniper.Gen.Tree

variable {K V : Type} {cmp : K → K → Int}

/-- slot `j`'s view of a specification run: for each `Next` on the live slot `j`, the contents of the map at that
moment and what the call returned -/
def sviews (cmp : K → K → Int) (j : Nat) : SSt K V → List (Step K V) → List (List (K × V) × Option (K × V))
  | _, [] => []
  | s, st :: sts =>
    match st with
    | .next i =>
      if i = j then
        match s.its j with
        | some it => (s.L, (snext cmp s.L it).2) :: sviews cmp j (sstep cmp s st).1 sts
        | none => sviews cmp j (sstep cmp s st).1 sts
      else sviews cmp j (sstep cmp s st).1 sts
    | _ => sviews cmp j (sstep cmp s st).1 sts

/-- the results of slot `j`'s `Next` calls in a list of observations (model or specification) -/
def yieldsOf {β : Type} (j : Nat) : List (Step K V) → List (Obs β) → List (Option β)
  | .next i :: sts, .yielded r :: os => if i = j then r :: yieldsOf j sts os else yieldsOf j sts os
  | _ :: sts, _ :: os => yieldsOf j sts os
  | _, _ => []

def NoMk (j : Nat) (sts : List (Step K V)) : Prop := ∀ f lo hi, Step.mk j f lo hi ∉ sts

theorem sorted_specMut (hs : StrictWeak cmp) {L : List (K × V)} (hL : Sorted cmp L) (m : Mut K V) :
    Sorted cmp (specMut cmp L m) := by
  cases m with
  | put k v => exact sorted_sput hs hL
  | del k => exact sorted_serase hL

theorem sviews_views (hs : StrictWeak cmp) (j : Nat) : ∀ (sts : List (Step K V)) (s : SSt K V) (it : SIter K),
    Sorted cmp s.L → s.its j = some it → NoMk j sts → Views cmp it (sviews cmp j s sts) := by
  intro sts
  induction sts with
  | nil => intro s it _ _ _; exact .nil it
  | cons st sts ih =>
    intro s it hL hit hno
    have hno' : NoMk j sts := fun f lo hi hm => hno f lo hi (List.mem_cons_of_mem _ hm)
    cases st with
    | mutate m =>
      simp only [sviews]
      exact ih _ it (by simpa [sstep] using sorted_specMut hs hL m) (by simpa [sstep] using hit) hno'
    | mk i f lo hi =>
      have hij : j ≠ i := by
        intro h; subst h; exact hno f lo hi (by simp)
      simp only [sviews]
      by_cases hz : lo.kind = none ∨ hi.kind = none
      · exact ih _ it (by simpa [sstep, hz] using hL) (by simpa [sstep, hz] using hit) hno'
      · exact ih _ it (by simpa [sstep, hz] using hL) (by simpa [sstep, hz, setSlot, hij] using hit) hno'
    | next i =>
      simp only [sviews]
      by_cases hij : i = j
      · subst hij
        simp only [hit, if_true]
        exact .next hL (ih _ _ (by simpa [sstep, hit] using hL) (by simp [sstep, hit, setSlot]) hno')
      · simp only [hij, if_false]
        refine ih _ it ?_ ?_ hno'
        · cases hi' : s.its i <;> simpa [sstep, hi'] using hL
        · cases hi' : s.its i with
          | none => simpa [sstep, hi'] using hit
          | some it' => simpa [sstep, hi', setSlot, Ne.symm hij] using hit

/-- `views_clauses` for slot `j` of a script, from any state in which the slot is live. `b` is the key the iterator
yielded last, if any. -/
theorem sviews_clauses (hs : StrictWeak cmp) (j : Nat) (lo hi : Bound K) (fwd : Bool) (stop : Option (CmpOp × K)) :
    ∀ (sts : List (Step K V)) (s : SSt K V) (it : SIter K) (b : Option K),
      Sorted cmp s.L → s.its j = some it → it.fwd = fwd → it.stop = stop → NoMk j sts →
      (∀ k, it.resume = some k → nearFn cmp fwd lo hi k = true) →
      (∀ b0, b = some b0 → ∀ (L : List (K × V)) it' e, Sorted cmp L → snext cmp L it = (it', some e) →
        dcmp cmp fwd b0 e.1 < 0) →
      (∀ v ∈ sviews cmp j s sts, ∀ e, v.2 = some e →
        e ∈ v.1 ∧ nearFn cmp fwd lo hi e.1 = true ∧ keepFn cmp stop e.1 = true ∧
          ∀ b0, b = some b0 → dcmp cmp fwd b0 e.1 < 0) ∧
      ((sviews cmp j s sts).filterMap (·.2)).Pairwise (fun a c => dcmp cmp fwd a.1 c.1 < 0) ∧
      Sticky ((sviews cmp j s sts).map (·.2)) :=
  fun sts s it b hL hit hf hst hno => views_clauses hs lo hi fwd stop (sviews_views hs j sts s it hL hit hno) b hf hst

/-- `views_no_skip` for slot `j` of a script, from any state in which the iterator still owes `x`: a fresh iterator owes
every entry inside its near bound (`smk_owes`), after yielding `y` it owes every entry beyond `y` (`snext_owes_beyond`). -/
theorem sviews_no_skip (hs : StrictWeak cmp) (j : Nat) (fwd : Bool) (stop : Option (CmpOp × K)) (x : K × V)
    (hkx : keepFn cmp stop x.1 = true)
    (hmono : ∀ a b, dcmp cmp fwd a b < 0 → keepFn cmp stop b = true → keepFn cmp stop a = true) :
    ∀ (sts : List (Step K V)) (s : SSt K V) (it : SIter K),
      Sorted cmp s.L → s.its j = some it → it.fwd = fwd → it.stop = stop → NoMk j sts → Owes cmp it x.1 →
      (∀ v ∈ sviews cmp j s sts, x ∈ v.1) →
      (∃ pre post, (sviews cmp j s sts).map (·.2) = pre ++ some x :: post ∧
          ∀ y ∈ pre, ∃ e, y = some e ∧ dcmp cmp fwd e.1 x.1 < 0) ∨
      (∀ y ∈ (sviews cmp j s sts).map (·.2), ∃ e, y = some e ∧ dcmp cmp fwd e.1 x.1 < 0) :=
  fun sts s it hL hit hf hst hno => views_no_skip hs fwd stop x hkx hmono (sviews_views hs j sts s it hL hit hno) hf hst

def OutAll (cmp : K → K → Int) : List (Option (K × Option V)) → List (Option (K × V)) → Prop
  | [], [] => True
  | a :: as, b :: bs => OutRel cmp a b ∧ OutAll cmp as bs
  | _, _ => False

theorem yields_views (j : Nat) : ∀ (sts : List (Step K V)) (s : SSt K V) (os : List (Obs (K × Option V))),
    ObsAll cmp os (srun cmp s sts).2 → OutAll cmp (yieldsOf j sts os) ((sviews cmp j s sts).map (·.2)) := by
  intro sts
  induction sts with
  | nil => intro s os h; cases os <;> simp [yieldsOf, sviews, OutAll]
  | cons st sts ih =>
    intro s os h
    cases os with
    | nil => simp [srun, ObsAll] at h
    | cons o os =>
      obtain ⟨h1, h2⟩ := h
      have hrest := ih _ os h2
      cases st with
      | mutate m => cases o <;> simp only [sviews, yieldsOf] <;> exact hrest
      | mk i f lo hi => cases o <;> simp only [sviews, yieldsOf] <;> exact hrest
      | next i =>
        by_cases hij : i = j
        · subst hij
          cases hit : s.its i with
          | none =>
            simp only [sstep, hit] at h1
            cases o with
            | nothing => simp only [sviews, hit, if_true, yieldsOf]; exact hrest
            | panic => simp [ObsRel] at h1
            | yielded a => simp [ObsRel] at h1
          | some it =>
            simp only [sstep, hit] at h1
            cases o with
            | nothing => simp [ObsRel] at h1
            | panic => simp [ObsRel] at h1
            | yielded a => simp only [sviews, hit, if_true, yieldsOf, List.map_cons]; exact ⟨h1, hrest⟩
        · cases o <;> simp only [sviews, yieldsOf, hij, if_false] <;> exact hrest

theorem outAll_induct {motive : List (Option (K × Option V)) → List (Option (K × V)) → Prop} (nil : motive [] [])
    (none : ∀ ys zs, OutAll cmp ys zs → motive ys zs → motive (none :: ys) (none :: zs))
    (some : ∀ (y : K × Option V) (e : K × V) ys zs, cmp y.1 e.1 = 0 → OutAll cmp ys zs →
      motive ys zs → motive (some y :: ys) (some e :: zs)) :
    ∀ ys zs, OutAll cmp ys zs → motive ys zs := by
  intro ys
  induction ys with
  | nil => intro zs h; cases zs with
    | nil => exact nil
    | cons z zs => simp [OutAll] at h
  | cons y ys ih =>
    intro zs h
    cases zs with
    | nil => simp [OutAll] at h
    | cons z zs =>
      obtain ⟨h1, h2⟩ := h
      rcases h1.inv with ⟨rfl, rfl⟩ | ⟨k', e, rfl, rfl, hk⟩
      · exact none ys zs h2 (ih zs h2)
      · exact some _ e ys zs hk h2 (ih zs h2)

theorem outAll_mem : ∀ (ys : List (Option (K × Option V))) (zs : List (Option (K × V))),
    OutAll cmp ys zs → ∀ a ∈ ys.filterMap id, ∃ e ∈ zs.filterMap id, cmp a.1 e.1 = 0 := by
  refine outAll_induct (fun a ha => by cases ha) (fun _ _ _ ih => ih) ?_
  intro y e ys zs h1 _ ih a ha
  simp only [List.filterMap_cons, id, List.mem_cons] at ha ⊢
  rcases ha with rfl | ha
  · exact ⟨e, Or.inl rfl, h1⟩
  · obtain ⟨e', he', q⟩ := ih a ha
    exact ⟨e', Or.inr he', q⟩

theorem outAll_pairwise (hs : StrictWeak cmp) (fwd : Bool) :
    ∀ (ys : List (Option (K × Option V))) (zs : List (Option (K × V))), OutAll cmp ys zs →
      (zs.filterMap id).Pairwise (fun a c => dcmp cmp fwd a.1 c.1 < 0) →
      (ys.filterMap id).Pairwise (fun a c => dcmp cmp fwd a.1 c.1 < 0) := by
  have hd := dcmp_strictWeak hs fwd
  have heq : ∀ {a b : K}, cmp a b = 0 → dcmp cmp fwd a b = 0 := by
    intro a b h; cases fwd
    · simp only [dcmp, Bool.false_eq_true, if_false]; exact hs.eq_symm h
    · simp only [dcmp, if_true]; exact h
  refine outAll_induct (fun _ => List.Pairwise.nil) (fun _ _ _ ih hp => ih hp) ?_
  intro y e ys zs h1 h ih hp
  simp only [List.filterMap_cons, id] at hp ⊢
  have hp' := List.pairwise_cons.mp hp
  refine List.pairwise_cons.mpr ⟨?_, ih hp'.2⟩
  intro c hc
  obtain ⟨e', he', q⟩ := outAll_mem ys zs h c hc
  exact hd.lt_of_lt_of_eq (hd.lt_of_eq_of_lt (heq h1) (hp'.1 e' he')) (hd.eq_symm (heq q))

theorem outAll_sticky : ∀ (ys : List (Option (K × Option V))) (zs : List (Option (K × V))), OutAll cmp ys zs →
    Sticky zs → Sticky ys := by
  have allnone : ∀ (ys : List (Option (K × Option V))) (zs : List (Option (K × V))), OutAll cmp ys zs →
      (∀ z ∈ zs, z = none) → ∀ y ∈ ys, y = none := by
    refine outAll_induct (fun _ y hy => by cases hy) ?_ (fun y e ys zs _ _ _ hz => by simpa using hz (some e))
    intro ys zs _ ih hz y hy
    rcases List.mem_cons.mp hy with rfl | hy
    · rfl
    · exact ih (fun z hz' => hz z (List.mem_cons_of_mem _ hz')) y hy
  exact outAll_induct (fun _ => trivial) (fun ys zs h _ hst => allnone ys zs h hst) (fun _ _ _ _ _ _ ih hst => ih hst)

theorem mk_views (hs : StrictWeak cmp) {m : MSt K V} {s : SSt K V} (h : Sim cmp m s) (j : Nat) (fwd : Bool)
    (lo hi : Bound K) (hlo : lo.kind ≠ none) (hhi : hi.kind ≠ none) (sts : List (Step K V)) (hno : NoMk j sts) :
    ∃ m' os, mrun cmp m (.mk j fwd lo hi :: sts) = some (m', os) ∧
      OutAll cmp (yieldsOf j (.mk j fwd lo hi :: sts) os) ((sviews cmp j s (.mk j fwd lo hi :: sts)).map (·.2)) ∧
      Sorted cmp s.L ∧ Views cmp (smk cmp s.L fwd lo hi) (sviews cmp j s (.mk j fwd lo hi :: sts)) := by
  obtain ⟨m', os, h1, _, h3⟩ := sim_run hs (.mk j fwd lo hi :: sts) m s h
  have hz : ¬ (lo.kind = none ∨ hi.kind = none) := fun hz => hz.elim hlo hhi
  have hL : Sorted cmp s.L := by rw [h.list]; exact h.inv.wf.sorted
  have hv : sviews cmp j s (.mk j fwd lo hi :: sts) =
      sviews cmp j { s with its := setSlot s.its j (smk cmp s.L fwd lo hi) } sts := by
    simp [sviews, sstep, hz]
  refine ⟨m', os, h1, yields_views j _ s os h3, hL, ?_⟩
  rw [hv]
  exact sviews_views hs j sts _ _ hL (by simp [setSlot]) hno

end Juniper.Proofs.Tree
