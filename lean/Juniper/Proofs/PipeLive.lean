import Juniper.Proofs.PipeStep
/-!
No call blocks forever (C10), in the form "when the return condition of a pending call holds, a
step of that call is enabled, every step of a call moves it strictly towards its return, and the
condition is stable". Scheduler fairness (an enabled step of a goroutine is eventually taken) is
trusted.
-/
namespace Juniper.Proofs.Pipe
open Juniper.Facts Juniper.Gen.Pipe Juniper.Model.Pipe

/-- How many own steps a sender call has in front of it at most (poll/park, then the arm that fires). -/
def stage : SPc → Nat
  | .idle => 0
  | .send _ true => 1
  | .send _ false => 2
  | .try2 _ => 1
  | .try1 _ => 2

/-- How many own steps `Next` has in front of it at most (`next` polling → parked → drain → returned). -/
def rstage : RPc → Nat
  | .idle => 0
  | .drain => 1
  | .next true => 2
  | .next false => 3

theorem stage_le (pc : SPc) : stage pc ≤ 2 := by
  cases pc with
  | send m p => cases p <;> simp [stage]
  | _ => simp [stage]

theorem rstage_le (pc : RPc) : rstage pc ≤ 3 := by
  cases pc with
  | next p => cases p <;> simp [rstage]
  | _ => simp [rstage]

theorem rstage_next_ge (p : Bool) : 2 ≤ rstage (.next p) := by cases p <;> simp [rstage]

theorem stage_after_lt {pc : SPc} {m : Msg} (a : Arm) (h : pc.msg? = some m) : stage (pc.after a) < stage pc := by
  cases pc with
  | idle => simp [SPc.msg?] at h
  | send m p => rw [after_send_pc]; cases p <;> simp [stage]
  | try1 m => unfold SPc.after; split <;> simp [stage, SPc.fallThrough]
  | try2 m => rw [after_try2]; simp [stage]

theorem rstage_pos_of_table {pc : RPc} {a : Arm} (h : (rtableOf pc).contains a = true) : 0 < rstage pc := by
  cases pc with
  | next p => cases p <;> simp [rstage]
  | idle => simp [rtableOf] at h
  | drain => simp [rstage]

theorem getElem?_setSender_self {st : State} {i : Nat} {sd sd' : Sender} (h : st.senders[i]? = some sd) :
    (st.setSender i sd').senders[i]? = some sd' :=
  List.getElem?_set_self (ListStore.lt_of_getElem? h)

/-- The labels that are steps of sender goroutine `i` itself. -/
def ownLabel (i : Nat) (l : Label) : Prop := l = .handoff i ∨ l = .park i ∨ ∃ a, l = .sender i a

theorem sender_step_progress {st st' : State} {i : Nat} {sd : Sender} {l : Label}
    (hsd : st.senders[i]? = some sd) (hl : ownLabel i l) (hs : Step st l st') :
    ∃ sd', st'.senders[i]? = some sd' ∧ stage sd'.pc < stage sd.pc ∧ sd'.ctx = sd.ctx ∧
      ((∃ a, sd'.pc = sd.pc.after a) ∨ (∃ m, sd.pc = .send m false ∧ sd'.pc = .send m true)) := by
  have same : ∀ {sd0}, st.senders[i]? = some sd0 → sd0 = sd := fun h => Option.some.inj (h.symm.trans hsd)
  have fired : ∀ {m : Msg} (a : Arm), sd.pc.msg? = some m → ∃ sd', (st.senders.set i { sd with pc := sd.pc.after a })[i]? = some sd' ∧
      stage sd'.pc < stage sd.pc ∧ sd'.ctx = sd.ctx ∧
      ((∃ a, sd'.pc = sd.pc.after a) ∨ (∃ m, sd.pc = .send m false ∧ sd'.pc = .send m true)) :=
    fun a hm => ⟨_, getElem?_setSender_self hsd, stage_after_lt a hm, rfl, .inl ⟨a, rfl⟩⟩
  rcases hl with rfl | rfl | ⟨a, rfl⟩
  · cases hs with
    | sender _ h => cases h
    | recv h => cases h
    | handoff h0 hm _ => cases same h0; exact fired _ hm
  · cases hs with
    | recv h => cases h
    | sender h0 h =>
      cases h with
      | park hpc _ =>
        cases same h0
        exact ⟨_, getElem?_setSender_self hsd, by simp [hpc, stage], rfl, .inr ⟨_, hpc, rfl⟩⟩
  · cases hs with
    | recv h => cases h
    | commit h0 hm _ _ => cases same h0; exact fired _ hm
    | sender h0 h =>
      cases h with
      | recvArm hm _ _ => cases same h0; exact fired _ hm
      | dflt hm _ _ => cases same h0; exact fired _ hm

theorem sender_frame {st st' : State} {l : Label} {i : Nat} {sd : Sender}
    (hsd : st.senders[i]? = some sd) (hs : Step st l st') :
    ∃ sd', st'.senders[i]? = some sd' ∧
      (sd' = sd ∨ sd.pc = .idle ∨ sd' = { sd with ctx := true } ∨
        (sd'.ctx = sd.ctx ∧
          ((∃ a, sd'.pc = sd.pc.after a) ∨ (∃ m, sd.pc = .send m false ∧ sd'.pc = .send m true)))) := by
  by_cases hown : ownLabel i l
  · obtain ⟨sd', h1, _, h2⟩ := sender_step_progress hsd hown hs
    exact ⟨sd', h1, .inr (.inr (.inr h2))⟩
  have other : ∀ {j : Nat} (x : Sender), j ≠ i → (st.senders.set j x)[i]? = some sd := by
    intro j x hj; rw [List.getElem?_set_ne hj]; exact hsd
  cases hs with
  | @sender j sdj _ _ h0 h =>
    by_cases hj : j = i
    · subst hj
      cases Option.some.inj (h0.symm.trans hsd)
      refine ⟨_, getElem?_setSender_self hsd, ?_⟩
      cases h with
      | startSend v c hidle => exact .inr (.inl hidle)
      | startTry v c hidle => exact .inr (.inl hidle)
      | cancel hpc => exact .inr (.inr (.inl rfl))
      | recvArm _ _ _ => exact absurd (.inr (.inr ⟨_, rfl⟩)) hown
      | dflt _ _ _ => exact absurd (.inr (.inr ⟨_, rfl⟩)) hown
      | park _ _ => exact absurd (.inr (.inl rfl)) hown
    · exact ⟨sd, other _ hj, .inl rfl⟩
  | @commit j _ _ _ _ _ _ =>
    exact ⟨sd, other _ (fun hj => hown (hj ▸ .inr (.inr ⟨_, rfl⟩))), .inl rfl⟩
  | @handoff j _ _ _ _ _ =>
    exact ⟨sd, other _ (fun hj => hown (hj ▸ .inl rfl)), .inl rfl⟩
  | _ => exact ⟨sd, hsd, .inl rfl⟩

structure SendFacts : Prop where
  ctxArm : sendArms.contains (.recv chCtx) = true
  streamArm : sendArms.contains (.recv chStreamDone) = true
  senderArm : sendArms.contains (.recv chSenderDone) = true

/-- The return condition of a pending `Send`. -/
def SendCond (st : State) (sd : Sender) : Prop :=
  st.streamDone = true ∨ st.senderDone = true ∨ sd.ctx = true

theorem send_enabled {st : State} {i : Nat} {sd : Sender} {m : Msg} {p : Bool} (hF : SendFacts)
    (hsd : st.senders[i]? = some sd) (hpc : sd.pc = .send m p) (hc : SendCond st sd) :
    ∃ a st' sd', step st (.sender i a) = some st' ∧ st'.senders[i]? = some sd' ∧ sd'.pc = .idle := by
  have fire : ∀ ch, sendArms.contains (.recv ch) = true → sReady st sd (.recv ch) = true →
      ∃ a st' sd', step st (.sender i a) = some st' ∧ st'.senders[i]? = some sd' ∧ sd'.pc = .idle :=
    fun ch htab hr => ⟨_, _, _, (Step.sender hsd (.recvArm (by rw [hpc]; rfl) (by rw [hpc]; exact htab) hr)).step_eq,
      getElem?_setSender_self hsd, by simp [hpc, after_send_pc]⟩
  rcases hc with h | h | h
  · exact fire _ hF.streamArm (by simp [h])
  · exact fire _ hF.senderArm (by simp [h])
  · exact fire _ hF.ctxArm (by simp [h])

theorem send_cond_stable {st st' : State} {l : Label} {i : Nat} {sd : Sender} {m : Msg} {p : Bool}
    (hsd : st.senders[i]? = some sd) (hpc : sd.pc = .send m p) (hc : SendCond st sd)
    (hs : Step st l st') :
    ∃ sd', st'.senders[i]? = some sd' ∧ (sd'.pc = .idle ∨ ((∃ p', sd'.pc = .send m p') ∧ SendCond st' sd')) := by
  obtain ⟨hst, hsn, _⟩ := step_monotone hs
  obtain ⟨sd', hsd', hcase⟩ := sender_frame hsd hs
  refine ⟨sd', hsd', ?_⟩
  have keep : ∀ c : Bool, c = sd.ctx ∨ c = true → (st'.streamDone = true ∨ st'.senderDone = true ∨ c = true) := by
    intro c hcc
    rcases hc with h | h | h
    · exact Or.inl (hst h)
    · exact Or.inr (Or.inl (hsn h).1)
    · rcases hcc with rfl | rfl
      · exact Or.inr (Or.inr h)
      · exact Or.inr (Or.inr rfl)
  rcases hcase with rfl | hidle | rfl | ⟨hctx, hown⟩
  · right; exact ⟨⟨p, hpc⟩, keep _ (Or.inl rfl)⟩
  · rw [hpc] at hidle; cases hidle
  · right; exact ⟨⟨p, hpc⟩, Or.inr (Or.inr rfl)⟩
  · rcases hown with ⟨a, ha⟩ | ⟨m', hm', hp'⟩
    · left; rw [ha, hpc]; exact after_send_pc m p a
    · right
      rw [hpc] at hm'
      cases hm'
      exact ⟨⟨true, hp'⟩, keep _ (Or.inl hctx)⟩

theorem sender_poll {st : State} {i : Nat} {sd : Sender} {m : Msg}
    (hsd : st.senders[i]? = some sd) (hm : sd.pc.msg? = some m) :
    (∃ l st', ownLabel i l ∧ step st l = some st') ∨ sDefaultReady st sd = true := by
  cases hh : canHandoff st sd with
  | true => exact .inl ⟨_, _, .inl rfl, (Step.handoff hsd hm hh).step_eq⟩
  | false =>
    cases hany : (tableOf sd.pc).any (sReady st sd) with
    | false =>
      exact .inr (sDefaultReady_iff.2 ⟨fun a ha => Bool.eq_false_iff.mpr (List.any_eq_false.mp hany a ha), hh⟩)
    | true =>
      left
      obtain ⟨a, ha, hr⟩ := List.any_eq_true.mp hany
      have htab := List.contains_iff_mem.mpr ha
      cases a with
      | recv ch => exact ⟨_, _, .inr (.inr ⟨_, rfl⟩), (Step.sender hsd (.recvArm hm htab hr)).step_eq⟩
      | dflt => cases hr
      | send ch =>
        simp only [sReady, Bool.and_eq_true, beq_iff_eq, decide_eq_true_eq] at hr
        obtain ⟨rfl, hroom⟩ := hr
        exact ⟨_, _, .inr (.inr ⟨_, rfl⟩), (Step.commit hsd hm htab hroom).step_eq⟩

theorem send_poll_enabled {st : State} {i : Nat} {sd : Sender} {m : Msg}
    (hsd : st.senders[i]? = some sd) (hpc : sd.pc = .send m false) :
    ∃ l st', ownLabel i l ∧ step st l = some st' :=
  (sender_poll hsd (by rw [hpc]; rfl)).elim id fun hd =>
    ⟨_, _, .inr (.inl rfl), (Step.sender hsd (.park hpc hd)).step_eq⟩

structure TryFacts : Prop where
  dflt1 : trySendArms1.contains .dflt = true
  dflt2 : trySendArms2.contains .dflt = true

theorem trySend_enabled {st : State} {i : Nat} {sd : Sender} {m : Msg} (hF : TryFacts)
    (hsd : st.senders[i]? = some sd) (hpc : sd.pc = .try1 m ∨ sd.pc = .try2 m) :
    ∃ l st', ownLabel i l ∧ step st l = some st' := by
  have hm : sd.pc.msg? = some m := by rcases hpc with h | h <;> (rw [h]; rfl)
  have htab : (tableOf sd.pc).contains .dflt = true := by
    rcases hpc with h | h <;> rw [h]
    · exact hF.dflt1
    · exact hF.dflt2
  exact (sender_poll hsd hm).elim id fun hd =>
    ⟨_, _, .inr (.inr ⟨_, rfl⟩), (Step.sender hsd (.dflt hm htab hd)).step_eq⟩

structure NextFacts : Prop where
  ctxArm : nextArms.contains (.recv chCtx) = true
  dataArm : nextArms.contains (.recv chData) = true
  senderArm : nextArms.contains (.recv chSenderDone) = true
  drainDflt : nextDrains = true → nextDrainArms.contains .dflt = true

/-- The return condition of a pending `Next`: a value is available (buffered, or a rendez-vous with a
sender on the unbuffered channel is possible), the sender is closed, or the context expired. -/
def NextCond (st : State) : Prop :=
  st.buf ≠ [] ∨ (∃ sd ∈ st.senders, canHandoff st sd = true) ∨ st.senderDone = true ∨ st.rctx = true

/-- The labels that are steps of the receiver's call. -/
def isRecvLabel : Label → Bool
  | .recv _ | .handoff _ | .parkRecv => true
  | _ => false

theorem handoff_of_mem {st : State} {sd : Sender} (hmem : sd ∈ st.senders) (hc : canHandoff st sd = true) :
    ∃ i st', step st (.handoff i) = some st' ∧ rstage st'.rpc < rstage st.rpc := by
  obtain ⟨i, hi⟩ := List.mem_iff_getElem?.mp hmem
  obtain ⟨_, htab, hacc⟩ := canHandoff_facts hc
  cases hp : sd.pc.msg? with
  | none => cases hpc : sd.pc <;> simp [hpc, tableOf, SPc.msg?] at htab hp
  | some m => exact ⟨i, _, (Step.handoff hi hp hc).step_eq, rstage_pos_of_table hacc⟩

theorem recv_arm_enabled {st : State} {a : Arm} (htab : (rtableOf st.rpc).contains a = true)
    (hr : rReady st a = true) : ∃ st', step st (.recv a) = some st' ∧ rstage st'.rpc < rstage st.rpc := by
  have hpos := rstage_pos_of_table htab
  cases a with
  | dflt => cases hr
  | send ch => cases hr
  | recv ch =>
    simp only [rReady, Bool.or_eq_true, Bool.and_eq_true, beq_iff_eq] at hr
    rcases hr with (⟨rfl, h⟩ | ⟨rfl, h⟩) | ⟨rfl, h⟩
    · exact ⟨_, (Step.recv (.ctx htab h)).step_eq, hpos⟩
    · cases hbuf : st.buf with
      | nil => simp [hbuf] at h
      | cons m rest => exact ⟨_, (Step.pop htab hbuf).step_eq, hpos⟩
    · cases hc : (st.rpc.isNext && nextDrains) with
      | false => exact ⟨_, (Step.recv (.reportUndrained htab h hc)).step_eq, hpos⟩
      | true =>
        simp only [Bool.and_eq_true] at hc
        refine ⟨_, (Step.recv (.toDrain htab h hc.1 hc.2)).step_eq, ?_⟩
        cases hpc : st.rpc with
        | next p => exact rstage_next_ge p
        | _ => simp [hpc, RPc.isNext] at hc

theorem recv_poll (st : State) :
    (∃ l st', isRecvLabel l = true ∧ step st l = some st' ∧ rstage st'.rpc < rstage st.rpc) ∨
      rDefaultReady st = true := by
  cases hh : st.senders.any (canHandoff st) with
  | true =>
    obtain ⟨sd, hmem, hc⟩ := List.any_eq_true.mp hh
    obtain ⟨i, st', hs, hlt⟩ := handoff_of_mem hmem hc
    exact .inl ⟨_, st', rfl, hs, hlt⟩
  | false =>
    cases hany : (rtableOf st.rpc).any (rReady st) with
    | false =>
      exact .inr (rDefaultReady_iff.2 ⟨fun a ha => Bool.eq_false_iff.mpr (List.any_eq_false.mp hany a ha),
        fun sd hsd => Bool.eq_false_iff.mpr (List.any_eq_false.mp hh sd hsd)⟩)
    | true =>
      obtain ⟨a, ha, hr⟩ := List.any_eq_true.mp hany
      obtain ⟨st', hs, hlt⟩ := recv_arm_enabled (List.contains_iff_mem.mpr ha) hr
      exact .inl ⟨_, st', rfl, hs, hlt⟩

theorem next_enabled {st : State} {p : Bool} (hF : NextFacts) (hpc : st.rpc = .next p) (hc : NextCond st) :
    ∃ l st', isRecvLabel l = true ∧ step st l = some st' ∧ rstage st'.rpc < rstage st.rpc := by
  have fire : ∀ ch, nextArms.contains (.recv ch) = true → rReady st (.recv ch) = true →
      ∃ l st', isRecvLabel l = true ∧ step st l = some st' ∧ rstage st'.rpc < rstage st.rpc := by
    intro ch htab hr
    obtain ⟨st', hs, hlt⟩ := recv_arm_enabled (st := st) (by rw [hpc]; exact htab) hr
    exact ⟨_, st', rfl, hs, hlt⟩
  rcases hc with h | ⟨sd, hmem, hh⟩ | h | h
  · exact fire _ hF.dataArm (by simpa using h)
  · obtain ⟨i, st', hs, hlt⟩ := handoff_of_mem hmem hh
    exact ⟨_, st', rfl, hs, hlt⟩
  · exact fire _ hF.senderArm (by simp [h])
  · exact fire _ hF.ctxArm (by simp [h])

theorem next_poll_enabled {st : State} (hpc : st.rpc = .next false) :
    ∃ l st', isRecvLabel l = true ∧ step st l = some st' ∧ rstage st'.rpc < rstage st.rpc :=
  (recv_poll st).elim id fun hd =>
    ⟨_, _, rfl, (Step.recv (.park hpc hd)).step_eq, by rw [hpc]; simp [rstage]⟩

theorem drain_enabled {st : State} (hdflt : nextDrainArms.contains .dflt = true) (hpc : st.rpc = .drain) :
    ∃ l st', isRecvLabel l = true ∧ step st l = some st' ∧ st'.rpc = .idle := by
  rcases recv_poll st with ⟨l, st', hl, hs, hlt⟩ | hd
  · refine ⟨l, st', hl, hs, ?_⟩
    rw [hpc] at hlt
    cases h : st'.rpc with
    | idle => rfl
    | next p => rw [h] at hlt; cases p <;> simp [rstage] at hlt
    | drain => rw [h] at hlt; simp [rstage] at hlt
  · exact ⟨_, _, rfl, (Step.recv (.report (by rw [hpc]; exact hdflt) hpc hd)).step_eq, rfl⟩

theorem next_cond_stable {st st' : State} {l : Label} (hpc : st.rpc.isNext = true)
    (hc : st.buf ≠ [] ∨ st.senderDone = true ∨ st.rctx = true) (hs : Step st l st') :
    st'.rpc.isNext = false ∨ (st'.buf ≠ [] ∨ st'.senderDone = true ∨ st'.rctx = true) := by
  cases hs with
  | sender _ _ => exact .inr hc
  | recv h =>
    cases h with
    | startNext c hidle _ => rw [hidle] at hpc; cases hpc
    | cancelNext _ => exact .inr (.inr (.inr rfl))
    | park _ _ => exact .inr hc
    | _ => exact .inl rfl
  | closeSender _ _ => exact .inr (.inr (.inl rfl))
  | closeRecv _ _ => exact .inr hc
  | commit _ _ _ _ => exact .inr (.inl (by simp))
  | handoff _ _ _ => exact .inl rfl
  | pop _ _ => exact .inl rfl

end Juniper.Proofs.Pipe
