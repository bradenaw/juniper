import Juniper.Model.Iter
import Juniper.Proofs.Fuel
/-!
# Denotation of iterator machines (framework for C07)

`Den m cost s L e`: from state `s` the machine `m` yields, after finitely many `skip`s each, the items
of `L` in order — each annotated with the value of `cost` (think: source items pulled so far) at the
moment it is delivered — and then reports the end (at cost `e`) on every further step, forever.
`annot p l`: the items of a list source, each with the number of pulls at its delivery; the `L` of a slice
and of a fault-free script.
-/
namespace Juniper.Proofs.IterDen
open Juniper.Model.Iter
universe u v w x
variable {σ : Type u} {σ' : Type w} {α : Type v} {γ : Type x}

def after (m : IM σ α) : Nat → σ → σ
  | 0, s => s
  | n + 1, s => after m n (m.step s).2

def Ended (m : IM σ α) (s : σ) : Prop := ∀ n, (m.step (after m n s)).1 = .done

theorem Ended.step {m : IM σ α} {s : σ} (h : Ended m s) : ∃ s', m.step s = (.done, s') ∧ Ended m s' :=
  ⟨(m.step s).2, Prod.ext (h 0) rfl, fun n => h (n + 1)⟩

theorem ended_of_inv {m : IM σ α} (P : σ → Prop)
    (hstep : ∀ s, P s → (m.step s).1 = .done ∧ P (m.step s).2) {s : σ} (h0 : P s) : Ended m s := by
  intro n
  induction n generalizing s with
  | zero => exact (hstep s h0).1
  | succ n ih => exact ih (hstep s h0).2

theorem after_inv {m : IM σ α} (P : σ → Prop) (hstep : ∀ s, P s → P (m.step s).2) {s : σ} (h0 : P s) (n : Nat) :
    P (after m n s) := by
  induction n generalizing s with
  | zero => exact h0
  | succ n ih => exact ih (hstep s h0)

theorem after_add (m : IM σ α) (a b : Nat) (s : σ) : after m (a + b) s = after m b (after m a s) := by
  induction a generalizing s with
  | zero => simp [after]
  | succ a iha => rw [Nat.add_right_comm]; simp only [after]; exact iha _

theorem Ended.after {m : IM σ α} {s : σ} (h : Ended m s) (k : Nat) : Ended m (after m k s) := by
  intro n
  have := h (k + n)
  rwa [after_add] at this

inductive Den (m : IM σ α) (cost : σ → Nat) : σ → List (α × Nat) → Nat → Prop
  | skip {s s' : σ} {L : List (α × Nat)} {e : Nat} :
      m.step s = (.skip, s') → Den m cost s' L e → Den m cost s L e
  | item {s s' : σ} {a : α} {L : List (α × Nat)} {e : Nat} :
      m.step s = (.item a, s') → Den m cost s' L e → Den m cost s ((a, cost s') :: L) e
  | done {s s' : σ} :
      m.step s = (.done, s') → Ended m s' → (∀ n, cost (after m n s') = cost s') → Den m cost s [] (cost s')

theorem den_of_ended {m : IM σ α} {cost : σ → Nat} {s : σ} (he : Ended m s)
    (hc : ∀ n, cost (after m n s) = cost s) : Den m cost s [] (cost s) := by
  have h1 : cost (m.step s).2 = cost s := hc 1
  rw [← h1]
  exact .done (Prod.ext (he 0) rfl) (fun n => he (n + 1)) fun n => (hc (n + 1)).trans h1.symm

/-- Once the inner iterator has ended, a wrapper that (under an invariant `Q` on its own state)
answers `done` and either leaves its inner state alone or moves it as the inner machine does, has
ended too, and the cost stays put. -/
theorem ended_wrapper {m : IM σ α} {m' : IM σ' γ} {cost : σ → Nat} (proj : σ' → σ) (Q : σ' → Prop)
    (hsim : ∀ t s', Q t → m.step (proj t) = (.done, s') →
      (m'.step t).1 = .done ∧ Q (m'.step t).2 ∧ (proj (m'.step t).2 = s' ∨ proj (m'.step t).2 = proj t))
    {t : σ'} (hQ : Q t) (he : Ended m (proj t)) (hc : ∀ n, cost (after m n (proj t)) = cost (proj t)) :
    Ended m' t ∧ ∀ n, cost (proj (after m' n t)) = cost (proj t) := by
  have key : ∀ n t, Q t → Ended m (proj t) →
      Q (after m' n t) ∧ ∃ k, proj (after m' n t) = after m k (proj t) := by
    intro n
    induction n with
    | zero => exact fun t hQ _ => ⟨hQ, 0, rfl⟩
    | succ n ih =>
      intro t hQ he
      obtain ⟨s1, hx, he1⟩ := he.step
      obtain ⟨_, h2, h3 | h3⟩ := hsim t s1 hQ hx
      · obtain ⟨hq, k, hk⟩ := ih _ h2 (h3 ▸ he1)
        exact ⟨hq, k + 1, by simp only [after]; rw [hk, h3, hx]⟩
      · obtain ⟨hq, k, hk⟩ := ih _ h2 (h3 ▸ he)
        exact ⟨hq, k, by simp only [after]; rw [hk, h3]⟩
  refine ⟨fun n => ?_, fun n => ?_⟩
  · obtain ⟨hq, k, hk⟩ := key n t hQ he
    obtain ⟨s1, hx, _⟩ := (hk ▸ he.after k).step
    exact (hsim _ s1 hq hx).1
  · obtain ⟨_, k, hk⟩ := key n t hQ he
    rw [hk]
    exact hc k

theorem Den.done_wrapper {m : IM σ α} {m' : IM σ' γ} {cost : σ → Nat} (proj : σ' → σ) (Q : σ' → Prop)
    (hsim : ∀ t s', Q t → m.step (proj t) = (.done, s') →
      (m'.step t).1 = .done ∧ Q (m'.step t).2 ∧ (proj (m'.step t).2 = s' ∨ proj (m'.step t).2 = proj t))
    {t t' : σ'} (ht : m'.step t = (.done, t')) (hQ : Q t') (he : Ended m (proj t'))
    (hc : ∀ n, cost (after m n (proj t')) = cost (proj t')) :
    Den m' (fun st => cost (proj st)) t [] (cost (proj t')) :=
  have hw := ended_wrapper proj Q hsim hQ he hc
  .done ht hw.1 hw.2

theorem Den.of_step_eq {m : IM σ α} {cost : σ → Nat} {s1 s2 : σ} {L : List (α × Nat)} {e : Nat}
    (h : m.step s1 = m.step s2) (hd : Den m cost s2 L e) : Den m cost s1 L e := by
  cases hd with
  | skip hs h' => exact .skip (h.trans hs) h'
  | item hs h' => exact .item (h.trans hs) h'
  | done hs he hc => exact .done (h.trans hs) he hc

theorem ended_fixed {m : IM σ α} {s : σ} (h : m.step s = (.done, s)) :
    Ended m s ∧ ∀ n, after m n s = s := by
  have key : ∀ n, after m n s = s := after_inv (· = s) (fun _ ht => by rw [ht, h]) rfl
  exact ⟨fun n => by rw [key n, h], key⟩

theorem den_of_fixed {m : IM σ α} {cost : σ → Nat} {s : σ} (h : m.step s = (.done, s)) : Den m cost s [] (cost s) :=
  have hw := ended_fixed h
  .done h hw.1 (fun n => by rw [hw.2 n])

def Denotes (m : IM σ α) (s : σ) (l : List α) : Prop := ∃ L e, Den m (fun _ => 0) s L e ∧ L.map Prod.fst = l

/-- the state yields exactly the list `l` -/
def DenL (m : IM σ α) (s : σ) (l : List α) : Prop :=
  ∃ (cost : σ → Nat) (L : List (α × Nat)) (e : Nat), Den m cost s L e ∧ L.map Prod.fst = l

theorem Den.denL {m : IM σ α} {cost : σ → Nat} {s : σ} {L : List (α × Nat)} {e : Nat} (h : Den m cost s L e) :
    DenL m s (L.map Prod.fst) := ⟨cost, L, e, h, rfl⟩

def nexts (m : IM σ α) (fuel : Nat) : Nat → σ → List (Option (Option α))
  | 0, _ => []
  | n + 1, s => (drive m fuel s).1 :: nexts m fuel n (drive m fuel s).2

/-- what a consumer of the sequence `l` sees: its items, then the end, again and again -/
def ideal : List α → Nat → List (Option (Option α))
  | _, 0 => []
  | [], n + 1 => some none :: ideal [] n
  | a :: l, n + 1 => some (some a) :: ideal l n

theorem drive_succ (m : IM σ α) (f : Nat) (s : σ) :
    drive m (f + 1) s = match m.step s with
      | (.item a, s') => (some (some a), s')
      | (.done, s') => (some none, s')
      | (.skip, s') => drive m f s' := rfl

/-- One `Next()` on a denoting state: with enough fuel it answers the head of the list (or the end)
and always reaches the same state, which denotes the tail at the annotated cost. -/
theorem drive_stable {m : IM σ α} {cost : σ → Nat} {s : σ} {L : List (α × Nat)} {e : Nat} (h : Den m cost s L e) :
    ∃ s', (Enough fun fuel => drive m fuel s = (some (L.head?.map Prod.fst), s')) ∧
      match (generalizing := false) L with
      | [] => Ended m s' ∧ cost s' = e
      | p :: L' => Den m cost s' L' e ∧ cost s' = p.2 := by
  induction h with
  | skip hs _ ih =>
    obtain ⟨s1, hd, h1⟩ := ih
    exact ⟨s1, (hd.mono fun g hg => by rw [drive_succ, hs]; exact hg).succ, h1⟩
  | item hs h' _ => exact ⟨_, .of_succ fun g => by rw [drive_succ, hs]; rfl, h', rfl⟩
  | done hs he _ => exact ⟨_, .of_succ fun g => by rw [drive_succ, hs]; rfl, he, rfl⟩

theorem drive_ended {m : IM σ α} {s : σ} (he : Ended m s) (fuel : Nat) (hf : 1 ≤ fuel) :
    (drive m fuel s).1 = some none ∧ Ended m (drive m fuel s).2 := by
  obtain ⟨g, rfl⟩ : ∃ g, fuel = g + 1 := ⟨fuel - 1, by omega⟩
  obtain ⟨s', hs, he'⟩ := he.step
  rw [drive_succ, hs]
  exact ⟨rfl, he'⟩

theorem ended_nexts {m : IM σ α} {s : σ} (h : Ended m s) (fuel : Nat) (hf : 1 ≤ fuel) (n : Nat) :
    nexts m fuel n s = ideal [] n := by
  induction n generalizing s with
  | zero => rfl
  | succ n ih =>
    have hd := drive_ended h fuel hf
    simp only [nexts, hd.1, ideal]
    rw [ih hd.2]

/-- annotate the items of a list source: the `i`-th item is delivered when `p + i + 1` items have been pulled -/
def annot (p : Nat) : List α → List (α × Nat)
  | [] => []
  | a :: l => (a, p + 1) :: annot (p + 1) l

theorem annot_eq_zipIdx (p : Nat) (l : List α) : annot p l = l.zipIdx (p + 1) := by
  induction l generalizing p with
  | nil => rfl
  | cons a l ih => rw [annot, ih, List.zipIdx_cons]

theorem annot_fst (p : Nat) (l : List α) : (annot p l).map Prod.fst = l := by
  rw [annot_eq_zipIdx, List.zipIdx_map_fst]

theorem annot_length (p : Nat) (l : List α) : (annot p l).length = l.length := by
  rw [← List.length_map (f := Prod.fst), annot_fst]

theorem mem_annot {p : α × Nat} {q : Nat} {l : List α} (h : p ∈ annot q l) : p.1 ∈ l := by
  have := List.mem_map_of_mem (f := Prod.fst) h
  rwa [annot_fst] at this

theorem annot_append (p : Nat) (l1 l2 : List α) : annot p (l1 ++ l2) = annot p l1 ++ annot (p + l1.length) l2 := by
  rw [annot_eq_zipIdx, List.zipIdx_append, Nat.add_right_comm, ← annot_eq_zipIdx, ← annot_eq_zipIdx]

theorem annot_map {β : Type v} (g : α → β) (p : Nat) (l : List α) :
    annot p (l.map g) = (annot p l).map fun q => (g q.1, q.2) := by
  rw [annot_eq_zipIdx, List.zipIdx_map, ← annot_eq_zipIdx]; rfl

theorem annot_getElem? (p : Nat) (l : List α) (k : Nat) :
    (annot p l)[k]? = l[k]?.map fun a => (a, p + k + 1) := by
  rw [annot_eq_zipIdx, List.getElem?_zipIdx, Nat.add_right_comm]

theorem annot_mem (p : Nat) (l : List α) (q : α × Nat) (hq : q ∈ annot p l) :
    p < q.2 ∧ l[q.2 - p - 1]? = some q.1 := by
  obtain ⟨k, hk⟩ := List.getElem?_of_mem hq
  rw [annot_getElem?] at hk
  obtain ⟨a, ha, rfl⟩ := Option.map_eq_some_iff.mp hk
  exact ⟨by simp only; omega, by simp only [show p + k + 1 - p - 1 = k by omega]; exact ha⟩

end Juniper.Proofs.IterDen
