import Juniper.Proofs.TreeHeapLinkStore
/-!
# Linking the two B-tree models (C03): one level of the tree

What `Put` and `Delete` share: the slot-level loops inside one represented node (`Heap.searchNode`, `Heap.lowerFrom`,
`indexOf`) give what the list-level functions give; one level of `Heap.descend` and of `Heap.rightmostLeaf`; an inner
node seen from its child `i` (`Inner`); and a node whose child `i` came back changed (`sub_replace_child`,
`siblings_keep`).
-/
namespace Juniper.Proofs.TreeHeapLink
open Juniper Juniper.Model.BTree Juniper.Model.BTreeSlotsOps Juniper.Proofs.Tree Juniper.Proofs.TreeSlotsOps

variable {K V : Type}

theorem keys_cons {keys : Slots K} {kv : K × V} {rest : List (K × V)} {i : Nat}
    (hk : ∀ j (hj : j < (kv :: rest).length), keys[i + j]? = some (some ((kv :: rest)[j]).1)) :
    keys[i]? = some (some kv.1) ∧ ∀ j (hj : j < rest.length), keys[i + 1 + j]? = some (some (rest[j]).1) := by
  refine ⟨hk 0 (Nat.succ_pos _), fun j hj => ?_⟩
  have := hk (j + 1) (Nat.succ_lt_succ hj)
  rwa [List.getElem_cons_succ, ← Nat.add_assoc, Nat.add_right_comm] at this

theorem searchFrom_eq (cmp : K → K → Int) (k : K) (keys : Slots K) : ∀ (kvs : List (K × V)) (i : Nat),
    (∀ j (hj : j < kvs.length), keys[i + j]? = some (some (kvs[j]).1)) →
    Heap.searchFrom cmp k keys kvs.length i = some ((searchNode cmp k kvs).1 + i, (searchNode cmp k kvs).2)
  | [], i, _ => by simp [Heap.searchFrom, searchNode]
  | (k', v') :: rest, i, hk => by
    obtain ⟨h0, hrest⟩ := keys_cons hk
    have ih := searchFrom_eq cmp k keys rest (i + 1) hrest
    simp only [List.length_cons, Heap.searchFrom, h0, searchNode]
    split
    · simp
    · split
      · simp
      · rw [ih]; simp; omega

theorem lowerFrom_eq (p : Int → Bool) (cmp : K → K → Int) (k : K) (keys : Slots K) : ∀ (kvs : List (K × V)) (i : Nat),
    (∀ j (hj : j < kvs.length), keys[i + j]? = some (some (kvs[j]).1)) →
    Heap.lowerFrom p cmp k keys kvs.length i = some (lowerIdx p cmp k kvs + i)
  | [], i, _ => by simp [Heap.lowerFrom, lowerIdx]
  | (k', v') :: rest, i, hk => by
    obtain ⟨h0, hrest⟩ := keys_cons hk
    have ih := lowerFrom_eq p cmp k keys rest (i + 1) hrest
    simp only [List.length_cons, Heap.lowerFrom, h0, lowerIdx]
    split
    · simp
    · rw [ih]; simp; omega

theorem rep_keys_get {x : SNode K V Nat} {kvs : List (K × V)} {kids : List Nat} (hr : NodeRep x kvs kids) :
    ∀ j (hj : j < kvs.length), x.keys[0 + j]? = some (some (kvs[j]).1) := by
  intro j hj
  rw [Nat.zero_add]
  exact hr.hkeys.get_live_map hj

theorem searchNode_rep (cmp : K → K → Int) (k : K) {x : SNode K V Nat} {kvs : List (K × V)} {kids : List Nat}
    (hr : NodeRep x kvs kids) : Heap.searchNode cmp k x = some (searchNode cmp k kvs) := by
  unfold Heap.searchNode
  rw [hr.hn, toIdx_natCast, Option.bind_some, searchFrom_eq cmp k x.keys kvs 0 (rep_keys_get hr)]
  simp

theorem lowerFrom_rep (p : Int → Bool) (cmp : K → K → Int) (k : K) {x : SNode K V Nat} {kvs : List (K × V)} {kids : List Nat}
    (hr : NodeRep x kvs kids) : Heap.lowerFrom p cmp k x.keys kvs.length 0 = some (lowerIdx p cmp k kvs) := by
  rw [lowerFrom_eq p cmp k x.keys kvs 0 (rep_keys_get hr)]
  simp

/-- `xslices.Index(parent.children[:], c)` finds the position of a child -/
theorem indexOf_rep {a : Slots Nat} {cap : Nat} {l : List Nat} (hr : Rep a cap l) (hnd : l.Nodup) {i c : Nat}
    (hc : l[i]? = some c) : indexOf a c = some i := by
  obtain ⟨hi, rfl⟩ := List.getElem?_eq_some_iff.mp hc
  have hia : i < a.length := by have := hr.length; have := hr.2; omega
  have slot : ∀ j (hj : j < l.length), a[j]'(by have := hr.length; have := hr.2; omega) = some l[j] := by
    intro j hj
    have := hr.get_live hj
    rwa [List.getElem?_eq_getElem, Option.some.injEq] at this
  have hfi : a.findIdx (· == some l[i]) = i := by
    rw [List.findIdx_eq hia]
    refine ⟨by rw [slot i hi]; exact beq_self_eq_true _, fun j hji => ?_⟩
    rw [slot j (by omega), beq_eq_false_iff_ne, ne_eq, Option.some.injEq]
    exact (List.pairwise_iff_getElem.mp hnd) j i (by omega) hi hji
  simp only [indexOf, hfi, hia, if_true]

theorem capInt : (keysCap : Int) = Gen.Tree.keysLen ∧ Gen.Tree.keysLen = Gen.Tree.maxKVs ∧
    Gen.Tree.leftN.toNat = Gen.Tree.medianIdx.toNat ∧ (Gen.Tree.rightFirstIdx 0).toNat = Gen.Tree.medianIdx.toNat + 1 ∧
    (Gen.Tree.rightFirstChildIdx 0).toNat = Gen.Tree.medianIdx.toNat + 1 ∧
    Gen.Tree.medianIdx.toNat + 1 + Gen.Tree.rightN.toNat = keysCap + 1 := by decide

theorem full_iff (n : Nat) : Gen.Tree.full (n : Int) = decide (n = keysCap) := by
  have := capInt.1
  simp only [Gen.Tree.full, decide_eq_decide]
  omega

theorem full_int {n : Nat} (h : n = keysCap) : (n : Int) = Gen.Tree.maxKVs := by
  rw [h, capInt.1, capInt.2.1]

theorem mem_replaceAt' {α : Type} {l : List α} {i : Nat} {x y : α} (h : y ∈ replaceAt l i x) :
    y = x ∨ y ∈ l.take i ∨ y ∈ l.drop (i + 1) := by
  simp only [replaceAt, List.mem_append, List.mem_cons] at h
  rcases h with h | h | h
  · exact Or.inr (Or.inl h)
  · exact Or.inl h
  · exact Or.inr (Or.inr h)

theorem not_mem_take_of_mem_drop {l : List Nat} (hnd : l.Nodup) {n a : Nat} (h : a ∈ l.drop n) : a ∉ l.take n := by
  rw [← List.take_append_drop n l] at hnd
  exact fun ht => (List.nodup_append.mp hnd).2.2 a ht a h rfl

theorem map_id_replaceAt {kids : List (Node K V)} {i : Nat} {c c' : Node K V} (hc : kids[i]? = some c)
    (hid : c'.id = c.id) : (replaceAt kids i c').map Node.id = kids.map Node.id := by
  conv => rhs; rw [split_at_getElem? hc]
  simp only [replaceAt, List.map_append, List.map_cons, hid]

theorem sibling_cnt {kids : List (Node K V)} {i : Nat} {c d : Node K V} (hc : kids[i]? = some c)
    (hd : d ∈ kids.take i ∨ d ∈ kids.drop (i + 1)) (j : Nat) : cnt j d + cnt j c ≤ cntK j kids := by
  rw [cntK_at hc j]
  rcases hd with hd | hd
  · have := cnt_le_cntK hd j; omega
  · have := cnt_le_cntK hd j; omega

theorem siblings_keep {g g' : Store K V} {id : Nat} {kids : List (Node K V)} {i : Nat} {c : Node K V}
    (hc : kids[i]? = some c) (hsub : ∀ d ∈ kids, Sub g (some id) d) (hnd : ∀ j, cntK j kids ≤ 1)
    (hfr : ∀ j, cnt j c = 0 → 0 < cntK j kids → g' j = g j) :
    ∀ d, (d ∈ kids.take i ∨ d ∈ kids.drop (i + 1)) → Sub g' (some id) d := by
  intro d hd
  have hdk : d ∈ kids := by
    rcases hd with hd | hd
    · exact List.mem_of_mem_take hd
    · exact List.mem_of_mem_drop hd
  refine Sub.congr d (fun j hj => hfr j ?_ ?_) (hsub d hdk)
  · have := sibling_cnt hc hd j; have := hnd j; omega
  · have := cnt_le_cntK hdk j; omega

theorem descend_here {cmp : K → K → Int} {k : K} {h : Heap K V} {id : Nat} {sx : SNode K V Nat} {kvs : List (K × V)}
    {cids : List Nat} (hx : h.get id = some sx) (hr : NodeRep sx kvs cids) (fuel : Nat) :
    Heap.descend cmp k h (fuel + 1) id =
      if (searchNode cmp k kvs).2 then some (id, (searchNode cmp k kvs).1, true)
      else if cids = [] then some (id, (searchNode cmp k kvs).1, false)
      else match cids[(searchNode cmp k kvs).1]? with
        | some c => Heap.descend cmp k h fuel c
        | none => none := by
  rw [Heap.descend]
  simp only [bind, pure, hx, Option.bind_some, searchNode_rep cmp k hr]
  split
  · rfl
  · by_cases hc : cids = []
    · have : sx.isLeaf = true := hr.isLeaf_iff.mpr hc
      simp [hc, this]
    · have hl : sx.isLeaf = false := isLeaf_of_rep_cons hr.hkids hc
      simp only [hl, hc, if_false, Bool.false_eq_true]
      cases hg : cids[(searchNode cmp k kvs).1]? with
      | none =>
        have hge : cids.length ≤ (searchNode cmp k kvs).1 := List.getElem?_eq_none_iff.mp hg
        rcases Nat.lt_or_ge (searchNode cmp k kvs).1 childrenCap with hlt | hge2
        · rw [hr.hkids.get_tail hge hlt]; rfl
        · rw [List.getElem?_eq_none (by rw [hr.hkids.length]; exact hge2)]; rfl
      | some c =>
        have hlt : (searchNode cmp k kvs).1 < cids.length := (List.getElem?_eq_some_iff.mp hg).1
        have := hr.hkids.get_live hlt
        rw [this]
        have hc' : cids[(searchNode cmp k kvs).1] = c := (List.getElem?_eq_some_iff.mp hg).2
        simp [hc']

theorem descend_stop {cmp : K → K → Int} {k : K} {h : Heap K V} {id i : Nat} {b : Bool} {sx : SNode K V Nat}
    {kvs : List (K × V)} {cids : List Nat} (hx : h.get id = some sx) (hr : NodeRep sx kvs cids)
    (hs : searchNode cmp k kvs = (i, b)) (hstop : b = true ∨ cids = []) :
    ∀ fuel, 1 ≤ fuel → Heap.descend cmp k h fuel id = some (id, i, b) := by
  intro fuel hf
  obtain ⟨f', rfl⟩ := Nat.exists_eq_add_one_of_ne_zero (Nat.ne_of_gt (Nat.lt_of_lt_of_le (Nat.succ_pos _) hf))
  rw [descend_here hx hr, hs]
  rcases hstop with rfl | rfl
  · rfl
  · cases b <;> rfl

theorem descend_below {cmp : K → K → Int} {k : K} {h : Heap K V} {ht id i : Nat} {kvs : List (K × V)}
    {kids : List (Node K V)} {c : Node K V} {sx : SNode K V Nat} {found : Bool} {curr idx : Nat}
    (hx : h.get id = some sx) (hr : NodeRep sx kvs (kids.map Node.id)) (hs : searchNode cmp k kvs = (i, false))
    (hne : kids ≠ []) (hc : kids[i]? = some c)
    (hdesc : ∀ fuel, ht + 1 ≤ fuel → Heap.descend cmp k h fuel c.id = some (curr, idx, found)) :
    ∀ fuel, ht + 1 + 1 ≤ fuel → Heap.descend cmp k h fuel id = some (curr, idx, found) := by
  intro fuel hf
  obtain ⟨f', rfl⟩ := Nat.exists_eq_add_one_of_ne_zero (Nat.ne_of_gt (Nat.lt_of_lt_of_le (Nat.succ_pos _) hf))
  rw [descend_here hx hr, hs, if_neg Bool.false_ne_true, if_neg (by simpa using hne), List.getElem?_map, hc]
  exact hdesc f' (by omega)

theorem sub_replace_child {g : Store K V} {p : Option Nat} {id i : Nat} {kvs : List (K × V)} {kids : List (Node K V)}
    {c c' : Node K V} {sx : SNode K V Nat} (hx : g id = some sx) (hpar : sx.parent = p)
    (hr : NodeRep sx kvs (kids.map Node.id)) (hc : kids[i]? = some c) (hcid : c'.id = c.id)
    (hsub' : Sub g (some id) c')
    (hsibs : ∀ d, (d ∈ kids.take i ∨ d ∈ kids.drop (i + 1)) → Sub g (some id) d) :
    Sub g p (.mk id kvs (replaceAt kids i c')) := by
  refine sub_mk.mpr ⟨sx, hx, hpar, by rw [map_id_replaceAt hc hcid]; exact hr, fun d hd => ?_⟩
  rcases mem_replaceAt' hd with rfl | hd
  · exact hsub'
  · exact hsibs d hd

theorem Sub.lt {h : Heap K V} {q : Option Nat} {y : Node K V} (hs : Sub h.get q y) :
    ∀ j, 0 < cnt j y → j < h.nodes.length := by
  intro j hj
  obtain ⟨x, hx⟩ := Option.isSome_iff_exists.mp (Sub.present y hs j hj)
  exact get_lt hx

/-- An inner node `.mk id kvs kids` below `p` in the heap `h`, seen from its child `c` at position `i` (of height
`ht'`); `sx` is the node's object. -/
structure Inner (h : Heap K V) (p : Option Nat) (ht' id : Nat) (kvs : List (K × V)) (kids : List (Node K V)) (i : Nat)
    (c : Node K V) (sx : SNode K V Nat) : Prop where
  len : kids.length = kvs.length + 1
  obj : h.get id = some sx
  par : sx.parent = p
  rep : NodeRep sx kvs (kids.map Node.id)
  sub : ∀ d ∈ kids, Sub h.get (some id) d
  bal : Bal ht' c
  small : c.n ≤ Gen.Tree.maxKVs
  once : ∀ j, cnt j c ≤ 1
  lt : ∀ j, 0 < cnt j c → j < h.nodes.length
  noRoot : ∀ d ∈ c.kids, cnt h.root d = 0
  noId : cnt id c = 0
  neRoot : c.id ≠ h.root
  idx : (kids.map Node.id)[i]? = some c.id
  onceK : ∀ j, cntK j kids ≤ 1
  mem : c ∈ kids
  nodup : (kids.map Node.id).Nodup
  ilt : i < kids.length

theorem inner_facts {h : Heap K V} {p : Option Nat} {ht : Nat} {id : Nat} {kvs : List (K × V)}
    {kids : List (Node K V)} {i : Nat} {c : Node K V} (hne : kids ≠ [])
    (hb : Bal ht (.mk id kvs kids)) (hcnt : ∀ j, cnt j (Node.mk id kvs kids) ≤ 1)
    (hroot : ∀ c ∈ (Node.mk id kvs kids).kids, cnt h.root c = 0)
    (hsub : Sub h.get p (.mk id kvs kids)) (hc : kids[i]? = some c) :
    ∃ ht' sx, ht = ht' + 1 ∧ Inner h p ht' id kvs kids i c sx := by
  obtain ⟨ht', rfl, hlen, hall⟩ := bal_inner hne hb
  obtain ⟨sx, hx, hpar, hr, hkids⟩ := sub_mk.mp hsub
  have hcm := List.mem_of_getElem? hc
  have hck := cntK_le_one hcnt
  have hrc : cnt h.root c = 0 := hroot c hcm
  refine ⟨ht', sx, rfl, hlen, hx, hpar, hr, hkids, (hall c hcm).1, (hall c hcm).2.2, ?_, ?_, ?_,
    cnt_id_child hcnt hcm, ?_, by simp [hc], hck, hcm, kids_ids_nodup hck, (List.getElem?_eq_some_iff.mp hc).1⟩
  · intro j; have := hck j; have := cnt_le_cntK hcm j; omega
  · exact (hkids c hcm).lt
  · intro d hd
    obtain ⟨cid, ckvs, ckids⟩ := c
    simp only [Node.kids] at hd
    have := cnt_child_le (id := cid) (kvs := ckvs) hd h.root
    omega
  · intro e
    have := cnt_self c
    rw [e] at this
    omega

theorem rightmostLeaf_here {h : Heap K V} {id : Nat} {sx : SNode K V Nat} {kvs : List (K × V)} {cids : List Nat}
    (hx : h.get id = some sx) (hr : NodeRep sx kvs cids) (fuel : Nat) :
    Heap.rightmostLeaf h (fuel + 1) id =
      if cids = [] then some id
      else match cids[kvs.length]? with
        | some c => Heap.rightmostLeaf h fuel c
        | none => none := by
  rw [Heap.rightmostLeaf]
  simp only [bind, pure, hx, Option.bind_some]
  by_cases hc : cids = []
  · have : sx.isLeaf = true := hr.isLeaf_iff.mpr hc
    simp [hc, this]
  · have hl : sx.isLeaf = false := isLeaf_of_rep_cons hr.hkids hc
    have hlen : cids.length = kvs.length + 1 := by
      rcases hr.hshape with h0 | h0
      · exact absurd h0 hc
      · exact h0
    have hlt : kvs.length < cids.length := by omega
    have := hr.hkids.get_live hlt
    simp only [hl, hc, if_false, Bool.false_eq_true, hr.hn, toIdx_natCast, Option.bind_some, this,
      List.getElem?_eq_getElem hlt]

end Juniper.Proofs.TreeHeapLink
