import Juniper.Proofs.TreeHeapLinkMerge
/-!
# Linking the two B-tree models (C03): `steal`, the repair loop of `Delete`

`repair fuel h x` is what `Delete` does with an underfull node `x` after the removal: `steal`, and if
nothing could be stolen and `x` is not the root, `merge` (which cascades). This file evaluates `steal`
and the epilogue `mergeTail` of a merge in the situations that occur.
-/
namespace Juniper.Proofs.TreeHeapLink
open Juniper Juniper.Model.BTree Juniper.Model.BTreeSlotsOps Juniper.Proofs.Tree Juniper.Proofs.TreeSlotsOps

variable {K V : Type}

theorem step_root {h h' : Heap K V} {op : NodeOp K V Nat} {w : List Nat} (hs : h.step op w = some h') :
    h'.root = h.root := by
  unfold Heap.step at hs
  obtain ⟨fam, _, rfl⟩ := Option.map_eq_some_iff.mp hs
  rfl

/-- `steal` never moves the root: the instance "the root pointer is that of `h`" of the walk `steal_keeps` -/
theorem steal_root {h : Heap K V} {xid : Nat} {r : Heap K V × Bool} (hs : h.steal xid = some r) : r.1.root = h.root :=
  steal_keeps (I := fun h' => h'.root = h.root) (fun hc hs => (step_root hs).trans hc) (fun hc => hc) rfl r hs

/-- `Delete` on an underfull node after the removal: `steal`, else (unless it is the root) `merge` -/
def repair (fuel : Nat) (h : Heap K V) (xid : Nat) : Option (Heap K V) :=
  (Heap.steal h xid).bind fun hs =>
    if hs.2 then some hs.1
    else if Gen.Tree.deleteMerges xid hs.1.root then Heap.mergeFrom fuel hs.1 xid else some hs.1

theorem nOf_some {h : Heap K V} {r : Nat} {xr : SNode K V Nat} (hr : h.get r = some xr) : Heap.nOf h (some r) = some xr.n := by
  simp [Heap.nOf, hr]

theorem steal_right {h h' : Heap K V} {xid r : Nat} {left : Option Nat} {rn : Int}
    (hsib : Heap.siblings h xid = some (left, some r)) (hn : Heap.nOf h (some r) = some rn)
    (hst : Gen.Tree.stealRight true rn = true) (hrot : Heap.rotateLeft h xid r = some h') :
    Heap.steal h xid = some (h', true) := by
  unfold Heap.steal
  simp only [bind, pure, hsib, hn, Option.bind_some, Option.isSome_some, hst, if_true, rotCall_stealRight, hrot]

theorem steal_left {h h' : Heap K V} {xid l : Nat} {right : Option Nat} {rn ln : Int}
    (hsib : Heap.siblings h xid = some (some l, right)) (hn : Heap.nOf h right = some rn)
    (hst : Gen.Tree.stealRight right.isSome rn = false) (hnl : Heap.nOf h (some l) = some ln)
    (hstl : Gen.Tree.stealLeft true ln = true) (hrot : Heap.rotateRight h l xid = some h') :
    Heap.steal h xid = some (h', true) := by
  unfold Heap.steal
  simp only [bind, pure, hsib, hn, Option.bind_some, hst, hnl, Option.isSome_some, hstl, if_true, rotCall_stealLeft, hrot]
  simp

theorem steal_none {h : Heap K V} {xid : Nat} {left right : Option Nat} {rn ln : Int}
    (hsib : Heap.siblings h xid = some (left, right)) (hn : Heap.nOf h right = some rn)
    (hst : Gen.Tree.stealRight right.isSome rn = false) (hnl : Heap.nOf h left = some ln)
    (hstl : Gen.Tree.stealLeft left.isSome ln = false) :
    Heap.steal h xid = some (h, false) := by
  unfold Heap.steal
  simp only [bind, pure, hsib, hn, Option.bind_some, hst, hnl, hstl]
  simp

/-- at the root `steal` finds no siblings and `Delete` does not merge -/
theorem repair_root {h : Heap K V} {sx : SNode K V Nat} (hx : h.get h.root = some sx) (hp : sx.parent = none) (fuel : Nat) :
    repair fuel h h.root = some h := by
  have hsib : Heap.siblings h h.root = some (none, none) := by
    unfold Heap.siblings
    simp only [bind, pure, hx, Option.bind_some, hp]
  have hst : Heap.steal h h.root = some (h, false) :=
    steal_none (rn := 0) (ln := 0) hsib rfl (by simp [Gen.Tree.stealRight]) rfl (by simp [Gen.Tree.stealLeft])
  simp [repair, hst, Gen.Tree.deleteMerges]

theorem mergeTail_keep {h1 : Heap K V} {id li : Nat} {sp : SNode K V Nat} {kvs : List (K × V)} {cids : List Nat}
    (hp : h1.get id = some sp) (rp : NodeRep sp kvs cids)
    (hc : (id = h1.root ∧ kvs ≠ []) ∨ (id ≠ h1.root ∧ Gen.Tree.minKVs ≤ (kvs.length : Int))) (fuel : Nat) :
    mergeTail fuel h1 id li = some h1 := by
  unfold mergeTail
  simp only [bind, pure, hp, Option.bind_some, rp.hn]
  rcases hc with ⟨h0, hne⟩ | ⟨h0, hge⟩
  · have : kvs.length ≠ 0 := fun e => hne (List.eq_nil_of_length_eq_zero e)
    simp [Gen.Tree.mergeRootCheck, Gen.Tree.mergeRootEmpty, h0, this]
  · have : ¬ ((id : Int) = (h1.root : Int)) := by omega
    have h2 : ¬ ((kvs.length : Int) < Gen.Tree.minKVs) := by omega
    simp [Gen.Tree.mergeRootCheck, Gen.Tree.mergeCascades, this, h2]

theorem mergeTail_cascade {h1 : Heap K V} {id li : Nat} {sp : SNode K V Nat} {kvs : List (K × V)} {cids : List Nat}
    (hp : h1.get id = some sp) (rp : NodeRep sp kvs cids) (h0 : id ≠ h1.root)
    (hlt : (kvs.length : Int) < Gen.Tree.minKVs) (fuel : Nat) :
    mergeTail fuel h1 id li = repair fuel h1 id := by
  have hne : ¬ ((id : Int) = (h1.root : Int)) := by omega
  unfold mergeTail repair
  simp only [bind, pure, hp, Option.bind_some, rp.hn]
  simp only [Gen.Tree.mergeRootCheck, hne, decide_false, Bool.false_eq_true, if_false, Gen.Tree.mergeCascades, hlt,
    decide_true, Bool.not_false, Bool.and_true, if_true, Bool.true_and]
  cases hst : Heap.steal h1 id with
  | none => rfl
  | some hs =>
    have hr := steal_root hst
    simp only [Option.bind_some, hr, Gen.Tree.deleteMerges, hne, decide_false, Bool.not_false, if_true]
    cases hs.2 <;> simp

theorem mergeTail_collapse {h1 : Heap K V} {id li : Nat} {sp sl : SNode K V Nat} {cids : List Nat}
    (hp : h1.get id = some sp) (rp : NodeRep sp ([] : List (K × V)) cids) (h0 : id = h1.root)
    (hl : h1.get li = some sl) (hne : li ≠ id) :
    ∃ h2, (∀ fuel, mergeTail fuel h1 id li = some h2) ∧ h2.root = li ∧ h2.size = h1.size ∧ h2.gen = h1.gen ∧
      h2.nodes.length = h1.nodes.length ∧
      ∀ j, h2.get j = if j = id then none else if j = li then some (withParent none sl) else h1.get j := by
  obtain ⟨ha, hsa, hsamea, hga⟩ := step_setParent hl none [li]
  have hpa : ha.get id = some sp := by rw [hga, if_neg (fun e => hne e.symm)]; exact hp
  obtain ⟨hb, hsb, hsameb, hgb⟩ := step_drop ha hpa []
  refine ⟨Heap.event { hb with root := li } "collapse", ?_, rfl, ?_, ?_, ?_, ?_⟩
  · intro fuel
    unfold mergeTail
    simp only [bind, pure, hp, Option.bind_some, rp.hn]
    have hsb' := hsb
    rw [h0] at hsb'
    -- `t.root = left; left.parent = nil`: both statements are in the source
    simp [Gen.Tree.mergeRootCheck, Gen.Tree.mergeRootEmpty, Gen.Tree.mergeCollapseClearsParent,
      Gen.Tree.mergeCollapseSetsRoot, h0, hsa, hsb']
  · show hb.size = h1.size
    rw [hsameb.size, hsamea.size]
  · show hb.gen = h1.gen
    rw [hsameb.gen, hsamea.gen]
  · show hb.nodes.length = h1.nodes.length
    rw [hsameb.len, hsamea.len]
  · intro j
    show hb.get j = _
    rw [hgb, hga]

end Juniper.Proofs.TreeHeapLink
