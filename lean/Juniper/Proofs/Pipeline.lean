import Juniper.Proofs.IterComb
/-!
# Pipelines of iterator combinators (C07 `pipeline_denotes_partial`)

Because every combinator lemma is stated for an arbitrary inner machine, a composition denotes the
composition of the list functions. Here: pipelines of any depth built from the element-type-preserving
stages over a slice source, their machines and their documented list functions (stages that change the
element type — `Chunk`, `Flatten`, `Runs` — compose by the very same lemmas; they are left out only to
keep the pipeline datatype homogeneous).
-/
namespace Juniper.Proofs.IterDen
open Juniper.Model Juniper.Model.Iter Juniper.Spec
variable {α : Type}

inductive Pipe (α : Type) where
  | src (l : List α)
  | filter (keep : α → Bool) (p : Pipe α)
  | map (f : α → α) (p : Pipe α)
  | first (n : Int) (p : Pipe α)
  | while_ (f : α → Bool) (p : Pipe α)
  | compact (eq : α → α → Bool) (p : Pipe α)
  | peek (p : Pipe α)

/-- a machine together with its start state and the cost (= source items pulled) read off its state -/
structure Packed (α : Type) where
  σ : Type
  m : IM σ α
  s : σ
  cost : σ → Nat

def Pipe.machine : Pipe α → Packed α
  | .src l => ⟨Src α, Iter.src, Src.of l, fun s => s.pulled⟩
  | .filter keep p => let q := p.machine; ⟨q.σ, Iter.filter keep q.m, q.s, q.cost⟩
  | .map f p => let q := p.machine; ⟨q.σ, Iter.map f q.m, q.s, q.cost⟩
  | .first n p => let q := p.machine; ⟨FirstSt q.σ, Iter.first q.m, ⟨q.s, n, false⟩, fun st => q.cost st.inner⟩
  | .while_ f p => let q := p.machine; ⟨WhileSt q.σ, Iter.while_ f q.m, ⟨q.s, false⟩, fun st => q.cost st.inner⟩
  | .compact eq p => let q := p.machine; ⟨CompactSt q.σ α, Iter.compact eq q.m, ⟨q.s, true, none⟩, fun st => q.cost st.inner⟩
  | .peek p => let q := p.machine; ⟨PeekSt q.σ α, Iter.withPeek q.m, ⟨q.s, none⟩, fun st => q.cost st.inner⟩

def Pipe.spec : Pipe α → List α
  | .src l => l
  | .filter keep p => p.spec.filter keep
  | .map f p => p.spec.map f
  | .first n p => p.spec.take n.toNat
  | .while_ f p => p.spec.takeWhile f
  | .compact eq p => Seq.compact eq p.spec
  | .peek p => p.spec

end Juniper.Proofs.IterDen
