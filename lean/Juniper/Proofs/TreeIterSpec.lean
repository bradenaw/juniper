import Juniper.Proofs.TreeIter
import Juniper.Proofs.TreeSIter
import Juniper.Proofs.TreeWhile
/-!
# `Next` under modification refines the resume-key iterator of the specification (C02)

The model's iterator is abstracted to the specification's `SIter` (`TreeSIter`) by forgetting all of its cursor
but the remembered key (`absIter`); here the tree side (`reseek_spec`, `move_parked`) meets the list side.
-/
namespace Juniper.Proofs.Tree
open Juniper.Model.BTree Juniper.Gen.Tree

variable {K V : Type} {cmp : K → K → Int}

def absIter (it : Iter K) : SIter K :=
  { resume := it.c.pos.map (·.k), fwd := it.fwd, stop := it.stop, done := it.done }

/-- a yielded item agrees with the specification's: equivalent key (the model yields the remembered key
object), exactly the current value -/
def OutRel (cmp : K → K → Int) : Option (K × Option V) → Option (K × V) → Prop
  | none, none => True
  | some (k', v), some e => cmp k' e.1 = 0 ∧ v = some e.2
  | _, _ => False

theorem OutRel.inv {a : Option (K × Option V)} {b : Option (K × V)} (h : OutRel cmp a b) :
    (a = none ∧ b = none) ∨ ∃ k' e, a = some (k', some e.2) ∧ b = some e ∧ cmp k' e.1 = 0 :=
  match a, b, h with
  | none, none, _ => Or.inl ⟨rfl, rfl⟩
  | some (k', _), some e, ⟨hk, rfl⟩ => Or.inr ⟨k', e, rfl, rfl, hk⟩
  | none, some _, h => False.elim h
  | some _, none, h => False.elim h

theorem rawNext_refines (hs : StrictWeak cmp) {t : Tree K V} (hi : Inv cmp t) (fwd : Bool) {c : Cursor K} (hc : CInv t c) :
    (rawNext cmp t fwd c).1.pos.map (·.k) = (sraw cmp (toList t.root) fwd (c.pos.map (·.k))).1 ∧
    OutRel cmp (rawNext cmp t fwd c).2 (sraw cmp (toList t.root) fwd (c.pos.map (·.k))).2 ∧
    CInv t (rawNext cmp t fwd c).1 := by
  rw [rawNext_eq]
  cases hp : c.pos with
  | none => simp [iterReseek, hp, sraw, OutRel, hc]
  | some p =>
    obtain ⟨hgen, ⟨hS, hpos⟩ | ⟨p1, y, up, e, hp1, hl1, ha, hke, hS⟩⟩ := reseek_spec hs hi hc hp fwd
    · simp only [hpos, Option.map_some, sraw, hS, Option.map_none]
      exact ⟨trivial, trivial, hgen, fun _ q hq => by rw [hpos] at hq; cases hq⟩
    · have hmv := move_parked hi ha (iterReseek cmp t fwd c) fwd
      simp only [hp1, Option.map_some, sraw, hS, (move_of_not_lost hp1 hl1 fwd).1, valueAt_of_at hi ha]
      exact ⟨hmv.resume, ⟨hke, rfl⟩, hmv.cinv hgen⟩

/-- stated for the `While` formulation `iterNextW`, which `iterNext_eq_while` equates with the model's `iterNext`; `CInv` is
all that is known of the cursor, whatever `Put`s and `Delete`s happened since the previous call -/
theorem iterNextW_refines (hs : StrictWeak cmp) {t : Tree K V} (hi : Inv cmp t) (it : Iter K) (hc : CInv t it.c) :
    absIter (iterNextW cmp t it).1 = (snext cmp (toList t.root) (absIter it)).1 ∧
    OutRel cmp (iterNextW cmp t it).2 (snext cmp (toList t.root) (absIter it)).2 ∧
    CInv t (iterNextW cmp t it).1.c := by
  obtain ⟨r1, r2, r3⟩ := rawNext_refines hs hi it.fwd hc
  unfold iterNextW snext
  cases hst : it.stop with
  | none =>
    simp only [absIter, hst]
    exact ⟨by simp [r1], r2, r3⟩
  | some s =>
    obtain ⟨op, key⟩ := s
    simp only [absIter, hst]
    cases hd : it.done with
    | true => simp [whileChecksDone, hst, hd, OutRel, hc]
    | false =>
      simp only [whileChecksDone, Bool.false_eq_true, if_false]
      rcases r2.inv with ⟨ho, hso⟩ | ⟨k', e, ho, hso, hk⟩
      · simp [ho, hso, r1, OutRel, r3]
      · -- the model tests the remembered key, the specification the equivalent key of the entry
        have hev := evalOp_congr hs op (c := key) hk
        have hsticky : whileSticky = true := by decide
        cases hb : evalOp op (cmp e.1 key) with
        | true => rw [hb] at hev; simp [ho, hso, whileStops, hev, hb, r1, OutRel, hk, r3]
        | false => rw [hb] at hev; simp [ho, hso, whileStops, hev, hb, r1, OutRel, r3, hsticky]

end Juniper.Proofs.Tree
