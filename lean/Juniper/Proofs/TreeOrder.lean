import Juniper.Proofs.TreeSpec
/-!
# Order facts used by the refinement proofs (C01): `searchNode`'s postcondition, `lowerIdx`, and how a
sorted in-order list constrains the entries around a search position.
-/
namespace Juniper.Proofs.Tree
open Juniper.Model.BTree Juniper.Gen.Tree

variable {K V : Type} {cmp : K → K → Int}

theorem search_bounds (cmp : K → K → Int) (k : K) (kvs : List (K × V)) {i : Nat} {f : Bool}
    (hs : searchNode cmp k kvs = (i, f)) :
    (∀ y ∈ kvs.take i, 0 < cmp k y.1) ∧
    (f = false → StartsAbove cmp k (kvs.drop i)) ∧
    (f = true → ∃ kv, kvs[i]? = some kv ∧ cmp k kv.1 = 0) := by
  induction kvs generalizing i with
  | nil => cases hs; simp [StartsAbove]
  | cons x rest ih =>
    obtain ⟨k', v'⟩ := x
    simp only [searchNode] at hs
    split at hs
    · -- `k` is below this entry: not found, the rest starts here
      rename_i h1
      cases hs
      simp only [searchLess, decide_eq_true_eq] at h1
      simp [StartsAbove, h1]
    · split at hs
      · rename_i h2
        cases hs
        simp only [searchEq, decide_eq_true_eq] at h2
        simp [h2]
      · rename_i h1 h2
        cases hs
        simp only [searchLess, decide_eq_true_eq] at h1
        simp only [searchEq, decide_eq_true_eq] at h2
        obtain ⟨i1, i2, i3⟩ := ih rfl
        refine ⟨fun a ha => ?_, by simpa using i2, by simpa using i3⟩
        rcases List.mem_cons.mp (by simpa using ha) with rfl | ha
        · simp only; omega
        · exact i1 a ha
theorem searchNode_found_lt {k : K} {kvs : List (K × V)} {i : Nat} (hs : searchNode cmp k kvs = (i, true)) :
    i < kvs.length := by
  obtain ⟨kv, hkv, _⟩ := (search_bounds cmp k kvs hs).2.2 rfl
  exact (List.getElem?_eq_some_iff.mp hkv).1

/-- the `for` loops of `insertIntoLeaf` and `newAmalgam1` stop where the entries stop being below the key -/
theorem lowerIdx_lt {p : Int → Bool} (hp : ∀ c, p c = decide (c < 0)) {k : K} {kvs : List (K × V)} {i : Nat}
    (hi : i ≤ kvs.length) (hlo : ∀ a ∈ kvs.take i, 0 < cmp k a.1)
    (hhi : StartsAbove cmp k (kvs.drop i)) : lowerIdx p cmp k kvs = i := by
  induction kvs generalizing i with
  | nil => simp at hi; subst hi; rfl
  | cons x rest ih =>
    obtain ⟨k', v'⟩ := x
    cases i with
    | zero =>
      have := hhi (k', v') (by simp)
      simp [lowerIdx, hp, this]
    | succ i =>
      have h0 : ¬ cmp k k' < 0 := by have := hlo (k', v') (by simp); simp only at this; omega
      simp only [lowerIdx, hp, h0, decide_false, Bool.false_eq_true, if_false, Nat.add_right_cancel_iff]
      exact ih (by simpa using hi) (fun a ha => hlo a (by simp [ha])) (by simpa using hhi)

/-- in a sorted prefix `c₀ ++ kv₀ :: c₁ ++ kv₁ :: …` every entry is at most the last separator, so a key
above all separators is above everything -/
theorem pre_below (hc : StrictWeak cmp) {k : K} {A : List (List (K × V))} {ka : List (K × V)}
    (hs : Sorted cmp (pre A ka)) (hlo : ∀ y ∈ ka, 0 < cmp k y.1) : ∀ a ∈ pre A ka, 0 < cmp k a.1 := by
  induction A generalizing ka with
  | nil => simp
  | cons c cs ih =>
    cases ka with
    | nil => simp
    | cons kv kvs =>
      simp only [pre] at hs ⊢
      have h1 := List.pairwise_append.mp hs
      have h2 := List.pairwise_cons.mp h1.2.1
      have hkv : 0 < cmp k kv.1 := hlo kv List.mem_cons_self
      intro a ha
      simp only [List.mem_append, List.mem_cons] at ha
      rcases ha with ha | rfl | ha
      · have : cmp a.1 kv.1 < 0 := h1.2.2 a ha kv List.mem_cons_self
        exact hc.gt_trans hkv (hc.gt_iff.mpr this)
      · exact hkv
      · exact ih h2.2 (fun y hy => hlo y (List.mem_cons_of_mem _ hy)) a ha

end Juniper.Proofs.Tree
