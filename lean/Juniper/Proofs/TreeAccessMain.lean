import Juniper.Proofs.TreeAccessFinal
import Juniper.Proofs.TreeAccessTerm
/-!
# Access-level model (C01, concurrent clause): the hypotheses of the property, packaged

`ConcHyp`: the hypotheses as the property states them, about the Puts and the readers of `goroutines puts reads`;
`setup_of_hyp` turns them into the `Setup` the invariant proofs use. Besides: what `Range` / `RangeReverse` are as reader
operations (`scanOf_spec`: the rows of the two `switch` tables as `Proofs/TreeRange.lean` reads them for the iterator;
`scanOf_bounds`), the sequential result in terms of the ideal sorted map (`putAll_refines`), the executable race check
(`hasRace_sound`).
-/
namespace Juniper.Proofs.TreeAccess
open Juniper.Gen.Tree Juniper.Model.BTree Juniper.Model.BTreeAccess
open Juniper.Proofs.Tree

variable {K V : Type} {cmp : K → K → Int}

def goroutines (puts : List (K × V)) (reads : List (Op K V)) : List (Op K V) :=
  puts.map (fun p => (.put p.1 p.2 : Op K V)) ++ reads

/-- every key stored in some node object of the tree (for a well-formed tree: the keys of `toList`) -/
def storedKeys : Node K V → List K
  | .mk _ kvs kids => kvs.map (·.1) ++ (kids.map storedKeys).flatten

theorem Sub.key_mem {x y : Node K V} (h : Sub x y) {kv : K × V} (hkv : kv ∈ y.kvs) : kv.1 ∈ storedKeys x := by
  induction h with
  | refl x =>
    obtain ⟨id, kvs, kids⟩ := x
    simp only [storedKeys, List.mem_append, List.mem_map]
    exact Or.inl ⟨kv, hkv, rfl⟩
  | @kid x c y hm _ ih =>
    obtain ⟨id, kvs, kids⟩ := x
    simp only [storedKeys, List.mem_append, List.mem_flatten, List.mem_map]
    exact Or.inr ⟨storedKeys c, ⟨c, hm, rfl⟩, ih hkv⟩

structure ConcHyp (cmp : K → K → Int) (t : Tree K V) (puts : List (K × V)) (reads : List (Op K V)) : Prop where
  /-- the comparator is a strict weak order (the documented contract) -/
  sw : StrictWeak cmp
  /-- node objects are pairwise distinct -/
  nodup : (ids t.root).Nodup
  /-- the Puts go to pairwise inequivalent keys … -/
  distinct : puts.Pairwise fun p q => cmp p.1 q.1 ≠ 0
  /-- … that are already present -/
  present : ∀ p ∈ puts, contains cmp t p.1 = true
  /-- the other goroutines only read: `Get`, `Contains`, `Range` / `RangeReverse` / `Iterate` with any number of `Next` calls -/
  readers : ∀ r ∈ reads, r.isPut = false
  /-- a `Get` / `Contains` asks for a key inequivalent to every Put's key -/
  searchKeys : ∀ r ∈ reads, r.isSearch = true → ∀ p ∈ puts, cmp p.1 r.key ≠ 0
  /-- a range reader: every key stored in the tree that lies inside both of its bounds — the far bound is the
  iterator's in-range predicate `inRangeOf`, the near bound what its seek does not step over, `nearOp`; both are `true`
  for an unbounded end — is inequivalent to every Put's key -/
  rangeKeys : ∀ r ∈ reads, r.isSearch = false → ∀ p ∈ puts, ∀ k' ∈ storedKeys t.root,
    inRangeOf cmp r k' = true → nearOp cmp r k' = true → cmp p.1 k' ≠ 0
  /-- a range reader is one that `Range` / `RangeReverse` build (`scanOf`): it seeks in its own direction -/
  rangeWF : ∀ r ∈ reads, r.isSearch = false → ScanWF r
  /-- with range readers present the tree satisfies the tree invariant (balanced, strictly sorted, `Len` = number of
  entries; every tree reachable from the empty one does: `Proofs.Tree.inv_runMuts`) -/
  rangeInv : (∃ r ∈ reads, r.isSearch = false) → Inv cmp t

/-- `scanOf` with the rows of its two switches given (as `mkIter_eq` for the functional model) -/
theorem scanOf_eq (rev : Bool) (lo hi : Bound K) (n : Nat) {bk bk2 : BoundKind} {sk : SeekKind}
    {arg : Option Side} {sk2 : StopKind}
    (h1 : (pickSide (if rev then rrangeSeek else rangeSeek).1 lo hi).kind = some bk)
    (h2 : (if rev then rrangeSeek else rangeSeek).2.find? (fun r => r.1 == bk) = some (bk, sk, arg))
    (h3 : (pickSide (if rev then rrangeStop else rangeStop).1 lo hi).kind = some bk2)
    (h4 : (if rev then rrangeStop else rangeStop).2.find? (fun r => r.1 == bk2) = some (bk2, sk2)) :
    scanOf (V := V) rev lo hi n = some (match (generalizing := false) sk2 with
      | .all fwd => .scan fwd sk (argKey arg lo hi) none n
      | .while fwd op s => .scan fwd sk (argKey arg lo hi) (some (op, (pickSide s lo hi).key)) n) := by
  unfold scanOf
  simp only [h1, h2, h3, h4]
  cases sk2 <;> cases arg <;> rfl

/-- `Range` (`fwd`) / `RangeReverse` as a reader operation: it seeks in direction `fwd` to the near bound and stops at the
far bound (`stopOf`), as the iterator that `mkIter_spec` describes -/
theorem scanOf_spec (hc : StrictWeak cmp) (fwd : Bool) (lo hi : Bound K) (n : Nat) (hl : lo.kind ≠ none) (hh : hi.kind ≠ none) :
    ∃ sk key, scanOf (V := V) (!fwd) lo hi n = some (.scan fwd sk key (stopOf fwd lo hi) n) ∧ skFwd sk = fwd ∧
      ∀ x, nearOf cmp sk key x = nearFn cmp fwd lo hi x := by
  obtain ⟨lk, hlk⟩ := Option.ne_none_iff_exists'.mp hl
  obtain ⟨hk, hhk⟩ := Option.ne_none_iff_exists'.mp hh
  obtain ⟨sk, arg, hfind, hd, hnear⟩ := seek_row hc fwd lo hi (if fwd then lk else hk) (by cases fwd <;> assumption)
  obtain ⟨sk2, hsf, hsk2⟩ := far_stop fwd lo hi (if fwd then hk else lk) (by cases fwd <;> assumption)
  refine ⟨sk, argKey arg lo hi, ?_, hd, hnear⟩
  rw [scanOf_eq (!fwd) lo hi n (bk := if fwd then lk else hk) (bk2 := if fwd then hk else lk) (by cases fwd <;> assumption)
    (by cases fwd <;> exact hfind) (by cases fwd <;> assumption) (by cases fwd <;> exact hsf)]
  cases sk2 with
  | all f => obtain ⟨rfl, hso⟩ := hsk2; rw [hso]
  | «while» f op s => obtain ⟨rfl, hso⟩ := hsk2; rw [hso]

theorem inRangeOf_scan (fwd : Bool) (sk : SeekKind) (skey : K) (stop : Option (CmpOp × K)) (n : Nat) (k : K) :
    inRangeOf cmp (.scan fwd sk skey stop n : Op K V) k = keepFn cmp stop k := by
  rcases stop with _ | ⟨o, key⟩ <;> rfl

/-- **What `Range(lo, hi)` / `RangeReverse(lo, hi)` are as reader operations, in terms of the bounds**: the two regenerated
`switch` tables make them a range reader that seeks in its own direction and whose far bound (the iterator's in-range
predicate) and near bound (what the seek does not step over) together are exactly `aboveLo lo ∧ belowHi hi` — the
interval of C01's ideal `srange`. -/
theorem scanOf_bounds (hc : StrictWeak cmp) (rev : Bool) (lo hi : Bound K) (n : Nat) (hl : lo.kind ≠ none) (hh : hi.kind ≠ none) :
    ∃ r : Op K V, scanOf rev lo hi n = some r ∧ r.isSearch = false ∧ ScanWF r ∧
      (∀ k, (inRangeOf cmp r k && nearOp cmp r k) = (aboveLo cmp lo k && belowHi cmp hi k)) := by
  obtain ⟨sk, key, hs, hd, hnear⟩ := scanOf_spec (V := V) hc (!rev) lo hi n hl hh
  rw [Bool.not_not] at hs
  refine ⟨_, hs, rfl, hd, fun k => ?_⟩
  rw [inRangeOf_scan, keepFn_stopOf, show nearOp cmp _ k = nearOf cmp sk key k from rfl, hnear, Bool.not_not]
  cases rev
  · exact Bool.and_comm _ _
  · rfl

theorem sub_of_findNode {R y : Node K V} {x : Nat} (h : findNode x R = some y) : Sub R y ∧ y.id = x := by
  obtain ⟨⟨fr, y'⟩, hp, rfl⟩ := Option.map_eq_some_iff.mp h
  obtain ⟨hz, hid⟩ := pathTo_spec x R fr y' hp
  exact ⟨zip_sub _ _ hz, hid⟩

theorem goroutines_get {puts : List (K × V)} {reads : List (Op K V)} {i : Nat} {op : Op K V}
    (h : (goroutines puts reads)[i]? = some op) :
    (∃ p, puts[i]? = some p ∧ op = .put p.1 p.2) ∨ (puts.length ≤ i ∧ op ∈ reads) := by
  unfold goroutines at h
  rw [List.getElem?_append] at h
  simp only [List.length_map] at h
  by_cases hi : i < puts.length
  · simp only [hi, if_true, List.getElem?_map] at h
    obtain ⟨p, hp, he⟩ := Option.map_eq_some_iff.mp h
    exact Or.inl ⟨p, hp, he.symm⟩
  · simp only [hi, if_false] at h
    exact Or.inr ⟨by omega, List.mem_of_getElem? h⟩

theorem goroutines_put_mem {puts : List (K × V)} {reads : List (Op K V)}
    (hr : ∀ r ∈ reads, r.isPut = false) {i : Nat} {k : K} {v : V}
    (h : (goroutines puts reads)[i]? = some (.put k v)) : puts[i]? = some (k, v) := by
  rcases goroutines_get h with ⟨p, hp, he⟩ | ⟨_, hm⟩
  · cases he; exact hp
  · have := hr _ hm; simp [Op.isPut] at this

theorem goroutines_of_put {puts : List (K × V)} {reads : List (Op K V)} {p : K × V} (hp : p ∈ puts) :
    ∃ j : Nat, (goroutines puts reads)[j]? = some (.put p.1 p.2) := by
  obtain ⟨j, hj, he⟩ := List.getElem_of_mem hp
  refine ⟨j, ?_⟩
  unfold goroutines
  rw [List.getElem?_append_left (by simpa using hj), List.getElem?_map, List.getElem?_eq_getElem hj, he]
  rfl

theorem setup_of_hyp {t : Tree K V} {puts : List (K × V)} {reads : List (Op K V)}
    (h : ConcHyp cmp t puts reads) : Setup cmp t (goroutines puts reads) := by
  have hr : ∀ r ∈ reads, r.isPut = false := h.readers
  refine ⟨h.sw, h.nodup, ?_, ?_, ?_, ?_⟩
  · intro i op ho
    refine ⟨?_⟩
    rintro k v rfl
    have hp := goroutines_put_mem hr ho
    have := h.present (k, v) (List.mem_of_getElem? hp)
    rw [slotOf_isSome]; exact this
  · intro i j hij k v o hoi hoj hsr
    have hpi := goroutines_put_mem hr hoi
    obtain ⟨hli, hvi⟩ := List.getElem?_eq_some_iff.mp hpi
    rcases goroutines_get hoj with ⟨q, hq, rfl⟩ | ⟨_, hm⟩
    · obtain ⟨hlj, hvj⟩ := List.getElem?_eq_some_iff.mp hq
      have hpw := List.pairwise_iff_getElem.mp h.distinct
      simp only [Op.key]
      rcases Nat.lt_or_gt_of_ne hij with hlt | hgt
      · have := hpw i j hli hlj hlt
        rw [hvi, hvj] at this; exact this
      · have := hpw j i hlj hli hgt
        rw [hvi, hvj] at this
        exact fun e => this (h.sw.eq_symm e)
    · exact h.searchKeys o hm hsr (k, v) (List.mem_of_getElem? hpi)
  · intro i j hij k v o hoi hoj hns y hy idx hlt hin hnear
    have hpi := goroutines_put_mem hr hoi
    rcases goroutines_get hoj with ⟨q, hq, rfl⟩ | ⟨_, hm⟩
    · simp [Op.isSearch] at hns
    · exact h.rangeKeys o hm hns (k, v) (List.mem_of_getElem? hpi) _ (hy.key_mem (List.getElem_mem hlt)) hin hnear
  · intro i op ho hns
    rcases goroutines_get ho with ⟨q, hq, rfl⟩ | ⟨_, hm⟩
    · simp [Op.isSearch] at hns
    · exact ⟨h.rangeWF op hm hns, h.rangeInv ⟨op, hm, hns⟩⟩

theorem putAll_refines (hc : StrictWeak cmp) : ∀ (ps : List (K × V)) (t t' : Tree K V), WF cmp t →
    putAll cmp t ps = some t' →
      WF cmp t' ∧ toList t'.root = ps.foldl (fun l p => sput cmp p.1 p.2 l) (toList t.root) := by
  intro ps
  induction ps with
  | nil => intro t t' hw h; simp only [putAll, Option.some.injEq] at h; subst h; exact ⟨hw, rfl⟩
  | cons p ps ih =>
    intro t t' hw h
    obtain ⟨t1, h1, hw1, hl1, -⟩ := put_refines_wf hc t p.1 p.2 hw
    simp only [putAll, h1, Option.bind_some] at h
    obtain ⟨hw', hl'⟩ := ih t1 t' hw1 h
    exact ⟨hw', by rw [hl', hl1]; rfl⟩

theorem hasRace_sound {c : Config K V} (h : hasRace c = true) : Race c := by
  unfold hasRace at h
  simp only [List.any_eq_true, List.mem_range, Bool.and_eq_true, Bool.not_eq_true', beq_eq_false_iff_ne, ne_eq] at h
  obtain ⟨i, _, j, _, hij, hm⟩ := h
  cases ha : (c.pcs[i]?).bind accessOf with
  | none => rw [ha] at hm; cases hm
  | some a =>
    cases hb : (c.pcs[j]?).bind accessOf with
    | none => rw [ha, hb] at hm; cases hm
    | some b =>
      rw [ha, hb] at hm
      exact ⟨i, j, a, b, hij, ha, hb, hm⟩

theorem race_of_sched {ops : List (Op K V)} {c0 : Config K V} (sched : List Nat)
    (h : (runSched cmp ops c0 sched).any hasRace = true) : ∃ c, Reach cmp ops c0 c ∧ Race c :=
  have ⟨c, hc, hr⟩ := (Option.any_eq_true _ _).mp h
  ⟨c, reach_of_sched _ _ c hc, hasRace_sound hr⟩

theorem exists_of_any_decide {α : Type} {o : Option α} {P : α → Prop} [DecidablePred P]
    (h : o.any (fun a => decide (P a)) = true) : ∃ a, o = some a ∧ P a :=
  have ⟨a, ha, hp⟩ := (Option.any_eq_true _ _).mp h
  ⟨a, ha, of_decide_eq_true hp⟩

theorem scanOf_kinds {rev : Bool} {lo hi : Bound K} {n : Nat} {r : Op K V} (h : scanOf rev lo hi n = some r) :
    lo.kind ≠ none ∧ hi.kind ≠ none := by
  -- with a kind `none` every branch of `scanOf` is `none`
  refine ⟨fun hk => ?_, fun hk => ?_⟩ <;> cases rev <;>
    simp only [scanOf, rangeSeek, rangeStop, rrangeSeek, rrangeStop, pickSide, hk, Bool.false_eq_true, if_false,
      if_true] at h
  all_goals (repeat' split at h) <;> cases h

theorem concHyp_of_bounds {t : Tree K V} {puts : List (K × V)} {bounds : List (Bool × Bound K × Bound K × Nat)}
    {reads : List (Op K V)} (hb : bounds.map (fun b => scanOf b.1 b.2.1 b.2.2.1 b.2.2.2) = reads.map some)
    (hsw : StrictWeak cmp) (hinv : Inv cmp t) (hd : puts.Pairwise fun p q => cmp p.1 q.1 ≠ 0)
    (hp : ∀ p ∈ puts, contains cmp t p.1 = true)
    (hk : ∀ b ∈ bounds, ∀ p ∈ puts, ∀ k' ∈ storedKeys t.root,
      aboveLo cmp b.2.1 k' = true → belowHi cmp b.2.2.1 k' = true → cmp p.1 k' ≠ 0) :
    ConcHyp cmp t puts reads := by
  -- every reader is what `scanOf` makes of some bounds
  have hfacts : ∀ r ∈ reads, r.isSearch = false ∧ ScanWF r ∧
      ∃ b ∈ bounds, ∀ k, (inRangeOf cmp r k && nearOp cmp r k) = (aboveLo cmp b.2.1 k && belowHi cmp b.2.2.1 k) := by
    intro r hr
    have hmem : some r ∈ reads.map some := List.mem_map.mpr ⟨r, hr, rfl⟩
    rw [← hb] at hmem
    obtain ⟨b, hbm, hbe⟩ := List.mem_map.mp hmem
    obtain ⟨hl, hh⟩ := scanOf_kinds hbe
    obtain ⟨r', hr', h1, h2, h3⟩ := scanOf_bounds hsw b.1 b.2.1 b.2.2.1 b.2.2.2 hl hh
    cases hbe.symm.trans hr'
    exact ⟨h1, h2, b, hbm, h3⟩
  refine ⟨hsw, hinv.ids.1, hd, hp, fun r hm' => Op.isPut_of_not_search (hfacts r hm').1,
    fun r hm' hs' => absurd hs' (by rw [(hfacts r hm').1]; decide),
    ?_, fun r hm' _ => (hfacts r hm').2.1, fun _ => hinv⟩
  intro r hm' _ p hpm k' hk' hin hnear
  obtain ⟨_, _, b, hbm, hbk⟩ := hfacts r hm'
  have := hbk k'
  rw [hin, hnear] at this
  simp only [Bool.and_self, Bool.true_eq, Bool.and_eq_true] at this
  exact hk b hbm p hpm k' hk' this.1 this.2

end Juniper.Proofs.TreeAccess
