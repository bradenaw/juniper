import Juniper.Proofs.TreeSeek
import Juniper.Proofs.TreeSkel
/-!
# Iterators while the tree is modified between `Next` calls (C02)

`CInv t c` is what survives arbitrary `Put`/`Delete`s between two `Next` calls of a cursor;
`reseek_spec` says that the re-seek at the top of `Next` leaves the cursor, on the *current* tree, on the first
entry at or beyond the remembered key in the iterator's direction (`ahead`), not lost.
-/
namespace Juniper.Proofs.Tree
open Juniper.Model.BTree Juniper.Gen.Tree

variable {K V : Type} {cmp : K → K → Int}

/-- what holds between a tree and a cursor parked in it, however the tree was modified since: the
cursor's generation is not from the future, and while it is current the remembered position is exact -/
structure CInv (t : Tree K V) (c : Cursor K) : Prop where
  genLe : c.gen ≤ t.gen
  cur : c.gen = t.gen → ∀ p, c.pos = some p → ∃ y up e, At t.root p y up e ∧ p.k = e.1

/-- a structural change bumps the generation: the invariant then holds for every older cursor -/
theorem cinv_of_gen_succ {t t' : Tree K V} {c : Cursor K} (hc : CInv t c) (h : t'.gen = t.gen + 1) : CInv t' c :=
  ⟨by have := hc.genLe; omega, fun hg => by have := hc.genLe; omega⟩

theorem cinv_put (cmp : K → K → Int) {t t' : Tree K V} (hi : Inv cmp t) {c : Cursor K} (hc : CInv t c) {k : K} {v : V}
    (hp : put cmp t k v = some t') : CInv t' c := by
  rcases put_cases hi.wf.bal hp with ⟨r, rfl, hsk⟩ | ⟨hg, _⟩
  · obtain ⟨_, _, hone, _⟩ := inv_facts hi
    refine ⟨hc.genLe, fun hg p hpos => ?_⟩
    obtain ⟨y, up, e, ha, hk⟩ := hc.cur hg p hpos
    obtain ⟨y', up', e', ha', he'⟩ := at_of_skel (root' := r) hsk.symm hone ha
    exact ⟨y', up', e', ha', by rw [he', hk]⟩
  · exact cinv_of_gen_succ hc hg

theorem cinv_delete (cmp : K → K → Int) {t t' : Tree K V} {c : Cursor K} (hc : CInv t c) {k : K}
    (hp : delete cmp t k = some t') : CInv t' c := by
  have hbg : deleteBumpsGen = true := by decide
  unfold delete at hp
  cases hres : del cmp k t.root.id t.root with
  | absent => rw [hres] at hp; simp only [deleteMissReturnsFirst, if_true, Option.some.injEq] at hp; subst hp; exact hc
  | crash => rw [hres] at hp; cases hp
  | done r u =>
    rw [hres] at hp; simp only [Option.some.injEq] at hp; subst hp
    exact cinv_of_gen_succ hc (by simp only [bump, hbg, if_true])

theorem cinv_applyMut {t t' : Tree K V} (hi : Inv cmp t) {c : Cursor K} (hc : CInv t c) {m : Mut K V}
    (h : applyMut cmp t m = some t') : CInv t' c := by
  cases m with
  | put k v => exact cinv_put cmp hi hc h
  | del k => exact cinv_delete cmp hc h

theorem parked_of_not_lost (hs : StrictWeak cmp) {t : Tree K V} {c : Cursor K} (hc : CInv t c) {p : Pos K}
    (hp : c.pos = some p) (hl : lostAt cmp t c = false) :
    ∃ y up e, At t.root p y up e ∧ cmp p.k e.1 = 0 := by
  by_cases hg : c.gen = t.gen
  · obtain ⟨y, up, e, ha, hk⟩ := hc.cur hg p hp
    exact ⟨y, up, e, ha, by rw [hk]; exact hs.refl _⟩
  · -- stale generation: `lost()` has checked the node, the index and the key
    have hg' : ¬ ((c.gen : Int) = (t.gen : Int)) := by omega
    simp only [lostAt, hp] at hl
    cases hpt : pathTo p.id t.root with
    | none => simp [findNode, hpt, lost, hg'] at hl
    | some r =>
      obtain ⟨fr, x⟩ := r
      obtain ⟨hz, hid⟩ := pathTo_spec p.id t.root fr x hpt
      simp only [findNode, hpt, Option.map_some] at hl
      cases hkv : x.kvs[p.i]? with
      | none =>
        have := List.getElem?_eq_none_iff.mp hkv
        simp [hkv, lost, hg', Node.n] at hl; omega
      | some kv =>
        simp only [hkv, lost, hg', decide_false, Bool.not_false, Bool.true_and, Bool.or_eq_false_iff, Bool.not_eq_false',
          decide_eq_true_eq] at hl
        exact ⟨x, fr.reverse, kv, ⟨hz, hid, hkv⟩, hl.2⟩

theorem Parked.cinv {fwd : Bool} {t : Tree K V} {c : Cursor K} {S : List (K × V)} (h : Parked fwd t c S)
    (hle : c.gen ≤ t.gen) : CInv t c :=
  ⟨hle, fun _ _ hp => h.at hp⟩

theorem ahead_of_at (hs : StrictWeak cmp) {t : Tree K V} (hi : Inv cmp t) {p : Pos K} {y : Node K V}
    {up : List (Node K V × Nat)} {e : K × V} (ha : At t.root p y up e) {k : K} (hke : cmp k e.1 = 0) (fwd : Bool) :
    ahead cmp (toList t.root) fwd k = e :: aheadOf fwd up y p.i := by
  obtain ⟨h, hb, _, hsort⟩ := inv_facts hi
  rw [at_toList hb ha] at hsort
  obtain ⟨hbef, haft⟩ := split_bounds hs hsort hke
  have hB : ∀ b ∈ behindOf fwd up y p.i, decide (0 < dcmp cmp fwd k b.1) = true := by
    cases fwd
    · exact fun b hb' => decide_eq_true ((hs.anti _ _).mp (haft b (List.mem_reverse.mp hb')))
    · exact fun b hb' => decide_eq_true (hbef b hb')
  have he : ¬ 0 < dcmp cmp fwd k e.1 := by
    have := hs.eq_symm hke
    cases fwd <;> simp only [dcmp, if_true, Bool.false_eq_true, if_false] <;> omega
  rw [ahead_eq hs, dlist_split hb ha fwd, List.dropWhile_append_of_pos hB, List.dropWhile_cons, decide_eq_false he]
  rfl

theorem reseek_spec (hs : StrictWeak cmp) {t : Tree K V} (hi : Inv cmp t) {c : Cursor K} (hc : CInv t c) {p : Pos K}
    (hp : c.pos = some p) (fwd : Bool) :
    (iterReseek cmp t fwd c).gen ≤ t.gen ∧
    ((ahead cmp (toList t.root) fwd p.k = [] ∧ (iterReseek cmp t fwd c).pos = none) ∨
     ∃ p1 y up e, (iterReseek cmp t fwd c).pos = some p1 ∧ lostAt cmp t (iterReseek cmp t fwd c) = false ∧
       At t.root p1 y up e ∧ cmp p1.k e.1 = 0 ∧ ahead cmp (toList t.root) fwd p.k = e :: aheadOf fwd up y p1.i) := by
  cases hl : lostAt cmp t c with
  | true =>
    -- lost: re-seek by key
    have hre : iterReseek cmp t fwd c =
        seekWith (if fwd then seekFirstGreaterOrEqualStep else seekLastLessOrEqualStep) fwd cmp t c p.k := by
      cases fwd <;> simp [iterReseek, hp, hl] <;> rfl
    have hrun : Run fwd t (iterReseek cmp t fwd c) (ahead cmp (toList t.root) fwd p.k) := by
      rw [hre]; cases fwd
      · exact seekLE_run hs hi c p.k
      · exact seekGE_run hs hi c p.k
    have hgen : (iterReseek cmp t fwd c).gen ≤ t.gen := by
      rw [hre]; exact seekWith_gen_le _ fwd cmp t c p.k hc.genLe
    rcases run_iff.mp hrun with h | ⟨hg, p1, y, up, e, hp1, ha, hk, hS⟩
    · exact ⟨hgen, Or.inl h⟩
    · exact ⟨hgen, Or.inr ⟨p1, y, up, e, hp1, lostAt_of_gen_eq cmp t _ hg, ha, by rw [hk]; exact hs.refl _, hS⟩⟩
  | false =>
    -- not lost: the remembered position is still right
    have hre : iterReseek cmp t fwd c = c := by simp [iterReseek, hp, hl]
    obtain ⟨y, up, e, ha, hke⟩ := parked_of_not_lost hs hc hp hl
    rw [hre]
    exact ⟨hc.genLe, Or.inr ⟨p, y, up, e, hp, hl, ha, hke, ahead_of_at hs hi ha hke fwd⟩⟩

end Juniper.Proofs.Tree
