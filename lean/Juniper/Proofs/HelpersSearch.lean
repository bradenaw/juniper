import Juniper.Proofs.HelpersBasic
import Juniper.Model.HelpersSort
namespace Juniper.Proofs.Helpers
open Juniper.Model.Helpers Juniper.Spec.Helpers Juniper.Gen.Helpers
variable {α : Type}

theorem sortSearch_spec (pred : Int → Bool) (n : Nat)
    (hmono : ∀ a b : Nat, a ≤ b → b < n → pred (a : Int) = true → pred (b : Int) = true) :
    ∀ (fuel i j : Nat), i ≤ j → j ≤ n → j - i ≤ fuel →
      (∀ p : Nat, p < i → pred (p : Int) = false) →
      (∀ p : Nat, j ≤ p → p < n → pred (p : Int) = true) →
      ∃ r : Nat, sortSearch pred fuel (i : Int) (j : Int) = (r : Int) ∧ i ≤ r ∧ r ≤ j ∧
        (∀ p : Nat, p < r → pred (p : Int) = false) ∧
        (∀ p : Nat, r ≤ p → p < n → pred (p : Int) = true) := by
  intro fuel
  induction fuel with
  | zero =>
    intro i j hij hjn hf hlo hhi
    have : i = j := by omega
    subst this
    exact ⟨i, by simp [sortSearch], Nat.le_refl _, Nat.le_refl _, hlo, hhi⟩
  | succ fuel ih =>
    intro i j hij hjn hf hlo hhi
    unfold sortSearch
    by_cases hlt : (i : Int) < (j : Int)
    · simp only [hlt, if_true]
      have hh : ((i : Int) + (j : Int)) / 2 = (((i + j) / 2 : Nat) : Int) := by omega
      rw [hh]
      generalize hm : (i + j) / 2 = m
      have hm1 : i ≤ m := by omega
      have hm2 : m < j := by omega
      cases hp : pred (m : Int) with
      | false =>
        simp only [Bool.not_false, if_true]
        have hcast : (m : Int) + 1 = ((m + 1 : Nat) : Int) := by omega
        rw [hcast]
        have hlo' : ∀ p : Nat, p < m + 1 → pred (p : Int) = false := fun p hpm =>
          Bool.eq_false_iff.mpr fun hpp => Bool.false_ne_true (hp.symm.trans (hmono p m (by omega) (by omega) hpp))
        obtain ⟨r, hr, h1, h2, h3, h4⟩ := ih (m + 1) j (by omega) hjn (by omega) hlo' hhi
        exact ⟨r, hr, by omega, h2, h3, h4⟩
      | true =>
        simp only [Bool.not_true]
        have hhi' : ∀ p : Nat, m ≤ p → p < n → pred (p : Int) = true := fun p hmp hpn => hmono m p hmp hpn hp
        obtain ⟨r, hr, h1, h2, h3, h4⟩ := ih i m hm1 (by omega) (by omega) hlo hhi'
        exact ⟨r, by simpa using hr, h1, by omega, h3, h4⟩
    · have : i = j := by omega
      subst this
      simp only [hlt, if_false]
      exact ⟨i, rfl, Nat.le_refl _, Nat.le_refl _, hlo, hhi⟩

theorem searchPredAt_eq (less : α → α → Bool) (hw : StrictWeak less) (x : List α) (item : α)
    (p : Nat) (hp : p < x.length) :
    searchPredAt less x item (p : Int) = !less x[p] item := by
  unfold searchPredAt
  rw [getI_of_lt x p hp]
  simp only [searchPred]
  cases h1 : less item x[p] with
  | false => simp
  | true => simp [sw_asymm hw h1]

theorem search_lower_bound (less : α → α → Bool) (hw : StrictWeak less) (x : List α) (hs : SortedBy less x) (item : α) :
    ∃ r : Nat, search less x item = (r : Int) ∧ r ≤ x.length ∧
      (∀ a ∈ x.take r, less a item = true) ∧ (∀ a ∈ x.drop r, less a item = false) := by
  have hmono : ∀ a b : Nat, a ≤ b → b < x.length →
      searchPredAt less x item (a : Int) = true → searchPredAt less x item (b : Int) = true := by
    intro a b hab hb hpa
    have ha : a < x.length := Nat.lt_of_le_of_lt hab hb
    rw [searchPredAt_eq less hw x item a ha] at hpa
    rw [searchPredAt_eq less hw x item b hb]
    by_cases hEq : a = b
    · subst hEq; exact hpa
    · have hsorted : less (x[b]'hb) (x[a]'ha) = false :=
        List.pairwise_iff_getElem.mp hs a b ha hb (Nat.lt_of_le_of_ne hab hEq)
      have ha' : less (x[a]'ha) item = false := by simpa using hpa
      rw [hw.negTrans _ _ _ hsorted ha']
      rfl
  obtain ⟨r, hr, _, h2, h3, h4⟩ :=
    sortSearch_spec (searchPredAt less x item) x.length hmono (x.length + 1) 0 x.length
      (by omega) (Nat.le_refl _) (by omega) (by intro p hp; omega) (by intro p h1 h2; omega)
  refine ⟨r, ?_, h2, forall_mem_take_drop x r (fun p a hp hpr => ?_) (fun p a hp hrp => ?_)⟩
  · unfold search searchN
    simpa using hr
  · obtain ⟨hpx, rfl⟩ := List.getElem?_eq_some_iff.mp hp
    simpa [searchPredAt_eq less hw x item p hpx] using h3 p hpr
  · obtain ⟨hpx, rfl⟩ := List.getElem?_eq_some_iff.mp hp
    simpa [searchPredAt_eq less hw x item p hpx] using h4 p hrp hpx

end Juniper.Proofs.Helpers
