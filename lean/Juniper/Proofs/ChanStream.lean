import Juniper.Model.ChanStream
import Juniper.Proofs.LTS
/-! Invariant of the `stream.Chan` LTS: what was delivered plus what is buffered is exactly what the
channel accepted, in order; the end is reported only for a closed, empty channel. -/
namespace Juniper.Proofs.ChanStream
open Juniper.Facts Juniper.Gen.Pipe Juniper.Model.ChanStream

/-- `step st l = some st'`, branch by branch: what the branch requires of `st` and the state it yields. -/
inductive Step (st : State) : Label → State → Prop
  | put (v : Int) : st.closed = false → st.buf.length < st.cap →
      Step st (.put v) { st with buf := st.buf ++ [v], puts := st.puts ++ [v] }
  | handOver (v : Int) : st.closed = false → st.cap = 0 → st.parked = true →
      Step st (.put v) { st with parked := false, puts := st.puts ++ [v], delivered := st.delivered ++ [v] }
  | close : st.closed = false → Step st .close { st with closed := true }
  | startNext (c : Bool) : st.parked = false → Step st (.startNext c) { st with parked := true, rctx := c }
  | cancelNext : st.parked = true → Step st .cancelNext { st with rctx := true }
  | recv (v : Int) (rest : List Int) : st.parked = true → st.buf = v :: rest →
      Step st (.arm (.recv chData)) { st with buf := rest, delivered := st.delivered ++ [v], parked := false }
  | recvEnd : st.parked = true → st.buf = [] → st.closed = true →
      Step st (.arm (.recv chData)) { st with parked := false, endReported := true }
  | ctx : st.parked = true → st.rctx = true → Step st (.arm (.recv chCtx)) { st with parked := false }

theorem step_sound {st st' : State} {l : Label} (h : step st l = some st') : Step st l st' := by
  revert h
  -- `fun_cases` follows the branches of `step`: those that return `none` go by `cases h`, which in the others puts the
  -- successor state in; what remains comes in the order of the constructors of `Step`
  fun_cases step st l <;> intro h <;> cases h
  · exact .put _ (Bool.eq_false_iff.2 ‹_›) ‹_›
  · rename_i hc _ hh
    have hp := hh.2
    simp only [accepts, Bool.and_eq_true] at hp
    exact .handOver _ (Bool.eq_false_iff.2 hc) hh.1 hp.1
  · exact .close (Bool.eq_false_iff.2 ‹_›)
  · exact .startNext _ (Bool.eq_false_iff.2 ‹_›)
  · exact .cancelNext ‹_›
  · rename_i hch _ _ hb hpa
    obtain rfl := beq_iff_eq.mp hch
    exact .recv _ _ hpa.1 hb
  · rename_i hch hb hcl hpa
    obtain rfl := beq_iff_eq.mp hch
    exact .recvEnd hpa.1 hb hcl
  · rename_i _ hch hr hpa
    obtain rfl := beq_iff_eq.mp hch
    exact .ctx hpa.1 hr

structure Inv (st : State) : Prop where
  capOK : st.buf.length ≤ st.cap
  fifo : st.delivered ++ st.buf = st.puts
  fin : st.endReported = true → st.closed = true ∧ st.buf = []

theorem inv_step {st st' : State} {l : Label} (h : Inv st) (hs : Step st l st') : Inv st' := by
  cases hs with
  | put v hcl hlt =>
    exact {
      capOK := by simp only [List.length_append, List.length_singleton]; omega
      fifo := by simp [← h.fifo]
      fin := fun he => nomatch hcl.symm.trans (h.fin he).1 }
  | handOver v hcl hcap =>
    have hb : st.buf = [] := List.eq_nil_of_length_eq_zero (Nat.le_zero.1 (hcap ▸ h.capOK))
    exact { h with
      fifo := by have := h.fifo; rw [hb] at this ⊢; simpa using this
      fin := fun he => nomatch hcl.symm.trans (h.fin he).1 }
  | close => exact { h with fin := fun he => ⟨rfl, (h.fin he).2⟩ }
  | recv v rest _ hb =>
    have hc := h.capOK
    have hf := h.fifo
    rw [hb] at hc hf
    exact {
      capOK := Nat.le_of_succ_le hc
      fifo := by simpa using hf
      fin := fun he => nomatch hb.symm.trans (h.fin he).2 }
  | recvEnd _ hb hcl => exact { h with fin := fun _ => ⟨hcl, hb⟩ }
  | _ => exact { h with }

theorem inv_reach {c : Nat} {st : State} (hr : Reach (init c) st) : Inv st := by
  induction hr with
  | refl => constructor <;> simp [init]
  | step _ hs ih => exact inv_step ih (step_sound hs)

theorem isRun : LTS.IsRun step run :=
  ⟨fun _ => rfl, fun st l ls => by simp only [run]; cases step st l <;> rfl⟩

theorem reach_of_run {s0 st : State} {ls : List Label} (h : run s0 ls = some st) : Reach s0 st :=
  isRun.reach .step .refl h

end Juniper.Proofs.ChanStream
