import Juniper.Proofs.TreeSIter
/-!
# The clauses of C02 on the resume-key iterator of the specification

First for one `snext` call (or two consecutive ones) on whatever sorted contents, then along any sequence of calls
on changing contents (`Views`). No tree and no script occurs here. `Props/C02.lean` restates each clause under the
wording of the property.
-/
namespace Juniper.Proofs.Tree
open Juniper.Model.BTree Juniper.Gen.Tree

variable {K V : Type} {cmp : K → K → Int}

theorem sraw_none (hs : StrictWeak cmp) {L : List (K × V)} {fwd : Bool} {r0 r : Option K}
    (h : sraw cmp L fwd r0 = (r, none)) : r = none ∧ ∀ k, r0 = some k → ∀ x ∈ L, 0 < dcmp cmp fwd k x.1 := by
  cases r0 with
  | none => cases h; exact ⟨rfl, fun k hk => by cases hk⟩
  | some k =>
    obtain ⟨B, h1, h2, _⟩ := ahead_split hs L fwd k
    simp only [sraw] at h
    cases hS : ahead cmp L fwd k with
    | nil =>
      rw [hS] at h h1
      simp only [Prod.mk.injEq, and_true] at h
      refine ⟨h.symm, fun k' hk' x hx => ?_⟩
      cases hk'
      rw [List.append_nil] at h1
      exact h2 x (by rw [← h1]; exact mem_dlist.mpr hx)
    | cons e S' => rw [hS] at h; simp at h

theorem sraw_some (hs : StrictWeak cmp) {L : List (K × V)} (hL : Sorted cmp L) {fwd : Bool} {r0 r : Option K} {e : K × V}
    (h : sraw cmp L fwd r0 = (r, some e)) :
    ∃ k, r0 = some k ∧ e ∈ L ∧ dcmp cmp fwd k e.1 ≤ 0 ∧
    (∀ x ∈ L, dcmp cmp fwd k x.1 ≤ 0 → x = e ∨ dcmp cmp fwd e.1 x.1 < 0) ∧
    (∀ s, r = some s → dcmp cmp fwd e.1 s < 0) ∧
    (∀ x ∈ L, dcmp cmp fwd e.1 x.1 < 0 → ∃ s, r = some s ∧ dcmp cmp fwd s x.1 ≤ 0) := by
  cases r0 with
  | none => cases h
  | some k =>
  refine ⟨k, rfl, ?_⟩
  have hd := dcmp_strictWeak hs fwd
  have hDs := dlist_sorted hL fwd
  obtain ⟨B, h1, h2, h3⟩ := ahead_split hs L fwd k
  simp only [sraw] at h
  cases hS : ahead cmp L fwd k with
  | nil => rw [hS] at h; simp at h
  | cons e' S' =>
    rw [hS] at h h1 h3
    simp only [Prod.mk.injEq, Option.some.injEq] at h
    obtain ⟨hr, rfl⟩ := h
    have hmem : ∀ x, x ∈ L ↔ x ∈ B ∨ x = e' ∨ x ∈ S' := by
      intro x; rw [← mem_dlist (fwd := fwd), h1]; simp
    rw [h1] at hDs
    have hp1 := List.pairwise_append.mp hDs
    have hp2 := List.pairwise_cons.mp hp1.2.1
    have hnb : ∀ x, x ∈ B ∨ x = e' → ¬ dcmp cmp fwd e'.1 x.1 < 0 := by
      rintro x (hb | rfl)
      · have := (hd.anti x.1 e'.1).mp (hp1.2.2 x hb e' List.mem_cons_self); omega
      · have := hd.refl x.1; omega
    refine ⟨(hmem e').mpr (Or.inr (Or.inl rfl)), h3 e' rfl, ?_, ?_, ?_⟩
    · intro x hx hkx
      rcases (hmem x).mp hx with hb | rfl | hs'
      · have := h2 x hb; omega
      · left; rfl
      · right; exact hp2.1 x hs'
    · intro s hrs
      cases S' with
      | nil => rw [hrs] at hr; cases hr
      | cons s' S'' =>
        rw [hrs] at hr
        simp only [List.head?_cons, Option.map_some, Option.some.injEq] at hr
        subst hr
        exact hp2.1 s' List.mem_cons_self
    · intro x hx hlt
      rcases (hmem x).mp hx with hb | rfl | hs'
      · exact absurd hlt (hnb x (Or.inl hb))
      · exact absurd hlt (hnb x (Or.inr rfl))
      · cases S' with
        | nil => cases hs'
        | cons s' S'' =>
          refine ⟨s'.1, hr.symm, ?_⟩
          rcases List.mem_cons.mp hs' with rfl | hs'
          · have := hd.refl x.1; omega
          · have := (List.pairwise_cons.mp hp2.2).1 x hs'; omega

theorem snext_cases (cmp : K → K → Int) (L : List (K × V)) (it : SIter K) :
    (it.stop ≠ none ∧ it.done = true ∧ snext cmp L it = (it, none)) ∨
    ((it.stop = none ∨ it.done = false) ∧
      ((∃ r, sraw cmp L it.fwd it.resume = (r, none) ∧ snext cmp L it = ({ it with resume := r }, none)) ∨
       (∃ r e, sraw cmp L it.fwd it.resume = (r, some e) ∧ keepFn cmp it.stop e.1 = true ∧
          snext cmp L it = ({ it with resume := r }, some e)) ∨
       (∃ r e, sraw cmp L it.fwd it.resume = (r, some e) ∧ keepFn cmp it.stop e.1 = false ∧ it.stop ≠ none ∧
          snext cmp L it = ({ it with resume := r, done := true }, none)))) := by
  unfold snext
  cases hst : it.stop with
  | none =>
    right
    refine ⟨Or.inl rfl, ?_⟩
    rcases hr : sraw cmp L it.fwd it.resume with ⟨r, o⟩
    cases o with
    | none => left; exact ⟨r, rfl, by simp⟩
    | some e => right; left; exact ⟨r, e, rfl, by simp [keepFn], by simp⟩
  | some s =>
    obtain ⟨op, key⟩ := s
    cases hd : it.done with
    | true => left; exact ⟨by simp, rfl, by simp⟩
    | false =>
      right
      refine ⟨Or.inr rfl, ?_⟩
      rcases hr : sraw cmp L it.fwd it.resume with ⟨r, o⟩
      cases o with
      | none => left; exact ⟨r, rfl, by simp⟩
      | some e =>
        cases hk : evalOp op (cmp e.1 key) with
        | true => right; left; exact ⟨r, e, rfl, by simp [keepFn, hk], by simp [hk]⟩
        | false => right; right; exact ⟨r, e, rfl, by simp [keepFn, hk], by simp, by simp [hk]⟩

theorem snext_meta (cmp : K → K → Int) (L : List (K × V)) (it : SIter K) :
    (snext cmp L it).1.fwd = it.fwd ∧ (snext cmp L it).1.stop = it.stop := by
  rcases snext_cases cmp L it with ⟨_, _, g⟩ | ⟨_, ⟨r, _, g⟩ | ⟨r, e, _, _, g⟩ | ⟨r, e, _, _, _, g⟩⟩ <;>
    rw [g] <;> exact ⟨rfl, rfl⟩

theorem snext_some {L : List (K × V)} {it it' : SIter K} {e : K × V} (h : snext cmp L it = (it', some e)) :
    (it.stop = none ∨ it.done = false) ∧ keepFn cmp it.stop e.1 = true ∧ it' = { it with resume := it'.resume } ∧
    sraw cmp L it.fwd it.resume = (it'.resume, some e) := by
  rcases snext_cases cmp L it with ⟨_, _, h1⟩ | ⟨hnd, ⟨r, _, h1⟩ | ⟨r, e', h0, hk, h1⟩ | ⟨r, e', _, _, _, h1⟩⟩ <;>
    rw [h1] at h <;> cases h
  exact ⟨hnd, hk, rfl, h0⟩

theorem snext_yield_present (hs : StrictWeak cmp) {L : List (K × V)} (hL : Sorted cmp L) {it it' : SIter K} {e : K × V}
    (h : snext cmp L it = (it', some e)) : e ∈ L ∧ keepFn cmp it.stop e.1 = true := by
  obtain ⟨_, hk, _, h0⟩ := snext_some h
  obtain ⟨_, _, hmem, _⟩ := sraw_some hs hL h0
  exact ⟨hmem, hk⟩

theorem snext_exhaustion_sticky (hs : StrictWeak cmp) {L : List (K × V)} {it it' : SIter K}
    (h : snext cmp L it = (it', none)) (L' : List (K × V)) : snext cmp L' it' = (it', none) := by
  have hnone : ∀ it0 : SIter K, it0.resume = none → snext cmp L' it0 = (it0, none) := by
    intro it0 hr
    obtain ⟨r0, f0, s0, d0⟩ := it0
    simp only at hr; subst hr
    unfold snext
    cases s0 with
    | none => simp [sraw]
    | some s => obtain ⟨op, key⟩ := s; cases d0 <;> simp [sraw]
  have hdone : ∀ it0 : SIter K, it0.stop ≠ none → it0.done = true → snext cmp L' it0 = (it0, none) := by
    intro it0 hst hd
    unfold snext
    cases hs0 : it0.stop with
    | none => exact absurd hs0 hst
    | some s => obtain ⟨op, key⟩ := s; simp [hd]
  rcases snext_cases cmp L it with ⟨h0, h2, h1⟩ | ⟨_, ⟨r, h0, h1⟩ | ⟨r, e', _, _, h1⟩ | ⟨r, e', _, _, hst, h1⟩⟩ <;>
    rw [h1] at h <;> cases h
  · exact hdone it h0 h2
  · exact hnone _ (sraw_none hs h0).1
  · exact hdone _ hst rfl

theorem snext_strict_monotone (hs : StrictWeak cmp) {L1 L2 : List (K × V)} (h1 : Sorted cmp L1) (h2 : Sorted cmp L2)
    {it it1 it2 : SIter K} {e1 e2 : K × V}
    (hn1 : snext cmp L1 it = (it1, some e1)) (hn2 : snext cmp L2 it1 = (it2, some e2)) :
    dcmp cmp it.fwd e1.1 e2.1 < 0 := by
  have hd := dcmp_strictWeak hs it.fwd
  obtain ⟨_, _, hit1, g1⟩ := snext_some hn1
  obtain ⟨_, _, _, g2⟩ := snext_some hn2
  have hf : it1.fwd = it.fwd := by rw [hit1]
  rw [hf] at g2
  -- the first call resumes from the successor `s` of `e1`, the second yields the least entry at or beyond `s`
  obtain ⟨_, _, _, _, _, hsucc, _⟩ := sraw_some hs h1 g1
  obtain ⟨s, hres, _, hle, _⟩ := sraw_some hs h2 g2
  exact hd.lt_of_lt_of_le (hsucc s hres) hle

/-- the iterator has not moved past `x` yet -/
def Owes (cmp : K → K → Int) (it : SIter K) (x : K) : Prop :=
  (it.stop = none ∨ it.done = false) ∧ ∃ k, it.resume = some k ∧ dcmp cmp it.fwd k x ≤ 0

theorem snext_no_skip (hs : StrictWeak cmp) {L : List (K × V)} (hL : Sorted cmp L) {it : SIter K} {x : K × V}
    (hx : x ∈ L) (ho : Owes cmp it x.1) (hkx : keepFn cmp it.stop x.1 = true)
    (hmono : ∀ a b, dcmp cmp it.fwd a b < 0 → keepFn cmp it.stop b = true → keepFn cmp it.stop a = true) :
    (∃ it', snext cmp L it = (it', some x)) ∨
    (∃ it' e, snext cmp L it = (it', some e) ∧ dcmp cmp it.fwd e.1 x.1 < 0 ∧ Owes cmp it' x.1 ∧
      it'.fwd = it.fwd ∧ it'.stop = it.stop) := by
  obtain ⟨hnd, k, hres, hk⟩ := ho
  have hnotdone : ¬ (it.stop ≠ none ∧ it.done = true) := by
    rintro ⟨h1, h2⟩; rcases hnd with h | h
    · exact h1 h
    · rw [h2] at h; cases h
  rcases snext_cases cmp L it with ⟨g1, g2, _⟩ | ⟨_, ⟨r, g0, _⟩ | ⟨r, e, g0, gk, g⟩ | ⟨r, e, g0, gk, _, _⟩⟩
  · exact absurd ⟨g1, g2⟩ hnotdone
  · have := (sraw_none hs g0).2 k hres x hx; omega
  · obtain ⟨k', hk', _, _, hleast, _, hbeyond⟩ := sraw_some hs hL g0
    cases hres.symm.trans hk'
    rcases hleast x hx hk with rfl | hlt
    · left; exact ⟨_, g⟩
    · right; exact ⟨_, e, g, hlt, ⟨hnd, hbeyond x hx hlt⟩, rfl, rfl⟩
  · obtain ⟨k', hk', _, _, hleast, _⟩ := sraw_some hs hL g0
    cases hres.symm.trans hk'
    rcases hleast x hx hk with rfl | hlt
    · rw [hkx] at gk; cases gk
    · rw [hmono e.1 x.1 hlt hkx] at gk; cases gk

theorem snext_owes_beyond (hs : StrictWeak cmp) {L : List (K × V)} (hL : Sorted cmp L) {it it' : SIter K} {x y : K × V}
    (hx : x ∈ L) (h : snext cmp L it = (it', some y)) (hb : dcmp cmp it.fwd y.1 x.1 < 0) :
    Owes cmp it' x.1 ∧ it'.fwd = it.fwd ∧ it'.stop = it.stop := by
  obtain ⟨hnd, _, hit', g0⟩ := snext_some h
  obtain ⟨_, _, _, _, _, _, hbeyond⟩ := sraw_some hs hL g0
  rw [hit']
  exact ⟨⟨hnd, hbeyond x hx hb⟩, rfl, rfl⟩

theorem smk_near (cmp : K → K → Int) (L : List (K × V)) (fwd : Bool) (lo hi : Bound K) :
    ∀ k, (smk cmp L fwd lo hi).resume = some k → nearFn cmp fwd lo hi k = true := by
  intro k hk
  simp only [smk, startOf_eq] at hk
  cases hh : ((dlist L fwd).dropWhile (fun y => !nearFn cmp fwd lo hi y.1)).head? with
  | none => rw [hh] at hk; cases hk
  | some h =>
    rw [hh] at hk
    simp only [Option.map_some, Option.some.injEq] at hk
    rw [← hk]
    have := List.head?_dropWhile_not (fun y : K × V => !nearFn cmp fwd lo hi y.1) (dlist L fwd)
    rw [hh] at this
    simpa using this

theorem smk_owes (hs : StrictWeak cmp) {L : List (K × V)} (hL : Sorted cmp L) (fwd : Bool) (lo hi : Bound K)
    {x : K × V} (hx : x ∈ L) (hn : nearFn cmp fwd lo hi x.1 = true) : Owes cmp (smk cmp L fwd lo hi) x.1 := by
  obtain ⟨h, h1, h3⟩ := head_dropWhile_le (dcmp_strictWeak hs fwd) (dlist_sorted hL fwd) (mem_dlist.mpr hx) hn
  exact ⟨Or.inr rfl, h.1, by simp [smk, startOf_eq, h1], h3⟩

theorem snext_near (hs : StrictWeak cmp) {L : List (K × V)} (hL : Sorted cmp L) (lo hi : Bound K) {it it' : SIter K}
    {out : Option (K × V)} (hinv : ∀ k, it.resume = some k → nearFn cmp it.fwd lo hi k = true)
    (h : snext cmp L it = (it', out)) :
    (∀ e, out = some e → nearFn cmp it.fwd lo hi e.1 = true) ∧
    (it'.fwd = it.fwd ∧ ∀ k, it'.resume = some k → nearFn cmp it'.fwd lo hi k = true) := by
  have key : ∀ r e, sraw cmp L it.fwd it.resume = (r, some e) →
      nearFn cmp it.fwd lo hi e.1 = true ∧ ∀ k, r = some k → nearFn cmp it.fwd lo hi k = true := by
    intro r e g0
    obtain ⟨k0, hres, _, hle, _, hsucc, _⟩ := sraw_some hs hL g0
    have hne := near_mono hs it.fwd lo hi k0 e.1 hle (hinv k0 hres)
    exact ⟨hne, fun k hk => near_mono hs it.fwd lo hi e.1 k (by have := hsucc k hk; omega) hne⟩
  rcases snext_cases cmp L it with ⟨_, _, g⟩ | ⟨_, ⟨r, g0, g⟩ | ⟨r, e, g0, _, g⟩ | ⟨r, e, g0, _, _, g⟩⟩
  · rw [g] at h; cases h
    exact ⟨fun e he => (by cases he), rfl, hinv⟩
  · rw [g] at h; cases h
    refine ⟨fun e he => (by cases he), rfl, fun k hk => ?_⟩
    simp only at hk; rw [(sraw_none hs g0).1] at hk; cases hk
  · rw [g] at h; cases h
    obtain ⟨k1, k2⟩ := key r e g0
    exact ⟨fun e' he => (by cases he; exact k1), rfl, fun k hk => k2 k hk⟩
  · rw [g] at h; cases h
    obtain ⟨k1, k2⟩ := key r e g0
    exact ⟨fun e' he => (by cases he), rfl, fun k hk => k2 k hk⟩

/-- "once it reports exhaustion it keeps doing so": after the first `none` only `none`s -/
def Sticky {β : Type} : List (Option β) → Prop
  | [] => True
  | none :: l => ∀ y ∈ l, y = none
  | some _ :: l => Sticky l

/-- a sequence of `snext` calls of one iterator, each on the sorted contents of that moment, with their answers
(what one iterator slot sees of a script, whatever else the script does: `sviews_views`) -/
inductive Views (cmp : K → K → Int) : SIter K → List (List (K × V) × Option (K × V)) → Prop
  | nil (it : SIter K) : Views cmp it []
  | next {it : SIter K} {L : List (K × V)} {vs : List (List (K × V) × Option (K × V))} : Sorted cmp L →
      Views cmp (snext cmp L it).1 vs → Views cmp it ((L, (snext cmp L it).2) :: vs)

theorem views_exhausted {it : SIter K} {vs : List (List (K × V) × Option (K × V))} (h : Views cmp it vs)
    (hex : ∀ L' : List (K × V), snext cmp L' it = (it, none)) : ∀ v ∈ vs, v.2 = none := by
  induction h with
  | nil => intro v hv; cases hv
  | @next it L vs _ _ ih =>
    rw [hex L] at ih
    intro v hv
    rcases List.mem_cons.mp hv with rfl | hv
    · rw [hex L]
    · exact ih hex v hv

/-- `b`: the key yielded just before (`none` at the start), strictly before whatever is yielded from here on; it is there for
the induction, so that the monotonicity comes out pairwise -/
theorem views_clauses (hs : StrictWeak cmp) (lo hi : Bound K) (fwd : Bool) (stop : Option (CmpOp × K)) {it : SIter K}
    {vs : List (List (K × V) × Option (K × V))} (h : Views cmp it vs) :
    ∀ (b : Option K), it.fwd = fwd → it.stop = stop →
      (∀ k, it.resume = some k → nearFn cmp fwd lo hi k = true) →
      (∀ b0, b = some b0 → ∀ (L : List (K × V)) it' e, Sorted cmp L → snext cmp L it = (it', some e) →
        dcmp cmp fwd b0 e.1 < 0) →
      (∀ v ∈ vs, ∀ e, v.2 = some e →
        e ∈ v.1 ∧ nearFn cmp fwd lo hi e.1 = true ∧ keepFn cmp stop e.1 = true ∧
          ∀ b0, b = some b0 → dcmp cmp fwd b0 e.1 < 0) ∧
      (vs.filterMap (·.2)).Pairwise (fun a c => dcmp cmp fwd a.1 c.1 < 0) ∧
      Sticky (vs.map (·.2)) := by
  have hd := dcmp_strictWeak hs fwd
  induction h with
  | nil => intro _ _ _ _ _; exact ⟨by simp, by simp, by simp [Sticky]⟩
  | @next it L vs hL hvs ih =>
    intro b hf hst hnear hb
    subst hf hst
    rcases hn : snext cmp L it with ⟨it1, out⟩
    rw [hn] at ih hvs
    have hmeta := snext_meta cmp L it
    rw [hn] at hmeta
    obtain ⟨hne, _, hnear1⟩ := snext_near hs hL lo hi hnear hn
    rw [hmeta.1] at hnear1
    cases out with
    | none =>
      have hall := views_exhausted hvs (snext_exhaustion_sticky hs hn)
      refine ⟨?_, ?_, ?_⟩
      · intro v hv e he
        rcases List.mem_cons.mp hv with rfl | hv
        · cases he
        · rw [hall v hv] at he; cases he
      · have : vs.filterMap (·.2) = [] := List.filterMap_eq_nil_iff.mpr hall
        simp [this]
      · simp only [List.map_cons, Sticky]
        intro y hy
        obtain ⟨v, hv, rfl⟩ := List.mem_map.mp hy
        exact hall v hv
    | some e =>
      have hpres := snext_yield_present hs hL hn
      have hbe := fun b0 hb0 => hb b0 hb0 L it1 e hL hn
      obtain ⟨r1, r2, r3⟩ := ih (some e.1) hmeta.1 hmeta.2 hnear1
        fun b0 hb0 _ _ _ hL' hn' => by cases hb0; exact snext_strict_monotone hs hL hL' hn hn'
      refine ⟨?_, ?_, ?_⟩
      · intro v hv e' he'
        rcases List.mem_cons.mp hv with rfl | hv
        · simp only [Option.some.injEq] at he'; subst he'
          exact ⟨hpres.1, hne _ rfl, hpres.2, hbe⟩
        · obtain ⟨q1, q2, q3, q4⟩ := r1 v hv e' he'
          exact ⟨q1, q2, q3, fun b0 hb0 => hd.lt_trans (hbe b0 hb0) (q4 e.1 rfl)⟩
      · simp only [List.filterMap_cons]
        refine List.pairwise_cons.mpr ⟨?_, r2⟩
        intro c hc
        obtain ⟨v, hv, hvc⟩ := List.mem_filterMap.mp hc
        exact (r1 v hv c hvc).2.2.2 e.1 rfl
      · simp only [List.map_cons, Sticky]; exact r3

theorem views_no_skip (hs : StrictWeak cmp) (fwd : Bool) (stop : Option (CmpOp × K)) (x : K × V)
    (hkx : keepFn cmp stop x.1 = true)
    (hmono : ∀ a b, dcmp cmp fwd a b < 0 → keepFn cmp stop b = true → keepFn cmp stop a = true)
    {it : SIter K} {vs : List (List (K × V) × Option (K × V))} (h : Views cmp it vs) :
    it.fwd = fwd → it.stop = stop → Owes cmp it x.1 → (∀ v ∈ vs, x ∈ v.1) →
      (∃ pre post, vs.map (·.2) = pre ++ some x :: post ∧ ∀ y ∈ pre, ∃ e, y = some e ∧ dcmp cmp fwd e.1 x.1 < 0) ∨
      (∀ y ∈ vs.map (·.2), ∃ e, y = some e ∧ dcmp cmp fwd e.1 x.1 < 0) := by
  induction h with
  | nil => intro _ _ _ _; right; intro y hy; cases hy
  | @next it L vs hL _ ih =>
    intro hf hst ho hpers
    subst hf hst
    have hx : x ∈ L := hpers (L, (snext cmp L it).2) (by simp)
    rcases snext_no_skip hs hL hx ho hkx hmono with ⟨it', hn⟩ | ⟨it', e, hn, hlt, ho', hf', hst'⟩
    · left
      exact ⟨[], vs.map (·.2), by simp [hn], by intro y hy; cases hy⟩
    · rw [hn] at ih
      rcases ih hf' hst' ho' (fun v hv => hpers v (List.mem_cons_of_mem _ hv)) with
        ⟨pre, post, h1, h2⟩ | h
      · left
        refine ⟨some e :: pre, post, by simp [hn, h1], ?_⟩
        intro y hy
        rcases List.mem_cons.mp hy with rfl | hy
        · exact ⟨e, rfl, hlt⟩
        · exact h2 y hy
      · right
        intro y hy
        simp only [List.map_cons, hn, List.mem_cons] at hy
        rcases hy with rfl | hy
        · exact ⟨e, rfl, hlt⟩
        · exact h y hy

end Juniper.Proofs.Tree
