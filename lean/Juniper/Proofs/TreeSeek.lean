import Juniper.Proofs.TreeCursorPrev
import Juniper.Proofs.TreeListIter
import Juniper.Proofs.TreeFacts
/-!
# `find` and the seeks on an unchanging tree (C01, C02)

Both directions at once: `Parked fwd t c S` says that `c` is parked on the head of `S`, the entries from its own on in
iteration order; `Run fwd` adds that its generation is current. `Fwd` / `Bwd` are `Run true` / `Run false`.
-/
namespace Juniper.Proofs.Tree
open Juniper.Model.BTree Juniper.Gen.Tree

variable {K V : Type} {cmp : K → K → Int}

/-- `cursor.find` below `x`, reached with everything left of it below `k` and everything right of it above: it parks
on an entry with everything before it below `k` and everything after it above `k` (the entry itself is equivalent
to `k`, the first above it, or — leaf exhausted — the last below it) -/
theorem findIn_spec (hc : StrictWeak cmp) (k : K) (x : Node K V) :
    ∀ h, Bal h x → 1 ≤ x.n → Sorted cmp (toList x) → ∀ root up, Zip root x up → PathOK up →
      (∀ b ∈ ctxBefore up, 0 < cmp k b.1) → (∀ a ∈ ctxAfter up, cmp k a.1 < 0) →
      ∃ p f y up' e, findIn cmp k x = some (p, f) ∧ At root p y up' e ∧ p.k = e.1 ∧
        (∀ b ∈ befOf up' y p.i, 0 < cmp k b.1) ∧ ∀ a ∈ aftOf up' y p.i, cmp k a.1 < 0 := by
  have hmin := consts.1
  have join : ∀ {P : K × V → Prop} {A B : List (K × V)}, (∀ a ∈ A, P a) → (∀ b ∈ B, P b) → ∀ c ∈ A ++ B, P c :=
    fun h1 h2 c hc' => (List.mem_append.mp hc').elim (h1 c) (h2 c)
  fun_induction findIn cmp k x with
  | case1 id kvs kids i hs =>
    intro h hb hn hsort root up hz hp hlo hhi
    obtain ⟨kv, hkv, he⟩ := (search_bounds cmp k kvs hs).2.2 rfl
    rw [toList_at_entry hb (show (Node.mk id kvs kids).kvs[i]? = some kv from hkv)] at hsort
    obtain ⟨l1, l2⟩ := split_bounds hc hsort he
    exact ⟨⟨id, i, kv.1⟩, true, Node.mk id kvs kids, up, kv, by simp [posAt, Node.kvs, Node.id, hkv], ⟨hz, rfl, hkv⟩, rfl,
      join hlo l1, join l2 hhi⟩
  | case2 id kvs kids i hs hleaf i' =>
    intro h hb hn hsort root up hz hp hlo hhi
    have hk : kids = [] := List.isEmpty_iff.mp hleaf
    subst hk
    obtain ⟨b1, b2, _⟩ := search_bounds cmp k kvs hs
    have hile := searchNode_le hs
    simp only [node_n] at hn
    rw [toList_leaf] at hsort
    have habove := all_above_of_startsAbove hc (hsort.sublist (List.drop_sublist i kvs)) (b2 rfl)
    -- it parks on entry `i`, before which `k` belongs, or, `k` being above the whole leaf, backs up to the last entry
    obtain ⟨j, hi', hji, hij, hj⟩ : ∃ j, i'.toNat = j ∧ j ≤ i ∧ i ≤ j + 1 ∧ j < kvs.length := by
      by_cases hi : i < kvs.length
      · have : findBacksUp (i : Int) (kvs.length : Int) = false := by simp only [findBacksUp]; exact decide_eq_false (by omega)
        exact ⟨i, by simp [i', this], Nat.le_refl _, Nat.le_succ _, hi⟩
      · have h1 : findBacksUp (i : Int) (kvs.length : Int) = true := by simp only [findBacksUp]; exact decide_eq_true (by omega)
        have h2 : findBackUpDec = true := by decide
        have : i' = (i : Int) - 1 := by simp [i', h1, h2]
        exact ⟨i - 1, by omega, by omega, by omega, by omega⟩
    obtain ⟨e, hkv⟩ : ∃ e, kvs[j]? = some e := ⟨_, List.getElem?_eq_getElem hj⟩
    refine ⟨⟨id, j, e.1⟩, false, Node.mk id kvs [], up, e, by rw [hi']; simp [posAt, Node.kvs, Node.id, hkv],
      ⟨hz, rfl, hkv⟩, rfl, join hlo ?_, join ?_ hhi⟩
    · rw [locBefore_leaf]; exact fun b hb' => b1 b (List.take_subset_take_left _ hji hb')
    · rw [locAfter_leaf]; exact fun a ha => habove a ((List.drop_sublist_drop_left kvs hij).subset ha)
  | case3 id kvs kids i hs hinner hnone =>
    intro h hb hn hsort root up hz hp hlo hhi
    exact absurd hnone (bal_has_child hb (by simpa using hinner) hs)
  | case4 id kvs kids i hs hinner c hcc ih =>
    intro h hb hn hsort root up hz hp hlo hhi
    obtain ⟨h', rfl, hlen, -, hbc, hoc⟩ := bal_child hb hcc
    obtain ⟨b1, b2, _⟩ := search_bounds cmp k kvs hs
    rw [toList_at_child_self hlen hcc] at hsort
    obtain ⟨hpc, hrest, _⟩ := List.pairwise_append.mp hsort
    obtain ⟨hpre, hsc, _⟩ := List.pairwise_append.mp hpc
    exact ih h' hbc (by have := hoc.1; omega) hsc root ((Node.mk id kvs kids, i) :: up) ⟨hcc, hz⟩
      ⟨hlen, hp⟩ (join hlo (pre_below hc hpre b1))
      (join (all_above_of_startsAbove hc hrest fun b hb' => b2 rfl b (rest_head _ _ ▸ hb')) hhi)

theorem lostAt_of_gen_eq (cmp : K → K → Int) (t : Tree K V) (c : Cursor K) (h : c.gen = t.gen) :
    lostAt cmp t c = false := by
  unfold lostAt
  cases c.pos with
  | none => simp [lost, h]
  | some p =>
    simp only
    cases findNode p.id t.root <;> simp [lost, h]

theorem inv_facts {t : Tree K V} (hi : Inv cmp t) :
    ∃ h, Bal h t.root ∧ (∀ i, cnt i t.root ≤ 1) ∧ Sorted cmp (toList t.root) := by
  obtain ⟨h, hb, _, _⟩ := hi.wf.bal
  exact ⟨h, hb, List.nodup_iff_count.mp hi.ids.1, hi.wf.sorted⟩

theorem valueAt_of_at {t : Tree K V} (hi : Inv cmp t) {p : Pos K} {y : Node K V} {up : List (Node K V × Nat)} {e : K × V}
    (ha : At t.root p y up e) : valueAt t p = some e.2 := by
  obtain ⟨h, hb, hone, _⟩ := inv_facts hi
  have := pathTo_unique p.id t.root up y ha.zip hone ha.idEq
  simp [valueAt, findNode, this, ha.entry]

theorem find_spec (hc : StrictWeak cmp) {t : Tree K V} (hi : Inv cmp t) (k : K) :
    (find cmp t k = none ∧ toList t.root = []) ∨
    ∃ p f y up e, find cmp t k = some (p, f) ∧ At t.root p y up e ∧ p.k = e.1 ∧
      (∀ b ∈ befOf up y p.i, 0 < cmp k b.1) ∧ ∀ a ∈ aftOf up y p.i, cmp k a.1 < 0 := by
  obtain ⟨h, hb, _, hsort⟩ := inv_facts hi
  unfold find
  by_cases h0 : t.root.n = 0
  · exact Or.inl ⟨by simp [findEmpty, h0], toList_nil_of_root_n_zero hi.wf.bal h0⟩
  · obtain ⟨p, f, y, up, e, hf, r⟩ := findIn_spec hc k t.root h hb (one_le_n_of_ne_zero h0) hsort t.root [] rfl trivial
      (fun b hb' => by cases hb') (fun b hb' => by cases hb')
    exact Or.inr ⟨p, f, y, up, e, by simp [findEmpty, h0, hf], r⟩

/-- the entries ahead of / behind the cursor's entry, in iteration order -/
def aheadOf (fwd : Bool) (up : List (Node K V × Nat)) (y : Node K V) (i : Nat) : List (K × V) :=
  if fwd then aftOf up y i else (befOf up y i).reverse
def behindOf (fwd : Bool) (up : List (Node K V × Nat)) (y : Node K V) (i : Nat) : List (K × V) :=
  if fwd then befOf up y i else (aftOf up y i).reverse

theorem dlist_split {root : Node K V} {h : Nat} (hb : Bal h root) {p : Pos K} {y : Node K V}
    {up : List (Node K V × Nat)} {e : K × V} (ha : At root p y up e) (fwd : Bool) :
    dlist (toList root) fwd = behindOf fwd up y p.i ++ e :: aheadOf fwd up y p.i := by
  rw [at_toList hb ha]; cases fwd <;> simp [dlist, behindOf, aheadOf]

/-- the cursor is parked on the head of `S`, the entries from its own on in direction `fwd` (off the edge if there
are none); no claim about generations -/
def Parked (fwd : Bool) (t : Tree K V) (c : Cursor K) (S : List (K × V)) : Prop :=
  (S = [] ∧ c.pos = none) ∨
  ∃ p y up e, c.pos = some p ∧ At t.root p y up e ∧ p.k = e.1 ∧ S = e :: aheadOf fwd up y p.i

/-- … and its generation is current: iterating from `c` on the (unchanging) tree `t` yields exactly `S` -/
def Run (fwd : Bool) (t : Tree K V) (c : Cursor K) (S : List (K × V)) : Prop :=
  Parked fwd t c S ∧ (c.pos ≠ none → c.gen = t.gen)

theorem run_iff {fwd : Bool} {t : Tree K V} {c : Cursor K} {S : List (K × V)} :
    Run fwd t c S ↔ (S = [] ∧ c.pos = none) ∨
      (c.gen = t.gen ∧ ∃ p y up e, c.pos = some p ∧ At t.root p y up e ∧ p.k = e.1 ∧ S = e :: aheadOf fwd up y p.i) := by
  constructor
  · rintro ⟨h | h, hg⟩
    · exact Or.inl h
    · exact Or.inr ⟨hg (by obtain ⟨p, _, _, _, hp, _⟩ := h; simp [hp]), h⟩
  · rintro (h | ⟨hg, h⟩)
    · exact ⟨Or.inl h, fun hp => absurd h.2 hp⟩
    · exact ⟨Or.inr h, fun _ => hg⟩

/-- iterating forward from cursor `c` on the (unchanging) tree `t` yields exactly `S` -/
def Fwd (t : Tree K V) (c : Cursor K) (S : List (K × V)) : Prop :=
  (S = [] ∧ c.pos = none) ∨
  (c.gen = t.gen ∧ ∃ p y up e, c.pos = some p ∧ At t.root p y up e ∧ p.k = e.1 ∧ S = e :: aftOf up y p.i)

/-- iterating backward from cursor `c` on the (unchanging) tree `t` yields exactly `S` (descending) -/
def Bwd (t : Tree K V) (c : Cursor K) (S : List (K × V)) : Prop :=
  (S = [] ∧ c.pos = none) ∨
  (c.gen = t.gen ∧ ∃ p y up e, c.pos = some p ∧ At t.root p y up e ∧ p.k = e.1 ∧ S = e :: (befOf up y p.i).reverse)

theorem fwd_iff_run {t : Tree K V} {c : Cursor K} {S : List (K × V)} : Fwd t c S ↔ Run true t c S :=
  (run_iff (fwd := true)).symm
theorem bwd_iff_run {t : Tree K V} {c : Cursor K} {S : List (K × V)} : Bwd t c S ↔ Run false t c S :=
  (run_iff (fwd := false)).symm

theorem Parked.resume {fwd : Bool} {t : Tree K V} {c : Cursor K} {S : List (K × V)} (h : Parked fwd t c S) :
    c.pos.map (·.k) = S.head?.map (·.1) := by
  rcases h with ⟨rfl, h⟩ | ⟨p, _, _, e, h, _, hk, rfl⟩ <;> simp [*]

theorem Parked.at {fwd : Bool} {t : Tree K V} {c : Cursor K} {S : List (K × V)} (h : Parked fwd t c S) {p : Pos K}
    (hp : c.pos = some p) : ∃ y up e, At t.root p y up e ∧ p.k = e.1 := by
  rcases h with ⟨_, h⟩ | ⟨p', y, up, e, hp', ha, hk, _⟩
  · rw [h] at hp; cases hp
  · rw [hp'] at hp; cases hp; exact ⟨y, up, e, ha, hk⟩

theorem move_of_not_lost {t : Tree K V} {c : Cursor K} {p : Pos K} (hp : c.pos = some p) (hl : lostAt cmp t c = false)
    (fwd : Bool) :
    (if fwd then cursorNext cmp t c else cursorPrev cmp t c) = { c with pos := if fwd then nextCore t p else prevCore t p } ∧
    (if fwd then stepFwd cmp t c else stepBwd cmp t c) = { c with pos := if fwd then nextCore t p else prevCore t p } := by
  cases fwd <;> simp [cursorNext, cursorPrev, stepFwd, stepBwd, hp, hl]

theorem move_parked {t : Tree K V} (hi : Inv cmp t) {p : Pos K} {y : Node K V} {up : List (Node K V × Nat)} {e : K × V}
    (ha : At t.root p y up e) (c : Cursor K) (fwd : Bool) :
    Parked fwd t { c with pos := if fwd then nextCore t p else prevCore t p } (aheadOf fwd up y p.i) := by
  obtain ⟨h, hb, hone, _⟩ := inv_facts hi
  cases fwd with
  | true =>
    obtain ⟨n1, n2⟩ := next_step t rfl hb hone ha
    cases hA : aftOf up y p.i with
    | nil => exact Or.inl ⟨by simp [aheadOf, hA], by simp [n1 hA]⟩
    | cons e' A' =>
      obtain ⟨p', y', up', g1, g2, g3, _, g5⟩ := n2 e' A' hA
      exact Or.inr ⟨p', y', up', e', by simp [g1], g2, g3, by simp [aheadOf, hA, g5]⟩
  | false =>
    obtain ⟨n1, n2⟩ := prev_step t rfl hb hone ha
    rcases eq_nil_or_snoc (befOf up y p.i) with hB | ⟨B', e', hB⟩
    · exact Or.inl ⟨by simp [aheadOf, hB], by simp [n1 hB]⟩
    · obtain ⟨p', y', up', g1, g2, g3, g4, _⟩ := n2 B' e' hB
      exact Or.inr ⟨p', y', up', e', by simp [g1], g2, g3, by simp [aheadOf, hB, g4]⟩

theorem advance {t : Tree K V} (hi : Inv cmp t) {c : Cursor K} {p : Pos K} {y : Node K V}
    {up : List (Node K V × Nat)} {e : K × V} (hg : c.gen = t.gen) (ha : At t.root p y up e) :
    Fwd t { c with pos := nextCore t p } (aftOf up y p.i) :=
  fwd_iff_run.mpr ⟨move_parked hi ha c true, fun _ => hg⟩

theorem retreat {t : Tree K V} (hi : Inv cmp t) {c : Cursor K} {p : Pos K} {y : Node K V}
    {up : List (Node K V × Nat)} {e : K × V} (hg : c.gen = t.gen) (ha : At t.root p y up e) :
    Bwd t { c with pos := prevCore t p } (befOf up y p.i).reverse :=
  bwd_iff_run.mpr ⟨move_parked hi ha c false, fun _ => hg⟩

/-- the four seeks at once: `step` is the regenerated step test of the seek (`seekGE_run` … `seekLT_run`) -/
theorem seek_run (hc : StrictWeak cmp) {t : Tree K V} (hi : Inv cmp t) (fwd : Bool) (step : Int → Bool)
    (hbeh : ∀ x, (if fwd then 0 < x else x < 0) → step x = true)
    (hah : ∀ x, (if fwd then x < 0 else 0 < x) → step x = false) (c0 : Cursor K) (k : K) :
    Run fwd t (seekWith (V := V) step fwd cmp t c0 k)
      ((dlist (toList t.root) fwd).dropWhile fun x => step (cmp k x.1)) := by
  obtain ⟨h, hb, _, _⟩ := inv_facts hi
  have hgen : seekSetsGen = true := by decide
  unfold seekWith seek
  rcases find_spec hc hi k with ⟨hf, hL⟩ | ⟨p, f, y, up, e, hf, ha, hk, hbef, haft⟩
  · simp [hf, hL, dlist, Run, Parked]
  · have hB : ∀ b ∈ behindOf fwd up y p.i, step (cmp k b.1) = true := by
      cases fwd
      · exact fun b hb' => hbeh _ (haft b (List.mem_reverse.mp hb'))
      · exact fun b hb' => hbeh _ (hbef b hb')
    have hA : ∀ a ∈ aheadOf fwd up y p.i, step (cmp k a.1) = false := by
      cases fwd
      · exact fun a ha' => hah _ (hbef a (List.mem_reverse.mp ha'))
      · exact fun a ha' => hah _ (haft a ha')
    have hl : lostAt cmp t { pos := some p, gen := t.gen } = false := lostAt_of_gen_eq cmp t _ rfl
    rw [dlist_split hb ha fwd, List.dropWhile_append_of_pos hB, List.dropWhile_cons, ← hk]
    simp only [hf, hgen, if_true, seekStepCalls_true, Bool.and_true]
    cases hst : step (cmp k p.k) with
    | true =>
      simp only [if_true]
      rw [(move_of_not_lost rfl hl fwd).2, dropWhile_of_head_false (fun a ha' => hA a (List.mem_of_mem_head? ha'))]
      exact ⟨move_parked hi ha _ fwd, fun _ => rfl⟩
    | false => exact ⟨Or.inr ⟨p, y, up, e, rfl, ha, hk, rfl⟩, fun _ => rfl⟩

theorem seekFwd_spec (hc : StrictWeak cmp) {t : Tree K V} (hi : Inv cmp t) (step : Int → Bool)
    (hpos : ∀ c, 0 < c → step c = true) (hneg : ∀ c, c < 0 → step c = false) (c0 : Cursor K) (k : K) :
    Fwd t (seekWith (V := V) step true cmp t c0 k) ((toList t.root).dropWhile (fun x => step (cmp k x.1))) :=
  fwd_iff_run.mpr (seek_run hc hi true step hpos hneg c0 k)

theorem seekBwd_spec (hc : StrictWeak cmp) {t : Tree K V} (hi : Inv cmp t) (step : Int → Bool)
    (hneg : ∀ c, c < 0 → step c = true) (hpos : ∀ c, 0 < c → step c = false) (c0 : Cursor K) (k : K) :
    Bwd t (seekWith (V := V) step false cmp t c0 k)
      ((toList t.root).reverse.dropWhile (fun x => step (cmp k x.1))) :=
  bwd_iff_run.mpr (seek_run hc hi false step hneg hpos c0 k)

theorem seekWith_gen_le (step : Int → Bool) (fwd : Bool) (cmp : K → K → Int) (t : Tree K V) (c : Cursor K) (k : K)
    (h : c.gen ≤ t.gen) : (seekWith step fwd cmp t c k).gen ≤ t.gen := by
  have hg : seekSetsGen = true := by decide
  unfold seekWith seek
  cases hf : find cmp t k with
  | none => exact h
  | some r =>
    obtain ⟨p, f⟩ := r
    simp only [hg, if_true]
    by_cases hst : step (cmp k p.k) = true
    · simp only [hst, seekStepCalls_true, Bool.and_true, if_true]
      cases fwd with
      | true => simp only [if_true, stepFwd]; split <;> exact Nat.le_refl _
      | false => simp only [Bool.false_eq_true, if_false, stepBwd]; split <;> exact Nat.le_refl _
    · simp [hst]

theorem seekGE_run (hc : StrictWeak cmp) {t : Tree K V} (hi : Inv cmp t) (c0 : Cursor K) (k : K) :
    Run true t (seekFirstGreaterOrEqual cmp t c0 k) (geS cmp k (toList t.root)) :=
  seek_run hc hi true seekFirstGreaterOrEqualStep (fun _ (h : 0 < _) => decide_eq_true h)
    (fun x (h : x < 0) => decide_eq_false (by omega)) c0 k

theorem seekGT_run (hc : StrictWeak cmp) {t : Tree K V} (hi : Inv cmp t) (c0 : Cursor K) (k : K) :
    Run true t (seekFirstGreater cmp t c0 k) ((toList t.root).dropWhile fun x => seekFirstGreaterStep (cmp k x.1)) :=
  seek_run hc hi true seekFirstGreaterStep (fun x (h : 0 < x) => decide_eq_true (by omega))
    (fun x (h : x < 0) => decide_eq_false (by omega)) c0 k

theorem seekLE_run (hc : StrictWeak cmp) {t : Tree K V} (hi : Inv cmp t) (c0 : Cursor K) (k : K) :
    Run false t (seekLastLessOrEqual cmp t c0 k) (leS cmp k (toList t.root)) :=
  seek_run hc hi false seekLastLessOrEqualStep (fun _ (h : _ < 0) => decide_eq_true h)
    (fun x (h : 0 < x) => decide_eq_false (by omega)) c0 k

theorem seekLT_run (hc : StrictWeak cmp) {t : Tree K V} (hi : Inv cmp t) (c0 : Cursor K) (k : K) :
    Run false t (seekLastLess cmp t c0 k) ((toList t.root).reverse.dropWhile fun x => seekLastLessStep (cmp k x.1)) :=
  seek_run hc hi false seekLastLessStep (fun x (h : x < 0) => decide_eq_true (by omega))
    (fun x (h : 0 < x) => decide_eq_false (by omega)) c0 k

theorem seekFirst_spec {t : Tree K V} (hi : Inv cmp t) (c0 : Cursor K) : Fwd t (seekFirst t c0) (toList t.root) := by
  obtain ⟨h, hb, hone, hsort⟩ := inv_facts hi
  have hgen : seekFirstSetsGen = true := by decide
  unfold seekFirst
  by_cases h0 : t.root.n = 0
  · have := toList_nil_of_root_n_zero hi.wf.bal h0
    simp [seekFirstEmpty, h0, this, Fwd]
  · have hn := one_le_n_of_ne_zero h0
    obtain ⟨up', e, g1, g3, g5⟩ := leftmost_spec t.root h hb hn [] rfl trivial
    simp only [seekFirstEmpty, h0, decide_false, Bool.false_eq_true, if_false, hgen, if_true, posAt_eq g3]
    right
    exact ⟨rfl, _, leftmostLeaf t.root, up', e, rfl, ⟨g1, rfl, g3⟩, rfl, by rw [g5]; simp [ctxAfter]⟩

theorem seekLast_spec {t : Tree K V} (hi : Inv cmp t) (c0 : Cursor K) :
    Bwd t (seekLast t c0) (toList t.root).reverse := by
  obtain ⟨h, hb, hone, hsort⟩ := inv_facts hi
  have hgen : seekLastSetsGen = true := by decide
  unfold seekLast
  by_cases h0 : t.root.n = 0
  · have := toList_nil_of_root_n_zero hi.wf.bal h0
    simp [seekLastEmpty, h0, this, Bwd]
  · have hn := one_le_n_of_ne_zero h0
    obtain ⟨up', e, n, g1, g3, g3', g5⟩ := rightmost_spec t.root h hb hn [] rfl trivial
    have hidx : (seekLastIdx (rightmostLeaf t.root).n).toNat = n := by
      simp only [seekLastIdx, Node.n, g3]; omega
    simp only [seekLastEmpty, h0, decide_false, Bool.false_eq_true, if_false, hgen, if_true, hidx, posAt_eq g3']
    right
    refine ⟨rfl, _, rightmostLeaf t.root, up', e, rfl, ⟨g1, rfl, g3'⟩, rfl, ?_⟩
    have : toList t.root = befOf up' (rightmostLeaf t.root) n ++ [e] := by rw [g5]; simp [ctxBefore]
    rw [this]; simp

theorem Run.nil (fwd : Bool) (t : Tree K V) (g : Nat) : Run fwd t ({ pos := none, gen := g } : Cursor K) [] :=
  ⟨Or.inl ⟨rfl, rfl⟩, fun h => absurd rfl h⟩

theorem Run.step {t : Tree K V} (hi : Inv cmp t) {fwd : Bool} {c : Cursor K} {S : List (K × V)} (hr : Run fwd t c S)
    {p : Pos K} (hp : c.pos = some p) :
    ∃ y up e S', At t.root p y up e ∧ p.k = e.1 ∧ S = e :: S' ∧ c.gen = t.gen ∧
      Run fwd t { c with pos := if fwd then nextCore t p else prevCore t p } S' := by
  have hg : c.gen = t.gen := hr.2 (by simp [hp])
  rcases hr.1 with ⟨_, h⟩ | ⟨p', y, up, e, hp', ha, hk, rfl⟩
  · rw [hp] at h; cases h
  · cases hp.symm.trans hp'
    exact ⟨y, up, e, _, ha, hk, rfl, hg, move_parked hi ha c fwd, fun _ => hg⟩

theorem doSeek_run (hc : StrictWeak cmp) {t : Tree K V} (hi : Inv cmp t) (sk : SeekKind) (key : K) :
    Run (TreeAccess.skFwd sk) t (doSeek cmp t sk key)
      ((dlist (toList t.root) (TreeAccess.skFwd sk)).dropWhile fun x => !TreeAccess.nearOf cmp sk key x.1) := by
  cases sk with
  | first =>
    rw [dropWhile_of_head_false (q := fun x : K × V => !TreeAccess.nearOf cmp .first key x.1) (fun _ _ => rfl)]
    exact fwd_iff_run.mp (seekFirst_spec hi _)
  | last =>
    rw [dropWhile_of_head_false (q := fun x : K × V => !TreeAccess.nearOf cmp .last key x.1) (fun _ _ => rfl)]
    exact bwd_iff_run.mp (seekLast_spec hi _)
  | ge => simp only [TreeAccess.nearOf, Bool.not_not]; exact seekGE_run hc hi _ key
  | gt => simp only [TreeAccess.nearOf, Bool.not_not]; exact seekGT_run hc hi _ key
  | le => simp only [TreeAccess.nearOf, Bool.not_not]; exact seekLE_run hc hi _ key
  | lt => simp only [TreeAccess.nearOf, Bool.not_not]; exact seekLT_run hc hi _ key

theorem first_eq_head {t : Tree K V} (hb : BalTree t) : first t = (toList t.root).head? := by
  obtain ⟨h, hbal, hmax, hroot⟩ := hb
  unfold first
  by_cases h0 : t.root.n = 0
  · simp [firstEmpty, h0, toList_nil_of_root_n_zero ⟨h, hbal, hmax, hroot⟩ h0]
  · obtain ⟨up', e, _, h3, h5⟩ := leftmost_spec (root := t.root) t.root h hbal (one_le_n_of_ne_zero h0) [] rfl trivial
    simp only [firstEmpty, h0, decide_false, Bool.false_eq_true, if_false]
    rw [List.head?_eq_getElem?, h3, ← List.append_nil (toList t.root),
      ← show ctxAfter ([] : List (Node K V × Nat)) = [] from rfl, ← h5]; rfl

theorem last_eq_getLast {t : Tree K V} (hb : BalTree t) : last t = (toList t.root).getLast? := by
  obtain ⟨h, hbal, hmax, hroot⟩ := hb
  unfold last
  by_cases h0 : t.root.n = 0
  · simp [lastEmpty, h0, toList_nil_of_root_n_zero ⟨h, hbal, hmax, hroot⟩ h0]
  · obtain ⟨up', e, n, _, h3, h3', h5⟩ :=
      rightmost_spec (root := t.root) t.root h hbal (one_le_n_of_ne_zero h0) [] rfl trivial
    simp only [lastEmpty, h0, decide_false, Bool.false_eq_true, if_false]
    rw [List.getLast?_eq_getElem?, h3, Nat.add_sub_cancel, h3', ← List.nil_append (toList t.root),
      ← show ctxBefore ([] : List (Node K V × Nat)) = [] from rfl, ← h5]; simp

end Juniper.Proofs.Tree
