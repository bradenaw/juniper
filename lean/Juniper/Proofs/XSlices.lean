import Juniper.Model.XSlices
import Juniper.Spec.Seq
import Juniper.Proofs.HelpersWrappers
import Juniper.Proofs.HelpersLoops
/-! # xslices counterparts (C07 cross-version agreement): the Go loops compute the Spec functions -/
namespace Juniper.Proofs.XS
open Juniper.Model Juniper.Spec Juniper.Gen.Comb
variable {α β : Type}

theorem slice_nat (s : List α) (lo hi : Nat) (h1 : lo ≤ hi) (h2 : hi ≤ s.length) :
    XSlices.slice s (lo : Int) (hi : Int) = some ((s.take hi).drop lo) := by
  unfold XSlices.slice
  have : (0 : Int) ≤ lo ∧ (lo : Int) ≤ hi ∧ (hi : Int) ≤ s.length := by omega
  simp [this]

theorem take_succ_drop (s : List α) (start i : Nat) (hs : start ≤ i) (hi : i < s.length) :
    (s.take (i + 1)).drop start = (s.take i).drop start ++ [s[i]] := by
  rw [List.take_add_one, List.drop_append_of_le_length (by simp; omega)]
  simp [List.getElem?_eq_getElem hi]

theorem runsLoop_step (same : α → α → Bool) (s : List α) (fuel k start : Nat) (runs : List (List α))
    (hk1 : 1 ≤ k) (hlt : k < s.length) (hst : start ≤ k) :
    XSlices.runsLoop same s (fuel + 1) (k : Int) (start : Int) (k : Int) runs =
      if same (s[k - 1]'(by omega)) s[k] = true
      then XSlices.runsLoop same s fuel ((k + 1 : Nat) : Int) (start : Int) ((k + 1 : Nat) : Int) runs
      else XSlices.runsLoop same s fuel ((k + 1 : Nat) : Int) (k : Int) ((k + 1 : Nat) : Int)
        (runs ++ [(s.take k).drop start]) := by
  have hloop : xsRunsLoops (k : Int) (s.length : Int) = true := decide_eq_true (Int.ofNat_lt.mpr hlt)
  have hl : (xsRunsCmpLeft (k : Int)).toNat = k - 1 := by unfold xsRunsCmpLeft; omega
  have hr : (xsRunsCmpRight (k : Int)).toNat = k := Int.toNat_natCast k
  have e1 : ((k : Int) + 1) = ((k + 1 : Nat) : Int) := (Int.natCast_add k 1).symm
  rw [XSlices.runsLoop, if_pos hloop, hl, hr, List.getElem?_eq_getElem (by omega), List.getElem?_eq_getElem hlt]
  simp only [xsRunsExtend, xsRunsNewStart, xsRunsNewEnd, e1, slice_nat s start k hst (Nat.le_of_lt hlt)]

/-- the loop of `xslices.Runs` from index `k`: `cur = s[start:k]` is the run being extended -/
theorem runsLoop_spec (same : α → α → Bool) (s : List α) (fuel k start : Nat) (runs : List (List α))
    (hk1 : 1 ≤ k) (hk : k ≤ s.length) (hst : start < k) (hfuel : s.length - k ≤ fuel) :
    ∃ (runs' : List (List α)) (start' : Nat), XSlices.runsLoop same s fuel (k : Int) (start : Int) (k : Int) runs =
        some (runs', (start' : Int), (s.length : Int)) ∧ start' < s.length ∧
      runs' ++ [(s.take s.length).drop start'] =
        runs ++ Seq.runsGo same ((s.take k).drop start) (s[k - 1]'(by omega)) (s.drop k) := by
  induction fuel generalizing k start runs with
  | zero =>
    have hkl : k = s.length := by omega
    subst hkl
    refine ⟨runs, start, by simp [XSlices.runsLoop], hst, ?_⟩
    simp [Seq.runsGo]
  | succ fuel ih =>
    by_cases hkl : k = s.length
    · subst hkl
      refine ⟨runs, start, ?_, hst, by simp [Seq.runsGo]⟩
      simp [XSlices.runsLoop, xsRunsLoops]
    · have hlt : k < s.length := Nat.lt_of_le_of_ne hk hkl
      have hf' : s.length - (k + 1) ≤ fuel := by omega
      have hlast : (s[k + 1 - 1]'(by omega)) = s[k] := by simp
      rw [runsLoop_step same s fuel k start runs hk1 hlt (Nat.le_of_lt hst), List.drop_eq_getElem_cons hlt]
      by_cases hb : same (s[k - 1]'(by omega)) s[k] = true
      · obtain ⟨runs', start', h1, h2, h3⟩ := ih (k + 1) start runs (Nat.le_add_left 1 k) hlt (Nat.lt_succ_of_lt hst) hf'
        refine ⟨runs', start', by rw [if_pos hb]; exact h1, h2, ?_⟩
        rw [h3, take_succ_drop s start k (Nat.le_of_lt hst) hlt]
        simp only [Seq.runsGo, hb, if_true, hlast]
      · obtain ⟨runs', start', h1, h2, h3⟩ :=
          ih (k + 1) k (runs ++ [(s.take k).drop start]) (Nat.le_add_left 1 k) hlt (Nat.lt_succ_self k) hf'
        refine ⟨runs', start', by rw [if_neg hb]; exact h1, h2, ?_⟩
        rw [h3, take_succ_drop s k k (Nat.le_refl k) hlt, List.drop_eq_nil_of_le (List.length_take_le k s)]
        simp only [Seq.runsGo, Bool.eq_false_iff.mpr hb, Bool.false_eq_true, if_false, List.append_assoc,
          List.singleton_append, List.nil_append, hlast]

theorem runs_eq (same : α → α → Bool) (s : List α) : XSlices.runs same s = some (Seq.runs same s) := by
  cases s with
  | nil => simp [XSlices.runs, XSlices.runsLoop, xsRunsNonEmpty, xsRunsEnd0, xsRunsFinal, Seq.runs]
  | cons a l =>
    obtain ⟨runs', start', h1, h2, h3⟩ :=
      runsLoop_spec same (a :: l) (a :: l).length 1 0 [] (by omega) (by simp) (by omega) (by omega)
    have he0 : (if xsRunsNonEmpty ((a :: l).length : Int) = true then xsRunsEnd1 else xsRunsEnd0) = ((1 : Nat) : Int) := by
      simp [xsRunsNonEmpty, xsRunsEnd1] <;> omega
    have hi0 : xsRunsI0 = ((1 : Nat) : Int) := by simp [xsRunsI0]
    have hs0 : xsRunsStart0 = ((0 : Nat) : Int) := by simp [xsRunsStart0]
    simp only [XSlices.runs, he0, hi0, hs0, h1]
    have hfin : xsRunsFinal (((a :: l).length : Nat) : Int) = true := by simp [xsRunsFinal] <;> omega
    rw [if_pos hfin, slice_nat (a :: l) start' (a :: l).length (by omega) (by omega)]
    simp only [Option.some.injEq]
    rw [h3]
    simp [Seq.runs]

theorem chunkTD_nil (n f : Nat) : Seq.chunkTD n f ([] : List α) = [] := by cases f <;> rfl

/-- the accumulating and the take/drop formulation of `chunk` agree -/
theorem chunkGo_eq_TD (n : Nat) (l pend : List α) (fuel : Nat) (hp : pend.length < n)
    (hf : (pend ++ l).length ≤ fuel * n) : Seq.chunkGo n pend l = Seq.chunkTD n fuel (pend ++ l) := by
  induction l generalizing pend fuel with
  | nil =>
    simp only [Seq.chunkGo, List.append_nil]
    cases pend with
    | nil => simp [chunkTD_nil]
    | cons p ps =>
      obtain ⟨f, rfl⟩ : ∃ f, fuel = f + 1 := by
        cases fuel with
        | zero => simp at hf
        | succ f => exact ⟨f, rfl⟩
      simp only [List.length_cons, Nat.zero_lt_succ, if_true, Seq.chunkTD]
      rw [List.take_of_length_le (by simp at hp ⊢; omega), List.drop_of_length_le (by simp at hp ⊢; omega), chunkTD_nil]
  | cons a l ih =>
    simp only [Seq.chunkGo]
    by_cases hfull : (pend ++ [a]).length = n
    · rw [if_pos hfull]
      obtain ⟨f, rfl⟩ : ∃ f, fuel = f + 1 := by
        cases fuel with
        | zero => simp at hf
        | succ f => exact ⟨f, rfl⟩
      have hsplit : pend ++ a :: l = (pend ++ [a]) ++ l := by simp
      obtain ⟨x, xs, hx⟩ : ∃ x xs, pend ++ a :: l = x :: xs := by cases pend <;> simp
      rw [hx, Seq.chunkTD, ← hx, hsplit, List.take_left' hfull, List.drop_left' hfull]
      congr 1
      have hf2 : l.length ≤ f * n := by
        have h3 : (pend ++ a :: l).length = n + l.length := by
          rw [hsplit, List.length_append, hfull]
        rw [h3, Nat.succ_mul] at hf
        omega
      have := ih [] f (by simp; omega) (by simpa using hf2)
      simpa using this
    · rw [if_neg hfull]
      have := ih (pend ++ [a]) fuel (by simp at hfull hp ⊢; omega) (by simpa using hf)
      simpa using this

/-- the index loop of `xslices.Chunk`: `k` chunks remain from index `i·n` -/
theorem chunkLoop_eq_TD (s : List α) (n : Nat) (k i : Nat)
    (h1 : s.length - i * n ≤ k * n) (h2 : k * n < s.length - i * n + n) :
    XSlices.chunkLoop s (n : Int) k (i : Int) = some (Seq.chunkTD n k (s.drop (i * n))) := by
  induction k generalizing i with
  | zero => simp [XSlices.chunkLoop, Seq.chunkTD]
  | succ k ih =>
    rw [Nat.succ_mul] at h1 h2
    have hr : i * n < s.length := by omega
    obtain ⟨x, xs, hx⟩ : ∃ x xs, s.drop (i * n) = x :: xs := by
      cases hd : s.drop (i * n) with
      | nil => simp [List.drop_eq_nil_iff] at hd; omega
      | cons x xs => exact ⟨x, xs, rfl⟩
    have hstart : xsChunkStart (i : Int) (n : Int) = ((i * n : Nat) : Int) := by simp [xsChunkStart, Int.natCast_mul]
    have hend : xsChunkEnd ((i * n : Nat) : Int) (n : Int) = (((i + 1) * n : Nat) : Int) := by
      simp only [xsChunkEnd]; rw [Nat.succ_mul]; omega
    have hnext := ih (i + 1) (by rw [Nat.succ_mul]; omega) (by rw [Nat.succ_mul]; omega)
    have e1 : ((i : Int) + 1) = ((i + 1 : Nat) : Int) := by omega
    rw [XSlices.chunkLoop, hstart, hend, e1, hnext]
    have hdd : s.drop ((i + 1) * n) = (s.drop (i * n)).drop n := by
      rw [List.drop_drop, Nat.succ_mul]
    have hL : (s.drop (i * n)).length = s.length - i * n := by simp
    by_cases hcl : (i + 1) * n ≥ s.length
    · have hc : xsChunkFull (s.length : Int) ((i * n : Nat) : Int) (n : Int) = false := by
        simp only [xsChunkFull, gt_iff_lt, decide_eq_false_iff_not]
        rw [Nat.succ_mul] at hcl
        omega
      simp only [hc, Bool.false_eq_true, if_false, xsChunkEndLast]
      rw [slice_nat s (i * n) s.length (by omega) (Nat.le_refl _)]
      simp only
      rw [hx, Seq.chunkTD, ← hx, hdd]
      rw [Nat.succ_mul] at hcl
      rw [List.take_length, List.take_of_length_le (by rw [hL]; omega)]
    · have hc : xsChunkFull (s.length : Int) ((i * n : Nat) : Int) (n : Int) = true := by
        simp only [xsChunkFull, gt_iff_lt, decide_eq_true_eq]
        rw [Nat.succ_mul] at hcl
        omega
      simp only [hc, if_true]
      rw [slice_nat s (i * n) ((i + 1) * n) (by rw [Nat.succ_mul]; omega) (by omega)]
      simp only
      rw [hx, Seq.chunkTD, ← hx, hdd, List.drop_take]
      have : (i + 1) * n - i * n = n := by rw [Nat.succ_mul]; omega
      rw [this]

theorem chunk_eq (s : List α) (n : Nat) (hn : 1 ≤ n) : XSlices.chunk s (n : Int) = some (Seq.chunk n s) := by
  have hp : xsChunkPanics (n : Int) = false := by simp [xsChunkPanics]; omega
  have hcnt : xsChunkMake (if xsChunkNonEmpty (s.length : Int) then xsChunkCount (s.length : Int) (n : Int) else xsChunkCount0)
      = (((s.length + n - 1) / n : Nat) : Int) := by
    simp only [xsChunkMake, xsChunkNonEmpty, xsChunkCount, xsChunkCount0, gt_iff_lt, decide_eq_true_eq]
    exact Helpers.chunk_count_eq s.length n hn
  let k := (s.length + n - 1) / n
  have hk : (s.length + n - 1) / n = k := rfl
  have hdm := Nat.div_add_mod (s.length + n - 1) n
  have hml := Nat.mod_lt (s.length + n - 1) (y := n) (by omega)
  rw [hk, Nat.mul_comm] at hdm
  have h1 : s.length - 0 * n ≤ k * n := by simp; omega
  have h2 : k * n < s.length - 0 * n + n := by simp; omega
  have hloop := chunkLoop_eq_TD s n k 0 h1 h2
  simp only [XSlices.chunk, hp, Bool.false_eq_true, if_false, hcnt, hk]
  have hnn : ¬ ((k : Nat) : Int) < 0 := Int.not_lt.mpr (Int.natCast_nonneg k)
  simp only [hnn, if_false, Int.toNat_natCast]
  have e0 : ((0 : Nat) : Int) = 0 := rfl
  rw [← e0, hloop]
  simp only [Nat.zero_mul, List.drop_zero, Option.some.injEq]
  rw [Seq.chunk, chunkGo_eq_TD n s [] k (by simp; omega) (by simp; omega)]
  simp

theorem compactGo_congr (eq : α → α → Bool) (h : Seq.Equiv eq) (a b : α) (hab : eq a b = true) (l : List α) :
    Seq.compactGo eq (some a) l = Seq.compactGo eq (some b) l := by
  induction l with
  | nil => rfl
  | cons x l ih =>
    have hx : eq a x = eq b x := by
      cases hax : eq a x with
      | true =>
        have := h.trans b a x (h.symm a b hab) hax
        rw [this]
      | false =>
        cases hbx : eq b x with
        | false => rfl
        | true => have := h.trans a b x hab hbx; rw [this] at hax; cases hax
    simp only [Seq.compactGo, hx]
    split
    · exact ih
    · rfl

/-! ## the wrappers / own loops shared with C19: `XSlices.*` are the C19 models on a slice with `cap = len` -/

open Juniper.Model.Stdlib (Sl) in
theorem items_ofList (l : List α) : (Sl.ofList l).items = l := by
  simp [Sl.ofList, Sl.items]

/-- `xslices.CompactFunc` = `slices.CompactFunc(slices.Clone(s), eq)` keeps an item iff it is the first
one or is not `eq` to its *predecessor* -/
theorem compactFunc_items (zero : α) (eq : α → α → Bool) (l : List α) :
    XSlices.compactFunc zero eq l = Stdlib.compactBy eq l := by
  show (Stdlib.Sl.shrinkTo zero (Stdlib.clone (Stdlib.Sl.ofList l)) _).items = _
  rw [Helpers.items_shrinkTo, Helpers.items_clone, items_ofList]

theorem stdCompactGo_eq (eq : α → α → Bool) (h : Seq.Equiv eq) (p : α) (l : List α) :
    Stdlib.compactGo eq p l = Seq.compactGo eq (some p) l := by
  induction l generalizing p with
  | nil => rfl
  | cons y l ih =>
    simp only [Stdlib.compactGo, Seq.compactGo]
    by_cases hyp : eq y p = true
    · have hpy := h.symm y p hyp
      simp only [hyp, hpy, if_true]
      rw [ih y, compactGo_congr eq h y p hyp]
    · have hpy : eq p y = false := by
        cases hx : eq p y with
        | false => rfl
        | true => exact absurd (h.symm p y hx) hyp
      simp only [hyp, hpy, Bool.false_eq_true, if_false]
      rw [ih y]

/-- `slices.CompactFunc` (compares neighbours) and the iterator's `CompactFunc` (compares with the
last item kept) agree when `eq` is an equivalence. -/
theorem compactFunc_eq (zero : α) (eq : α → α → Bool) (h : Seq.Equiv eq) (l : List α) :
    XSlices.compactFunc zero eq l = Seq.compact eq l := by
  rw [compactFunc_items]
  cases l with
  | nil => rfl
  | cons a l => simp only [Stdlib.compactBy, Seq.compact, Seq.compactGo]; rw [stdCompactGo_eq eq h]

theorem compact_items [DecidableEq α] (zero : α) (l : List α) :
    XSlices.compact zero l = XSlices.compactFunc zero (fun a b => decide (a = b)) l := rfl

/-- `xslices.Filter` = `slices.DeleteFunc(slices.Clone(s), !keep)` -/
theorem filter_eq (zero : α) (keep : α → Bool) (l : List α) : XSlices.filter zero keep l = l.filter keep := by
  show (Stdlib.Sl.shrinkTo zero (Stdlib.clone (Stdlib.Sl.ofList l)) _).items = _
  rw [Helpers.items_shrinkTo, Helpers.items_clone, items_ofList]
  simp

theorem join_eq (zero : α) (ls : List (List α)) : XSlices.join zero ls = some ls.flatten := by
  simp [XSlices.join, Helpers.join_eq]

theorem map_eq (zero : β) (f : α → β) (l : List α) : XSlices.map zero f l = some (l.map f) := Helpers.map_eq zero f l

theorem reduce_eq (zero : β) (f : β → α → β) (init : β) (l : List α) : XSlices.reduce zero f init l = l.foldl f init :=
  Helpers.reduce_eq zero l init f

theorem repeat_eq (zero a : α) (n : Int) :
    XSlices.repeat_ zero a n =
      if n < 0 then none else if n > Stdlib.allocLimit then none else some (List.replicate n.toNat a) :=
  Helpers.repeatN_eq zero a n

theorem equal_eq [DecidableEq α] (a b : List α) : XSlices.equal a b = decide (a = b) := by
  simp [XSlices.equal, Helpers.equal, Gen.Helpers.equalW, Stdlib.equal, items_ofList]

end Juniper.Proofs.XS
