import Juniper.Model.XTime
import Juniper.Proofs.Int64
import Juniper.Proofs.LTS
/-! Helper lemmas for C20, `JitterTicker` part: `schedule`, the callback's send and the steps of the
ticker LTS in closed form (`TStep`; this is where the regenerated facts are consumed), the inductive
invariant `TInv` of the runs inside the documented protocol, and what holds from a `Stop` until the next `Reset`
(`StoppedInv`). -/
namespace Juniper.Proofs.XTimeTicker
open Juniper.Facts Juniper.Gen.XTime Juniper.Model.XTime
open Juniper.Proofs.Helpers (wrap64_of_range wrapU64_of_range)

/-! ### The arithmetic of `schedule` over Go's fixed-width integers

`schedRandBound`, `schedRejects`, `schedNext` are generated with `wrap64` / `wrapU64` around every
operation of the source, and these are the identity on their ranges. `drawOk_eq` and `schedNext_eq`
show that every intermediate value of `schedule` stays in range, for **all** int64 values
`0 ≤ jitter < d ≤ MaxInt64` - no "durations are small" assumption. -/

/-- `schedule` draws exactly once on every path: either with `rand.Int63n` or with the rejection loop
over `rand.Uint64` (the calls of math/rand the extractor found are these three, each in its
recognised position). -/
theorem sched_one_draw (j : Int) :
    schedRandCalls = ["rand.Int63n", "rand.Uint64", "rand.Uint64"] ∧
    (schedUsesInt63n j != schedUsesUint64 j) = true := by
  refine ⟨by decide +kernel, ?_⟩
  unfold schedUsesInt63n schedUsesUint64
  cases decide (j ≤ Int.tdiv maxInt64 (2 : Int)) <;> rfl

/-- The values the random source can deliver to `schedule` are exactly `0 … 2·jitter`, on both paths
(`rand.Int63n(2·jitter+1)` while that fits into an int64 - then its argument is positive, no panic -,
the rejection loop over `rand.Uint64` above that), for every int64 jitter `0 ≤ jitter < MaxInt64`. -/
theorem drawOk_eq {j r : Int} (h0 : 0 ≤ j) (h2 : j < 9223372036854775807) :
    drawOk j r = some (decide (0 ≤ r ∧ r ≤ 2 * j)) := by
  have _ := sched_one_draw j
  unfold drawOk schedUsesInt63n schedUsesUint64 schedRandBound schedRejects
  rw [show Int.tdiv maxInt64 2 = 4611686018427387903 by decide +kernel]
  by_cases hs : j ≤ 4611686018427387903
  · rw [wrap64_of_range (x := j * 2) (by omega) (by omega), wrap64_of_range (by omega) (by omega),
      if_pos (decide_eq_true hs)]
    dsimp only
    rw [if_neg (by omega)]
    congr 1
    rw [decide_eq_decide]
    omega
  · rw [wrapU64_of_range h0 (by omega), wrapU64_of_range (by omega) (by omega), if_neg (by simpa using hs),
      if_pos (by simpa using hs)]
    congr 1
    rw [Bool.eq_iff_iff]
    simp only [Bool.and_eq_true, decide_eq_true_eq, Bool.not_eq_true', decide_eq_false_iff_not]
    omega

theorem schedNext_eq {d j r : Int} (h0 : 0 ≤ j) (h1 : j < d) (h2 : d ≤ 9223372036854775807)
    (hr0 : 0 ≤ r) (hr : r ≤ 2 * j) : schedNext d j r = min (d - j + r) 9223372036854775807 := by
  unfold schedNext int63n maxInt64
  dsimp only
  rw [wrapU64_of_range hr0 (by omega), ite_self,
    wrap64_of_range (x := d - j) (by omega) (Int.le_trans (Int.sub_le_self d h0) h2),
    wrap64_of_range (by omega) (by omega), wrapU64_of_range (by omega) (by omega)]
  by_cases hc : r ≤ 9223372036854775807 - (d - j)
  · rw [if_pos (decide_eq_true hc), wrap64_of_range (x := r) (by omega) (by omega),
      wrap64_of_range (by omega) (by omega)]
    omega
  · rw [if_neg (by simpa using hc)]
    omega

/-- `schedule` in closed form, for every int64 `0 ≤ jitter < d ≤ MaxInt64`: it does not panic, the
label's value is one of `0 … 2·jitter`, `gen` is bumped once and captured after the bump, the old
timer is stopped, the new one is due `min (d - jitter + r) MaxInt64` from now. -/
theorem schedule_spec {s s' : TState} {r : Int} (hj : 0 ≤ s.jitter) (hjd : s.jitter < s.d)
    (hd : s.d ≤ maxInt64) (h : schedule s r = some s') :
    0 ≤ r ∧ r ≤ 2 * s.jitter ∧
      s' = { s with gen := s.gen + 1, hasTimer := true,
                    timer := some ⟨s.now + min (s.d - s.jitter + r) maxInt64, s.gen + 1⟩ } := by
  unfold maxInt64 at hd ⊢
  unfold schedule at h
  rw [drawOk_eq hj (by omega)] at h
  by_cases hr : 0 ≤ r ∧ r ≤ 2 * s.jitter
  · simp only [hr, and_self, decide_true, schedStopsOld, schedBumpsGen, schedCapturesGen, if_true] at h
    rw [schedNext_eq hj hjd hd hr.1 hr.2] at h
    cases h
    exact ⟨hr.1, hr.2, by simp⟩
  · simp only [hr, decide_false] at h
    cases h

/-- With `schedule_spec`: the rand label ranges over exactly the values the code can draw. -/
theorem schedule_enabled (s : TState) {r : Int} (hj : 0 ≤ s.jitter) (hjd : s.jitter < s.d)
    (hd : s.d ≤ maxInt64) (hr0 : 0 ≤ r) (hr : r ≤ 2 * s.jitter) : ∃ s', schedule s r = some s' := by
  unfold maxInt64 at hd
  unfold schedule
  rw [drawOk_eq hj (by omega)]
  simp [hr0, hr]

/-! ### The statement skeletons behind the atomic labels

The callback, `Stop` and `Reset` are single labels of the LTS because each holds `t.m` from its first
to its last statement. These closed lemmas compare the regenerated statement lists with the shapes
the labels mirror (`Model.XTime.cbMirrored` …): hoisting the `t.gen == gen` test out of the lock,
sending after `Unlock`, an extra statement in `Stop` … make them false, and `tstep_sound` (hence
`tinv_step` and every ticker theorem) stops compiling. -/

theorem cb_skeleton : cbMirrored = true := by decide +kernel
theorem stop_skeleton : stopMirrored = true := by decide +kernel
theorem reset_skeleton : resetMirrored = true := by decide +kernel

/-- The callback's `select` has a `default`: it never blocks; it sends iff the one-slot channel is
empty. -/
theorem cbSend_spec (s : TState) :
    cbSend s = some (if s.chan.length < 1 then
        { s with chan := s.chan ++ [s.now], sent := (s.now, s.d - s.jitter) :: s.sent } else s) := by
  have h1 : cbSelect.contains (.send "t.c") = true := by decide +kernel
  have h2 : cbSelect.contains .dflt = true := by decide +kernel
  have h3 : ((s.chan.length : Int) < tickChanCap) ↔ s.chan.length < 1 := by unfold tickChanCap; omega
  simp only [cbSend, h1, h2, h3, Bool.true_and, decide_eq_true_eq, if_true, apply_ite some]

/-- The steps of the ticker, one constructor per branch of `tstep` (on a live ticker), with the
regenerated guards, flags and statement skeletons in closed form: `unmodelled` is never set. -/
inductive TStep (s : TState) : TLabel → TState → Prop
  | advance {dt : Int} : 0 ≤ dt → TStep s (.advance dt) { s with lastPanic := false, now := s.now + dt }
  | fire {t : Timer} : s.timer = some t → t.due ≤ s.now →
      TStep s (.fire 0) { s with lastPanic := false, timer := none, pending := s.pending ++ [t.gen] }
  | fireOrphan {k : Nat} {t : Timer} : s.orphans[k]? = some t → t.due ≤ s.now →
      TStep s (.fire (k + 1))
        { s with lastPanic := false, orphans := s.orphans.eraseIdx k, pending := s.pending ++ [t.gen] }
  | cbStale {i : Nat} {g : Int} : s.pending[i]? = some g → s.gen ≠ g →
      TStep s (.runCb i 0) { s with lastPanic := false, pending := s.pending.eraseIdx i }
  | cbLive {i : Nat} {r : Int} {s' : TState} : s.pending[i]? = some s.gen →
      schedule (if s.chan.length < 1 then
          { s with lastPanic := false, pending := s.pending.eraseIdx i, chan := s.chan ++ [s.now],
                   sent := (s.now, s.d - s.jitter) :: s.sent }
        else { s with lastPanic := false, pending := s.pending.eraseIdx i }) r = some s' →
      TStep s (.runCb i r) s'
  | recv {x : Int} {rest : List Int} : s.chan = x :: rest → TStep s .recv { s with lastPanic := false, chan := rest }
  | resetPanic {d j : Int} : d ≤ 0 ∨ d ≤ j → TStep s (.reset d j 0) { s with lastPanic := true }
  | reset {d j r : Int} {s' : TState} : 0 < d → j < d →
      schedule { s with lastPanic := false, d := d, jitter := j, stopped := false } r = some s' →
      TStep s (.reset d j r) s'
  | stopPanic : s.hasTimer = false → TStep s .stop { s with panicked := true, lastPanic := true }
  | stop : s.hasTimer = true →
      TStep s .stop { s with lastPanic := false, timer := none, gen := s.gen + 1, hasTimer := false, stopped := true }

theorem tstep_sound {s s' : TState} {l : TLabel} (h : tstep s l = some s') : TStep s l s' := by
  revert h
  -- `fun_cases` follows the branches of `tstep`: those that return `none` go by `cases h`, which in the others puts the
  -- successor state in; what remains comes in the order of the constructors of `TStep` (the live callback before the
  -- stale one)
  fun_cases tstep s l <;> intro h <;> try cases h
  · exact .advance ‹_›
  · exact .fire ‹_› ‹_›
  · exact .fireOrphan ‹_› ‹_›
  · rename_i g hg _ hok s1 hs1
    simp +zetaDelta only [cb_skeleton, Bool.not_true, Bool.or_false, cbGenOk, cbSend_spec, decide_eq_true_eq, Option.some.injEq] at hok hs1
    subst hs1
    exact .cbLive (hok ▸ hg) h
  · rename_i g hg _ hok
    simp +zetaDelta only [cb_skeleton, Bool.not_true, Bool.or_false, Option.some.injEq] at h
    subst h
    exact .cbStale hg (by simpa +zetaDelta [cbGenOk] using hok)
  · exact .recv ‹_›
  · rename_i hp
    simp only [resetPanicsD, resetPanicsJ, Bool.or_eq_true, decide_eq_true_eq] at hp
    exact .resetPanic hp
  · rename_i hp
    simp +zetaDelta only [resetPanicsD, resetPanicsJ, resetLocked, reset_skeleton, Bool.and_self, Bool.not_true, Bool.or_false,
      Bool.or_eq_true, decide_eq_true_eq] at hp h
    exact .reset (by omega) (by omega) h
  · rename_i hp
    simp +zetaDelta only [stopStopsTimer, Bool.true_and, Bool.not_eq_true'] at hp
    exact .stopPanic hp
  · rename_i hp
    simp +zetaDelta only [stopStopsTimer, Bool.true_and, Bool.not_eq_true'] at hp
    simp only [stopStopsTimer, stopBumpsGen, stopClearsTimer, stopLocked, stop_skeleton, Bool.and_self, Bool.not_true,
      Bool.or_false, if_true]
    exact .stop (Bool.of_not_eq_false hp)

/-- Consecutive entries of the ghost log of sent ticks (newest first) respect the `d - jitter` that was
in force when the later one was sent. -/
def Spaced : List (Int × Int) → Prop
  | p2 :: p1 :: rest => p1.1 + p2.2 ≤ p2.1 ∧ Spaced (p1 :: rest)
  | _ => True

theorem spaced_get : ∀ (l : List (Int × Int)), Spaced l → ∀ i (h : i + 1 < l.length),
    (l[i + 1]'h).1 + (l[i]'(by omega)).2 ≤ (l[i]'(by omega)).1
  | [], _, _, h => nomatch h
  | [_], _, _, h => nomatch Nat.lt_of_succ_lt_succ h
  | _ :: _ :: _, hs, 0, _ => hs.1
  | _ :: p1 :: rest, hs, i + 1, h => spaced_get (p1 :: rest) hs.2 i (Nat.lt_of_succ_lt_succ h)

structure TInv (s : TState) : Prop where
  alive : s.panicked = false
  modelled : s.unmodelled = false
  orphans : s.orphans = []
  valid : 0 < s.d ∧ 0 ≤ s.jitter ∧ s.jitter < s.d ∧ s.d ≤ maxInt64
  timerGen : ∀ t, s.timer = some t → t.gen = s.gen
  pendLe : ∀ g ∈ s.pending, g ≤ s.gen
  stoppedOff : s.stopped = true → s.timer = none ∧ s.gen ∉ s.pending
  runningHas : s.stopped = false → s.hasTimer = true
  spaced : Spaced s.sent
  lastLe : ∀ p, s.sent.head? = some p → p.1 ≤ s.now
  timerGap : ∀ t p, s.timer = some t → s.sent.head? = some p → p.1 + (s.d - s.jitter) ≤ t.due
  pendGap : s.gen ∈ s.pending → ∀ p, s.sent.head? = some p → p.1 + (s.d - s.jitter) ≤ s.now
  chanCap : s.chan.length ≤ 1

/-- The part of the invariant `schedule` needs. -/
structure TPre (s : TState) : Prop where
  alive : s.panicked = false
  modelled : s.unmodelled = false
  orphans : s.orphans = []
  valid : 0 < s.d ∧ 0 ≤ s.jitter ∧ s.jitter < s.d ∧ s.d ≤ maxInt64
  pendLe : ∀ g ∈ s.pending, g ≤ s.gen
  spaced : Spaced s.sent
  lastLe : ∀ p, s.sent.head? = some p → p.1 ≤ s.now
  chanCap : s.chan.length ≤ 1

theorem TInv.pre {s : TState} (hi : TInv s) : TPre s :=
  ⟨hi.alive, hi.modelled, hi.orphans, hi.valid, hi.pendLe, hi.spaced, hi.lastLe, hi.chanCap⟩

theorem tinv_schedule {s s' : TState} {r : Int} (h : schedule s r = some s') (hns : s.stopped = false)
    (hi : TPre s) : TInv s' := by
  have hv := hi.valid
  obtain ⟨hr0, _, rfl⟩ := schedule_spec hv.2.1 hv.2.2.1 hv.2.2.2 h
  have hlt : ∀ g ∈ s.pending, g < s.gen + 1 := fun g hg => Int.lt_add_one_iff.2 (hi.pendLe g hg)
  exact { hi with
    timerGen := fun _ ht => by cases ht; rfl
    pendLe := fun g hg => Int.le_of_lt (hlt g hg)
    stoppedOff := fun hs => nomatch hns.symm.trans hs
    runningHas := fun _ => rfl
    timerGap := fun _ p ht hp => by
      cases ht
      have := hi.lastLe p hp
      show p.1 + (s.d - s.jitter) ≤ s.now + min (s.d - s.jitter + r) maxInt64
      omega
    pendGap := fun hg => absurd (hlt _ hg) (Int.lt_irrefl _) }

/-- The two validation guards of `NewJitterTicker` are exactly the documented ones: it panics before
creating anything iff `d ≤ 0` or `jitter ≥ d`. -/
theorem newPanics_iff (d j : Int) : (newPanicsD d j || newPanicsJ d j) = decide (d ≤ 0 ∨ j ≥ d) := by
  simp only [newPanicsD, newPanicsJ, Bool.decide_or]

theorem newPanics_false {d j : Int} (hd : 0 < d) (hj : j < d) : (newPanicsD d j || newPanicsJ d j) = false := by
  rw [newPanics_iff]; simp; omega

theorem tinv_create {now d j r : Int} {s : TState} (hd : 0 < d) (hj0 : 0 ≤ j) (hj : j < d)
    (hmax : d ≤ maxInt64) (h : create now d j r = some s) : TInv s := by
  unfold create at h
  simp only [newPanics_false hd hj] at h
  exact tinv_schedule h rfl
    { alive := rfl, modelled := (by simp [newLocked]), orphans := rfl, valid := ⟨hd, hj0, hj, hmax⟩,
      pendLe := (fun _ h => nomatch h), spaced := trivial, lastLe := (fun _ h => nomatch h),
      chanCap := Nat.zero_le 1 }

/-- Labels inside the documented protocol: `Stop` is not called on a stopped ticker, jitter is never
negative, and the `d` handed to `Reset` is a Go `time.Duration`, i.e. at most `MaxInt64` (that is
the type of the argument, not a restriction of the callers). (Reset with `d ≤ 0` or `jitter ≥ d` is
allowed: it panics before touching anything.) -/
def Proto (s : TState) : TLabel → Prop
  | .stop => s.stopped = false
  | .reset d j _ => 0 ≤ j ∧ d ≤ maxInt64
  | _ => True

inductive TReachP (s0 : TState) : TState → Prop where
  | refl : TReachP s0 s0
  | step {s s' : TState} (l : TLabel) : TReachP s0 s → Proto s l → tstep s l = some s' → TReachP s0 s'

theorem tinv_step {s s' : TState} {l : TLabel} (hi0 : TInv s) (hp : Proto s l)
    (h : tstep s l = some s') : TInv s' := by
  have hpre := hi0.pre
  cases tstep_sound h with
  | advance hdt =>
    exact { hi0 with
      lastLe := fun p hp => Int.le_trans (hi0.lastLe p hp) (Int.le_add_of_nonneg_right hdt)
      pendGap := fun hg p hp => Int.le_trans (hi0.pendGap hg p hp) (Int.le_add_of_nonneg_right hdt) }
  | fire ht hdue =>
    refine { hi0 with
      timerGen := fun _ h => nomatch h
      pendLe := ?_
      stoppedOff := ?_
      timerGap := fun _ _ h => nomatch h
      pendGap := ?_ }
    · intro g hg
      rcases List.mem_append.1 hg with hg | hg
      · exact hi0.pendLe g hg
      · cases List.mem_singleton.1 hg
        exact Int.le_of_eq (hi0.timerGen _ ht)
    · intro hs
      rw [(hi0.stoppedOff hs).1] at ht
      cases ht
    · intro _ p hp
      exact Int.le_trans (hi0.timerGap _ p ht hp) hdue
  | fireOrphan ho =>
    rw [hi0.orphans] at ho
    cases ho
  | cbStale hg hne =>
    exact { hi0 with
      pendLe := fun g hg' => hi0.pendLe g (List.mem_of_mem_eraseIdx hg')
      stoppedOff := fun hs => ⟨(hi0.stoppedOff hs).1, fun hm => (hi0.stoppedOff hs).2 (List.mem_of_mem_eraseIdx hm)⟩
      pendGap := fun hm => hi0.pendGap (List.mem_of_mem_eraseIdx hm) }
  | @cbLive i _ _ hg hs =>
    have hmem := List.mem_of_getElem? hg
    have hns : s.stopped = false := Bool.eq_false_iff.2 fun hst => (hi0.stoppedOff hst).2 hmem
    have hle := fun g hg' => hi0.pendLe g (List.mem_of_mem_eraseIdx (i := i) hg')
    split at hs
    · rename_i hc
      refine tinv_schedule hs hns { hpre with pendLe := hle, spaced := ?_, lastLe := ?_, chanCap := ?_ }
      · show Spaced ((s.now, s.d - s.jitter) :: s.sent)
        cases hsent : s.sent with
        | nil => trivial
        | cons p rest => exact ⟨hi0.pendGap hmem p (by rw [hsent]; rfl), hsent ▸ hi0.spaced⟩
      · intro p hp
        cases hp
        exact Int.le_refl _
      · show (s.chan ++ [s.now]).length ≤ 1
        rw [List.length_append, List.length_singleton]
        omega
    · exact tinv_schedule hs hns { hpre with pendLe := hle }
  | recv hc =>
    have := hi0.chanCap
    rw [hc, List.length_cons] at this
    exact { hi0 with chanCap := Nat.le_of_succ_le this }
  | resetPanic => exact { hi0 with }
  | reset hd hj hs => exact tinv_schedule hs rfl { hpre with valid := ⟨hd, hp.1, hj, hp.2⟩ }
  | stopPanic hht =>
    rw [hi0.runningHas hp] at hht
    cases hht
  | stop =>
    have hlt : ∀ g ∈ s.pending, g < s.gen + 1 := fun g hg => Int.lt_add_one_iff.2 (hi0.pendLe g hg)
    exact { hi0 with
      timerGen := fun _ h => nomatch h
      pendLe := fun g hg => Int.le_of_lt (hlt g hg)
      stoppedOff := fun _ => ⟨rfl, fun hm => Int.lt_irrefl _ (hlt _ hm)⟩
      runningHas := fun h => nomatch h
      timerGap := fun _ _ h => nomatch h
      pendGap := fun hm => absurd (hlt _ hm) (Int.lt_irrefl _) }

theorem tinv_reach {s0 s : TState} (h0 : TInv s0) (hr : TReachP s0 s) : TInv s := by
  induction hr with
  | refl => exact h0
  | step l _ hp hs ih => exact tinv_step ih hp hs

theorem schedule_lastPanic {s s' : TState} {r : Int} (h : schedule s r = some s')
    (h0 : s.lastPanic = false) (h1 : s'.lastPanic = true) : s'.panicked = true := by
  unfold schedule at h
  dsimp only at h
  split at h
  · cases h; rfl
  · cases h
  · cases h; simp [h0] at h1

/-- A call reports a panic only if it died holding the mutex or was a `Reset` with arguments outside
the documented domain. -/
theorem tstep_lastPanic {s s' : TState} {l : TLabel} (h : tstep s l = some s') (h1 : s'.lastPanic = true) :
    s'.panicked = true ∨ ∃ d j r, l = .reset d j r ∧ (d ≤ 0 ∨ d ≤ j) := by
  cases tstep_sound h with
  | cbLive _ hs => exact .inl (schedule_lastPanic hs (by split <;> rfl) h1)
  | reset _ _ hs => exact .inl (schedule_lastPanic hs rfl h1)
  | resetPanic hg => exact .inr ⟨_, _, _, rfl, hg⟩
  | stopPanic => exact .inl rfl
  | _ => cases h1

def isReset : TLabel → Bool
  | .reset _ _ _ => true
  | _ => false

/-- What holds from the moment `Stop` returned until the next `Reset`. -/
structure StoppedInv (s : TState) : Prop where
  stopped : s.stopped = true
  timer : s.timer = none
  orphans : s.orphans = []
  pendLt : ∀ g ∈ s.pending, g < s.gen

theorem stopped_step {s s' : TState} {l : TLabel} (hi : StoppedInv s) (hl : isReset l = false)
    (h : tstep s l = some s') : StoppedInv s' ∧ s'.sent = s.sent := by
  cases tstep_sound h with
  | fire ht =>
    rw [hi.timer] at ht
    cases ht
  | fireOrphan ho =>
    rw [hi.orphans] at ho
    cases ho
  | cbStale =>
    exact ⟨⟨hi.stopped, hi.timer, hi.orphans, fun g hg => hi.pendLt g (List.mem_of_mem_eraseIdx hg)⟩, rfl⟩
  | cbLive hg => exact absurd (hi.pendLt _ (List.mem_of_getElem? hg)) (Int.lt_irrefl _)
  | resetPanic => cases hl
  | reset => cases hl
  | stop =>
    exact ⟨⟨rfl, rfl, hi.orphans, fun g hg => Int.lt_trans (hi.pendLt g hg) (Int.lt_succ _)⟩, rfl⟩
  | _ => exact ⟨⟨hi.stopped, hi.timer, hi.orphans, hi.pendLt⟩, rfl⟩

theorem stop_establishes {s s' : TState} (hi : TInv s) (hns : s.stopped = false)
    (h : tstep s .stop = some s') : StoppedInv s' ∧ s'.sent = s.sent := by
  cases tstep_sound h with
  | stopPanic hht =>
    rw [hi.runningHas hns] at hht
    cases hht
  | stop => exact ⟨⟨rfl, rfl, hi.orphans, fun g hg => Int.lt_add_one_iff.2 (hi.pendLe g hg)⟩, rfl⟩

inductive RunNoReset : TState → TState → Prop where
  | refl (a : TState) : RunNoReset a a
  | step {a b c : TState} (l : TLabel) : RunNoReset a b → isReset l = false → tstep b l = some c → RunNoReset a c

theorem stopped_run {a b : TState} (hi : StoppedInv a) (hr : RunNoReset a b) :
    StoppedInv b ∧ b.sent = a.sent := by
  induction hr with
  | refl => exact ⟨hi, rfl⟩
  | step l _ hl hs ih =>
    obtain ⟨h1, h2⟩ := stopped_step ih.1 hl hs
    exact ⟨h1, h2.trans ih.2⟩

def protoB (s : TState) : TLabel → Bool
  | .stop => !s.stopped
  | .reset d j _ => decide (0 ≤ j ∧ d ≤ maxInt64)
  | _ => true

theorem proto_of_protoB {s : TState} {l : TLabel} (h : protoB s l = true) : Proto s l := by
  cases l <;> simp_all [protoB, Proto]

def runP (s : TState) : List TLabel → Option TState
  | [] => some s
  | l :: ls => if protoB s l then (tstep s l).bind (fun s' => runP s' ls) else none

theorem isRun : LTS.IsRun (fun s l => if protoB s l then tstep s l else none) runP :=
  ⟨fun _ => rfl, fun s l ls => by rw [runP]; split <;> rfl⟩

theorem reach_of_runP : ∀ (ls : List TLabel) (s0 s s' : TState), TReachP s0 s → runP s ls = some s' → TReachP s0 s' :=
  fun _ _ _ _ hr h => isRun.reach
    (fun hr h => let ⟨hp, hs⟩ := Option.ite_none_right_eq_some.1 h; .step _ hr (proto_of_protoB hp) hs) hr h

end Juniper.Proofs.XTimeTicker
