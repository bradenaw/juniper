import Juniper.Proofs.TreeHeapLinkFinish
/-!
# Linking the two B-tree models (C03): `Delete`, the removal phase

`Heap.delete` after the descent = removal (leaf: `leafRemove`; inner node: `removeRightmost` on the
rightmost leaf of the left subtree + `replaceEntry`) followed by `tail` (nothing if the leaf still has
`minKVs` entries, else `repair`).
-/
namespace Juniper.Proofs.TreeHeapLink
open Juniper Juniper.Model.BTree Juniper.Model.BTreeSlotsOps Juniper.Proofs.Tree Juniper.Proofs.TreeSlotsOps

variable {K V : Type}

/-- what `Delete` does after the removal with the leaf `lf` that now has `n` entries -/
def tail (fuel : Nat) (h : Heap K V) (lf : Nat) (n : Int) : Option (Heap K V) :=
  if Gen.Tree.minKVs ≤ n then some h else repair fuel h lf

/-- the end of `Heap.delete` -/
def delPost (fuel : Nat) (hl : Heap K V × Option Nat) : Option (Heap K V) :=
  match hl.2 with
  | none => some hl.1
  | some lf => if Gen.Tree.deleteMerges lf hl.1.root then Heap.mergeFrom fuel hl.1 lf else some hl.1

/-- the tail at a leaf that has `n` entries left, in the shape of the last clause of `RmSim` / `AfterSim` at height 0
(hence `fuel + 0` and `0 ≤ fuel`) -/
theorem tail_leaf {h : Heap K V} {id n : Nat} {x : SNode K V Nat} {u : Bool}
    (hx : h.get id = some x) (hn : x.n = (n : Int)) (hroot : id = h.root → x.parent = none)
    (hu : u = (decide ((n : Int) < Gen.Tree.minKVs) && !decide ((id : Int) = (h.root : Int)))) :
    if u then ∀ fuel, tail (fuel + 0) h id x.n = repair fuel h id
    else ∀ fuel, 0 ≤ fuel → tail fuel h id x.n = some h := by
  subst hu
  unfold tail
  rw [hn]
  by_cases hlt : (n : Int) < Gen.Tree.minKVs
  · have hge : ¬ Gen.Tree.minKVs ≤ (n : Int) := by omega
    by_cases hid : id = h.root
    · rw [if_neg (by simp [hid])]
      intro fuel _
      rw [if_neg hge]
      subst hid
      exact repair_root hx (hroot rfl) fuel
    · rw [if_pos (by simp [hlt]; omega)]
      intro fuel
      rw [if_neg hge]; rfl
  · rw [if_neg (by simp [hlt])]
    intro fuel _
    rw [if_pos (by omega)]

theorem deleteLeaf_tail {h h1 : Heap K V} {curr idx : Nat} {x' : SNode K V Nat}
    (hs : h.step (.leafRemove curr idx) [curr] = some h1) (hx : h1.get curr = some x') (fuel : Nat) :
    (Heap.deleteLeaf h curr idx).bind (delPost fuel) = tail fuel h1 curr x'.n := by
  unfold Heap.deleteLeaf tail
  simp only [bind, pure, hs, hx, Option.bind_some]
  by_cases hn : Gen.Tree.minKVs ≤ x'.n
  · have : Gen.Tree.deleteLeafDone x'.n false = true := by simp [Gen.Tree.deleteLeafDone, hn]
    simp [this, hn, delPost]
  · have h1' : Gen.Tree.deleteLeafDone x'.n false = false := by simp [Gen.Tree.deleteLeafDone, hn]
    simp only [h1', Bool.false_eq_true, if_false, hn, repair]
    cases hst : Heap.steal h1 curr with
    | none => rfl
    | some hs =>
      obtain ⟨ha, b⟩ := hs
      cases b with
      | true => simp [Gen.Tree.deleteLeafDone, delPost]
      | false => simp [Gen.Tree.deleteLeafDone, hn, delPost]

theorem deleteInner_tail {h ha hb : Heap K V} {curr idx c lf : Nat} {x lx lx' xl2 : SNode K V Nat} {rk : K} {rv : V}
    {fuelR : Nat}
    (hc : x.kids[idx]? = some (some c)) (hlf : Heap.rightmostLeaf h fuelR c = some lf) (hlx : h.get lf = some lx)
    (hrm : removeRightmostAt lx = some (some rk, some rv, lx'))
    (hsa : h.step (.removeRightmost lf) [lf] = some ha) (hlx2 : ha.get lf = some xl2)
    (hsb : ha.step (.replaceEntry curr idx rk rv) [curr] = some hb) (fuel : Nat) :
    (Heap.deleteInner h curr idx x fuelR).bind (delPost fuel) = tail fuel hb lf xl2.n := by
  unfold Heap.deleteInner tail
  simp only [bind, pure, hc, hlf, hlx, hrm, hsa, hlx2, hsb, Option.bind_some]
  by_cases hn : Gen.Tree.minKVs ≤ xl2.n
  · have : Gen.Tree.removeRightmostUnder xl2.n = false := by simp [Gen.Tree.removeRightmostUnder]; omega
    simp [this, hn, delPost, Gen.Tree.deleteInnerDone]
  · have h1' : Gen.Tree.removeRightmostUnder xl2.n = true := by simp [Gen.Tree.removeRightmostUnder]; omega
    simp only [h1', if_true, hn, if_false, repair, Gen.Tree.deleteInnerDone, Bool.false_or, Bool.false_eq_true]
    cases hst : Heap.steal hb lf with
    | none => rfl
    | some hs =>
      obtain ⟨hc', b⟩ := hs
      cases b with
      | true => simp [delPost]
      | false => simp [delPost]

theorem noId_cnt {r : Nat} {x : Node K V} (h : NoId r x) : cnt r x = 0 :=
  Nat.eq_zero_of_not_pos fun hp => h (mem_ids_iff_cnt.mpr hp)

/-- the state after the repairs below / at the node `x` (height `ht`): the new subtree is in the store,
nothing else changed, and either everything is done (`u = false`) or `repair` continues at `x` -/
def AfterSim (hb0 : Heap K V) (p : Option Nat) (ht : Nat) (x : Node K V) (h2 : Heap K V) (lf : Nat) (n : Int) :
    DelRes K V → Prop
  | .done x' u => ∃ h3, Sub h3.get p x' ∧ (∀ j, cnt j x = 0 → h3.get j = hb0.get j) ∧
      h3.nodes.length = hb0.nodes.length ∧ h3.size = hb0.size ∧ h3.gen = hb0.gen ∧
      h3.root = (if x.id = hb0.root then x'.id else hb0.root) ∧ (x.id ≠ hb0.root → x'.id = x.id) ∧
      (if u then ∀ fuel, tail (fuel + ht) h2 lf n = repair fuel h3 x.id
       else ∀ fuel, ht ≤ fuel → tail fuel h2 lf n = some h3)
  | _ => False

theorem afterSim_done {hb0 h2 : Heap K V} {p : Option Nat} {ht lf : Nat} {n : Int} {x x' : Node K V} {u : Bool} :
    AfterSim hb0 p ht x h2 lf n (.done x' u) ↔ ∃ h3, Repl hb0 h3 p x x' ∧
      (if u then ∀ fuel, tail (fuel + ht) h2 lf n = repair fuel h3 x.id
       else ∀ fuel, ht ≤ fuel → tail fuel h2 lf n = some h3) :=
  ⟨fun ⟨h3, a, b, c, d, e, f, g, t⟩ => ⟨h3, ⟨a, b, c, d, e, f, g⟩, t⟩,
   fun ⟨h3, ⟨a, b, c, d, e, f, g⟩, t⟩ => ⟨h3, a, b, c, d, e, f, g, t⟩⟩

theorem after_child {rootId ht' id i : Nat} {isRoot : Bool} {kvs kvs1 : List (K × V)} {kids : List (Node K V)}
    {c c' : Node K V} {under_c : Bool} {hb0 h3c h2 : Heap K V} {p : Option Nat} {sxb : SNode K V Nat} {lf : Nat} {n : Int}
    (hp : DelPre rootId (ht' + 1) isRoot (.mk id kvs kids)) (hlen1 : kvs1.length = kvs.length)
    (hc : kids[i]? = some c) (hcnt : ∀ j, cnt j (Node.mk id kvs kids) ≤ 1)
    (hroot : hb0.root = rootId) (hrootp : isRoot = true → p = none)
    (hxb : hb0.get id = some sxb) (hparb : sxb.parent = p) (hrb : NodeRep sxb kvs1 (kids.map Node.id))
    (hsibs : ∀ d, (d ∈ kids.take i ∨ d ∈ kids.drop (i + 1)) → Sub hb0.get (some id) d)
    (r : Repl hb0 h3c (some id) c c') (hcid : c'.id = c.id)
    (hso : SubOK ht' c' under_c) (hcle : ∀ j, cnt j c' ≤ cnt j c)
    (htl : if under_c then ∀ fuel, tail (fuel + ht') h2 lf n = repair fuel h3c c.id
           else ∀ fuel, ht' ≤ fuel → tail fuel h2 lf n = some h3c) :
    AfterSim hb0 p (ht' + 1) (.mk id kvs kids) h2 lf n
      (if under_c then finish rootId id kvs1 (replaceAt kids i c') i else .done (.mk id kvs1 (replaceAt kids i c')) false) := by
  have hcm := List.mem_of_getElem? hc
  have hil : i < kids.length := (List.getElem?_eq_some_iff.mp hc).1
  have hrP : Repl hb0 h3c p (.mk id kvs kids) (.mk id kvs1 (replaceAt kids i c')) :=
    r.lift hcnt hc hxb hparb hrb hsibs hcid
  have hcleP := cnt_replace_le (id := id) (kvs := kvs) (kvs1 := kvs1) hc hcle
  obtain ⟨hb', hmx, hmn, hmu⟩ := hso
  cases under_c with
  | false =>
    simp only [Bool.false_eq_true, if_false] at htl ⊢
    exact afterSim_done.mpr ⟨h3c, hrP, fun fuel hf => htl fuel (Nat.le_of_succ_le hf)⟩
  | true =>
    simp only [if_true] at htl ⊢
    have hb1 : Bal (ht' + 1) (.mk id kvs1 kids) := by
      have := bal_succ.mp hp.bal
      exact bal_succ.mpr ⟨by rw [hlen1]; exact this.1, this.2⟩
    have h3root : h3c.root = rootId := by rw [(r.same hcid).root, hroot]
    have hkv1 : 1 ≤ kvs1.length := by
      have hmin := consts.1
      rw [hlen1]
      cases isRoot with
      | true => have := (hp.rootCase rfl).2 (by omega); simp only [node_n] at this; omega
      | false => have := (hp.subCase rfl).2; simp only [node_n] at this; omega
    have hfs := finish_sim (h := h3c) (p := p) (ht := ht') (id := id) (j := i) hrP.sub
      (fun j => Nat.le_trans (hcleP j) (hcnt j))
      (needsFix_replace hb1 hc hb' (hmu rfl)) (replaceAt_getElem? c' hil) (hmu rfl) hkv1
      (by
        intro e
        cases isRoot with
        | true => exact hrootp rfl
        | false => exact absurd (e.trans h3root) (hp.subCase rfl).1)
      (by
        intro d hd
        rw [h3root]
        rcases mem_replaceAt hd with rfl | hd
        · have := hcle rootId
          have := noId_cnt (hp.kidsNoId c hcm); omega
        · exact noId_cnt (hp.kidsNoId d hd))
    rw [h3root] at hfs
    cases hfin : finish rootId id kvs1 (replaceAt kids i c') i with
    | absent => rw [hfin] at hfs; exact hfs.elim
    | crash => rw [hfin] at hfs; exact hfs.elim
    | done x' u =>
      rw [hfin] at hfs
      obtain ⟨h', r', hrep⟩ := hfs
      refine afterSim_done.mpr ⟨h', hrP.trans r' hcleP, ?_⟩
      cases u with
      | false =>
        intro fuel hf
        have := htl (fuel - (ht' + 1) + 1)
        rw [Nat.add_assoc, Nat.add_comm 1 ht', Nat.sub_add_cancel hf] at this
        rw [this, ← hcid]
        exact hrep _
      | true =>
        intro fuel
        have := htl (fuel + 1)
        rw [show fuel + 1 + ht' = fuel + (ht' + 1) by ac_rfl] at this
        rw [this, ← hcid]
        exact hrep fuel

/-- what the heap model does once `removeRightmost` has taken the last entry out of the rightmost leaf of the
subtree `y` -/
def RmSim (h0 : Heap K V) (q : Option Nat) (ht : Nat) (y : Node K V) (kv : K × V) (y' : Node K V) (under : Bool) : Prop :=
  ∃ lf xs lkvs, ∃ hne : lkvs ≠ [],
    (∀ fuel, ht + 1 ≤ fuel → Heap.rightmostLeaf h0 fuel y.id = some lf) ∧ h0.get lf = some xs ∧ NodeRep xs lkvs [] ∧
    kv = lkvs.getLast hne ∧ 0 < cnt lf y ∧ y'.id = y.id ∧
    ∀ (h2 : Heap K V) (xs' : SNode K V Nat), h2.get lf = some xs' → NodeRep xs' lkvs.dropLast [] →
      xs'.parent = xs.parent → (∀ j, 0 < cnt j y → j ≠ lf → h2.get j = h0.get j) → h2.root = h0.root →
      ∃ h3, Repl h2 h3 q y y' ∧
        (if under then ∀ fuel, tail (fuel + ht) h2 lf xs'.n = repair fuel h3 y.id
         else ∀ fuel, ht ≤ fuel → tail fuel h2 lf xs'.n = some h3)

theorem finish_id {rootId id j : Nat} {kvs : List (K × V)} {kids : List (Node K V)} {x' : Node K V} {u : Bool}
    (hid : id ≠ rootId) (h : finish rootId id kvs kids j = .done x' u) : x'.id = id := by
  unfold finish at h
  split at h
  · cases h
  · cases h; rfl
  · have hrc : Gen.Tree.mergeRootCheck (id : Int) (rootId : Int) = false := by
      simp [Gen.Tree.mergeRootCheck, Int.ofNat_inj, hid]
    simp only [hrc, Bool.false_eq_true, if_false] at h
    cases h; rfl

/-- an inner node on the way to the rightmost leaf: child `c` (the last one) came back as `c'` -/
theorem rm_inner {rootId ht id : Nat} {kvs : List (K × V)} {kids : List (Node K V)} {c c' y' : Node K V} {kv : K × V}
    {under u : Bool} {h0 : Heap K V} {q : Option Nat}
    (hb : Bal ht (.mk id kvs kids)) (ho : Occ (Node.mk id kvs kids)) (hni : NoId rootId (.mk id kvs kids))
    (hroot : h0.root = rootId) (hcnt : ∀ j, cnt j (Node.mk id kvs kids) ≤ 1) (hsub : Sub h0.get q (.mk id kvs kids))
    (hne : kids ≠ []) (hc : kids[kvs.length]? = some c) (hres : removeMax rootId c = some (kv, c', under))
    (hfin : (if under then finish rootId id kvs (replaceAt kids kvs.length c') kvs.length
      else .done (.mk id kvs (replaceAt kids kvs.length c')) false) = .done y' u)
    (ih : ∀ ht', Bal ht' c → Occ c → NoId rootId c → (∀ j, cnt j c ≤ 1) → Sub h0.get (some id) c →
      RmSim h0 (some id) ht' c kv c' under) :
    RmSim h0 q ht (.mk id kvs kids) kv y' u := by
  have hnoid : ∀ d ∈ (Node.mk id kvs kids).kids, cnt h0.root d = 0 := by
    intro d hd; rw [hroot]; exact noId_cnt ((noId_mk.mp hni).2 d hd)
  obtain ⟨ht', sx, rfl, hin⟩ := inner_facts hne hb hcnt hnoid hsub hc
  have hoc : Occ c := ((bal_succ.mp hb).2 c hin.mem).2
  have hnic := (noId_mk.mp hni).2 c hin.mem
  have hidroot : id ≠ rootId := (noId_mk.mp hni).1
  obtain ⟨lf, xs, lkvs, hne', hrl, hxl, hrl', hkv, hlfc, hcid, hcl⟩ := ih ht' hin.bal hoc hnic hin.once (hin.sub c hin.mem)
  obtain ⟨kv3, x3, u3, he3, hso, -, hcle⟩ := removeMax_spec rootId c ht' hin.bal hoc hnic
  rw [hres] at he3; cases he3
  have hp : DelPre rootId (ht' + 1) false (.mk id kvs kids) :=
    ⟨hb, ho.2, (noId_mk.mp hni).2, nofun, fun _ => ⟨hidroot, ho.1⟩⟩
  have hyid : y'.id = id := by
    cases under with
    | false => cases hfin; rfl
    | true => exact finish_id hidroot hfin
  have hlfy : 0 < cnt lf (Node.mk id kvs kids) := by
    have := cnt_child_le (id := id) (kvs := kvs) hin.mem lf; omega
  have hidlf : id ≠ lf := (ne_of_cnt (hcnt lf) hin.mem hlfc).symm
  refine ⟨lf, xs, lkvs, hne', ?_, hxl, hrl', hkv, hlfy, hyid, ?_⟩
  · intro fuel hf
    obtain ⟨f', rfl⟩ := Nat.exists_eq_add_one_of_ne_zero (Nat.ne_of_gt (Nat.lt_of_lt_of_le (Nat.succ_pos _) hf))
    rw [Node.id, rightmostLeaf_here hin.obj hin.rep, if_neg (by simpa using hne), hin.idx]
    exact hrl f' (by omega)
  · intro h2 xs' hx2 hr2 hp2 hag hroot2
    obtain ⟨h3c, r3, htl⟩ := hcl h2 xs' hx2 hr2 hp2
      (fun j hj hjl => hag j (by have := cnt_child_le (id := id) (kvs := kvs) hin.mem j; omega) hjl) hroot2
    have hx2' : h2.get id = some sx := by rw [hag id (cnt_self (Node.mk id kvs kids)) hidlf]; exact hin.obj
    have haft := after_child (hb0 := h2) (h2 := h2) (lf := lf) (n := xs'.n) hp rfl hc hcnt (hroot2.trans hroot) nofun
      hx2' hin.par hin.rep
      (siblings_keep hc hin.sub hin.onceK (fun j hj hk => hag j (by rw [cnt_mk]; omega) (by intro e; subst e; omega)))
      r3 hcid hso hcle htl
    rw [hfin] at haft
    exact afterSim_done.mp haft

theorem removeMax_sim (rootId : Nat) (y : Node K V) :
    ∀ (ht : Nat) (h0 : Heap K V) (q : Option Nat), Bal ht y → Occ y → NoId rootId y → h0.root = rootId →
      (∀ j, cnt j y ≤ 1) → Sub h0.get q y →
      ∀ kv y' u, removeMax rootId y = some (kv, y', u) → RmSim h0 q ht y kv y' u := by
  fun_induction removeMax rootId y with
  | case1 id kvs kids hleaf hnone => intro ht h0 q hb ho hni hroot hcnt hsub kv y' u he; cases he
  | case2 id kvs kids hleaf kv hkv =>
    intro ht h0 q hb ho hni hroot hcnt hsub kv2 y' u he
    have hk : kids = [] := List.isEmpty_iff.mp hleaf
    subst hk
    have h0' := bal_leaf_iff.mp hb
    subst h0'
    simp only [Option.some.injEq, Prod.mk.injEq] at he
    obtain ⟨rfl, rfl, rfl⟩ := he
    obtain ⟨xs, hx, hpar, hr, _⟩ := sub_mk.mp hsub
    simp only [List.map_nil] at hr
    have hne : kvs ≠ [] := by intro e; subst e; simp at hkv
    have hkv' : kv = kvs.getLast hne := by
      rw [List.getLast?_eq_some_getLast hne] at hkv; exact (Option.some.inj hkv).symm
    have hid : id ≠ rootId := (noId_mk.mp hni).1
    refine ⟨id, xs, kvs, hne, ?_, hx, hr, hkv', cnt_self (Node.mk id kvs []), rfl, ?_⟩
    · intro fuel hf
      obtain ⟨f', rfl⟩ := Nat.exists_eq_add_one_of_ne_zero (Nat.ne_of_gt (Nat.lt_of_lt_of_le (Nat.succ_pos _) hf))
      simp only [Node.id]
      rw [rightmostLeaf_here hx hr]; simp
    · intro h2 xs' hx2 hr2 hp2 hag hroot2
      refine ⟨h2, .of_same (Same.refl h2) (sub_mk.mpr ⟨xs', hx2, hp2.trans hpar, by simpa using hr2, by simp⟩) rfl
        fun _ _ => rfl, ?_⟩
      refine tail_leaf hx2 hr2.hn (fun e => absurd (e.trans (hroot2.trans hroot)) hid) ?_
      rw [hroot2, hroot]
      simp only [Gen.Tree.deleteInnerDone, Gen.Tree.removeRightmostUnder, Gen.Tree.deleteMerges, Bool.or_false,
        Bool.not_not]
      rfl
  | case3 id kvs kids hinner hnone => intro ht h0 q hb ho hni hroot hcnt hsub kv y' u he; cases he
  | case4 id kvs kids hinner c hc hres ih => intro ht h0 q hb ho hni hroot hcnt hsub kv y' u he; cases he
  | case5 id kvs kids hinner c hc kv c' under hres kids1 hu ih =>
    intro ht h0 q hb ho hni hroot hcnt hsub kv2 y' u he
    simp only [Option.some.injEq, Prod.mk.injEq] at he
    obtain ⟨rfl, rfl, rfl⟩ := he
    exact rm_inner hb ho hni hroot hcnt hsub (by simpa using hinner) hc hres (if_neg (by simpa using hu))
      (fun ht' h1 h2 h3 h4 h5 => ih ht' h0 (some id) h1 h2 h3 hroot h4 h5 kv c' under hres)
  | case6 id kvs kids hinner c hc kv c' under hres kids1 hu x' u hfin ih =>
    intro ht h0 q hb ho hni hroot hcnt hsub kv2 y' u2 he
    simp only [Option.some.injEq, Prod.mk.injEq] at he
    obtain ⟨rfl, rfl, rfl⟩ := he
    exact rm_inner hb ho hni hroot hcnt hsub (by simpa using hinner) hc hres ((if_pos (by simpa using hu)).trans hfin)
      (fun ht' h1 h2 h3 h4 h5 => ih ht' h0 (some id) h1 h2 h3 hroot h4 h5 kv c' under hres)
  | case7 id kvs kids hinner c hc kv c' under hres kids1 hu hfin ih =>
    intro ht h0 q hb ho hni hroot hcnt hsub kv2 y' u he; cases he

end Juniper.Proofs.TreeHeapLink
