import Juniper.Model.Pipe
import Juniper.Proofs.LTS
import Juniper.Proofs.ListStore
/-!
`Model.Pipe.step` as a relation: one constructor per kind of step, carrying the guards that enable it,
with the successor state written out. Steps that touch nothing but the record of one sender
(`SenderMove`) and steps that touch nothing but the receiver's control state (`RecvMove`) are grouped, so
that a proof about the rest of the state treats each group in one case. `Step.of_step` and `Step.step_eq` tie the
relation to the function; the proofs about the LTS analyse `Step` and never unfold `step`.
-/
namespace Juniper.Proofs.Pipe
open Juniper.Facts Juniper.Gen.Pipe Juniper.Model.Pipe

/-- So that `List.contains` on an arm table is membership. -/
instance : LawfulBEq Arm where
  eq_of_beq {a b} h := by cases a <;> cases b <;> simp_all [BEq.beq, instBEqArm.beq]
  rfl {a} := by cases a <;> simp [BEq.beq, instBEqArm.beq]

@[simp] theorem sReady_ctx (st : State) (sd : Sender) : sReady st sd (.recv chCtx) = sd.ctx := by
  simp [sReady, chCtx, chStreamDone, chSenderDone]

@[simp] theorem sReady_streamDone (st : State) (sd : Sender) : sReady st sd (.recv chStreamDone) = st.streamDone := by
  simp [sReady, chCtx, chStreamDone, chSenderDone]

@[simp] theorem sReady_senderDone (st : State) (sd : Sender) : sReady st sd (.recv chSenderDone) = st.senderDone := by
  simp [sReady, chCtx, chStreamDone, chSenderDone]

@[simp] theorem rReady_ctx (st : State) : rReady st (.recv chCtx) = st.rctx := by
  simp [rReady, chCtx, chData, chSenderDone]

@[simp] theorem rReady_data (st : State) : rReady st (.recv chData) = !st.buf.isEmpty := by
  simp [rReady, chCtx, chData, chSenderDone]

@[simp] theorem rReady_senderDone (st : State) : rReady st (.recv chSenderDone) = st.senderDone := by
  simp [rReady, chCtx, chData, chSenderDone]

theorem sDefaultReady_iff {st : State} {sd : Sender} : sDefaultReady st sd = true ↔
    (∀ a ∈ tableOf sd.pc, sReady st sd a = false) ∧ canHandoff st sd = false := by
  simp [sDefaultReady]

theorem rDefaultReady_iff {st : State} : rDefaultReady st = true ↔
    (∀ a ∈ rtableOf st.rpc, rReady st a = false) ∧ ∀ sd ∈ st.senders, canHandoff st sd = false := by
  simp [rDefaultReady]

def noSendArm (t : List Arm) : Bool := t.all fun a => match a with
  | .send _ => false
  | _ => true

theorem canHandoff_facts {st : State} {sd : Sender} (h : canHandoff st sd = true) :
    st.cap = 0 ∧ (tableOf sd.pc).contains (.send chData) = true ∧ accepts st = true := by
  simp [canHandoff, offers] at h
  exact ⟨h.1.1.1, by simpa using h.1.1.2, h.1.2⟩

/-- A step of sender goroutine `i` that changes its record `sd` into `sd'` and nothing else: a call is
started, its context expires, an arm that does not touch the data channel fires, a polling `Send` parks. -/
inductive SenderMove (st : State) (i : Nat) (sd : Sender) : Label → Sender → Prop
  | startSend (v : Int) (c : Bool) (hidle : sd.pc = .idle) :
      SenderMove st i sd (.startSend i v c)
        { pc := .send ⟨i, sd.sent.length, v⟩ false, ctx := c, sent := sd.sent ++ [⟨i, sd.sent.length, v⟩] }
  | startTry (v : Int) (c : Bool) (hidle : sd.pc = .idle) :
      SenderMove st i sd (.startTry i v c)
        { pc := .try1 ⟨i, sd.sent.length, v⟩, ctx := c, sent := sd.sent ++ [⟨i, sd.sent.length, v⟩] }
  | cancel (hpc : sd.pc ≠ .idle) : SenderMove st i sd (.cancelSender i) { sd with ctx := true }
  | recvArm {m : Msg} {ch : String} (hm : sd.pc.msg? = some m)
      (htab : (tableOf sd.pc).contains (.recv ch) = true) (hr : sReady st sd (.recv ch) = true) :
      SenderMove st i sd (.sender i (.recv ch)) { sd with pc := sd.pc.after (.recv ch) }
  | dflt {m : Msg} (hm : sd.pc.msg? = some m) (htab : (tableOf sd.pc).contains .dflt = true)
      (hr : sDefaultReady st sd = true) :
      SenderMove st i sd (.sender i .dflt) { sd with pc := sd.pc.after .dflt }
  | park {m : Msg} (hpc : sd.pc = .send m false) (hr : sDefaultReady st sd = true) :
      SenderMove st i sd (.park i) { sd with pc := .send m true }

/-- A step that changes nothing but the receiver's program counter, its context flag and
`endReported`: `Next` is started, its context expires, it parks, or an arm other than the data arm fires. -/
inductive RecvMove (st : State) : Label → RPc → Bool → Bool → Prop
  | startNext (c : Bool) (hidle : st.rpc = .idle) (hopen : st.streamDone = false) :
      RecvMove st (.startNext c) (.next false) c st.endReported
  | cancelNext (hpc : st.rpc ≠ .idle) : RecvMove st .cancelNext st.rpc true st.endReported
  | park (hpc : st.rpc = .next false) (hr : rDefaultReady st = true) :
      RecvMove st .parkRecv (.next true) st.rctx st.endReported
  | ctx (htab : (rtableOf st.rpc).contains (.recv chCtx) = true) (hctx : st.rctx = true) :
      RecvMove st (.recv (.recv chCtx)) .idle st.rctx st.endReported
  | toDrain (htab : (rtableOf st.rpc).contains (.recv chSenderDone) = true) (hsd : st.senderDone = true)
      (hn : st.rpc.isNext = true) (hd : nextDrains = true) :
      RecvMove st (.recv (.recv chSenderDone)) .drain st.rctx st.endReported
  | reportUndrained (htab : (rtableOf st.rpc).contains (.recv chSenderDone) = true)
      (hsd : st.senderDone = true) (hnd : (st.rpc.isNext && nextDrains) = false) :
      RecvMove st (.recv (.recv chSenderDone)) .idle st.rctx true
  | report (htab : (rtableOf st.rpc).contains .dflt = true) (hpc : st.rpc = .drain)
      (hr : rDefaultReady st = true) : RecvMove st (.recv .dflt) .idle st.rctx true

inductive Step (st : State) : Label → State → Prop
  | sender {i : Nat} {sd sd' : Sender} {l : Label} (hsd : st.senders[i]? = some sd)
      (h : SenderMove st i sd l sd') : Step st l (st.setSender i sd')
  | recv {l : Label} {rpc' : RPc} {rctx' er' : Bool} (h : RecvMove st l rpc' rctx' er') :
      Step st l { st with rpc := rpc', rctx := rctx', endReported := er' }
  | closeSender (e : Bool) (hopen : st.senderDone = false) :
      Step st (.closeSender e) { st with senderDone := true, senderErr := e }
  | closeRecv (hopen : st.streamDone = false) (hidle : st.rpc = .idle) :
      Step st .closeRecv { st with streamDone := true }
  /-- the data arm of a sender's `select` fires: the message in flight enters the buffer -/
  | commit {i : Nat} {sd : Sender} {m : Msg} (hsd : st.senders[i]? = some sd) (hm : sd.pc.msg? = some m)
      (htab : (tableOf sd.pc).contains (.send chData) = true) (hroom : st.buf.length < st.cap) :
      Step st (.sender i (.send chData))
        { commit (st.setSender i { sd with pc := sd.pc.after (.send chData) }) m with buf := st.buf ++ [m] }
  | handoff {i : Nat} {sd : Sender} {m : Msg} (hsd : st.senders[i]? = some sd) (hm : sd.pc.msg? = some m)
      (hc : canHandoff st sd = true) :
      Step st (.handoff i)
        { commit (st.setSender i { sd with pc := sd.pc.after (.send chData) }) m with
          rpc := .idle, delivered := st.delivered ++ [m] }
  /-- the data arm of `Next` (main `select` or drain) fires: the oldest buffered message is delivered -/
  | pop {m : Msg} {rest : List Msg} (htab : (rtableOf st.rpc).contains (.recv chData) = true)
      (hbuf : st.buf = m :: rest) :
      Step st (.recv (.recv chData)) { st with buf := rest, delivered := st.delivered ++ [m], rpc := .idle }

theorem startCall_eq_some {st st' : State} {i : Nat} {v : Int} {c : Bool} {mk : Msg → SPc}
    (h : startCall st i v c mk = some st') :
    ∃ sd, st.senders[i]? = some sd ∧ sd.pc = .idle ∧
      st' = st.setSender i { pc := mk ⟨i, sd.sent.length, v⟩, ctx := c, sent := sd.sent ++ [⟨i, sd.sent.length, v⟩] } := by
  unfold startCall at h
  split at h
  · cases h
  · rename_i sd hsd
    split at h
    · rename_i hpc; cases h; exact ⟨sd, hsd, hpc, rfl⟩
    · cases h

theorem Step.of_step {st st' : State} {l : Label} (h : step st l = some st') : Step st l st' := by
  revert h
  -- `fun_cases` follows the branches of `step`: those that return `none` go by `cases h`, which in the others puts the
  -- successor state in; what remains comes in the order of the labels. Under `.sender i a` and `.recv a` the tests stand
  -- before the `match` on the arm and stay in `h`: `simp only [*]` takes the branch, and a bullet that ends with it is a
  -- branch that returns `none`
  fun_cases step st l <;> intro h <;> try cases h
  · obtain ⟨sd, hsd, hpc, rfl⟩ := startCall_eq_some h
    exact .sender hsd (.startSend _ _ hpc)
  · obtain ⟨sd, hsd, hpc, rfl⟩ := startCall_eq_some h
    exact .sender hsd (.startTry _ _ hpc)
  · rename_i hc; exact .recv (.startNext _ hc.1 hc.2)
  · exact .sender ‹_› (.cancel ‹_›)
  · exact .recv (.cancelNext ‹_›)
  · exact .closeSender _ (Bool.eq_false_iff.mpr ‹_›)
  · rename_i hc; exact .closeRecv hc.1 hc.2
  · simp only [*, if_true] at h; cases h
    exact .sender ‹_› (.recvArm ‹_› ‹_› ‹_›)
  · simp only [*, if_false, reduceCtorEq] at h
  · simp only [*, if_true] at h; cases h
    rename_i hsd _ hm _ htab hr
    simp only [sReady, Bool.and_eq_true, beq_iff_eq, decide_eq_true_eq] at hr
    obtain ⟨rfl, hroom⟩ := hr
    exact .commit hsd hm htab hroom
  · simp only [*, if_false, reduceCtorEq] at h
  · exact .sender ‹_› (.dflt ‹_› ‹_› ‹_›)
  · exact .handoff ‹_› ‹_› ‹_›
  · simp only [*, if_true, reduceCtorEq] at h
  · simp only [*, if_true] at h; cases h
    rename_i hch _ _ hbuf htab _
    obtain rfl := beq_iff_eq.mp hch
    exact .pop htab hbuf
  · simp only [*, if_true] at h; cases h
    rename_i _ hch hc htab hr
    obtain rfl := beq_iff_eq.mp hch
    simp only [Bool.and_eq_true] at hc
    exact .recv (.toDrain htab (by simpa using hr) hc.1 hc.2)
  · simp only [*, if_true] at h; cases h
    rename_i _ hch hc htab hr
    obtain rfl := beq_iff_eq.mp hch
    exact .recv (.reportUndrained htab (by simpa using hr) (by simpa using hc))
  · simp only [*, if_true] at h; cases h
    rename_i ch hch hch2 htab hr
    obtain ⟨rfl, hctx⟩ : ch = chCtx ∧ st.rctx = true := by simpa [rReady, hch, hch2] using hr
    exact .recv (.ctx htab hctx)
  · simp only [*, if_false, reduceCtorEq] at h
  · rename_i hc htab; exact .recv (.report htab hc.1 hc.2)
  · exact .sender ‹_› (.park ‹_› ‹_›)
  · rename_i hc; exact .recv (.park hc.1 hc.2)

theorem Step.step_eq {st st' : State} {l : Label} (h : Step st l st') : step st l = some st' := by
  cases h with
  | sender hsd h =>
    cases h with
    | startSend v c hidle => simp [step, startCall, hsd, hidle]
    | startTry v c hidle => simp [step, startCall, hsd, hidle]
    | cancel hpc => simp [step, hsd, hpc]
    | recvArm hm htab hr => simp only [step, hsd, hm, htab, hr, if_true]
    | dflt hm htab hr => simp only [step, hsd, hm, htab, hr, if_true]
    | park hpc hr => simp only [step, hsd]; rw [hpc]; simp [hr]
  | recv h =>
    cases h with
    | startNext c hidle hopen => simp [step, hidle, hopen]
    | cancelNext hpc => simp [step, hpc]
    | park hpc hr => simp [step, hpc, hr]
    | ctx htab hctx => simp [step, List.contains_iff_mem.mp htab, rReady, hctx, chCtx, chData, chSenderDone]
    | toDrain htab hsd hn hd => simp [step, List.contains_iff_mem.mp htab, rReady, hsd, hn, hd, chData, chSenderDone]
    | reportUndrained htab hsd hnd => simp [step, List.contains_iff_mem.mp htab, rReady, hsd, hnd, reportEnd, chData, chSenderDone]
    | report htab hpc hr => rw [hpc] at htab; simp [step, List.contains_iff_mem.mp htab, hpc, hr, reportEnd]
  | closeSender e hopen => simp [step, hopen]
  | closeRecv hopen hidle => simp [step, hopen, hidle]
  | commit hsd hm htab hroom => simp only [step, hsd, hm, htab, sReady, beq_self_eq_true, hroom, decide_true, Bool.and_self, if_true]
  | handoff hsd hm hc => simp only [step, hsd, hm, hc, if_true]
  | pop htab hbuf => simp [step, List.contains_iff_mem.mp htab, rReady, hbuf, chData, chCtx, chSenderDone]

theorem step_monotone {st st' : State} {l : Label} (hs : Step st l st') :
    (st.streamDone = true → st'.streamDone = true) ∧
    (st.senderDone = true → st'.senderDone = true ∧ st'.ackedBC = st.ackedBC ∧ st'.senderErr = st.senderErr) ∧
    (∀ m ∈ st.delivered, m ∈ st'.delivered) ∧ (∀ m ∈ st.ackedBC, m ∈ st'.ackedBC) := by
  have grows : ∀ (x : Msg) (l : List Msg), ∀ m ∈ l, m ∈ l ++ [x] := fun _ _ _ hm => List.mem_append_left _ hm
  have bc : ∀ (s : State) (x : Msg), (s.senderDone = true → (commit s x).ackedBC = s.ackedBC) ∧
      ∀ m ∈ s.ackedBC, m ∈ (commit s x).ackedBC := by
    intro s x
    cases hd : s.senderDone <;> simp [commit, hd]
    exact fun m hm => Or.inl hm
  cases hs with
  | closeSender e hopen => exact ⟨id, fun h => absurd h (by simp [hopen]), fun _ h => h, fun _ h => h⟩
  | closeRecv _ _ => exact ⟨fun _ => rfl, fun h => ⟨h, rfl, rfl⟩, fun _ h => h, fun _ h => h⟩
  | commit _ _ _ _ => exact ⟨id, fun h => ⟨h, (bc _ _).1 h, rfl⟩, fun _ h => h, (bc _ _).2⟩
  | handoff _ _ _ => exact ⟨id, fun h => ⟨h, (bc _ _).1 h, rfl⟩, grows _ _, (bc _ _).2⟩
  | pop _ _ => exact ⟨id, fun h => ⟨h, rfl, rfl⟩, grows _ _, fun _ h => h⟩
  | _ => exact ⟨id, fun h => ⟨h, rfl, rfl⟩, fun _ h => h, fun _ h => h⟩

theorem acked_frame {st st' : State} {l : Label} (hs : Step st l st') (h1 : ∀ i, l ≠ .handoff i)
    (h2 : ∀ i, l ≠ .sender i (.send chData)) : st'.acked = st.acked ∧ st'.ackedBC = st.ackedBC := by
  cases hs with
  | commit _ _ _ _ => exact absurd rfl (h2 _)
  | handoff _ _ _ => exact absurd rfl (h1 _)
  | _ => exact ⟨rfl, rfl⟩

theorem delivered_frame {st st' : State} {l : Label} (hs : Step st l st') (h : deliversValue l = false) :
    st'.delivered = st.delivered := by
  cases hs with
  | handoff _ _ _ => cases h
  | pop _ _ => simp [deliversValue] at h
  | _ => rfl

/-- The capacity is the `bufferSize` the pipe was made with, given that the capacity expression of
`make(chan T, bufferSize)` (`chanCap`) is `bufferSize` itself: `hcap`, which each property theorem discharges from the
regenerated fact inside its own proof. -/
theorem cap_reach {n b : Nat} {st : State} (hcap : ∀ x, chanCap x = x) (hr : Reach (init n b) st) : st.cap = b := by
  induction hr with
  | refl => simp [init, hcap]
  | step _ hs ih => rw [← ih]; cases Step.of_step hs <;> rfl

theorem isRun : LTS.IsRun step run :=
  ⟨fun _ => rfl, fun st l ls => by simp only [run]; cases step st l <;> rfl⟩

theorem reach_of_run {s0 st : State} {ls : List Label} (h : run s0 ls = some st) : Reach s0 st :=
  isRun.reach .step .refl h

/-- The state a list of labels leads to (for concrete witnesses; `d` when the run is not possible). -/
def after (s0 : State) (ls : List Label) (d : State := s0) : State := (run s0 ls).getD d

theorem reach_after {s0 : State} {ls : List Label} (h : (run s0 ls).isSome = true) :
    Reach s0 (after s0 ls) := by
  unfold after
  cases hr : run s0 ls with
  | none => rw [hr] at h; simp at h
  | some st => exact reach_of_run hr

theorem exists_reach_after {s0 : State} (ls : List Label) {P : State → Prop}
    (h : (run s0 ls).isSome = true ∧ P (after s0 ls)) : ∃ st, Reach s0 st ∧ P st :=
  ⟨_, reach_after h.1, h.2⟩

theorem run_append {ls1 ls2 : List Label} : ∀ {st : State},
    run st (ls1 ++ ls2) = (run st ls1).bind (fun s => run s ls2) :=
  fun {st} => isRun.append st ls1 ls2

theorem isSome_run_take {s0 : State} {ls : List Label} (h : (run s0 ls).isSome = true) (k : Nat) :
    (run s0 (ls.take k)).isSome = true := by
  rw [← List.take_append_drop k ls, run_append] at h
  cases hr : run s0 (ls.take k) with
  | none => rw [hr] at h; exact h
  | some _ => rfl

theorem reach_trans {s0 s1 s2 : State} (h1 : Reach s0 s1) (h2 : Reach s1 s2) : Reach s0 s2 := by
  induction h2 with
  | refl => exact h1
  | step _ hs ih => exact .step ih hs

theorem after_send_pc (m : Msg) (p : Bool) (a : Arm) : (SPc.send m p).after a = .idle := by
  unfold SPc.after; split <;> simp [SPc.fallThrough]

theorem after_try2 (m : Msg) (a : Arm) : (SPc.try2 m).after a = .idle := by
  unfold SPc.after; split <;> rfl

theorem after_msg (pc : SPc) (a : Arm) :
    (pc.after a).msg? = none ∨ (pc.after a).msg? = pc.msg? := by
  unfold SPc.after
  split
  · cases pc <;> simp [SPc.fallThrough, SPc.msg?]
  · simp [SPc.msg?]

theorem after_parked (pc : SPc) (a : Arm) : (pc.after a).parked = false := by
  unfold SPc.after
  split
  · cases pc <;> simp [SPc.fallThrough, SPc.parked]
  · simp [SPc.parked]

end Juniper.Proofs.Pipe
