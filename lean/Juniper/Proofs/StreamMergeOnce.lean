import Juniper.Proofs.StreamMergeClose
/-! The `nDone` / `closeOnce` protocol of `stream.Merge`: the pipe's sender is closed at most once, with the error
of the CAS winner or with nil by the last goroutine. At the end the bundle `Inv` of the invariants that hold whatever
the origin of the context (`LocalInv`, `ConserveInv`, `CloseInv`, `OnceInv`), which every reachable state satisfies (`reach_inv`). -/
namespace Juniper.Proofs.StreamMerge
open Juniper.Model.StreamMerge
variable {V : Type}

/-- The goroutine has executed `atomic.AddUint32(&nDone, 1)`. -/
def marked : GPc V → Bool
  | .exiting (.markDone :: _) => false
  | .exiting _ => true
  | .finished => true
  | _ => false

/-- The value of `nDone` the goroutine is about to compare with `len(in)`. -/
def pendingD : GPc V → Option Nat
  | .exiting (.checkLast d :: _) => some d
  | _ => none

def markedInd (g : G V) : Nat := if marked g.pc then 1 else 0

def pendKInd (k : Nat) (g : G V) : Nat := if pendingD g.pc = some k then 1 else 0

/-- The goroutine may still execute `sender.Close(nil)` (should `closeOnce` stay 0). -/
def mayNilInd (k : Nat) (g : G V) : Nat := if marked g.pc = false ∨ pendingD g.pc = some k then 1 else 0

/-- The CAS winner has not yet executed `sender.Close(err)`. -/
def wonPendInd (g : G V) : Nat :=
  match g.pc with
  | .won _ rest => if rest.contains .closeErr then 1 else 0
  | _ => 0

/-- The goroutine won the CAS and has executed `sender.Close(err)` (it may have left its loop since). -/
def closedErrInd (g : G V) : Nat :=
  match g.pc with
  | .won _ rest => if rest.contains .closeErr then 0 else 1
  | _ => if g.why = some .wonCas then 1 else 0

/-- the goroutine won the CAS (and is still running its statements, or has left through them) -/
def isWinner (g : G V) : Prop := (∃ e r, g.pc = .won e r) ∨ g.why = some .wonCas

/-- `nDone` counts the goroutines past `markDone`; the value a goroutine compares with `len(in)` is not ahead of it,
and at most one goroutine holds the value `k`. -/
structure CountInv (k : Nat) (s : St V) : Prop where
  nDone_eq : s.nDone = sumBy markedInd s.gs
  read_le : ∀ g, g ∈ s.gs → ∀ d, pendingD g.pc = some d → d ≤ s.nDone
  last_unique : sumBy (pendKInd k) s.gs ≤ 1

/-- Who won the CAS on `closeOnce`, and with which error. -/
structure WinnerInv (s : St V) : Prop where
  before_cas : s.closeOnce = false → (∀ g, g ∈ s.gs → g.why ≠ some .lostCas) ∧ s.winner = none ∧ s.senderErr = none
  won_is_winner : ∀ i g e r, s.gs[i]? = some g → g.pc = .won e r → s.winner = some (i, e)
  carried_logged : ∀ i g x, s.gs[i]? = some g → carries (.inj x) g.pc → (i, x) ∈ s.errLog
  winner_logged : ∀ i x, s.winner = some (i, .inj x) → (i, x) ∈ s.errLog

/-- There is one permission to call `sender.Close`. `tok`: it has been used (`senderCloses`), or the CAS winner
holds it (`wonPendInd`), or it is still to be had (`closeOnce = 0` and some goroutine may yet be the last one).
`won`: the CAS was won exactly `closeOnce` times, and the winner holds the permission or has used it. -/
structure TokenInv (k : Nat) (s : St V) : Prop where
  tok : 0 < k → s.senderCloses + (if s.closeOnce = false ∧ 0 < sumBy (mayNilInd k) s.gs then 1 else 0) +
      sumBy wonPendInd s.gs = 1
  won : sumBy wonPendInd s.gs + sumBy closedErrInd s.gs = if s.closeOnce = true then 1 else 0

/-- The error the sender was closed with is the winner's. -/
structure SenderInv (k : Nat) (s : St V) : Prop where
  zero_inputs : k = 0 → s.senderCloses = 1 ∧ s.senderErr = none
  err_of_winner : ∀ e, s.senderErr = some e → ∃ i, s.winner = some (i, e)
  err_after_cas : s.closeOnce = true → 0 < s.senderCloses → s.senderErr ≠ none

structure OnceInv (k : Nat) (s : St V) : Prop extends CountInv k s, WinnerInv s, TokenInv k s, SenderInv k s

theorem onceInv_init (k : Nat) : OnceInv k (init V k) := by
  rw [init_eq]
  refine ⟨⟨?_, ?_, ?_⟩, ⟨?_, ?_, ?_, ?_⟩, ⟨?_, ?_⟩, ⟨?_, ?_, ?_⟩⟩
  · simp [sumBy_replicate, markedInd, marked]
  · intro g hg d hd; cases List.eq_of_mem_replicate hg; cases hd
  · simp [sumBy_replicate, pendKInd, pendingD]
  · intro _
    refine ⟨fun g hg => ?_, rfl, rfl⟩
    cases List.eq_of_mem_replicate hg; simp
  · intro i g e r hg hp; cases List.eq_of_mem_replicate (List.mem_of_getElem? hg); cases hp
  · intro i g x hg hp; cases List.eq_of_mem_replicate (List.mem_of_getElem? hg); cases hp
  · intro i x h; cases h
  · intro hk
    have : k ≠ 0 := by omega
    simp [this, sumBy_replicate, wonPendInd, mayNilInd, marked, hk]
  · simp [sumBy_replicate, wonPendInd, closedErrInd]
  · intro hk; simp [hk]
  · intro e h; cases h
  · intro h; cases h

theorem TokenInv.no_winner {k : Nat} {s : St V} (h : TokenInv k s) (hco : s.closeOnce = false) {g : G V}
    (hg : g ∈ s.gs) : (∀ e r, g.pc ≠ .won e r) ∧ g.why ≠ some .wonCas := by
  have hw := h.won
  simp only [hco, Bool.false_eq_true, if_false] at hw
  have h1 := sumBy_ge_mem wonPendInd s.gs g hg
  have h2 := sumBy_ge_mem closedErrInd s.gs g hg
  have hwon : ∀ e r, g.pc = .won e r → wonPendInd g + closedErrInd g = 1 := fun e r hp => by
    simp only [wonPendInd, closedErrInd, hp]; split <;> rfl
  refine ⟨fun e r hp => by have := hwon e r hp; omega, fun hy => ?_⟩
  have : closedErrInd g = 1 := by
    unfold closedErrInd
    split
    · rename_i hp; have := hwon _ _ hp; omega
    · simp [hy]
  omega

theorem TokenInv.closeOnce_of_won {k : Nat} {s : St V} (hi : TokenInv k s) {g : G V} (hg : g ∈ s.gs) {e : Err}
    {r : List WinStep} (hp : g.pc = .won e r) : s.closeOnce = true := by
  cases hcc : s.closeOnce
  · exact absurd hp ((hi.no_winner hcc hg).1 e r)
  · rfl

theorem TokenInv.not_closed {k : Nat} {s : St V} (hi : TokenInv k s) (hk : 0 < k) (hco : s.closeOnce = false) {g : G V}
    (hg : g ∈ s.gs) (hm : mayNilInd k g = 1) : s.senderCloses + sumBy wonPendInd s.gs = 0 := by
  have hsc := hi.tok hk
  have := sumBy_ge_mem (mayNilInd k) s.gs g hg
  have hpos : 0 < sumBy (mayNilInd k) s.gs := by omega
  simp only [hco, hpos, and_self, if_true] at hsc
  omega

theorem TokenInv.exists_winner {k : Nat} {s : St V} (h : TokenInv k s) (hco : s.closeOnce = true) :
    ∃ g, g ∈ s.gs ∧ isWinner g := by
  have hw := h.won
  simp only [hco, if_true] at hw
  rcases Nat.eq_zero_or_pos (sumBy wonPendInd s.gs) with h0 | h0
  · obtain ⟨g, hg, hp⟩ := sumBy_pos closedErrInd s.gs (by omega)
    refine ⟨g, hg, ?_⟩
    unfold closedErrInd at hp
    split at hp
    · exact .inl ⟨_, _, ‹_›⟩
    · split at hp
      · exact .inr ‹_›
      · cases hp
  · obtain ⟨g, hg, hp⟩ := sumBy_pos wonPendInd s.gs h0
    refine ⟨g, hg, ?_⟩
    unfold wonPendInd at hp
    split at hp
    · exact .inl ⟨_, _, ‹_›⟩
    · cases hp

theorem TokenInv.closed_of_wonCas {k : Nat} {s : St V} (h : TokenInv k s) (hk : 0 < k) {g : G V} (hg : g ∈ s.gs)
    (hl : LocalOK g) (hw : g.why = some .wonCas) : 0 < s.senderCloses := by
  have hce : closedErrInd g = 1 := by
    have hnl := hl.not_inLoop (by rw [hw]; simp)
    cases hp : g.pc <;> simp [hp, inLoop] at hnl <;> simp [closedErrInd, hp, hw]
  have h1 := sumBy_ge_mem closedErrInd s.gs g hg
  have ht := h.tok hk
  have hwn := h.won
  cases hco : s.closeOnce
  · simp only [hco, Bool.false_eq_true, if_false] at hwn; omega
  · simp only [hco, Bool.true_eq_false, false_and, if_false, if_true] at ht hwn; omega

theorem TokenInv.closed_of_no_candidate {k : Nat} {s : St V} (h : TokenInv k s) (hco : s.closeOnce = false)
    (hk : 0 < k) (hz : sumBy (mayNilInd k) s.gs = 0) : 0 < s.senderCloses := by
  have ht := h.tok hk
  have hw := h.won
  simp only [hco, hz, Nat.lt_irrefl, and_false, if_false, Bool.false_eq_true] at ht hw
  omega

/-! The four parts of `OnceInv` are preserved separately: a step of goroutine `i` from `g` to `g'` is neutral for a
part when it does not touch what the part speaks of; the other steps have a lemma per part they change. The token
moves at the CAS, at `sender.Close(err)`, at `markDone` and at the test of the last goroutine. -/

theorem countInv_neutral {k : Nat} {s s' : St V} (hi : CountInv k s) {i : Nat} {g g' : G V}
    (hg : s.gs[i]? = some g) (hgs : s'.gs = s.gs.set i g') (h1 : s'.nDone = s.nDone)
    (hm : marked g'.pc = marked g.pc) (hpd : pendingD g'.pc = pendingD g.pc) : CountInv k s' := by
  refine ⟨?_, ?_, ?_⟩
  · rw [h1, hgs, sum_same markedInd hg (by simp [markedInd, hm])]; exact hi.nDone_eq
  · intro a ha d hd
    rw [h1]; rw [hgs] at ha
    rcases List.mem_or_eq_of_mem_set ha with ha | rfl
    · exact hi.read_le a ha d hd
    · rw [hpd] at hd; exact hi.read_le g (List.mem_of_getElem? hg) d hd
  · rw [hgs, sum_same (pendKInd k) hg (by simp [pendKInd, hpd])]; exact hi.last_unique

/-- `atomic.AddUint32(&nDone, 1)` -/
theorem countInv_mark {k : Nat} {s s' : St V} (hi : CountInv k s) {i : Nat} {g g' : G V}
    (hg : s.gs[i]? = some g) (hgs : s'.gs = s.gs.set i g')
    (hp : g.pc = .exiting [.markDone, .closeInput, .wgDone])
    (hp' : g'.pc = .exiting [.checkLast (s.nDone + 1), .closeInput, .wgDone]) (h1 : s'.nDone = s.nDone + 1) :
    CountInv k s' := by
  have hm := sumBy_set markedInd s.gs i g' g hg
  have e1 : markedInd g' = 1 := by simp [markedInd, hp', marked]
  have e2 : markedInd g = 0 := by simp [markedInd, hp, marked]
  rw [e1, e2] at hm
  have hpk := sumBy_set (pendKInd k) s.gs i g' g hg
  have e3 : pendKInd k g = 0 := by simp [pendKInd, hp, pendingD]
  have e4 : pendKInd k g' = if s.nDone + 1 = k then 1 else 0 := by simp [pendKInd, hp', pendingD]
  rw [e3, e4] at hpk
  refine ⟨?_, ?_, ?_⟩
  · rw [h1, hgs, hi.nDone_eq]; omega
  · intro a haa d hd
    rw [h1]; rw [hgs] at haa
    rcases List.mem_or_eq_of_mem_set haa with haa | rfl
    · have := hi.read_le a haa d hd; omega
    · simp [pendingD, hp'] at hd; omega
  · rw [hgs]
    by_cases hkk : s.nDone + 1 = k
    · -- nobody else compares with `k` yet: all pending values are at most `nDone`
      have hz : sumBy (pendKInd k) s.gs = 0 := by
        apply sumBy_eq_zero
        intro a haa
        unfold pendKInd
        split
        · rename_i hh
          have := hi.read_le a haa k hh; omega
        · rfl
      simp [hkk] at hpk; omega
    · simp [hkk] at hpk
      have := hi.last_unique; omega

/-- the second half of the deferred closure: `… == len(in) && closeOnce == 0`, either outcome -/
theorem countInv_check {k : Nat} {s s' : St V} (hi : CountInv k s) {i : Nat} {g g' : G V} {d : Nat}
    (hg : s.gs[i]? = some g) (hgs : s'.gs = s.gs.set i g')
    (hp : g.pc = .exiting [.checkLast d, .closeInput, .wgDone]) (hp' : g'.pc = .exiting [.closeInput, .wgDone])
    (h1 : s'.nDone = s.nDone) : CountInv k s' := by
  have hpk := sumBy_set (pendKInd k) s.gs i g' g hg
  have e3 : pendKInd k g' = 0 := by simp [pendKInd, hp', pendingD]
  rw [e3] at hpk
  refine ⟨?_, ?_, ?_⟩
  · rw [h1, hgs, sum_same markedInd hg (by simp [markedInd, hp, hp', marked])]; exact hi.nDone_eq
  · intro a haa d' hd
    rw [h1]; rw [hgs] at haa
    rcases List.mem_or_eq_of_mem_set haa with haa | rfl
    · exact hi.read_le a haa d' hd
    · simp [pendingD, hp'] at hd
  · have := hi.last_unique
    rw [hgs]; omega

theorem winnerInv_neutral {s s' : St V} (hi : WinnerInv s) {i : Nat} {g g' : G V}
    (hg : s.gs[i]? = some g) (hgs : s'.gs = s.gs.set i g')
    (h2 : s'.closeOnce = s.closeOnce) (h3 : s'.winner = s.winner)
    (h5 : s.closeOnce = false → s.senderErr = none → s'.senderErr = none)
    (h6 : ∀ p, p ∈ s.errLog → p ∈ s'.errLog)
    (hwon : ∀ e r, g'.pc = .won e r → ∃ r0, g.pc = .won e r0)
    (herr : ∀ x, carries (.inj x) g'.pc → carries (.inj x) g.pc ∨ (i, x) ∈ s'.errLog)
    (hwhy : s.closeOnce = false → g'.why ≠ some .lostCas) : WinnerInv s' := by
  refine ⟨?_, ?_, ?_, ?_⟩
  · intro hc
    rw [h2] at hc
    obtain ⟨ha, hb, hd⟩ := hi.before_cas hc
    refine ⟨fun a haa => ?_, by rw [h3]; exact hb, h5 hc hd⟩
    rw [hgs] at haa
    rcases List.mem_or_eq_of_mem_set haa with haa | rfl
    · exact ha a haa
    · exact hwhy hc
  · intro j a e r ha hp
    rw [h3]; rw [hgs] at ha
    rcases ListStore.getElem?_set_some ha with ⟨rfl, rfl⟩ | ⟨_, ha⟩
    · obtain ⟨r0, hp0⟩ := hwon e r hp
      exact hi.won_is_winner _ g e r0 hg hp0
    · exact hi.won_is_winner j a e r ha hp
  · intro j a x ha hp
    rw [hgs] at ha
    rcases ListStore.getElem?_set_some ha with ⟨rfl, rfl⟩ | ⟨_, ha⟩
    · rcases herr x hp with h | h
      · exact h6 _ (hi.carried_logged _ g x hg h)
      · exact h
    · exact h6 _ (hi.carried_logged j a x ha hp)
  · intro j x hw; rw [h3] at hw; exact h6 _ (hi.winner_logged j x hw)

/-- the CAS on `closeOnce` succeeds; `hnw`: nobody had won it before -/
theorem winnerInv_casWin {s s' : St V} (hi : WinnerInv s) (hnw : ∀ a, a ∈ s.gs → ∀ e r, a.pc ≠ .won e r) {i : Nat}
    {g g' : G V} {e : Err} (hg : s.gs[i]? = some g) (hgs : s'.gs = s.gs.set i g')
    (hp : g.pc = .gotErr e) (hp' : g'.pc = .won e [.cancel, .closeErr])
    (h2 : s'.closeOnce = true) (h3 : s'.winner = some (i, e)) (h6 : s'.errLog = s.errLog) : WinnerInv s' := by
  refine ⟨?_, ?_, ?_, ?_⟩
  · intro hc; rw [h2] at hc; cases hc
  · intro j a e' r haj hpj
    rw [hgs] at haj
    rw [h3]
    rcases ListStore.getElem?_set_some haj with ⟨rfl, rfl⟩ | ⟨_, haj⟩
    · rw [hp'] at hpj; simp at hpj; simp [hpj.1]
    · exact absurd hpj (hnw a (List.mem_of_getElem? haj) e' r)
  · intro j a x haj hpj
    rw [hgs] at haj
    rw [h6]
    rcases ListStore.getElem?_set_some haj with ⟨rfl, rfl⟩ | ⟨_, haj⟩
    · exact hi.carried_logged _ g x hg (by simpa [carries, hp, hp'] using hpj)
    · exact hi.carried_logged j a x haj hpj
  · intro j x hw
    rw [h3] at hw
    obtain ⟨rfl, rfl⟩ := hw
    rw [h6]
    exact hi.carried_logged _ g x hg (by simp [carries, hp])

theorem markedInd_le (g : G V) : markedInd g ≤ 1 := by unfold markedInd; split <;> omega

theorem tokenInv_neutral {k : Nat} {s s' : St V} (hi : TokenInv k s) {i : Nat} {g g' : G V}
    (hg : s.gs[i]? = some g) (hgs : s'.gs = s.gs.set i g') (h2 : s'.closeOnce = s.closeOnce)
    (h4 : s'.senderCloses = s.senderCloses)
    (hmn : s.closeOnce = true ∨ mayNilInd k g' = mayNilInd k g) (hwp : wonPendInd g' = wonPendInd g)
    (hce : closedErrInd g' = closedErrInd g) : TokenInv k s' := by
  refine ⟨fun hk => ?_, ?_⟩
  · have ht := hi.tok hk
    rw [h4, h2, hgs, sum_same wonPendInd hg hwp]
    rcases hmn with hco | hmn
    · simp only [hco, Bool.true_eq_false, false_and, if_false] at ht ⊢; exact ht
    · rw [sum_same (mayNilInd k) hg hmn]; exact ht
  · rw [h2, hgs, sum_same wonPendInd hg hwp, sum_same closedErrInd hg hce]; exact hi.won

/-- the CAS on `closeOnce` succeeds: the permission passes from the pool to the winner -/
theorem tokenInv_casWin {k : Nat} {s s' : St V} (hi : TokenInv k s) (hk : 0 < k) {i : Nat} {g g' : G V} {e : Err}
    (hg : s.gs[i]? = some g) (hgs : s'.gs = s.gs.set i g')
    (hp : g.pc = .gotErr e) (hp' : g'.pc = .won e [.cancel, .closeErr]) (hco : s.closeOnce = false)
    (h2 : s'.closeOnce = true) (h4 : s'.senderCloses = s.senderCloses) : TokenInv k s' := by
  have ht := hi.tok hk
  have hw := hi.won
  have hm := sumBy_ge_mem (mayNilInd k) s.gs g (List.mem_of_getElem? hg)
  have e0 : mayNilInd k g = 1 := by simp [mayNilInd, hp, marked]
  have hpos : 0 < sumBy (mayNilInd k) s.gs := by omega
  simp only [hco, hpos, and_self, if_true, Bool.false_eq_true, if_false] at ht hw
  have hwp := sumBy_set wonPendInd s.gs i g' g hg
  have hce := sumBy_set closedErrInd s.gs i g' g hg
  have e1 : wonPendInd g' = 1 := by simp [wonPendInd, hp']
  have e2 : wonPendInd g = 0 := by simp [wonPendInd, hp]
  have e3 : closedErrInd g' = 0 := by simp [closedErrInd, hp']
  rw [e1, e2] at hwp
  rw [e3] at hce
  refine ⟨fun _ => ?_, ?_⟩
  · rw [h4, h2, hgs]; simp; omega
  · rw [h2, hgs]; simp; omega

/-- `sender.Close(err)`: the winner uses the permission -/
theorem tokenInv_closeErr {k : Nat} {s s' : St V} (hi : TokenInv k s) (hk : 0 < k) {i : Nat} {g g' : G V} {e : Err}
    (hg : s.gs[i]? = some g) (hgs : s'.gs = s.gs.set i g')
    (hp : g.pc = .won e [.closeErr]) (hp' : g'.pc = .won e [])
    (h2 : s'.closeOnce = s.closeOnce) (h4 : s'.senderCloses = s.senderCloses + 1) : TokenInv k s' := by
  have ht := hi.tok hk
  have hw := hi.won
  have hwp := sumBy_set wonPendInd s.gs i g' g hg
  have hce := sumBy_set closedErrInd s.gs i g' g hg
  have e1 : wonPendInd g' = 0 := by simp [wonPendInd, hp']
  have e2 : wonPendInd g = 1 := by simp [wonPendInd, hp]
  have e3 : closedErrInd g' = 1 := by simp [closedErrInd, hp']
  have e4 : closedErrInd g = 0 := by simp [closedErrInd, hp]
  rw [e1, e2] at hwp
  rw [e3, e4] at hce
  have hco : s.closeOnce = true := by
    cases hco : s.closeOnce
    · simp only [hco, Bool.false_eq_true, if_false] at hw; omega
    · rfl
  simp only [hco, Bool.true_eq_false, false_and, if_false, if_true] at ht hw
  refine ⟨fun _ => ?_, ?_⟩
  · rw [h4, h2, hgs]; simp [hco]; omega
  · rw [h2, hgs]; simp [hco]; omega

/-- `atomic.AddUint32(&nDone, 1)` does not make the last candidate for `sender.Close(nil)` disappear: were nobody
left, everybody would be past it, so this goroutine read `len(in)` and is a candidate itself. -/
theorem tokenInv_mark {k : Nat} {s s' : St V} (ha : LocalInv k s) (hc : CountInv k s) (hi : TokenInv k s) {i : Nat}
    {g g' : G V} (hg : s.gs[i]? = some g) (hgs : s'.gs = s.gs.set i g')
    (hp : g.pc = .exiting [.markDone, .closeInput, .wgDone])
    (hp' : g'.pc = .exiting [.checkLast (s.nDone + 1), .closeInput, .wgDone]) (hy : g'.why = g.why)
    (h2 : s'.closeOnce = s.closeOnce) (h4 : s'.senderCloses = s.senderCloses) : TokenInv k s' := by
  have hwp : wonPendInd g' = wonPendInd g := by simp [wonPendInd, hp, hp']
  have hce : closedErrInd g' = closedErrInd g := by simp [closedErrInd, hp, hp', hy]
  cases hco : s.closeOnce with
  | true => exact tokenInv_neutral hi hg hgs h2 h4 (.inl hco) hwp hce
  | false =>
    have hk : 0 < k := ha.pos (List.mem_of_getElem? hg)
    have hin : g' ∈ s.gs.set i g' := List.mem_set (List.getElem?_eq_some_iff.mp hg).1 _
    have hpos : 0 < sumBy (mayNilInd k) (s.gs.set i g') := by
      refine Nat.pos_of_ne_zero fun hz => ?_
      have hall : ∀ a, a ∈ s.gs.set i g' → markedInd a = 1 := fun a haa => by
        have := sumBy_zero (mayNilInd k) _ hz a haa
        unfold mayNilInd at this
        split at this
        · cases this
        · rename_i hh
          unfold markedInd
          cases hm : marked a.pc
          · exact absurd (.inl hm) hh
          · rfl
      have hg0 := sumBy_zero (mayNilInd k) _ hz _ hin
      have hne : s.nDone + 1 ≠ k := fun he => by simp [mayNilInd, marked, pendingD, hp', he] at hg0
      have hsum := sumBy_const markedInd 1 _ hall
      have hm := sumBy_set markedInd s.gs i g' g hg
      have e1 : markedInd g' = 1 := by simp [markedInd, hp', marked]
      have e2 : markedInd g = 0 := by simp [markedInd, hp, marked]
      rw [e1, e2, hsum, ← hc.nDone_eq] at hm
      simp [ha.length_eq] at hm
      omega
    have hpos0 : 0 < sumBy (mayNilInd k) s.gs := by
      have := sumBy_ge_mem (mayNilInd k) s.gs g (List.mem_of_getElem? hg)
      have e0 : mayNilInd k g = 1 := by simp [mayNilInd, hp, marked]
      omega
    refine ⟨fun _ => ?_, ?_⟩
    · have ht := hi.tok hk
      rw [h4, h2, hgs, sum_same wonPendInd hg hwp]
      simp only [hco, hpos, hpos0, and_self, if_true] at ht ⊢
      exact ht
    · rw [h2, hgs, sum_same wonPendInd hg hwp, sum_same closedErrInd hg hce]; exact hi.won

/-- the last goroutine executes `sender.Close(nil)`: everybody is past `markDone` and nobody else compares with
`len(in)`, so the pool is empty afterwards -/
theorem tokenInv_checkFire {k : Nat} {s s' : St V} (ha : LocalInv k s) (hc : CountInv k s) (hi : TokenInv k s) {i : Nat}
    {g g' : G V} (hg : s.gs[i]? = some g) (hgs : s'.gs = s.gs.set i g')
    (hp : g.pc = .exiting [.checkLast k, .closeInput, .wgDone]) (hp' : g'.pc = .exiting [.closeInput, .wgDone])
    (hy : g'.why = g.why) (hco : s.closeOnce = false) (h2 : s'.closeOnce = s.closeOnce)
    (h4 : s'.senderCloses = s.senderCloses + 1) : TokenInv k s' := by
  have hgm : g ∈ s.gs := List.mem_of_getElem? hg
  have hk : 0 < k := ha.pos hgm
  have hwp : wonPendInd g' = wonPendInd g := by simp [wonPendInd, hp, hp']
  have hce : closedErrInd g' = closedErrInd g := by simp [closedErrInd, hp, hp', hy]
  have hm : sumBy markedInd (s.gs.set i g') = sumBy markedInd s.gs :=
    sum_same markedInd hg (by simp [markedInd, hp, hp', marked])
  have hpk := sumBy_set (pendKInd k) s.gs i g' g hg
  have e3 : pendKInd k g' = 0 := by simp [pendKInd, hp', pendingD]
  have e4 : pendKInd k g = 1 := by simp [pendKInd, hp, pendingD]
  rw [e3, e4] at hpk
  have hlast := hc.last_unique
  have hnd : s.nDone = k := by
    have h1' := hc.read_le g hgm k (by simp [hp, pendingD])
    have h2' := sumBy_le markedInd 1 s.gs (fun x _ => markedInd_le x)
    rw [← hc.nDone_eq, ha.length_eq] at h2'
    omega
  have hall : ∀ a, a ∈ s.gs.set i g' → mayNilInd k a = 0 := by
    intro a haa
    have hmk : markedInd a = 1 := by
      apply sumBy_full markedInd _ (fun x _ => markedInd_le x) _ a haa
      rw [hm, ← hc.nDone_eq, hnd]; simp [ha.length_eq]
    have hpz : pendKInd k a = 0 := sumBy_zero (pendKInd k) _ (by omega) a haa
    unfold markedInd at hmk
    unfold pendKInd at hpz
    unfold mayNilInd
    split at hmk
    · rename_i hmm
      split at hpz
      · cases hpz
      · rename_i hpp
        simp [hmm, hpp]
    · cases hmk
  have hmay0 := sumBy_eq_zero (mayNilInd k) _ hall
  have hpos0 : 0 < sumBy (mayNilInd k) s.gs := by
    have := sumBy_ge_mem (mayNilInd k) s.gs g hgm
    have e0 : mayNilInd k g = 1 := by simp [mayNilInd, hp, marked, pendingD]
    omega
  refine ⟨fun _ => ?_, ?_⟩
  · have ht := hi.tok hk
    rw [h4, h2, hgs, sum_same wonPendInd hg hwp, hmay0]
    simp only [hco, hpos0, and_self, if_true] at ht
    simp; omega
  · rw [h2, hgs, sum_same wonPendInd hg hwp, sum_same closedErrInd hg hce]; exact hi.won

theorem senderInv_neutral {k : Nat} {s s' : St V} (hi : SenderInv k s) (h2 : s'.closeOnce = s.closeOnce)
    (h3 : s'.winner = s.winner) (h4 : s'.senderCloses = s.senderCloses) (h5 : s'.senderErr = s.senderErr) :
    SenderInv k s' := by
  refine ⟨fun hk => ?_, fun e he => ?_, fun hc hp => ?_⟩
  · rw [h4, h5]; exact hi.zero_inputs hk
  · rw [h5] at he; rw [h3]; exact hi.err_of_winner e he
  · rw [h2] at hc; rw [h4] at hp; rw [h5]; exact hi.err_after_cas hc hp

theorem onceInv_step {k : Nat} {s s' : St V} {l : Label V} (ha : LocalInv k s) (hi : OnceInv k s)
    (h : step s l = some s') : OnceInv k s' := by
  rcases step_cases h with ⟨i, g, g', sh, hg, t, rfl⟩ | c
  · have hgm : g ∈ s.gs := List.mem_of_getElem? hg
    have hk : 0 < k := ha.pos hgm
    have hloc := ha.localOK g hgm
    have hshape := hloc.shape
    have hy : inLoop g.pc = true → g.why = none := hloc.why.mpr
    have hwhy : s.closeOnce = false → g.why ≠ some .lostCas := fun hc => (hi.before_cas hc).1 g hgm
    have neutral : ∀ {sh : St V} {g' : G V}, sh.nDone = s.nDone → sh.closeOnce = s.closeOnce → sh.winner = s.winner →
        sh.senderCloses = s.senderCloses → sh.senderErr = s.senderErr → sh.errLog = s.errLog →
        marked g'.pc = marked g.pc → pendingD g'.pc = pendingD g.pc → wonPendInd g' = wonPendInd g →
        closedErrInd g' = closedErrInd g →
        (∀ e r, g'.pc = .won e r → ∃ r0, g.pc = .won e r0) → (∀ x, carries (.inj x) g'.pc → carries (.inj x) g.pc) →
        (s.closeOnce = false → g'.why ≠ some .lostCas) →
        OnceInv k { sh with gs := s.gs.set i g' } :=
      fun h1 h2 h3 h4 h5 h6 hm hpd hwp hce hwon herr hw =>
        ⟨countInv_neutral hi.toCountInv hg rfl h1 hm hpd,
         winnerInv_neutral hi.toWinnerInv hg rfl h2 h3 (fun _ h => h5 ▸ h) (fun _ h => h6 ▸ h) hwon
           (fun x hx => .inl (herr x hx)) hw,
         tokenInv_neutral hi.toTokenInv hg rfl h2 h4 (.inr (by simp [mayNilInd, hm, hpd])) hwp hce,
         senderInv_neutral hi.toSenderInv h2 h3 h4 h5⟩
    -- a deferred call: the goroutine stays in `exiting`, with its `why`
    have exiting : ∀ {sh : St V} {r : List ExitStep}, sh.closeOnce = s.closeOnce → sh.winner = s.winner →
        sh.errLog = s.errLog → (s.closeOnce = false → s.senderErr = none → sh.senderErr = none) →
        WinnerInv { sh with gs := s.gs.set i { g with pc := .exiting r } } :=
      fun h2 h3 h6 h5 => winnerInv_neutral hi.toWinnerInv hg rfl h2 h3 h5 (fun _ h => h6 ▸ h) (fun _ _ h => nomatch h)
        (fun _ h => h.elim) hwhy
    cases t with
    | item v hp | ctxErr hp _ =>
      exact neutral rfl rfl rfl rfl rfl rfl (by rw [hp]; rfl) (by rw [hp]; rfl) (by unfold wonPendInd; rw [hp])
        (by simp [closedErrInd, hp]) (fun _ _ h => nomatch h) (fun _ h => nomatch h) hwhy
    | ended hp | sendFail v hp _ =>
      exact neutral rfl rfl rfl rfl rfl rfl (by rw [hp]; rfl) (by rw [hp]; rfl) (by unfold wonPendInd; rw [hp])
        (by simp [closedErrInd, hp, hy (by rw [hp]; rfl)]) (fun _ _ h => nomatch h) (fun _ h => h.elim)
        (fun _ => by simp)
    | err e hp =>
      exact ⟨countInv_neutral hi.toCountInv hg rfl rfl (by rw [hp]; rfl) (by rw [hp]; rfl),
        winnerInv_neutral hi.toWinnerInv hg rfl rfl rfl (fun _ h => h) (fun _ h => by simp [h]) (fun _ _ h => nomatch h)
          (fun x hx => by right; simp [carries] at hx; subst hx; simp) hwhy,
        tokenInv_neutral hi.toTokenInv hg rfl rfl rfl (.inr (by simp [mayNilInd, hp, marked, pendingD]))
          (by unfold wonPendInd; rw [hp]) (by simp [closedErrInd, hp]),
        senderInv_neutral hi.toSenderInv rfl rfl rfl rfl⟩
    | casWin e hp hco =>
      have hnc := hi.toTokenInv.not_closed hk hco hgm (by simp [mayNilInd, hp, marked])
      exact ⟨countInv_neutral hi.toCountInv hg rfl rfl (by rw [hp]; rfl) (by rw [hp]; rfl),
        winnerInv_casWin hi.toWinnerInv (fun a haa => (hi.toTokenInv.no_winner hco haa).1) hg rfl hp rfl rfl rfl rfl,
        tokenInv_casWin hi.toTokenInv hk hg rfl hp rfl hco rfl rfl,
        ⟨fun hk0 => (by omega), fun e' (he : s.senderErr = some e') => (by rw [(hi.before_cas hco).2.2] at he; cases he),
          fun _ (hpos : 0 < s.senderCloses) => (by omega)⟩⟩
    | casLose e hp hco =>
      exact neutral rfl rfl rfl rfl rfl rfl (by rw [hp]; rfl) (by rw [hp]; rfl) (by unfold wonPendInd; rw [hp])
        (by simp [closedErrInd, hp, hy (by rw [hp]; rfl)]) (fun _ _ h => nomatch h) (fun _ h => h.elim)
        (fun hc => by rw [hco] at hc; cases hc)
    | winCancel e rest hp =>
      rw [hp] at hshape
      obtain rfl := Shape.tail_won hshape
      exact neutral rfl rfl rfl rfl rfl rfl (by rw [hp]; rfl) (by rw [hp]; rfl) (by unfold wonPendInd; rw [hp]; rfl)
        (by simp [closedErrInd, hp]) (fun e' r h => ⟨_, by rw [hp]; cases h; rfl⟩) (fun x hx => by rw [hp]; exact hx)
        hwhy
    | winClose e rest hp =>
      rw [hp] at hshape
      obtain rfl := Shape.tail_won hshape
      have hco := hi.toTokenInv.closeOnce_of_won hgm hp
      exact ⟨countInv_neutral hi.toCountInv hg rfl rfl (by rw [hp]; rfl) (by rw [hp]; rfl),
        winnerInv_neutral hi.toWinnerInv hg rfl rfl rfl (fun hc => by rw [hco] at hc; cases hc) (fun _ h => h)
          (fun e' r h => ⟨_, by rw [hp]; cases h; rfl⟩) (fun x hx => .inl (by rw [hp]; exact hx)) hwhy,
        tokenInv_closeErr hi.toTokenInv hk hg rfl hp rfl rfl rfl,
        ⟨fun hk0 => (by omega), fun e' (he : some e = some e') => (by cases he; exact ⟨i, hi.won_is_winner i g e _ hg hp⟩),
          fun _ _ => (by simp)⟩⟩
    | winDone e hp =>
      exact neutral rfl rfl rfl rfl rfl rfl (by rw [hp]; rfl) (by rw [hp]; rfl) (by unfold wonPendInd; rw [hp]; rfl)
        (by simp [closedErrInd, hp]) (fun _ _ h => nomatch h) (fun _ h => h.elim) (fun _ => by simp)
    | sendOk v live hp _ =>
      exact neutral rfl rfl rfl rfl rfl rfl (by simp [hp, marked, again]) (by simp [hp, pendingD, again])
        (by simp [hp, wonPendInd, again]) (by unfold closedErrInd; rw [hp]; rfl) (fun _ _ h => nomatch h)
        (fun _ h => h.elim) (fun hc => by simpa [again] using hwhy hc)
    | mark rest hp =>
      rw [hp] at hshape
      obtain rfl := Shape.tail_exiting hshape
      exact ⟨countInv_mark hi.toCountInv hg rfl hp rfl rfl, exiting rfl rfl rfl (fun _ h => h),
        tokenInv_mark ha hi.toCountInv hi.toTokenInv hg rfl hp rfl rfl rfl rfl, senderInv_neutral hi.toSenderInv rfl rfl rfl rfl⟩
    | checkFire rest hp hco =>
      rw [hp] at hshape
      obtain rfl := Shape.tail_exiting hshape
      rw [ha.k_eq] at hp
      exact ⟨countInv_check hi.toCountInv hg rfl hp rfl rfl, exiting rfl rfl rfl (fun _ _ => rfl),
        tokenInv_checkFire ha hi.toCountInv hi.toTokenInv hg rfl hp rfl rfl hco rfl rfl,
        ⟨fun hk0 => (by omega), fun e' (he : none = some e') => (nomatch he),
          fun (hcc : s.closeOnce = true) => (by rw [hco] at hcc; cases hcc)⟩⟩
    | checkSkip d rest hp hnf =>
      rw [hp] at hshape
      obtain rfl := Shape.tail_exiting hshape
      refine ⟨countInv_check hi.toCountInv hg rfl hp rfl rfl, exiting rfl rfl rfl (fun _ h => h),
        tokenInv_neutral hi.toTokenInv hg rfl rfl rfl ?_ (by simp [wonPendInd, hp]) (by simp [closedErrInd, hp]),
        senderInv_neutral hi.toSenderInv rfl rfl rfl rfl⟩
      cases hco : s.closeOnce
      · have hdk : d ≠ k := fun he => hnf ⟨by rw [he, ha.k_eq], hco⟩
        exact .inr (by simp [mayNilInd, hp, marked, pendingD, hdk])
      · exact .inl rfl
    | closeIn rest hp | wgDone rest hp =>
      rw [hp] at hshape
      obtain rfl := Shape.tail_exiting hshape
      exact neutral rfl rfl rfl rfl rfl rfl (by rw [hp]; rfl) (by rw [hp]; rfl) (by unfold wonPendInd; rw [hp])
        (by simp [closedErrInd, hp]) (fun _ _ h => nomatch h) (fun _ h => h.elim) hwhy
    | fin hp =>
      exact neutral rfl rfl rfl rfl rfl rfl (by rw [hp]; rfl) (by rw [hp]; rfl) (by unfold wonPendInd; rw [hp])
        (by simp [closedErrInd, hp]) (fun _ _ h => nomatch h) (fun _ h => h.elim) hwhy
  · cases c <;> exact ⟨⟨hi.nDone_eq, hi.read_le, hi.last_unique⟩, ⟨hi.before_cas, hi.won_is_winner, hi.carried_logged, hi.winner_logged⟩, ⟨hi.tok, hi.won⟩, ⟨hi.zero_inputs, hi.err_of_winner, hi.err_after_cas⟩⟩

/-- The invariants of `stream.Merge` that hold whatever the origin of its context. -/
structure Inv (k : Nat) (s : St V) : Prop extends LocalInv k s, ConserveInv k s, CloseInv s, OnceInv k s

theorem inv_step {k : Nat} {s s' : St V} {l : Label V} (hi : Inv k s) (h : step s l = some s') : Inv k s' :=
  ⟨localInv_step hi.toLocalInv h, conserveInv_step hi.toLocalInv hi.toConserveInv h, closeInv_step hi.toLocalInv hi.toCloseInv h,
    onceInv_step hi.toLocalInv hi.toOnceInv h⟩

theorem reach_inv {k : Nat} {s : St V} (h : Reach (init V k) s) : Inv k s := by
  induction h with
  | refl => exact ⟨localInv_init k, conserveInv_init k, closeInv_init k, onceInv_init k⟩
  | step l _ hs ih => exact inv_step ih hs

theorem Inv.closed_once_when_close_returned {k : Nat} {s : St V} (hI : Inv k s) (hc : s.cpc = .closing []) :
    ∀ g, g ∈ s.gs → g.closes = 1 ∧ pastWg g.pc = true := by
  rcases hI.stage [] hc with h | h | ⟨h, _⟩ | ⟨_, _, hw⟩ <;> try (simp at h)
  intro g hg
  have h0 : sumBy wgInd s.gs = 0 := by rw [← hI.wg]; exact hw
  have := sumBy_zero wgInd s.gs h0 g hg
  have hp : pastWg g.pc = true := by
    unfold wgInd at this
    split at this
    · assumption
    · cases this
  refine ⟨?_, hp⟩
  have := (hI.localOK g hg).closes
  rw [pastWg_closed _ hp] at this
  simpa using this

end Juniper.Proofs.StreamMerge
