import Juniper.Proofs.StreamGuards
/-!
# Denotation of stream machines under faults (framework for C07/C08)

`SDen soft m cost s L t`: from state `s`, whatever contexts the consumer passes, the machine `m` yields
the items of `L` in order (annotated with `cost` at delivery) and then terminates as `t` says —
`Term.end_ e`: the end, again and again; `Term.fail err`: the hard failure `err` itself. In between
it may answer `skip`, or fail *softly* (expired context, transient source failure); a soft failure
changes nothing about what is still to come: the derivation simply continues. `sden_conforms` reads a denotation
at the consumer; `sden_pull` gives the denotation of a wrapper whose `Next` is one pull and then `pullThen`.
-/
namespace Juniper.Proofs.StreamDen
open Juniper.Model.Stream
universe u v w
variable {σ : Type u} {α : Type v}

inductive Term where
  | end_ (e : Nat)
  | fail (err : Err)
  deriving DecidableEq, Repr

/-- A step under an expired context either fails with the context error and leaves the state
untouched, or does exactly what it does under a live context (the answer was already buffered). -/
def CtxOk (m : SM σ α) (s : σ) : Prop :=
  m.step s false = (.err .ctx, s) ∨ m.step s false = m.step s true

def afterS (m : SM σ α) : List Bool → σ → σ
  | [], s => s
  | c :: cs, s => afterS m cs (m.step s c).2

theorem afterS_append (m : SM σ α) (a b : List Bool) (s : σ) : afterS m (a ++ b) s = afterS m b (afterS m a s) := by
  induction a generalizing s with
  | nil => rfl
  | cons c a ih => simp only [List.cons_append, afterS]; exact ih _

theorem afterS_inv {m : SM σ α} (P : σ → Prop) (hstep : ∀ s c, P s → P (m.step s c).2) (cs : List Bool) {s : σ}
    (h : P s) : P (afterS m cs s) := by
  induction cs generalizing s with
  | nil => exact h
  | cons c cs ih => exact ih (hstep s c h)

/-- every further live step answers the end (and expired contexts cost nothing) -/
def SEnded (m : SM σ α) (s : σ) : Prop :=
  ∀ cs, CtxOk m (afterS m cs s) ∧ (m.step (afterS m cs s) true).1 = .end_

theorem SEnded.live {m : SM σ α} {s : σ} (h : SEnded m s) :
    ∃ s', m.step s true = (.end_, s') ∧ SEnded m s' :=
  ⟨_, Prod.ext (h []).2 rfl, fun cs => h (true :: cs)⟩

theorem SEnded.live_cost {m : SM σ α} {cost : σ → Nat} {s : σ} (h : SEnded m s) (hc : ∀ cs, cost (afterS m cs s) = cost s) :
    ∃ s', m.step s true = (.end_, s') ∧ SEnded m s' ∧ cost s' = cost s ∧ ∀ cs, cost (afterS m cs s') = cost s' :=
  ⟨_, Prod.ext (h []).2 rfl, fun cs => h (true :: cs), hc [true], fun cs => (hc (true :: cs)).trans (hc [true]).symm⟩

theorem SEnded.ctxOk {m : SM σ α} {s : σ} (h : SEnded m s) : CtxOk m s := (h []).1

theorem SEnded.afterS {m : SM σ α} {s : σ} (h : SEnded m s) (cs : List Bool) : SEnded m (afterS m cs s) := by
  intro ds
  have := h (cs ++ ds)
  rwa [afterS_append] at this

theorem SEnded.step {m : SM σ α} {s : σ} (h : SEnded m s) (c : Bool) :
    m.step s c = (.err .ctx, s) ∨ ∃ s', m.step s c = (.end_, s') ∧ SEnded m s' := by
  obtain ⟨s', hs, he⟩ := h.live
  cases c with
  | true => exact Or.inr ⟨s', hs, he⟩
  | false =>
    rcases h.ctxOk with hk | hk
    · exact Or.inl hk
    · exact Or.inr ⟨s', hk.trans hs, he⟩

inductive SDen (soft : Err → Bool) (m : SM σ α) (cost : σ → Nat) : σ → List (α × Nat) → Term → Prop
  | skip {s s' : σ} {L : List (α × Nat)} {t : Term} :
      CtxOk m s → m.step s true = (.skip, s') → SDen soft m cost s' L t → SDen soft m cost s L t
  | soft {s s' : σ} {e : Err} {L : List (α × Nat)} {t : Term} :
      CtxOk m s → m.step s true = (.err e, s') → soft e = true → SDen soft m cost s' L t → SDen soft m cost s L t
  | item {s s' : σ} {a : α} {L : List (α × Nat)} {t : Term} :
      CtxOk m s → m.step s true = (.item a, s') → SDen soft m cost s' L t → SDen soft m cost s ((a, cost s') :: L) t
  | fail {s s' : σ} {e : Err} :
      CtxOk m s → m.step s true = (.err e, s') → soft e = false → SDen soft m cost s [] (.fail e)
  | done {s s' : σ} :
      CtxOk m s → m.step s true = (.end_, s') → SEnded m s' → (∀ cs, cost (afterS m cs s') = cost s') →
      SDen soft m cost s [] (.end_ (cost s'))

variable {soft : Err → Bool}

theorem SDen.ctxOk {m : SM σ α} {cost : σ → Nat} {s : σ} {L : List (α × Nat)} {t : Term}
    (h : SDen soft m cost s L t) : CtxOk m s := by
  cases h <;> assumption

theorem SDen.dead {m : SM σ α} {cost : σ → Nat} {s : σ} {L : List (α × Nat)} {t : Term}
    (h : SDen soft m cost s L t) (hd : m.step s false = (.err .ctx, s)) : SDen soft m cost (m.step s false).2 L t := by
  rw [hd]; exact h

/-- answers of consecutive `Next(ctx)` calls; each call has its context and its fuel -/
def snextsF (m : SM σ α) : List (Bool × Nat) → σ → List (Option (SStep α))
  | [], _ => []
  | (c, f) :: cs, s => (drive m c f s).1 :: snextsF m cs (drive m c f s).2

def snexts (m : SM σ α) (fuel : Nat) (cs : List Bool) (s : σ) : List (Option (SStep α)) :=
  snextsF m (cs.map fun c => (c, fuel)) s

/-- erase the failed calls that cost nothing -/
def hard (soft : Err → Bool) : List (Option (SStep α)) → List (Option (SStep α))
  | [] => []
  | some (.err e) :: R => if soft e then hard soft R else some (.err e) :: hard soft R
  | r :: R => r :: hard soft R

theorem hard_cons_item (a : α) (R : List (Option (SStep α))) :
    hard soft (some (.item a) :: R) = some (.item a) :: hard soft R := rfl
theorem hard_cons_end (R : List (Option (SStep α))) : hard soft (some .end_ :: R) = some .end_ :: hard soft R := rfl
theorem hard_cons_soft (e : Err) (h : soft e = true) (R : List (Option (SStep α))) :
    hard soft (some (.err e) :: R) = hard soft R := by simp [hard, h]
theorem hard_cons_hard (e : Err) (h : soft e = false) (R : List (Option (SStep α))) :
    hard soft (some (.err e) :: R) = some (.err e) :: hard soft R := by simp [hard, h]

/-- `R` is what a consumer of `(l, t)` may see: the items in order, then the end forever / the
failure itself (after which nothing is specified). -/
def Conforms : List (Option (SStep α)) → List α → Term → Prop
  | [], _, _ => True
  | r :: R, a :: l, t => r = some (.item a) ∧ Conforms R l t
  | r :: R, [], .end_ e => r = some .end_ ∧ Conforms R [] (.end_ e)
  | r :: _, [], .fail err => r = some (.err err)

theorem drive_succ (m : SM σ α) (c : Bool) (f : Nat) (s : σ) :
    drive m c (f + 1) s = match m.step s c with
      | (.skip, s') => drive m c f s'
      | (r, s') => (some r, s') := by
  rw [drive]
  rcases m.step s c with ⟨r, s'⟩
  cases r <;> rfl

/-- the calls one after the other: a call under an expired context that is answered with the context error
is erased and changes nothing; what is left to show is what a call does that steps as under a live context -/
theorem conforms_calls (hctx : soft .ctx = true) {m : SM σ α} {s : σ} {l : List α} {t : Term} (F : Nat) (hc : CtxOk m s)
    (hlive : ∀ c g calls, F ≤ g → (∀ p ∈ calls, F + 1 ≤ p.2) → m.step s c = m.step s true →
      Conforms (hard soft (snextsF m ((c, g + 1) :: calls) s)) l t)
    (calls : List (Bool × Nat)) (hf : ∀ p ∈ calls, F + 1 ≤ p.2) : Conforms (hard soft (snextsF m calls s)) l t := by
  induction calls with
  | nil => simp [snextsF, hard, Conforms]
  | cons p calls ihc =>
    obtain ⟨c, fuel⟩ := p
    have hfuel : F + 1 ≤ fuel := hf (c, fuel) (by simp)
    have hf' : ∀ p ∈ calls, F + 1 ≤ p.2 := fun p hp => hf p (by simp [hp])
    obtain ⟨g, rfl⟩ : ∃ g, fuel = g + 1 := ⟨fuel - 1, by omega⟩
    cases c with
    | true => exact hlive true g calls (by omega) hf' rfl
    | false =>
      rcases hc with hk | hk
      · have hd : drive m false (g + 1) s = (some (.err .ctx), s) := by rw [drive_succ, hk]
        simp only [snextsF, hd]
        rw [hard_cons_soft _ hctx]
        exact ihc hf'
      · exact hlive false g calls (by omega) hf' hk

theorem sended_conforms (hctx : soft .ctx = true) {m : SM σ α} {s : σ} (h : SEnded m s) (e : Nat)
    (calls : List (Bool × Nat)) (hf : ∀ p ∈ calls, 1 ≤ p.2) : Conforms (hard soft (snextsF m calls s)) [] (.end_ e) := by
  induction calls generalizing s with
  | nil => simp [snextsF, hard, Conforms]
  | cons p calls ih =>
    obtain ⟨c, fuel⟩ := p
    have hf' : ∀ p ∈ calls, 1 ≤ p.2 := fun p hp => hf p (by simp [hp])
    obtain ⟨g, rfl⟩ : ∃ g, fuel = g + 1 := ⟨fuel - 1, by have := hf (c, fuel) (by simp); omega⟩
    rcases h.step c with hk | ⟨s', hk, he'⟩
    · have hd : drive m c (g + 1) s = (some (.err .ctx), s) := by rw [drive_succ, hk]
      simp only [snextsF, hd]
      rw [hard_cons_soft _ hctx]
      exact ih h hf'
    · have hd : drive m c (g + 1) s = (some .end_, s') := by rw [drive_succ, hk]
      simp only [snextsF, hd, hard_cons_end, Conforms]
      exact ⟨trivial, ih he' hf'⟩

/-- What the consumer sees, with the failed calls that cost nothing erased, is the denoted sequence
(each call with its own context and any fuel above a bound). -/
theorem sden_conformsF (hctx : soft .ctx = true) {m : SM σ α} {cost : σ → Nat} {s : σ}
    {L : List (α × Nat)} {t : Term} (h : SDen soft m cost s L t) :
    ∃ F, ∀ calls : List (Bool × Nat), (∀ p ∈ calls, F ≤ p.2) →
      Conforms (hard soft (snextsF m calls s)) (L.map Prod.fst) t := by
  induction h with
  | @skip s s' L t hc hs _ ih =>
    obtain ⟨F, hF⟩ := ih
    refine ⟨F + 1, conforms_calls hctx F hc (fun c g calls hg hf hk => ?_)⟩
    have hd : drive m c (g + 1) s = drive m c g s' := by rw [drive_succ, hk, hs]
    have := hF ((c, g) :: calls) (by
      intro p hp
      simp only [List.mem_cons] at hp
      rcases hp with rfl | hp
      · exact hg
      · have := hf p hp; omega)
    simpa only [snextsF, hd] using this
  | @soft s s' e L t hc hs he _ ih =>
    obtain ⟨F, hF⟩ := ih
    refine ⟨F + 1, conforms_calls hctx F hc (fun c g calls hg hf hk => ?_)⟩
    have hd : drive m c (g + 1) s = (some (.err e), s') := by rw [drive_succ, hk, hs]
    simp only [snextsF, hd]
    rw [hard_cons_soft _ he]
    exact hF calls (fun p hp => by have := hf p hp; omega)
  | @item s s' a L t hc hs _ ih =>
    obtain ⟨F, hF⟩ := ih
    refine ⟨F + 1, conforms_calls hctx F hc (fun c g calls hg hf hk => ?_)⟩
    have hd : drive m c (g + 1) s = (some (.item a), s') := by rw [drive_succ, hk, hs]
    simp only [snextsF, hd, hard_cons_item, List.map_cons, Conforms]
    exact ⟨trivial, hF calls (fun p hp => by have := hf p hp; omega)⟩
  | @fail s s' e hc hs he =>
    refine ⟨1, conforms_calls hctx 0 hc (fun c g calls hg hf hk => ?_)⟩
    have hd : drive m c (g + 1) s = (some (.err e), s') := by rw [drive_succ, hk, hs]
    simp only [snextsF, hd]
    rw [hard_cons_hard _ he]
    simp [Conforms]
  | @done s s' hc hs he _ =>
    refine ⟨1, conforms_calls hctx 0 hc (fun c g calls hg hf hk => ?_)⟩
    have hd : drive m c (g + 1) s = (some .end_, s') := by rw [drive_succ, hk, hs]
    simp only [snextsF, hd, hard_cons_end, List.map_nil, Conforms]
    exact ⟨trivial, sended_conforms hctx he _ calls hf⟩

theorem sden_conforms (hctx : soft .ctx = true) {m : SM σ α} {cost : σ → Nat} {s : σ}
    {L : List (α × Nat)} {t : Term} (h : SDen soft m cost s L t) :
    ∃ F, ∀ fuel, F ≤ fuel → ∀ cs, Conforms (hard soft (snexts m fuel cs s)) (L.map Prod.fst) t := by
  obtain ⟨F, hF⟩ := sden_conformsF hctx h
  refine ⟨F, fun fuel hf cs => hF _ ?_⟩
  intro p hp
  simp only [List.mem_map] at hp
  obtain ⟨c, _, rfl⟩ := hp
  exact hf

/-- nothing is soft: the view of a consumer that stops at the first failure -/
abbrev strict : Err → Bool := fun _ => false

universe x y
variable {σ' : Type w} {γ : Type x}

theorem sended_of_inv {m : SM σ α} (P : σ → Prop)
    (hstep : ∀ s, P s → CtxOk m s ∧ (m.step s true).1 = .end_ ∧ ∀ c, P (m.step s c).2) {s : σ} (h0 : P s) :
    SEnded m s := fun cs =>
  have h := afterS_inv P (fun s c h => (hstep s h).2.2 c) cs h0
  ⟨(hstep _ h).1, (hstep _ h).2.1⟩

theorem sended_fixed {m : SM σ α} {s : σ} (h : ∀ c, m.step s c = (.end_, s)) : SEnded m s :=
  sended_of_inv (fun t => t = s) (by
    intro t ht
    subst ht
    exact ⟨Or.inr (by rw [h, h]), by rw [h], fun c => by rw [h]⟩) rfl

theorem sden_of_ended {m : SM σ α} {cost : σ → Nat} {s : σ} (he : SEnded m s)
    (hc : ∀ cs, cost (afterS m cs s) = cost s) : SDen soft m cost s [] (.end_ (cost s)) := by
  obtain ⟨s', hs, he', h1, hc'⟩ := he.live_cost hc
  have := SDen.done (soft := soft) (cost := cost) he.ctxOk hs he' hc'
  rwa [h1] at this

theorem afterS_fixed {m : SM σ α} {s : σ} (h : ∀ c, m.step s c = (.end_, s)) (cs : List Bool) : afterS m cs s = s :=
  afterS_inv (· = s) (fun _ c ht => by rw [ht, h]) cs rfl

theorem sden_fixed {m : SM σ α} {cost : σ → Nat} {s : σ} (h : ∀ c, m.step s c = (.end_, s)) :
    SDen soft m cost s [] (.end_ (cost s)) :=
  sden_of_ended (sended_fixed h) (fun cs => by rw [afterS_fixed h])

theorem ctxOk_const {m' : SM σ' γ} {t : σ'} {R : SStep γ × σ'} (h : ∀ c, m'.step t c = R) : CtxOk m' t :=
  Or.inr (by rw [h, h])

theorem ctxOk_pull {m : SM σ α} {m' : SM σ' γ} {s : σ} {t : σ'} {put : σ → σ'} {item : α → σ → SStep γ × σ'}
    {end_ : σ → SStep γ × σ'} (hstep : ∀ c, m'.step t c = pullThen put item end_ (m.step s c)) (hput : put s = t)
    (h : CtxOk m s) : CtxOk m' t := by
  subst hput
  rcases h with h | h
  · left; rw [hstep, h]; rfl
  · right; rw [hstep, hstep, h]

section pull
variable {m : SM σ α} {m' : SM σ' γ} {cost : σ → Nat} {put : σ → σ'} {item : σ → α → σ → SStep γ × σ'}
  {end_ : σ → σ → SStep γ × σ'}

theorem sended_pull (proj : σ' → σ) (hstep : ∀ s c, m'.step (put s) c = pullThen put (item s) (end_ s) (m.step s c))
    (hend : ∀ s s', end_ s s' = (.end_, put s')) (hproj : ∀ s, proj (put s) = s)
    {s : σ} (he : SEnded m s) (hc : ∀ cs, cost (afterS m cs s) = cost s) :
    SEnded m' (put s) ∧ ∀ cs, cost (proj (afterS m' cs (put s))) = cost s := by
  have key : ∀ cs s, SEnded m s → ∃ ds, afterS m' cs (put s) = put (afterS m ds s) := by
    intro cs
    induction cs with
    | nil => intro s _; exact ⟨[], rfl⟩
    | cons c cs ih =>
      intro s he
      rcases he.step c with h | ⟨s', h, he'⟩
      · obtain ⟨ds, hds⟩ := ih s he
        exact ⟨ds, by simp only [afterS]; rw [hstep s c, h]; exact hds⟩
      · obtain ⟨ds, hds⟩ := ih s' he'
        refine ⟨c :: ds, ?_⟩
        simp only [afterS]
        rw [hstep s c, h]
        simp only [pullThen, hend s s']
        exact hds
  constructor
  · intro cs
    obtain ⟨ds, hds⟩ := key cs s he
    rw [hds]
    have he' := he.afterS ds
    obtain ⟨s'', hs'', _⟩ := he'.live
    exact ⟨ctxOk_pull (hstep _) rfl he'.ctxOk, by rw [hstep _ true, hs'']; simp only [pullThen, hend _ s'']⟩
  · intro cs
    obtain ⟨ds, hds⟩ := key cs s he
    rw [hds, hproj]
    exact hc ds

theorem SDen.done_pull (proj : σ' → σ) (hstep : ∀ s c, m'.step (put s) c = pullThen put (item s) (end_ s) (m.step s c))
    (hend : ∀ s s', end_ s s' = (.end_, put s')) (hproj : ∀ s, proj (put s) = s)
    {s s' : σ} (hc : CtxOk m s) (hs : m.step s true = (.end_, s')) (he : SEnded m s')
    (hk : ∀ cs, cost (afterS m cs s') = cost s') :
    SDen soft m' (fun t => cost (proj t)) (put s) [] (.end_ (cost s')) := by
  have hw := sended_pull (cost := cost) proj hstep hend hproj he hk
  have := SDen.done (soft := soft) (cost := fun t => cost (proj t)) (ctxOk_pull (hstep s) rfl hc)
    (by rw [hstep s true, hs]; simp only [pullThen, hend s s']) hw.1
    (fun cs => (hw.2 cs).trans (by rw [hproj]))
  simpa only [hproj] using this

end pull

section family
variable {X : Type y} {m : SM σ α} {m' : SM σ' γ} {cost : σ → Nat} {mk : X → σ → σ'}
  {item : X → σ → α → σ → SStep γ × σ'} {end_ : X → σ → σ → SStep γ × σ'}

/-- **Denotation of a pulling wrapper.** Skips, soft and hard failures of the source pass through; what is
left to show is what the wrapper does with an item (given what it denotes afterwards, in any own state) and
at the end of its source. -/
theorem sden_pull {cost' : σ' → Nat}
    (hstep : ∀ x s c, m'.step (mk x s) c = pullThen (mk x) (item x s) (end_ x s) (m.step s c))
    (F : X → List (α × Nat) → Term → List (γ × Nat) × Term) (hfail : ∀ x e, F x [] (.fail e) = ([], .fail e))
    (hitem : ∀ x s a s' L t, CtxOk m' (mk x s) → m'.step (mk x s) true = item x s a s' →
      (∀ x', SDen soft m' cost' (mk x' s') (F x' L t).1 (F x' L t).2) →
      SDen soft m' cost' (mk x s) (F x ((a, cost s') :: L) t).1 (F x ((a, cost s') :: L) t).2)
    (hdone : ∀ x s s', CtxOk m s → m.step s true = (.end_, s') → SEnded m s' →
      (∀ cs, cost (afterS m cs s') = cost s') →
      SDen soft m' cost' (mk x s) (F x [] (.end_ (cost s'))).1 (F x [] (.end_ (cost s'))).2)
    {s : σ} {L : List (α × Nat)} {t : Term} (h : SDen soft m cost s L t) {x : X} :
    SDen soft m' cost' (mk x s) (F x L t).1 (F x L t).2 := by
  induction h generalizing x with
  | skip hc hs _ ih =>
    exact .skip (ctxOk_pull (fun c => hstep x _ c) rfl hc) (by rw [hstep x _ true, hs]; rfl) ih
  | soft hc hs he _ ih =>
    exact .soft (ctxOk_pull (fun c => hstep x _ c) rfl hc) (by rw [hstep x _ true, hs]; rfl) he ih
  | item hc hs _ ih =>
    exact hitem x _ _ _ _ _ (ctxOk_pull (fun c => hstep x _ c) rfl hc) (by rw [hstep x _ true, hs]; rfl) (fun x' => ih)
  | fail hc hs he =>
    rw [hfail x _]
    exact .fail (ctxOk_pull (fun c => hstep x _ c) rfl hc) (by rw [hstep x _ true, hs]; rfl) he
  | done hc hs he hk => exact hdone x _ _ hc hs he hk

end family

end Juniper.Proofs.StreamDen
