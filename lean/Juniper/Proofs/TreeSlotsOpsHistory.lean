import Juniper.Proofs.TreeSlotsOpsSplit
/-!
# Slot-level lemmas (C03 "no retained garbage"): node-level histories

`Clean x`: the node represents *some* entries and children, with all other slots zero. Every enabled
step of `applyOp` keeps every node of the family clean.
-/
namespace Juniper.Proofs.TreeSlotsOps
open Juniper.Model.BTreeSlotsOps Juniper.Gen
variable {K V C : Type}

def Clean (x : SNode K V C) : Prop := ∃ kvs kids, NodeRep x kvs kids

theorem Clean.tailOK {x : SNode K V C} (h : Clean x) : TailOK x := by
  obtain ⟨_, _, h⟩ := h; exact h.tailOK

theorem clean_fresh : Clean (SNode.fresh : SNode K V C) := ⟨[], [], nodeRep_fresh⟩

def AllClean (fam : Fam K V C) : Prop := ∀ x, some x ∈ fam → Clean x

theorem AllClean.get {fam : Fam K V C} (h : AllClean fam) {i : Nat} {x} (hx : getNode fam i = some x) : Clean x :=
  h x (List.mem_of_getElem? (Option.join_eq_some_iff.mp hx))

theorem AllClean.store {fam : Fam K V C} (h : AllClean fam) (i : Nat) {o : Option (SNode K V C)}
    (ho : ∀ x, o = some x → Clean x) : AllClean (fam.set i o) := by
  intro y hy
  rcases List.mem_or_eq_of_mem_set hy with h1 | h1
  · exact h y h1
  · exact ho y h1.symm

theorem AllClean.set {fam : Fam K V C} (h : AllClean fam) (i : Nat) {x} (hx : Clean x) : AllClean (fam.set i (some x)) :=
  h.store i fun _ e => Option.some.inj e ▸ hx

theorem AllClean.erase {fam : Fam K V C} (h : AllClean fam) (i : Nat) : AllClean (fam.set i none) :=
  h.store i fun _ e => nomatch e

theorem AllClean.snoc {fam : Fam K V C} (h : AllClean fam) {x} (hx : Clean x) : AllClean (fam ++ [some x]) := by
  intro y hy
  rcases List.mem_append.mp hy with h1 | h1
  · exact h y h1
  · simp at h1; subst h1; exact hx

/-- the family `newBtree` starts with (`Heap.empty.nodes`) -/
theorem AllClean.fresh : AllClean ([some SNode.fresh] : Fam K V C) := by
  intro x hx
  cases List.mem_singleton.mp hx
  exact clean_fresh

/-- every zeroing / clearing / shifting statement of `btree.go` is present: the facts of each node-level operation -/
abbrev ZeroingPresent : Prop :=
  TreeSlots.leafInsertBumpsN = true ∧ LeafRemovePresent ∧ RemoveRightmostPresent ∧
  SplitPresent ∧ TreeSlots.amalgamChildDec = true ∧ TreeSlots.parentInsertBumpsN = true ∧
  MergePresent ∧ RotateRightPresent ∧ RotateLeftPresent

/-! ## `applyOp` by equations

Ten of the thirteen operations have one of two shapes: `onNode` (rewrite one node) and `onThree` (parent and two
siblings). `applyOp` is unfolded only here. -/

def onNode (fam : Fam K V C) (i : Nat) (guard : SNode K V C → Prop) [DecidablePred guard]
    (f : SNode K V C → Option (SNode K V C)) : Option (Fam K V C) :=
  (getNode fam i).bind fun x => if guard x then (f x).bind fun x' => some (fam.set i (some x')) else none

/-- `onNode` for the parent `p` and the siblings `l`, `r` of a merge or rotation; `f` also says what becomes of the
object `r` (`none`: it is unlinked) -/
def onThree (fam : Fam K V C) (p l r : Nat) (guard : SNode K V C → SNode K V C → SNode K V C → Prop)
    [∀ a b c, Decidable (guard a b c)]
    (f : SNode K V C → SNode K V C → SNode K V C → Option (SNode K V C × SNode K V C × Option (SNode K V C))) :
    Option (Fam K V C) :=
  (getNode fam p).bind fun xp => (getNode fam l).bind fun xl => (getNode fam r).bind fun xr =>
    if guard xp xl xr then
      (f xp xl xr).bind fun t => some (((fam.set p (some t.1)).set l (some t.2.1)).set r t.2.2)
    else none

section
variable (fam : Fam K V C)

theorem applyOp_leafInsert (i idx : Nat) (k : K) (v : V) : applyOp fam (.leafInsert i idx k v) =
    onNode fam i (fun x => x.isLeaf ∧ (idx : Int) ≤ x.n ∧ x.n < keysCap) (leafInsert · idx k v) := rfl

theorem applyOp_setValue (i idx : Nat) (v : V) : applyOp fam (.setValue i idx v) =
    onNode fam i (fun x => (idx : Int) < x.n) (setValue · idx v) := rfl

theorem applyOp_leafRemove (i idx : Nat) : applyOp fam (.leafRemove i idx) =
    onNode fam i (fun x => x.isLeaf ∧ (idx : Int) < x.n) (leafRemove · idx) := rfl

theorem applyOp_removeRightmost (i : Nat) : applyOp fam (.removeRightmost i) =
    onNode fam i (fun x => x.isLeaf ∧ 0 < x.n) fun x => (removeRightmostAt x).map (·.2.2) := by
  simp only [onNode, Option.bind_map]; rfl

theorem applyOp_replaceEntry (i idx : Nat) (k : K) (v : V) : applyOp fam (.replaceEntry i idx k v) =
    onNode fam i (fun x => (idx : Int) < x.n) (replaceEntry · idx (some k) (some v)) := rfl

theorem applyOp_parentInsert (i idx : Nat) (k : K) (v : V) (r : C) : applyOp fam (.parentInsert i idx k v r) =
    onNode fam i (fun x => ¬ x.isLeaf ∧ (idx : Int) ≤ x.n ∧ x.n < keysCap)
      (parentInsert · idx (some k) (some v) r) := rfl

theorem applyOp_setParent (i : Nat) (p : Option C) : applyOp fam (.setParent i p) =
    onNode fam i (fun _ => True) fun x => some { x with parent := p } := rfl

theorem applyOp_split (i e : Nat) (k : K) (v : V) (afterK : Option C) : applyOp fam (.split i e k v afterK) =
    (getNode fam i).bind fun x =>
      if x.n = keysCap ∧ e ≤ keysCap ∧ (x.isLeaf ∨ afterK.isSome) then
        (splitNode x e (some k) (some v) afterK).bind fun t => some (fam.set i (some t.1) ++ [some t.2.2.2])
      else none := rfl

theorem applyOp_newRoot (k : K) (v : V) (l r : C) : applyOp fam (.newRoot k v l r) =
    (newRootNode (some k) (some v) l r).bind fun x => some (fam ++ [some x]) := rfl

theorem applyOp_drop (i : Nat) : applyOp fam (.drop i) = some (fam.set i none) := rfl

theorem applyOp_mergeTwo (p l r idx : Nat) : applyOp fam (.mergeTwo p l r idx) =
    onThree fam p l r (fun xp xl xr => p ≠ l ∧ l ≠ r ∧ p ≠ r ∧ ¬ xp.isLeaf ∧ (idx : Int) < xp.n ∧
        xl.isLeaf = xr.isLeaf ∧ xl.n + 1 + xr.n ≤ keysCap)
      fun xp xl xr => (mergeNodes xp xl xr idx).map fun t => (t.1, t.2.1, none) := by
  simp only [onThree, Option.bind_map]; rfl

theorem applyOp_rotateRight (p l r idx : Nat) : applyOp fam (.rotateRight p l r idx) =
    onThree fam p l r (fun xp xl xr => p ≠ l ∧ l ≠ r ∧ p ≠ r ∧ (idx : Int) < xp.n ∧ xl.isLeaf = xr.isLeaf ∧
        0 < xl.n ∧ xr.n < keysCap)
      fun xp xl xr => (rotateRightNodes xp xl xr idx).map fun t => (t.1, t.2.1, some t.2.2.1) := by
  simp only [onThree, Option.bind_map]; rfl

theorem applyOp_rotateLeft (p l r idx : Nat) : applyOp fam (.rotateLeft p l r idx) =
    onThree fam p l r (fun xp xl xr => p ≠ l ∧ l ≠ r ∧ p ≠ r ∧ 0 < idx ∧ (idx : Int) ≤ xp.n ∧
        xl.isLeaf = xr.isLeaf ∧ 0 < xr.n ∧ xl.n < keysCap)
      fun xp xl xr => (rotateLeftNodes xp xl xr idx).map fun t => (t.1, t.2.1, some t.2.2.1) := by
  simp only [onThree, Option.bind_map]; rfl

end

theorem clean_of_rep {o : Option (SNode K V C)} {kvs kids} (h : ∃ x', o = some x' ∧ NodeRep x' kvs kids)
    {y : SNode K V C} (hy : o = some y) : Clean y := by
  obtain ⟨x', e, hr⟩ := h
  rw [hy] at e; cases e
  exact ⟨_, _, hr⟩

theorem AllClean.bind_get {fam : Fam K V C} (h : AllClean fam) {i : Nat} {β : Type} {k : SNode K V C → Option β}
    {b : β} (hop : (getNode fam i).bind k = some b) : ∃ x kvs kids, NodeRep x kvs kids ∧ k x = some b := by
  obtain ⟨x, hx, hk⟩ := Option.bind_eq_some_iff.mp hop
  obtain ⟨kvs, kids, hr⟩ := h.get hx
  exact ⟨x, kvs, kids, hr, hk⟩

theorem AllClean.onNode {fam fam' : Fam K V C} (h : AllClean fam) {i : Nat} {P : SNode K V C → Prop}
    [DecidablePred P] {f : SNode K V C → Option (SNode K V C)} (hop : onNode fam i P f = some fam')
    (hf : ∀ x kvs kids, NodeRep x kvs kids → P x → ∀ x', f x = some x' → Clean x') : AllClean fam' := by
  obtain ⟨x, kvs, kids, hr, hop⟩ := h.bind_get hop
  obtain ⟨hP, hop⟩ := Option.ite_none_right_eq_some.mp hop
  obtain ⟨x', hx', hop⟩ := Option.bind_eq_some_iff.mp hop
  cases hop
  exact h.set i (hf x kvs kids hr hP x' hx')

theorem AllClean.onThree {fam fam' : Fam K V C} (h : AllClean fam) {p l r : Nat}
    {P : SNode K V C → SNode K V C → SNode K V C → Prop} [∀ a b c, Decidable (P a b c)]
    {f : SNode K V C → SNode K V C → SNode K V C → Option (SNode K V C × SNode K V C × Option (SNode K V C))}
    (hop : onThree fam p l r P f = some fam')
    (hf : ∀ xp xl xr pkvs pkids lkvs lkids rkvs rkids, NodeRep xp pkvs pkids → NodeRep xl lkvs lkids →
      NodeRep xr rkvs rkids → P xp xl xr → ∀ t, f xp xl xr = some t →
        Clean t.1 ∧ Clean t.2.1 ∧ ∀ x, t.2.2 = some x → Clean x) : AllClean fam' := by
  obtain ⟨xp, pkvs, pkids, rp, hop⟩ := h.bind_get hop
  obtain ⟨xl, lkvs, lkids, rl, hop⟩ := h.bind_get hop
  obtain ⟨xr, rkvs, rkids, rr, hop⟩ := h.bind_get hop
  obtain ⟨hP, hop⟩ := Option.ite_none_right_eq_some.mp hop
  obtain ⟨t, ht, hop⟩ := Option.bind_eq_some_iff.mp hop
  cases hop
  obtain ⟨c1, c2, c3⟩ := hf xp xl xr pkvs pkids lkvs lkids rkvs rkids rp rl rr hP t ht
  exact ((h.set p c1).set l c2).store r c3

theorem applyOp_clean (hf : ZeroingPresent) {fam fam' : Fam K V C} (h : AllClean fam) (op : NodeOp K V C)
    (hop : applyOp fam op = some fam') : AllClean fam' := by
  obtain ⟨fLeafInsert, fLeafRemove, fRightmost, fSplit, fChildDec, fParentInsert, fMerge, fRotR, fRotL⟩ := hf
  cases op with
  | leafInsert i idx k v =>
    refine h.onNode (applyOp_leafInsert .. ▸ hop) fun x kvs kids hr ⟨g1, g2, g3⟩ x' hx' => ?_
    cases hr.isLeaf_iff.mp g1
    rw [hr.hn] at g2 g3
    exact clean_of_rep ((leafInsert_rep hr (by omega) (by omega) k v fLeafInsert).imp fun _ => And.left) hx'
  | setValue i idx v =>
    refine h.onNode (applyOp_setValue .. ▸ hop) fun x kvs kids hr g x' hx' => ?_
    rw [hr.hn] at g
    exact clean_of_rep ((setValue_rep hr (by omega) v).imp fun _ => And.left) hx'
  | leafRemove i idx =>
    refine h.onNode (applyOp_leafRemove .. ▸ hop) fun x kvs kids hr ⟨g1, g2⟩ x' hx' => ?_
    cases hr.isLeaf_iff.mp g1
    rw [hr.hn] at g2
    exact clean_of_rep ((leafRemove_rep hr (by omega) fLeafRemove).imp fun _ => And.left) hx'
  | removeRightmost i =>
    refine h.onNode (applyOp_removeRightmost .. ▸ hop) fun x kvs kids hr ⟨g1, g2⟩ x' hx' => ?_
    cases hr.isLeaf_iff.mp g1
    rw [hr.hn] at g2
    obtain ⟨x'', ⟨e, hr'⟩, -⟩ := removeRightmostAt_rep hr (List.ne_nil_of_length_pos (by omega)) fRightmost
    rw [e] at hx'; cases hx'
    exact ⟨_, _, hr'⟩
  | replaceEntry i idx k v =>
    refine h.onNode (applyOp_replaceEntry .. ▸ hop) fun x kvs kids hr g x' hx' => ?_
    rw [hr.hn] at g
    exact clean_of_rep ((replaceEntry_rep hr (by omega) k v).imp fun _ => And.left) hx'
  | split i e k v afterK =>
    obtain ⟨x, kvs, kids, hr, hop⟩ := h.bind_get (applyOp_split .. ▸ hop)
    obtain ⟨⟨g1, g2, g3⟩, hop⟩ := Option.ite_none_right_eq_some.mp hop
    obtain ⟨t, hs, hop⟩ := Option.bind_eq_some_iff.mp hop
    cases hop
    rw [hr.hn] at g1
    obtain ⟨allc, hk⟩ := split_kinds hr e (g3.imp hr.isLeaf_iff.mp id) fChildDec
    obtain ⟨l', r', ⟨hs', hl', hr'⟩, -⟩ := splitNode_rep hr (by omega) g2 k v hk fSplit
    rw [hs] at hs'; cases hs'
    exact (h.set i ⟨_, _, hl'⟩).snoc ⟨_, _, hr'⟩
  | newRoot k v l r =>
    obtain ⟨x, hx, hop⟩ := Option.bind_eq_some_iff.mp (applyOp_newRoot .. ▸ hop)
    cases hop
    exact h.snoc (clean_of_rep ((newRootNode_rep k v l r).imp fun _ => And.left) hx)
  | parentInsert i idx k v r =>
    refine h.onNode (applyOp_parentInsert .. ▸ hop) fun x kvs kids hr ⟨g1, g2, g3⟩ x' hx' => ?_
    rw [hr.hn] at g2 g3
    exact clean_of_rep ((parentInsert_rep hr (inner_of_not_leaf hr g1) (by omega) (by omega) k v r fParentInsert).imp
      fun _ => And.left) hx'
  | mergeTwo p l r idx =>
    refine h.onThree (applyOp_mergeTwo .. ▸ hop)
      fun xp xl xr pkvs pkids lkvs lkids rkvs rkids rp rl rr ⟨_, _, _, g4, g5, g6, g7⟩ t ht => ?_
    rw [rp.hn] at g5
    rw [rl.hn, rr.hn] at g7
    obtain ⟨p', l', r', ⟨hm, rp', rl', -⟩, -⟩ := mergeNodes_rep rp rl rr (inner_of_not_leaf rp g4) ((kind_iff rl rr).mp g6)
      (idx := idx) (by omega) (by omega) fMerge
    rw [hm] at ht; cases ht
    exact ⟨⟨_, _, rp'⟩, ⟨_, _, rl'⟩, fun _ e => nomatch e⟩
  | rotateRight p l r idx =>
    refine h.onThree (applyOp_rotateRight .. ▸ hop)
      fun xp xl xr pkvs pkids lkvs lkids rkvs rkids rp rl rr ⟨_, _, _, g4, g5, g6, g7⟩ t ht => ?_
    rw [rp.hn] at g4
    rw [rl.hn] at g6
    rw [rr.hn] at g7
    obtain ⟨p', l', r', ⟨hm, rp', rl', rr'⟩, -⟩ := rotateRightNodes_rep rp rl rr ((kind_iff rl rr).mp g5) (idx := idx) (by omega)
      (List.ne_nil_of_length_pos (by omega)) (by omega) fRotR
    rw [hm] at ht; cases ht
    exact ⟨⟨_, _, rp'⟩, ⟨_, _, rl'⟩, fun _ e => Option.some.inj e ▸ ⟨_, _, rr'⟩⟩
  | rotateLeft p l r idx =>
    refine h.onThree (applyOp_rotateLeft .. ▸ hop)
      fun xp xl xr pkvs pkids lkvs lkids rkvs rkids rp rl rr ⟨_, _, _, g4, g5, g6, g7, g8⟩ t ht => ?_
    rw [rp.hn] at g5
    rw [rr.hn] at g7
    rw [rl.hn] at g8
    obtain ⟨p', l', r', ⟨hm, rp', rl', rr'⟩, -⟩ := rotateLeftNodes_rep rp rl rr ((kind_iff rl rr).mp g6) (idx := idx) g4 (by omega)
      (List.ne_nil_of_length_pos (by omega)) (by omega) fRotL
    rw [hm] at ht; cases ht
    exact ⟨⟨_, _, rp'⟩, ⟨_, _, rl'⟩, fun _ e => Option.some.inj e ▸ ⟨_, _, rr'⟩⟩
  | setParent i p =>
    refine h.onNode (applyOp_setParent .. ▸ hop) fun x kvs kids hr _ x' hx' => ?_
    cases hx'
    exact ⟨kvs, kids, ⟨hr.hn, hr.hkeys, hr.hvals, hr.hkids, hr.hshape⟩⟩
  | drop i =>
    cases hop
    exact h.erase i

theorem runOps_clean (hf : ZeroingPresent) : ∀ (ops : List (NodeOp K V C)) {fam fam' : Fam K V C},
    AllClean fam → runOps fam ops = some fam' → AllClean fam'
  | [], fam, fam', h, hr => by cases hr; exact h
  | op :: ops, fam, fam', h, hr => by
    obtain ⟨fam1, ha, hr⟩ := Option.bind_eq_some_iff.mp hr
    exact runOps_clean hf ops (applyOp_clean hf h op ha) hr

end Juniper.Proofs.TreeSlotsOps
