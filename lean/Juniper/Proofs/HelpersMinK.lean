import Juniper.Proofs.HelpersBasic
import Juniper.Model.HelpersSort
namespace Juniper.Proofs.Helpers
open Juniper.Model.Helpers Juniper.Spec.Helpers Juniper.Gen.Helpers
variable {α : Type}

theorem popFirstMin_none_iff {ε : Type} (lt : ε → ε → Bool) (l : List ε) :
    popFirstMin lt l = none ↔ l = [] := by
  cases l with
  | nil => simp [popFirstMin]
  | cons x xs =>
    simp only [popFirstMin]
    cases h : popFirstMin lt xs with
    | none => simp
    | some p =>
      obtain ⟨m, rest⟩ := p
      simp only
      split <;> simp

theorem popFirstMin_perm_min {ε : Type} (lt : ε → ε → Bool) :
    ∀ (l : List ε) (m : ε) (r : List ε), popFirstMin lt l = some (m, r) →
      l.Perm (m :: r) ∧ (StrictWeak lt → ∀ y ∈ r, lt y m = false) := by
  intro l
  induction l with
  | nil => intro m r h; simp [popFirstMin] at h
  | cons x xs ih =>
    intro m r h
    simp only [popFirstMin] at h
    cases hx : popFirstMin lt xs with
    | none =>
      rw [hx] at h
      simp only [Option.some.injEq, Prod.mk.injEq] at h
      obtain ⟨rfl, rfl⟩ := h
      have : xs = [] := (popFirstMin_none_iff lt xs).mp hx
      subst this
      exact ⟨List.Perm.refl _, fun _ y hy => by cases hy⟩
    | some p =>
      obtain ⟨m', rest'⟩ := p
      rw [hx] at h
      simp only at h
      obtain ⟨hperm, hmin⟩ := ih m' rest' hx
      by_cases hlt : lt m' x = true
      · simp only [hlt, if_true, Option.some.injEq, Prod.mk.injEq] at h
        obtain ⟨rfl, rfl⟩ := h
        refine ⟨(List.Perm.cons x hperm).trans (List.Perm.swap _ _ _), fun hw y hy => ?_⟩
        rcases List.mem_cons.mp hy with rfl | hy
        · exact sw_asymm hw hlt
        · exact hmin hw y hy
      · simp only [hlt] at h
        obtain ⟨rfl, rfl⟩ := h
        refine ⟨List.Perm.refl _, fun hw y hy => ?_⟩
        have hlt' : lt m' x = false := by simpa using hlt
        rcases List.mem_cons.mp (hperm.mem_iff.mp hy) with rfl | hy'
        · exact hlt'
        · exact hw.negTrans _ _ _ (hmin hw y hy') hlt'

/-- pops until the heap is empty: what the output loop of `MinK` writes, in the order it pops -/
def drain (lt : α → α → Bool) (pop : (α → α → Bool) → List α → Option (α × List α)) : Nat → List α → List α
  | 0, _ => []
  | fuel + 1, h =>
    match pop lt h with
    | none => []
    | some (m, h') => m :: drain lt pop fuel h'

theorem drain_spec (lt : α → α → Bool) (pop : (α → α → Bool) → List α → Option (α × List α))
    (hp : PopSpec pop) (hw : StrictWeak lt) :
    ∀ (fuel : Nat) (h : List α), h.length ≤ fuel →
      (drain lt pop fuel h).Perm h ∧ (drain lt pop fuel h).Pairwise (fun a b => lt b a = false) := by
  intro fuel
  induction fuel with
  | zero =>
    intro h hl
    have : h = [] := List.length_eq_zero_iff.mp (by omega)
    subst this
    simp [drain]
  | succ fuel ih =>
    intro h hl
    simp only [drain]
    cases hpop : pop lt h with
    | none =>
      have : h = [] := (hp.none_iff lt h).mp hpop
      subst this
      simp
    | some p =>
      obtain ⟨m, h'⟩ := p
      simp only
      have hperm := hp.perm lt h m h' hpop
      have hlen : h'.length ≤ fuel := by have := pop_length hp hpop; omega
      obtain ⟨ih1, ih2⟩ := ih h' hlen
      refine ⟨(List.Perm.cons m ih1).trans hperm.symm, ?_⟩
      rw [List.pairwise_cons]
      refine ⟨?_, ih2⟩
      intro b hb
      exact hp.min lt hw h m h' hpop b (ih1.mem_iff.mp hb)

/-- invariant of the push/pop loop with the ghost list `dropped` of popped elements -/
theorem minKLoop_spec (less : α → α → Bool) (pop : (α → α → Bool) → List α → Option (α × List α))
    (hp : PopSpec pop) (hw : StrictWeak less) (k : Int) :
    ∀ (xs h dropped : List α), h.length ≤ k.toNat → (dropped = [] ∨ k ≤ (h.length : Int)) →
      (∀ a ∈ h, ∀ b ∈ dropped, less b a = false) →
      ∃ dropped', (xs ++ (h ++ dropped)).Perm (minKLoop less pop k xs h ++ dropped') ∧
        (minKLoop less pop k xs h).length = min k.toNat (h.length + xs.length) ∧
        ∀ a ∈ minKLoop less pop k xs h, ∀ b ∈ dropped', less b a = false := by
  intro xs
  induction xs with
  | nil =>
    intro h dropped hl hfull hd
    refine ⟨dropped, ?_, ?_, ?_⟩
    · simp [minKLoop]
    · simp only [minKLoop, List.length_nil, Nat.add_zero]; omega
    · simpa [minKLoop] using hd
  | cons x xs ih =>
    intro h dropped hl hfull hd
    simp only [minKLoop, minKPop, minKPops, minKReversed, Bool.and_true, if_true,
      decide_eq_true_eq, List.length_cons]
    by_cases hk : ((h.length + 1 : Nat) : Int) > k
    · simp only [hk, if_true]
      cases hpop : pop (fun a b => less b a) (x :: h) with
      | none =>
        have := (hp.none_iff _ _).mp hpop
        cases this
      | some p =>
        obtain ⟨m, h'⟩ := p
        simp only
        have hperm := hp.perm _ _ m h' hpop
        have hmin := hp.min _ (strictWeak_rev hw) _ m h' hpop
        have hlen : h'.length = h.length := (Nat.add_right_cancel (pop_length hp hpop)).symm
        have hd' : ∀ a ∈ h', ∀ b ∈ m :: dropped, less b a = false := by
          intro a ha b hb
          rcases List.mem_cons.mp hb with rfl | hb
          · exact hmin a ha
          · have hm : m ∈ x :: h := hperm.mem_iff.mpr (List.mem_cons_self)
            rcases List.mem_cons.mp hm with rfl | hm
            · have : h.Perm h' := List.Perm.cons_inv hperm
              exact hd a (this.mem_iff.mpr ha) b hb
            · exact hw.negTrans _ _ _ (hd m hm b hb) (hmin a ha)
        obtain ⟨dropped', h1, h2, h3⟩ := ih h' (m :: dropped) (by omega) (Or.inr (by omega)) hd'
        refine ⟨dropped', ?_, ?_, h3⟩
        · exact (List.perm_middle.symm.trans (List.Perm.append_left xs
            ((hperm.append_right dropped).trans List.perm_middle.symm))).trans h1
        · have hkh : k.toNat ≤ h.length := by omega
          have hle : ∀ m, k.toNat ≤ h.length + m := fun m => Nat.le_trans hkh (Nat.le_add_right _ _)
          rw [h2, hlen, Nat.min_eq_left (hle _), Nat.min_eq_left (hle _)]
    · simp only [hk, if_false]
      obtain rfl : dropped = [] := hfull.resolve_right (by omega)
      obtain ⟨dropped', h1, h2, h3⟩ := ih (x :: h) [] (by simp only [List.length_cons]; omega)
        (Or.inl rfl) (by intro a _ b hb; cases hb)
      refine ⟨dropped', ?_, ?_, h3⟩
      · exact List.perm_middle.symm.trans h1
      · rw [h2]; simp only [List.length_cons]; omega

/-- the output loop started at `len(h) - 1` pops the whole heap and writes it back to front -/
theorem minKFill_spec (cond : Int → Bool) (hcond : ∀ i, cond i = decide (i ≥ 0))
    (lt : α → α → Bool) (pop : (α → α → Bool) → List α → Option (α × List α)) (hp : PopSpec pop) :
    ∀ (t fuel : Nat) (h out : List α), h.length = t → t ≤ out.length → t < fuel →
      minKFill cond lt pop fuel ((t : Int) - 1) h out = some ((drain lt pop t h).reverse ++ out.drop t) := by
  intro t
  induction t with
  | zero =>
    intro fuel h out _ _ hf
    obtain ⟨f, rfl⟩ : ∃ f, fuel = f + 1 := ⟨fuel - 1, by omega⟩
    simp [minKFill, hcond, drain]
  | succ t ih =>
    intro fuel h out hl ho hf
    obtain ⟨f, rfl⟩ : ∃ f, fuel = f + 1 := ⟨fuel - 1, by omega⟩
    have hc : cond (((t + 1 : Nat) : Int) - 1) = true := by
      simp only [hcond, decide_eq_true_eq]; omega
    simp only [minKFill, hc, if_true, drain]
    cases hpop : pop lt h with
    | none =>
      have := (hp.none_iff lt h).mp hpop
      subst this
      simp at hl
    | some p =>
      obtain ⟨m, h'⟩ := p
      have hlen : h'.length = t := by have := pop_length hp hpop; omega
      have hi : ((t + 1 : Nat) : Int) - 1 = (t : Int) := by omega
      simp only [hi, setI_nat out t m (by omega)]
      rw [ih f h' (out.set t m) hlen (by simp only [List.length_set]; omega) (by omega)]
      congr 1
      rw [List.reverse_cons, List.append_assoc]
      congr 1
      rw [List.drop_eq_getElem_cons (show t < (out.set t m).length by simp only [List.length_set]; omega),
        List.getElem_set_self, List.drop_set_of_lt (by omega)]
      rfl

theorem minK_spec (zero : α) (less : α → α → Bool) (pop : (α → α → Bool) → List α → Option (α × List α))
    (hp : PopSpec pop) (hw : StrictWeak less) (xs : List α) (k : Int) (hk64 : k ≤ 9223372036854775807) :
    ∃ out, minK zero less pop xs k = some out ∧
    out.length = min k.toNat xs.length ∧ SortedBy less out ∧
    ∃ rest, xs.Perm (out ++ rest) ∧ ∀ a ∈ out, ∀ b ∈ rest, less b a = false := by
  obtain ⟨rest, h1, h2, h3⟩ := minKLoop_spec less pop hp hw k xs [] [] (by simp) (Or.inl rfl)
    (by intro a ha; cases ha)
  have hrev : (fun a b => if minKReversed = true then less b a else less a b) = fun a b => less b a := by
    simp [minKReversed]
  obtain ⟨d1, d2⟩ := drain_spec (fun a b => less b a) pop hp (strictWeak_rev hw)
    (minKLoop less pop k xs []).length (minKLoop less pop k xs []) (Nat.le_refl _)
  -- `make([]T, h.Len())`, `i := len(out) - 1` (exact: `h.Len() ≤ k ≤ MaxInt64`)
  have hlen64 : ((minKLoop less pop k xs []).length : Int) ≤ 9223372036854775807 := by
    rw [h2]; omega
  have hfrom : minKFillFrom ((minKLoop less pop k xs []).length : Int) = ((minKLoop less pop k xs []).length : Int) - 1 := by
    unfold minKFillFrom; exact wrap64_of_range (by omega) (by omega)
  have hmk : minK zero less pop xs k =
      some (drain (fun a b => less b a) pop (minKLoop less pop k xs []).length (minKLoop less pop k xs [])).reverse := by
    simp only [minK, hrev, minKOutLen, hfrom, Int.toNat_natCast]
    rw [if_neg (by omega), minKFill_spec minKFillCond (fun _ => rfl) _ pop hp _ _ _ _ rfl (by simp) (by omega)]
    simp
  refine ⟨_, hmk, ?_⟩
  have hpm : (drain (fun a b => less b a) pop (minKLoop less pop k xs []).length (minKLoop less pop k xs [])).reverse.Perm
      (minKLoop less pop k xs []) := (List.reverse_perm _).trans d1
  refine ⟨?_, ?_, rest, ?_, ?_⟩
  · rw [hpm.length_eq, h2]; simp
  · unfold SortedBy
    rw [List.pairwise_reverse]
    exact d2
  · have : xs.Perm (minKLoop less pop k xs [] ++ rest) := by simpa using h1
    exact this.trans (List.Perm.append_right rest hpm.symm)
  · intro a ha b hb
    exact h3 a (hpm.mem_iff.mp ha) b hb

end Juniper.Proofs.Helpers
