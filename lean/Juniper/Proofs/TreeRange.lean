import Juniper.Proofs.TreeSeek
import Juniper.Proofs.TreeWhile
/-!
# `Range` / `RangeReverse` on an unchanging tree yield exactly the entries inside the bounds, in their direction (C01)

`mkIter_spec` reads the two generated `switch` tables of either constructor: the iterator is parked on
`startOf` (the entries from the near bound on, in iteration order) and carries the far-bound predicate `stopOf`;
the bounds as predicates and their list facts are in `TreeListIter`.
-/
namespace Juniper.Proofs.Tree
open Juniper.Model.BTree Juniper.Gen.Tree

variable {K V : Type} {cmp : K → K → Int}

/-- what an iterator yields for entry `e`: the key and the value read from the node -/
def outOf (e : K × V) : K × Option V := (e.1, some e.2)

theorem pickSide_lower (lo hi : Bound K) : pickSide Side.lower lo hi = lo := rfl
theorem pickSide_upper (lo hi : Bound K) : pickSide Side.upper lo hi = hi := rfl

/-- the key a seek of `Range`/`RangeReverse` is called with -/
def argKey (arg : Option Side) (lo hi : Bound K) : K :=
  match arg with
  | some s => (pickSide s lo hi).key
  | none => lo.key

theorem doSeek_gen_le (cmp : K → K → Int) (t : Tree K V) (sk : SeekKind) (key : K) :
    (doSeek cmp t sk key).gen ≤ t.gen := by
  have h1 : seekFirstSetsGen = true := by decide
  have h2 : seekLastSetsGen = true := by decide
  cases sk with
  | first => simp only [doSeek, seekFirst, h1, if_true]; split <;> simp
  | last => simp only [doSeek, seekLast, h2, if_true]; split <;> simp
  | ge | gt | le | lt => exact seekWith_gen_le _ _ cmp t _ key (Nat.zero_le _)

theorem mkIter_none_of_zero (cmp : K → K → Int) (t : Tree K V) (tbl1 : Side × List (BoundKind × SeekKind × Option Side))
    (tbl2 : Side × List (BoundKind × StopKind)) (h12 : tbl1.1 ≠ tbl2.1) (lo hi : Bound K)
    (hz : lo.kind = none ∨ hi.kind = none) : mkIter cmp t tbl1 tbl2 lo hi = none := by
  -- the seek table looks at the bound of one side, the stop table at that of the other
  have hside : (pickSide tbl1.1 lo hi).kind = none ∨ (pickSide tbl2.1 lo hi).kind = none := by
    obtain ⟨s1, _⟩ := tbl1
    obtain ⟨s2, _⟩ := tbl2
    cases s1 <;> cases s2
    · exact absurd rfl h12
    · exact hz
    · exact hz.symm
    · exact absurd rfl h12
  unfold mkIter
  rcases hside with h | h
  · rw [h]
  · split
    · rfl
    · split
      · rfl
      · simp only [h]

theorem mkIter_eq (cmp : K → K → Int) (t : Tree K V) (seekTbl : Side × List (BoundKind × SeekKind × Option Side))
    (stopTbl : Side × List (BoundKind × StopKind)) (lo hi : Bound K) {bk bk2 : BoundKind} {sk : SeekKind}
    {arg : Option Side} {sk2 : StopKind} (h1 : (pickSide seekTbl.1 lo hi).kind = some bk)
    (h2 : seekTbl.2.find? (fun r => r.1 == bk) = some (bk, sk, arg))
    (h3 : (pickSide stopTbl.1 lo hi).kind = some bk2) (h4 : stopTbl.2.find? (fun r => r.1 == bk2) = some (bk2, sk2)) :
    mkIter cmp t seekTbl stopTbl lo hi = some (match sk2 with
      | .all fwd => ⟨doSeek cmp t sk (argKey arg lo hi), fwd, none, !iterCtorsFresh⟩
      | .while fwd op s => ⟨doSeek cmp t sk (argKey arg lo hi), fwd, some (op, (pickSide s lo hi).key), !iterCtorsFresh⟩) := by
  unfold mkIter
  simp only [h1, h2, h3, h4]
  cases sk2 <;> cases arg <;> rfl

/-- the row of the first switch (on the near bound's kind): a seek in direction `fwd`, with the near bound's key, that steps
over exactly the keys outside the near bound -/
theorem seek_row (hc : StrictWeak cmp) (fwd : Bool) (lo hi' : Bound K) (bk : BoundKind)
    (hbk : (if fwd then lo else hi').kind = some bk) :
    ∃ sk arg, (if fwd then rangeSeek else rrangeSeek).2.find? (fun r => r.1 == bk) = some (bk, sk, arg) ∧
      TreeAccess.skFwd sk = fwd ∧ ∀ x, TreeAccess.nearOf cmp sk (argKey arg lo hi') x = nearFn cmp fwd lo hi' x := by
  cases fwd with
  | true =>
    cases bk with
    | incl => exact ⟨.ge, some .lower, by decide, rfl, nearOf_eq hc .ge lo hbk⟩
    | excl => exact ⟨.gt, some .lower, by decide, rfl, nearOf_eq hc .gt lo hbk⟩
    | unb => exact ⟨.first, none, by decide, rfl, nearOf_eq hc .first lo hbk⟩
  | false =>
    cases bk with
    | incl => exact ⟨.le, some .upper, by decide, rfl, nearOf_eq hc .le hi' hbk⟩
    | excl => exact ⟨.lt, some .upper, by decide, rfl, nearOf_eq hc .lt hi' hbk⟩
    | unb => exact ⟨.last, none, by decide, rfl, nearOf_eq hc .last hi' hbk⟩

theorem near_seek (hc : StrictWeak cmp) {t : Tree K V} (hi : Inv cmp t) (fwd : Bool) (lo hi' : Bound K) (bk : BoundKind)
    (hbk : (if fwd then lo else hi').kind = some bk) :
    ∃ sk arg, (if fwd then rangeSeek else rrangeSeek).2.find? (fun r => r.1 == bk) = some (bk, sk, arg) ∧
      Run fwd t (doSeek cmp t sk (argKey arg lo hi')) (startOf cmp (toList t.root) fwd lo hi') := by
  obtain ⟨sk, arg, hrow, rfl, hq⟩ := seek_row hc _ lo hi' bk hbk
  refine ⟨sk, arg, hrow, ?_⟩
  have := doSeek_run hc hi sk (argKey arg lo hi')
  rwa [startOf_eq, ← funext fun y : K × V => congrArg not (hq y.1)]

/-- the second switch (on the far bound's kind) picks the direction and installs the far-bound predicate -/
theorem far_stop (fwd : Bool) (lo hi' : Bound K) (bk : BoundKind) (hbk : (if fwd then hi' else lo).kind = some bk) :
    ∃ sk2, (if fwd then rangeStop else rrangeStop).2.find? (fun r => r.1 == bk) = some (bk, sk2) ∧
      match sk2 with
      | .all f => f = fwd ∧ stopOf fwd lo hi' = none
      | .while f op s => f = fwd ∧ stopOf fwd lo hi' = some (op, (pickSide s lo hi').key) := by
  cases fwd with
  | true =>
    have hhi : hi'.kind = some bk := hbk
    cases bk with
    | incl => exact ⟨.while true .le .upper, by decide, rfl, by simp [stopOf, hhi, pickSide_upper]⟩
    | excl => exact ⟨.while true .lt .upper, by decide, rfl, by simp [stopOf, hhi, pickSide_upper]⟩
    | unb => exact ⟨.all true, by decide, rfl, by simp [stopOf, hhi]⟩
  | false =>
    have hlo : lo.kind = some bk := hbk
    cases bk with
    | incl => exact ⟨.while false .ge .lower, by decide, rfl, by simp [stopOf, hlo, pickSide_lower]⟩
    | excl => exact ⟨.while false .gt .lower, by decide, rfl, by simp [stopOf, hlo, pickSide_lower]⟩
    | unb => exact ⟨.all false, by decide, rfl, by simp [stopOf, hlo]⟩

theorem mkIter_spec (hc : StrictWeak cmp) {t : Tree K V} (hi : Inv cmp t) (fwd : Bool) (lo hi' : Bound K)
    (hlk : lo.kind ≠ none) (hhk : hi'.kind ≠ none) :
    ∃ c, (if fwd then range cmp t lo hi' else rangeReverse cmp t lo hi') =
        some ⟨c, fwd, stopOf fwd lo hi', !iterCtorsFresh⟩ ∧
      Run fwd t c (startOf cmp (toList t.root) fwd lo hi') ∧ c.gen ≤ t.gen := by
  obtain ⟨lk, hlk'⟩ := Option.ne_none_iff_exists'.mp hlk
  obtain ⟨hk, hhk'⟩ := Option.ne_none_iff_exists'.mp hhk
  have hmk : (if fwd then range cmp t lo hi' else rangeReverse cmp t lo hi') =
      mkIter cmp t (if fwd then rangeSeek else rrangeSeek) (if fwd then rangeStop else rrangeStop) lo hi' := by
    cases fwd <;> rfl
  have hnear : (pickSide (if fwd then rangeSeek else rrangeSeek).1 lo hi').kind = some (if fwd then lk else hk) := by
    cases fwd <;> assumption
  have hfar : (pickSide (if fwd then rangeStop else rrangeStop).1 lo hi').kind = some (if fwd then hk else lk) := by
    cases fwd <;> assumption
  obtain ⟨sk, arg, hfind, hrun⟩ := near_seek hc hi fwd lo hi' (if fwd then lk else hk) (by cases fwd <;> assumption)
  obtain ⟨sk2, hsf, hsk2⟩ := far_stop fwd lo hi' (if fwd then hk else lk) (by cases fwd <;> assumption)
  refine ⟨_, ?_, hrun, doSeek_gen_le cmp t sk _⟩
  rw [hmk, mkIter_eq cmp t _ _ lo hi' hnear hfind hfar hsf]
  cases sk2 with
  | all f => obtain ⟨rfl, hso⟩ := hsk2; rw [hso]
  | «while» f op s => obtain ⟨rfl, hso⟩ := hsk2; rw [hso]

/-- one `forwardIterator.Next` / `backwardIterator.Next` (no predicate) on an unchanging tree -/
theorem rawNext_run {t : Tree K V} (hi : Inv cmp t) {fwd : Bool} {c : Cursor K} {S : List (K × V)} (hr : Run fwd t c S) :
    match S with
    | [] => rawNext cmp t fwd c = (c, none)
    | e :: S' => ∃ c', rawNext cmp t fwd c = (c', some (e.1, some e.2)) ∧ Run fwd t c' S' := by
  obtain ⟨⟨rfl, hp⟩ | ⟨p, y, up, e, hp, ha, hk, rfl⟩, hg⟩ := hr
  · simp [rawNext, hp]
  · have hg' : c.gen = t.gen := hg (by simp [hp])
    have hl := lostAt_of_gen_eq cmp t c hg'
    refine ⟨_, ?_, move_parked hi ha c fwd, fun _ => hg'⟩
    rw [rawNext_eq]
    simp [iterReseek, hp, hl, (move_of_not_lost hp hl fwd).1, valueAt_of_at hi ha, hk]

theorem drain_run {t : Tree K V} (hi : Inv cmp t) (fwd : Bool) (stop : Option (CmpOp × K)) {S : List (K × V)}
    {c : Cursor K} (hr : Run fwd t c S) {fuel : Nat} (hl : S.length < fuel) :
    drain cmp t fuel ⟨c, fwd, stop, !iterCtorsFresh⟩ = (S.takeWhile fun e => keepFn cmp stop e.1).map outOf := by
  rw [← drain_eq_while cmp t fuel (iterEq_fresh c fwd stop)]
  induction S generalizing fuel c with
  | nil =>
    cases fuel with
    | zero => simp at hl
    | succ fuel =>
      have := rawNext_run hi hr
      simp only at this
      cases stop with
      | none => simp [drainW, iterNextW, this]
      | some s => obtain ⟨op, key⟩ := s; simp [drainW, iterNextW, this, whileChecksDone]
  | cons e S ih =>
    cases fuel with
    | zero => simp at hl
    | succ fuel =>
      obtain ⟨c', hr', hf'⟩ := rawNext_run hi hr
      have ih' := ih hf' (fuel := fuel) (by simpa using hl)
      cases stop with
      | none => simp [drainW, iterNextW, hr', keepFn, outOf, ih']
      | some s =>
        obtain ⟨op, key⟩ := s
        cases hk : evalOp op (cmp e.1 key) <;>
          simp [drainW, iterNextW, whileChecksDone, whileStops, hr', hk, keepFn, outOf, ih']

theorem mkIter_refines (hc : StrictWeak cmp) {t : Tree K V} (hi : Inv cmp t) (fwd : Bool) (lo hi' : Bound K)
    (hlk : lo.kind ≠ none) (hhk : hi'.kind ≠ none) :
    ∃ it, (if fwd then range cmp t lo hi' else rangeReverse cmp t lo hi') = some it ∧
      ∀ fuel, (toList t.root).length < fuel →
        drain cmp t fuel it = (dlist (srange cmp lo hi' (toList t.root)) fwd).map outOf := by
  obtain ⟨c, hmk, hrun, _⟩ := mkIter_spec hc hi fwd lo hi' hlk hhk
  refine ⟨_, hmk, fun fuel hf => ?_⟩
  have hlen : (startOf cmp (toList t.root) fwd lo hi').length < fuel := by
    have := (List.dropWhile_sublist (fun y : K × V => !nearFn cmp fwd lo hi' y.1) (l := dlist (toList t.root) fwd)).length_le
    rw [← startOf_eq] at this
    have : (dlist (toList t.root) fwd).length = (toList t.root).length := by cases fwd <;> simp [dlist]
    omega
  rw [drain_run hi fwd _ hrun hlen, srange_dlist hc hi.wf.sorted]

theorem range_refines_fwd (hc : StrictWeak cmp) {t : Tree K V} (hi : Inv cmp t) (lo hi' : Bound K)
    (hlk : lo.kind ≠ none) (hhk : hi'.kind ≠ none) :
    ∃ it, range cmp t lo hi' = some it ∧ ∀ fuel, (toList t.root).length < fuel →
      drain cmp t fuel it = (srange cmp lo hi' (toList t.root)).map outOf :=
  mkIter_refines hc hi true lo hi' hlk hhk

def srangeRev (cmp : K → K → Int) (lo hi : Bound K) (L : List (K × V)) : List (K × V) :=
  (srange cmp lo hi L).reverse

theorem rangeRev_refines (hc : StrictWeak cmp) {t : Tree K V} (hi : Inv cmp t) (lo hi' : Bound K)
    (hlk : lo.kind ≠ none) (hhk : hi'.kind ≠ none) :
    ∃ it, rangeReverse cmp t lo hi' = some it ∧ ∀ fuel, (toList t.root).length < fuel →
      drain cmp t fuel it = (srangeRev cmp lo hi' (toList t.root)).map outOf :=
  mkIter_refines hc hi false lo hi' hlk hhk

end Juniper.Proofs.Tree
