import Juniper.Proofs.StreamMergeLocal
/-! The consumer's `Close` and the WaitGroup count of `stream.Merge`: the stages of `Close`, and `wg` as the number of
goroutines that have not called `wg.Done()`; with the sums over the goroutines (`sumBy`) that this and the later counts use. -/
namespace Juniper.Proofs.StreamMerge
open Juniper.Model.StreamMerge
variable {V : Type}

def sumBy {α : Type} (f : α → Nat) (l : List α) : Nat := (l.map f).sum

theorem sumBy_set {α : Type} (f : α → Nat) (l : List α) (i : Nat) (x y : α) (h : l[i]? = some y) :
    sumBy f (l.set i x) + f y = sumBy f l + f x := ListStore.sum_map_set f h

theorem sum_same {α : Type} (f : α → Nat) {l : List α} {i : Nat} {x y : α} (h : l[i]? = some y) (hf : f x = f y) :
    sumBy f (l.set i x) = sumBy f l := by
  have := sumBy_set f l i x y h
  omega

theorem sumBy_ge_mem {α : Type} (f : α → Nat) : ∀ (l : List α) (x : α), x ∈ l → f x ≤ sumBy f l
  | a :: l, x, h => by
    simp at h
    rcases h with rfl | h
    · simp [sumBy]
    · have := sumBy_ge_mem f l x h
      simp [sumBy] at this ⊢; omega

theorem sumBy_le {α : Type} (f : α → Nat) (c : Nat) : ∀ (l : List α), (∀ x ∈ l, f x ≤ c) → sumBy f l ≤ c * l.length :=
  ListStore.sum_le rfl fun _ _ => rfl

theorem sumBy_const {α : Type} (f : α → Nat) (c : Nat) : ∀ (l : List α), (∀ x ∈ l, f x = c) → sumBy f l = c * l.length
  | [], _ => by simp [sumBy]
  | a :: l, h => by
    have h1 := h a (by simp)
    have h2 := sumBy_const f c l (fun x hx => h x (by simp [hx]))
    simp only [sumBy, List.map_cons, List.sum_cons, List.length_cons] at *
    rw [Nat.mul_succ]; omega

theorem sumBy_replicate {α : Type} (f : α → Nat) (n : Nat) (a : α) : sumBy f (List.replicate n a) = n * f a := by
  simp [sumBy]

theorem sumBy_eq_zero {α : Type} (f : α → Nat) (l : List α) (h : ∀ x, x ∈ l → f x = 0) : sumBy f l = 0 := by
  simpa using sumBy_const f 0 l h

theorem sumBy_zero {α : Type} (f : α → Nat) (l : List α) (h : sumBy f l = 0) : ∀ x, x ∈ l → f x = 0 := by
  intro x hx
  have := sumBy_ge_mem f l x hx
  omega

theorem sumBy_pos {α : Type} (f : α → Nat) (l : List α) (h : 0 < sumBy f l) : ∃ x, x ∈ l ∧ 0 < f x :=
  Classical.byContradiction fun hn => by
    have := sumBy_eq_zero f l fun x hx => Nat.eq_zero_of_not_pos fun h0 => hn ⟨x, hx, h0⟩
    omega

theorem sumBy_full {α : Type} (f : α → Nat) (l : List α) (h : ∀ x, x ∈ l → f x ≤ 1) (hs : sumBy f l = l.length) :
    ∀ x, x ∈ l → f x = 1 := by
  induction l with
  | nil => intro x hx; cases hx
  | cons a l ih =>
    intro x hx
    have h1 := h a (by simp)
    have h2 := sumBy_le f 1 l (fun x hx => h x (by simp [hx]))
    have hs' : f a + sumBy f l = l.length + 1 := by simpa [sumBy] using hs
    simp at hx
    rcases hx with rfl | hx
    · omega
    · exact ih (fun x hx => h x (by simp [hx])) (by omega) x hx

/-- The goroutine has called `wg.Done()`. -/
def pastWg : GPc V → Bool
  | .exiting [] => true
  | .finished => true
  | _ => false

def wgInd (g : G V) : Nat := if pastWg g.pc then 0 else 1

/-- The stages of the consumer's `Close`; `wg` counts the goroutines that have not called `wg.Done()`. -/
structure CloseInv (s : St V) : Prop where
  stage : ∀ rest, s.cpc = .closing rest →
    rest = [.closeInner, .cancel, .wait] ∨ rest = [.cancel, .wait] ∨
    (rest = [.wait] ∧ s.cancelled = true) ∨ (rest = [] ∧ s.cancelled = true ∧ s.wg = 0)
  wg : s.wg = sumBy wgInd s.gs

theorem closeInv_init (k : Nat) : CloseInv (init V k) := by
  rw [init_eq]
  exact ⟨fun _ h => (nomatch h), by simp [sumBy_replicate, wgInd, pastWg]⟩

theorem gstep_wg {s sh : St V} {i : Nat} {g g' : G V} {l : Label V} (t : GStep s i g l g' sh) (hs : Shape g.pc) :
    wgInd g' ≤ wgInd g ∧ sh.wg = s.wg - (wgInd g - wgInd g') := by
  cases t with
  | checkFire rest hp _ | checkSkip d rest hp _ | closeIn rest hp | wgDone rest hp =>
    rw [hp] at hs
    obtain rfl := Shape.tail_exiting hs
    simp [wgInd, hp, pastWg]
  | sendOk v live hp _ => simp [wgInd, hp, pastWg, again]
  | item v hp | ended hp | err e hp | ctxErr hp _ | casWin e hp _ | casLose e hp _ | winCancel e rest hp
  | winClose e rest hp | winDone e hp | sendFail v hp _ | mark rest hp | fin hp => simp [wgInd, hp, pastWg]

theorem closeInv_step {k : Nat} {s s' : St V} {l : Label V} (ha : LocalInv k s) (hi : CloseInv s)
    (h : step s l = some s') : CloseInv s' := by
  rcases step_cases h with ⟨i, g, g', sh, hg, t, rfl⟩ | c
  · have hcan := t.cancelled_mono
    obtain ⟨hle, hwg⟩ := gstep_wg t (ha.localOK g (List.mem_of_getElem? hg)).shape
    have hsum := sumBy_set wgInd s.gs i g' g hg
    have hw := hi.wg
    refine ⟨fun rest (hr : sh.cpc = .closing rest) => ?_, show sh.wg = sumBy wgInd (s.gs.set i g') by omega⟩
    rcases t.handoff with ⟨hcpc, _⟩ | ⟨_, _, _, _, _, h2, _⟩
    · rcases hi.stage rest (hcpc ▸ hr) with h | h | ⟨h, h2⟩ | ⟨h, h2, h3⟩
      · exact .inl h
      · exact .inr (.inl h)
      · exact .inr (.inr (.inl ⟨h, hcan h2⟩))
      · exact .inr (.inr (.inr ⟨h, hcan h2, show sh.wg = 0 by omega⟩))
    · rw [h2] at hr; cases hr
  · cases c with
    | call live hp | endd live hp _ | ctx hp | expire hp | close hp => exact ⟨by simp, hi.wg⟩
    | closeInner rest hp =>
      refine ⟨fun r hr => ?_, hi.wg⟩
      obtain rfl : rest = r := by simpa using hr
      rcases hi.stage _ hp with h | h | ⟨h, _⟩ | ⟨h, _⟩ <;> cases h
      exact .inr (.inl rfl)
    | closeCancel rest hp =>
      refine ⟨fun r hr => ?_, hi.wg⟩
      obtain rfl : rest = r := by simpa using hr
      rcases hi.stage _ hp with h | h | ⟨h, _⟩ | ⟨h, _⟩ <;> cases h
      exact .inr (.inr (.inl ⟨rfl, rfl⟩))
    | closeWait rest hp hw =>
      refine ⟨fun r hr => ?_, hi.wg⟩
      obtain rfl : rest = r := by simpa using hr
      rcases hi.stage _ hp with h | h | ⟨h, h2⟩ | ⟨h, _⟩ <;> cases h
      exact .inr (.inr (.inr ⟨rfl, h2, hw⟩))
    | ctxEnds _ _ =>
      refine ⟨fun r hr => ?_, hi.wg⟩
      rcases hi.stage r hr with h | h | ⟨h, _⟩ | ⟨h, _, h3⟩
      · exact .inl h
      · exact .inr (.inl h)
      · exact .inr (.inr (.inl ⟨h, rfl⟩))
      · exact .inr (.inr (.inr ⟨h, rfl, h3⟩))

theorem pastWg_closed (pc : GPc V) (h : pastWg pc = true) : closedStage pc = true := by
  unfold pastWg at h
  split at h <;> simp_all [closedStage]

end Juniper.Proofs.StreamMerge
