import Juniper.Model.HelpersSlices
import Juniper.Spec.Helpers
import Juniper.Proofs.Int64
/-! Shared by the helper proofs (C19): the slice primitives of the models (`getI`, `setI`, `swapI`, `slice`, `copyAt`,
`clearAt`) at natural-number indices, and the vocabulary of the specification (`StrictWeak`, `AdjAll`, `PopSpec`). -/
namespace Juniper.Proofs.Helpers
open Juniper.Model.Helpers

variable {α : Type}

theorem getI_nat (s : List α) (n : Nat) : getI s (n : Int) = s[n]? := by
  unfold getI
  have : ¬ ((n : Int) < 0) := by omega
  simp [this]

theorem getI_of_lt (s : List α) (n : Nat) (h : n < s.length) : getI s (n : Int) = some s[n] := by
  rw [getI_nat]; exact List.getElem?_eq_getElem h

theorem getI_neg (s : List α) (i : Int) (h : i < 0) : getI s i = none := by
  unfold getI; simp [h]

theorem getI_eq_some {s : List α} {i : Int} {x : α} (h : getI s i = some x) :
    ∃ n : Nat, i = n ∧ n < s.length ∧ s[n]? = some x := by
  unfold getI at h
  by_cases hi : i < 0
  · simp [hi] at h
  · simp [hi] at h
    refine ⟨i.toNat, by omega, ?_, h⟩
    exact (List.getElem?_eq_some_iff.mp h).1

theorem setI_nat (s : List α) (n : Nat) (v : α) (h : n < s.length) :
    setI s (n : Int) v = some (s.set n v) := by
  unfold setI
  have : ¬ ((n : Int) < 0) := by omega
  simp [this, h]

theorem setI_eq_some {s s' : List α} {i : Int} {v : α} (h : setI s i v = some s') :
    ∃ n : Nat, i = n ∧ n < s.length ∧ s' = s.set n v := by
  unfold setI at h
  by_cases hi : i < 0
  · simp [hi] at h
  · by_cases hl : i.toNat < s.length
    · simp [hi, hl] at h
      exact ⟨i.toNat, by omega, hl, h.symm⟩
    · simp [hi, hl] at h

def swapNat (s : List α) (i j : Nat) (hi : i < s.length) (hj : j < s.length) : List α :=
  (s.set i s[j]).set j s[i]

theorem swapI_nat (s : List α) (i j : Nat) (hi : i < s.length) (hj : j < s.length) :
    swapI s (i : Int) (j : Int) = some (swapNat s i j hi hj) := by
  unfold swapI swapNat
  rw [getI_of_lt s i hi, getI_of_lt s j hj]
  simp only
  rw [setI_nat s i _ hi]
  simp only
  rw [setI_nat _ j _ (by simp [hj])]

theorem length_swapNat (s : List α) (i j : Nat) (hi : i < s.length) (hj : j < s.length) :
    (swapNat s i j hi hj).length = s.length := by
  simp [swapNat]

theorem getElem?_swapNat (s : List α) (i j : Nat) (hi : i < s.length) (hj : j < s.length) (p : Nat) :
    (swapNat s i j hi hj)[p]? = if p = j then some s[i] else if p = i then some s[j] else s[p]? := by
  unfold swapNat
  rw [List.getElem?_set, List.getElem?_set]
  by_cases h1 : j = p
  · subst h1; simp [hj]
  · by_cases h2 : i = p
    · subst h2; simp [h1, hi, Ne.symm h1]
    · simp [h1, h2, Ne.symm h1, Ne.symm h2]

theorem swapNat_perm (s : List α) (i j : Nat) (hi : i < s.length) (hj : j < s.length) :
    (swapNat s i j hi hj).Perm s := by
  have h := Array.swap_perm (xs := s.toArray) (i := i) (j := j) (by simpa using hi) (by simpa using hj)
  have h2 : (s.toArray.swap i j (by simpa using hi) (by simpa using hj)).toList = swapNat s i j hi hj := by
    simp [swapNat, Array.swap]
  rw [← h2]
  exact Array.perm_iff_toList_perm.mp h |>.trans (by simp)

theorem swapI_eq_some {s s' : List α} {i j : Int} (h : swapI s i j = some s') :
    ∃ (a b : Nat) (ha : a < s.length) (hb : b < s.length), i = a ∧ j = b ∧ s' = swapNat s a b ha hb := by
  unfold swapI at h
  cases hgi : getI s i with
  | none => simp [hgi] at h
  | some x =>
    cases hgj : getI s j with
    | none => simp [hgi, hgj] at h
    | some y =>
      obtain ⟨a, rfl, ha, hxa⟩ := getI_eq_some hgi
      obtain ⟨b, rfl, hb, hyb⟩ := getI_eq_some hgj
      refine ⟨a, b, ha, hb, rfl, rfl, ?_⟩
      have := swapI_nat s a b ha hb
      unfold swapI at this
      rw [this] at h
      exact (Option.some.inj h).symm

theorem sliceOk_iff (lo hi len : Int) : sliceOk lo hi len = true ↔ 0 ≤ lo ∧ lo ≤ hi ∧ hi ≤ len := by
  simp [sliceOk, and_assoc]

theorem sliceOk_nat (lo hi len : Nat) : sliceOk (lo : Int) (hi : Int) (len : Int) = true ↔ lo ≤ hi ∧ hi ≤ len := by
  rw [sliceOk_iff]; omega

theorem slice_nat (s : List α) (lo hi : Nat) : slice s (lo : Int) (hi : Int) = (s.drop lo).take (hi - lo) := by
  unfold slice
  congr 1
  omega

theorem copyAt_nat (dst src : List α) (dlo dhi : Nat) :
    copyAt dst (dlo : Int) (dhi : Int) src =
      dst.take dlo ++ src.take (min (dhi - dlo) src.length) ++ dst.drop (dlo + min (dhi - dlo) src.length) := by
  unfold copyAt
  have e : ((dhi : Int) - (dlo : Int)).toNat = dhi - dlo := by omega
  simp only [e, Int.toNat_natCast]

theorem clearAt_nat (zero : α) (s : List α) (lo hi : Nat) :
    clearAt zero s (lo : Int) (hi : Int) = s.take lo ++ List.replicate (hi - lo) zero ++ s.drop hi := by
  unfold clearAt
  have e : ((hi : Int) - (lo : Int)).toNat = hi - lo := by omega
  simp only [e, Int.toNat_natCast]

theorem take_succ_set (l : List α) (w : Nat) (x : α) (h : w < l.length) :
    (l.set w x).take (w + 1) = l.take w ++ [x] := by
  rw [List.take_add_one, List.take_set_of_le (Nat.le_refl w), List.getElem?_set_self (by simpa using h)]
  rfl

theorem forall_mem_take_drop {P Q : α → Prop} (l : List α) (r : Nat)
    (h1 : ∀ p x, l[p]? = some x → p < r → P x) (h2 : ∀ p x, l[p]? = some x → r ≤ p → Q x) :
    (∀ x ∈ l.take r, P x) ∧ (∀ x ∈ l.drop r, Q x) := by
  constructor
  · intro x hx
    obtain ⟨p, hp⟩ := List.mem_iff_getElem?.mp hx
    rw [List.getElem?_take] at hp
    split at hp
    · exact h1 p x hp ‹_›
    · cases hp
  · intro x hx
    obtain ⟨p, hp⟩ := List.mem_iff_getElem?.mp hx
    rw [List.getElem?_drop] at hp
    exact h2 (r + p) x hp (Nat.le_add_right r p)

open Juniper.Spec.Helpers in
theorem sw_asymm {less : α → α → Bool} (hw : StrictWeak less) {a b : α} (h : less a b = true) :
    less b a = false := by
  cases hba : less b a with
  | false => rfl
  | true => have := hw.trans a b a h hba; rw [hw.irrefl a] at this; cases this

open Juniper.Spec.Helpers in
theorem adjAll_pairwise {β : Type} {R : β → β → Prop} (ht : ∀ a b c, R a b → R b c → R a c) {l : List β}
    (h : AdjAll R l) : l.Pairwise R := by
  rw [List.pairwise_iff_getElem]
  intro i j hi hj hij
  obtain ⟨d, rfl⟩ : ∃ d, j = i + 1 + d := ⟨j - i - 1, by omega⟩
  clear hij
  induction d with
  | zero => exact h i hj
  | succ d ih => exact ht _ _ _ (ih (by omega)) (h (i + 1 + d) hj)

open Juniper.Spec.Helpers in
theorem adjAll_all_pairs (same : α → α → Bool) (hr : ∀ a, same a a = true)
    (ht : ∀ a b c, same a b = true → same b c = true → same a c = true) (l : List α)
    (h : AdjAll (fun a b => same a b = true) l) :
    ∀ i j (hi : i < l.length) (hj : j < l.length), i ≤ j → same l[i] l[j] = true := by
  intro i j hi hj hij
  by_cases e : i = j
  · subst e; exact hr _
  · exact List.pairwise_iff_getElem.mp (adjAll_pairwise ht h) i j hi hj (by omega)

open Juniper.Spec.Helpers in
theorem adjAll_cons {β : Type} {R : β → β → Prop} {d : β} {t : List β} :
    AdjAll R (d :: t) ↔ (∀ h : 0 < t.length, R d t[0]) ∧ AdjAll R t :=
  ⟨fun h => ⟨fun h0 => h 0 (Nat.succ_lt_succ h0), fun i hi => h (i + 1) (Nat.succ_lt_succ hi)⟩,
    fun ⟨h0, h1⟩ i hi => by cases i with
      | zero => exact h0 (Nat.lt_of_succ_lt_succ hi)
      | succ i => exact h1 i (Nat.lt_of_succ_lt_succ hi)⟩

open Juniper.Spec.Helpers in
theorem adjAll_concat {β : Type} (R : β → β → Prop) (l : List β) (x : β) (h : AdjAll R l)
    (hl : ∀ y, l.getLast? = some y → R y x) : AdjAll R (l ++ [x]) := by
  intro i hi
  simp only [List.length_append, List.length_cons, List.length_nil] at hi
  by_cases h1 : i + 1 < l.length
  · rw [List.getElem_append_left (by omega), List.getElem_append_left h1]
    exact h i h1
  · have h2 : i + 1 = l.length := by omega
    rw [List.getElem_append_left (by omega), List.getElem_append_right (by omega)]
    have h3 : l.getLast? = some (l[i]'(by omega)) := by
      rw [List.getLast?_eq_getElem?]
      have : l.length - 1 = i := by omega
      rw [this]
      exact List.getElem?_eq_getElem (by omega)
    simpa [h2] using hl _ h3

open Juniper.Spec.Helpers in
theorem strictWeak_rev {less : α → α → Bool} (hw : StrictWeak less) : StrictWeak (fun a b => less b a) :=
  ⟨fun a => hw.irrefl a, fun a b c h1 h2 => hw.trans c b a h2 h1, fun a b c h1 h2 => hw.negTrans c b a h2 h1⟩

open Juniper.Spec.Helpers in
theorem pop_length {ε : Type} {pop : (ε → ε → Bool) → List ε → Option (ε × List ε)} (hp : PopSpec pop)
    {lt : ε → ε → Bool} {h h' : List ε} {m : ε} (hs : pop lt h = some (m, h')) : h.length = h'.length + 1 :=
  (hp.perm lt h m h' hs).length_eq

/-- Go's count of chunks, `(n-1)/m + 1` for `n > 0` (truncating `/`) and `0` for `n = 0`, is `⌈n/m⌉` -/
theorem chunk_count_eq (n m : Nat) (hm : 0 < m) :
    (if (0 : Int) < (n : Int) then Int.tdiv ((n : Int) - 1) (m : Int) + 1 else 0) = (((n + m - 1) / m : Nat) : Int) := by
  by_cases h0 : n = 0
  · subst h0
    rw [Nat.div_eq_of_lt (show 0 + m - 1 < m by omega)]; rfl
  · rw [if_pos (by omega), show (n : Int) - 1 = ((n - 1 : Nat) : Int) by omega, ← Int.ofNat_tdiv,
      show n + m - 1 = (n - 1) + m by omega, Nat.add_div_right _ hm]
    rfl

end Juniper.Proofs.Helpers
