import Juniper.Proofs.HelpersBasic
/-! `xslices.Chunk` (C19): panics exactly for a non-positive chunk size; otherwise the chunks
concatenate to the input, there are `ceil(len/size)` of them, all of size `size` except possibly the last. -/
namespace Juniper.Proofs.Helpers
open Juniper.Model.Helpers Juniper.Spec.Helpers Juniper.Gen.Helpers
variable {α : Type}

open Juniper.Facts in
/-- no intermediate value of `(len(s)-1)/chunkSize + 1` leaves the `int64` range -/
theorem chunkN_nat (n m : Nat) (hm : 0 < m) (hn : n ≤ 9223372036854775807) :
    chunkN (n : Int) (m : Int) = (((n + m - 1) / m : Nat) : Int) := by
  unfold chunkN chunkMake chunkNonEmpty chunkCountNonEmpty chunkCountEmpty
  rw [← chunk_count_eq n m hm]
  simp only [gt_iff_lt, decide_eq_true_eq]
  by_cases hpos : (0 : Int) < n
  · have hq : (n - 1) / m ≤ n - 1 := Nat.div_le_self _ _
    rw [if_pos hpos, if_pos hpos, show (n : Int) - 1 = ((n - 1 : Nat) : Int) by omega,
      wrap64_nat (n := n - 1) (by omega), ← Int.ofNat_tdiv, wrap64_nat (n := (n - 1) / m) (by omega)]
    have hq0 : 0 ≤ (((n - 1) / m : Nat) : Int) := Int.natCast_nonneg _
    exact wrap64_of_range (by omega) (by omega)
  · rw [if_neg hpos, if_neg hpos]

theorem chunk_idx_lt (n m i : Nat) (hm : 0 < m) (hi : i < (n + m - 1) / m) : i * m < n := by
  have h1 : i + 1 ≤ (n + m - 1) / m := hi
  rw [Nat.le_div_iff_mul_le hm] at h1
  have : (i + 1) * m = i * m + m := Nat.succ_mul i m
  omega

theorem chunk_count_ge (n m : Nat) (hm : 0 < m) : n ≤ ((n + m - 1) / m) * m := by
  have := Nat.lt_mul_div_succ (n + m - 1) hm
  have h2 : m * ((n + m - 1) / m + 1) = ((n + m - 1) / m) * m + m := by
    rw [Nat.mul_succ, Nat.mul_comm]
  omega

seal Juniper.Facts.wrap64
open Juniper.Facts in
/-- one iteration of `Chunk`'s loop, `i * chunkSize < len(s) ≤ MaxInt64`: `i * chunkSize`,
`len(s) - start` and `start + chunkSize` all stay inside `[0, len(s)]`, so the 64-bit arithmetic is exact -/
theorem chunkRange_nat (n m i : Nat) (hn : n ≤ 9223372036854775807) (hlt : i * m < n) :
    (chunkLo (chunkStart i m) (if chunkFull n (chunkStart i m) m then chunkEndFull (chunkStart i m) m else chunkEndLast n),
     chunkHi (chunkStart i m) (if chunkFull n (chunkStart i m) m then chunkEndFull (chunkStart i m) m else chunkEndLast n)) =
    (((i * m : Nat) : Int), ((min ((i + 1) * m) n : Nat) : Int)) := by
  have h2 : (i + 1) * m = i * m + m := Nat.succ_mul i m
  have h0 : chunkStart (i : Int) (m : Int) = ((i * m : Nat) : Int) :=
    wrap64_eq_nat (Int.natCast_mul i m).symm (by omega)
  rw [h0]
  simp only [chunkEndFull, chunkEndLast, chunkFull, chunkLo, chunkHi]
  have e1 : wrap64 ((n : Int) - ((i * m : Nat) : Int)) = ((n - i * m : Nat) : Int) :=
    wrap64_eq_nat (by omega) (by omega)
  simp only [e1]
  by_cases hfull : n - i * m > m
  · have hd : (((n - i * m : Nat) : Int) > (m : Int)) := by omega
    simp only [hd, decide_true, if_true]
    have e2 : wrap64 (((i * m : Nat) : Int) + (m : Int)) = (((i + 1) * m : Nat) : Int) :=
      wrap64_eq_nat (by omega) (by omega)
    simp only [e2]
    congr 2; omega
  · have hd : ¬ (((n - i * m : Nat) : Int) > (m : Int)) := by omega
    simp only [hd, decide_false, Bool.false_eq_true, if_false]
    congr 2; omega

theorem chunkRanges_nat (n m : Nat) (hm : 0 < m) (hn : n ≤ 9223372036854775807) :
    chunkRanges (n : Int) (m : Int) =
      (List.range ((n + m - 1) / m)).map
        (fun i => (((i * m : Nat) : Int), ((min ((i + 1) * m) n : Nat) : Int))) := by
  unfold chunkRanges
  rw [chunkN_nat n m hm hn]
  simp only [Int.toNat_natCast]
  apply List.map_congr_left
  intro i hi
  rw [List.mem_range] at hi
  exact chunkRange_nat n m i hn (chunk_idx_lt n m i hm hi)

theorem chunk_flatten_nat (s : List α) (m c : Nat) :
    (((List.range c).map
        (fun i => (((i * m : Nat) : Int), ((min ((i + 1) * m) s.length : Nat) : Int)))).map
      (fun r => slice s r.1 r.2)).flatten = s.take (c * m) := by
  induction c with
  | zero => simp
  | succ c ih =>
    rw [List.range_succ, List.map_append, List.map_append, List.flatten_append, ih]
    simp only [List.map_cons, List.map_nil, List.flatten_cons, List.flatten_nil, List.append_nil]
    -- `min (c*m + m) len - c*m = min m (len - c*m)`, and taking `len - c*m` of `s.drop (c*m)` takes all of it
    rw [slice_nat, Nat.succ_mul c m, List.take_add, ← Nat.sub_min_sub_right, Nat.add_sub_cancel_left,
      ← List.take_take, List.take_of_length_le (Nat.le_of_eq List.length_drop)]

theorem chunk_some_nat (n m : Nat) (hm : 0 < m) (hn : n ≤ 9223372036854775807) :
    chunk (n : Int) (m : Int) = some (chunkRanges (n : Int) (m : Int)) := by
  unfold chunk
  have hp : chunkPanics (m : Int) = false := by simp [chunkPanics]; omega
  have hc : ¬ (chunkN (n : Int) (m : Int) < 0) := by
    rw [chunkN_nat n m hm hn]; exact Int.not_lt.mpr (Int.natCast_nonneg _)
  have hall : (chunkRanges (n : Int) (m : Int)).all (fun r => sliceOk r.1 r.2 n) = true := by
    rw [chunkRanges_nat n m hm hn, List.all_eq_true]
    intro r hr
    rw [List.mem_map] at hr
    obtain ⟨i, hi, rfl⟩ := hr
    rw [List.mem_range] at hi
    have := chunk_idx_lt n m i hm hi
    have h2 : (i + 1) * m = i * m + m := Nat.succ_mul i m
    rw [sliceOk_iff]
    simp only
    omega
  have h0' : ¬ (m = 0) := by omega
  simp [hp, h0', hc, hall]

theorem chunk_panics_iff_nonpositive (len size : Int) (h : 0 ≤ len) (hl : len ≤ 9223372036854775807)
    (hs' : size ≤ 9223372036854775807) : chunk len size = none ↔ size ≤ 0 := by
  constructor
  · intro hn
    by_cases hs : size ≤ 0
    · exact hs
    · exfalso
      have h1 : len = ((len.toNat : Nat) : Int) := by omega
      have h2 : size = ((size.toNat : Nat) : Int) := by omega
      rw [h1, h2, chunk_some_nat _ _ (by omega) (by omega)] at hn
      simp at hn
  · intro hs
    unfold chunk
    simp [chunkPanics, chunkGuardPanics, hs]

theorem chunk_concat_sizes (s : List α) (size : Int) (h : 0 < size) (hs : size ≤ 9223372036854775807)
    (hl : s.length ≤ 9223372036854775807) :
    ∃ rs, chunk (s.length : Int) size = some rs ∧
      (rs.map (fun r => slice s r.1 r.2)).flatten = s ∧
      (rs.length : Int) = ((s.length : Int) + size - 1) / size ∧
      (∀ r ∈ rs, 0 ≤ r.1 ∧ 0 < r.2 - r.1 ∧ r.2 - r.1 ≤ size ∧ r.2 ≤ s.length) ∧
      (∀ r ∈ rs.dropLast, r.2 - r.1 = size) := by
  obtain ⟨m, rfl⟩ : ∃ m : Nat, size = (m : Int) := ⟨size.toNat, by omega⟩
  have hm : 0 < m := by omega
  refine ⟨_, chunk_some_nat s.length m hm hl, ?_⟩
  rw [chunkRanges_nat _ _ hm hl]
  refine ⟨?_, ?_, ?_, ?_⟩
  · rw [chunk_flatten_nat]
    exact List.take_of_length_le (chunk_count_ge _ _ hm)
  · simp only [List.length_map, List.length_range]
    have : ((s.length : Int) + (m : Int) - 1) = ((s.length + m - 1 : Nat) : Int) := by omega
    rw [this, Int.natCast_ediv]
  · intro r hr
    rw [List.mem_map] at hr
    obtain ⟨i, hi, rfl⟩ := hr
    rw [List.mem_range] at hi
    have := chunk_idx_lt s.length m i hm hi
    have h2 : (i + 1) * m = i * m + m := Nat.succ_mul i m
    simp only
    omega
  · intro r hr
    rw [← List.map_dropLast, List.mem_map] at hr
    obtain ⟨i, hi, rfl⟩ := hr
    rw [List.dropLast_eq_take, List.take_range, List.mem_range, List.length_range] at hi
    have h3 : (i + 1) * m < s.length := chunk_idx_lt s.length m (i + 1) hm (by omega)
    have h2 : (i + 1) * m = i * m + m := Nat.succ_mul i m
    simp only
    omega

end Juniper.Proofs.Helpers
