import Juniper.Proofs.HelpersBasic
/-! `xslices.Partition` (C19): the result is a permutation split at the returned index. -/
namespace Juniper.Proofs.Helpers
open Juniper.Model.Helpers Juniper.Spec.Helpers Juniper.Gen.Helpers

variable {α : Type}

def FalseBelow (f : α → Bool) (s : List α) (i : Int) : Prop :=
  ∀ (p : Nat) (x : α), s[p]? = some x → (p : Int) < i → f x = false

def TrueAbove (f : α → Bool) (s : List α) (j : Int) : Prop :=
  ∀ (p : Nat) (x : α), s[p]? = some x → j < (p : Int) → f x = true

theorem falseBelow_succ {f : α → Bool} {s : List α} {n : Nat} (h : FalseBelow f s n) (hn : n < s.length)
    (hfx : f s[n] = false) : FalseBelow f s ((n : Int) + 1) := by
  intro p x hp hlt
  by_cases hpn : p = n
  · subst hpn
    rw [List.getElem?_eq_getElem hn] at hp
    cases hp; exact hfx
  · exact h p x hp (by omega)

theorem trueAbove_pred {f : α → Bool} {s : List α} {n : Nat} (h : TrueAbove f s n) (hn : n < s.length)
    (hfx : f s[n] = true) : TrueAbove f s ((n : Int) - 1) := by
  intro p x hp hlt
  by_cases hpn : p = n
  · subst hpn
    rw [List.getElem?_eq_getElem hn] at hp
    cases hp; exact hfx
  · exact h p x hp (by omega)

theorem falseBelow_swap {f : α → Bool} {s : List α} {a b : Nat} (h : FalseBelow f s a) (ha : a < s.length)
    (hb : b < s.length) (hab : a < b) (hfy : f s[b] = false) :
    FalseBelow f (swapNat s a b ha hb) ((a : Int) + 1) := by
  intro p z hp hpl
  rw [getElem?_swapNat, if_neg (by omega)] at hp
  by_cases hpa : p = a
  · rw [if_pos hpa] at hp
    cases hp; exact hfy
  · rw [if_neg hpa] at hp
    exact h p z hp (by omega)

theorem trueAbove_swap {f : α → Bool} {s : List α} {a b : Nat} (h : TrueAbove f s b) (ha : a < s.length)
    (hb : b < s.length) (hab : a < b) (hfx : f s[a] = true) :
    TrueAbove f (swapNat s a b ha hb) ((b : Int) - 1) := by
  intro p z hp hpl
  rw [getElem?_swapNat] at hp
  by_cases hpb : p = b
  · rw [if_pos hpb] at hp
    cases hp; exact hfx
  · rw [if_neg hpb, if_neg (by omega)] at hp
    exact h p z hp (by omega)

theorem advI_spec (hinc : partIncI = 3) (hbr : partBreaks = 3) (f : α → Bool) (s : List α) (j : Int) (hj : j < s.length) :
    ∀ (fuel : Nat) (i : Int), 0 ≤ i → j - i ≤ (fuel : Int) → FalseBelow f s i →
      ∃ i', advI f s fuel i j = some i' ∧ i ≤ i' ∧ (i' ≤ j ∨ i' = i) ∧ FalseBelow f s i' ∧
        (i' < j → ∃ x, s[i'.toNat]? = some x ∧ f x = true) := by
  intro fuel
  induction fuel with
  | zero =>
    intro i hi hf hfb
    refine ⟨i, rfl, Int.le_refl _, Or.inr rfl, hfb, ?_⟩
    intro h; omega
  | succ fuel ih =>
    intro i hi hf hfb
    unfold advI
    simp only [partLoopI, partAdvI, hinc, hbr, decide_eq_true_eq]
    by_cases hij : i < j
    · rw [if_pos hij]
      obtain ⟨n, rfl⟩ := Int.eq_ofNat_of_zero_le hi
      have hn : n < s.length := by omega
      rw [getI_of_lt s n hn]
      simp only
      cases hfx : f s[n] with
      | false =>
        simp only [Bool.not_false, if_true]
        obtain ⟨i', h1, h2, h3, h4, h5⟩ := ih ((n : Int) + 1) (by omega) (by omega) (falseBelow_succ hfb hn hfx)
        exact ⟨i', h1, by omega, by omega, h4, h5⟩
      | true =>
        simp only [Bool.not_true, Bool.false_eq_true, if_false]
        refine ⟨(n : Int), rfl, Int.le_refl _, Or.inr rfl, hfb, ?_⟩
        intro _
        refine ⟨s[n], ?_, hfx⟩
        simp [List.getElem?_eq_getElem hn]
    · rw [if_neg hij]
      refine ⟨i, rfl, Int.le_refl _, Or.inr rfl, hfb, ?_⟩
      intro h; omega

theorem advJ_spec (hdec : partDecJ = 2) (hbr : partBreaks = 3) (f : α → Bool) (s : List α) (i : Int) (hi : 0 ≤ i) :
    ∀ (fuel : Nat) (j : Int), j < s.length → j - i ≤ (fuel : Int) → TrueAbove f s j →
      ∃ j', advJ f s fuel i j = some j' ∧ j' ≤ j ∧ (i ≤ j' ∨ j' = j) ∧ TrueAbove f s j' ∧
        (i < j' → ∃ x, s[j'.toNat]? = some x ∧ f x = false) := by
  intro fuel
  induction fuel with
  | zero =>
    intro j hj hf hta
    refine ⟨j, rfl, Int.le_refl _, Or.inr rfl, hta, ?_⟩
    intro h; omega
  | succ fuel ih =>
    intro j hj hf hta
    unfold advJ
    simp only [partLoopJ, partAdvJ, hdec, hbr, gt_iff_lt, decide_eq_true_eq]
    by_cases hij : i < j
    · rw [if_pos hij]
      obtain ⟨n, rfl⟩ := Int.eq_ofNat_of_zero_le (show 0 ≤ j by omega)
      have hn : n < s.length := by omega
      rw [getI_of_lt s n hn]
      simp only
      cases hfx : f s[n] with
      | true =>
        simp only [if_true]
        obtain ⟨j', h1, h2, h3, h4, h5⟩ := ih ((n : Int) - 1) (by omega) (by omega) (trueAbove_pred hta hn hfx)
        exact ⟨j', h1, by omega, by omega, h4, h5⟩
      | false =>
        simp only [Bool.false_eq_true, if_false]
        refine ⟨(n : Int), rfl, Int.le_refl _, Or.inr rfl, hta, ?_⟩
        intro _
        refine ⟨s[n], ?_, hfx⟩
        simp [List.getElem?_eq_getElem hn]
    · rw [if_neg hij]
      refine ⟨j, rfl, Int.le_refl _, Or.inr rfl, hta, ?_⟩
      intro h; omega

theorem partOuter_spec (hinc : partIncI = 3) (hdec : partDecJ = 2) (hsw : partSwaps = 1) (hbr : partBreaks = 3) (f : α → Bool) :
    ∀ (fuel : Nat) (s : List α) (i j : Int), 0 ≤ i → j < s.length → i ≤ j + 1 →
      j - i + 2 ≤ (fuel : Int) * 2 → FalseBelow f s i → TrueAbove f s j →
      ∃ s' i', partOuter f fuel s i j = some (s', i') ∧ s'.Perm s ∧ 0 ≤ i' ∧ i' ≤ s.length ∧
        FalseBelow f s' i' ∧ TrueAbove f s' i' := by
  intro fuel
  induction fuel with
  | zero => intro s i j hi hj hij hf; omega
  | succ fuel ih =>
    intro s i j hi hj hij hf hfb hta
    unfold partOuter
    obtain ⟨i', e1, a1, a2, a3, a4⟩ := advI_spec hinc hbr f s j hj s.length i hi (by omega) hfb
    rw [e1]
    simp only
    have hi' : 0 ≤ i' := Int.le_trans hi a1
    obtain ⟨j', e2, b1, b2, b3, b4⟩ := advJ_spec hdec hbr f s i' hi' s.length j hj (by omega) hta
    rw [e2]
    simp only [partDone, hbr, hsw, hinc, hdec, and_self, ge_iff_le, decide_eq_true_eq, if_true]
    by_cases hd : j' ≤ i'
    · rw [if_pos hd]
      refine ⟨s, i', rfl, List.Perm.refl _, hi', by omega, a3, ?_⟩
      intro p x hp hlt
      exact b3 p x hp (by omega)
    · rw [if_neg hd]
      have hlt : i' < j' := Int.lt_of_not_ge hd
      obtain ⟨x, hx, hfx⟩ := a4 (Int.lt_of_lt_of_le hlt b1)
      obtain ⟨y, hy, hfy⟩ := b4 hlt
      obtain ⟨a, rfl⟩ := Int.eq_ofNat_of_zero_le hi'
      obtain ⟨b, rfl⟩ := Int.eq_ofNat_of_zero_le (Int.le_trans hi' (Int.le_of_lt hlt))
      have ha : a < s.length := by omega
      have hb : b < s.length := by omega
      simp only [Int.toNat_natCast] at hx hy
      rw [List.getElem?_eq_getElem ha] at hx
      rw [List.getElem?_eq_getElem hb] at hy
      cases hx; cases hy
      rw [swapI_nat s a b ha hb]
      simp only
      have hlen := length_swapNat s a b ha hb
      have hab : a < b := by omega
      obtain ⟨s', r, e3, c1, c2, c3, c4, c5⟩ :=
        ih (swapNat s a b ha hb) ((a : Int) + 1) ((b : Int) - 1) (by omega) (by omega) (by omega)
          (by omega) (falseBelow_swap a3 ha hb hab hfy) (trueAbove_swap b3 ha hb hab hfx)
      exact ⟨s', r, e3, c1.trans (swapNat_perm s a b ha hb), c2, by omega, c4, c5⟩

theorem partition_perm_and_split (f : α → Bool) (s : List α) (hl64 : s.length ≤ 9223372036854775807) :
    ∃ (s' : List α) (r : Nat), partition f s = some (s', (r : Int)) ∧ s'.Perm s ∧ r ≤ s.length ∧
      (∀ x ∈ s'.take r, f x = false) ∧ (∀ x ∈ s'.drop r, f x = true) := by
  have hfb0 : FalseBelow f s 0 := by
    intro p x _ hlt; omega
  have hta0 : TrueAbove f s ((s.length : Int) - 1) := by
    intro p x hp hlt
    have := (List.getElem?_eq_some_iff.mp hp).1
    omega
  obtain ⟨s', i', e, hperm, h0, hle, hfb, hta⟩ :=
    -- the step statements of the loops: three `i++`, two `j--`, one swap, three `break`s
    partOuter_spec rfl rfl rfl rfl f (s.length + 1) s 0 ((s.length : Int) - 1) (by omega) (by omega) (by omega)
      (by omega) hfb0 hta0
  obtain ⟨n, rfl⟩ := Int.eq_ofNat_of_zero_le h0
  have hlen : s'.length = s.length := hperm.length_eq
  have key : ∀ r : Nat, FalseBelow f s' r → TrueAbove f s' ((r : Int) - 1) →
      (∀ x ∈ s'.take r, f x = false) ∧ (∀ x ∈ s'.drop r, f x = true) := fun r h1 h2 =>
    forall_mem_take_drop s' r (fun p x hp h => h1 p x hp (by omega)) (fun p x hp h => h2 p x hp (by omega))
  unfold partition
  have hj0 : partJ0 (s.length : Int) = (s.length : Int) - 1 := by
    unfold partJ0; exact wrap64_of_range (by omega) (by omega)   -- `len(s) - 1` is exact
  simp only [partI0, hj0]
  rw [e]
  simp only [getI_nat, partFinal, partIncI, ne_eq, not_true_eq_false, if_false]
  by_cases hn : n < s.length
  · have hn' : n < s'.length := by omega
    rw [List.getElem?_eq_getElem hn']
    simp only
    cases hfx : f s'[n] with
    | false =>
      refine ⟨s', n + 1, ?_, hperm, by omega, ?_⟩
      · simp; omega
      · apply key (n + 1) (falseBelow_succ hfb hn' hfx)
        · intro p x hp hlt
          exact hta p x hp (by omega)
    | true =>
      refine ⟨s', n, ?_, hperm, by omega, ?_⟩
      · simp
      · exact key n hfb (trueAbove_pred hta hn' hfx)
  · have hnone : s'[n]? = none := by
      rw [List.getElem?_eq_none_iff]; omega
    rw [hnone]
    have hd : decide ((n : Int) < (s.length : Int)) = false := by simp; omega
    simp only [hd, Bool.false_and, if_true, Bool.false_eq_true, if_false]
    refine ⟨s', n, rfl, hperm, by omega, ?_⟩
    apply key n hfb
    intro p x hp hlt
    have := (List.getElem?_eq_some_iff.mp hp).1
    omega

end Juniper.Proofs.Helpers
