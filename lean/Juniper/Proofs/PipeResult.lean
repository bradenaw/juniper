import Juniper.Proofs.PipeStep
/-!
What the calls *return* versus what happens to the ghost logs. The result of a call is
read off the regenerated arm bodies (`Gen.Pipe.sendBodies`, `trySendBodies1/2`, `nextBodies`,
`nextDrainBodies`, `nextEndStmts`) by `Model.Pipe.completions`; the lemmas here say, arm by arm, which
result goes with which change of `acked` / `ackedBC` / `delivered`. The facts about the bodies are
hypotheses (`SendBodies`, `TryBodies`, `NextBodies`) that the property theorems of `Props/C10.lean`
discharge by `decide`: a changed `return` statement breaks those theorems.
-/
namespace Juniper.Proofs.Pipe
open Juniper.Facts Juniper.Gen.Pipe Juniper.Model.Pipe

/-- The arm bodies of `PipeSender.Send`. -/
structure SendBodies : Prop where
  ctx : sendBodies.lookup (.recv chCtx) = some ["return ctx.Err()"]
  stream : sendBodies.lookup (.recv chStreamDone) = some ["return ErrClosedPipe"]
  sender : sendBodies.lookup (.recv chSenderDone) = some ["return *s.senderErr"]
  data : sendBodies.lookup (.send chData) = some ["return nil"]
  only : sendArms.all (fun a => a == .recv chCtx || a == .recv chStreamDone || a == .recv chSenderDone ||
    a == .send chData) = true

/-- The arm bodies of the two selects of `PipeSender.TrySend`. -/
structure TryBodies : Prop where
  ctx : trySendBodies1.lookup (.recv chCtx) = some ["return false, ctx.Err()"]
  stream : trySendBodies1.lookup (.recv chStreamDone) = some ["return false, ErrClosedPipe"]
  sender : trySendBodies1.lookup (.recv chSenderDone) = some ["return false, *s.senderErr"]
  dflt1 : trySendBodies1.lookup .dflt = some []
  only1 : trySendArms1.all (fun a => a == .recv chCtx || a == .recv chStreamDone || a == .recv chSenderDone ||
    a == .dflt) = true
  data : trySendBodies2.lookup (.send chData) = some ["return true, nil"]
  dflt2 : trySendBodies2.lookup .dflt = some ["return false, nil"]
  only2 : trySendArms2.all (fun a => a == .send chData || a == .dflt) = true

/-- The arm bodies of `pipeStream.Next`, of its drain, and the report. -/
structure NextBodies : Prop where
  ctx : nextBodies.lookup (.recv chCtx) = some ["return zero, ctx.Err()"]
  data : nextBodies.lookup (.recv chData) = some ["bind item:=", "return item, nil"]
  only : nextArms.all (fun a => a == .recv chCtx || a == .recv chData || a == .recv chSenderDone) = true
  drains : nextDrains = true
  drainData : nextDrainBodies.lookup (.recv chData) = some ["bind item:=", "return item, nil"]
  drainDflt : nextDrainBodies.lookup .dflt = some []
  drainOnly : nextDrainArms.all (fun a => a == .recv chData || a == .dflt) = true
  endStmts : nextEndStmts = ["err := *s.senderErr", "if err != nil {", "return zero, err", "}", "return zero, End"]

/-- What `Next` reports: the error the sender was closed with, the normal end if that was `nil`. -/
def endRes (st : State) : Res := if st.senderErr then .err else .fin

theorem endResult_eq (hN : NextBodies) (st : State) : endResult st = endRes st := by
  simp [endResult, endRes, hN.endStmts]

section
variable (st : State) (h : Option Msg)
@[simp] theorem bodyResult_sendCtx : bodyResult st (some ["return ctx.Err()"]) h = .ctx := by rw [bodyResult]
@[simp] theorem bodyResult_sendClosed : bodyResult st (some ["return ErrClosedPipe"]) h = .closed := by rw [bodyResult]
@[simp] theorem bodyResult_sendErr :
    bodyResult st (some ["return *s.senderErr"]) h = if st.senderErr then .err else .nil := by rw [bodyResult]
@[simp] theorem bodyResult_sendNil : bodyResult st (some ["return nil"]) h = .nil := by rw [bodyResult]
@[simp] theorem bodyResult_tryCtx : bodyResult st (some ["return false, ctx.Err()"]) h = .ctx := by rw [bodyResult]
@[simp] theorem bodyResult_tryClosed : bodyResult st (some ["return false, ErrClosedPipe"]) h = .closed := by rw [bodyResult]
@[simp] theorem bodyResult_tryErr :
    bodyResult st (some ["return false, *s.senderErr"]) h = if st.senderErr then .err else .fls := by rw [bodyResult]
@[simp] theorem bodyResult_tryTrue : bodyResult st (some ["return true, nil"]) h = .tru := by rw [bodyResult]
@[simp] theorem bodyResult_tryFalse : bodyResult st (some ["return false, nil"]) h = .fls := by rw [bodyResult]
@[simp] theorem bodyResult_nextCtx : bodyResult st (some ["return zero, ctx.Err()"]) h = .ctx := by rw [bodyResult]
@[simp] theorem bodyResult_item (m : Msg) :
    bodyResult st (some ["bind item:=", "return item, nil"]) (some m) = .val m.val := by rw [bodyResult]
end

theorem contains_of_getElem? {st : State} {i : Nat} {sd : Sender} (h : st.senders[i]? = some sd) :
    sd ∈ st.senders := List.mem_of_getElem? h

theorem SendBodies.arms (hB : SendBodies) {a : Arm} (h : sendArms.contains a = true) :
    a = .recv chCtx ∨ a = .recv chStreamDone ∨ a = .recv chSenderDone ∨ a = .send chData := by
  simpa [or_assoc] using List.all_eq_true.mp hB.only a (List.contains_iff_mem.mp h)

theorem TryBodies.arms1 (hB : TryBodies) {a : Arm} (h : trySendArms1.contains a = true) :
    a = .recv chCtx ∨ a = .recv chStreamDone ∨ a = .recv chSenderDone ∨ a = .dflt := by
  simpa [or_assoc] using List.all_eq_true.mp hB.only1 a (List.contains_iff_mem.mp h)

theorem TryBodies.arms2 (hB : TryBodies) {a : Arm} (h : trySendArms2.contains a = true) :
    a = .send chData ∨ a = .dflt := by
  simpa using List.all_eq_true.mp hB.only2 a (List.contains_iff_mem.mp h)

theorem NextBodies.drainArms (hN : NextBodies) {a : Arm} (h : nextDrainArms.contains a = true) :
    a = .recv chData ∨ a = .dflt := by
  simpa using List.all_eq_true.mp hN.drainOnly a (List.contains_iff_mem.mp h)

theorem NextBodies.dataBody (hN : NextBodies) {pc : RPc} (h : (rtableOf pc).contains (.recv chData) = true) :
    (rbodiesOf pc).lookup (.recv chData) = some ["bind item:=", "return item, nil"] := by
  cases pc with
  | idle => simp [rtableOf] at h
  | next p => exact hN.data
  | drain => exact hN.drainData

theorem completions_sender {st : State} {i : Nat} {sd : Sender} (a : Arm) (hsd : st.senders[i]? = some sd) :
    completions st (.sender i a) =
      if sd.pc.after a = .idle then [(.sender i, bodyResult st ((bodiesOf sd.pc).lookup a) none)] else [] := by
  simp only [completions, hsd]

theorem send_arm_result {st st' : State} {i : Nat} {sd : Sender} {m : Msg} {p : Bool} {a : Arm}
    (hB : SendBodies) (hsd : st.senders[i]? = some sd) (hpc : sd.pc = .send m p)
    (hs : Step st (.sender i a) st') :
    ∃ r, completions st (.sender i a) = [(.sender i, r)] ∧
      ((a = .send chData ∧ r = .nil ∧ st'.buf = st.buf ++ [m] ∧ st'.acked = st.acked ++ [m] ∧
          st'.ackedBC = (if st.senderDone then st.ackedBC else st.ackedBC ++ [m])) ∨
       (a ≠ .send chData ∧ st'.buf = st.buf ∧ st'.acked = st.acked ∧ st'.ackedBC = st.ackedBC ∧
          st'.delivered = st.delivered ∧
          ((a = .recv chCtx ∧ sd.ctx = true ∧ r = .ctx) ∨
           (a = .recv chStreamDone ∧ st.streamDone = true ∧ r = .closed) ∨
           (a = .recv chSenderDone ∧ st.senderDone = true ∧ r = (if st.senderErr then .err else .nil))))) ∧
      (r = .nil → st.senderDone = false → st'.ackedBC = st.ackedBC ++ [m]) := by
  have same : ∀ {sd0}, st.senders[i]? = some sd0 → sd0 = sd := fun h => Option.some.inj (h.symm.trans hsd)
  have hcomp : ∀ a, completions st (.sender i a) = [(.sender i, bodyResult st (sendBodies.lookup a) none)] := by
    intro a; simp [completions_sender a hsd, hpc, bodiesOf, after_send_pc]
  cases hs with
  | recv h => cases h
  | commit h0 hm _ _ =>
    cases same h0
    obtain rfl : m = _ := by simpa [hpc, SPc.msg?] using hm
    exact ⟨.nil, by rw [hcomp, hB.data, bodyResult_sendNil], .inl ⟨rfl, rfl, rfl, rfl, rfl⟩,
      fun _ hd => by simp [commit, State.setSender, hd]⟩
  | sender h0 h =>
    cases h with
    | dflt _ htab _ => cases same h0; rw [hpc] at htab; rcases hB.arms htab with h | h | h | h <;> cases h
    | recvArm _ htab hr =>
      cases same h0
      rw [hpc] at htab
      rcases hB.arms htab with h | h | h | h <;> cases h
      · exact ⟨_, by rw [hcomp, hB.ctx, bodyResult_sendCtx],
          .inr ⟨nofun, rfl, rfl, rfl, rfl, .inl ⟨rfl, by simpa using hr, rfl⟩⟩, nofun⟩
      · exact ⟨_, by rw [hcomp, hB.stream, bodyResult_sendClosed],
          .inr ⟨nofun, rfl, rfl, rfl, rfl, .inr (.inl ⟨rfl, by simpa using hr, rfl⟩)⟩, nofun⟩
      · have hdone : st.senderDone = true := by simpa using hr
        exact ⟨_, by rw [hcomp, hB.sender, bodyResult_sendErr],
          .inr ⟨nofun, rfl, rfl, rfl, rfl, .inr (.inr ⟨rfl, hdone, rfl⟩)⟩,
          fun _ hd => nomatch hdone.symm.trans hd⟩

theorem after_try1 (hB : TryBodies) (m : Msg) {a : Arm} (ha : trySendArms1.contains a = true) :
    (SPc.try1 m).after a = if a = .dflt then .try2 m else .idle := by
  rcases hB.arms1 ha with h | h | h | h <;> subst h
  · simp [SPc.after, bodiesOf, hB.ctx]
  · simp [SPc.after, bodiesOf, hB.stream]
  · simp [SPc.after, bodiesOf, hB.sender]
  · simp [SPc.after, bodiesOf, hB.dflt1, SPc.fallThrough]

theorem try_arm_result {st st' : State} {i : Nat} {sd : Sender} {m : Msg} {a : Arm}
    (hB : TryBodies) (hsd : st.senders[i]? = some sd) (hs : Step st (.sender i a) st') :
    (sd.pc = .try1 m →
      (a = .dflt ∧ completions st (.sender i a) = [] ∧ st' = st.setSender i { sd with pc := .try2 m }) ∨
      (a ≠ .dflt ∧ st' = st.setSender i { sd with pc := .idle } ∧
        ((a = .recv chCtx ∧ sd.ctx = true ∧ completions st (.sender i a) = [(.sender i, .ctx)]) ∨
         (a = .recv chStreamDone ∧ st.streamDone = true ∧ completions st (.sender i a) = [(.sender i, .closed)]) ∨
         (a = .recv chSenderDone ∧ st.senderDone = true ∧
            completions st (.sender i a) = [(.sender i, if st.senderErr then .err else .fls)])))) ∧
    (sd.pc = .try2 m →
      (a = .send chData ∧ completions st (.sender i a) = [(.sender i, .tru)] ∧ st'.buf = st.buf ++ [m] ∧
        st'.acked = st.acked ++ [m] ∧ st'.ackedBC = (if st.senderDone then st.ackedBC else st.ackedBC ++ [m])) ∨
      (a = .dflt ∧ completions st (.sender i a) = [(.sender i, .fls)] ∧
        st' = st.setSender i { sd with pc := .idle })) := by
  have same : ∀ {sd0}, st.senders[i]? = some sd0 → sd0 = sd := fun h => Option.some.inj (h.symm.trans hsd)
  refine ⟨fun hpc => ?_, fun hpc => ?_⟩
  · cases hs with
    | recv h => cases h
    | commit h0 _ htab _ => cases same h0; rw [hpc] at htab; rcases hB.arms1 htab with h | h | h | h <;> cases h
    | sender h0 h =>
      cases h with
      | dflt _ htab _ =>
        cases same h0
        rw [hpc] at htab
        have hafter := after_try1 hB m htab
        exact .inl ⟨rfl, by simp [completions_sender _ hsd, hpc, hafter], by rw [hpc, hafter]; rfl⟩
      | recvArm _ htab hr =>
        cases same h0
        rw [hpc] at htab
        have hafter := after_try1 hB m htab
        refine .inr ⟨nofun, by rw [hpc, hafter]; rfl, ?_⟩
        rcases hB.arms1 htab with h | h | h | h <;> cases h
        · exact .inl ⟨rfl, by simpa using hr, by simp [completions_sender _ hsd, hpc, hafter, bodiesOf, hB.ctx]⟩
        · exact .inr (.inl ⟨rfl, by simpa using hr,
            by simp [completions_sender _ hsd, hpc, hafter, bodiesOf, hB.stream]⟩)
        · exact .inr (.inr ⟨rfl, by simpa using hr,
            by simp [completions_sender _ hsd, hpc, hafter, bodiesOf, hB.sender]⟩)
  · cases hs with
    | recv h => cases h
    | commit h0 hm _ _ =>
      cases same h0
      obtain rfl : m = _ := by simpa [hpc, SPc.msg?] using hm
      exact .inl ⟨rfl, by simp [completions_sender _ hsd, hpc, after_try2, bodiesOf, hB.data], rfl, rfl, rfl⟩
    | sender h0 h =>
      cases h with
      | recvArm _ htab _ => cases same h0; rw [hpc] at htab; rcases hB.arms2 htab with h | h <;> cases h
      | dflt _ _ _ =>
        cases same h0
        exact .inr ⟨rfl, by simp [completions_sender _ hsd, hpc, after_try2, bodiesOf, hB.dflt2],
          by rw [hpc, after_try2]⟩

/-- A rendez-vous, the sender's side (the bodies of `Send` / `TrySend` only): the call returns success and the message in
flight is committed; the receiver gets whatever the data arm of its `select` returns for that message. -/
theorem handoff_send_result {st st' : State} {i : Nat} {sd : Sender} (hS : SendBodies) (hT : TryBodies)
    (hsd : st.senders[i]? = some sd) (hs : Step st (.handoff i) st') :
    ∃ m, sd.pc.msg? = some m ∧ accepts st = true ∧
      (((∃ p, sd.pc = .send m p) ∧ completions st (.handoff i) =
          [(.sender i, .nil), (.recv, bodyResult st ((rbodiesOf st.rpc).lookup (.recv chData)) (some m))]) ∨
       (sd.pc = .try2 m ∧ completions st (.handoff i) =
          [(.sender i, .tru), (.recv, bodyResult st ((rbodiesOf st.rpc).lookup (.recv chData)) (some m))])) ∧
      st' = { commit (st.setSender i { sd with pc := .idle }) m with
              rpc := .idle, delivered := st.delivered ++ [m] } := by
  cases hs with
  | sender _ h => cases h
  | recv h => cases h
  | @handoff _ _ m h0 hm hc =>
    cases Option.some.inj (h0.symm.trans hsd)
    obtain ⟨_, htab, hacc⟩ := canHandoff_facts hc
    refine ⟨m, hm, hacc, ?_⟩
    cases hpc : sd.pc with
    | idle => simp [hpc, SPc.msg?] at hm
    | try1 m' => rw [hpc] at htab; rcases hT.arms1 htab with h | h | h | h <;> cases h
    | send m' p =>
      obtain rfl : m' = m := by simpa [hpc, SPc.msg?] using hm
      exact ⟨.inl ⟨⟨p, rfl⟩, by simp [completions, hsd, hpc, after_send_pc, bodiesOf, hS.data, SPc.msg?]⟩,
        by rw [after_send_pc]⟩
    | try2 m' =>
      obtain rfl : m' = m := by simpa [hpc, SPc.msg?] using hm
      exact ⟨.inr ⟨rfl, by simp [completions, hsd, hpc, after_try2, bodiesOf, hT.data, SPc.msg?]⟩,
        by rw [after_try2]⟩

/-- A rendez-vous, the receiver's side (the bodies of `Next` only): `Next` returns the value of the message that is
appended to `delivered`. -/
theorem handoff_recv_result {st st' : State} {i : Nat} (hN : NextBodies) (hs : Step st (.handoff i) st') :
    ∃ m, st'.delivered = st.delivered ++ [m] ∧ ∀ r, (Who.recv, r) ∈ completions st (.handoff i) ↔ r = .val m.val := by
  cases hs with
  | sender _ h => cases h
  | recv h => cases h
  | @handoff _ sd m hsd hm hc =>
    refine ⟨m, rfl, fun r => ?_⟩
    simp only [completions, hsd, hN.dataBody (canHandoff_facts hc).2.2, hm, bodyResult_item, List.mem_append,
      List.mem_singleton, Prod.mk.injEq, true_and]
    refine ⟨fun h => h.resolve_left fun h => ?_, .inr⟩
    split at h <;> simp at h

theorem recv_result {st st' : State} {a : Arm} (hN : NextBodies) (hs : Step st (.recv a) st') :
    (∃ m rest, a = .recv chData ∧ st.buf = m :: rest ∧ completions st (.recv a) = [(.recv, .val m.val)] ∧
      st'.buf = rest ∧ st'.delivered = st.delivered ++ [m]) ∨
    (a = .recv chSenderDone ∧ st.rpc.isNext = true ∧ st.senderDone = true ∧ completions st (.recv a) = [] ∧
      st' = { st with rpc := .drain }) ∨
    (a = .recv chCtx ∧ st.rpc.isNext = true ∧ st.rctx = true ∧ completions st (.recv a) = [(.recv, .ctx)] ∧
      st' = { st with rpc := .idle }) ∨
    (a = .dflt ∧ st.rpc = .drain ∧ reportsEnd st (.recv a) = true ∧
      completions st (.recv a) = [(.recv, endRes st)] ∧ st' = reportEnd st) := by
  -- which `select` the receiver stands at, given that arm `a` is in its table
  have atNext : ∀ {a}, (rtableOf st.rpc).contains a = true → a ≠ .recv chData → a ≠ .dflt →
      ∃ p, st.rpc = .next p := by
    intro a htab h1 h2
    cases hr : st.rpc with
    | idle => simp [hr, rtableOf] at htab
    | next p => exact ⟨p, rfl⟩
    | drain => rw [hr] at htab; rcases hN.drainArms htab with h | h <;> contradiction
  cases hs with
  | sender _ h => cases h
  | @pop m rest htab hbuf =>
    exact .inl ⟨m, rest, rfl, hbuf, by simp [completions, hN.dataBody htab, hbuf, chData, chSenderDone], rfl, rfl⟩
  | recv h =>
    cases h with
    | ctx htab hctx =>
      obtain ⟨p, hr⟩ := atNext htab (by simp [chCtx, chData]) nofun
      exact .inr (.inr (.inl ⟨rfl, by rw [hr]; rfl, hctx,
        by simp [completions, hr, rbodiesOf, hN.ctx, chCtx, chSenderDone], rfl⟩))
    | toDrain _ hsd hn hd => exact .inr (.inl ⟨rfl, hn, hsd, by simp [completions, hn, hd], rfl⟩)
    | reportUndrained htab _ hnd =>
      obtain ⟨p, hr⟩ := atNext htab (by simp [chData, chSenderDone]) nofun
      simp [hr, RPc.isNext, hN.drains] at hnd
    | report _ hpc _ =>
      exact .inr (.inr (.inr ⟨rfl, hpc, rfl, by simp [completions, hpc, rbodiesOf, hN.drainDflt, endResult_eq hN], rfl⟩))

theorem report_result {st st' : State} (hN : NextBodies) (hs : Step st (.recv .dflt) st') :
    completions st (.recv .dflt) = [(.recv, endRes st)] := by
  cases hs with
  | sender _ h => cases h
  | recv h =>
    cases h with
    | report _ hpc _ => simp [completions, hpc, rbodiesOf, hN.drainDflt, endResult_eq hN]

theorem completions_sender_only {st : State} {i : Nat} {a : Arm} :
    ∀ c ∈ completions st (.sender i a), c.1 = .sender i := by
  intro c hc
  simp only [completions] at hc
  split at hc
  · simp at hc
  · split at hc
    · simp at hc; subst hc; rfl
    · simp at hc

theorem completions_recv_only {st : State} {a : Arm} : ∀ c ∈ completions st (.recv a), c.1 = .recv := by
  intro c hc
  simp only [completions] at hc
  split at hc
  · split at hc
    · split at hc
      · simp at hc
      · simp at hc; subst hc; rfl
    · simp at hc; subst hc; rfl
  · split at hc <;> (simp at hc; subst hc; rfl)
  · simp at hc

structure Bodies : Prop where
  send : SendBodies
  try_ : TryBodies
  next : NextBodies
  noSend1 : noSendArm trySendArms1 = true

theorem label_cases (l : Label) :
    (∃ i a, l = .sender i a) ∨ (∃ i, l = .handoff i) ∨ (∃ a, l = .recv a) ∨
    ((∀ st, completions st l = []) ∧ deliversValue l = false ∧ (∀ i, l ≠ .handoff i) ∧ ∀ i a, l ≠ .sender i a) := by
  cases l with
  | sender i a => exact .inl ⟨i, a, rfl⟩
  | handoff i => exact .inr (.inl ⟨i, rfl⟩)
  | recv a => exact .inr (.inr (.inl ⟨a, rfl⟩))
  | _ => exact .inr (.inr (.inr ⟨fun _ => rfl, rfl, fun _ h => Label.noConfusion h, fun _ _ h => Label.noConfusion h⟩))

theorem pending_of_step {st st' : State} {i : Nat} {l : Label} (hl : l = .handoff i ∨ ∃ a, l = .sender i a)
    (hs : Step st l st') : ∃ sd m, st.senders[i]? = some sd ∧ sd.pc.msg? = some m := by
  rcases hl with rfl | ⟨a, rfl⟩
  · cases hs with
    | sender _ h => cases h
    | recv h => cases h
    | handoff h0 hm _ => exact ⟨_, _, h0, hm⟩
  · cases hs with
    | recv h => cases h
    | commit h0 hm _ _ => exact ⟨_, _, h0, hm⟩
    | sender h0 h =>
      cases h with
      | recvArm hm _ _ => exact ⟨_, _, h0, hm⟩
      | dflt hm _ _ => exact ⟨_, _, h0, hm⟩

theorem step_commit_results {st st' : State} {l : Label} (hS : SendBodies) (hT : TryBodies) (hs : Step st l st') :
    (∃ i sd m, st.senders[i]? = some sd ∧ sd.pc.msg? = some m ∧ st'.acked = st.acked ++ [m] ∧
      st'.ackedBC = (if st.senderDone then st.ackedBC else st.ackedBC ++ [m]) ∧
      (l = .handoff i ∨ ∃ a, l = .sender i a) ∧
      ((.sender i, .nil) ∈ completions st l ∨ (.sender i, .tru) ∈ completions st l)) ∨
    (st'.acked = st.acked ∧ st'.ackedBC = st.ackedBC ∧
      ∀ i r, (Who.sender i, r) ∈ completions st l → r ≠ .tru ∧ (r = .nil → st.senderDone = true)) := by
  rcases label_cases l with ⟨i, a, rfl⟩ | ⟨i, rfl⟩ | ⟨a, rfl⟩ | ⟨hnil, _, h1, h2⟩
  · obtain ⟨sd, m, hsd, hm⟩ := pending_of_step (.inr ⟨a, rfl⟩) hs
    have single : ∀ {r : Res} {P : Res → Prop}, completions st (.sender i a) = [(.sender i, r)] → P r →
        ∀ j r', (Who.sender j, r') ∈ completions st (.sender i a) → P r' := by
      intro r P hc hP j r' h
      rw [hc] at h
      cases List.mem_singleton.mp h
      exact hP
    cases hpc : sd.pc with
    | idle => simp [hpc, SPc.msg?] at hm
    | send m' p =>
      obtain rfl : m' = m := by simpa [hpc, SPc.msg?] using hm
      obtain ⟨r, hc, ⟨_, rfl, _, hack, hbc⟩ | ⟨_, _, hack, hbc, _, hr⟩, _⟩ :=
        send_arm_result hS hsd hpc hs
      · exact .inl ⟨i, sd, m', hsd, hm, hack, hbc, .inr ⟨_, rfl⟩, .inl (by simp [hc])⟩
      · refine .inr ⟨hack, hbc, single hc ?_⟩
        rcases hr with ⟨_, _, rfl⟩ | ⟨_, _, rfl⟩ | ⟨_, hdone, rfl⟩
        · exact ⟨nofun, nofun⟩
        · exact ⟨nofun, nofun⟩
        · exact ⟨by split <;> nofun, fun _ => hdone⟩
    | try1 m' =>
      right
      rcases (try_arm_result hT hsd hs).1 hpc with ⟨_, hc, rfl⟩ | ⟨_, rfl, hc⟩
      · exact ⟨rfl, rfl, by simp [hc]⟩
      · refine ⟨rfl, rfl, ?_⟩
        rcases hc with ⟨_, _, hc⟩ | ⟨_, _, hc⟩ | ⟨_, _, hc⟩
        · exact single hc ⟨nofun, nofun⟩
        · exact single hc ⟨nofun, nofun⟩
        · exact single hc ⟨by split <;> nofun, by split <;> nofun⟩
    | try2 m' =>
      obtain rfl : m' = m := by simpa [hpc, SPc.msg?] using hm
      rcases (try_arm_result hT hsd hs).2 hpc with ⟨rfl, hc, _, hack, hbc⟩ | ⟨rfl, hc, rfl⟩
      · exact .inl ⟨i, sd, m', hsd, hm, hack, hbc, .inr ⟨_, rfl⟩, .inr (by simp [hc])⟩
      · exact .inr ⟨rfl, rfl, by simp [hc]⟩
  · obtain ⟨sd, _, hsd, _⟩ := pending_of_step (.inl rfl) hs
    obtain ⟨m, hm, _, hres, rfl⟩ := handoff_send_result hS hT hsd hs
    refine .inl ⟨i, sd, m, hsd, hm, rfl, rfl, .inl rfl, ?_⟩
    rcases hres with ⟨_, h⟩ | ⟨_, h⟩ <;> simp [h]
  · obtain ⟨h1, h2⟩ := acked_frame hs nofun nofun
    exact .inr ⟨h1, h2, fun i r h => nomatch completions_recv_only _ h⟩
  · obtain ⟨h1, h2⟩ := acked_frame hs h1 (fun i => h2 i _)
    exact .inr ⟨h1, h2, by rw [hnil]; nofun⟩

theorem step_delivery_results {st st' : State} {l : Label} (hN : NextBodies) (hs : Step st l st') :
    (∃ m, st'.delivered = st.delivered ++ [m] ∧ deliversValue l = true ∧
      ∀ r, (Who.recv, r) ∈ completions st l ↔ r = .val m.val) ∨
    (st'.delivered = st.delivered ∧
      ∀ r, (Who.recv, r) ∈ completions st l → r = .ctx ∨ (r = endRes st ∧ reportsEnd st l = true)) := by
  rcases label_cases l with ⟨i, a, rfl⟩ | ⟨i, rfl⟩ | ⟨a, rfl⟩ | ⟨hnil, hd, _, _⟩
  · exact .inr ⟨delivered_frame hs rfl, fun r h => nomatch completions_sender_only _ h⟩
  · obtain ⟨m, hdel, hres⟩ := handoff_recv_result hN hs
    exact .inl ⟨m, hdel, rfl, hres⟩
  · rcases recv_result hN hs with ⟨m, rest, rfl, _, hc, _, hdel⟩ | ⟨rfl, _, _, hc, rfl⟩ |
        ⟨rfl, _, _, hc, rfl⟩ | ⟨rfl, _, hrep, hc, rfl⟩
    · exact .inl ⟨m, hdel, by simp [deliversValue], by simp [hc]⟩
    · exact .inr ⟨rfl, by simp [hc]⟩
    · exact .inr ⟨rfl, by simp [hc]⟩
    · exact .inr ⟨rfl, fun r h => .inr ⟨by simpa [hc] using h, hrep⟩⟩
  · exact .inr ⟨delivered_frame hs hd, by rw [hnil]; nofun⟩

theorem mem_okReturns {st : State} {l : Label} {m : Msg} (h : m ∈ okReturns st l) :
    ∃ i sd, (l = .handoff i ∨ ∃ a, l = .sender i a) ∧ st.senders[i]? = some sd ∧ sd.pc.msg? = some m ∧
      ((.sender i, .nil) ∈ completions st l ∨ (.sender i, .tru) ∈ completions st l) := by
  cases l with
  | sender i _ | handoff i =>
    simp only [okReturns] at h
    cases hsd : st.senders[i]? with
    | none => simp only [hsd] at h; cases h
    | some sd =>
      cases hmm : sd.pc.msg? with
      | none => simp only [hsd, hmm] at h; cases h
      | some mm =>
        simp only [hsd, hmm] at h
        split at h
        · rename_i hok
          cases List.mem_singleton.mp h
          exact ⟨i, sd, by simp, hsd, hmm, by simpa only [Bool.or_eq_true, List.contains_iff_mem] using hok⟩
        · cases h
  | _ => exact absurd h List.not_mem_nil

theorem okReturns_committed {st st' : State} {l : Label} (hS : SendBodies) (hT : TryBodies) (hs : Step st l st')
    (hopen : st.senderDone = false) : ∀ m ∈ okReturns st l, m ∈ st'.ackedBC := by
  intro m hm
  obtain ⟨i, sd, hl, hsd, hmm, hok⟩ := mem_okReturns hm
  rcases step_commit_results hS hT hs with ⟨j, sdj, mj, hsdj, hmj, _, hbc, hlj, _⟩ | ⟨_, _, hno⟩
  · have hij : j = i := by
      rcases hl with rfl | ⟨a, rfl⟩ <;> rcases hlj with h | ⟨b, h⟩ <;> cases h <;> rfl
    subst hij
    rw [hsd] at hsdj; cases hsdj
    rw [hmm] at hmj; cases hmj
    rw [hbc]; simp [hopen]
  · exfalso
    rcases hok with h | h
    · have := (hno i .nil h).2 rfl
      rw [hopen] at this; cases this
    · exact (hno i .tru h).1 rfl

theorem ackedBC_mono_run {ls : List Label} {st st' : State} (h : run st ls = some st') :
    ∀ m ∈ st.ackedBC, m ∈ st'.ackedBC := fun m hm =>
  isRun.inv (P := fun s => m ∈ s.ackedBC) (Q := fun _ => True)
    (fun hp _ hs => (step_monotone (.of_step hs)).2.2.2 m hp) h (fun _ _ => trivial) hm

theorem okBeforeClose_sub_ackedBC {ls : List Label} (hS : SendBodies) (hT : TryBodies) : ∀ {st st' : State}, run st ls = some st' →
    ∀ m ∈ okBeforeClose st ls, m ∈ st'.ackedBC := by
  induction ls with
  | nil => intro st st' _ m hm; simp [okBeforeClose] at hm
  | cons l ls ih =>
    intro st st' h m hm
    obtain ⟨s1, hs1, h⟩ := isRun.cons_eq_some.1 h
    simp only [okBeforeClose, hs1, List.mem_append] at hm
    rcases hm with hm | hm
    · cases hd : st.senderDone with
      | true => simp [hd] at hm
      | false =>
        simp [hd] at hm
        exact ackedBC_mono_run h m (okReturns_committed hS hT (.of_step hs1) hd m hm)
    · exact ih h m hm

end Juniper.Proofs.Pipe
