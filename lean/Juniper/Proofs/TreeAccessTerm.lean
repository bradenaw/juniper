import Juniper.Proofs.TreeAccessConfig
import Juniper.Proofs.LTS
/-!
# Access-level model (C01, concurrent clause): the `Put` / `Get` / `Contains` goroutines take boundedly many steps

`rank R pc`: an upper bound on the number of accesses a `Put` / `Get` / `Contains` goroutine in the `Good` state `pc` still
performs (the weight of the subtree it is in, minus its progress in the node); every step of such a goroutine decreases
it (`rank_next`), a range reader has rank 0. So in a schedule that can be executed from the initial configuration these
goroutines together take at most `ops.length * (wt t.root + 4)` steps, whatever the readers do (`sched_bound`,
`total_initial`). That a run ends in a `Terminal` configuration is not proved; `terminal_results` takes it as a hypothesis.
-/
namespace Juniper.Proofs.TreeAccess
open Juniper.Gen.Tree Juniper.Model.BTree Juniper.Model.BTreeAccess Juniper.Proofs.Tree

variable {K V : Type} {cmp : K → K → Int}

/-- weight of a subtree: enough for every access of one descent through it — two per entry (loop test, comparison) and
four more per node (the failing loop test, `retn`, `leaf`, `child`); the 6, like the 4 of `total_initial`, is generous -/
def wt : Node K V → Nat
  | .mk _ kvs kids => 2 * kvs.length + 6 + (kids.map wt).sum

theorem wt_mk (id : Nat) (kvs : List (K × V)) (kids : List (Node K V)) :
    wt (.mk id kvs kids) = 2 * kvs.length + 6 + (kids.map wt).sum := wt.eq_1 id kvs kids

theorem wt_kid {id : Nat} {kvs : List (K × V)} {kids : List (Node K V)} {c : Node K V} (hc : c ∈ kids) :
    wt c + 2 * kvs.length + 6 ≤ wt (.mk id kvs kids) := by
  rw [wt_mk]
  have : wt c ≤ (kids.map wt).sum := by
    induction kids with
    | nil => cases hc
    | cons d ds ih =>
      simp only [List.map_cons, List.sum_cons]
      rcases List.mem_cons.mp hc with rfl | h
      · omega
      · have := ih h; omega
  omega

theorem wt_ge (y : Node K V) : 2 * y.kvs.length + 6 ≤ wt y := by
  obtain ⟨id, kvs, kids⟩ := y; rw [wt_mk]; simp only [Node.kvs]; omega

def wtAt (R : Node K V) (x : Nat) : Nat :=
  match findNode x R with
  | some y => wt y
  | none => 0

def lenAt (R : Node K V) (x : Nat) : Nat :=
  match findNode x R with
  | some y => y.kvs.length
  | none => 0

theorem findNode_of_sub {R y : Node K V} (hn : (ids R).Nodup) (h : Sub R y) : findNode y.id R = some y := by
  have hone : ∀ i, cnt i R ≤ 1 := List.nodup_iff_count.mp hn
  obtain ⟨up, hz⟩ := h.zip
  simp [findNode, pathTo_unique y.id R up y hz hone rfl]

def rank (R : Node K V) : PC K V → Nat
  | .run _ cont _ _ => if cont then wt R + 1 else 1
  | .test x i => wtAt R x - 2 * i
  | .key x i => wtAt R x - 2 * i - 1
  | .retn x => wtAt R x - 2 * lenAt R x - 1
  | .leaf x _ => wtAt R x - 2 * lenAt R x - 2
  | .child x _ => wtAt R x - 2 * lenAt R x - 3
  | _ => 0

theorem rank_notFoundAt {R : Node K V} (op : Op K V) (x idx : Nat) :
    rank R (notFoundAt op x idx) ≤ wtAt R x - 2 * lenAt R x - 2 := by
  unfold notFoundAt
  split <;> simp only [rank] <;> omega

theorem rank_foundAt {R : Node K V} (op : Op K V) (hsr : op.isSearch = true) (x idx : Nat) :
    rank R (foundAt op x idx) ≤ 1 := by
  cases op with
  | scan fwd sk skey stop limit => simp [Op.isSearch] at hsr
  | get k => rw [foundAt_get]; simp [rank]
  | put k v => rw [foundAt_put]; simp [rank]
  | contains k => rw [foundAt_contains]; simp [rank]

theorem Descent.rank_lt {t : Tree K V} (hn : (ids t.root).Nodup) {op : Op K V} (hsr : op.isSearch = true) {m m' : Mem K V}
    {pc pc' : PC K V} (h : Descent cmp t op m pc m' pc') (hnd : pc.isDone = false) :
    rank t.root pc' < rank t.root pc := by
  have hat : ∀ {y}, OnPath cmp t.root op.key y →
      wtAt t.root y.id = wt y ∧ lenAt t.root y.id = y.kvs.length ∧ 2 * y.kvs.length + 6 ≤ wt y := by
    intro y hy; simp [wtAt, lenAt, findNode_of_sub hn hy.sub, wt_ge y]
  cases h with
  | root => simp only [rank, if_true, (hat ⟨.refl _, rfl, rfl⟩).1]; omega
  | readVal => simp [rank]
  | writeVal => simp [rank]
  | @testIn y i hp hi hlt => obtain ⟨hw, hl, hge⟩ := hat hp; simp only [rank, hw]; omega
  | @testOut y i hp hi hs => obtain ⟨hw, hl, hge⟩ := hat hp; simp only [rank, hw, hl]; omega
  | @less y i hp hs =>
    obtain ⟨hw, hl, hge⟩ := hat hp
    have := rank_notFoundAt (R := t.root) op y.id i
    have hle := searchNode_le hs
    simp only [rank, hw, hl] at this ⊢
    omega
  | @eq y i hp hs =>
    obtain ⟨hw, hl, hge⟩ := hat hp
    have := rank_foundAt (R := t.root) op hsr y.id i
    have hi := searchNode_found_lt hs
    simp only [rank, hw] at this ⊢
    omega
  | @greater y i hp hi =>
    obtain ⟨hw, hl, hge⟩ := hat hp
    have hle := searchNode_le (cmp := cmp) (k := op.key) (kvs := y.kvs) rfl
    simp only [rank, hw]; omega
  | @retn y hp hs =>
    obtain ⟨hw, hl, hge⟩ := hat hp
    have := rank_notFoundAt (R := t.root) op y.id y.kvs.length
    simp only [rank, hw, hl] at this ⊢
    omega
  | @inner y idx _ hp hs => obtain ⟨hw, hl, hge⟩ := hat hp; simp only [rank, hw, hl]; omega
  | @child y c idx hp hk hpc =>
    obtain ⟨hw, hl, hge⟩ := hat hp
    have : wt c + 2 * y.kvs.length + 6 ≤ wt y := by obtain ⟨id, kvs, kids⟩ := y; exact wt_kid (List.mem_of_getElem? hk)
    simp only [rank, hw, hl, (hat hpc).1]
    omega
  | @nil y idx _ hp hs hk => obtain ⟨hw, hl, hge⟩ := hat hp; simp only [rank, hw, hl]; omega
  | done => simp [PC.isDone] at hnd

theorem rank_next {t : Tree K V} (hn : (ids t.root).Nodup) {op : Op K V} (hok : OpOK cmp t op) (hsr : op.isSearch = true)
    {m : Mem K V} (hf : Frozen m t) {pc : PC K V} (hg : Good cmp t op pc) (hnd : pc.isDone = false) :
    rank t.root (next cmp op m pc).2 < rank t.root pc :=
  (next_descent hok hsr hf hg).rank_lt hn hsr hnd

def total (R : Node K V) (c : Config K V) : Nat := (c.pcs.map (rank R)).sum

theorem rank_scan {t : Tree K V} {op : Op K V} (hns : op.isSearch = false) {pc : PC K V} (hg : Good cmp t op pc) :
    rank t.root pc = 0 := by
  rcases hg.it_or_done hns with ⟨ph, st, rfl⟩ | ⟨r, rfl⟩ <;> rfl

/-- whether goroutine `i` executes a `Put` / `Get` / `Contains` (a range reader otherwise) -/
def isSearchAt (ops : List (Op K V)) (i : Nat) : Bool :=
  match ops[i]? with
  | some op => op.isSearch
  | none => false

theorem total_step {t : Tree K V} {ops : List (Op K V)} (hs : Setup cmp t ops) {c c' : Config K V} {j0 : Nat}
    (hi : CInv cmp t ops c) (hstep : stepAt cmp ops c j0 = some c') :
    total t.root c' + (if isSearchAt ops j0 then 1 else 0) ≤ total t.root c := by
  have hi' := cinv_step hs hi hstep
  obtain ⟨op, pc, hop, hpc, hnd, rfl⟩ := stepAt_some hstep
  have hg := hi.good j0 op pc hop hpc
  have := ListStore.sum_map_set (a := (next cmp op c.mem pc).2) (rank t.root) hpc
  unfold total
  simp only [isSearchAt, hop]
  cases hsr : op.isSearch with
  | true =>
    have := rank_next hs.nodup (hs.ok j0 op hop) hsr hi.frozen hg hnd
    simp only [if_true]
    omega
  | false =>
    have h0 := rank_scan hsr hg
    have h1 := rank_scan hsr (hi'.good j0 op _ hop (List.getElem?_set_self (List.getElem?_eq_some_iff.mp hpc).1))
    simp only [Bool.false_eq_true, if_false]
    omega

/-- the number of steps of a schedule that are steps of `Put` / `Get` / `Contains` goroutines -/
def searchSteps (ops : List (Op K V)) (sched : List Nat) : Nat := (sched.filter (isSearchAt ops)).length

theorem isRun (ops : List (Op K V)) : LTS.IsRun (stepAt cmp ops) (runSched cmp ops) :=
  ⟨fun _ => rfl, fun c i is => by simp only [runSched]; cases stepAt cmp ops c i <;> rfl⟩

theorem sched_bound {t : Tree K V} {ops : List (Op K V)} (hs : Setup cmp t ops) :
    ∀ (sched : List Nat) (c0 c : Config K V), CInv cmp t ops c0 → runSched cmp ops c0 sched = some c →
      searchSteps ops sched + total t.root c ≤ total t.root c0 ∧ CInv cmp t ops c := by
  intro sched
  induction sched with
  | nil => intro c0 c hi h; simp only [runSched, Option.some.injEq] at h; subst h; exact ⟨by simp [searchSteps], hi⟩
  | cons i is ih =>
    intro c0 c hi h
    obtain ⟨c1, hst, h⟩ := (isRun (cmp := cmp) ops).cons_eq_some.1 h
    have hlt := total_step hs hi hst
    obtain ⟨hb, hc⟩ := ih c1 c (cinv_step hs hi hst) h
    refine ⟨?_, hc⟩
    simp only [searchSteps, List.filter_cons] at hb ⊢
    cases hsa : isSearchAt ops i <;> simp only [hsa, if_true, Bool.false_eq_true, if_false, List.length_cons] at hlt ⊢ <;>
      omega

theorem total_initial (t : Tree K V) (ops : List (Op K V)) (m : Mem K V) :
    total t.root (initial m ops) ≤ ops.length * (wt t.root + 4) := by
  unfold total initial
  simp only [List.map_map]
  induction ops with
  | nil => simp
  | cons op ops ih =>
    simp only [List.map_cons, List.sum_cons, List.length_cons, Function.comp]
    have : rank t.root (start op) ≤ wt t.root + 4 := by
      rcases start_cases op with ⟨_, h⟩ | ⟨_, _, h⟩ <;> rw [h] <;> simp [rank]
    rw [Nat.succ_mul]
    omega

theorem reach_of_sched {ops : List (Op K V)} (sched : List Nat) (c0 c : Config K V)
    (h : runSched cmp ops c0 sched = some c) : Reach cmp ops c0 c :=
  (isRun (cmp := cmp) ops).reach (Rch := Reach cmp ops c0) .step .refl h

theorem runSched_snoc {ops : List (Op K V)} (sched : List Nat) (c0 c c' : Config K V) (i : Nat)
    (h : runSched cmp ops c0 sched = some c) (hst : stepAt cmp ops c i = some c') :
    runSched cmp ops c0 (sched ++ [i]) = some c' := by
  rw [(isRun (cmp := cmp) ops).append, h]
  exact (isRun (cmp := cmp) ops).cons_eq_some.2 ⟨c', hst, rfl⟩

theorem sched_of_reach {ops : List (Op K V)} {c0 c : Config K V} (h : Reach cmp ops c0 c) :
    ∃ sched, runSched cmp ops c0 sched = some c := by
  induction h with
  | refl => exact ⟨[], rfl⟩
  | step _ hst ih => obtain ⟨s, hs⟩ := ih; exact ⟨s ++ [_], runSched_snoc s _ _ _ _ hs hst⟩

end Juniper.Proofs.TreeAccess
