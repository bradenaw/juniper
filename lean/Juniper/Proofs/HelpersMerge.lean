import Juniper.Proofs.HelpersBasic
import Juniper.Model.HelpersSort
import Juniper.Proofs.ListStore
namespace Juniper.Proofs.Helpers
open Juniper.Model.Helpers Juniper.Spec.Helpers Juniper.Gen.Helpers
variable {α : Type}

theorem mem_mergeInitial (ins : List (List α)) (i : Nat) (v : α) (t : Nat) :
    (v, t) ∈ mergeInitial i ins ↔ ∃ t' l, t = i + t' ∧ ins[t']? = some (v :: l) := by
  induction ins generalizing i with
  | nil => simp [mergeInitial]
  | cons a rest ih =>
    cases a with
    | nil =>
      simp only [mergeInitial, ite_self]
      rw [ih]
      constructor
      · rintro ⟨t', l, rfl, h⟩; exact ⟨t' + 1, l, by omega, by simpa using h⟩
      · rintro ⟨t', l, rfl, h⟩
        cases t' with
        | zero => simp at h
        | succ k => exact ⟨k, l, by omega, by simpa using h⟩
    | cons x xs =>
      simp only [mergeInitial, List.mem_cons, Prod.mk.injEq]
      rw [ih]
      constructor
      · rintro (⟨rfl, rfl⟩ | ⟨t', l, rfl, h⟩)
        · exact ⟨0, xs, by omega, by simp⟩
        · exact ⟨t' + 1, l, by omega, by simpa using h⟩
      · rintro ⟨t', l, rfl, h⟩
        cases t' with
        | zero => simp at h; left; exact ⟨h.1.symm, by omega⟩
        | succ k => right; exact ⟨k, l, by omega, by simpa using h⟩

theorem mergeInitial_perm (ins : List (List α)) (i : Nat) :
    ((mergeInitial i ins).map Prod.fst ++ (ins.map List.tail).flatten).Perm ins.flatten := by
  induction ins generalizing i with
  | nil => simp [mergeInitial]
  | cons a rest ih =>
    cases a with
    | nil => simpa [mergeInitial] using ih (i + 1)
    | cons x xs =>
      simp only [mergeInitial, List.map_cons, List.tail_cons, List.flatten_cons, List.cons_append]
      refine List.Perm.cons x ?_
      refine List.Perm.trans ?_ (List.Perm.append_left xs (ih (i + 1)))
      rw [← List.append_assoc, ← List.append_assoc]
      exact List.Perm.append_right _ List.perm_append_comm

theorem mergeInitial_len (ins : List (List α)) (i : Nat) :
    (mergeInitial i ins).length + totalLen (ins.map List.tail) = totalLen ins := by
  induction ins generalizing i with
  | nil => simp [mergeInitial, totalLen]
  | cons a rest ih =>
    have := ih (i + 1)
    cases a with
    | nil => simp [mergeInitial, totalLen] at this ⊢; omega
    | cons x xs => simp [mergeInitial, totalLen] at this ⊢; omega

theorem mergeLoop_none (less : α → α → Bool)
    (pop : ((α × Nat) → (α × Nat) → Bool) → List (α × Nat) → Option ((α × Nat) × List (α × Nat)))
    (fuel : Nat) (ins : List (List α)) (h : List (α × Nat)) (out : List α)
    (hn : pop (fun a b => less a.1 b.1) h = none) :
    mergeLoop less pop (fuel + 1) ins h out = out := by
  simp only [mergeLoop, hn, ite_self]

theorem mergeLoop_refill (less : α → α → Bool)
    (pop : ((α × Nat) → (α × Nat) → Bool) → List (α × Nat) → Option ((α × Nat) × List (α × Nat)))
    (hp : PopSpec pop) (fuel : Nat) (ins : List (List α)) (h : List (α × Nat)) (out : List α)
    (v : α) (src : Nat) (h' : List (α × Nat)) (y : α) (ys : List α)
    (hs : pop (fun a b => less a.1 b.1) h = some ((v, src), h')) (hi : ins[src]? = some (y :: ys)) :
    mergeLoop less pop (fuel + 1) ins h out =
      mergeLoop less pop fuel (ins.set src ys) ((y, src) :: h') (out ++ [v]) := by
  have hl : ¬ ((h.length : Int) = 0) := by have := pop_length hp hs; omega
  simp only [mergeLoop, mergeEmpty, mergeRefill, mergePushes, hl, decide_false, if_true, if_false,
    Bool.false_eq_true, hs, hi]

theorem mergeLoop_emit (less : α → α → Bool)
    (pop : ((α × Nat) → (α × Nat) → Bool) → List (α × Nat) → Option ((α × Nat) × List (α × Nat)))
    (hp : PopSpec pop) (fuel : Nat) (ins : List (List α)) (h : List (α × Nat)) (out : List α)
    (v : α) (src : Nat) (h' : List (α × Nat))
    (hs : pop (fun a b => less a.1 b.1) h = some ((v, src), h'))
    (hi : ∀ y ys, ins[src]? ≠ some (y :: ys)) :
    mergeLoop less pop (fuel + 1) ins h out = mergeLoop less pop fuel ins h' (out ++ [v]) := by
  have hl : ¬ ((h.length : Int) = 0) := by have := pop_length hp hs; omega
  simp only [mergeLoop, mergeEmpty, hl, decide_false, if_false, Bool.false_eq_true, hs]

theorem totalLen_set (ins : List (List α)) (src : Nat) (y : α) (ys : List α)
    (h : ins[src]? = some (y :: ys)) : totalLen (ins.set src ys) + 1 = totalLen ins := by
  obtain ⟨h1, h2⟩ := ListStore.sum_set (f := List.length) (g := totalLen) (fun _ _ => by simp [totalLen]) h
  rw [h2, List.length_cons] at *
  omega

theorem flatten_set_perm (ins : List (List α)) (src : Nat) (y : α) (ys : List α)
    (h : ins[src]? = some (y :: ys)) : ins.flatten.Perm (y :: (ins.set src ys).flatten) := by
  induction ins generalizing src with
  | nil => simp at h
  | cons a rest ih =>
    cases src with
    | zero => simp at h; subst h; simp
    | succ k =>
      have := ih k (by simpa using h)
      simp only [List.set_cons_succ, List.flatten_cons]
      exact (List.Perm.append_left a this).trans List.perm_middle

/-- every non-empty remaining input is represented in the heap -/
def Covered (ins : List (List α)) (h : List (α × Nat)) : Prop :=
  ∀ t y ys, ins[t]? = some (y :: ys) → ∃ v, (v, t) ∈ h

theorem covered_refill {ins : List (List α)} {h h' : List (α × Nat)} {v : α} {src : Nat} {y : α} {ys : List α}
    (hc : Covered ins h) (hperm : h.Perm ((v, src) :: h')) :
    Covered (ins.set src ys) ((y, src) :: h') := by
  intro t z zs ht
  by_cases hts : src = t
  · subst hts; exact ⟨y, by simp⟩
  · rw [List.getElem?_set_ne hts] at ht
    obtain ⟨w, hw⟩ := hc t z zs ht
    have := hperm.mem_iff.mp hw
    simp only [List.mem_cons, Prod.mk.injEq] at this
    rcases this with ⟨_, h2⟩ | h2
    · exact absurd h2.symm hts
    · exact ⟨w, List.mem_cons_of_mem _ h2⟩

theorem covered_emit {ins : List (List α)} {h h' : List (α × Nat)} {v : α} {src : Nat}
    (hc : Covered ins h) (hperm : h.Perm ((v, src) :: h'))
    (hi : ∀ y ys, ins[src]? ≠ some (y :: ys)) : Covered ins h' := by
  intro t z zs ht
  obtain ⟨w, hw⟩ := hc t z zs ht
  have := hperm.mem_iff.mp hw
  simp only [List.mem_cons, Prod.mk.injEq] at this
  rcases this with ⟨_, h2⟩ | h2
  · subst h2; exact absurd ht (hi z zs)
  · exact ⟨w, h2⟩

theorem covered_nil_flatten {ins : List (List α)} (hc : Covered ins []) : ins.flatten = [] := by
  rw [List.flatten_eq_nil_iff]
  intro l hl
  obtain ⟨t, ht⟩ := List.mem_iff_getElem?.mp hl
  cases l with
  | nil => rfl
  | cons y ys => obtain ⟨_, hv⟩ := hc t y ys ht; cases hv

theorem mergeLoop_perm (less : α → α → Bool)
    (pop : ((α × Nat) → (α × Nat) → Bool) → List (α × Nat) → Option ((α × Nat) × List (α × Nat)))
    (hp : PopSpec pop) : ∀ (fuel : Nat) (ins : List (List α)) (h : List (α × Nat)) (out : List α),
    h.length + totalLen ins < fuel → Covered ins h →
    (mergeLoop less pop fuel ins h out).Perm (out ++ (h.map Prod.fst ++ ins.flatten))
  | 0, _, _, _, hf, _ => by omega
  | fuel + 1, ins, h, out, hf, hc => by
    cases hpop : pop (fun a b => less a.1 b.1) h with
    | none =>
      rw [mergeLoop_none _ _ _ _ _ _ hpop]
      have h0 := (hp.none_iff _ _).mp hpop
      subst h0
      simp [covered_nil_flatten hc]
    | some p =>
      obtain ⟨⟨v, src⟩, h'⟩ := p
      have hperm := hp.perm _ _ _ _ hpop
      have hlen := pop_length hp hpop
      have hmap : (h.map Prod.fst).Perm (v :: h'.map Prod.fst) := by
        simpa using hperm.map Prod.fst
      by_cases hi : ∃ y ys, ins[src]? = some (y :: ys)
      · obtain ⟨y, ys, hi⟩ := hi
        rw [mergeLoop_refill less pop hp fuel ins h out v src h' y ys hpop hi]
        have htl := totalLen_set ins src y ys hi
        refine (mergeLoop_perm less pop hp fuel _ _ _ ?_ (covered_refill hc hperm)).trans ?_
        · simp only [List.length_cons]; omega
        · rw [List.append_assoc]
          refine List.Perm.append_left out ?_
          have h1 : (h.map Prod.fst ++ ins.flatten).Perm
              ((v :: h'.map Prod.fst) ++ (y :: (ins.set src ys).flatten)) :=
            List.Perm.append hmap (flatten_set_perm ins src y ys hi)
          refine List.Perm.trans ?_ h1.symm
          simp only [List.map_cons, List.cons_append, List.nil_append]
          exact List.Perm.cons v List.perm_middle.symm
      · have hi' : ∀ y ys, ins[src]? ≠ some (y :: ys) := fun y ys hh => hi ⟨y, ys, hh⟩
        rw [mergeLoop_emit less pop hp fuel ins h out v src h' hpop hi']
        refine (mergeLoop_perm less pop hp fuel _ _ _ ?_ (covered_emit hc hperm hi')).trans ?_
        · omega
        · rw [List.append_assoc]
          refine List.Perm.append_left out ?_
          simp only [List.cons_append, List.nil_append]
          exact (List.Perm.append_right _ hmap).symm

theorem lifted_strictWeak {less : α → α → Bool} (hw : StrictWeak less) :
    StrictWeak (fun (a b : α × Nat) => less a.1 b.1) :=
  ⟨fun a => hw.irrefl a.1, fun a b c => hw.trans a.1 b.1 c.1, fun a b c => hw.negTrans a.1 b.1 c.1⟩

/-- invariant of `mergeLoop` on sorted inputs: nothing left in an input is less than an item of that input in the heap
(`head_le`); the output is sorted and nothing in the heap is less than anything already put out (`out_le`) -/
structure MergeInv (less : α → α → Bool) (ins : List (List α)) (h : List (α × Nat)) (out : List α) : Prop where
  ins_sorted : ∀ l ∈ ins, SortedBy less l
  head_le : ∀ v t l, (v, t) ∈ h → ins[t]? = some l → ∀ y ∈ l, less y v = false
  out_sorted : SortedBy less out
  out_le : ∀ x ∈ out, ∀ p ∈ h, less p.1 x = false

section
variable {less : α → α → Bool}
  {pop : ((α × Nat) → (α × Nat) → Bool) → List (α × Nat) → Option ((α × Nat) × List (α × Nat))}
  {ins : List (List α)} {h h' : List (α × Nat)} {out : List α} {v : α} {src : Nat}

theorem MergeInv.out_snoc (inv : MergeInv less ins h out) (hv : (v, src) ∈ h) : SortedBy less (out ++ [v]) :=
  List.pairwise_append.mpr ⟨inv.out_sorted, List.pairwise_singleton _ _,
    fun a ha _ hb => List.mem_singleton.mp hb ▸ inv.out_le a ha _ hv⟩

theorem MergeInv.refill (hp : PopSpec pop) (hw : StrictWeak less) (inv : MergeInv less ins h out)
    (hpop : pop (fun a b => less a.1 b.1) h = some ((v, src), h')) {y : α} {ys : List α}
    (hi : ins[src]? = some (y :: ys)) : MergeInv less (ins.set src ys) ((y, src) :: h') (out ++ [v]) := by
  have hperm := hp.perm _ _ _ _ hpop
  have hmin := hp.min _ (lifted_strictWeak hw) _ _ _ hpop
  have hvmem : (v, src) ∈ h := hperm.mem_iff.mpr List.mem_cons_self
  have hsub : ∀ p ∈ h', p ∈ h := fun p hp' => hperm.mem_iff.mpr (List.mem_cons_of_mem _ hp')
  have hsrc := List.pairwise_cons.mp (inv.ins_sorted _ (List.mem_of_getElem? hi))
  have hyv : less y v = false := inv.head_le v src _ hvmem hi y List.mem_cons_self
  refine ⟨fun l hl => ?_, fun w t l hwt hl z hz => ?_, inv.out_snoc hvmem,
    fun x hx p hp' => ?_⟩
  · rcases List.mem_or_eq_of_mem_set hl with hl | rfl
    · exact inv.ins_sorted l hl
    · exact hsrc.2
  · by_cases hts : src = t
    · subst hts
      rw [List.getElem?_set_self (List.getElem?_eq_some_iff.mp hi).1] at hl
      cases hl
      rcases List.mem_cons.mp hwt with e | hwt
      · cases e; exact hsrc.1 z hz
      · exact inv.head_le w src _ (hsub _ hwt) hi z (List.mem_cons_of_mem _ hz)
    · rw [List.getElem?_set_ne hts] at hl
      rcases List.mem_cons.mp hwt with e | hwt
      · cases e; exact absurd rfl hts
      · exact inv.head_le w t l (hsub _ hwt) hl z hz
  · rcases List.mem_append.mp hx with hx | hx
    · rcases List.mem_cons.mp hp' with rfl | hp'
      · exact hw.negTrans _ _ _ hyv (inv.out_le x hx _ hvmem)
      · exact inv.out_le x hx p (hsub p hp')
    · cases List.mem_singleton.mp hx
      rcases List.mem_cons.mp hp' with rfl | hp'
      · exact hyv
      · exact hmin p hp'

theorem MergeInv.emit (hp : PopSpec pop) (hw : StrictWeak less) (inv : MergeInv less ins h out)
    (hpop : pop (fun a b => less a.1 b.1) h = some ((v, src), h')) : MergeInv less ins h' (out ++ [v]) := by
  have hperm := hp.perm _ _ _ _ hpop
  have hvmem : (v, src) ∈ h := hperm.mem_iff.mpr List.mem_cons_self
  have hsub : ∀ p ∈ h', p ∈ h := fun p hp' => hperm.mem_iff.mpr (List.mem_cons_of_mem _ hp')
  refine ⟨inv.ins_sorted, fun w t l hwt => inv.head_le w t l (hsub _ hwt), inv.out_snoc hvmem, fun x hx p hp' => ?_⟩
  rcases List.mem_append.mp hx with hx | hx
  · exact inv.out_le x hx p (hsub p hp')
  · cases List.mem_singleton.mp hx
    exact hp.min _ (lifted_strictWeak hw) _ _ _ hpop p hp'

theorem mergeLoop_sorted (hp : PopSpec pop) (hw : StrictWeak less) :
    ∀ (fuel : Nat) (ins : List (List α)) (h : List (α × Nat)) (out : List α),
    MergeInv less ins h out → SortedBy less (mergeLoop less pop fuel ins h out)
  | 0, _, _, _, inv => by simpa [mergeLoop] using inv.out_sorted
  | fuel + 1, ins, h, out, inv => by
    cases hpop : pop (fun a b => less a.1 b.1) h with
    | none => rw [mergeLoop_none _ _ _ _ _ _ hpop]; exact inv.out_sorted
    | some p =>
      obtain ⟨⟨v, src⟩, h'⟩ := p
      by_cases hi : ∃ y ys, ins[src]? = some (y :: ys)
      · obtain ⟨y, ys, hi⟩ := hi
        rw [mergeLoop_refill less pop hp fuel ins h out v src h' y ys hpop hi]
        exact mergeLoop_sorted hp hw fuel _ _ _ (inv.refill hp hw hpop hi)
      · have hi' : ∀ y ys, ins[src]? ≠ some (y :: ys) := fun y ys hh => hi ⟨y, ys, hh⟩
        rw [mergeLoop_emit less pop hp fuel ins h out v src h' hpop hi']
        exact mergeLoop_sorted hp hw fuel _ _ _ (inv.emit hp hw hpop)

theorem covered_mergeInitial (ins : List (List α)) : Covered (ins.map List.tail) (mergeInitial 0 ins) := by
  intro t y ys ht
  rw [List.getElem?_map] at ht
  cases hit : ins[t]? with
  | none => simp [hit] at ht
  | some l =>
    cases l with
    | nil => simp [hit] at ht
    | cons x xs => exact ⟨x, (mem_mergeInitial ins 0 x t).mpr ⟨t, xs, by omega, hit⟩⟩

theorem MergeInv.init (ins : List (List α)) (hs : ∀ l ∈ ins, SortedBy less l) :
    MergeInv less (ins.map List.tail) (mergeInitial 0 ins) [] := by
  refine ⟨fun l hl => ?_, fun v t l hvt hl y hy => ?_, List.Pairwise.nil, by simp⟩
  · obtain ⟨l0, hl0, rfl⟩ := List.mem_map.mp hl
    exact List.Pairwise.tail (hs l0 hl0)
  · obtain ⟨t', xs, ht, hit⟩ := (mem_mergeInitial ins 0 v t).mp hvt
    obtain rfl : t' = t := by omega
    rw [List.getElem?_map, hit] at hl
    cases hl
    exact (List.pairwise_cons.mp (hs _ (List.mem_of_getElem? hit))).1 y hy

end

theorem merge_sorted_perm (less : α → α → Bool)
    (pop : ((α × Nat) → (α × Nat) → Bool) → List (α × Nat) → Option ((α × Nat) × List (α × Nat)))
    (hp : PopSpec pop) (ins : List (List α)) :
    (merge less pop ins).Perm ins.flatten ∧
    (StrictWeak less → (∀ l ∈ ins, SortedBy less l) → SortedBy less (merge less pop ins)) := by
  refine ⟨?_, fun hw hs => mergeLoop_sorted hp hw _ _ _ _ (MergeInv.init ins hs)⟩
  unfold merge
  refine (mergeLoop_perm less pop hp _ _ _ _ ?_ (covered_mergeInitial ins)).trans ?_
  · have := mergeInitial_len ins 0; omega
  · simpa using mergeInitial_perm ins 0

theorem msSum_eq (ins : List (List α)) (n : Int) :
    ins.foldl (fun n l => if msSumBody = ["n += len(in[i])"] then n + (l.length : Int) else n) n =
      n + ((ins.map List.length).sum : Int) := by
  induction ins generalizing n with
  | nil => simp
  | cons l ls ih =>
    rw [List.foldl_cons, ih]
    have : msSumBody = ["n += len(in[i])"] := rfl
    simp only [this, ↓reduceIte, List.map_cons, List.sum_cons]
    omega

theorem mergeSlices_reuse (less : α → α → Bool)
    (pop : ((α × Nat) → (α × Nat) → Bool) → List (α × Nat) → Option ((α × Nat) × List (α × Nat)))
    (outCap : Int) (hc : 0 ≤ outCap) (ins : List (List α)) :
    (mergeSlices less pop outCap ins).2 = true ↔ ((ins.map List.length).sum : Int) ≤ outCap := by
  simp only [mergeSlices, msSum_eq, msN0, msGrowN, msGrowHi, Model.Stdlib.grow, Model.Stdlib.Sl.cap]
  have h0 : ¬ ((0 : Int) + ((ins.map List.length).sum : Int) < 0) := by omega
  simp only [h0, ↓reduceIte, List.length_replicate]
  by_cases h : (0 : Int).toNat + ((0 : Int) + ((ins.map List.length).sum : Int)).toNat ≤ outCap.toNat
  · rw [if_pos h]
    simp only [Bool.not_false, true_iff]
    omega
  · rw [if_neg h]
    have hne : ¬ ((ins.map List.length).sum : Int) ≤ outCap := fun hle => h (by omega)
    simp only [Int.zero_add, gt_iff_lt]
    by_cases hal : Model.Stdlib.allocLimit < ((ins.map List.length).sum : Int) <;> simp [hal, hne]

end Juniper.Proofs.Helpers
