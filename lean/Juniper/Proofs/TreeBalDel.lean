import Juniper.Proofs.TreeNodeOps
/-!
# Balance and occupancy of the B-tree model are preserved by `Delete` (C03)

`fixChild` (`steal` + `merge`) on top of the node operations of `Proofs/TreeNodeOps.lean` (`fixChild_cases`: which of them it
performs, `fixChild_bal`: what that achieves), then `finish` and `removeMax`.
-/
namespace Juniper.Proofs.Tree
open Juniper.Model.BTree Juniper.Gen.Tree

variable {K V : Type}

theorem fixChild_eq (kvs : List (K × V)) (kids : List (Node K V)) (j : Nat) :
    fixChild kvs kids j =
      (let left? : Option (Node K V) := if 0 < j then kids[j - 1]? else none
       let right? : Option (Node K V) := if j < kvs.length then kids[j + 1]? else none
       let ln : Int := match left? with | some l => l.n | none => 0
       let rn : Int := match right? with | some r => r.n | none => 0
       if right?.isSome ∧ rn > minKVs then (rotateLeftAt kvs kids j).map fun r => (r.1, r.2, none)
       else if left?.isSome ∧ ln > minKVs then (rotateRightAt kvs kids (j - 1)).map fun r => (r.1, r.2, none)
       else if left?.isSome ∧ ln ≤ minKVs then (mergeAt kvs kids (j - 1)).map fun r => (r.1, r.2, some (j - 1))
       else match right? with
         | none => none
         | some _ => (mergeAt kvs kids j).map fun r => (r.1, r.2, some j)) := by
  have e1 : ((j : Int) - 1).toNat = j - 1 := by omega
  have e2 : ((j : Int) + 1).toNat = j + 1 := by omega
  by_cases hj : 0 < j
  · simp only [fixChild, repairCall_stealRight, repairCall_stealLeft _ _ hj, repairCall_mergeLeft _ _ hj,
      repairCall_mergeRight, hasLeftSibling, hasRightSibling, leftSiblingIdx, rightSiblingIdx, stealRight, stealLeft,
      mergeIntoLeft, e1, e2, Bool.and_eq_true, decide_eq_true_eq, Int.natCast_pos, Int.ofNat_lt, gt_iff_lt]
    rfl
  · have hj0 : j = 0 := by omega
    subst hj0
    simp only [fixChild, repairCall_stealRight, repairCall_mergeRight, hasLeftSibling, hasRightSibling, leftSiblingIdx,
      rightSiblingIdx, stealRight, stealLeft, mergeIntoLeft, e2, Bool.and_eq_true, decide_eq_true_eq, Int.ofNat_lt,
      gt_iff_lt, Int.natCast_pos, Nat.lt_irrefl, if_false, Option.isSome_none, Bool.false_eq_true, false_and,
      decide_false]
    rfl

/-- which of the three operations `fixChild` performs for the underfull child `j`, at which pair, under which guard:
steal from the right sibling, else from the left one, else merge into the left one, else (leftmost child) with the
right one -/
def FixCase (kvs : List (K × V)) (kids : List (Node K V)) (j : Nat) : Prop :=
  (∃ R, kids[j + 1]? = some R ∧ R.n > minKVs ∧
    fixChild kvs kids j = (rotateLeftAt kvs kids j).map fun r => (r.1, r.2, none)) ∨
  (∃ L, 0 < j ∧ kids[j - 1]? = some L ∧ (∀ R, kids[j + 1]? = some R → R.n ≤ minKVs) ∧
    ((L.n > minKVs ∧ fixChild kvs kids j = (rotateRightAt kvs kids (j - 1)).map fun r => (r.1, r.2, none)) ∨
     (L.n ≤ minKVs ∧ fixChild kvs kids j = (mergeAt kvs kids (j - 1)).map fun r => (r.1, r.2, some (j - 1))))) ∨
  (∃ R, j = 0 ∧ kids[j + 1]? = some R ∧ R.n ≤ minKVs ∧
    fixChild kvs kids j = (mergeAt kvs kids j).map fun r => (r.1, r.2, some j))

theorem fixChild_cases {kvs : List (K × V)} {kids : List (Node K V)} {j : Nat} {X : Node K V}
    (hlen : kids.length = kvs.length + 1) (hX : kids[j]? = some X) (hkv : 1 ≤ kvs.length) : FixCase kvs kids j := by
  have hj : j < kids.length := (List.getElem?_eq_some_iff.mp hX).1
  -- the left sibling decides when the right one is missing or cannot spare an entry
  have left : (∀ R, kids[j + 1]? = some R → R.n ≤ minKVs) → 0 < j →
      (∀ L, kids[j - 1]? = some L → L.n > minKVs →
        fixChild kvs kids j = (rotateRightAt kvs kids (j - 1)).map fun r => (r.1, r.2, none)) →
      (∀ L, kids[j - 1]? = some L → L.n ≤ minKVs →
        fixChild kvs kids j = (mergeAt kvs kids (j - 1)).map fun r => (r.1, r.2, some (j - 1))) → FixCase kvs kids j := by
    intro hR hl h1 h2
    obtain ⟨L, hL⟩ : ∃ L, kids[j - 1]? = some L := ⟨_, List.getElem?_eq_getElem (by omega)⟩
    by_cases hln : L.n > minKVs
    · exact Or.inr (Or.inl ⟨L, hl, hL, hR, Or.inl ⟨hln, h1 L hL hln⟩⟩)
    · exact Or.inr (Or.inl ⟨L, hl, hL, hR, Or.inr ⟨by omega, h2 L hL (by omega)⟩⟩)
  by_cases hr : j < kvs.length
  · obtain ⟨R, hR⟩ : ∃ R, kids[j + 1]? = some R := ⟨_, List.getElem?_eq_getElem (by omega)⟩
    by_cases hrn : R.n > minKVs
    · exact Or.inl ⟨R, hR, hrn, by rw [fixChild_eq]; simp [hr, hR, hrn]⟩
    · have hR' : ∀ R', kids[j + 1]? = some R' → R'.n ≤ minKVs := fun R' h => by cases hR.symm.trans h; omega
      by_cases hl : 0 < j
      · exact left hR' hl (fun L hL hln => by rw [fixChild_eq]; simp [hr, hR, hrn, hl, hL, hln])
          (fun L hL hln => by rw [fixChild_eq]; simp [hr, hR, hrn, hl, hL, hln, Int.not_lt.mpr hln])
      · exact Or.inr (Or.inr ⟨R, by omega, hR, by omega, by rw [fixChild_eq]; simp [hr, hR, hrn, hl]⟩)
  · have hR' : ∀ R', kids[j + 1]? = some R' → R'.n ≤ minKVs := fun R' h => by
      have := (List.getElem?_eq_some_iff.mp h).1; omega
    have hl : 0 < j := by omega
    exact left hR' hl (fun L hL hln => by rw [fixChild_eq]; simp [hr, hl, hL, hln])
      (fun L hL hln => by rw [fixChild_eq]; simp [hr, hl, hL, hln, Int.not_lt.mpr hln])


/-- postcondition of `fixChild` -/
structure FixOK (h : Nat) (kvs : List (K × V)) (kvs' : List (K × V)) (kids' : List (Node K V)) (m : Option Nat) : Prop where
  len : kids'.length = kvs'.length + 1
  all : ∀ c ∈ kids', Bal h c ∧ Occ c
  keep : m = none → kvs'.length = kvs.length
  merged : ∀ a, m = some a → kvs'.length + 1 = kvs.length ∧ ∃ Lm, kids'[a]? = some Lm

theorem fixOK_rot {h : Nat} {kvs kvs' : List (K × V)} {kids kids' : List (Node K V)} {a : Nat} {L' R' : Node K V}
    (hlen : kids.length = kvs.length + 1) (ha : a + 1 < kids.length)
    (hout : ∀ c ∈ kids.take a ++ kids.drop (a + 2), Bal h c ∧ Occ c)
    (hp : PairFix h kvs kids a kvs' kids' L' R') (hoL : Occ L') (hoR : Occ R') : FixOK h kvs kvs' kids' none := by
  refine ⟨by rw [hp.kidsEq, hp.kvsLen]; simp; omega, ?_, fun _ => hp.kvsLen, fun a ha => (by cases ha)⟩
  rw [hp.kidsEq]
  intro c hc
  simp only [List.mem_append, List.mem_cons] at hc
  rcases hc with hc | rfl | rfl | hc
  · exact hout c (List.mem_append_left _ hc)
  · exact ⟨hp.balL, hoL⟩
  · exact ⟨hp.balR, hoR⟩
  · exact hout c (List.mem_append_right _ hc)

theorem fixOK_merge {h : Nat} {kvs kvs' : List (K × V)} {kids kids' : List (Node K V)} {a : Nat} {Lm : Node K V}
    (hlen : kids.length = kvs.length + 1) (ha : a + 1 < kids.length)
    (hout : ∀ c ∈ kids.take a ++ kids.drop (a + 2), Bal h c ∧ Occ c)
    (hkl : kvs'.length + 1 = kvs.length) (hke : kids' = kids.take a ++ Lm :: kids.drop (a + 2))
    (hb : Bal h Lm) (ho : Occ Lm) : FixOK h kvs kvs' kids' (some a) := by
  refine ⟨by rw [hke]; simp; omega, ?_, fun hh => (by cases hh), fun a' ha' => ?_⟩
  · rw [hke]
    intro c hc
    simp only [List.mem_append, List.mem_cons] at hc
    rcases hc with hc | rfl | hc
    · exact hout c (List.mem_append_left _ hc)
    · exact ⟨hb, ho⟩
    · exact hout c (List.mem_append_right _ hc)
  · cases ha'
    refine ⟨hkl, Lm, ?_⟩
    have htl : (kids.take a).length = a := by simp; omega
    rw [hke, List.getElem?_append_right (by omega), htl]
    simp

/-- preconditions of `fixChild` for child `j` of a node whose other children are fine -/
structure NeedsFix (h : Nat) (kvs : List (K × V)) (kids : List (Node K V)) (j : Nat) : Prop where
  len : kids.length = kvs.length + 1
  bal : ∀ c ∈ kids, Bal h c
  pre : ∀ c ∈ kids.take j, Occ c
  post : ∀ c ∈ kids.drop (j + 1), Occ c
  under : ∃ X, kids[j]? = some X ∧ X.n + 1 = minKVs

/-- `steal` / `merge` for the underfull child `j` (one entry short): a sibling that can spare an entry gives
one through the parent (right sibling first), else `(minKVs − 1) + 1 + minKVs ≤ maxKVs` entries fit into one
node. The parent's in-order list is unchanged and no identity is new. -/
theorem fixChild_bal {h : Nat} {kvs : List (K × V)} {kids : List (Node K V)} {j : Nat}
    (hf : NeedsFix h kvs kids j) (hkv : 1 ≤ kvs.length) :
    ∃ kvs' kids' m, fixChild kvs kids j = some (kvs', kids', m) ∧ FixOK h kvs kvs' kids' m ∧
      (∀ id, toList (.mk id kvs' kids') = toList (.mk id kvs kids)) ∧ ∀ i, cntK i kids' ≤ cntK i kids := by
  obtain ⟨hlen, hbal, hpre, hpost, X, hX, hXn⟩ := hf
  obtain ⟨c1, c2, -⟩ := consts
  have hj : j < kids.length := (List.getElem?_eq_some_iff.mp hX).1
  have hbX := hbal X (List.mem_of_getElem? hX)
  have out : ∀ a, a ≤ j → j ≤ a + 1 → ∀ c ∈ kids.take a ++ kids.drop (a + 2), Bal h c ∧ Occ c := by
    intro a h1 h2 c hc
    rcases List.mem_append.mp hc with hc | hc
    · exact ⟨hbal c (List.mem_of_mem_take hc), hpre c (List.take_subset_take_left _ h1 hc)⟩
    · exact ⟨hbal c (List.mem_of_mem_drop hc), hpost c (List.drop_subset_drop_left _ (by omega) hc)⟩
  have occR : ∀ {R}, kids[j + 1]? = some R → Bal h R ∧ minKVs ≤ R.n ∧ R.n ≤ maxKVs := fun hR =>
    ⟨hbal _ (List.mem_of_getElem? hR), hpost _ (by rw [drop_one hR]; exact List.mem_cons_self)⟩
  have occL : ∀ {L}, 0 < j → kids[j - 1]? = some L → Bal h L ∧ minKVs ≤ L.n ∧ L.n ≤ maxKVs ∧ kids[j - 1 + 1]? = some X := by
    intro L hl hL
    have hm : L ∈ kids.take j := by
      apply List.mem_of_getElem? (i := j - 1); rw [List.getElem?_take]; simp [hL]; omega
    exact ⟨hbal _ (List.mem_of_getElem? hL), (hpre _ hm).1, (hpre _ hm).2, by rw [Nat.sub_add_cancel hl]; exact hX⟩
  rcases fixChild_cases hlen hX hkv with ⟨R, hR, hrn, he⟩ | ⟨L, hl, hL, -, ⟨hln, he⟩ | ⟨hln, he⟩⟩ | ⟨R, rfl, hR, hrn, he⟩
  · obtain ⟨hbR, r1, r2⟩ := occR hR
    have hj1 := (List.getElem?_eq_some_iff.mp hR).1
    obtain ⟨kvs', kids', L', R', e, hp, hn1, hn2⟩ := rotateLeftAt_spec hlen hX hR hbX hbR (by omega)
    exact ⟨kvs', kids', none, by rw [he, e]; rfl, fixOK_rot hlen (by omega) (out j (by omega) (by omega)) hp
      (by simp only [Occ]; omega) (by simp only [Occ]; omega), hp.list, fun i => Nat.le_of_eq (hp.cnt i)⟩
  · obtain ⟨hbL, l1, l2, hX'⟩ := occL hl hL
    obtain ⟨kvs', kids', L', R', e, hp, hn1, hn2⟩ := rotateRightAt_spec hlen hL hX' hbL hbX (by omega)
    exact ⟨kvs', kids', none, by rw [he, e]; rfl, fixOK_rot hlen (by omega) (out _ (by omega) (by omega)) hp
      (by simp only [Occ]; omega) (by simp only [Occ]; omega), hp.list, fun i => Nat.le_of_eq (hp.cnt i)⟩
  · obtain ⟨hbL, l1, l2, hX'⟩ := occL hl hL
    obtain ⟨kvs', kids', L', e, hkl, hke, hbl, hn, hlist, hcn⟩ := mergeAt_spec hlen hL hX' hbL hbX
    exact ⟨kvs', kids', some (j - 1), by rw [he, e]; rfl,
      fixOK_merge hlen (by omega) (out _ (by omega) (by omega)) hkl hke hbl (by simp only [Occ]; omega), hlist, hcn⟩
  · obtain ⟨hbR, r1, r2⟩ := occR hR
    have hj1 := (List.getElem?_eq_some_iff.mp hR).1
    obtain ⟨kvs', kids', L', e, hkl, hke, hbl, hn, hlist, hcn⟩ := mergeAt_spec hlen hX hR hbX hbR
    exact ⟨kvs', kids', some 0, by rw [he, e]; rfl,
      fixOK_merge hlen (by omega) (out 0 (by omega) (by omega)) hkl hke hbl (by simp only [Occ]; omega), hlist, hcn⟩

def NoId (r : Nat) (x : Node K V) : Prop := r ∉ ids x

theorem noId_mk {r id : Nat} {kvs : List (K × V)} {kids : List (Node K V)} :
    NoId r (.mk id kvs kids) ↔ id ≠ r ∧ ∀ c ∈ kids, NoId r c := by
  simp only [NoId, ids, List.mem_cons, List.mem_flatten, List.mem_map]
  constructor
  · intro h
    exact ⟨fun e => h (Or.inl e.symm), fun c hc hr => h (Or.inr ⟨ids c, ⟨c, hc, rfl⟩, hr⟩)⟩
  · rintro ⟨h1, h2⟩ (e | ⟨l, ⟨c, hc, rfl⟩, hr⟩)
    · exact h1 e.symm
    · exact h2 c hc hr

/-- outcome for a subtree that is not the root: still balanced, at most one entry short -/
def SubOK (h : Nat) (x' : Node K V) (u : Bool) : Prop :=
  Bal h x' ∧ x'.n ≤ maxKVs ∧ (u = false → minKVs ≤ x'.n) ∧ (u = true → x'.n + 1 = minKVs)

/-- outcome for the root: what `BalTree` asks of the tree it is the root of -/
def RootOK (x' : Node K V) : Prop := ∃ h, Bal h x' ∧ x'.n ≤ maxKVs ∧ (0 < h → 1 ≤ x'.n)

theorem needsFix_replace {h id : Nat} {kvs : List (K × V)} {kids : List (Node K V)} {j : Nat} {c c' : Node K V}
    (hb : Bal (h + 1) (.mk id kvs kids)) (hc : kids[j]? = some c) (hb' : Bal h c') (hn : c'.n + 1 = minKVs) :
    NeedsFix h kvs (replaceAt kids j c') j := by
  obtain ⟨hlen, hall⟩ := bal_succ.mp hb
  have hj : j < kids.length := (List.getElem?_eq_some_iff.mp hc).1
  refine ⟨by rw [length_replaceAt _ _ _ hj]; exact hlen, ?_, ?_, ?_, c', replaceAt_getElem? c' hj, hn⟩
  · intro d hd
    rcases mem_replaceAt hd with rfl | hd
    · exact hb'
    · exact (hall d hd).1
  · rw [replaceAt_take c' hj]; intro d hd; exact (hall d (List.mem_of_mem_take hd)).2
  · rw [replaceAt_drop c' hj]; intro d hd; exact (hall d (List.mem_of_mem_drop hd)).2

theorem finish_sub {h rootId id : Nat} {kvs : List (K × V)} {kids : List (Node K V)} {j : Nat}
    (hf : NeedsFix h kvs kids j) (hid : id ≠ rootId) (hlo : minKVs ≤ (kvs.length : Int))
    (hhi : (kvs.length : Int) ≤ maxKVs) :
    ∃ x' u, finish rootId id kvs kids j = .done x' u ∧ SubOK (h + 1) x' u ∧ toList x' = toList (.mk id kvs kids) ∧
      ∀ i, cnt i x' ≤ cnt i (.mk id kvs kids) := by
  have c1 := consts.1
  obtain ⟨kvs', kids', m, he, hok, hlist, hcn⟩ := fixChild_bal hf (by omega)
  cases m with
  | none =>
    have := hok.keep rfl
    refine ⟨.mk id kvs' kids', false, by simp [finish, he], ⟨bal_succ.mpr ⟨hok.len, hok.all⟩, ?_, ?_, by simp⟩, hlist id, cnt_mk_le hcn _ _ _⟩
    · simp only [node_n]; omega
    · intro _; simp only [node_n]; omega
  | some a =>
    obtain ⟨hl, _⟩ := hok.merged a rfl
    have hid' : ¬ ((id : Int) = (rootId : Int)) := by omega
    refine ⟨.mk id kvs' kids', mergeCascades kvs'.length false, by simp [finish, he, mergeRootCheck, hid'],
      ⟨bal_succ.mpr ⟨hok.len, hok.all⟩, ?_, ?_, ?_⟩, hlist id, cnt_mk_le hcn _ _ _⟩
    · simp only [node_n]; omega
    · simp only [mergeCascades, node_n]; simp <;> omega
    · simp only [mergeCascades, node_n]; simp <;> omega

/-- at the root nothing cascades further; a root left without entries is replaced by its only child -/
theorem finish_root {h rootId : Nat} {kvs : List (K × V)} {kids : List (Node K V)} {j : Nat}
    (hf : NeedsFix h kvs kids j) (hlo : 1 ≤ kvs.length) (hhi : (kvs.length : Int) ≤ maxKVs) :
    ∃ x', finish rootId rootId kvs kids j = .done x' false ∧ RootOK x' ∧ toList x' = toList (.mk rootId kvs kids) ∧
      ∀ i, cnt i x' ≤ cnt i (.mk rootId kvs kids) := by
  obtain ⟨kvs', kids', m, he, hok, hlist, hcn⟩ := fixChild_bal hf hlo
  cases m with
  | none =>
    have := hok.keep rfl
    refine ⟨.mk rootId kvs' kids', by simp [finish, he], ⟨h + 1, bal_succ.mpr ⟨hok.len, hok.all⟩, ?_, ?_⟩, hlist _, cnt_mk_le hcn _ _ _⟩
    · simp only [node_n]; omega
    · intro _; simp only [node_n]; omega
  | some a =>
    obtain ⟨hl, Lm, hLm⟩ := hok.merged a rfl
    by_cases h0 : kvs'.length = 0
    · refine ⟨Lm, by simp [finish, he, mergeRootCheck, mergeRootEmpty, mergeCollapseSetsRoot, h0, hLm], ?_, ?_,
        fun i => by have := cntK_at hLm i; have := hcn i; simp only [cnt_mk]; omega⟩
      · have := hok.all Lm (List.mem_of_getElem? hLm)
        exact ⟨h, this.1, this.2.2, fun _ => by have := this.2.1; have := consts.1; omega⟩
      · -- no entry and therefore exactly one child left
        obtain rfl : kvs' = [] := List.length_eq_zero_iff.mp h0
        obtain ⟨c, rfl⟩ := List.length_eq_one_iff.mp hok.len
        obtain rfl : a = 0 := by have := (List.getElem?_eq_some_iff.mp hLm).1; simp at this; omega
        obtain rfl : c = Lm := by simpa using hLm
        rw [← hlist rootId, toList_mk]; simp [inorder]
    · refine ⟨.mk rootId kvs' kids', by simp [finish, he, mergeRootCheck, mergeRootEmpty, h0],
        ⟨h + 1, bal_succ.mpr ⟨hok.len, hok.all⟩, ?_, ?_⟩, hlist _, cnt_mk_le hcn _ _ _⟩
      · simp only [node_n]; omega
      · intro _; simp only [node_n]; omega

def DelOK (h : Nat) (isRoot : Bool) : DelRes K V → Prop
  | .absent => True
  | .crash => False
  | .done x' u => if isRoot then RootOK x' ∧ u = false else SubOK h x' u

/-- `merge` tells the root by `parent == t.root`, the model by comparing identities (`mergeRootCheck`): hence `rootId`,
which no node below the root may carry (`kidsNoId`) -/
structure DelPre (rootId h : Nat) (isRoot : Bool) (x : Node K V) : Prop where
  bal : Bal h x
  hi : x.n ≤ maxKVs
  kidsNoId : ∀ c ∈ x.kids, NoId rootId c
  rootCase : isRoot = true → x.id = rootId ∧ (0 < h → 1 ≤ x.n)
  subCase : isRoot = false → x.id ≠ rootId ∧ minKVs ≤ x.n

/-- the common ending of the inner cases of `del`: child `i` came back as `c'`, possibly one entry short -/
theorem del_finish {rootId h id : Nat} {isRoot : Bool} {kvs kvs1 : List (K × V)} {kids : List (Node K V)} {i : Nat}
    {c c' : Node K V} {under : Bool}
    (hp : DelPre rootId (h + 1) isRoot (.mk id kvs kids)) (hlen1 : kvs1.length = kvs.length)
    (hc : kids[i]? = some c) (hs : SubOK h c' under) :
    ∃ x' u, (if !under then DelRes.done (.mk id kvs1 (replaceAt kids i c')) false
        else finish rootId id kvs1 (replaceAt kids i c') i) = .done x' u ∧
      DelOK (h + 1) isRoot (.done x' u) ∧ toList x' = toList (.mk id kvs1 (replaceAt kids i c')) ∧
      ∀ j, cnt j x' ≤ cnt j (.mk id kvs1 (replaceAt kids i c')) := by
  obtain ⟨hb', hmx, hmn, hmu⟩ := hs
  have hb1 : Bal (h + 1) (.mk id kvs1 kids) := by
    have := bal_succ.mp hp.bal
    exact bal_succ.mpr ⟨by rw [hlen1]; exact this.1, this.2⟩
  have hhi := hp.hi
  simp only [node_n] at hhi
  cases under with
  | false =>
    refine ⟨_, _, rfl, ?_, rfl, fun _ => Nat.le_refl _⟩
    have hbn := bal_replace_child hb1 hc hb' ⟨hmn rfl, hmx⟩
    cases isRoot with
    | true =>
      have := (hp.rootCase rfl).2
      simp only [node_n] at this
      exact ⟨⟨h + 1, hbn, by simp only [node_n]; omega, by intro _; simp only [node_n]; omega⟩, rfl⟩
    | false =>
      have := (hp.subCase rfl).2
      simp only [node_n] at this
      exact ⟨hbn, by simp only [node_n]; omega, by intro _; simp only [node_n]; omega, by simp⟩
  | true =>
    have hnf := needsFix_replace hb1 hc hb' (hmu rfl)
    cases isRoot with
    | true =>
      obtain ⟨hid, hn1⟩ := hp.rootCase rfl
      simp only [Node.id] at hid
      subst hid
      simp only [node_n] at hn1
      obtain ⟨x', e, hok, hl⟩ := finish_root (rootId := id) hnf (by omega) (by omega)
      exact ⟨x', false, e, ⟨hok, rfl⟩, hl⟩
    | false =>
      obtain ⟨hid, hn1⟩ := hp.subCase rfl
      simp only [Node.id] at hid
      simp only [node_n] at hn1
      exact finish_sub (rootId := rootId) (id := id) hnf hid (by omega) (by omega)

theorem delPre_sub {rootId h : Nat} {x : Node K V} (hb : Bal h x) (ho : Occ x) (hn : NoId rootId x) :
    DelPre rootId h false x := by
  obtain ⟨id, kvs, kids⟩ := x
  exact ⟨hb, ho.2, (noId_mk.mp hn).2, fun h => (by cases h), fun _ => ⟨(noId_mk.mp hn).1, ho.1⟩⟩

theorem delPre_child {rootId h id i : Nat} {isRoot : Bool} {kvs : List (K × V)} {kids : List (Node K V)} {c : Node K V}
    (hp : DelPre rootId h isRoot (.mk id kvs kids)) (hc : kids[i]? = some c) :
    ∃ h', h = h' + 1 ∧ kids.length = kvs.length + 1 ∧ Bal h' c ∧ Occ c ∧ DelPre rootId h' false c ∧ NoId rootId c := by
  obtain ⟨h', rfl, hlen, -, hb, ho⟩ := bal_child hp.bal hc
  have hn := hp.kidsNoId c (List.mem_of_getElem? hc)
  exact ⟨h', rfl, hlen, hb, ho, delPre_sub hb ho hn, hn⟩

theorem removeMax_spec (rootId : Nat) (x : Node K V) :
    ∀ h, Bal h x → Occ x → NoId rootId x →
      ∃ kv x' u, removeMax rootId x = some (kv, x', u) ∧ SubOK h x' u ∧ toList x = toList x' ++ [kv] ∧
        ∀ i, cnt i x' ≤ cnt i x := by
  have c1 := consts.1
  -- an inner node: the last child `c` came back as `c'` without its last entry `kv`
  have inner : ∀ {h id : Nat} {kvs : List (K × V)} {kids : List (Node K V)} {c c' : Node K V} {kv : K × V} {under : Bool},
      Bal h (.mk id kvs kids) → Occ (.mk id kvs kids) → NoId rootId (.mk id kvs kids) → kids[kvs.length]? = some c →
      (∀ h, Bal h c → Occ c → NoId rootId c → ∃ kv2 x2 u2, some (kv, c', under) = some (kv2, x2, u2) ∧ SubOK h x2 u2 ∧
        toList c = toList x2 ++ [kv2] ∧ ∀ i, cnt i x2 ≤ cnt i c) →
      ∃ x' u, (if !under then DelRes.done (.mk id kvs (replaceAt kids kvs.length c')) false
          else finish rootId id kvs (replaceAt kids kvs.length c') kvs.length) = .done x' u ∧
        SubOK h x' u ∧ toList (.mk id kvs kids) = toList x' ++ [kv] ∧ ∀ i, cnt i x' ≤ cnt i (.mk id kvs kids) := by
    intro h id kvs kids c c' kv under hb ho hni hc ih
    obtain ⟨h', rfl, hlen, hall, hbc, hoc⟩ := bal_child hb hc
    obtain ⟨kv2, x2, u2, he, hs, hl, hcl⟩ := ih h' hbc hoc ((noId_mk.mp hni).2 c (List.mem_of_getElem? hc))
    cases he
    obtain ⟨x', u, e, hok, hl', hc'⟩ := del_finish (kvs1 := kvs) (delPre_sub hb ho hni) rfl hc hs
    refine ⟨x', u, e, hok, ?_, fun j => Nat.le_trans (hc' j) (cnt_replace_le hc hcl j)⟩
    rw [hl', toList_at_child hlen hc, toList_at_child_self hlen hc, hl]; simp
  intro h hb ho hni
  fun_induction removeMax rootId x generalizing h with
  | case1 id kvs kids hleaf hnone =>
    obtain rfl : kvs = [] := List.getLast?_eq_none_iff.mp hnone
    simp only [Occ, node_n] at ho
    simp at ho; omega
  | case2 id kvs kids hleaf kv hkv kvs' =>
    obtain rfl : kids = [] := List.isEmpty_iff.mp hleaf
    obtain rfl := bal_leaf_iff.mp hb
    have hid := (noId_mk.mp hni).1
    have hlen : kvs'.length = kvs.length - 1 := by simp [kvs']
    simp only [Occ, node_n] at ho
    refine ⟨kv, _, _, rfl, ⟨bal_zero.mpr rfl, ?_, ?_, ?_⟩, ?_⟩
    · simp only [node_n]; omega
    · simp only [node_n, deleteInnerDone, removeRightmostUnder, deleteMerges]
      simp; omega
    · simp only [node_n, deleteInnerDone, removeRightmostUnder, deleteMerges]
      simp; omega
    · simp only [toList_leaf]; exact ⟨by have := dropLast_append_getLast? kvs; rw [hkv] at this; exact this.symm, fun i => by simp [cnt_mk]⟩
  | case3 id kvs kids hinner hnone =>
    obtain ⟨h', rfl, hlen, hall⟩ := bal_inner (by simpa using hinner) hb
    simp at hnone; omega
  | case4 id kvs kids hinner c hc hres ih =>
    obtain ⟨h', rfl, hlen, hall, hbc, hoc⟩ := bal_child hb hc
    obtain ⟨kv, x', u, he, _⟩ := ih h' hbc hoc ((noId_mk.mp hni).2 c (List.mem_of_getElem? hc))
    rw [he] at hres; cases hres
  | case5 id kvs kids hinner c hc kv c' under hres kids1 hu ih =>
    obtain ⟨x', u, e, hs, hl⟩ := inner hb ho hni hc (hres ▸ ih)
    rw [if_pos hu] at e; cases e
    exact ⟨kv, _, _, rfl, hs, hl⟩
  | case6 id kvs kids hinner c hc kv c' under hres kids1 hu x' u hfin ih =>
    obtain ⟨x2, u2, e, hs, hl⟩ := inner hb ho hni hc (hres ▸ ih)
    rw [if_neg hu, show finish rootId id kvs (replaceAt kids kvs.length c') kvs.length = .done x' u from hfin] at e
    cases e
    exact ⟨kv, _, _, rfl, hs, hl⟩
  | case7 id kvs kids hinner c hc kv c' under hres kids1 hu hfin ih =>
    obtain ⟨x2, u2, e, hs, hl⟩ := inner hb ho hni hc (hres ▸ ih)
    rw [if_neg hu] at e
    exact absurd e (hfin _ _)

theorem delPre_root {t : Tree K V} {h : Nat} (hbal : Bal h t.root) (hmax : t.root.n ≤ maxKVs)
    (hroot : 0 < h → 1 ≤ t.root.n) (hid : (ids t.root).Nodup) : DelPre t.root.id h true t.root := by
  refine ⟨hbal, hmax, ?_, fun _ => ⟨rfl, hroot⟩, fun h => (by cases h)⟩
  obtain ⟨⟨id, kvs, kids⟩, size, gen, nextId⟩ := t
  intro c hc hm
  simp only [ids, List.nodup_cons] at hid
  exact hid.1 (mem_flatten_ids hc hm)

end Juniper.Proofs.Tree
