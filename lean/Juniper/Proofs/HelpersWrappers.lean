import Juniper.Proofs.HelpersBasic
import Juniper.Model.HelpersMore
/-! The thin wrappers over the standard library (`xslices_go1.21.go`, `xsort.Slice*`; `OrderedLess`,
`xmath.Min/Max` and the derived comparisons of `xsort` are proved in `Props/C19.lean`) (C19). The models are
the generated bodies instantiated with the documented contracts of `Model/HelpersStdlib.lean`. -/
namespace Juniper.Proofs.Helpers
open Juniper.Gen.Helpers Juniper.Model.Helpers Juniper.Spec.Helpers
open Juniper.Model.Stdlib (Sl)
open Juniper.Model

variable {α β : Type}

theorem items_shrinkTo (zero : α) (s : Sl α) (l : List α) : (s.shrinkTo zero l).items = l := by
  simp [Sl.shrinkTo, Sl.items]

theorem items_clone (s : Sl α) : (Stdlib.clone s).items = s.items := by
  simp only [Stdlib.clone, Sl.items]
  exact List.take_of_length_le (Nat.le_refl _)

theorem length_items (s : Sl α) (h : s.WF) : s.items.length = s.len := by
  simp only [Sl.items, List.length_take]
  exact Nat.min_eq_left h

theorem compactGo_eq (eq : α → α → Bool) (prev : α) (l : List α) :
    Stdlib.compactGo eq prev l = ((l.zip (some prev :: l.map some)).filter (startsRun eq)).map Prod.fst := by
  induction l generalizing prev with
  | nil => rfl
  | cons y rest ih =>
    simp only [Stdlib.compactGo, List.map_cons, List.zip_cons_cons, List.filter_cons]
    by_cases h : eq y prev = true <;> simp [h, ih, startsRun]

theorem compactBy_eq (eq : α → α → Bool) (l : List α) : Stdlib.compactBy eq l = firstOfRuns eq l := by
  cases l with
  | nil => rfl
  | cons x xs => simp [Stdlib.compactBy, firstOfRuns, compactGo_eq, List.filter_cons, startsRun]

theorem compactGo_sublist (eq : α → α → Bool) (prev : α) (l : List α) : (Stdlib.compactGo eq prev l).Sublist l := by
  induction l generalizing prev with
  | nil => exact List.Sublist.slnil
  | cons y rest ih =>
    simp only [Stdlib.compactGo]
    split
    · exact (ih y).cons _
    · exact (ih y).cons_cons _

theorem firstOfRuns_sublist (eq : α → α → Bool) (l : List α) : (firstOfRuns eq l).Sublist l := by
  rw [← compactBy_eq]
  cases l with
  | nil => exact List.Sublist.slnil
  | cons x xs => exact (compactGo_sublist eq x xs).cons_cons _

theorem equalFuncL_iff (eq : α → β → Bool) (a : List α) (b : List β) :
    Stdlib.equalFuncL eq a b = true ↔ a.length = b.length ∧ ∀ p ∈ a.zip b, eq p.1 p.2 = true := by
  induction a generalizing b with
  | nil => cases b <;> simp [Stdlib.equalFuncL]
  | cons x xs ih =>
    cases b with
    | nil => simp [Stdlib.equalFuncL]
    | cons y ys => simp [Stdlib.equalFuncL, ih, and_left_comm]

theorem indexFunc_spec (s : Sl α) (f : α → Bool) :
    -1 ≤ Stdlib.indexFunc s f ∧ Stdlib.indexFunc s f < s.items.length ∧
    (Stdlib.indexFunc s f = -1 ↔ ∀ y ∈ s.items, f y = false) ∧
    (∀ i : Nat, Stdlib.indexFunc s f = i →
      (∃ y, s.items[i]? = some y ∧ f y = true) ∧ ∀ j : Nat, j < i → ∀ y, s.items[j]? = some y → f y = false) := by
  unfold Stdlib.indexFunc
  cases h : s.items.findIdx? f with
  | none =>
    dsimp only
    rw [List.findIdx?_eq_none_iff] at h
    refine ⟨by omega, by omega, by simpa using h, fun i hi => by omega⟩
  | some k =>
    dsimp only
    rw [List.findIdx?_eq_some_iff_getElem] at h
    obtain ⟨hk, hfk, hlt⟩ := h
    refine ⟨by omega, by omega, ?_, ?_⟩
    · constructor
      · intro e; omega
      · intro hall
        have := hall s.items[k] (List.getElem_mem hk)
        simp [this] at hfk
    · intro i hi
      have : i = k := by omega
      subst this
      refine ⟨⟨s.items[i], by simp [hk], hfk⟩, fun j hj y hy => ?_⟩
      obtain ⟨hj', rfl⟩ := List.getElem?_eq_some_iff.mp hy
      simpa using hlt j hj

theorem insertStable_perm (lt : α → α → Bool) (x : α) (l : List α) : (Stdlib.insertStable lt x l).Perm (x :: l) := by
  induction l with
  | nil => exact List.Perm.refl _
  | cons y ys ih =>
    simp only [Stdlib.insertStable]
    split
    · exact ((List.Perm.cons y ih).trans (List.Perm.swap x y ys))
    · exact List.Perm.refl _

theorem sortStable_perm (lt : α → α → Bool) (l : List α) : (Stdlib.sortStable lt l).Perm l := by
  induction l with
  | nil => exact List.Perm.refl _
  | cons x xs ih =>
    show (Stdlib.insertStable lt x (Stdlib.sortStable lt xs)).Perm _
    exact (insertStable_perm lt x _).trans (List.Perm.cons x ih)

theorem insertStable_sorted (lt : α → α → Bool) (hw : StrictWeak lt) (x : α) (l : List α) (hl : SortedBy lt l) :
    SortedBy lt (Stdlib.insertStable lt x l) := by
  induction l with
  | nil => simp [Stdlib.insertStable, SortedBy]
  | cons y ys ih =>
    unfold SortedBy at hl ih ⊢
    rw [List.pairwise_cons] at hl
    simp only [Stdlib.insertStable]
    by_cases hyx : lt y x = true
    · rw [if_pos hyx, List.pairwise_cons]
      refine ⟨fun z hz => ?_, ih hl.2⟩
      rcases (List.mem_cons.mp ((insertStable_perm lt x ys).mem_iff.mp hz)) with rfl | hz'
      · exact sw_asymm hw hyx
      · exact hl.1 z hz'
    · have hyx' : lt y x = false := by simpa using hyx
      rw [if_neg hyx, List.pairwise_cons, List.pairwise_cons]
      refine ⟨fun z hz => ?_, hl⟩
      rcases List.mem_cons.mp hz with rfl | hz'
      · exact hyx'
      · exact hw.negTrans z y x (hl.1 z hz') hyx'

theorem sortStable_sorted (lt : α → α → Bool) (hw : StrictWeak lt) (l : List α) : SortedBy lt (Stdlib.sortStable lt l) := by
  induction l with
  | nil => simp [Stdlib.sortStable, SortedBy]
  | cons x xs ih => exact insertStable_sorted lt hw x _ ih

theorem equiv_trans {lt : α → α → Bool} (hw : StrictWeak lt) {a b c : α}
    (h1 : Equiv lt a b = true) (h2 : Equiv lt b c = true) : Equiv lt a c = true := by
  simp only [Equiv, Bool.and_eq_true, Bool.not_eq_true'] at *
  exact ⟨hw.negTrans a b c h1.1 h2.1, hw.negTrans c b a h2.2 h1.2⟩

theorem insertStable_filter (lt : α → α → Bool) (hw : StrictWeak lt) (a x : α) (l : List α) :
    (Stdlib.insertStable lt x l).filter (Equiv lt a) =
      if Equiv lt a x then x :: l.filter (Equiv lt a) else l.filter (Equiv lt a) := by
  induction l with
  | nil => simp [Stdlib.insertStable, List.filter_cons]
  | cons y ys ih =>
    simp only [Stdlib.insertStable]
    by_cases hyx : lt y x = true
    · rw [if_pos hyx, List.filter_cons, ih]
      by_cases hax : Equiv lt a x = true
      · have hay : Equiv lt a y = false := by
          cases h : Equiv lt a y with
          | false => rfl
          | true =>
            have hxa : Equiv lt x a = true := by
              simp only [Equiv, Bool.and_eq_true, Bool.not_eq_true'] at hax ⊢; exact ⟨hax.2, hax.1⟩
            have := equiv_trans hw hxa h
            simp only [Equiv, Bool.and_eq_true, Bool.not_eq_true'] at this
            rw [this.2] at hyx; cases hyx
        simp [hax, hay]
      · simp [hax, List.filter_cons]
    · rw [if_neg hyx]
      by_cases hax : Equiv lt a x = true <;> simp [hax, List.filter_cons]

theorem sortStable_stable (lt : α → α → Bool) (hw : StrictWeak lt) (a : α) (l : List α) :
    (Stdlib.sortStable lt l).filter (Equiv lt a) = l.filter (Equiv lt a) := by
  induction l with
  | nil => rfl
  | cons x xs ih =>
    show (Stdlib.insertStable lt x (Stdlib.sortStable lt xs)).filter _ = _
    rw [insertStable_filter lt hw, ih, List.filter_cons]

theorem elemAt_nat (zero : α) (s : Sl α) (i : Nat) (h : i < s.items.length) :
    Stdlib.elemAt zero s (i : Int) = s.items[i] := by
  have : ¬ ((i : Int) < 0) := by omega
  simp [Stdlib.elemAt, this, List.getD_eq_getElem?_getD, h]

theorem sortedBy_iff_adjacent (lt : α → α → Bool) (hw : StrictWeak lt) (l : List α) :
    SortedBy lt l ↔ AdjAll (fun a b => lt b a = false) l :=
  ⟨fun h i hi => List.pairwise_iff_getElem.mp h i (i + 1) (Nat.lt_of_succ_lt hi) hi (Nat.lt_succ_self i),
    adjAll_pairwise fun a b c h1 h2 => hw.negTrans c b a h2 h1⟩

theorem shrinkTo_spec (zero : α) (s : Sl α) (l : List α) :
    (s.shrinkTo zero l).items = l ∧ (s.shrinkTo zero l).fresh = s.fresh ∧
    (s.shrinkTo zero l).arr = l ++ List.replicate (s.items.length - l.length) zero ++ s.arr.drop s.len :=
  ⟨items_shrinkTo zero s l, rfl, rfl⟩

theorem grow_spec (zero : α) (s : Sl α) (n : Int) :
    (n < 0 → grow zero s n = none) ∧
    (0 ≤ n → Stdlib.allocLimit < n → s.cap < s.len + n.toNat → grow zero s n = none) ∧
    (0 ≤ n → (n ≤ Stdlib.allocLimit ∨ s.len + n.toNat ≤ s.cap) →
      ∃ r, grow zero s n = some r ∧ r.items = s.items ∧ r.items.length + n.toNat ≤ r.cap ∧
      (s.len + n.toNat ≤ s.cap → r = s) ∧ (s.cap < s.len + n.toNat → r.fresh = true)) := by
  unfold grow growW Stdlib.grow
  refine ⟨fun h => by simp [h], fun h hbig hc => ?_, fun h hal => ?_⟩
  · have h' : ¬ n < 0 := by omega
    have hc' : ¬ s.len + n.toNat ≤ s.cap := by omega
    simp [h', hc', hbig]
  have h' : ¬ n < 0 := by omega
  simp only [h', ↓reduceIte]
  by_cases hc : s.len + n.toNat ≤ s.cap
  · simp only [hc, ↓reduceIte, Option.some.injEq, exists_eq_left', true_and, forall_const]
    refine ⟨?_, by omega⟩
    simp only [Sl.items, Sl.cap, List.length_take] at hc ⊢
    omega
  · have hal' : ¬ n > Stdlib.allocLimit := by
      rcases hal with hal | hal
      · omega
      · exact absurd hal hc
    simp only [hc, hal', ↓reduceIte, Option.some.injEq, exists_eq_left', false_imp_iff, true_and, implies_true, and_true]
    constructor
    · simp [Sl.items]
    · simp [Sl.items, Sl.cap]

theorem items_mk_append (r tail : List α) (f : Bool) : Sl.items ⟨r ++ tail, r.length, f⟩ = r :=
  List.take_left' rfl

theorem items_mk (r : List α) (f : Bool) : Sl.items ⟨r, r.length, f⟩ = r :=
  List.take_of_length_le (Nat.le_refl _)

theorem insertAt_spec (s : Sl α) (idx : Int) (vals : List α) (hs : s.WF) :
    (insertAt s idx vals = none ↔ idx < 0 ∨ (s.len : Int) < idx) ∧
    (∀ r, insertAt s idx vals = some r →
      r.items = s.items.take idx.toNat ++ vals ++ s.items.drop idx.toNat ∧
      (s.len + vals.length ≤ s.cap → r.fresh = s.fresh ∧ r.arr = r.items ++ s.arr.drop (s.len + vals.length)) ∧
      (s.cap < s.len + vals.length → r.fresh = true)) := by
  unfold insertAt insertW Stdlib.insert
  have hl := length_items s hs
  by_cases hp : idx < 0 ∨ (s.len : Int) < idx
  · simp [hp]
  · rw [if_neg hp]
    have hlen : (s.items.take idx.toNat ++ vals ++ s.items.drop idx.toNat).length = s.len + vals.length := by
      simp only [List.length_append, List.length_take, List.length_drop, hl]
      omega
    generalize s.items.take idx.toNat ++ vals ++ s.items.drop idx.toNat = L at hlen ⊢
    dsimp only
    constructor
    · simp only [hp, iff_false]; split <;> simp
    · intro r hr
      by_cases hc : L.length ≤ s.cap
      · rw [if_pos hc] at hr
        cases hr
        refine ⟨items_mk_append _ _ _, fun _ => ⟨rfl, ?_⟩, fun h => by omega⟩
        rw [items_mk_append, hlen]
      · rw [if_neg hc] at hr
        cases hr
        exact ⟨items_mk _ _, fun h => by omega, fun _ => rfl⟩

seal Juniper.Facts.wrap64

theorem delete_vacated (len a b : Nat) (h : a + b ≤ len) : len - (min a len + (len - (a + b))) = b := by
  omega

theorem remove_spec (zero : α) (s : Sl α) (idx n : Int) (hs : s.WF)
    (hl64 : (s.len : Int) ≤ 9223372036854775807)
    (hi : -9223372036854775808 ≤ idx ∧ idx ≤ 9223372036854775807)
    (hn : -9223372036854775808 ≤ n ∧ n ≤ 9223372036854775807) :
    (remove zero s idx n = none ↔ idx < 0 ∨ n < 0 ∨ (s.len : Int) < idx + n) ∧
    (∀ r, remove zero s idx n = some r →
      r.items = s.items.take idx.toNat ++ s.items.drop (idx + n).toNat ∧ r.fresh = s.fresh ∧
      r.arr = r.items ++ List.replicate n.toNat zero ++ s.arr.drop s.len) := by
  unfold remove removeW Stdlib.delete
  have hl := length_items s hs
  by_cases hp : 0 ≤ idx ∧ idx ≤ idx + n ∧ idx + n ≤ (s.len : Int)
  · have hw : Juniper.Facts.wrap64 (idx + n) = idx + n := wrap64_of_range (by omega) (by omega)
    rw [hw, if_pos hp]
    refine ⟨by simp; omega, fun r hr => ?_⟩
    cases hr
    obtain ⟨h1, h2, h3⟩ := shrinkTo_spec zero s (s.items.take idx.toNat ++ s.items.drop (idx + n).toNat)
    refine ⟨h1, h2, ?_⟩
    rw [h3, h1]
    congr 3
    obtain ⟨a, rfl⟩ := Int.eq_ofNat_of_zero_le hp.1
    obtain ⟨b, rfl⟩ := Int.eq_ofNat_of_zero_le (show 0 ≤ n by omega)
    simp only [List.length_append, List.length_take, List.length_drop, hl, ← Int.natCast_add, Int.toNat_natCast]
    exact delete_vacated s.len a b (by omega)
  · have hp' : ¬ (0 ≤ idx ∧ idx ≤ Juniper.Facts.wrap64 (idx + n) ∧ Juniper.Facts.wrap64 (idx + n) ≤ (s.len : Int)) := by
      have hr := wrap64_range (idx + n)
      by_cases hin : idx + n ≤ 9223372036854775807 ∧ -9223372036854775808 ≤ idx + n
      · rw [wrap64_of_range hin.2 hin.1]; exact hp
      · -- the sum overflowed: both arguments have the same sign; the wrapped sum has the other one
        intro ⟨h0, h1, h2⟩
        have : Juniper.Facts.wrap64 (idx + n) = idx + n - 18446744073709551616 :=
          wrap64_overflow_pos (by omega) (by omega)
        omega
    rw [if_neg hp']
    refine ⟨by simp; omega, fun r hr => by cases hr⟩

theorem sortSliceStable_items (zero : α) (x : Sl α) (less : α → α → Bool) :
    (sortSliceStable zero x less).items = Stdlib.sortStable less x.items ∧
    (sortSliceStable zero x less).fresh = x.fresh ∧
    (sortSliceStable zero x less).arr = Stdlib.sortStable less x.items ++ x.arr.drop x.len := by
  unfold sortSliceStable sortSliceStableW Stdlib.sortSliceStable
  have he : Stdlib.elemLess (fun cur i j => less (Stdlib.elemAt zero cur i) (Stdlib.elemAt zero cur j)) = less := by
    funext a b; simp [Stdlib.elemLess, Stdlib.elemAt, Sl.ofList, Sl.items]
  rw [he]
  refine ⟨?_, rfl, rfl⟩
  simp only [Sl.items]
  exact List.take_left' (sortStable_perm less _).length_eq

theorem sortSliceIsSorted_iff (zero : α) (x : Sl α) (less : α → α → Bool) (hw : StrictWeak less) (hx : x.WF) :
    sortSliceIsSorted zero x less = true ↔ SortedBy less x.items := by
  rw [sortedBy_iff_adjacent less hw]
  simp only [sortSliceIsSorted, sortSliceIsSortedW, Stdlib.sortSliceIsSorted, List.all_eq_true, List.mem_range,
    Bool.not_eq_true']
  have hl := length_items x hx
  have hc : ∀ i : Nat, ((i : Int) + 1) = ((i + 1 : Nat) : Int) := fun i => by omega
  constructor
  · intro h i hi
    have := h i (by omega)
    rw [hc, elemAt_nat zero x (i + 1) hi, elemAt_nat zero x i (by omega)] at this
    exact this
  · intro h i hi
    rw [hc, elemAt_nat zero x (i + 1) (by omega), elemAt_nat zero x i (by omega)]
    exact h i (by omega)

end Juniper.Proofs.Helpers
