import Juniper.Model.Batch
import Juniper.Proofs.LTS
/-!
C11 (stream.Batch): the code facts the proofs are about and the transition relation over them branch by
branch (`Step`, which the invariants and progress lemmas analyse instead of `step`).
-/
namespace Juniper.Model.Batch

theorem isRun (k : Code) (cfg : Cfg) : LTS.IsRun (step k cfg) (run k cfg) :=
  ⟨fun _ => rfl, fun s l ls => by simp only [run]; cases step k cfg s l <;> rfl⟩

theorem reach_of_run {k cfg} {s s' : State} (hs : Reach k cfg s) :
    ∀ ls, run k cfg s ls = some s' → Reach k cfg s' :=
  fun _ => (isRun k cfg).reach (fun h hst => .step _ h hst) hs

end Juniper.Model.Batch

namespace Juniper.Proofs.Batch
open Juniper.Model.Batch

/-- The code facts the proofs are about (what `code` evaluates to on the repaired tree). -/
def good : Code where
  loopRecvC := true
  loopRecvTimer := true
  loopRecvWaiting := true
  flushAbortArm := true
  flushSendArm := true
  prodSendArm := true
  prodCancelArm := true
  outerRecv := true
  outerAnnounce := true
  outerCtx := true
  innerRecv := true
  innerCtx := true
  fullStopsTimer := true
  firstSetsStart := true
  firstStartsTimer := true
  timerArmClearsTimerC := true
  waitElapsedStopsTimer := true
  waitNotElapsedStartsTimer := true
  waitEmptySetsFlag := true
  flushClearsWaitingAtEmpty := true
  stopTimerClearsTimerC := true
  startTimerStopsFirst := true
  startTimerSetsTimerC := true
  batcherClosesBatchC := true
  producerRecordsErr := true
  producerClosesSource := true
  producerClosesC := true
  guardBareLive := false
  guardWrapLive := false
  guardOtherLive := false
  guardBareClosed := true
  guardWrapClosed := false
  guardOtherClosed := false
  guardDeadlineExpired := false
  bgOrigin := .plainCancel
  bgCancelOnlyInClose := true
  srcNextGetsBg := true
  bgCtxUsesPinned := true

/-- `bgCtx` is `context.WithCancel(context.Background())`: the four regenerated facts, as equations with literals. -/
theorem bgOriginOf_plain {assigns : List String} {ctor parent : String} {nargs : Nat}
    (h1 : assigns = ["bgCtx, bgCancel := context.WithCancel(context.Background())"]) (h2 : ctor = "context.WithCancel")
    (h3 : parent = "context.Background()") (h4 : nargs = 1) : bgOriginOf assigns ctor parent nargs = .plainCancel := by
  rw [bgOriginOf, if_pos ⟨h1, h2, h3, h4⟩]

theorem firstItemCond_nat (n : Nat) : (Gen.Batch.firstItemCond (n : Int) = true) ↔ n = 1 := by
  simp only [Gen.Batch.firstItemCond, decide_eq_true_eq]; omega
theorem endFlushCond_nat (n : Nat) : (Gen.Batch.endFlushCond (n : Int) = true) ↔ 0 < n := by
  simp only [Gen.Batch.endFlushCond, decide_eq_true_eq]; omega
theorem waitNonEmptyCond_nat (n : Nat) : (Gen.Batch.waitNonEmptyCond (n : Int) = true) ↔ 0 < n := by
  simp only [Gen.Batch.waitNonEmptyCond, decide_eq_true_eq]; omega
theorem waitElapsed_nat (now bs mw : Nat) :
    (Gen.Batch.waitElapsed ((now : Int) - (bs : Int)) (mw : Int) = true) ↔ bs + mw < now := by
  simp only [Gen.Batch.waitElapsed, decide_eq_true_eq]; omega
theorem timerDur_nat (now bs mw : Nat) :
    (Gen.Batch.timerDur ((now : Int) - (bs : Int)) (mw : Int)).toNat = bs + mw - now := by
  simp only [Gen.Batch.timerDur]; omega
/-- `timer.Reset` is given the same duration as `time.NewTimer`. -/
theorem timerResetDur_eq : Gen.Batch.timerResetDur = Gen.Batch.timerDur := rfl

macro "unfold_step" " at " h:ident : tactic => `(tactic| (
  simp only [step, good, bgDone, Code.bgMayEnd, bne_self_eq_false, Bool.false_or, Bool.false_and, Bool.or_false,
    Bool.false_eq_true, false_and, afterFull, startTimer, stopTimer, since, firstItemCond_nat, timerDur_nat,
    endFlushCond_nat, waitNonEmptyCond_nat, waitElapsed_nat, decide_eq_true_eq,
    Bool.and_eq_true, Bool.or_eq_true, Bool.not_true, Bool.or_true, Bool.true_and, Bool.and_true,
    if_true, if_false, and_true, true_and, ite_true, ite_false] at $h:ident))

/-- The source's `Next` has returned once more to the producer. -/
abbrev srcAnswered (s : State) : State :=
  { s with srcNexts := s.srcNexts + 1, srcNextAfterClose := s.srcNextAfterClose || decide (0 < s.srcCloses) }

/-- The hand-over of `s.batch` to the pending `Next`, logged for reason `r`; the batcher goes on at `b`. -/
abbrev handedOver (s : State) (r : Reason) (b : BPc) : State :=
  { s with
    results := s.results ++ [.batch s.batch]
    delivered := s.delivered ++ [{ items := s.batch, firstAt := s.firstAt, start := s.batchStart,
                                   time := s.now, reason := r, toWaiter := decide (s.cons = .inner) }]
    cons := .idle
    batch := []
    waitingAtEmpty := false
    bpc := b }

/-- `step good cfg s l = some s'`, one constructor per branch of `step`: what the branch requires of `s`
and the state it yields, with the facts of `good` and the generated guards put in (a timer is armed for
`batchStart + maxWait`, which is `now + maxWait` right after the batch's first item). -/
inductive Step (cfg : Cfg) (s : State) : Label → State → Prop
  | srcItem (v : Nat) : s.ppc = .next →
      Step cfg s (.srcRet (.item v)) { srcAnswered s with ppc := .send v, pulled := s.pulled ++ [v] }
  | srcEof : s.ppc = .next →
      Step cfg s (.srcRet .eof) { srcAnswered s with ppc := .closeC, srcTerm := some .eof }
  | srcErr : s.ppc = .next →
      Step cfg s (.srcRet .err) { srcAnswered s with ppc := .closeC, srcTerm := some .err, err := true }
  | srcCancelErr (w : Bool) : s.ppc = .next → (s.bgCancelled = false ∨ w = true) →
      Step cfg s (.srcCancelErr w) { srcAnswered s with ppc := .closeC, srcTerm := some .err, err := true }
  | srcCancelOwn : s.ppc = .next → s.bgCancelled = true →
      Step cfg s (.srcCancelErr false) { srcAnswered s with ppc := .closeC }
  | nextCall (live : Bool) : s.cons = .idle → s.bgCancelled = false →
      Step cfg s (.nextCall live) { s with cons := .outer, ctxDone := !live }
  | ctxExpire : s.cons ≠ .idle → Step cfg s .ctxExpire { s with ctxDone := true }
  | tick (d : Nat) : Step cfg s (.tick d) { s with now := s.now + d }
  | close : s.bgCancelled = false → s.cons = .idle → Step cfg s .close { s with bgCancelled := true }
  | prodCancelled : s.ppc = .next → s.bgCancelled = true → Step cfg s .prodCancelled { s with ppc := .closeC }
  | prodSend (v : Nat) : s.ppc = .send v → s.bpc = .sel →
      Step cfg s .prodSend { s with ppc := .next, batch := s.batch ++ [v], bpc := .inFull,
                                    firstAt := if s.batch = [] then s.now else s.firstAt }
  | prodSendCancel (v : Nat) : s.ppc = .send v → s.bgCancelled = true →
      Step cfg s .prodSendCancel { s with ppc := .closeC }
  | prodCloseC : s.ppc = .closeC → Step cfg s .prodCloseC { s with ppc := .closeSrc, cClosed := true }
  | prodCloseSrc : s.ppc = .closeSrc →
      Step cfg s .prodCloseSrc { s with ppc := .done, srcCloses := s.srcCloses + 1 }
  | fullYes : s.bpc = .inFull → cfg.fullOK s.batch true = true →
      Step cfg s (.fullRet true) { s with timer := .idle, timerCSet := false, bpc := .flush .full }
  | fullNoFirstWaited : s.bpc = .inFull → cfg.fullOK s.batch false = true → s.batch.length = 1 →
      s.waitingAtEmpty = true →
      Step cfg s (.fullRet false) { s with batchStart := s.now, timer := .armed (s.now + cfg.maxWait),
                                           timerCSet := true, bpc := .sel }
  | fullNoFirst : s.bpc = .inFull → cfg.fullOK s.batch false = true → s.batch.length = 1 →
      s.waitingAtEmpty = false → Step cfg s (.fullRet false) { s with batchStart := s.now, bpc := .sel }
  | fullNoLater : s.bpc = .inFull → cfg.fullOK s.batch false = true → s.batch.length ≠ 1 →
      Step cfg s (.fullRet false) { s with bpc := .sel }
  | recvCClosedFlush : s.bpc = .sel → s.cClosed = true → 0 < s.batch.length →
      Step cfg s .recvCClosed { s with bpc := .flush .srcEnd }
  | recvCClosedExit : s.bpc = .sel → s.cClosed = true → s.batch.length = 0 →
      Step cfg s .recvCClosed { s with bpc := .exit }
  | recvTimer : s.bpc = .sel → s.timer = .fired → s.timerCSet = true →
      Step cfg s .recvTimer { s with timer := .idle, timerCSet := false, bpc := .flush .timer }
  | flushAbort (r : Reason) : s.bpc = .flush r → s.bgCancelled = true → Step cfg s .flushAbort { s with bpc := .exit }
  | batchExit : s.bpc = .exit →
      Step cfg s .batchExit { s with bpc := .done, timer := .idle, batchCClosed := true }
  | announceElapsed : s.cons = .outer → s.bpc = .sel → 0 < s.batch.length → s.batchStart + cfg.maxWait < s.now →
      Step cfg s .announce { s with cons := .inner, timer := .idle, timerCSet := false, bpc := .flush .waiter }
  | announceArm : s.cons = .outer → s.bpc = .sel → 0 < s.batch.length → s.now ≤ s.batchStart + cfg.maxWait →
      Step cfg s .announce { s with cons := .inner, timer := .armed (s.batchStart + cfg.maxWait), timerCSet := true }
  | announceEmpty : s.cons = .outer → s.bpc = .sel → s.batch.length = 0 →
      Step cfg s .announce { s with cons := .inner, waitingAtEmpty := true }
  | deliver (r : Reason) : s.bpc = .flush r → s.cons ≠ .idle → r ≠ .srcEnd →
      Step cfg s .deliver (handedOver s r .sel)
  | deliverEnd : s.bpc = .flush .srcEnd → s.cons ≠ .idle →
      Step cfg s .deliver (handedOver s .srcEnd .exit)
  | consClosed : s.cons ≠ .idle → s.batchCClosed = true →
      Step cfg s .consClosed { s with cons := .idle, results := s.results ++ [if s.err then .srcErr else .endOK] }
  | consCtx : s.cons ≠ .idle → s.ctxDone = true →
      Step cfg s .consCtx { s with cons := .idle, results := s.results ++ [.ctxErr] }
  | timerExpire (t : Nat) : s.timer = .armed t → t ≤ s.now → Step cfg s .timerExpire { s with timer := .fired }
  | closeReturn : s.bgCancelled = true → s.closeReturned = false → s.ppc = .done → s.bpc = .done →
      Step cfg s .closeReturn { s with closeReturned := true }

theorem step_good {cfg : Cfg} {s s' : State} {l : Label} (h : step good cfg s l = some s') : Step cfg s l s' := by
  cases l with
  | srcRet ev =>
    unfold_step at h
    split at h
    · rename_i hp
      cases ev <;> cases h
      · exact .srcItem _ hp
      · exact .srcEof hp
      · exact .srcErr hp
    · cases h
  | srcCancelErr w =>
    unfold_step at h
    split at h
    · rename_i hp
      split at h <;> cases h
      · exact .srcCancelErr _ hp (Or.inl ‹_›)
      · exact .srcCancelErr _ hp (Or.inl ‹_›)
      · exact .srcCancelOwn hp ‹_›
      · exact .srcCancelErr _ hp (Or.inr rfl)
    · cases h
  | nextCall live =>
    unfold_step at h
    split at h <;> cases h
    rename_i hg
    exact .nextCall _ hg.1 hg.2
  | ctxExpire =>
    unfold_step at h
    split at h <;> cases h
    exact .ctxExpire ‹_›
  | tick d => cases h; exact .tick d
  | close =>
    unfold_step at h
    split at h <;> cases h
    rename_i hg
    exact .close hg.1 hg.2
  | bgEnds => unfold_step at h; cases h
  | prodCancelled =>
    unfold_step at h
    split at h <;> cases h
    rename_i hg
    exact .prodCancelled hg.1 hg.2
  | prodSend =>
    unfold_step at h
    split at h
    · rename_i v hp
      split at h <;> cases h
      exact .prodSend v hp ‹_›
    · cases h
  | prodSendCancel =>
    unfold_step at h
    split at h
    · rename_i v hp
      split at h <;> cases h
      exact .prodSendCancel v hp ‹_›
    · cases h
  | prodCloseC =>
    unfold_step at h
    split at h <;> cases h
    exact .prodCloseC ‹_›
  | prodCloseSrc =>
    unfold_step at h
    split at h <;> cases h
    exact .prodCloseSrc ‹_›
  | fullRet b =>
    unfold_step at h
    split at h
    · rename_i hg
      obtain ⟨hb, hf⟩ := hg
      cases b
      · simp only [Bool.false_eq_true, if_false] at h
        split at h
        · rename_i h1
          split at h <;> cases h
          · rw [Nat.add_sub_cancel_left]; exact .fullNoFirstWaited hb hf h1 ‹_›
          · exact .fullNoFirst hb hf h1 (Bool.eq_false_iff.2 ‹_›)
        · cases h; exact .fullNoLater hb hf ‹_›
      · cases h; exact .fullYes hb hf
    · cases h
  | recvCClosed =>
    unfold_step at h
    split at h
    · rename_i hg
      split at h <;> cases h
      · exact .recvCClosedFlush hg.1 hg.2 ‹_›
      · exact .recvCClosedExit hg.1 hg.2 (Nat.eq_zero_of_not_pos ‹_›)
    · cases h
  | recvTimer =>
    unfold_step at h
    split at h <;> cases h
    rename_i hg
    exact .recvTimer hg.1 hg.2.1 hg.2.2
  | flushAbort =>
    unfold_step at h
    split at h
    · rename_i r hb
      split at h <;> cases h
      exact .flushAbort r hb ‹_›
    · cases h
  | batchExit =>
    unfold_step at h
    split at h <;> cases h
    exact .batchExit ‹_›
  | announce =>
    unfold_step at h
    split at h
    · rename_i hg
      split at h
      · rename_i hne
        split at h <;> cases h
        · exact .announceElapsed hg.1 hg.2 hne ‹_›
        · rw [Nat.add_sub_of_le (Nat.le_of_not_lt ‹_›)]
          exact .announceArm hg.1 hg.2 hne (Nat.le_of_not_lt ‹_›)
      · cases h; exact .announceEmpty hg.1 hg.2 (Nat.eq_zero_of_not_pos ‹_›)
    · cases h
  | deliver =>
    unfold_step at h
    split at h
    · rename_i r hb
      split at h
      · rename_i hg
        cases r <;> simp only [List.length_nil] at h <;> cases h
        · exact .deliver _ hb hg.1 nofun
        · exact .deliver _ hb hg.1 nofun
        · exact .deliver _ hb hg.1 nofun
        · exact .deliverEnd hb hg.1
      · cases h
    · cases h
  | consClosed =>
    unfold_step at h
    split at h <;> cases h
    rename_i hg
    exact .consClosed hg.1 hg.2.1
  | consCtx =>
    unfold_step at h
    split at h <;> cases h
    rename_i hg
    exact .consCtx hg.1 hg.2.1
  | timerExpire =>
    unfold_step at h
    split at h
    · rename_i t ht
      split at h <;> cases h
      exact .timerExpire t ht ‹_›
    · cases h
  | closeReturn =>
    unfold_step at h
    split at h <;> cases h
    rename_i hg
    exact .closeReturn hg.1 hg.2.1 hg.2.2.1 hg.2.2.2

theorem forall_mem_snoc {α : Type} {P : α → Prop} {l : List α} {a : α} (hl : ∀ x ∈ l, P x) (ha : P a) :
    ∀ x ∈ l ++ [a], P x :=
  List.forall_mem_append.2 ⟨hl, List.forall_mem_singleton.2 ha⟩

end Juniper.Proofs.Batch
