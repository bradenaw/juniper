import Juniper.Proofs.Cond
/-!
# Counting wake-ups for C16: "m Signal calls wake at least min(k, m) **of them**"

`Pot` is the potential argument on the five counters of a state (`cnt`): after `j` Signals either each of them has woken a waiter or left a
token, or no more waiters are waiting than there are tokens; `step_tick` says how a step moves the counters.

`RunInvC` is what a run keeps in which contexts may end at any moment (the conclusion is then `min (k − newly returned errors) j ≤ newly
woken`); `RunInv` is the form for runs in which no context ends.

`nWokenOfThem s s'` counts the waiters that had entered in `s` and are woken in `s'` (by index: one index
= one `Wait` call). In a run without `start` / `release` / `broadcast` every waiter newly woken is one of them
(`woken_of_them`; `quietc_of_them` adds the same for those that newly returned the error), which lets
`Props.C16.signal_wakes_min_no_entrant_partial` be stated with the attributed count. With late entrants the two
counts differ — that is the second refutation of the clause (`Props.C16.signal_wakes_min_late_entrant_false`).
-/
namespace Juniper.Proofs.Cond
open Juniper.Model.Cond Juniper.ListStore

theorem run_ws_length {ls : List Label} {s s' : State} (h : run Cfg.std s ls = some s') : s'.ws.length = s.ws.length :=
  (isRun _).reach (Rch := fun t => t.ws.length = s.ws.length) (fun h0 h1 => (step_ws_length h1).trans h0) rfl h

def isUnparked (w : Waiter) : Bool := match w.pc with | .unlocked _ => true | _ => false
def isParked (w : Waiter) : Bool := match w.pc with | .parked _ => true | _ => false
def isWoken (w : Waiter) : Bool := match w.pc with | .woken _ => true | .doneNil => true | _ => false
def isErr (w : Waiter) : Bool := match w.pc with | .doneErr => true | _ => false

def nUnparked (s : State) : Nat := s.ws.countP isUnparked
def nParked (s : State) : Nat := s.ws.countP isParked
def nWoken (s : State) : Nat := s.ws.countP isWoken
def nErr (s : State) : Nat := s.ws.countP isErr

def isEntered (w : Waiter) : Bool := isUnparked w || isParked w

def progressOnly : Label → Bool
  | .signal _ => true
  | .arrive _ _ => true
  | .relock _ => true
  | .hunlock => true
  | _ => false

/-- Signals, the progress of waiters that are past the lock release, and contexts ending -/
def progressOrCancel : Label → Bool
  | .cancel _ => true
  | l => progressOnly l

theorem progressOrCancel_of_progressOnly {l : Label} (h : progressOnly l = true) : progressOrCancel l = true := by
  cases l with
  | cancel => rfl
  | _ => exact h

def isSignal : Label → Bool
  | .signal _ => true
  | _ => false

def nSignals (ls : List Label) : Nat := ls.countP isSignal

theorem nParked_zero_of_token {t : State} (hi : Inv t) (hb : 0 < (chanAt t t.cur).buf) : nParked t = 0 := by
  unfold nParked
  rw [List.countP_eq_zero]
  intro w hw hp
  obtain ⟨i, hi'⟩ := List.mem_iff_getElem?.mp hw
  unfold isParked at hp
  split at hp
  · rename_i c hc
    exact hi.buf_parked hb i w hi' (by rw [hc, (hi.wait_pc hi' hc).2.1])
  · cases hp

/-- The five counters of the counting argument: the waiters on their way to the `select`, parked, woken, returned with
their context's error; the tokens in the current channel. -/
structure Cnt where
  u : Nat
  p : Nat
  k : Nat
  e : Nat
  b : Nat

def cnt (t : State) : Cnt := ⟨nUnparked t, nParked t, nWoken t, nErr t, (chanAt t t.cur).buf⟩

/-- How one step moves the counters; `sig` = 1 for a `Signal`. -/
structure Tick (c c' : Cnt) (sig : Nat) : Prop where
  conserve : c'.u + c'.p + c'.k + c'.e = c.u + c.p + c.k + c.e
  unp_le : c'.u ≤ c.u
  woken_ge : c.k ≤ c'.k
  /-- a `Signal` wakes a waiter or leaves a token -/
  paid : sig + c.k + c.b ≤ c'.k + c'.b
  /-- a token goes only with a waiter that stops waiting -/
  spent : c'.u + c'.p + c.b ≤ c.u + c.p + c'.b

theorem Tick.refl (c : Cnt) : Tick c c 0 := by
  constructor <;> omega

/-- What holds after `j` Signals, counted from `c0` (its tokens are not looked at): every Signal is accounted for by a
wake-up or a token, or no more waiters are waiting than there are tokens. -/
structure Pot (c0 c : Cnt) (j : Nat) : Prop where
  conserve : c.u + c.p + c.k + c.e = c0.u + c0.p + c0.k + c0.e
  unp_le : c.u ≤ c0.u
  woken_ge : c0.k ≤ c.k
  pot : c0.k + j ≤ c.k + c.b ∨ c.u + c.p ≤ c.b

theorem Pot.tick {c0 c c' : Cnt} {j sig : Nat} (h : Pot c0 c j) (ht : Tick c c' sig) : Pot c0 c' (j + sig) := by
  obtain ⟨h1, h2, h3, h4⟩ := h
  obtain ⟨t1, t2, t3, t4, t5⟩ := ht
  exact ⟨by omega, by omega, by omega, by omega⟩

/-- A `Signal` dropped because the buffer is full and nobody is parked (D13) keeps the potential only if it is the
first Signal or at most one waiter had not yet reached the `select`. -/
theorem Pot.drop {c0 c : Cnt} {j : Nat} (h : Pot c0 c j) (hp : c.p = 0) (hb : 1 ≤ c.b) (hyp : c0.u ≤ 1 ∨ j = 0) :
    Pot c0 c (j + 1) := by
  obtain ⟨h1, h2, h3, h4⟩ := h
  exact ⟨h1, h2, h3, by omega⟩

/-- The counting conclusion once every waiter has reached the `select`, for any bounds `W`, `E` on the numbers of
newly woken waiters and of newly returned errors (the attributed counts, or the differences themselves). -/
theorem Pot.final {c0 c : Cnt} {j W E : Nat} (h : Pot c0 c j) (hu : c.u = 0) (hp : 0 < c.b → c.p = 0)
    (hW : c.k ≤ c0.k + W) (hE : c.e ≤ c0.e + E) : min (c0.u + c0.p - E) j ≤ W := by
  obtain ⟨h1, h2, h3, h4⟩ := h
  by_cases hb : c.b = 0
  · omega
  · have := hp (by omega); omega

/-- The move of one waiter from `w` to `f w` ticks the counters of the state as it ticks the waiter's own
(one of `u`, `p`, `k`, `e` is 1 before, one after); `b'` is the number of tokens afterwards. -/
theorem tick_modify {t t' : State} {i : Nat} {w : Waiter} {f : Waiter → Waiter} {b' sig : Nat} (hw : t.ws[i]? = some w)
    (hs' : t'.ws = t.ws.modify i f) (hb : (cnt t').b = b')
    (h : Tick ⟨if isUnparked w then 1 else 0, if isParked w then 1 else 0, if isWoken w then 1 else 0,
        if isErr w then 1 else 0, (cnt t).b⟩
      ⟨if isUnparked (f w) then 1 else 0, if isParked (f w) then 1 else 0, if isWoken (f w) then 1 else 0,
        if isErr (f w) then 1 else 0, b'⟩ sig) :
    Tick (cnt t) (cnt t') sig ∧ nErr t' + (if isErr w then 1 else 0) = nErr t + (if isErr (f w) then 1 else 0) := by
  have c1 := countP_modify (p := isUnparked) f hw
  have c2 := countP_modify (p := isParked) f hw
  have c3 := countP_modify (p := isWoken) f hw
  have c4 := countP_modify (p := isErr) f hw
  obtain ⟨h1, h2, h3, h4, h5⟩ := h
  subst hb
  dsimp only [cnt] at h1 h2 h3 h4 h5 ⊢
  unfold nUnparked nParked nWoken nErr
  rw [hs']
  exact ⟨by constructor <;> dsimp only <;> omega, c4⟩

/-- A step other than `start` / `release` / `broadcast` ticks the counters, unless it is a dropped `Signal`;
and somebody newly returns an error only if it had entered and its context has ended or ends now. -/
theorem step_tick {t t' : State} {l : Label} (hi : Inv t) (h : step Cfg.std t l = some t')
    (hl : progressOrCancel l = true) :
    (Tick (cnt t) (cnt t') (if isSignal l then 1 else 0)
      ∨ (isSignal l = true ∧ t' = t ∧ (cnt t).p = 0 ∧ 1 ≤ (cnt t).b)) ∧
    (nErr t' = nErr t ∨
      ∃ i w, t.ws[i]? = some w ∧ isEntered w = true ∧ (w.cancelled = true ∨ l = .cancel i)) := by
  cases Step.of_step h with
  | start | release | broadcast => cases hl
  | @recv i w ch0 hw hpc hr =>
    obtain ⟨_, ch, rfl, hch⟩ := hi.wait_pc hw hpc
    simp only [Option.getD_some] at hr ⊢
    -- a token is taken only from the current channel, and only one
    have hb : (cnt t).b ≤ (cnt (recvState t i ch)).b + 1 := by
      unfold cnt recvState
      cases hcl : (chanAt t ch).closed
      · obtain rfl := hi.eq_cur hch hcl
        simp only [Bool.false_eq_true, if_false, chanAt_setPc, setPc_cur]
        rw [chanAt_set_same t t.cur _ hi.cur_lt]
        simp; omega
      · simp
    have := tick_modify (t' := recvState t i ch) (sig := 0) hw (recvState_ws t i ch) rfl (by
      simp only [isUnparked, isParked, isWoken, isErr, hpc, Bool.false_eq_true, if_false, if_true]
      constructor <;> dsimp only <;> omega)
    exact ⟨.inl this.1, .inl (by simpa [isErr, hpc] using this.2)⟩
  | @ctx i w ch0 hw hpc hc =>
    have := tick_modify (t' := setPc t i .doneErr) (b' := (cnt t).b) (sig := 0) hw rfl rfl (by
      simp only [isUnparked, isParked, isWoken, isErr, hpc, Bool.false_eq_true, if_false, if_true]
      constructor <;> dsimp only <;> omega)
    exact ⟨.inl this.1, .inr ⟨i, w, hw, by simp [isEntered, isUnparked, hpc], .inl hc⟩⟩
  | @park i w ch0 hw hpc =>
    have := tick_modify (t' := setPc t i (.parked (ch0.getD t.cur))) (b' := (cnt t).b) (sig := 0) hw rfl rfl (by
      simp only [isUnparked, isParked, isWoken, isErr, hpc, Bool.false_eq_true, if_false, if_true]
      constructor <;> dsimp only <;> omega)
    exact ⟨.inl this.1, .inl (by simpa [isErr, hpc] using this.2)⟩
  | @handoff i w _ hw hpc =>
    have := tick_modify (t' := setPc t i (.woken false)) (b' := (cnt t).b) (sig := 1) hw rfl rfl (by
      simp only [isUnparked, isParked, isWoken, isErr, hpc, Bool.false_eq_true, if_false, if_true]
      constructor <;> dsimp only <;> omega)
    exact ⟨.inl this.1, .inl (by simpa [isErr, hpc] using this.2)⟩
  | buffer =>
    refine ⟨.inl ?_, .inl rfl⟩
    show Tick _ ⟨nUnparked t, nParked t, nWoken t, nErr t, (chanAt { t with chans := _ } t.cur).buf⟩ 1
    rw [chanAt_set_same t t.cur _ hi.cur_lt]
    constructor <;> dsimp only [cnt] <;> omega
  | drop _ _ hb =>
    have hb1 : 1 ≤ (chanAt t t.cur).buf := by have := hi.cur_cap; omega
    exact ⟨.inr ⟨rfl, rfl, nParked_zero_of_token hi hb1, hb1⟩, .inl rfl⟩
  | @cancel i w hw hc =>
    have := tick_modify (t' := { t with ws := t.ws.modify i _ }) (b' := (cnt t).b) (sig := 0)
      (f := fun w => { pc := cancelPc Cfg.std w.pc, cancelled := true }) hw rfl rfl (by
      -- only a parked waiter moves: it returns the error
      cases hp : w.pc with
      | parked c =>
        simp only [isUnparked, isParked, isWoken, isErr, hp, cancelPc, Cfg.std, afterCtx, Bool.false_eq_true, if_false, if_true]
        constructor <;> dsimp only <;> omega
      | _ => simp only [isUnparked, isParked, isWoken, isErr, hp, cancelPc]; exact .refl _)
    refine ⟨.inl this.1, ?_⟩
    cases hp : w.pc with
    | parked c => exact .inr ⟨i, w, hw, by simp [isEntered, isParked, hp], .inr rfl⟩
    | _ => exact .inl (by simpa [isErr, hp, cancelPc] using this.2)
  | @relock i w e hw hpc =>
    obtain ⟨_, rfl⟩ := hi.wait_pc hw hpc
    have := tick_modify (t' := { (setPc t i .doneNil) with lock := some i }) (b' := (cnt t).b) (sig := 0) hw rfl rfl (by
      simp only [isUnparked, isParked, isWoken, isErr, hpc, Bool.false_eq_true, if_false, if_true]
      constructor <;> dsimp only <;> omega)
    exact ⟨.inl this.1, .inl (by simpa [isErr, hpc] using this.2)⟩
  | hunlock => exact ⟨.inl (.refl (cnt t)), .inl rfl⟩

theorem pot_step {c0 : Cnt} {j : Nat} {t t' : State} {l : Label} (hi : Inv t) (hP : Pot c0 (cnt t) j)
    (h : step Cfg.std t l = some t') (hl : progressOrCancel l = true)
    (hyp : c0.u ≤ 1 ∨ j + (if isSignal l then 1 else 0) ≤ 1) :
    Pot c0 (cnt t') (j + (if isSignal l then 1 else 0)) := by
  rcases (step_tick hi h hl).1 with ht | ⟨hs, rfl, hp0, hb⟩
  · exact hP.tick ht
  · rw [hs] at hyp ⊢
    exact hP.drop hp0 hb (hyp.imp_right (by simp))

/-- induction along a run that counts its Signals; `A ∨ j ≤ 1` is the scope in which no `Signal` is lost -/
theorem run_count {P : State → Nat → Prop} {ok : Label → Bool} {A : Prop}
    (hstep : ∀ {t t' : State} {j : Nat} {l : Label}, P t j → step Cfg.std t l = some t' → ok l = true →
      (A ∨ j + (if isSignal l then 1 else 0) ≤ 1) → P t' (j + (if isSignal l then 1 else 0))) :
    ∀ {ls : List Label} {t s' : State} {j : Nat}, P t j → run Cfg.std t ls = some s' → (∀ l ∈ ls, ok l = true) →
      (A ∨ j + nSignals ls ≤ 1) → P s' (j + nSignals ls)
  | [], t, s', j, hP, h, _, _ => by cases h; exact hP
  | l :: ls, t, s', j, hP, h, hl, hyp => by
    obtain ⟨t1, h1, h2⟩ := (isRun _).cons_eq_some.mp h
    have hns : nSignals (l :: ls) = (if isSignal l then 1 else 0) + nSignals ls := by
      simp only [nSignals, List.countP_cons]; omega
    rw [hns, ← Nat.add_assoc] at hyp ⊢
    exact run_count hstep (hstep hP h1 (hl l (by simp)) (hyp.imp_right (by omega))) h2
      (fun l' hl' => hl l' (by simp [hl'])) hyp

/-- what holds along a run of Signals, waiter progress and contexts ending at any moment that started in `s0`, after `j`
Signals; entered waiters may have an ended context from the start, and the potential counts those that returned the error -/
structure RunInvC (s0 t : State) (j : Nat) : Prop where
  inv : Inv t
  pot : Pot (cnt s0) (cnt t) j

theorem runinvc_init {s : State} (hi : Inv s) : RunInvC s s 0 :=
  ⟨hi, rfl, Nat.le_refl _, Nat.le_refl _, .inl (Nat.le_add_right _ _)⟩

theorem runinvc_run {s0 : State} {ls : List Label} : ∀ {t s' : State} {j : Nat}, RunInvC s0 t j → run Cfg.std t ls = some s' →
    (∀ l ∈ ls, progressOrCancel l = true) → (nUnparked s0 ≤ 1 ∨ j + nSignals ls ≤ 1) → RunInvC s0 s' (j + nSignals ls) :=
  run_count (P := RunInvC s0) fun hR h hl hyp => ⟨inv_step hR.inv h, pot_step hR.inv hR.pot h hl hyp⟩

theorem runinvc_final {s0 s' : State} {m W E : Nat} (hR : RunInvC s0 s' m) (hu : nUnparked s' = 0)
    (hW : nWoken s' ≤ nWoken s0 + W) (hE : nErr s' ≤ nErr s0 + E) :
    min (nUnparked s0 + nParked s0 - E) m ≤ W :=
  hR.pot.final hu (nParked_zero_of_token hR.inv) hW hE

/-- what holds along a run of Signals and waiter progress that started in `s0`, after `j` Signals -/
structure RunInv (s0 t : State) (j : Nat) : Prop where
  inv : Inv t
  conserve : nUnparked t + nParked t + nWoken t = nUnparked s0 + nParked s0 + nWoken s0
  unp_le : nUnparked t ≤ nUnparked s0
  woken_ge : nWoken s0 ≤ nWoken t
  nocancel : ∀ (i : Nat) (w : Waiter), t.ws[i]? = some w → (isUnparked w || isParked w) = true → w.cancelled = false
  pot : nWoken s0 + min (nUnparked s0 + nParked s0) j ≤ nWoken t + (chanAt t t.cur).buf

/-- the potential is counted from the errors returned so far: along these runs none is added -/
theorem runInv_iff {s0 t : State} {j : Nat} : RunInv s0 t j ↔ Inv t ∧
    (∀ (i : Nat) (w : Waiter), t.ws[i]? = some w → (isUnparked w || isParked w) = true → w.cancelled = false) ∧
    Pot { cnt s0 with e := nErr t } (cnt t) j := by
  constructor
  · rintro ⟨h1, h2, h3, h4, h5, h6⟩
    exact ⟨h1, h5, congrArg (· + nErr t) h2, h3, h4, by dsimp only [cnt]; omega⟩
  · rintro ⟨h1, h5, h2, h3, h4, h6⟩
    dsimp only [cnt] at h2 h6
    exact ⟨h1, by omega, h3, h4, h5, by omega⟩

theorem runinv_step {s0 t t' : State} {j : Nat} {l : Label} (hR : RunInv s0 t j) (h : step Cfg.std t l = some t')
    (hl : progressOnly l = true) (hyp : nUnparked s0 ≤ 1 ∨ j + (if isSignal l then 1 else 0) ≤ 1) :
    RunInv s0 t' (j + (if isSignal l then 1 else 0)) := by
  obtain ⟨hi, hnc, hP⟩ := runInv_iff.mp hR
  have hl' := progressOrCancel_of_progressOnly hl
  -- nobody returns an error: no entered waiter's context has ended, and none ends
  have he : nErr t' = nErr t := by
    rcases (step_tick hi h hl').2 with he | ⟨i, w, hw, hent, hc | rfl⟩
    · exact he
    · rw [hnc i w hw hent] at hc; cases hc
    · cases hl
  refine runInv_iff.mpr ⟨inv_step hi h, ?_, he ▸ pot_step hi hP h hl' hyp⟩
  intro i w' hw' hent
  obtain ⟨w, hw, ht, hc⟩ := step_trans_back h hw'
  have hc : w'.cancelled = w.cancelled := hc.resolve_right (by rintro rfl; cases hl)
  rw [hc]
  refine hnc i w hw ?_
  -- a waiter that is entered after the step was entered before it
  unfold isUnparked isParked at hent ⊢
  generalize w.pc = p, w'.pc = p' at ht hent
  cases ht with
  | start | release | wake | expire => cases hl
  | same | relockNil | relockErr => exact hent
  | recv | ctx | park | handoff => rfl

theorem runinv_run {s0 : State} {ls : List Label} : ∀ {t s' : State} {j : Nat}, RunInv s0 t j → run Cfg.std t ls = some s' →
    (∀ l ∈ ls, progressOnly l = true) → (nUnparked s0 ≤ 1 ∨ j + nSignals ls ≤ 1) → RunInv s0 s' (j + nSignals ls) :=
  run_count (P := RunInv s0) runinv_step

theorem runinv_init {s : State} (hi : Inv s)
    (hnc : ∀ (i : Nat) (w : Waiter), s.ws[i]? = some w → (isUnparked w || isParked w) = true → w.cancelled = false) :
    RunInv s s 0 :=
  ⟨hi, rfl, Nat.le_refl _, Nat.le_refl _, hnc, by simp⟩

theorem runinv_final {s0 s' : State} {m : Nat} (hR : RunInv s0 s' m) (hu : nUnparked s' = 0) :
    min (nUnparked s0 + nParked s0) m ≤ nWoken s' - nWoken s0 := by
  obtain ⟨hi, _, hP⟩ := runInv_iff.mp hR
  have : nWoken s0 ≤ nWoken s' := hP.woken_ge
  simpa [cnt] using hP.final (W := nWoken s' - nWoken s0) (E := 0) hu (nParked_zero_of_token hi)
    (show nWoken s' ≤ nWoken s0 + _ by omega) (Nat.le_refl _)

/-- number of waiters that had entered in `s` (released the lock, not yet woken) and are woken in `s'` -/
def nWokenOfThem (s s' : State) : Nat := (s.ws.zip s'.ws).countP fun p => isEntered p.1 && isWoken p.2

/-- number of waiters that had entered in `s` and have returned their context's error in `s'` -/
def nErrOfThem (s s' : State) : Nat := (s.ws.zip s'.ws).countP fun p => isEntered p.1 && decide (p.2.pc = .doneErr)

theorem countP_zip_le {α : Type} (q p : α → Bool) (r : α × α → Bool) : ∀ (l l' : List α), l.length = l'.length →
    (∀ x ∈ l.zip l', q x.2 = true → p x.1 = true ∨ r x = true) →
    l'.countP q ≤ l.countP p + (l.zip l').countP r
  | [], [], _, _ => by simp
  | [], _ :: _, h, _ => by simp at h
  | _ :: _, [], h, _ => by simp at h
  | a :: l, a' :: l', h, hx => by
    have ih := countP_zip_le q p r l l' (by simpa using h) (fun x hm => hx x (by simp [hm]))
    have h0 := hx (a, a') (by simp)
    simp only [List.zip_cons_cons, List.countP_cons]
    by_cases hq : q a' = true
    · rcases h0 hq with h1 | h1 <;> simp [hq, h1] <;> omega
    · simp [hq]; omega

/-- Where the pc of a waiter that was at `w0` can be after Signals, waiter progress and expiries (but no
`start` / `release` / `broadcast`): an entered waiter anywhere; a woken one still waiting for the lock or returned;
everybody else where it was. -/
def OkAfter (w0 : Waiter) (p : Pc) : Prop :=
  isEntered w0 = true ∨ p = w0.pc ∨ ∃ e, w0.pc = .woken e ∧ p = (if e then .doneErr else .doneNil)

theorem okAfter_step {s s' : State} {l : Label} {i : Nat} {w0 : Waiter} {p p' : Pc} (h0 : OkAfter w0 p)
    (ht : PcTrans s s' i l p p') (hl : progressOrCancel l = true) : OkAfter w0 p' := by
  -- a waiter that moves from `unlocked` or `parked` was entered at the start
  have entered : (∃ ch, p = .unlocked ch) ∨ (∃ c, p = .parked c) → OkAfter w0 p' := by
    intro hp
    rcases h0 with h0 | rfl | ⟨e, _, rfl⟩
    · exact .inl h0
    · left
      unfold isEntered isUnparked isParked
      rcases hp with ⟨ch, hp⟩ | ⟨c, hp⟩ <;> rw [hp] <;> rfl
    · rcases hp with ⟨_, hp⟩ | ⟨_, hp⟩ <;> cases e <;> cases hp
  have relock : ∀ e, p = .woken e → p' = (if e then .doneErr else .doneNil) → OkAfter w0 p' := by
    rintro e rfl rfl
    rcases h0 with h0 | h0 | ⟨e', _, h1⟩
    · exact .inl h0
    · exact .inr (.inr ⟨e, h0.symm, rfl⟩)
    · cases e' <;> cases h1
  cases ht with
  | same => exact h0
  | start | release | wake => cases hl
  | recv ch | ctx ch | park ch => exact entered (.inl ⟨ch, rfl⟩)
  | handoff c | expire c => exact entered (.inr ⟨c, rfl⟩)
  | relockNil => exact relock false rfl rfl
  | relockErr => exact relock true rfl rfl

theorem okAfter_zip {ls : List Label} {s s' : State} (h : run Cfg.std s ls = some s')
    (hl : ∀ l ∈ ls, progressOrCancel l = true) {x : Waiter × Waiter} (hx : x ∈ s.ws.zip s'.ws) : OkAfter x.1 x.2.pc := by
  obtain ⟨i, hix⟩ := List.mem_iff_getElem?.mp hx
  obtain ⟨h1, h2⟩ := List.getElem?_zip_eq_some.mp hix
  obtain ⟨w', hw', hok⟩ := (isRun _).inv (P := fun t => ∃ w', t.ws[i]? = some w' ∧ OkAfter x.1 w'.pc)
    (Q := fun l => progressOrCancel l = true)
    (fun ⟨_, hw1, h0⟩ hl1 h1 =>
      let ⟨w2, hw2, ht, _⟩ := step_trans h1 hw1
      ⟨w2, hw2, okAfter_step h0 ht hl1⟩)
    h hl ⟨x.1, h1, .inr (.inl rfl)⟩
  rw [h2] at hw'; cases hw'
  exact hok

theorem woken_of_them {s s' : State} {ls : List Label} (h : run Cfg.std s ls = some s')
    (hl : ∀ l ∈ ls, progressOrCancel l = true) : nWoken s' ≤ nWoken s + nWokenOfThem s s' := by
  unfold nWoken nWokenOfThem
  refine countP_zip_le isWoken isWoken _ s.ws s'.ws (run_ws_length h).symm fun x hx hq => ?_
  rcases okAfter_zip h hl hx with hent | hsame | ⟨e, hp, _⟩
  · exact .inr (by simp [hent, hq])
  · left; unfold isWoken at hq ⊢; rwa [hsame] at hq
  · left; unfold isWoken; rw [hp]

theorem quiet_woken_of_them {s s' : State} {ls : List Label} (h : run Cfg.std s ls = some s')
    (hl : ∀ l ∈ ls, progressOnly l = true) : nWoken s' ≤ nWoken s + nWokenOfThem s s' :=
  woken_of_them h fun l hm => progressOrCancel_of_progressOnly (hl l hm)

theorem quietc_of_them {s s' : State} {ls : List Label} (hi : Inv s) (h : run Cfg.std s ls = some s')
    (hl : ∀ l ∈ ls, progressOrCancel l = true) :
    nWoken s' ≤ nWoken s + nWokenOfThem s s' ∧ nErr s' ≤ nErr s + nErrOfThem s s' := by
  refine ⟨woken_of_them h hl, ?_⟩
  unfold nErr nErrOfThem
  refine countP_zip_le isErr isErr _ s.ws s'.ws (run_ws_length h).symm fun x hx hq => ?_
  have hpc : x.2.pc = .doneErr := by
    unfold isErr at hq
    split at hq
    · assumption
    · cases hq
  rcases okAfter_zip h hl hx with hent | hsame | ⟨e, hp, hp'⟩
  · exact .inr (by simp [hent, hpc])
  · left; unfold isErr; rw [← hsame, hpc]
  · -- no waiter of a reachable state is at `woken true`
    obtain ⟨i, hix⟩ := List.mem_iff_getElem?.mp hx
    rw [(hi.wait_pc (List.getElem?_zip_eq_some.mp hix).1 hp).2, hpc] at hp'
    cases hp'

end Juniper.Proofs.Cond
