import Juniper.Model.CondFine
import Juniper.Proofs.Cond
/-!
# The lock discipline of `ContextCond` makes `Signal` / `Broadcast` atomic and panic-free (C16)

About the fine-grained LTS of `Model/CondFine.lean` (statement-by-statement `Signal` / `Broadcast`, `c.m`
explicit) under the standard configuration (`cfg_gen`): the lock-discipline invariant `FInv` is inductive over all
labels, so (1) no reachable state has panicked — no send on a closed channel, no double close, no unlock of a
mutex that is not held — and (2) from a state satisfying it every step is, seen through `absOf`, no step or one
step of the atomic LTS of `Model/Cond.lean` (`fstep_refines`): `Signal` takes effect at its send, `Broadcast` at its
`close`, and what happens between `close` and the installation of the fresh channel commutes with the installation.
Hence every reachable state stands for a reachable state of the atomic LTS (`abs_reach`).
-/
namespace Juniper.Proofs.CondFine
open Juniper.Model.Cond Juniper.Proofs.Cond Juniper.ListStore

/-- the fresh channel installed (and made current) -/
def inst (b : State) : State :=
  { b with chans := b.chans ++ [{ cap := 1, buf := 0, closed := false }], cur := b.chans.length }

/-- the snapshot a waiter carries on its way to the `select` is an existing channel -/
def SnapOk (n : Nat) : Pc → Prop
  | .held ch => ∃ c, ch = some c ∧ c < n
  | .unlocked ch => ∃ c, ch = some c ∧ c < n
  | _ => True

theorem snapOk_mono {n m : Nat} {p : Pc} (h : SnapOk n p) (hnm : n ≤ m) : SnapOk m p := by
  cases p with
  | held ch | unlocked ch => obtain ⟨c, h1, h2⟩ := h; exact ⟨c, h1, Nat.lt_of_lt_of_le h2 hnm⟩
  | _ => trivial

theorem snaps_step {s s' : State} {l : Label} (h : step Cfg.std s l = some s') (hcur : s.cur < s.chans.length)
    (hs : ∀ (i : Nat) (w : Waiter), s.ws[i]? = some w → SnapOk s.chans.length w.pc) :
    ∀ (i : Nat) (w : Waiter), s'.ws[i]? = some w → SnapOk s'.chans.length w.pc := by
  intro i w' hw'
  obtain ⟨w, hw, ht, _⟩ := step_trans_back h hw'
  have hle : s.chans.length ≤ s'.chans.length := by
    cases hn : s.chans.length with
    | zero => exact Nat.zero_le _
    | succ n => exact (step_chan_mono (c := n) h (by omega)).1
  have h0 := snapOk_mono (hs i w hw) hle
  generalize w.pc = p, w'.pc = p' at ht h0
  cases ht with
  | same => exact h0
  | start => exact ⟨s.cur, rfl, Nat.lt_of_lt_of_le hcur hle⟩
  | release => exact h0
  | _ => trivial

theorem chanAt_inst_lt (b : State) (c : Nat) (hc : c < b.chans.length) : chanAt (inst b) c = chanAt b c := by
  simp [chanAt, inst, List.getElem?_append_left hc]

theorem inst_setPc (b : State) (i : Nat) (p : Pc) : inst (setPc b i p) = setPc (inst b) i p := rfl

/-- The labels of `hl` are what can happen between `close` and the installation of the fresh channel (`finv_env`). -/
theorem step_inst {b b' : State} {l : Label} (h : step Cfg.std b l = some b')
    (hl : match l with | .release _ | .arrive _ _ | .cancel _ | .relock _ | .hunlock => True | _ => False)
    (hs : ∀ (i : Nat) (w : Waiter), b.ws[i]? = some w → SnapOk b.chans.length w.pc) :
    step Cfg.std (inst b) l = some (inst b') := by
  cases Step.of_step h with
  | start | handoff | buffer | drop | broadcast => cases hl
  | release hw hpc hlk => exact (Step.release (s := inst b) hw hpc hlk).to_step
  | relock hw hpc hlk => exact (Step.relock (s := inst b) hw hpc hlk).to_step
  | hunlock hlk hw hpc => exact (Step.hunlock (s := inst b) hlk hw hpc).to_step
  | cancel hw hc => exact (Step.cancel (s := inst b) hw hc).to_step
  | ctx hw hpc hc => exact (Step.ctx (s := inst b) hw hpc hc).to_step
  | @recv j w ch0 hw hpc hr =>
    obtain ⟨ch, rfl, hch⟩ := hpc ▸ hs j w hw
    have hchan : chanAt (inst b) ch = chanAt b ch := chanAt_inst_lt b ch hch
    have e : recvState (inst b) j ch = inst (recvState b j ch) := by
      unfold recvState
      rw [hchan]
      cases hcl : (chanAt b ch).closed
      · simp [inst, setPc, List.set_append_left _ _ hch]
      · rfl
    exact e ▸ (Step.recv (s := inst b) hw hpc (hchan ▸ hr)).to_step
  | @park j w ch0 hw hpc hopen hbuf hc =>
    obtain ⟨ch, rfl, hch⟩ := hpc ▸ hs j w hw
    have hchan : chanAt (inst b) ch = chanAt b ch := chanAt_inst_lt b ch hch
    exact (Step.park (s := inst b) hw hpc (hchan ▸ hopen) (hchan ▸ hbuf) hc).to_step

/-- where a `Signal` / `Broadcast` call can be, and what it then holds -/
def CallOk (b : State) (c : CallT) : Prop :=
  match c.todo with
  | [.mRLock, .sel, .mRUnlock] => c.holdsR = false ∧ c.holdsW = false ∧ c.snap = none
  | [.sel, .mRUnlock] => c.holdsR = true ∧ c.holdsW = false ∧ (c.snap = none ∨ c.snap = some b.cur)
  | [.mRUnlock] => c.holdsR = true ∧ c.holdsW = false ∧ c.snap = none
  | [.mLock, .closeCur, .install, .mUnlock] => c.holdsR = false ∧ c.holdsW = false ∧ c.snap = none
  | [.closeCur, .install, .mUnlock] => c.holdsR = false ∧ c.holdsW = true ∧ c.snap = none
  | [.install, .mUnlock] => c.holdsR = false ∧ c.holdsW = true ∧ c.snap = none
  | [.mUnlock] => c.holdsR = false ∧ c.holdsW = true ∧ c.snap = none
  | [] => c.holdsR = false ∧ c.holdsW = false ∧ c.snap = none
  | _ => False

def absS (fs : FState) : State := absOf Cfg.std fs

theorem absS_eq (fs : FState) : absS fs = if (chanAt fs.base fs.base.cur).closed then inst fs.base else fs.base := rfl

theorem absS_open {fs : FState} (h : (chanAt fs.base fs.base.cur).closed = false) : absS fs = fs.base := by
  rw [absS_eq, h]; rfl

theorem absS_closed {fs : FState} (h : (chanAt fs.base fs.base.cur).closed = true) : absS fs = inst fs.base := by
  rw [absS_eq, h]; rfl

/-- the call is between `close` and the installation of the fresh channel -/
def isMid (c : CallT) : Bool := c.todo == [.install, .mUnlock]

structure FInv (fs : FState) : Prop where
  alive : fs.panicked = false
  callsOk : ∀ (k : Nat) (c : CallT), fs.calls[k]? = some c → CallOk fs.base c
  rd : fs.readers = fs.calls.countP (·.holdsR)
  wr : (if fs.writer = true then 1 else 0) = fs.calls.countP (·.holdsW)
  excl : fs.writer = true → fs.readers = 0
  cur_lt : fs.base.cur < fs.base.chans.length
  closed_mid : (if (chanAt fs.base fs.base.cur).closed = true then 1 else 0) = fs.calls.countP isMid
  snaps : ∀ (i : Nat) (w : Waiter), fs.base.ws[i]? = some w → SnapOk fs.base.chans.length w.pc

def Sim (fs fs' : FState) : Prop := absS fs' = absS fs ∨ ∃ l, step Cfg.std (absS fs) l = some (absS fs')

theorem finv_init (k : Nat) : FInv (finit Cfg.std k) := by
  refine ⟨rfl, ?_, rfl, rfl, fun _ => rfl, by simp [finit, init], by simp [finit, init, chanAt], ?_⟩
  · intro k c h; simp [finit] at h
  · intro i w hw; cases init_ws (show (init Cfg.std k).ws[i]? = some w from hw); simp [SnapOk]

theorem holder_writer {fs : FState} (hi : FInv fs) {k : Nat} {c : CallT} (hk : fs.calls[k]? = some c)
    (hW : c.holdsW = true) : fs.writer = true := by
  have h1 := countP_pos (p := (·.holdsW)) hk hW
  have h2 := hi.wr
  cases h : fs.writer
  · simp only [h, Bool.false_eq_true, if_false] at h2; omega
  · rfl

theorem writer_unique {fs : FState} (hi : FInv fs) {j k : Nat} {c x : CallT} (hj : fs.calls[j]? = some c)
    (hk : fs.calls[k]? = some x) (hc : c.holdsW = true) (hx : x.holdsW = true) : k = j := by
  by_cases hkj : k = j
  · exact hkj
  · -- take the lock from `j`: `k` still holds it
    have h1 := countP_set_add (p := (·.holdsW)) (a := { c with holdsW := false }) hj
    have h2 := countP_pos (p := (·.holdsW)) (l := fs.calls.set j { c with holdsW := false })
      (by rw [List.getElem?_set_ne (Ne.symm hkj)]; exact hk) hx
    have h3 := hi.wr
    simp only [hc, if_true, Bool.false_eq_true, if_false] at h1
    split at h3 <;> omega

theorem mid_call {fs : FState} (hi : FInv fs) (hcl : (chanAt fs.base fs.base.cur).closed = true) :
    ∃ (k : Nat) (c : CallT), fs.calls[k]? = some c ∧ c.todo = [.install, .mUnlock] ∧ c.holdsW = true := by
  have h := hi.closed_mid
  rw [if_pos hcl] at h
  obtain ⟨c, hmem, hm⟩ := List.countP_pos_iff.mp (h ▸ Nat.one_pos)
  obtain ⟨k, hk⟩ := List.mem_iff_getElem?.mp hmem
  have htodo : c.todo = [.install, .mUnlock] := by simpa [isMid] using hm
  have hok := hi.callsOk k c hk
  simp only [CallOk, htodo] at hok
  exact ⟨k, c, hk, htodo, hok.2.1⟩

theorem mid_writer {fs : FState} (hi : FInv fs) (hcl : (chanAt fs.base fs.base.cur).closed = true) :
    fs.writer = true ∧ fs.readers = 0 := by
  obtain ⟨k, c, hk, _, hW⟩ := mid_call hi hcl
  have hwr := holder_writer hi hk hW
  exact ⟨hwr, hi.excl hwr⟩

theorem reader_no_writer {fs : FState} (hi : FInv fs) {k : Nat} {c : CallT} (hk : fs.calls[k]? = some c)
    (hr : c.holdsR = true) : fs.writer = false ∧ (chanAt fs.base fs.base.cur).closed = false ∧ 0 < fs.readers := by
  have hpos : 0 < fs.readers := hi.rd ▸ countP_pos (p := (·.holdsR)) hk hr
  have hw : fs.writer = false := by
    cases h : fs.writer
    · rfl
    · have := hi.excl h; omega
  refine ⟨hw, ?_, hpos⟩
  cases hcl : (chanAt fs.base fs.base.cur).closed
  · rfl
  · have := (mid_writer hi hcl).1; rw [hw] at this; cases this

theorem callOk_cur {b b' : State} {c : CallT} (hcur : b'.cur = b.cur) (h : CallOk b c) : CallOk b' c := by
  unfold CallOk at h ⊢
  rw [hcur]; exact h

/-- The atomic state makes a step other than `broadcast` (between `close` and the installation: one that commutes with
the installation): the invariant is kept and the state the fine state stands for makes the same step. -/
theorem finv_base {fs : FState} {l : Label} {b' : State} (hi : FInv fs) (hs : step Cfg.std fs.base l = some b')
    (hne : l ≠ .broadcast)
    (hl : (chanAt fs.base fs.base.cur).closed = true → step Cfg.std (inst fs.base) l = some (inst b')) :
    FInv { fs with base := b' } ∧ step Cfg.std (absS fs) l = some (absS { fs with base := b' }) := by
  obtain ⟨hcur, hlen, hclosed⟩ := step_frame hs hne
  have hcl : (chanAt b' b'.cur).closed = (chanAt fs.base fs.base.cur).closed := by rw [hcur, hclosed]
  refine ⟨⟨hi.alive, fun k c hk => callOk_cur hcur (hi.callsOk k c hk), hi.rd, hi.wr, hi.excl, ?_, ?_,
    snaps_step hs hi.cur_lt hi.snaps⟩, ?_⟩
  · show b'.cur < b'.chans.length
    rw [hcur, hlen]; exact hi.cur_lt
  · show (if (chanAt b' b'.cur).closed = true then 1 else 0) = _
    rw [hcl]; exact hi.closed_mid
  · cases hmid : (chanAt fs.base fs.base.cur).closed
    · rw [absS_open (fs := { fs with base := b' }) (hcl.trans hmid), absS_open hmid]
      exact hs
    · rw [absS_closed (fs := { fs with base := b' }) (hcl.trans hmid), absS_closed hmid]
      exact hl hmid

theorem finv_env {fs fs' : FState} {l : Label} (hi : FInv fs) (h : fstep Cfg.std fs (.env l) = some fs') :
    FInv fs' ∧ Sim fs fs' := by
  simp only [fstep, Bool.or_eq_true, Bool.not_eq_true', Bool.and_eq_true] at h
  split at h
  · cases h
  split at h
  · cases h
  rename_i hc1 hc2
  obtain ⟨b', hs, rfl⟩ := Option.map_eq_some_iff.mp h
  obtain ⟨hi', hsim⟩ := finv_base hi hs (by rintro rfl; exact hc1 (.inr rfl)) fun hmid => by
    refine step_inst hs ?_ hi.snaps
    -- between `close` and the installation a writer holds `c.m`: no `start`
    cases l with
    | start => exact absurd ⟨rfl, (mid_writer hi hmid).1⟩ hc2
    | signal | broadcast => exact absurd (.inr rfl) hc1
    | _ => trivial
  exact ⟨hi', .inr ⟨l, hsim⟩⟩

theorem finv_call {fs fs' : FState} {sig : Bool} (hi : FInv fs) (h : fstep Cfg.std fs (.call sig) = some fs') :
    FInv fs' ∧ Sim fs fs' := by
  simp only [fstep] at h
  split at h
  · cases h
  · cases h
    -- the new call has not started: it holds nothing and is not between `close` and the installation
    generalize hnew : CallT.mk (if sig = true then Cfg.std.sigOps else Cfg.std.bcOps) false false none = c0
    have hok : ∀ b, CallOk b c0 := by intro b; subst hnew; cases sig <;> simp [CallOk, Cfg.std]
    have hR : c0.holdsR = false := by subst hnew; rfl
    have hW : c0.holdsW = false := by subst hnew; rfl
    have hmid : isMid c0 = false := by subst hnew; cases sig <;> rfl
    refine ⟨⟨hi.alive, ?_, ?_, ?_, hi.excl, hi.cur_lt, ?_, hi.snaps⟩, .inl rfl⟩
    · intro k c hk
      rw [List.getElem?_append] at hk
      split at hk
      · exact hi.callsOk k c hk
      · obtain rfl := List.mem_singleton.mp (List.mem_of_getElem? hk)
        exact hok _
    · show fs.readers = (fs.calls ++ [c0]).countP _
      rw [List.countP_append, hi.rd]; simp [hR]
    · show _ = (fs.calls ++ [c0]).countP _
      rw [List.countP_append, hi.wr]; simp [hW]
    · show _ = (fs.calls ++ [c0]).countP _
      rw [List.countP_append, hi.closed_mid]; simp [hmid]

/-- Call `j` goes from `c` to `c'`, the atomic state to `b'`; the three counts are balanced against the record of `j`. -/
theorem finv_update {fs : FState} (hi : FInv fs) {j : Nat} {c c' : CallT} {b' : State} {r : Nat} {w : Bool}
    (hc : fs.calls[j]? = some c) (hok : CallOk b' c')
    (hoth : ∀ (k : Nat) (x : CallT), fs.calls[k]? = some x → CallOk b' x)
    (hrd : r + (if c.holdsR = true then 1 else 0) = fs.readers + (if c'.holdsR = true then 1 else 0))
    (hwr : (if w = true then 1 else 0) + (if c.holdsW = true then 1 else 0)
      = (if fs.writer = true then 1 else 0) + (if c'.holdsW = true then 1 else 0))
    (hexcl : w = true → r = 0) (hcur : b'.cur < b'.chans.length)
    (hmid : (if (chanAt b' b'.cur).closed = true then 1 else 0) + (if isMid c = true then 1 else 0)
      = (if (chanAt fs.base fs.base.cur).closed = true then 1 else 0) + (if isMid c' = true then 1 else 0))
    (hsnaps : ∀ (i : Nat) (w : Waiter), b'.ws[i]? = some w → SnapOk b'.chans.length w.pc) :
    FInv { fs with base := b', calls := fs.calls.set j c', readers := r, writer := w } := by
  refine ⟨hi.alive, ?_, ?_, ?_, hexcl, hcur, ?_, hsnaps⟩
  · intro k x hk
    by_cases hkj : k = j
    · subst hkj
      rw [List.getElem?_set_self (lt_of_getElem? hc)] at hk
      cases hk; exact hok
    · rw [List.getElem?_set_ne (Ne.symm hkj)] at hk
      exact hoth k x hk
  · show r = (fs.calls.set j c').countP _
    have := countP_set_add (p := (·.holdsR)) (a := c') hc
    have := hi.rd
    omega
  · show (if w = true then 1 else 0) = (fs.calls.set j c').countP _
    have := countP_set_add (p := (·.holdsW)) (a := c') hc
    have := hi.wr
    omega
  · show (if (chanAt b' b'.cur).closed = true then 1 else 0) = (fs.calls.set j c').countP _
    have := countP_set_add (p := isMid) (a := c') hc
    have := hi.closed_mid
    omega

theorem finv_update_call {fs : FState} (hi : FInv fs) {j : Nat} {c c' : CallT} {r : Nat} {w : Bool}
    (hc : fs.calls[j]? = some c) (hok : CallOk fs.base c')
    (hrd : r + (if c.holdsR = true then 1 else 0) = fs.readers + (if c'.holdsR = true then 1 else 0))
    (hwr : (if w = true then 1 else 0) + (if c.holdsW = true then 1 else 0)
      = (if fs.writer = true then 1 else 0) + (if c'.holdsW = true then 1 else 0))
    (hexcl : w = true → r = 0) (hmid : isMid c' = isMid c) :
    FInv { fs with calls := fs.calls.set j c', readers := r, writer := w } ∧
      Sim fs { fs with calls := fs.calls.set j c', readers := r, writer := w } :=
  ⟨finv_update hi hc hok hi.callsOk hrd hwr hexcl hi.cur_lt (by rw [hmid]) hi.snaps, .inl rfl⟩

/-- only a call that holds `c.m` for reading depends on which channel is current -/
theorem callOk_noR {b b' : State} {x : CallT} (h : CallOk b x) (hr : x.holdsR = false) : CallOk b' x := by
  unfold CallOk at h ⊢
  split <;> simp_all

theorem finv_callStep {fs fs' : FState} {j : Nat} {to : Option Nat} (hi : FInv fs)
    (h : fstep Cfg.std fs (.callStep j to) = some fs') : FInv fs' ∧ Sim fs fs' := by
  simp only [fstep] at h
  split at h
  · cases h
  split at h
  · cases h
  rename_i c hc
  split at h
  · cases h
  rename_i op rest htodo
  have hok := hi.callsOk j c hc
  unfold CallOk at hok
  rw [htodo] at hok
  split at hok
  all_goals rename_i heq
  all_goals (try (obtain ⟨rfl, rfl⟩ := List.cons.inj heq))
  · -- `c.m.RLock()` of Signal
    obtain ⟨h1, h2, h3⟩ := hok
    simp only [opStep, setCall] at h
    split at h
    · cases h
    · rename_i hnw
      cases h
      exact finv_update_call hi hc (by simp [CallOk, h2, h3]) (by simp [h1]) rfl (fun e => absurd e hnw)
        (by simp [isMid, htodo])
  · -- the `select` of Signal
    obtain ⟨h1, h2, h3⟩ := hok
    obtain ⟨hnw, hopen, _⟩ := reader_no_writer hi hc h1
    have hss : Cfg.std.sigSend = true := rfl
    simp only [opStep, setCall, hss, Bool.not_true, Bool.false_eq_true, if_false] at h
    cases hsn : c.snap with
    | none =>
      -- `c.ch` is evaluated
      simp only [hsn, Option.some.injEq] at h
      subst h
      exact finv_update_call hi hc (by simp [CallOk, htodo, h1, h2]) rfl rfl (by intro e; rw [hnw] at e; cases e) rfl
    | some ch =>
      -- the send, on the channel that is still current: a `signal` step of the atomic LTS
      obtain rfl : ch = fs.base.cur := by
        rcases h3 with h3 | h3 <;> rw [hsn] at h3
        · cases h3
        · exact Option.some.inj h3
      simp only [hsn, hopen, Bool.false_eq_true, if_false] at h
      cases hsend : sendOn Cfg.std fs.base fs.base.cur to with
      | none => simp [hsend] at h
      | some b' =>
        simp only [hsend, Option.map_some, Option.some.injEq] at h
        subst h
        have hs : step Cfg.std fs.base (.signal to) = some b' := by
          simp only [step, hss, Bool.not_true, Bool.false_eq_true, if_false]; exact hsend
        obtain ⟨hi', hsim⟩ := finv_base hi hs (by simp) fun hcl => by rw [hopen] at hcl; cases hcl
        exact ⟨(finv_update_call hi' hc (c' := { c with todo := [.mRUnlock], snap := none }) (by simp [CallOk, h1, h2]) rfl rfl
          hi.excl (by simp [isMid, htodo])).1, .inr ⟨_, hsim⟩⟩
  · -- `c.m.RUnlock()` of Signal
    obtain ⟨h1, h2, h3⟩ := hok
    obtain ⟨hnw, _, hpos⟩ := reader_no_writer hi hc h1
    simp only [opStep, setCall, h1, if_true, Option.some.injEq] at h
    subst h
    exact finv_update_call hi hc (by simp [CallOk, h2, h3]) (by simp [h1]; omega) rfl (by intro e; rw [hnw] at e; cases e)
      (by simp [isMid, htodo])
  · -- `c.m.Lock()` of Broadcast
    obtain ⟨h1, h2, h3⟩ := hok
    simp only [opStep, setCall] at h
    split at h
    · cases h
    · rename_i hfree
      simp only [Bool.or_eq_true, bne_iff_ne, ne_eq, not_or, Bool.not_eq_true, Decidable.not_not] at hfree
      cases h
      exact finv_update_call hi hc (by simp [CallOk, h1, h3]) (by simp [h1]) (by simp [h2, hfree.1]) (fun _ => hfree.2)
        (by simp [isMid, htodo])
  · -- `close(c.ch)`: the `broadcast` step of the atomic LTS
    obtain ⟨h1, h2, h3⟩ := hok
    have hopen : (chanAt fs.base fs.base.cur).closed = false := by
      cases hcl : (chanAt fs.base fs.base.cur).closed
      · rfl
      · -- a call between `close` and the installation would hold the write lock too
        obtain ⟨k, x, hk, hx, hxW⟩ := mid_call hi hcl
        obtain rfl := writer_unique hi hc hk h2 hxW
        rw [hc] at hk; cases hk
        rw [htodo] at hx; simp at hx
    simp only [opStep, setCall, hopen, Bool.false_eq_true, if_false, bcStep, Option.map_some, Option.some.injEq, Cfg.std, if_true] at h
    subst h
    refine ⟨finv_update hi hc (by simp [CallOk, h1, h2, h3]) (fun k x hk => callOk_cur rfl (hi.callsOk k x hk)) rfl rfl hi.excl
      (by show fs.base.cur < (fs.base.chans.set _ _).length; simpa using hi.cur_lt)
      (by rw [hopen]; simp [chanAt, hi.cur_lt, isMid, htodo]) ?_, .inr ⟨.broadcast, ?_⟩⟩
    · intro i w' hw'
      obtain ⟨w0, hs, rfl⟩ := wakeAll_get_some (show (wakeAll Cfg.std fs.base.cur fs.base.ws)[i]? = some w' from hw')
      show SnapOk (fs.base.chans.set _ _).length _
      rw [List.length_set]
      split
      · simp [SnapOk]
      · exact hi.snaps i w0 hs
    · rw [absS_open hopen, (Step.broadcast hopen).to_step, absS_eq]
      simp [chanAt, hi.cur_lt, inst, bcState, Cfg.std]
  · -- the installation of the fresh channel: the state of the atomic LTS stays
    obtain ⟨h1, h2, h3⟩ := hok
    have hmidc : isMid c = true := by simp [isMid, htodo]
    have hcl : (chanAt fs.base fs.base.cur).closed = true := by
      cases hcl : (chanAt fs.base fs.base.cur).closed
      · have := hi.closed_mid
        have := countP_pos (p := isMid) hc hmidc
        simp only [hcl, Bool.false_eq_true, if_false] at *
        omega
      · rfl
    have hnoR : ∀ (k : Nat) (x : CallT), fs.calls[k]? = some x → x.holdsR = false := fun k x hk =>
      Bool.eq_false_iff.mpr fun hr => nomatch hcl.symm.trans (reader_no_writer hi hk hr).2.1
    simp only [opStep, setCall, bcStep, Option.map_some, Option.some.injEq, Cfg.std] at h
    subst h
    refine ⟨finv_update hi hc (by simp [CallOk, h1, h2, h3]) (fun k x hk => callOk_noR (hi.callsOk k x hk) (hnoR k x hk))
      rfl rfl hi.excl (by show fs.base.chans.length < (fs.base.chans ++ [_]).length; simp)
      (by rw [hcl, hmidc]; simp [chanAt, isMid]) (fun i w hw' => snapOk_mono (hi.snaps i w hw') (by simp)), .inl ?_⟩
    rw [absS_closed hcl, absS_eq]
    simp [chanAt, inst]
  · -- `c.m.Unlock()` of Broadcast
    obtain ⟨h1, h2, h3⟩ := hok
    simp only [opStep, setCall, h2, if_true, Option.some.injEq] at h
    subst h
    exact finv_update_call hi hc (by simp [CallOk, h1, h3]) (by simp [h1]) (by simp [h2, holder_writer hi hc h2])
      (by intro e; cases e) (by simp [isMid, htodo])
  · cases heq
  · exact hok.elim

/-- Forward simulation: a waiter's label is itself, the send of a `Signal` is `signal`, the `close` of a `Broadcast` is
`broadcast`, every other statement is invisible. -/
theorem fstep_refines {fs fs' : FState} {l : FLabel} (hi : FInv fs) (h : fstep Cfg.std fs l = some fs') :
    FInv fs' ∧ Sim fs fs' := by
  cases l with
  | env l => exact finv_env hi h
  | call sig => exact finv_call hi h
  | callStep j to => exact finv_callStep hi h

theorem finv_reach {fs : FState} (h : FReach Cfg.std fs) : FInv fs := by
  induction h with
  | init k => exact finv_init k
  | step l _ hs ih => exact (fstep_refines ih hs).1

theorem abs_reach {fs : FState} (h : FReach Cfg.std fs) : Reach Cfg.std (absS fs) := by
  induction h with
  | init k => exact .init k
  | step l hr hs ih =>
    rcases (fstep_refines (finv_reach hr) hs).2 with e | ⟨l', hl'⟩
    · exact e ▸ ih
    · exact .step l' ih hl'

theorem isRun (cfg : Cfg) : LTS.IsRun (fstep cfg) (frun cfg) :=
  ⟨fun _ => rfl, fun fs l ls => by rw [frun]; cases fstep cfg fs l <;> rfl⟩

theorem freach_frun {cfg : Cfg} {ls : List FLabel} : ∀ {fs fs' : FState}, FReach cfg fs → frun cfg fs ls = some fs' → FReach cfg fs' :=
  (isRun cfg).reach (.step _)

end Juniper.Proofs.CondFine
