import Juniper.Proofs.HeapBasic
/-!
# The sift loops only swap, so they permute the array; a heap call announces one position and then only swaps;
`moveLast` removes one element
-/
namespace Juniper.Proofs.Heap
open Juniper.Gen.Heap Juniper.Model.Heap
open Juniper.ListStore (lt_of_getElem?)

variable {α : Type}

theorem set_perm_cons {a : List α} {j : Nat} {x y : α} (h : a[j]? = some y) :
    (y :: a.set j x).Perm (x :: a) := by
  induction a generalizing j with
  | nil => simp at h
  | cons z t ih =>
    cases j with
    | zero =>
      simp at h; subst h
      exact List.Perm.swap x z t
    | succ j =>
      simp at h
      simp only [List.set_cons_succ]
      exact (List.Perm.swap z y _).trans (((ih h).cons z).trans (List.Perm.swap x z t))

theorem swapAt_perm (a : List α) (i j : Nat) : (swapAt a i j).Perm a := by
  rw [swapAt_eq]
  split
  · rename_i x y hx hy
    by_cases hij : i = j
    · subst hij
      rw [hx] at hy; cases hy
      obtain ⟨hi, rfl⟩ := List.getElem?_eq_some_iff.mp hx
      rw [List.set_set, List.set_getElem_self]
    · have h1 : (x :: a.set i y).Perm (y :: a) := set_perm_cons hx
      have hj' : (a.set i y)[j]? = some y := by
        rw [List.getElem?_set]; simp [hij, hy]
      have h2 : (y :: (a.set i y).set j x).Perm (x :: a.set i y) := set_perm_cons hj'
      have h3 : (y :: (a.set i y).set j x).Perm (y :: a) := h2.trans h1
      exact (List.perm_cons y).mp h3
  · exact List.Perm.refl _

/-- `Swaps a a' ns`: `a'` arises from `a` by `h.swap(i, j)` calls on positions of the array, and `ns` is what those
calls announce, in order. This is all the sift loops and the first loop of `New` do; that they permute the array, keep
an exact index map exact and announce items of the array only are facts about `Swaps`. -/
inductive Swaps : List α → List α → List (Note α) → Prop
  | refl (a : List α) : Swaps a a []
  | step {a a' : List α} {ns : List (Note α)} {i j : Nat} (hi : i < a.length) (hj : j < a.length) :
      Swaps (swapAt a i j) a' ns → Swaps a a' ((swapN a i j).2 ++ ns)

theorem Swaps.trans {a b c : List α} {ns ms : List (Note α)} (h1 : Swaps a b ns) (h2 : Swaps b c ms) :
    Swaps a c (ns ++ ms) := by
  induction h1 with
  | refl => exact h2
  | step hi hj _ ih => rw [List.append_assoc]; exact .step hi hj (ih h2)

theorem Swaps.perm {a a' : List α} {ns : List (Note α)} (h : Swaps a a' ns) : a'.Perm a := by
  induction h with
  | refl => exact .refl _
  | step _ _ _ ih => exact ih.trans (swapAt_perm _ _ _)

theorem notifyAt_mem {a : List α} {i : Nat} {n : Note α} (hn : n ∈ notifyAt a i) : n.1 ∈ a := by
  rw [notifyAt_eq] at hn
  split at hn
  · rename_i x hx; simp at hn; subst hn; exact List.mem_of_getElem? hx
  · cases hn

theorem swapN_notes_mem {a : List α} {i j : Nat} {n : Note α} (hn : n ∈ (swapN a i j).2) :
    n.1 ∈ a := by
  rw [swapN_eq] at hn
  rcases List.mem_append.mp hn with hn | hn <;> exact (swapAt_perm a i j).subset (notifyAt_mem hn)

theorem Swaps.notes_mem {a a' : List α} {ns : List (Note α)}
    (s : Swaps a a' ns) {n : Note α} (hn : n ∈ ns) : n.1 ∈ a := by
  induction s with
  | refl => cases hn
  | step _ _ _ ih =>
    rcases List.mem_append.mp hn with hn | hn
    · exact swapN_notes_mem hn
    · exact (swapAt_perm _ _ _).subset (ih hn)

-- a swap follows a comparison that came out true, so both positions are in range: no hypothesis on `i`
theorem upLoop_swaps (less : α → α → Bool) (f : Nat) (a : List α) (i : Nat) :
    Swaps a (upLoop less f a i).1 (upLoop less f a i).2 := by
  induction f generalizing a i with
  | zero => exact .refl a
  | succ f ih =>
    rw [upLoop_succ]
    split
    · split
      · rename_i hl
        exact .step (lt_of_lessAt hl).1 (lt_of_lessAt hl).2 (ih _ _)
      · exact ih _ _
    · exact .refl a

theorem downLoop_swaps (less : α → α → Bool) (f : Nat) (a : List α) (i : Nat) :
    Swaps a (downLoop less f a i).1 (downLoop less f a i).2 := by
  induction f generalizing a i with
  | zero => exact .refl a
  | succ f ih =>
    rw [downLoop_succ]
    split
    · exact .refl a
    · split
      · rename_i hl
        exact .step (lt_of_lessAt hl).1 (lt_of_lessAt hl).2 (ih _ _)
      · exact .refl a

theorem percolateUp_swaps (less : α → α → Bool) (a : List α) (i : Nat) :
    Swaps a (percolateUp less a i).1 (percolateUp less a i).2 := upLoop_swaps _ _ _ _

theorem percolateDown_swaps (less : α → α → Bool) (a : List α) (i : Nat) :
    Swaps a (percolateDown less a i).1 (percolateDown less a i).2 := downLoop_swaps _ _ _ _

theorem heapifyLoop_swaps (less : α → α → Bool) (f : Nat) (a : List α) (i : Int) :
    Swaps a (heapifyLoop less f a i).1 (heapifyLoop less f a i).2 := by
  induction f generalizing a i with
  | zero => exact .refl a
  | succ f ih =>
    rw [heapifyLoop_succ]
    split
    · exact (percolateDown_swaps less _ _).trans (ih _ _)
    · exact .refl a

/-- `Announced b i a' notes`: what every heap call does once its one write has left the array `b`: it announces
position `i`, then only swaps, and ends with `a'`; `notes` is what it hands to `indexChanged`, in order. -/
def Announced (b : List α) (i : Nat) (a' : List α) (notes : List (Note α)) : Prop :=
  ∃ ns, notes = notifyAt b i ++ ns ∧ Swaps b a' ns

theorem Announced.perm {b a' : List α} {i : Nat} {notes : List (Note α)} (c : Announced b i a' notes) :
    a'.Perm b :=
  let ⟨_, _, s⟩ := c; s.perm

theorem Announced.notes_mem {b a' : List α} {i : Nat} {notes : List (Note α)} (c : Announced b i a' notes)
    {n : Note α} (hn : n ∈ notes) : n.1 ∈ b := by
  obtain ⟨ns, rfl, s⟩ := c
  rcases List.mem_append.mp hn with hn | hn
  · exact notifyAt_mem hn
  · exact s.notes_mem hn

theorem percolateUp_perm (less : α → α → Bool) (a : List α) (i : Nat) :
    (percolateUp less a i).1.Perm a := (percolateUp_swaps _ _ _).perm

theorem percolateDown_perm (less : α → α → Bool) (a : List α) (i : Nat) :
    (percolateDown less a i).1.Perm a := (percolateDown_swaps _ _ _).perm

theorem length_percolateUp (less : α → α → Bool) (a : List α) (i : Nat) :
    (percolateUp less a i).1.length = a.length := (percolateUp_perm less a i).length_eq

theorem length_percolateDown (less : α → α → Bool) (a : List α) (i : Nat) :
    (percolateDown less a i).1.length = a.length := (percolateDown_perm less a i).length_eq

/-- the array after `a[i] = a[len-1]; a = a[:len-1]`, the way `Pop` / `RemoveAt` remove position `i` -/
def moveLast (a : List α) (i : Nat) (last : α) : List α := (a.set i last).dropLast

/-- with the last element split off, `moveLast` is a `set` (a no-op when `i` is the last position) -/
theorem moveLast_concat (d : List α) (i : Nat) (x : α) : moveLast (d ++ [x]) i x = d.set i x := by
  unfold moveLast
  by_cases hi : i < d.length
  · rw [List.set_append_left _ _ hi, List.dropLast_concat]
  · rw [List.set_append_right _ _ (Nat.le_of_not_lt hi), List.set_eq_of_length_le (Nat.le_of_not_lt hi)]
    cases i - d.length <;> simp

theorem moveLast_perm {a : List α} {i : Nat} {x last : α} (hx : a[i]? = some x)
    (hl : a.getLast? = some last) : (x :: moveLast a i last).Perm a := by
  obtain ⟨d, rfl⟩ := List.getLast?_eq_some_iff.mp hl
  rw [moveLast_concat]
  by_cases hi : i < d.length
  · rw [List.getElem?_append_left hi] at hx
    exact (set_perm_cons hx).trans (List.perm_append_singleton last d).symm
  · have hi' : i = d.length := by
      have := lt_of_getElem? hx
      simp at this; omega
    subst hi'
    simp at hx; subst hx
    rw [List.set_eq_of_length_le (Nat.le_refl _)]
    exact (List.perm_append_singleton last d).symm

theorem getElem?_moveLast {a : List α} {i l : Nat} {last x : α} (hl : l ≠ i)
    (h : (moveLast a i last)[l]? = some x) : a[l]? = some x := by
  simp only [moveLast, List.getElem?_dropLast] at h
  split at h
  · rw [List.getElem?_set] at h; simpa [Ne.symm hl] using h
  · cases h

end Juniper.Proofs.Heap
