import Juniper.Proofs.DequeRefine
import Juniper.Proofs.SnapshotOrPanic
/-!
# The deque iterator through histories

A call that moves the modification counter makes the iterator stale, and a stale iterator only panics
(`stale_runEv`); so an iterator observed through any history is snapshot-or-panic (`IterAt.runEv`), and the calls
that add, remove or replace an element do move the counter (`Rep.applyOp_gen_lt`). Also: while the deque is only
read or refuses the call (`Quiet`), the iterator sees what back-to-back `Next` calls see.
-/
namespace Juniper.Proofs.Deque
open Juniper.Gen.Deque Juniper.Model.Deque
open Juniper.Spec.Deque (Op Out Obs SnapshotOrPanic)
variable {α : Type}

theorem stale_runEv (hc : ClearFacts) : ∀ (es : List (Ev α)) (d : Deque α) (l : List α) (it : Iter),
    Rep d l → it.gen < d.gen → ∀ o ∈ runEv d it es, o = .panic := by
  intro es
  induction es with
  | nil => intro d l it _ _ o ho; simp [runEv] at ho
  | cons e es ih =>
    intro d l it h hg
    cases e with
    | op o =>
      obtain ⟨hr, _, hs, _⟩ := h.applyOp o hc
      simp only [runEv]
      refine ih _ _ it hr ?_
      rcases hs with hs | hs
      · rw [hs]; exact hg
      · omega
    | next =>
      have hst := nextObs_stale d it (by omega)
      simp only [runEv, hst]
      intro o ho
      rcases List.mem_cons.mp ho with ho | ho
      · exact ho
      · exact ih d l it h hg o ho

theorem IterAt.runEv (hc : ClearFacts) (hgf : GenFacts) :
    ∀ (es : List (Ev α)) (d : Deque α) (l : List α) (it : Iter) (p : Nat),
      Rep d l → IterAt d l it p → SnapshotOrPanic (l.drop p) (runEv d it es) := by
  intro es
  induction es with
  | nil => intro d l it p _ _; trivial
  | cons e es ih =>
    intro d l it p h hi
    cases e with
    | op o =>
      obtain ⟨hr, _, hs, _⟩ := h.applyOp o hc
      simp only [Model.Deque.runEv]
      rcases hs with hs | hs
      · rw [hs]; exact ih d l it p h hi
      · apply HeapIter.snapshotOrPanic_of_all_panic
        exact stale_runEv hc es _ _ it hr (by have := hs.2 hgf; have := hi.gen_eq; omega)
    | next =>
      simp only [Model.Deque.runEv]
      by_cases hp : p < l.length
      · obtain ⟨ho, hi'⟩ := hi.nextObs_item h hp
        rw [ho]
        exact ⟨l[p], l.drop (p + 1), List.drop_eq_getElem_cons hp, rfl, ih d l _ (p + 1) h hi'⟩
      · have hpe : p = l.length := by have := hi.le; omega
        subst hpe
        rw [hi.nextObs_done h]
        have := ih d l it l.length h hi
        rw [List.drop_length] at this ⊢
        exact ⟨rfl, this⟩

theorem Rep.applyOp_gen_lt {d : Deque α} {l : List α} (h : Rep d l) (hc : ClearFacts) (hgf : GenFacts) {o : Op α}
    (ho : (∃ x, o = .pushFront x) ∨ (∃ x, o = .pushBack x) ∨ ((o = .popFront ∨ o = .popBack) ∧ l ≠ []) ∨
      (∃ i x, o = .set i x ∧ 0 ≤ i ∧ i < l.length)) :
    d.gen < (Model.Deque.applyOp d o).1.gen := by
  obtain ⟨pushF, pushB, popFLast, popF, popBLast, popB, _, set⟩ := hgf
  obtain ⟨c1, c2, c3, c4⟩ := hc
  rcases ho with ⟨x, rfl⟩ | ⟨x, rfl⟩ | ⟨rfl | rfl, hne⟩ | ⟨i, x, rfl, hi0, hi1⟩
  · obtain ⟨d', he, _, hg⟩ := h.pushFront x
    simp only [Model.Deque.applyOp, he, outUnit]; exact hg.lt pushF
  · obtain ⟨d', he, _, hg⟩ := h.pushBack x
    simp only [Model.Deque.applyOp, he, outUnit]; exact hg.lt pushB
  · obtain ⟨d', he, _, _, hg⟩ := h.popFront hne c1 c2
    simp only [Model.Deque.applyOp, he, outVal, hg]
    refine lt_bump ?_ _
    split
    · exact popFLast
    · exact popF
  · obtain ⟨d', he, _, _, hg⟩ := h.popBack hne c3 c4
    simp only [Model.Deque.applyOp, he, outVal, hg]
    refine lt_bump ?_ _
    split
    · exact popBLast
    · exact popB
  · obtain ⟨d', he, _, hg⟩ := h.set hi0 hi1 x
    simp only [Model.Deque.applyOp, he, outUnit, hg]; exact lt_bump set _

/-- the calls that only read: `Front`, `Back`, `Item`, `Len`, draining another iterator -/
def readsOnly : Op α → Bool
  | .front | .back | .item _ | .len | .iterate => true
  | _ => false

/-- a call that leaves the deque as it is: a read, or a call that panics (empty `Pop*`, `Set` outside the range,
`Shrink` of a negative amount) -/
def Quiet (l : List α) (o : Op α) : Prop := readsOnly o = true ∨ Spec.Deque.panics l o = true

theorem applyOp_readsOnly (d : Deque α) (o : Op α) (h : readsOnly o = true) : (applyOp d o).1 = d := by
  cases o <;> simp only [readsOnly, Bool.false_eq_true] at h
  · simp only [applyOp, Model.Deque.frontOf]; split
    · rfl
    · split <;> rfl
  · simp only [applyOp, Model.Deque.backOf]; split <;> rfl
  · simp only [applyOp, Model.Deque.item]; split
    · rfl
    · split
      · rfl
      · split <;> rfl
  · rfl
  · rfl

theorem Rep.applyOp_quiet {d : Deque α} {l : List α} (h : Rep d l) (hc : ClearFacts) {o : Op α}
    (hq : Quiet l o) : (Model.Deque.applyOp d o).1 = d := by
  rcases hq with hq | hq
  · exact applyOp_readsOnly d o hq
  · exact (Rep.applyOp h o hc).2.2.2 hq

def nextCount : List (Ev α) → Nat
  | [] => 0
  | .next :: es => nextCount es + 1
  | .op _ :: es => nextCount es

theorem runEv_untouched (d : Deque α) : ∀ (es : List (Ev α)) (it : Iter),
    (∀ o, Ev.op o ∈ es → (applyOp d o).1 = d) → runEv d it es = (nexts d it (nextCount es)).2 := by
  intro es
  induction es with
  | nil => intro it _; rfl
  | cons e es ih =>
    intro it hq
    cases e with
    | op o =>
      simp only [Model.Deque.runEv, nextCount, hq o (by simp)]
      exact ih it (fun o' ho' => hq o' (by simp [ho']))
    | next =>
      simp only [Model.Deque.runEv, nextCount, Model.Deque.nexts]
      rw [ih _ (fun o' ho' => hq o' (by simp [ho']))]

end Juniper.Proofs.Deque
