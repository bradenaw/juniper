import Juniper.Proofs.ParMapIterProgress
/-! Progress measure of the MapIterator LTS (`Model/ParMap.lean`, namespace `Iter`).

`nu cfg s` is strictly decreased by every step except `nextCall` (the consumer starting a new `Next`):
by all internal steps — including the dispatcher parking in `cond.Wait()` and being woken by `Signal` —
and by the returns of `f` and of the source iterator. The dispatcher goes round its loop only by taking
a free slot (`inFlight < bufferSize`), and slots come back only when a `Next` yields. The decrease is read off
the step relation `I.Step` of sound code; what it needs of `Code.Sound` is the guard `inFlight >= bufferSize` and
`sectionsAtomic` (`checked` and `parked` have the same rank: a separate `dPark` step would not decrease `nu`). In
reachable states `nu ≤ 6·bufferSize' + 3·workers + 15`. -/

namespace Juniper.Proofs.ParMap.IM
open Juniper.Gen Juniper.Facts Juniper.Model.ParMap Juniper.Model.ParMap.Iter Juniper.Proofs.ParMap
open Juniper.Proofs.ParMap.I

def dRank : DPc → Nat
  | .sendIn _ => 7
  | .pull => 4
  | .inNext => 3
  | .acquire _ => 2
  | .checked _ => 1
  | .parked _ => 1
  | .done => 0

def wRank : WPc → Nat
  | .inF _ => 3
  | .sendCh _ _ => 2
  | .idle => 1
  | .done => 0

def cRank : CPc → Nat
  | .next => 8
  | .idle => 0

def wSum : List WPc → Nat
  | [] => 0
  | x :: xs => wRank x + wSum xs

/-- weight of one free slot: one round of the dispatcher plus one round of a worker -/
def slotWeight : Nat := 6

/-- free slots -/
def slots (cfg : Cfg) (s : St) : Nat := (buf cfg - s.inFlight).toNat

def nu (cfg : Cfg) (s : St) : Nat := slotWeight * slots cfg s + dRank s.disp + wSum s.ws + cRank s.cons

theorem dRank_eqs : (∀ v, dRank (.sendIn v) = 7) ∧ dRank .pull = 4 ∧ dRank .inNext = 3 ∧
    (∀ v, dRank (.acquire v) = 2) ∧ (∀ v, dRank (.checked v) = 1) ∧ (∀ v, dRank (.parked v) = 1) ∧
    dRank .done = 0 := by simp [dRank]
theorem wRank_eqs : (∀ k, wRank (.inF k) = 3) ∧ (∀ k v, wRank (.sendCh k v) = 2) ∧ wRank .idle = 1 ∧
    wRank .done = 0 := by simp [wRank]
theorem cRank_eqs : cRank .next = 8 ∧ cRank .idle = 0 := by simp [cRank]

theorem nu_decreases {cfg : Cfg} (hs : cfg.code.Sound) {s s' : St} {l : Label} (h : Iter.step cfg s l = some s')
    (hl : l ≠ .nextCall) : nu cfg s' < nu cfg s := by
  cases Step.of_step hs h with
  | nextCall => exact absurd rfl hl
  | cYield k v hc hy hf =>
    -- the yield frees a slot; a woken dispatcher goes from `parked` up to `acquire`, which the slot pays for
    cases hd : s.disp <;> simp only [nu, slots, slotWeight, hd, woken, dRank_eqs, cRank_eqs, hc] <;>
      first | omega | (split <;> simp only [dRank_eqs] <;> omega)
  | dSend w v hd hw | fRet w k v hw | wHandOff w k v hc hw hy hcl | wExitIdle w hw hin =>
    have ⟨h0, h1⟩ := ListStore.sum_set (g := wSum) (fun _ _ => rfl) hw
    simp only [wRank_eqs] at h0
    simp only [nu, slots, slotWeight, dRank_eqs, cRank_eqs, wRank_eqs, *]
    omega
  | _ =>
    simp only [nu, slots, slotWeight, dRank_eqs, cRank_eqs, *]
    omega

theorem run_nu {cfg : Cfg} (hs : cfg.code.Sound) {ls : List Label} {s s' : St} (h : Iter.run cfg s ls = some s')
    (hl : ∀ l ∈ ls, l ≠ .nextCall) : ls.length + nu cfg s' ≤ nu cfg s :=
  ((Iter.isRun cfg).measure (P := fun _ => True) (fun _ hl h => ⟨nu_decreases hs h hl, trivial⟩) h hl trivial).1

theorem ne_nextCall_of_not_env {l : Label} (h : l.isEnv = false) : l ≠ .nextCall := by
  cases l <;> simp_all [Label.isEnv]

theorem wSum_le (ws : List WPc) : wSum ws ≤ 3 * ws.length :=
  ListStore.sum_le rfl (fun _ _ => rfl) ws fun x _ => by cases x <;> simp [wRank]

theorem dRank_le (d : DPc) : dRank d ≤ 7 := by cases d <;> simp [dRank]
theorem cRank_le (c : CPc) : cRank c ≤ 8 := by cases c <;> simp [cRank]

def nuBound (cfg : Cfg) : Nat := 6 * (buf cfg).toNat + 3 * numWorkers cfg + 15

theorem nu_le {cfg : Cfg} (hs : cfg.code.Sound) (hg : 1 ≤ cfg.gmp) {s : St} (h : Reach cfg s) :
    nu cfg s ≤ nuBound cfg := by
  have hCtl := (inv hs hg h).ctl
  have hlen := hCtl.len
  have hTb := hCtl.inFlight_range
  have := wSum_le s.ws
  have := dRank_le s.disp
  have := cRank_le s.cons
  simp only [nu, nuBound, slots, slotWeight]; omega

def Quiescent (cfg : Cfg) (s : St) : Prop := ∀ l, l.isEnv = false → Iter.step cfg s l = none

/-- what a pending `Next` call has done so far, relative to the state `s0` in which it was pending -/
def NextOutcome (s0 s : St) : Prop :=
  (s.cons = .next ∧ s.results = s0.results) ∨ (s.cons = .idle ∧ ∃ r, s.results = s0.results ++ [r])

theorem nextOutcome_step {cfg : Cfg} {s0 s s' : St} {l : Label} (hp : NextOutcome s0 s)
    (hl : l ≠ .nextCall) (h : Step cfg s l s') : NextOutcome s0 s' := by
  cases h <;>
    first
    | exact hp
    | (rcases hp with ⟨h1, h2⟩ | ⟨h1, r, h2⟩ <;> simp_all [NextOutcome])

def isReturn : Label → Bool
  | .fRet _ _ => true
  | .srcRet _ => true
  | _ => false

theorem ne_nextCall_of_service {l : Label} (h : l.isEnv = false ∨ isReturn l = true) : l ≠ .nextCall := by
  cases l <;> simp_all [Label.isEnv, isReturn]

theorem owed_step {cfg : Cfg} (hs : cfg.code.Sound) {s : St} (h : 0 < fRunning s ∨ s.disp = .inNext) :
    ∃ l s', (l.isEnv = false ∨ isReturn l = true) ∧ Iter.step cfg s l = some s' := by
  rcases h with hf | hsrc
  · have hf' : 0 < cnt (fun pc => match pc with | WPc.inF _ => true | _ => false) s.ws := hf
    obtain ⟨w, pc, hw, hpc⟩ := exists_index_of_cnt_pos hf'
    cases pc with
    | inF k => exact ⟨_, _, Or.inr rfl, (Step.fRet w k 0 hw).to_step hs⟩
    | _ => simp at hpc
  · exact ⟨_, _, Or.inr rfl, (Step.srcEnd hsrc).to_step hs⟩

/-! Draining: once the source has ended, consuming to the end terminates. `delta` is decreased by the consumer's new `Next`
calls too, which `nu` is not. -/

def wRankD : WPc → Nat
  | .inF _ => 5
  | .sendCh _ _ => 4
  | .idle => 1
  | .done => 0

def wSumD : List WPc → Nat
  | [] => 0
  | x :: xs => wRankD x + wSumD xs

def cRankD : CPc → Nat
  | .idle => 1
  | .next => 0

/-- work left after the source has ended: per worker its remaining steps, per buffered result one
`Next` call and its yield, and the consumer's next call -/
def delta (s : St) : Nat := wSumD s.ws + 2 * s.heap.length + cRankD s.cons

theorem wRankD_eqs : (∀ k, wRankD (.inF k) = 5) ∧ (∀ k v, wRankD (.sendCh k v) = 4) ∧ wRankD .idle = 1 ∧
    wRankD .done = 0 := by simp [wRankD]
theorem cRankD_eqs : cRankD .next = 0 ∧ cRankD .idle = 1 := by simp [cRankD]

theorem done_step {cfg : Cfg} {s s' : St} {l : Label} (hd : s.disp = .done) (h : Iter.step cfg s l = some s') :
    s'.disp = .done := by
  cases l <;> simp only [Iter.step, hd] at h <;> (repeat' split at h) <;> cases h <;> rfl

theorem done_run {cfg : Cfg} {ls : List Label} : ∀ {s s' : St}, s.disp = .done → Iter.run cfg s ls = some s' →
    s'.disp = .done :=
  fun hd h => (Iter.isRun cfg).inv (Q := fun _ => True) (fun hd _ h => done_step hd h) h (fun _ _ => trivial) hd

theorem end_mono {cfg : Cfg} {s s' : St} {l : Label} (h : Step cfg s l s')
    (he : NextRes.end ∈ s.results) : NextRes.end ∈ s'.results := by
  cases h with
  | cYield | cRecvClosed => exact List.mem_append_left _ he
  | _ => exact he

theorem end_mono_run {cfg : Cfg} (hs : cfg.code.Sound) {ls : List Label} {s s' : St} (h : Iter.run cfg s ls = some s')
    (he : NextRes.end ∈ s.results) : NextRes.end ∈ s'.results :=
  (Iter.isRun cfg).inv (Q := fun _ => True) (fun he _ h => end_mono (.of_step hs h) he) h (fun _ _ => trivial) he

theorem delta_decreases {cfg : Cfg} {s s' : St} {l : Label} (hd : s.disp = .done)
    (h : Step cfg s l s') (he : NextRes.end ∉ s'.results) : delta s' < delta s := by
  cases h with
  | dPull h' | srcItem _ h' | srcEnd h' | dParks _ h' _ | dAcquire _ h' _ | dSend _ _ h' _ =>
    cases hd.symm.trans h'
  | fRet w k v hw | wExitIdle w hw hin =>
    have ⟨h0, h1⟩ := ListStore.sum_set (g := wSumD) (fun _ _ => rfl) hw
    simp only [wRankD_eqs] at h0
    simp only [delta, h1, wRankD_eqs]
    omega
  | wHandOff w k v hc hw hy hcl =>
    have ⟨h0, h1⟩ := ListStore.sum_set (g := wSumD) (fun _ _ => rfl) hw
    simp only [wRankD_eqs] at h0
    simp only [delta, h1, wRankD_eqs, List.length_append, List.length_cons, List.length_nil]
    omega
  | nextCall hc => simp only [delta, cRankD_eqs, hc]; omega
  | cYield k v hc hy hf =>
    have hmem := List.mem_of_find?_eq_some hf
    have hlen := List.length_eraseP_of_mem (p := fun kv => kv.1 == k) hmem (by simp)
    have hpos : 0 < s.heap.length := List.length_pos_of_mem hmem
    simp only [delta, cRankD_eqs, hc, hlen]
    omega
  | cRecvClosed hc hy hcl => exact absurd (List.mem_append_right _ (List.mem_singleton.2 rfl)) he

theorem run_delta {cfg : Cfg} (hs : cfg.code.Sound) {ls : List Label} : ∀ {s s' : St}, s.disp = .done → Iter.run cfg s ls = some s' →
    NextRes.end ∉ s'.results → ls.length + delta s' ≤ delta s := by
  induction ls with
  | nil => intro s s' _ h _; cases h; simp
  | cons l ls ih =>
    intro s s' hd h he
    obtain ⟨s1, hs1, h⟩ := (Iter.isRun cfg).cons_eq_some.1 h
    -- the end, once reported, stays reported: it has not been reported after the first step either
    have h1 := delta_decreases hd (.of_step hs hs1) (fun hc => he (end_mono_run hs h hc))
    have h2 := ih (done_step hd hs1) h he
    simp only [List.length_cons]; omega

theorem exists_drain_run {cfg : Cfg} (hs : cfg.code.Sound) (hg : 1 ≤ cfg.gmp) (s : St) (h : Reach cfg s)
    (hd : s.disp = .done) :
    ∃ ls s', Iter.run cfg s ls = some s' ∧ NextRes.end ∈ s'.results ∧ ls.length ≤ delta s + 1 := by
  obtain ⟨ls, s', _, h2, h3, h4⟩ := (Iter.isRun cfg).exists_run (μ := delta)
    (P := fun s => Reach cfg s ∧ s.disp = .done) (Good := fun s => NextRes.end ∈ s.results) (Q := fun _ => True)
    (fun s ⟨h, hd⟩ _ => by
      have key : ∃ l s1, Iter.step cfg s l = some s1 := by
        cases hc : s.cons with
        | idle => exact ⟨.nextCall, { s with cons := .next }, by simp [Iter.step, hc]⟩
        | next =>
          obtain ⟨l, s1, _, hst⟩ | ho := I.served hs hg h hc
          · exact ⟨l, s1, hst⟩
          · obtain ⟨l, s1, _, hst⟩ := owed_step hs ho
            exact ⟨l, s1, hst⟩
      obtain ⟨l, s1, hst⟩ := key
      by_cases he1 : NextRes.end ∈ s1.results
      · exact ⟨l, s1, trivial, hst, .inl he1⟩
      · exact ⟨l, s1, trivial, hst, .inr ⟨delta_decreases hd (.of_step hs hst) he1, .step h hst, done_step hd hst⟩⟩)
    ⟨h, hd⟩
  exact ⟨ls, s', h2, h3, h4⟩

end Juniper.Proofs.ParMap.IM
