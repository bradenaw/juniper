import Juniper.Proofs.TreeAccessScan
import Juniper.Proofs.ListStore
/-!
# Access-level model (C01, concurrent clause): all interleavings

`CInv`: the invariant of every configuration reachable under the hypotheses `Setup` of the concurrent clause — the
skeleton of `t` is still in memory, every goroutine is on its descent, a value slot holds the new value iff its `Put`
has returned and the old one otherwise. Every step preserves it (`cinv_step`); it excludes a race (`cinv_no_race`) and
fixes what a `Get` / `Contains` returns (`terminal_results`).
-/
namespace Juniper.Proofs.TreeAccess
open Juniper.Gen.Tree Juniper.Model.BTree Juniper.Model.BTreeAccess Juniper.Proofs.Tree

variable {K V : Type} {cmp : K → K → Int}

structure Setup (cmp : K → K → Int) (t : Tree K V) (ops : List (Op K V)) : Prop where
  sw : StrictWeak cmp
  nodup : (ids t.root).Nodup
  ok : ∀ (i : Nat) op, ops[i]? = some op → OpOK cmp t op
  /-- a `Put`'s key is inequivalent to the key of every other `Put` / `Get` / `Contains` … -/
  compat : ∀ (i j : Nat), i ≠ j → ∀ k v o, ops[i]? = some (.put k v) → ops[j]? = some o → o.isSearch = true →
    cmp k o.key ≠ 0
  /-- … and to every stored key inside both bounds of a range reader -/
  compatScan : ∀ (i j : Nat), i ≠ j → ∀ k v o, ops[i]? = some (.put k v) → ops[j]? = some o → o.isSearch = false →
    ∀ y, Sub t.root y → ∀ idx (h : idx < y.kvs.length), inRangeOf cmp o y.kvs[idx].1 = true →
      nearOp cmp o y.kvs[idx].1 = true → cmp k y.kvs[idx].1 ≠ 0
  /-- a range reader is one of `Range`'s / `RangeReverse`'s, on a tree satisfying the tree invariant (balanced, sorted,
  distinct node objects) -/
  scanOK : ∀ (i : Nat) op, ops[i]? = some op → op.isSearch = false → ScanWF op ∧ Inv cmp t

structure CInv (cmp : K → K → Int) (t : Tree K V) (ops : List (Op K V)) (c : Config K V) : Prop where
  len : c.pcs.length = ops.length
  size : c.mem.size = t.size
  gen : c.mem.gen = t.gen
  frozen : Frozen c.mem t
  good : ∀ (i : Nat) op pc, ops[i]? = some op → c.pcs[i]? = some pc → Good cmp t op pc
  written : ∀ (j : Nat) k v pc, ops[j]? = some (.put k v) → c.pcs[j]? = some pc → pc.isDone = true →
    ∀ x i, slotOf cmp k t.root = some (x, i) → c.mem.val x i = some v
  untouched : ∀ y, Sub t.root y → ∀ i (h : i < y.kvs.length),
    (∀ (j : Nat) k v pc, ops[j]? = some (.put k v) → c.pcs[j]? = some pc → slotOf cmp k t.root = some (y.id, i) →
      pc.isDone = false) → c.mem.val y.id i = some y.kvs[i].2
  aux : AuxRep c.mem t
  scan : ∀ (i : Nat) op pc, ops[i]? = some op → c.pcs[i]? = some pc → ScanGood cmp t op pc

/-- whose value slot `(x, i)` is, for the operation that approaches it: a search operation's (`Get`, `Contains`,
`Put`) own key lives there; for a range reader, IF it is a live slot of the tree, the key stored there is inside
both bounds: it passed the in-range test, and the functional cursor the reader follows is never before the near bound -/
def SlotKey (cmp : K → K → Int) (t : Tree K V) (op : Op K V) (x i : Nat) : Prop :=
  (op.isSearch = true ∧ ValPos cmp t.root op.key x i) ∨
  (op.isSearch = false ∧ ∀ y, Sub t.root y → y.id = x → ∀ h : i < y.kvs.length,
    inRangeOf cmp op y.kvs[i].1 = true ∧ nearOp cmp op y.kvs[i].1 = true)

theorem access_class {t : Tree K V} {op : Op K V} {pc : PC K V} (hg : Good cmp t op pc)
    (hsc : ScanGood cmp t op pc) (hinv : op.isSearch = false → Inv cmp t) {a : Access} (ha : accessOf pc = some a) :
    (a.write = false ∧ ∀ x i, a.loc ≠ .node x (.val i)) ∨
    (∃ x i, a.loc = .node x (.val i) ∧ SlotKey cmp t op x i ∧ a.write = op.isPut) := by
  cases pc with
  | done r => simp [accessOf] at ha
  | full x => exact hg.elim
  | itest x j => exact hg.elim
  | ikey x j => exact hg.elim
  | run ops cont rg r =>
    rcases hg with ⟨hsr, rfl, rfl⟩ | ⟨x, rfl, hcurr, hslot, ⟨k, rfl, rfl⟩ | ⟨k, v, rfl, rfl, rfl⟩⟩
    · simp only [accessOf, mopAccess, rd, Option.some.injEq] at ha; subst ha
      exact Or.inl ⟨rfl, by intro x i h; cases h⟩
    · simp only [accessOf, mopAccess, hcurr, rd, Option.some.injEq] at ha; subst ha
      exact Or.inr ⟨x, rg.idx, rfl, Or.inl ⟨rfl, valPos_of_slot hslot⟩, rfl⟩
    · simp only [accessOf, mopAccess, hcurr, wr, Option.some.injEq] at ha; subst ha
      exact Or.inr ⟨x, rg.idx, rfl, Or.inl ⟨rfl, valPos_of_slot hslot⟩, rfl⟩
  | it ph st =>
    obtain ⟨hns, hst, hv⟩ := hg
    obtain ⟨hw, hval⟩ := itAccess_spec ha
    by_cases hloc : ∃ x i, a.loc = .node x (.val i)
    · cases hval hloc
      obtain ⟨x, k, hx, hk, hin⟩ := hv rfl
      simp only [accessOf, itAccess, hx, rd, Option.some.injEq] at ha
      subst ha
      refine Or.inr ⟨x, st.i.toNat, rfl, Or.inr ⟨hns, fun y hy hid hlt => ?_⟩, by simp [Op.isPut_of_not_search hns]⟩
      obtain ⟨k', hk', hka⟩ := hst x hx
      cases hk.symm.trans hk'
      exact ⟨by rw [hka y hy hid hlt]; exact hin, scanGood_near (hinv hns) hsc hx ⟨hy, hid⟩ hlt⟩
    · exact Or.inl ⟨hw, fun x i h => hloc ⟨x, i, h⟩⟩
  | _ =>
    cases ha
    exact Or.inl ⟨rfl, nofun⟩

theorem valpos_disjoint {t : Tree K V} {ops : List (Op K V)} (hs : Setup cmp t ops) {j j0 : Nat} (hjne : j ≠ j0) {k : K} {v : V}
    {op : Op K V} (hoj : ops[j]? = some (.put k v)) (hop : ops[j0]? = some op) {x i : Nat}
    (hvp : ValPos cmp t.root k x i) (hsk : SlotKey cmp t op x i) : False := by
  rcases hsk with ⟨hsr, hvp'⟩ | ⟨hns, hin⟩
  · exact hs.compat j j0 hjne k v op hoj hop hsr (valPos_inj hs.sw hs.nodup hvp hvp')
  · obtain ⟨y, hy, hid, hi, he⟩ := hvp
    exact hs.compatScan j j0 hjne k v op hoj hop hns y hy i hi (hin y hy hid hi).1 (hin y hy hid hi).2 he

theorem cinv_initial {t : Tree K V} {ops : List (Op K V)} (hs : Setup cmp t ops) {m : Mem K V} (hr : Rep m t)
    (hx : AuxRep m t) : CInv cmp t ops (initial m ops) := by
  obtain ⟨h1, h2, h3, h4⟩ := hr
  have hpc : ∀ (i : Nat) pc, (initial m ops).pcs[i]? = some pc → ∃ op, ops[i]? = some op ∧ pc = start op := by
    intro i pc h
    simp only [initial, List.getElem?_map] at h
    obtain ⟨op, ho, he⟩ := Option.map_eq_some_iff.mp h
    exact ⟨op, ho, he.symm⟩
  refine ⟨by simp [initial], h2, h3, ⟨h1, fun y hy => (h4 y hy).1⟩, ?_, ?_, ?_, hx, ?_⟩
  · intro i op pc ho hp
    obtain ⟨op', ho', rfl⟩ := hpc i pc hp
    rw [ho] at ho'; cases ho'
    exact good_start t op
  · intro j k v pc ho hp hd
    obtain ⟨op', _, rfl⟩ := hpc j pc hp
    rw [start_not_done] at hd; cases hd
  · intro y hy i hi _
    exact (h4 y hy).2 i hi
  · intro i op pc ho hp
    obtain ⟨op', ho', rfl⟩ := hpc i pc hp
    rw [ho] at ho'; cases ho'
    refine scanGood_start op ?_ _ (fun fwd sk skey stop limit h => by rw [h, start_scan])
    cases hsr : op.isSearch with
    | false => exact (hs.scanOK i op ho hsr).1
    | true => cases op <;> first | trivial | simp [Op.isSearch] at hsr

theorem setVal_val (m : Mem K V) (a i : Nat) (v : Option V) (b j : Nat) :
    (m.setVal a i v).val b j = if b = a ∧ j = i then v else m.val b j := rfl

theorem stepAt_some {ops : List (Op K V)} {c c' : Config K V} {j0 : Nat} (h : stepAt cmp ops c j0 = some c') :
    ∃ op pc, ops[j0]? = some op ∧ c.pcs[j0]? = some pc ∧ pc.isDone = false ∧
      c' = { mem := (next cmp op c.mem pc).1, pcs := c.pcs.set j0 (next cmp op c.mem pc).2 } := by
  unfold stepAt at h
  split at h
  · rename_i op pc hop hpc
    cases hd : pc.isDone with
    | true => simp [hd] at h
    | false =>
      simp only [hd, Bool.false_eq_true, if_false, Option.some.injEq] at h
      exact ⟨op, pc, hop, hpc, hd, h.symm⟩
  · cases h

theorem pcs_set_cases {ops : List (Op K V)} {pcs : List (PC K V)} {j0 : Nat} {op : Op K V} {pc0 : PC K V}
    (hop : ops[j0]? = some op) {i : Nat} {op' : Op K V} {pc' : PC K V}
    (ho : ops[i]? = some op') (hp : (pcs.set j0 pc0)[i]? = some pc') :
    (i = j0 ∧ op' = op ∧ pc' = pc0) ∨ (i ≠ j0 ∧ pcs[i]? = some pc') := by
  rcases ListStore.getElem?_set_some hp with ⟨rfl, rfl⟩ | ⟨hij, hp⟩
  · exact Or.inl ⟨rfl, Option.some.inj (ho.symm.trans hop), rfl⟩
  · exact Or.inr ⟨Ne.symm hij, hp⟩

theorem cinv_step {t : Tree K V} {ops : List (Op K V)} (hs : Setup cmp t ops) {c c' : Config K V} {j0 : Nat}
    (hi : CInv cmp t ops c) (hstep : stepAt cmp ops c j0 = some c') : CInv cmp t ops c' := by
  obtain ⟨op, pc, hop, hpc, hnd, rfl⟩ := stepAt_some hstep
  have hg := hi.good j0 op pc hop hpc
  have hok := hs.ok j0 op hop
  -- another goroutine's `Put` does not own the value slot this one approaches
  have hdisj : ∀ (j : Nat) k v x i, j ≠ j0 → ops[j]? = some (.put k v) → slotOf cmp k t.root = some (x, i) →
      SlotKey cmp t op x i → False :=
    fun j k v x i hjne hoj hsl hvp => valpos_disjoint hs hjne hoj hop (valPos_of_slot hsl) hvp
  by_cases hw : ∃ l, accessOf pc = some ⟨l, true⟩
  · -- the write of a Put
    obtain ⟨l, hl⟩ := hw
    obtain ⟨k, v, x, iw, rfl, rfl, hslot, hnext⟩ := write_step hg c.mem hl
    simp only [hnext]
    refine ⟨by simpa using hi.len, hi.size, hi.gen, ⟨hi.frozen.root, fun y hy => hi.frozen.struct y hy⟩,
      ?_, ?_, ?_, hi.aux, ?_⟩
    · intro i op' pc' ho hp
      rcases pcs_set_cases hop ho hp with ⟨rfl, rfl, rfl⟩ | ⟨_, hp⟩
      · intro _; rfl
      · exact hi.good i op' pc' ho hp
    · intro j k' v' pc' ho hp hd x' i' hsl
      rw [setVal_val]
      rcases pcs_set_cases hop ho hp with ⟨rfl, ho', rfl⟩ | ⟨hij, hp⟩
      · cases ho'
        cases hslot.symm.trans hsl
        simp
      · have : ¬ (x' = x ∧ i' = iw) := by
          rintro ⟨rfl, rfl⟩
          exact hdisj j k' v' x' i' hij ho hsl (Or.inl ⟨rfl, valPos_of_slot hslot⟩)
        simp only [this, if_false]
        exact hi.written j k' v' pc' ho hp hd x' i' hsl
    · intro y hy i hlt hprem
      rw [setVal_val]
      by_cases hpos : y.id = x ∧ i = iw
      · obtain ⟨rfl, rfl⟩ := hpos
        cases hprem j0 k v _ hop (List.getElem?_set_self (List.getElem?_eq_some_iff.mp hpc).1) hslot
      · simp only [hpos, if_false]
        apply hi.untouched y hy i hlt
        intro j k' v' pc' ho hp hsl
        by_cases hij : j = j0
        · subst hij; cases hpc.symm.trans hp; exact hnd
        · exact hprem j k' v' pc' ho (by rw [List.getElem?_set_ne (Ne.symm hij)]; exact hp) hsl
    · intro i op' pc' ho hp
      rcases pcs_set_cases hop ho hp with ⟨rfl, rfl, rfl⟩ | ⟨_, hp⟩
      · exact scanGood_of_search (by intro a b c d e h; cases h) _
      · exact hi.scan i op' pc' ho hp
  · -- a read (or a silent step)
    have hr : ∀ a, accessOf pc = some a → a.write = false := by
      intro a ha
      cases hwb : a.write with
      | false => rfl
      | true => exact absurd ⟨a.loc, by rw [ha, ← hwb]⟩ hw
    have hmem := read_step_mem hg c.mem hr
    have hv : ReadsOriginal c.mem t pc := by
      intro a i ha y hy hid hlt
      subst hid
      apply hi.untouched y hy i hlt
      intro j k' v' pc' ho hp hsl
      rcases access_class hg (hi.scan j0 op pc hop hpc) (fun h => (hs.scanOK j0 op hop h).2) ha with
        ⟨_, hno⟩ | ⟨x', i', hloc, hvp, hwr⟩
      · exact absurd rfl (hno y.id i)
      · simp only [Loc.node.injEq, Field.val.injEq] at hloc
        obtain ⟨rfl, rfl⟩ := hloc
        by_cases hij : j = j0
        · subst hij
          cases hop.symm.trans ho
          cases hwr
        · exact (hdisj j k' v' y.id i hij ho hsl hvp).elim
    -- the goroutine that moved: a search operation stays on its descent, a range reader behind the functional cursor
    have hmoved : Good cmp t op (next cmp op c.mem pc).2 ∧ ScanGood cmp t op (next cmp op c.mem pc).2 := by
      cases hsr : op.isSearch with
      | true => exact ⟨good_next hok hsr hi.frozen hg hv, scanGood_of_search (by intro a b c d e h; rw [h] at hsr; cases hsr) _⟩
      | false =>
        rcases hg.it_or_done hsr with ⟨ph, st, rfl⟩ | ⟨r, rfl⟩
        · have := scanGood_next hs.sw ⟨hi.frozen.root, hi.gen, hi.frozen.struct, hi.aux⟩
            (fun _ _ _ _ _ _ => (hs.scanOK j0 op hop hsr).2) (hi.scan j0 op _ hop hpc)
          exact ⟨this.2 hg, this.1⟩
        · cases hnd
    rw [hmem]
    refine ⟨by simpa using hi.len, hi.size, hi.gen, hi.frozen, ?_, ?_, ?_, hi.aux, ?_⟩
    · intro i op' pc' ho hp
      rcases pcs_set_cases hop ho hp with ⟨rfl, rfl, rfl⟩ | ⟨_, hp⟩
      · exact hmoved.1
      · exact hi.good i op' pc' ho hp
    · intro j k' v' pc' ho hp hd x' i' hsl
      rcases pcs_set_cases hop ho hp with ⟨rfl, ho', rfl⟩ | ⟨_, hp⟩
      · cases ho'
        rw [put_not_done hok hi.frozen hg hnd hr] at hd; cases hd
      · exact hi.written j k' v' pc' ho hp hd x' i' hsl
    · intro y hy i hlt hprem
      apply hi.untouched y hy i hlt
      intro j k' v' pc' ho hp hsl
      by_cases hij : j = j0
      · subst hij; cases hpc.symm.trans hp; exact hnd
      · exact hprem j k' v' pc' ho (by rw [List.getElem?_set_ne (Ne.symm hij)]; exact hp) hsl
    · intro i op' pc' ho hp
      rcases pcs_set_cases hop ho hp with ⟨rfl, rfl, rfl⟩ | ⟨_, hp⟩
      · exact hmoved.2
      · exact hi.scan i op' pc' ho hp

theorem reach_inv {t : Tree K V} {ops : List (Op K V)} (hs : Setup cmp t ops) {m : Mem K V} (hr : Rep m t)
    (hx : AuxRep m t) {c : Config K V} (h : Reach cmp ops (initial m ops) c) : CInv cmp t ops c := by
  induction h with
  | refl => exact cinv_initial hs hr hx
  | step _ hst ih => exact cinv_step hs ih hst

theorem cinv_no_race {t : Tree K V} {ops : List (Op K V)} (hs : Setup cmp t ops) {c : Config K V}
    (hi : CInv cmp t ops c) : ¬ Race c := by
  rintro ⟨i, j, a, b, hij, ha, hb, hconf⟩
  -- symmetric core: if `a` (goroutine `i`) writes, contradiction
  have core : ∀ (i j : Nat) (a b : Access), i ≠ j → (c.pcs[i]?).bind accessOf = some a → (c.pcs[j]?).bind accessOf = some b →
      a.loc = b.loc → a.write = true → False := by
    intro i j a b hij ha hb hloc hwa
    cases hpi : c.pcs[i]? with
    | none => simp [hpi] at ha
    | some pci =>
    cases hpj : c.pcs[j]? with
    | none => simp [hpj] at hb
    | some pcj =>
    rw [hpi] at ha; rw [hpj] at hb
    simp only [Option.bind_some] at ha hb
    have hli : i < ops.length := by rw [← hi.len]; exact (List.getElem?_eq_some_iff.mp hpi).1
    have hlj : j < ops.length := by rw [← hi.len]; exact (List.getElem?_eq_some_iff.mp hpj).1
    have hoi : ops[i]? = some ops[i] := List.getElem?_eq_getElem hli
    have hoj : ops[j]? = some ops[j] := List.getElem?_eq_getElem hlj
    have hgi := hi.good i _ pci hoi hpi
    have hgj := hi.good j _ pcj hoj hpj
    rcases access_class hgi (hi.scan i _ pci hoi hpi) (fun h => (hs.scanOK i _ hoi h).2) ha with
      ⟨hna, _⟩ | ⟨x, iw, hla, hvpa, hwra⟩
    · rw [hna] at hwa; cases hwa
    · rcases access_class hgj (hi.scan j _ pcj hoj hpj) (fun h => (hs.scanOK j _ hoj h).2) hb with
        ⟨_, hno⟩ | ⟨x', iw', hlb, hvpb, _⟩
      · exact hno x iw (by rw [← hloc, hla])
      · rw [hla, hlb] at hloc
        simp only [Loc.node.injEq, Field.val.injEq] at hloc
        obtain ⟨rfl, rfl⟩ := hloc
        rw [hwa] at hwra
        obtain ⟨k, v, hopi⟩ := Op.eq_put_of_isPut hwra.symm
        rw [hopi] at hvpa hoi
        rcases hvpa with ⟨_, hvp⟩ | ⟨hns, _⟩
        · exact valpos_disjoint hs hij hoi hoj hvp hvpb
        · cases hns
  simp only [conflict, Bool.and_eq_true, decide_eq_true_eq, Bool.or_eq_true] at hconf
  obtain ⟨hloc, hwa | hwb⟩ := hconf
  · exact core i j a b hij ha hb hloc hwa
  · exact core j i b a (Ne.symm hij) hb ha hloc.symm hwb

theorem terminal_results {t : Tree K V} {ops : List (Op K V)} {c : Config K V} (hi : CInv cmp t ops c)
    (ht : Terminal cmp ops c) : ∀ (i : Nat) op, ops[i]? = some op → op.isSearch = true →
      c.pcs[i]? = some (PC.done (expected cmp t op)) := by
  intro i op ho hsr
  have hli : i < c.pcs.length := by rw [hi.len]; exact (List.getElem?_eq_some_iff.mp ho).1
  have hp : c.pcs[i]? = some c.pcs[i] := List.getElem?_eq_getElem hli
  have := ht i
  unfold stepAt at this
  simp only [ho, hp] at this
  have hg := hi.good i op _ ho hp
  cases hpc : c.pcs[i] with
  | done r =>
    rw [hpc] at hg
    rw [hp, hpc]
    simp only [Good] at hg
    rw [hg hsr]
  | it ph st =>
    rw [hpc] at hg
    obtain ⟨hns, _⟩ := hg
    rw [hsr] at hns; cases hns
  | _ => rw [hpc] at this; simp [PC.isDone] at this

end Juniper.Proofs.TreeAccess
