import Juniper.Model.StreamMerge
import Juniper.Proofs.LTS
/-! The generated facts of `stream.Merge` in the closed form the proofs use, and `step` characterised by two
relations: `GStep` (one goroutine moves) and `CStep` (the consumer or the environment of the context moves);
`step_cases` inverts `step`, `GStep.step_eq` / `CStep.step_eq` are the converse. -/
namespace Juniper.Proofs.StreamMerge
open Juniper.Model.StreamMerge
variable {V : Type}

/-! Each generated fact is decided on the regenerated value: a change of the Go source makes it fail. -/
theorem exitSeq_eq : exitSeq = [.markDone, .closeInput, .wgDone] := by decide +kernel
theorem winSeq_eq : winSeq = [.cancel, .closeErr] := by decide +kernel
theorem closeSeq_eq : closeSeq = [.closeInner, .cancel, .wait] := by decide +kernel
theorem nextUsesCtx_eq : nextUsesCtx = true := beq_iff_eq.mpr rfl
theorem sendUsesCtx_eq : sendUsesCtx = true := beq_iff_eq.mpr rfl
theorem sendArmCtx_eq : sendArmCtx = true := by decide +kernel
theorem sendArmStreamDone_eq : sendArmStreamDone = true := by decide +kernel
theorem sendArmSenderDone_eq : sendArmSenderDone = true := by decide +kernel
theorem sendArmC_eq : sendArmC = true := by decide +kernel
theorem nextArmCtx_eq : nextArmCtx = true := by decide +kernel
theorem nextArmC_eq : nextArmC = true := by decide +kernel
theorem nextArmSenderDone_eq : nextArmSenderDone = true := by decide +kernel
theorem consumerNextIsPipeNext_eq : consumerNextIsPipeNext = true := beq_iff_eq.mpr rfl
theorem senderCloseCloses_eq : senderCloseCloses = true := by decide +kernel
theorem casGuards_eq : casGuards = true := beq_iff_eq.mpr rfl
theorem wgInit_eq (k : Nat) : wgInit k = k := by
  have : (Juniper.Gen.Merge.smWgAdd == "len(in)") = true := beq_iff_eq.mpr rfl
  simp [wgInit, this]
theorem pipeBuf_eq : Juniper.Gen.Merge.smPipeBuf = 0 := rfl
theorem endReturns_eq : Juniper.Gen.Merge.smEndReturns = true := rfl
theorem errReturns_eq : Juniper.Gen.Merge.smErrReturns = true := rfl
theorem sendErrReturns_eq : Juniper.Gen.Merge.smSendErrReturns = true := rfl
theorem lastCloses_eq : Juniper.Gen.Merge.smLastCloses = true := rfl
theorem zeroCloses_eq : Juniper.Gen.Merge.smZeroCloses = true := rfl
theorem lastCond_eq (d k : Nat) (c : Bool) :
    Juniper.Gen.Merge.smLastCond d k (if c then 1 else 0) = (decide (d = k) && !c) := by
  unfold Juniper.Gen.Merge.smLastCond
  have e : ((d : Int) = (k : Int)) ↔ d = k := by omega
  cases c <;> simp [e]
theorem zeroCond_eq (k : Nat) : Juniper.Gen.Merge.smZeroCond k = decide (k = 0) := by
  unfold Juniper.Gen.Merge.smZeroCond
  simp
theorem spawn_eq (i k : Nat) : Juniper.Gen.Merge.smSpawnCond i k = decide (i < k) := by
  unfold Juniper.Gen.Merge.smSpawnCond
  have e : ((i : Int) < (k : Int)) ↔ i < k := by omega
  simp [e]

/-- Facts of `stream.Merge` that the model does not interpret (the conditions of the loop's branches,
the order of `*s.senderErr = err` and `close(s.senderDone)`, the spawn loop): a change makes this
obligation fail. -/
theorem loop_facts :
    Juniper.Gen.Merge.smEndCond = "err==End" ∧ Juniper.Gen.Merge.smErrCond = "err!=nil" ∧
    Juniper.Gen.Merge.smSendErrCond = "err!=nil" ∧
    Juniper.Gen.Merge.pipeSenderCloseStmts = ["*s.senderErr = err", "close(s.senderDone)"] ∧
    Juniper.Facts.sameArms Juniper.Gen.Merge.pipeSendArms
      [.recv "ctx.Done()", .recv "s.streamDone", .recv "s.senderDone", .send "s.c"] = true ∧
    Juniper.Facts.sameArms Juniper.Gen.Merge.pipeNextArms
      [.recv "ctx.Done()", .recv "s.c", .recv "s.senderDone"] = true ∧
    (∀ i k : Nat, Juniper.Gen.Merge.smSpawnCond i k = decide (i < k)) :=
  ⟨rfl, rfl, rfl, rfl, by decide +kernel, by decide +kernel, spawn_eq⟩

/-- The three regenerated texts that make the context of `stream.Merge` a plain `WithCancel(Background())` that
nobody but the two modelled calls can end. A property theorem supplies them by `rfl` against the regenerated
literals, inside its own proof. -/
theorem ctxOriginOf_plain {rhs ctor parent : String} {cancelUses ctxUses : List String}
    (h1 : rhs = "context.WithCancel(context.Background())") (h2 : cancelUses = ["cancel()", "cancel()"])
    (h3 : ctxUses = ["in[i].Next(ctx)", "sender.Send(ctx,item)"]) :
    ctxOriginOf rhs ctor parent cancelUses ctxUses = .plainCancel := by
  subst h1 h2 h3
  simp [ctxOriginOf]

theorem init_eq (k : Nat) : init V k =
    { k := k, origin := ctxOrigin, gs := List.replicate k {}, wg := k, senderCloses := if k = 0 then 1 else 0 } := by
  simp [init, wgInit_eq, zeroCond_eq, zeroCloses_eq]

theorem senderClose_eq (s : St V) (e : Option Err) :
    senderClose s e = { s with senderCloses := s.senderCloses + 1, senderErr := e } := by
  simp [senderClose, senderCloseCloses_eq]

/-- `GStep s i g l g' sh`: under label `l` goroutine `i`, which is `g` in state `s`, becomes `g'`, and the
fields of `s` other than `gs` become those of `sh`. -/
inductive GStep (s : St V) (i : Nat) (g : G V) : Label V → G V → St V → Prop
  | item (v : V) : g.pc = .next →
      GStep s i g (.inItem i v) { g with pc := .send v, items := g.items ++ [v] } s
  | ended : g.pc = .next →
      GStep s i g (.inEnd i) { g with pc := .exiting [.markDone, .closeInput, .wgDone], why := some .ended } s
  | err (e : Nat) : g.pc = .next →
      GStep s i g (.inErr i e) { g with pc := .gotErr (.inj e) } { s with errLog := s.errLog ++ [(i, e)] }
  | ctxErr : g.pc = .next → s.cancelled = true → GStep s i g (.inCtx i) { g with pc := .gotErr .ctx } s
  | casWin (e : Err) : g.pc = .gotErr e → s.closeOnce = false →
      GStep s i g (.cas i) { g with pc := .won e [.cancel, .closeErr] }
        { s with closeOnce := true, winner := some (i, e) }
  | casLose (e : Err) : g.pc = .gotErr e → s.closeOnce = true →
      GStep s i g (.cas i) { g with pc := .exiting [.markDone, .closeInput, .wgDone], why := some .lostCas } s
  | winCancel (e : Err) (rest : List WinStep) : g.pc = .won e (.cancel :: rest) →
      GStep s i g (.win i) { g with pc := .won e rest } { s with cancelled := true }
  | winClose (e : Err) (rest : List WinStep) : g.pc = .won e (.closeErr :: rest) →
      GStep s i g (.win i) { g with pc := .won e rest }
        { s with senderCloses := s.senderCloses + 1, senderErr := some e }
  | winDone (e : Err) : g.pc = .won e [] →
      GStep s i g (.win i) { g with pc := .exiting [.markDone, .closeInput, .wgDone], why := some .wonCas } s
  | sendOk (v : V) (live : Bool) : g.pc = .send v → s.cpc = .inNext live →
      GStep s i g (.sendOk i) (again g)
        { s with cpc := .idle, out := s.out ++ [(i, v)], results := s.results ++ [.item i v] }
  | sendFail (v : V) : g.pc = .send v → (s.cancelled = true ∨ s.streamDone = true ∨ 0 < s.senderCloses) →
      GStep s i g (.sendFail i) { g with pc := .exiting [.markDone, .closeInput, .wgDone],
                                         dropped := g.dropped ++ [v], why := some .sendFailed } s
  | mark (rest : List ExitStep) : g.pc = .exiting (.markDone :: rest) →
      GStep s i g (.exitStep i) { g with pc := .exiting (.checkLast (s.nDone + 1) :: rest) }
        { s with nDone := s.nDone + 1 }
  | checkFire (rest : List ExitStep) : g.pc = .exiting (.checkLast s.k :: rest) → s.closeOnce = false →
      GStep s i g (.exitStep i) { g with pc := .exiting rest }
        { s with senderCloses := s.senderCloses + 1, senderErr := none }
  | checkSkip (d : Nat) (rest : List ExitStep) : g.pc = .exiting (.checkLast d :: rest) →
      ¬ (d = s.k ∧ s.closeOnce = false) → GStep s i g (.exitStep i) { g with pc := .exiting rest } s
  | closeIn (rest : List ExitStep) : g.pc = .exiting (.closeInput :: rest) →
      GStep s i g (.exitStep i) { g with pc := .exiting rest, closes := g.closes + 1 } s
  | wgDone (rest : List ExitStep) : g.pc = .exiting (.wgDone :: rest) →
      GStep s i g (.exitStep i) { g with pc := .exiting rest } { s with wg := s.wg - 1 }
  | fin : g.pc = .exiting [] → GStep s i g (.exitStep i) { g with pc := .finished } s

inductive CStep (s : St V) : Label V → St V → Prop
  | call (live : Bool) : s.cpc = .idle → CStep s (.cCall live) { s with cpc := .inNext live }
  | endd (live : Bool) : s.cpc = .inNext live → 0 < s.senderCloses →
      CStep s .cEnd
        { s with cpc := .idle, results := s.results ++ [match s.senderErr with | none => .endd | some e => .err e] }
  | ctx : s.cpc = .inNext false → CStep s .cCtx { s with cpc := .idle, results := s.results ++ [.ctx] }
  | expire : s.cpc = .inNext true → CStep s .cExpire { s with cpc := .inNext false }
  | close : s.cpc = .idle → CStep s .cClose { s with cpc := .closing [.closeInner, .cancel, .wait] }
  | closeInner (rest : List CloseStep) : s.cpc = .closing (.closeInner :: rest) →
      CStep s .cCloseStep { s with cpc := .closing rest, streamDone := true }
  | closeCancel (rest : List CloseStep) : s.cpc = .closing (.cancel :: rest) →
      CStep s .cCloseStep { s with cpc := .closing rest, cancelled := true }
  | closeWait (rest : List CloseStep) : s.cpc = .closing (.wait :: rest) → s.wg = 0 →
      CStep s .cCloseStep { s with cpc := .closing rest }
  | ctxEnds : s.origin ≠ .plainCancel → s.cancelled = false → CStep s .ctxEnds { s with cancelled := true }

theorem step_cases {s s' : St V} {l : Label V} (h : step s l = some s') :
    (∃ i g g' sh, s.gs[i]? = some g ∧ GStep s i g l g' sh ∧ s' = { sh with gs := s.gs.set i g' }) ∨
    CStep s l s' := by
  revert h
  -- `fun_cases` follows the branches of `step`: those that return `none` go by `cases h`, which in the others puts the
  -- successor state in; what remains comes in the order of the labels, i.e. of the constructors of `GStep`, then of
  -- `CStep` (`ctxEnds` after `ctxErr`). The closing `rfl`s evaluate the regenerated statement sequences
  fun_cases step s l <;> intro h <;> try cases h
  · exact .inl ⟨_, _, _, _, ‹_›, .item _ ‹_›, rfl⟩
  · exact .inl ⟨_, _, _, _, ‹_›, .ended ‹_›, rfl⟩
  · exact .inl ⟨_, _, _, _, ‹_›, .err _ ‹_›, rfl⟩
  · rename_i hc
    exact .inl ⟨_, _, _, _, ‹_›, .ctxErr ‹_› (Bool.and_eq_true_iff.mp hc).1, rfl⟩
  · rename_i hc
    simp only [Bool.and_eq_true, bne_iff_ne, ne_eq, Bool.not_eq_true'] at hc
    exact .inr (.ctxEnds hc.1 hc.2)
  · rename_i hc
    simp only [casGuards_eq, Bool.true_and, Bool.not_eq_true'] at hc
    exact .inl ⟨_, _, _, _, ‹_›, .casWin _ ‹_› hc, rfl⟩
  · rename_i hc _
    simp only [casGuards_eq, Bool.true_and, Bool.not_eq_true', Bool.not_eq_false] at hc
    exact .inl ⟨_, _, _, _, ‹_›, .casLose _ ‹_› hc, rfl⟩
  · exact .inl ⟨_, _, _, _, ‹_›, .winCancel _ _ ‹_›, rfl⟩
  · exact .inl ⟨_, _, _, _, ‹_›, .winClose _ _ ‹_›, by rw [senderClose_eq]; rfl⟩
  · exact .inl ⟨_, _, _, _, ‹_›, .winDone _ ‹_›, rfl⟩
  · exact .inl ⟨_, _, _, _, ‹_›, .sendOk _ _ ‹_› ‹_›, rfl⟩
  · rename_i hc
    simp only [sendUsesCtx_eq, sendArmCtx_eq, sendArmStreamDone_eq, sendArmSenderDone_eq, sendErrReturns_eq, Bool.and_true,
      Bool.or_eq_true, decide_eq_true_eq, or_assoc] at hc
    exact .inl ⟨_, _, _, _, ‹_›, .sendFail _ ‹_› hc, rfl⟩
  · exact .inl ⟨_, _, _, _, ‹_›, .mark _ ‹_›, rfl⟩
  · rename_i d rest hp _ hc
    simp only [lastCond_eq, lastCloses_eq, Bool.and_true, Bool.and_eq_true, decide_eq_true_eq, Bool.not_eq_true'] at hc
    obtain ⟨rfl, hc⟩ := hc
    exact .inl ⟨_, _, _, _, ‹_›, .checkFire _ hp hc, by rw [senderClose_eq]; rfl⟩
  · rename_i d rest hp _ hc
    simp only [lastCond_eq, lastCloses_eq, Bool.and_true, Bool.and_eq_true, decide_eq_true_eq, Bool.not_eq_true'] at hc
    rw [← Option.some.inj h]
    exact .inl ⟨_, _, _, _, ‹_›, .checkSkip d _ hp hc, rfl⟩
  · exact .inl ⟨_, _, _, _, ‹_›, .closeIn _ ‹_›, rfl⟩
  · exact .inl ⟨_, _, _, _, ‹_›, .wgDone _ ‹_›, rfl⟩
  · exact .inl ⟨_, _, _, _, ‹_›, .fin ‹_›, rfl⟩
  · exact .inr (.call _ ‹_›)
  · rename_i hc
    simp only [nextArmSenderDone_eq, consumerNextIsPipeNext_eq, Bool.and_true, decide_eq_true_eq] at hc
    exact .inr (.endd _ ‹_› hc)
  · exact .inr (.expire ‹_›)
  · exact .inr (.ctx ‹_›)
  · exact .inr (.close ‹_›)
  · exact .inr (.closeInner _ ‹_›)
  · exact .inr (.closeCancel _ ‹_›)
  · exact .inr (.closeWait _ ‹_› ‹_›)

theorem GStep.step_eq {s sh : St V} {i : Nat} {g g' : G V} {l : Label V} (hg : s.gs[i]? = some g)
    (t : GStep s i g l g' sh) : step s l = some { sh with gs := s.gs.set i g' } := by
  cases t with
  | item v hp => unfold step; simp [hg, hp]
  | ended hp => unfold step; simp [hg, hp, endReturns_eq, leave, exitSeq_eq]
  | err e hp => unfold step; simp [hg, hp, setPc]
  | ctxErr hp hc => unfold step; simp [hg, hp, hc, setPc, nextUsesCtx_eq]
  | casWin e hp hc => unfold step; simp [hg, hp, hc, setPc, casGuards_eq, winSeq_eq]
  | casLose e hp hc => unfold step; simp [hg, hp, hc, leave, casGuards_eq, exitSeq_eq]
  | winCancel e rest hp => unfold step; simp [hg, hp, setPc]
  | winClose e rest hp => unfold step; simp [hg, hp, setPc, senderClose_eq]
  | winDone e hp => unfold step; simp [hg, hp, leave, exitSeq_eq, errReturns_eq]
  | sendOk v live hp hc => unfold step; simp [hg, hp, hc, sendArmC_eq, nextArmC_eq, consumerNextIsPipeNext_eq, pipeBuf_eq]
  | sendFail v hp hc =>
    unfold step
    simp [hg, hp, leave, sendUsesCtx_eq, sendArmCtx_eq, sendArmStreamDone_eq, sendArmSenderDone_eq, sendErrReturns_eq, exitSeq_eq]
    intro h1 h2 h3
    rcases hc with hc | hc | hc
    · rw [hc] at h1; cases h1
    · rw [hc] at h2; cases h2
    · omega
  | mark rest hp => unfold step; simp [hg, hp, setPc]
  | checkFire rest hp hc =>
    unfold step; simp only [setPc, lastCond_eq, lastCloses_eq, senderClose_eq]; simp [hg, hp, hc]
  | checkSkip d rest hp hc =>
    unfold step; simp only [setPc, lastCond_eq, lastCloses_eq, senderClose_eq]; simp [hg, hp]
    intro hd
    cases hco : s.closeOnce
    · exact absurd ⟨hd, hco⟩ hc
    · rfl
  | closeIn rest hp => unfold step; simp [hg, hp]
  | wgDone rest hp => unfold step; simp [hg, hp, setPc]
  | fin hp => unfold step; simp [hg, hp, setPc]

theorem CStep.step_eq {s s' : St V} {l : Label V} (c : CStep s l s') : step s l = some s' := by
  cases c with
  | call live hp => unfold step; simp [hp]
  | endd live hp hc => unfold step; simp [hp, hc, nextArmSenderDone_eq, consumerNextIsPipeNext_eq]; rfl
  | ctx hp => unfold step; simp [hp, nextArmCtx_eq]
  | expire hp => unfold step; simp [hp]
  | close hp => unfold step; simp [hp, closeSeq_eq]
  | closeInner rest hp => unfold step; simp [hp]
  | closeCancel rest hp => unfold step; simp [hp]
  | closeWait rest hp hw => unfold step; simp [hp, hw]
  | ctxEnds ho hc => unfold step; simp [ho, hc]
theorem no_ctxEnds {s : St V} (ho : s.origin = .plainCancel) : step s .ctxEnds = none := by
  cases h : step s .ctxEnds with
  | none => rfl
  | some s' =>
    rcases step_cases h with ⟨_, _, _, _, _, t, _⟩ | c
    · cases t
    · cases c with
      | ctxEnds ho' _ => exact absurd ho ho'

end Juniper.Proofs.StreamMerge
