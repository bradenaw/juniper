import Juniper.Proofs.TreeCursor
import Juniper.Model.BTreeAccess
/-!
# Access-level model of the B-tree (C01, concurrent clause): nodes, slots, memory

The nodes of a subtree (`Sub`), the value slot `(node identity, index)` at which the descent of `lookup` / `ins` finds a
key (`slotOf`: the one location a present-key `Put` writes and a `Get` of the key reads), and what it means for a
memory to hold a tree (`Rep`).
-/
namespace Juniper.Proofs.TreeAccess
open Juniper.Gen.Tree Juniper.Model.BTree Juniper.Model.BTreeAccess Juniper.Proofs.Tree

variable {K V : Type} {cmp : K → K → Int}

/-- `Sub x y`: `y` is a node of the subtree `x` -/
inductive Sub : Node K V → Node K V → Prop where
  | refl (x : Node K V) : Sub x x
  | kid {x c y : Node K V} : c ∈ x.kids → Sub c y → Sub x y

theorem Sub.snoc {x y c : Node K V} (h : Sub x y) (hc : c ∈ y.kids) : Sub x c := by
  induction h with
  | refl x => exact .kid hc (.refl c)
  | kid hm _ ih => exact .kid hm (ih hc)

theorem Sub.id_mem {x y : Node K V} (h : Sub x y) : y.id ∈ ids x := by
  induction h with
  | refl x => obtain ⟨id, kvs, kids⟩ := x; simp [ids, Node.id]
  | @kid x c y hm _ ih =>
    obtain ⟨id, kvs, kids⟩ := x
    rw [ids]; exact List.mem_cons_of_mem _ (mem_flatten_ids hm ih)

theorem Sub.inv {id : Nat} {kvs : List (K × V)} {kids : List (Node K V)} {y : Node K V}
    (h : Sub (.mk id kvs kids) y) : y = .mk id kvs kids ∨ ∃ c ∈ kids, Sub c y := by
  cases h with
  | refl => exact Or.inl rfl
  | kid hm hs => exact Or.inr ⟨_, hm, hs⟩

theorem Sub.zip {x y : Node K V} (h : Sub x y) : ∃ up, Zip x y up := by
  induction h with
  | refl x => exact ⟨[], rfl⟩
  | @kid x c y hm _ ih =>
    obtain ⟨up, hz⟩ := ih
    obtain ⟨j, hj, hc⟩ := List.getElem_of_mem hm
    exact ⟨up ++ [(x, j)], zip_snoc (by simp [hc, hj]) up y hz⟩

theorem zip_sub {R : Node K V} : ∀ (up : List (Node K V × Nat)) (y : Node K V), Zip R y up → Sub R y
  | [], _, h => h ▸ .refl _
  | (_, _) :: up, _, h => (zip_sub up _ h.2).snoc (List.mem_of_getElem? h.1)

theorem sub_id_inj {R y y' : Node K V} (hn : (ids R).Nodup) (h : Sub R y) (h' : Sub R y')
    (he : y.id = y'.id) : y = y' := by
  have hone : ∀ i, cnt i R ≤ 1 := List.nodup_iff_count.mp hn
  obtain ⟨up, hz⟩ := h.zip
  obtain ⟨up', hz'⟩ := h'.zip
  have h1 := pathTo_unique y.id R up y hz hone rfl
  have h2 := pathTo_unique y.id R up' y' hz' hone he.symm
  rw [h1] at h2
  simp only [Option.some.injEq, Prod.mk.injEq] at h2
  exact h2.2

/-- what the comparison at index `i` of `searchNode`'s loop decides -/
theorem searchNode_at (cmp : K → K → Int) (k : K) (kvs : List (K × V)) :
    ∀ i, i ≤ (searchNode cmp k kvs).1 →
      (∀ h : i < kvs.length,
        (searchLess (cmp k kvs[i].1) = true → searchNode cmp k kvs = (i, false)) ∧
        (searchLess (cmp k kvs[i].1) = false → searchEq (cmp k kvs[i].1) = true → searchNode cmp k kvs = (i, true)) ∧
        (searchLess (cmp k kvs[i].1) = false → searchEq (cmp k kvs[i].1) = false →
          i + 1 ≤ (searchNode cmp k kvs).1)) ∧
      (kvs.length ≤ i → searchNode cmp k kvs = (kvs.length, false)) := by
  induction kvs with
  | nil => intro i _; exact ⟨fun h => absurd h (by simp), fun _ => by simp [searchNode]⟩
  | cons kv rest ih =>
    obtain ⟨k', v'⟩ := kv
    intro i hi
    cases i with
    | zero =>
      refine ⟨fun _ => ?_, fun h => absurd h (by simp)⟩
      simp only [List.getElem_cons_zero, searchNode]
      refine ⟨fun h1 => by simp [h1], fun h1 h2 => by simp [h1, h2], fun h1 h2 => by simp [h1, h2]⟩
    | succ i =>
      by_cases h1 : searchLess (cmp k k') = true
      · simp [searchNode, h1] at hi
      · by_cases h2 : searchEq (cmp k k') = true
        · simp [searchNode, h1, h2] at hi
        · have hs : searchNode cmp k ((k', v') :: rest) = ((searchNode cmp k rest).1 + 1, (searchNode cmp k rest).2) := by
            simp [searchNode, h1, h2]
          rw [hs] at hi ⊢
          have hi' : i ≤ (searchNode cmp k rest).1 := by simpa using hi
          obtain ⟨a, b⟩ := ih i hi'
          refine ⟨fun h => ?_, fun h => ?_⟩
          · have h' : i < rest.length := by simpa using h
            obtain ⟨a1, a2, a3⟩ := a h'
            simp only [List.getElem_cons_succ]
            refine ⟨fun e => ?_, fun e1 e2 => ?_, fun e1 e2 => ?_⟩
            · have := a1 e; simp [this]
            · have := a2 e1 e2; simp [this]
            · have := a3 e1 e2; simpa using this
          · have h' : rest.length ≤ i := by simpa using h
            have := b h'
            simp [this]

theorem searchNode_found_key {k : K} {kvs : List (K × V)} {i : Nat} (h : searchNode cmp k kvs = (i, true)) :
    ∃ hi : i < kvs.length, cmp k kvs[i].1 = 0 := by
  obtain ⟨kv, hkv, he⟩ := (search_bounds cmp k kvs h).2.2 rfl
  obtain ⟨hi, rfl⟩ := List.getElem?_eq_some_iff.mp hkv
  exact ⟨hi, he⟩

/-- where `lookup` / `ins` find `k` below `x`: `(identity of the node, index in the node)` -/
def slotOf (cmp : K → K → Int) (k : K) (x : Node K V) : Option (Nat × Nat) :=
  match x with
  | .mk id kvs kids =>
    match searchNode cmp k kvs with
    | (i, true) => some (id, i)
    | (i, false) =>
      match _h : kids[i]? with
      | none => none
      | some c => slotOf cmp k c
termination_by sizeOf x
decreasing_by
  have := List.sizeOf_lt_of_mem (List.mem_of_getElem? _h)
  simp only [Node.mk.sizeOf_spec]
  omega

/-- `slotOf` and `lookup` of a node that is a variable (the definitions match on `.mk`, and on `h : kids[i]?` for termination) -/
theorem slotOf_eq (k : K) (y : Node K V) :
    slotOf cmp k y = match searchNode cmp k y.kvs with
      | (i, true) => some (y.id, i)
      | (i, false) => (y.kids[i]?).bind (slotOf cmp k) := by
  obtain ⟨id, kvs, kids⟩ := y
  rw [slotOf]
  dsimp only [Node.kvs, Node.kids, Node.id]
  rcases searchNode cmp k kvs with ⟨i, _ | _⟩
  · dsimp only; split <;> rename_i h <;> rw [h] <;> rfl
  · rfl

theorem lookup_eq (k : K) (y : Node K V) :
    lookup cmp k y = match searchNode cmp k y.kvs with
      | (i, true) => y.kvs[i]?
      | (i, false) => (y.kids[i]?).bind (lookup cmp k) := by
  obtain ⟨id, kvs, kids⟩ := y
  rw [lookup]
  dsimp only [Node.kvs, Node.kids]
  rcases searchNode cmp k kvs with ⟨i, _ | _⟩
  · dsimp only; split <;> rename_i h <;> rw [h] <;> rfl
  · rfl

section
variable {k : K} {y c : Node K V} {i : Nat}

theorem slotOf_found (h : searchNode cmp k y.kvs = (i, true)) : slotOf cmp k y = some (y.id, i) := by
  rw [slotOf_eq, h]

theorem slotOf_child (h : searchNode cmp k y.kvs = (i, false)) (hc : y.kids[i]? = some c) :
    slotOf cmp k y = slotOf cmp k c := by
  rw [slotOf_eq, h]; simp only [hc]; rfl

theorem slotOf_nochild (h : searchNode cmp k y.kvs = (i, false)) (hc : y.kids[i]? = none) : slotOf cmp k y = none := by
  rw [slotOf_eq, h]; simp only [hc]; rfl

theorem lookup_found (h : searchNode cmp k y.kvs = (i, true)) : lookup cmp k y = y.kvs[i]? := by
  rw [lookup_eq, h]

theorem lookup_child (h : searchNode cmp k y.kvs = (i, false)) (hc : y.kids[i]? = some c) :
    lookup cmp k y = lookup cmp k c := by
  rw [lookup_eq, h]; simp only [hc]; rfl

theorem lookup_nochild (h : searchNode cmp k y.kvs = (i, false)) (hc : y.kids[i]? = none) : lookup cmp k y = none := by
  rw [lookup_eq, h]; simp only [hc]; rfl

end

theorem slotOf_spec (cmp : K → K → Int) (k : K) (x : Node K V) :
    ∀ a i, slotOf cmp k x = some (a, i) →
      ∃ y, Sub x y ∧ y.id = a ∧ searchNode cmp k y.kvs = (i, true) ∧ lookup cmp k x = y.kvs[i]? := by
  fun_induction slotOf cmp k x with
  | case1 id kvs kids i hs =>
    intro a j h
    simp only [Option.some.injEq, Prod.mk.injEq] at h
    obtain ⟨rfl, rfl⟩ := h
    exact ⟨_, .refl _, rfl, hs, lookup_found hs⟩
  | case2 id kvs kids i hs hnone => intro a j h; cases h
  | case3 id kvs kids i hs c hcc ih =>
    intro a j h
    obtain ⟨y, hsub, hid, hsn, hl⟩ := ih a j h
    exact ⟨y, .kid (List.mem_of_getElem? hcc) hsub, hid, hsn, by rw [lookup_child hs hcc, hl]⟩

theorem slotOf_isSome (cmp : K → K → Int) (k : K) (x : Node K V) :
    (slotOf cmp k x).isSome = (lookup cmp k x).isSome := by
  fun_induction slotOf cmp k x with
  | case1 id kvs kids i hs =>
    have hi := searchNode_found_lt hs
    rw [lookup_found hs, show (Node.mk id kvs kids).kvs[i]? = some kvs[i] from List.getElem?_eq_getElem hi]; rfl
  | case2 id kvs kids i hs hnone => rw [lookup_nochild hs hnone]; rfl
  | case3 id kvs kids i hs c hcc ih => rw [lookup_child hs hcc, ih]

/-- the structural fields of one node object: `n`, the live keys, the child pointers -/
def NodeS (m : Mem K V) (y : Node K V) : Prop :=
  m.n y.id = y.kvs.length ∧
  (∀ i (h : i < y.kvs.length), m.key y.id i = some y.kvs[i].1) ∧
  (∀ i, i ≤ y.kvs.length → m.child y.id i = (y.kids[i]?).map Node.id)

/-- the live value slots of one node object -/
def NodeV (m : Mem K V) (y : Node K V) : Prop :=
  ∀ i (h : i < y.kvs.length), m.val y.id i = some y.kvs[i].2

/-- the memory `m` holds the tree `t` -/
def Rep (m : Mem K V) (t : Tree K V) : Prop :=
  m.root = some t.root.id ∧ m.size = t.size ∧ m.gen = t.gen ∧ ∀ y, Sub t.root y → NodeS m y ∧ NodeV m y

end Juniper.Proofs.TreeAccess
