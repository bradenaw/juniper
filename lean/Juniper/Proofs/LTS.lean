/-! Runs of a labelled transition system given as a partial step function `step : σ → ι → Option σ`. Every model
of a concurrent component defines its own `step`, `run` (over label lists) and `Reach`; `IsRun step run` says that
`run` is the fold of `step`, so the lemmas here apply to the models' own definitions as they stand, and a component's
`Reach cfg` enters as a predicate closed under steps. A component proves facts about *single steps* —

* decrease: a step with a label in `Q` from a state in `P` stays in `P` and lowers a measure `μ`,
* enabledness: from a state in `P` that is not yet `Good`, some allowed step is enabled —

and the statements about runs are the named instances: what steps keep, runs keep (`IsRun.inv`, `IsRun.reach`); a run
is paid for by the measure (`IsRun.measure`); no infinite run exists (`no_infinite_run`); some run reaches `Good`
(`exists_path`, `IsRun.exists_run`, `IsRun.quiesces`, `IsRun.call_completes`). -/
namespace Juniper.LTS
variable {σ ι : Type}

theorem no_infinite_descent (μ : σ → Nat) (f : Nat → σ) (h : ∀ n, μ (f (n + 1)) < μ (f n)) : False := by
  have key : ∀ n, n + μ (f n) ≤ μ (f 0) := by
    intro n
    induction n with
    | zero => simp
    | succ n ih => have := h n; omega
  have := key (μ (f 0) + 1)
  omega

theorem no_infinite_run {step : σ → ι → Option σ} {μ : σ → Nat} {P : σ → Prop} {Q : ι → Prop}
    (hdec : ∀ {s l s'}, P s → Q l → step s l = some s' → μ s' < μ s ∧ P s') {s : σ} (hp : P s) :
    ¬ ∃ f : Nat → σ, f 0 = s ∧ ∀ n, ∃ l, Q l ∧ step (f n) l = some (f (n + 1)) := by
  rintro ⟨f, h0, hf⟩
  have hP : ∀ n, P (f n) := by
    intro n
    induction n with
    | zero => exact h0 ▸ hp
    | succ n ih => obtain ⟨l, hl, hst⟩ := hf n; exact (hdec ih hl hst).2
  exact no_infinite_descent μ f fun n => let ⟨_, hl, hst⟩ := hf n; (hdec (hP n) hl hst).1

structure IsRun (step : σ → ι → Option σ) (run : σ → List ι → Option σ) : Prop where
  nil : ∀ s, run s [] = some s
  cons : ∀ s l ls, run s (l :: ls) = (step s l).bind (fun s' => run s' ls)

/-- the run function of `step`, for the systems whose model defines none -/
def runOf (step : σ → ι → Option σ) : σ → List ι → Option σ
  | s, [] => some s
  | s, l :: ls => (step s l).bind (runOf step · ls)

theorem runOf_isRun (step : σ → ι → Option σ) : IsRun step (runOf step) :=
  ⟨fun _ => rfl, fun _ _ _ => rfl⟩

/-- `ls` leads from `s` to `s'`, each label being allowed (`Q`) in the state it is applied to -/
inductive Path (step : σ → ι → Option σ) (Q : σ → ι → Prop) : σ → List ι → σ → Prop
  | nil (s : σ) : Path step Q s [] s
  | cons {s s1 s' : σ} {l : ι} {ls : List ι} : Q s l → step s l = some s1 → Path step Q s1 ls s' →
      Path step Q s (l :: ls) s'

theorem Path.all {step : σ → ι → Option σ} {Q : σ → ι → Prop} {Q' : ι → Prop} (hQ : ∀ s l, Q s l → Q' l)
    {s s' : σ} {ls : List ι} (h : Path step Q s ls s') : ∀ l ∈ ls, Q' l := by
  induction h with
  | nil => nofun
  | cons hq _ _ ih => exact List.forall_mem_cons.2 ⟨hQ _ _ hq, ih⟩

theorem exists_path {step : σ → ι → Option σ} {μ : σ → Nat} {P Good : σ → Prop} {Q : σ → ι → Prop}
    (hnext : ∀ s, P s → ¬ Good s → ∃ l s', Q s l ∧ step s l = some s' ∧ (Good s' ∨ (μ s' < μ s ∧ P s')))
    {s : σ} (hp : P s) : ∃ ls s', Path step Q s ls s' ∧ Good s' ∧ ls.length ≤ μ s + 1 := by
  generalize hn : μ s = n
  induction n using Nat.strongRecOn generalizing s with
  | ind n ih =>
    by_cases hg : Good s
    · exact ⟨[], s, .nil s, hg, Nat.zero_le _⟩
    · obtain ⟨l, s1, hq, hst, h | ⟨hlt, hp1⟩⟩ := hnext s hp hg
      · exact ⟨[l], s1, .cons hq hst (.nil s1), h, by simp⟩
      · obtain ⟨ls, s', h1, h2, h3⟩ := ih _ (hn ▸ hlt) hp1 rfl
        exact ⟨l :: ls, s', .cons hq hst h1, h2, by simp only [List.length_cons]; omega⟩

namespace IsRun
variable {step : σ → ι → Option σ} {run : σ → List ι → Option σ} (R : IsRun step run)
include R

theorem cons_eq_some {s s' : σ} {l : ι} {ls : List ι} :
    run s (l :: ls) = some s' ↔ ∃ s1, step s l = some s1 ∧ run s1 ls = some s' := by
  rw [R.cons, Option.bind_eq_some_iff]

theorem append (s : σ) (ls ms : List ι) : run s (ls ++ ms) = (run s ls).bind (fun s' => run s' ms) := by
  induction ls generalizing s with
  | nil => rw [R.nil]; rfl
  | cons l ls ih =>
    rw [List.cons_append, R.cons, R.cons]
    cases step s l with
    | none => rfl
    | some s1 => exact ih s1

theorem of_path {Q : σ → ι → Prop} {s s' : σ} {ls : List ι} (h : Path step Q s ls s') : run s ls = some s' := by
  induction h with
  | nil s => exact R.nil s
  | cons _ hst _ ih => exact R.cons_eq_some.2 ⟨_, hst, ih⟩

theorem inv {P : σ → Prop} {Q : ι → Prop} (hstep : ∀ {s l s'}, P s → Q l → step s l = some s' → P s')
    {ls : List ι} {s s' : σ} (h : run s ls = some s') (hl : ∀ l ∈ ls, Q l) (hp : P s) : P s' := by
  induction ls generalizing s with
  | nil => rw [R.nil] at h; cases h; exact hp
  | cons l ls ih =>
    obtain ⟨s1, hst, h⟩ := R.cons_eq_some.1 h
    obtain ⟨hl1, hl⟩ := List.forall_mem_cons.1 hl
    exact ih h hl (hstep hp hl1 hst)

theorem measure {μ : σ → Nat} {P : σ → Prop} {Q : ι → Prop}
    (hdec : ∀ {s l s'}, P s → Q l → step s l = some s' → μ s' < μ s ∧ P s')
    {ls : List ι} {s s' : σ} (h : run s ls = some s') (hl : ∀ l ∈ ls, Q l) (hp : P s) :
    ls.length + μ s' ≤ μ s ∧ P s' := by
  induction ls generalizing s with
  | nil => rw [R.nil] at h; cases h; exact ⟨by simp, hp⟩
  | cons l ls ih =>
    obtain ⟨s1, hst, h⟩ := R.cons_eq_some.1 h
    obtain ⟨hl1, hl⟩ := List.forall_mem_cons.1 hl
    obtain ⟨h1, hp1⟩ := hdec hp hl1 hst
    obtain ⟨h2, hp'⟩ := ih h hl hp1
    exact ⟨by simp only [List.length_cons]; omega, hp'⟩

/-- `Rch` is a component's `Reach cfg`, `hstep` its constructor `Reach.step` -/
theorem reach {Rch : σ → Prop} (hstep : ∀ {s l s'}, Rch s → step s l = some s' → Rch s')
    {ls : List ι} {s s' : σ} (h0 : Rch s) (h : run s ls = some s') : Rch s' :=
  R.inv (Q := fun _ => True) (fun hr _ h => hstep hr h) h (fun _ _ => trivial) h0

theorem exists_reach {Rch P : σ → Prop} (hstep : ∀ {s l s'}, Rch s → step s l = some s' → Rch s')
    {s : σ} (h0 : Rch s) (ls : List ι) (h : ∃ s', s' ∈ run s ls ∧ P s') : ∃ s', Rch s' ∧ P s' :=
  let ⟨s', hr, hp⟩ := h
  ⟨s', R.reach hstep h0 hr, hp⟩

theorem exists_run {μ : σ → Nat} {P Good : σ → Prop} {Q : ι → Prop}
    (hnext : ∀ s, P s → ¬ Good s → ∃ l s', Q l ∧ step s l = some s' ∧ (Good s' ∨ (μ s' < μ s ∧ P s')))
    {s : σ} (hp : P s) : ∃ ls s', (∀ l ∈ ls, Q l) ∧ run s ls = some s' ∧ Good s' ∧ ls.length ≤ μ s + 1 := by
  obtain ⟨ls, s', h1, h2, h3⟩ := exists_path (Q := fun _ l => Q l) hnext hp
  exact ⟨ls, s', Path.all (Q' := Q) (fun _ _ h => h) h1, R.of_path h1, h2, h3⟩

/-- `Int`: the internal labels -/
theorem quiesces {μ : σ → Nat} {Int : ι → Prop} (hdec : ∀ {s l s'}, Int l → step s l = some s' → μ s' < μ s)
    (s : σ) : ∃ ls s', (∀ l ∈ ls, Int l) ∧ run s ls = some s' ∧ ls.length ≤ μ s ∧ ∀ l, Int l → step s' l = none := by
  obtain ⟨ls, s', h1, h2, h3, _⟩ := R.exists_run (μ := μ) (P := fun _ => True)
    (Good := fun s => ∀ l, Int l → step s l = none) (Q := Int) (fun s _ hq => by
      simp only [Classical.not_forall] at hq
      obtain ⟨l, hl, hne⟩ := hq
      obtain ⟨s1, hst⟩ := Option.ne_none_iff_exists'.1 hne
      exact ⟨l, s1, hl, hst, .inr ⟨hdec hl hst, trivial⟩⟩) (s := s) trivial
  have := (R.measure (P := fun _ => True) (fun _ hl h => ⟨hdec hl h, trivial⟩) h2 h1 trivial).1
  exact ⟨ls, s', h1, h2, by omega, h3⟩

/-- **A pending call completes.** `Q`: the labels that do not start a new call. `J` describes the states a
pending call passes through (reachable, and the call still pending or returned): every `Q`-step from a `J`-state
decreases `μ` and keeps `J`. Until it has `Ret`urned, an `Int`ernal step is enabled or the environment `Owe`s a
return, which is then a possible step (`Svc`: internal steps and returns). Then (1) every `Q`-run is paid for by
`μ` and keeps `J`, (2) a `Q`-run that ends with nothing enabled and nothing owed has returned, (3) a `Svc`-run of
at most `μ s` steps to the return exists. -/
theorem call_completes {μ : σ → Nat} {J Ret Owe : σ → Prop} {Q Int Svc : ι → Prop}
    (hIS : ∀ l, Int l → Svc l) (hSQ : ∀ l, Svc l → Q l)
    (hstep : ∀ {s l s'}, J s → Q l → step s l = some s' → μ s' < μ s ∧ J s')
    (hprog : ∀ s, J s → ¬ Ret s → (∃ l s', Int l ∧ step s l = some s') ∨ Owe s)
    (howe : ∀ s, J s → Owe s → ∃ l s', Svc l ∧ step s l = some s') {s : σ} (hj : J s) :
    (∀ ls s', (∀ l ∈ ls, Q l) → run s ls = some s' → ls.length + μ s' ≤ μ s ∧ J s') ∧
    (∀ ls s', (∀ l ∈ ls, Q l) → run s ls = some s' → (∀ l, Int l → step s' l = none) → ¬ Owe s' → Ret s') ∧
    ∃ ls s', (∀ l ∈ ls, Svc l) ∧ run s ls = some s' ∧ ls.length ≤ μ s ∧ Ret s' := by
  have hrun : ∀ ls s', (∀ l ∈ ls, Q l) → run s ls = some s' → ls.length + μ s' ≤ μ s ∧ J s' :=
    fun ls s' hl h => R.measure hstep h hl hj
  refine ⟨hrun, fun ls s' hl h hq hn => Classical.byContradiction fun hr => ?_, ?_⟩
  · rcases hprog s' (hrun ls s' hl h).2 hr with ⟨l, s1, hl1, hst⟩ | ho
    · rw [hq l hl1] at hst; cases hst
    · exact hn ho
  · obtain ⟨ls, s', h1, h2, h3, _⟩ := R.exists_run (μ := μ) (P := J) (Good := Ret) (Q := Svc) (fun s hj hg => by
        obtain ⟨l, s1, hl, hst⟩ : ∃ l s1, Svc l ∧ step s l = some s1 :=
          (hprog s hj hg).elim (fun ⟨l, s1, hl, hst⟩ => ⟨l, s1, hIS l hl, hst⟩) (howe s hj)
        exact ⟨l, s1, hl, hst, .inr (hstep hj (hSQ l hl) hst)⟩) hj
    have := (hrun ls s' (fun l hl => hSQ l (h1 l hl)) h2).1
    exact ⟨ls, s', h1, h2, by omega, h3⟩

end IsRun
end Juniper.LTS
