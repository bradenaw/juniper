import Juniper.Proofs.ParDoBasic
import Juniper.Proofs.ListStore
/-! The step function of the `parallel.Do` / `DoContext` LTS as a relation: one constructor per branch of
`Model.ParDo.step`, with the guards in the closed form `Code.Sound` gives them and the successor state
written out. Every invariant is proved by cases on it. Then `cnt`, the number of workers at a class of program
counters, with what `set` does to it. -/

namespace Juniper.Proofs.ParDo
open Juniper.Gen Juniper.Model.ParDo Juniper.ListStore

/-- `Step cfg s l s'`: label `l` takes `s` to `s'`. The worker steps carry the program counter the worker
was at (`hw`); what the regenerated guards decide is spelt out (`i >= n` on the incremented counter, the
sequential loop's `i < n`, `ctx.Err() != nil` as `dCause`). -/
inductive Step (cfg : Cfg) (s : St) : Label → St → Prop
  | fetchDone {w} (hw : s.ws[w]? = some .fetch) (hq : s.seq = false) (hx : (cfg.n : Int) ≤ s.x + 1) :
      Step cfg s (.fetch w) { s with x := s.x + 1, ws := s.ws.set w .done }
  | fetchCheck {w} (hw : s.ws[w]? = some .fetch) (hq : s.seq = false) (hx : s.x + 1 < cfg.n)
      (hm : cfg.code.ctxMode = true) :
      Step cfg s (.fetch w) { s with x := s.x + 1, ws := s.ws.set w (.check (s.x + 1).toNat) }
  | fetchCall {w} (hw : s.ws[w]? = some .fetch) (hq : s.seq = false) (hx : s.x + 1 < cfg.n)
      (hm : cfg.code.ctxMode = false) :
      Step cfg s (.fetch w) { s with x := s.x + 1, ws := s.ws.set w (.call (s.x + 1).toNat) }
  | checkSkip {w i c} (hw : s.ws[w]? = some (.check i)) (hq : s.seq = false) (hd : s.dCause = some c) :
      Step cfg s (.check w) { s with ws := s.ws.set w (.retErr c.err), skipped := s.skipped ++ [i] }
  | checkPass {w i} (hw : s.ws[w]? = some (.check i)) (hq : s.seq = false) (hd : s.dCause = none) :
      Step cfg s (.check w) { s with ws := s.ws.set w (.call i) }
  | begin {w i} (hw : s.ws[w]? = some (.call i)) :
      Step cfg s (.begin w)
        { s with ws := s.ws.set w (.inF i), begun := s.begun ++ [⟨i, cfg.code.ctxMode && ctxCancelled s⟩] }
  | fEndErr {w i k} (hw : s.ws[w]? = some (.inF i)) (hm : cfg.code.ctxMode = true) :
      Step cfg s (.fEnd w (.err k))
        { s with ws := s.ws.set w (.retErr (.f k)), ended := s.ended ++ [(i, .err k)] }
  | fEndSeqNext {w i v} (hw : s.ws[w]? = some (.inF i)) (hq : s.seq = true) (hx : s.x + 1 < cfg.n) :
      Step cfg s (.fEnd w (.ok v))
        { s with x := s.x + 1, ws := s.ws.set w (.call (s.x + 1).toNat), ended := s.ended ++ [(i, .ok v)] }
  | fEndSeqLast {w i v} (hw : s.ws[w]? = some (.inF i)) (hq : s.seq = true) (hx : (cfg.n : Int) ≤ s.x + 1) :
      Step cfg s (.fEnd w (.ok v))
        { s with x := s.x + 1, ws := s.ws.set w .done, ended := s.ended ++ [(i, .ok v)] }
  | fEndPar {w i v} (hw : s.ws[w]? = some (.inF i)) (hq : s.seq = false) :
      Step cfg s (.fEnd w (.ok v)) { s with ws := s.ws.set w .fetch, ended := s.ended ++ [(i, .ok v)] }
  | egFirst {w e} (hw : s.ws[w]? = some (.retErr e)) (hq : s.seq = false) (he : s.egErr = none) :
      Step cfg s (.egDone w)
        { s with ws := s.ws.set w .done, egErr := some e, dCause := s.dCause.or (some .lib) }
  | egLater {w e} (hw : s.ws[w]? = some (.retErr e)) (hq : s.seq = false) (he : s.egErr ≠ none) :
      Step cfg s (.egDone w) { s with ws := s.ws.set w .done }
  | callerCancel (hm : cfg.code.ctxMode = true) (hc : s.callerCancelled = false) :
      Step cfg s .callerCancel
        { s with callerCancelled := true, dCause := s.dCause.or (some .caller) }
  | retSeq (hr : s.ret = none) (hq : s.seq = true) (hws : s.ws = [.done]) :
      Step cfg s .ret { s with ret := some none }
  | retSeqErr {e} (hr : s.ret = none) (hq : s.seq = true) (hws : s.ws = [.retErr e]) :
      Step cfg s .ret { s with ret := some (some e), ws := [.done] }
  | retPar (hr : s.ret = none) (hq : s.seq = false) (hall : allDone s.ws = true) :
      Step cfg s .ret { s with ret := some s.egErr }

theorem ite_isSome_eq_or {α} (d : Option α) (c : α) : (if d.isSome then d else some c) = d.or (some c) := by
  cases d <;> rfl

theorem Step.of_step {cfg : Cfg} (hs : cfg.code.Sound) {s s' : St} {l : Label} (h : step cfg s l = some s') :
    Step cfg s l s' := by
  revert h
  -- `fun_cases` follows the branches of `step`: those that return `none` go by `cases h`, which in the others puts the
  -- successor state in; what remains comes in the order of the labels, one bullet per constructor of `Step` (`checkPass`
  -- twice; the sequential `fEnd` splits into its two; a sequential loop that goes on after an error and a worker that
  -- ignores one are not sound code). `hs` puts the regenerated guards and counters into closed form
  fun_cases step cfg s l <;> intro h <;> cases h
  · rename_i hw hq _ _ hx
    simp +zetaDelta only [hs.counterDelta, hs.fetch, hs.workerDone, effN_eq hs, ge_iff_le, decide_eq_true_eq] at hx ⊢
    exact .fetchDone hw (Bool.eq_false_iff.2 hq) hx
  · rename_i hw hq _ _ hx hm
    simp +zetaDelta only [hs.counterDelta, hs.fetch, hs.workerDone, effN_eq hs, ge_iff_le, decide_eq_true_eq, Int.not_le] at hx ⊢
    exact .fetchCheck hw (Bool.eq_false_iff.2 hq) hx hm
  · rename_i hw hq _ _ hx hm
    simp +zetaDelta only [hs.counterDelta, hs.fetch, hs.workerDone, effN_eq hs, ge_iff_le, decide_eq_true_eq, Int.not_le] at hx ⊢
    exact .fetchCall hw (Bool.eq_false_iff.2 hq) hx (Bool.eq_false_iff.2 hm)
  · exact .checkSkip ‹_› (Bool.eq_false_iff.2 ‹_›) ‹_›
  · exact .checkPass ‹_› (Bool.eq_false_iff.2 ‹_›) ‹_›
  · rename_i hw hq hc
    simp only [hs.workerCancelled, Bool.not_eq_true, Option.isSome_eq_false_iff, Option.isNone_iff_eq_none] at hc
    exact .checkPass hw (Bool.eq_false_iff.2 hq) hc
  · exact .begin ‹_›
  · rename_i hw _ _ _ hm _
    exact .fEndErr hw (by simpa [Res.isErr] using hm)
  · exact absurd (hs.seqStops true) ‹_›
  · rename_i hw hq _ _ _ _
    simp +zetaDelta only [hs.seqPost, hs.seqLoop, effN_eq hs, decide_eq_true_eq]
    split
    · exact .fEndSeqNext hw hq ‹_›
    · exact .fEndSeqLast hw hq (Int.not_lt.mp ‹_›)
  · rename_i hw _ _ _ hm _
    exact .fEndErr hw (by simpa [Res.isErr] using hm)
  · exact absurd (hs.workerFailed true) ‹_›
  · exact .fEndPar ‹_› (Bool.eq_false_iff.2 ‹_›)
  · rw [ite_isSome_eq_or]; exact .egFirst ‹_› (Bool.eq_false_iff.2 ‹_›) ‹_›
  · rename_i hw hq _ he
    exact .egLater hw (Bool.eq_false_iff.2 hq) (he ▸ nofun)
  · rename_i hc
    simp only [Bool.or_eq_true, Bool.not_eq_true', not_or, Bool.not_eq_false, Bool.not_eq_true] at hc
    rw [ite_isSome_eq_or]; exact .callerCancel hc.1 hc.2
  · rename_i hr hq hws
    exact .retSeq (by simpa using hr) hq hws
  · rename_i hr hq _ hws
    exact .retSeqErr (by simpa using hr) hq hws
  · rename_i hr hq hall
    exact .retPar (by simpa using hr) (Bool.eq_false_iff.2 hq) hall

theorem Step.seq_eq {cfg : Cfg} {s s' : St} {l : Label} (h : Step cfg s l s') : s'.seq = s.seq := by
  cases h <;> rfl

theorem Step.length_ws {cfg : Cfg} {s s' : St} {l : Label} (h : Step cfg s l s') : s'.ws.length = s.ws.length := by
  cases h <;> simp [*]

/-- number of workers whose program counter satisfies `p` (kept opaque to `simp`) -/
def cnt (p : Pc → Bool) (ws : List Pc) : Nat := ws.countP p

@[simp] theorem cnt_nil (p : Pc → Bool) : cnt p [] = 0 := rfl
@[simp] theorem cnt_singleton (p : Pc → Bool) (a : Pc) : cnt p [a] = if p a then 1 else 0 := by
  simp [cnt, List.countP_cons]
@[simp] theorem cnt_replicate (p : Pc → Bool) (a : Pc) (n : Nat) : cnt p (List.replicate n a) = if p a then n else 0 := by
  simp [cnt, List.countP_replicate]

theorem cnt_le_length (p : Pc → Bool) (ws : List Pc) : cnt p ws ≤ ws.length := List.countP_le_length

theorem cnt_set_le {p : Pc → Bool} {ws : List Pc} {w : Nat} {a : Pc} (ha : p a = false) :
    cnt p (ws.set w a) ≤ cnt p ws := countP_set_le ha

theorem cnt_set_zero {p : Pc → Bool} {ws : List Pc} {w : Nat} {a : Pc} (h : cnt p ws = 0) (ha : p a = false) :
    cnt p (ws.set w a) = 0 :=
  Nat.eq_zero_of_le_zero (h ▸ cnt_set_le ha)

section
variable {p : Pc → Bool} {ws : List Pc} {w : Nat} {a b : Pc} (hw : ws[w]? = some b)
include hw

theorem cnt_pos (hb : p b = true) : 0 < cnt p ws := countP_pos hw hb

theorem cnt_set_pos (ha : p a = true) : 0 < cnt p (ws.set w a) := countP_set_pos hw ha

theorem cnt_set_ge (hb : p b = false) : cnt p ws ≤ cnt p (ws.set w a) := countP_le_set hw (hb ▸ nofun)

theorem cnt_lt_length (hb : p b = false) : cnt p ws + 1 ≤ ws.length := countP_lt_length hw hb

theorem cnt_set_pred (hb : p b = true) (ha : p a = false) : cnt p (ws.set w a) + 1 = cnt p ws :=
  countP_set_pred hw hb ha

end

end Juniper.Proofs.ParDo
