import Juniper.Proofs.TreeHeapLinkDel
/-!
# Linking the two B-tree models (C03): `Delete`, the induction over `del`
-/
namespace Juniper.Proofs.TreeHeapLink
open Juniper Juniper.Model.BTree Juniper.Model.BTreeSlotsOps Juniper.Proofs.Tree Juniper.Proofs.TreeSlotsOps

variable {K V : Type}

/-- removal + tail, as `Heap.delete` runs it once the descent has found the key at `curr` / `idx` -/
def delAt (fuelR fuelM : Nat) (h : Heap K V) (curr idx : Nat) (xs : SNode K V Nat) : Option (Heap K V) :=
  (if xs.isLeaf then Heap.deleteLeaf h curr idx else Heap.deleteInner h curr idx xs fuelR).bind (delPost fuelM)

theorem AfterSim.rebase {h hb : Heap K V} {p : Option Nat} {ht : Nat} {x : Node K V} {h2 : Heap K V} {lf : Nat} {n : Int}
    {r : DelRes K V} (ha : AfterSim hb p ht x h2 lf n r) (hsame : Same h hb)
    (hfr : ∀ j, cnt j x = 0 → hb.get j = h.get j) : AfterSim h p ht x h2 lf n r := by
  cases r with
  | absent => exact ha
  | crash => exact ha
  | done x' u =>
    obtain ⟨h3, r, t⟩ := afterSim_done.mp ha
    exact afterSim_done.mpr ⟨h3, r.rebase hsame hfr, t⟩

/-- what the heap model's `Delete` does below the subtree `x` of height `ht`, by outcome of `del` -/
def DelSim (cmp : K → K → Int) (k : K) (h : Heap K V) (p : Option Nat) (ht : Nat) (x : Node K V) : DelRes K V → Prop
  | .crash => False
  | .absent => ∃ curr idx, ∀ fuel, ht + 1 ≤ fuel → Heap.descend cmp k h fuel x.id = some (curr, idx, false)
  | .done x' u => ∃ curr idx xs h2 lf n,
      (∀ fuel, ht + 1 ≤ fuel → Heap.descend cmp k h fuel x.id = some (curr, idx, true)) ∧ h.get curr = some xs ∧
      (∀ fuelR fuelM, ht + 1 ≤ fuelR → delAt fuelR fuelM h curr idx xs = tail fuelM h2 lf n) ∧
      AfterSim h p ht x h2 lf n (.done x' u)

/-- `DelSim` for a key that was found, from its parts; `AfterSim` admits no other outcome than `.done` -/
theorem DelSim.of_after {cmp : K → K → Int} {k : K} {h h2 : Heap K V} {p : Option Nat} {ht curr idx lf : Nat} {n : Int}
    {x : Node K V} {xs : SNode K V Nat} {r : DelRes K V}
    (hdesc : ∀ fuel, ht + 1 ≤ fuel → Heap.descend cmp k h fuel x.id = some (curr, idx, true)) (hxs : h.get curr = some xs)
    (hdel : ∀ fuelR fuelM, ht + 1 ≤ fuelR → delAt fuelR fuelM h curr idx xs = tail fuelM h2 lf n)
    (haft : AfterSim h p ht x h2 lf n r) : DelSim cmp k h p ht x r := by
  cases r with
  | absent => exact haft.elim
  | crash => exact haft.elim
  | done x' u => exact ⟨curr, idx, xs, h2, lf, n, hdesc, hxs, hdel, haft⟩

/-- `Inner` for `Delete`: an inner node that satisfies `DelPre`, seen from its child `c` at position `i`. -/
structure DelInner (rootId : Nat) (h : Heap K V) (p : Option Nat) (ht' id : Nat) (kvs : List (K × V))
    (kids : List (Node K V)) (i : Nat) (c : Node K V) (sx : SNode K V Nat) : Prop
    extends Inner h p ht' id kvs kids i c sx where
  occ : Occ c
  pre : DelPre rootId ht' false c
  noRootId : NoId rootId c

theorem del_inner_facts {rootId ht id i : Nat} {isRoot : Bool} {kvs : List (K × V)} {kids : List (Node K V)}
    {c : Node K V} {h : Heap K V} {p : Option Nat} (hne : kids ≠ [])
    (hp : DelPre rootId ht isRoot (.mk id kvs kids)) (hroot : h.root = rootId)
    (hcnt : ∀ j, cnt j (Node.mk id kvs kids) ≤ 1) (hsub : Sub h.get p (.mk id kvs kids)) (hc : kids[i]? = some c) :
    ∃ ht' sx, ht = ht' + 1 ∧ DelInner rootId h p ht' id kvs kids i c sx := by
  have hnoid : ∀ d ∈ (Node.mk id kvs kids).kids, cnt h.root d = 0 := by
    intro d hd; rw [hroot]; exact noId_cnt (hp.kidsNoId d hd)
  obtain ⟨ht', sx, rfl, hin⟩ := inner_facts hne hp.bal hcnt hnoid hsub hc
  obtain ⟨_, e, _, _, hoc, hpc, hnc⟩ := delPre_child hp hc
  cases e
  exact ⟨ht', sx, rfl, hin, hoc, hpc, hnc⟩

/-- the key is in an inner node: its predecessor comes up from the rightmost leaf of the left subtree -/
theorem del_found_inner (cmp : K → K → Int) (k : K) {rootId ht id i : Nat} {isRoot : Bool} {kvs : List (K × V)}
    {kids : List (Node K V)} {c c' : Node K V} {kv : K × V} {under : Bool} {h : Heap K V} {p : Option Nat}
    (hs : searchNode cmp k kvs = (i, true)) (hne : kids ≠ []) (hc : kids[i]? = some c)
    (hres : removeMax rootId c = some (kv, c', under))
    (hp : DelPre rootId ht isRoot (.mk id kvs kids)) (hroot : h.root = rootId)
    (hcnt : ∀ j, cnt j (Node.mk id kvs kids) ≤ 1) (hsub : Sub h.get p (.mk id kvs kids))
    (hrootp : isRoot = true → p = none) :
    DelSim cmp k h p ht (.mk id kvs kids)
      (if under then finish rootId id (replaceAt kvs i kv) (replaceAt kids i c') i
       else .done (.mk id (replaceAt kvs i kv) (replaceAt kids i c')) false) := by
  obtain ⟨ht', sx, rfl, hin⟩ := del_inner_facts hne hp hroot hcnt hsub hc
  have hi : i < kvs.length := searchNode_found_lt hs
  obtain ⟨lf, xsl, lkvs, hne', hrl, hxl, hrl', hkv, hlfc, hcid, hcl⟩ :=
    removeMax_sim rootId c ht' h (some id) hin.bal hin.occ hin.noRootId hroot hin.once (hin.sub c hin.mem) kv c' under hres
  obtain ⟨kv3, x3, u3, he3, hso, -, hcle⟩ := removeMax_spec rootId c ht' hin.bal hin.occ hin.noRootId
  rw [hres] at he3; cases he3
  have hidlf : id ≠ lf := (ne_of_cnt (hcnt lf) hin.mem hlfc).symm
  obtain ⟨ha, xs', hrm, hsa, hsamea, hra, hpa, hga⟩ := step_removeRightmost hxl hrl' hne' [lf]
  have hxa : ha.get id = some sx := by rw [hga, if_neg hidlf]; exact hin.obj
  have hla : ha.get lf = some xs' := by rw [hga, if_pos rfl]
  obtain ⟨hb, sx2, hsb, hsameb, hrb, hpb, hgb⟩ := step_replaceEntry hxa hin.rep hi kv.1 kv.2 [id]
  have hlb : hb.get lf = some xs' := by rw [hgb, if_neg (fun e => hidlf e.symm)]; exact hla
  have hxb : hb.get id = some sx2 := by rw [hgb, if_pos rfl]
  have hbh : ∀ j, j ≠ id → j ≠ lf → hb.get j = h.get j := by
    intro j h1 h2; rw [hgb, if_neg h1, hga, if_neg h2]
  have hcslot : sx.kids[i]? = some (some c.id) := by
    rw [hin.rep.hkids.get_live (by simpa using hin.ilt), (List.getElem?_eq_some_iff.mp hin.idx).2]
  rw [← hkv] at hrm
  obtain ⟨h3c, r3, htl⟩ := hcl hb xs' hlb hra hpa
    (fun j hj hjl => hbh j (ne_of_cnt (hcnt j) hin.mem hj) hjl)
    (by rw [hsameb.root, hsamea.root])
  have haft := after_child (hb0 := hb) (h2 := hb) (lf := lf) (n := xs'.n) (kvs1 := replaceAt kvs i kv) hp
    (length_replaceAt kvs i kv hi) hc hcnt
    (by rw [hsameb.root, hsamea.root, hroot]) hrootp hxb (hpb.trans hin.par) hrb
    (siblings_keep hc hin.sub hin.onceK fun j hj hk => hbh j
      (by rintro rfl; have := hcnt j; rw [cnt_mk, if_pos rfl] at this; omega) (by rintro rfl; omega))
    r3 hcid hso hcle htl
  have hreb := AfterSim.rebase haft (hsamea.trans hsameb) (fun j hj => hbh j
    (ne_id_of_cnt_zero hj)
    (by rintro rfl; have := cnt_child_le (id := id) (kvs := kvs) hin.mem j; omega))
  refine .of_after (fun fuel hf => descend_stop hin.obj hin.rep hs (Or.inl rfl) fuel (by omega)) hin.obj ?_ hreb
  intro fuelR fuelM hf
  unfold delAt
  rw [isLeaf_of_rep_cons hin.rep.hkids (by simpa using hne), if_neg Bool.false_ne_true]
  exact deleteInner_tail hcslot (hrl fuelR (by omega)) hxl hrm hsa hla hsb fuelM

/-- the key is not in the inner node: `Delete` has worked below child `i`, which came back as `c'` -/
theorem del_below (cmp : K → K → Int) (k : K) {rootId ht id i : Nat} {isRoot : Bool} {kvs : List (K × V)}
    {kids : List (Node K V)} {c c' : Node K V} {under : Bool} {h : Heap K V} {p : Option Nat}
    (hs : searchNode cmp k kvs = (i, false)) (hne : kids ≠ []) (hc : kids[i]? = some c)
    (hres : del cmp k rootId c = .done c' under)
    (hp : DelPre rootId ht isRoot (.mk id kvs kids)) (hroot : h.root = rootId)
    (hcnt : ∀ j, cnt j (Node.mk id kvs kids) ≤ 1) (hsub : Sub h.get p (.mk id kvs kids))
    (hrootp : isRoot = true → p = none)
    (ih : ∀ ht', DelPre rootId ht' false c → (∀ j, cnt j c ≤ 1) → Sub h.get (some id) c →
      DelSim cmp k h (some id) ht' c (del cmp k rootId c)) :
    DelSim cmp k h p ht (.mk id kvs kids)
      (if under then finish rootId id kvs (replaceAt kids i c') i else .done (.mk id kvs (replaceAt kids i c')) false) := by
  obtain ⟨ht', sx, rfl, hin⟩ := del_inner_facts hne hp hroot hcnt hsub hc
  obtain ⟨hbal, hcle, -⟩ := del_spec cmp k rootId c ht' false hin.pre
  rw [hres] at hbal hcle
  simp only [DelOK, Bool.false_eq_true, if_false] at hbal
  have hih := ih ht' hin.pre hin.once (hin.sub c hin.mem)
  rw [hres] at hih
  obtain ⟨curr, idx, xs, h2, lf, n, hdesc, hxs, hdel, haft⟩ := hih
  obtain ⟨h3c, r3, htl⟩ := afterSim_done.mp haft
  have haft := after_child (h2 := h2) (lf := lf) (n := n) hp rfl hc hcnt hroot hrootp hin.obj hin.par hin.rep
    (fun d hd => hin.sub d (hd.elim List.mem_of_mem_take List.mem_of_mem_drop)) r3 (r3.id hin.neRoot) hbal hcle htl
  exact .of_after (descend_below hin.obj hin.rep hs hne hc hdesc) hxs (fun fuelR fuelM hf => hdel fuelR fuelM (by omega)) haft

theorem del_sim (cmp : K → K → Int) (k : K) (rootId : Nat) (x : Node K V) :
    ∀ (ht : Nat) (isRoot : Bool) (h : Heap K V) (p : Option Nat), DelPre rootId ht isRoot x → h.root = rootId →
      (∀ j, cnt j x ≤ 1) → Sub h.get p x → (isRoot = true → p = none) →
      DelSim cmp k h p ht x (del cmp k rootId x) := by
  induction x using node_induct with
  | h id kvs kids ih =>
  intro ht isRoot h p hp hroot hcnt hsub hrootp
  rw [del]
  rcases hs : searchNode cmp k kvs with ⟨i, _ | _⟩
  · by_cases hk : kids = []
    · -- a leaf without the key
      subst hk
      obtain ⟨sx, hx, hpar, hr, _⟩ := sub_mk.mp hsub
      simp only [List.map_nil] at hr
      exact ⟨id, i, fun fuel hf => descend_stop hx hr hs (Or.inr rfl) fuel (by omega)⟩
    · -- an inner node without the key: `Delete` works below child `i`
      obtain ⟨c, hc⟩ := Option.ne_none_iff_exists'.mp (bal_has_child hp.bal hk hs)
      obtain ⟨ht', sx, rfl, hin⟩ := del_inner_facts hk hp hroot hcnt hsub hc
      have hih := ih c hin.mem ht' false h (some id) hin.pre hroot hin.once (hin.sub c hin.mem) nofun
      have he : kids.isEmpty = false := by simpa using hk
      simp only [he, Bool.false_eq_true, if_false]
      split
      · next h0 => rw [hc] at h0; cases h0
      · next c0 h0 =>
        obtain rfl : c = c0 := Option.some.inj (hc.symm.trans h0)
        cases hres : del cmp k rootId c with
        | crash => rw [hres] at hih; exact hih.elim
        | absent =>
          rw [hres] at hih
          obtain ⟨curr, idx, hdesc⟩ := hih
          exact ⟨curr, idx, descend_below hin.obj hin.rep hs hk hc hdesc⟩
        | done c' under =>
          have := del_below cmp k hs hk hc hres hp hroot hcnt hsub hrootp
            (fun ht' hpc hcntc hsubc => ih c hin.mem ht' false h (some id) hpc hroot hcntc hsubc nofun)
          cases under <;> exact this
  · by_cases hk : kids = []
    · -- the key is in this leaf
      subst hk
      obtain rfl := bal_leaf_iff.mp hp.bal
      obtain ⟨sx, hx, hpar, hr, _⟩ := sub_mk.mp hsub
      simp only [List.map_nil] at hr
      have hi : i < kvs.length := searchNode_found_lt hs
      obtain ⟨h1, x1, hstep, hsame, hr1, hp1, hg1⟩ := step_leafRemove hx hr hi [id]
      have hx1 : h1.get id = some x1 := by rw [hg1]; simp
      have hkv' : removeAt kvs i = kvs.take i ++ kvs.drop (i + 1) := rfl
      have hn1 : x1.n = ((removeAt kvs i).length : Int) := by rw [hkv']; exact hr1.hn
      simp only [List.isEmpty_nil, if_true, DelSim]
      refine ⟨id, i, sx, h1, id, x1.n, fun fuel hf => descend_stop hx hr hs (Or.inl rfl) fuel (by omega), hx, ?_, ?_⟩
      · intro fuelR fuelM _
        unfold delAt
        rw [if_pos (hr.isLeaf_iff.mpr rfl)]
        exact deleteLeaf_tail hstep hx1 fuelM
      · refine afterSim_done.mpr ⟨h1, .of_same hsame
          (sub_mk.mpr ⟨x1, hx1, hp1.trans hpar, by simpa [hkv'] using hr1, by simp⟩) rfl
          (fun j hj => by rw [hg1, if_neg (ne_id_of_cnt_zero hj)]), ?_⟩
        · refine tail_leaf hx1 hn1 (fun e => ?_) ?_
          · rw [hp1, hpar]
            cases isRoot with
            | true => exact hrootp rfl
            | false => exact absurd (e.trans (hsame.root.trans hroot)) (hp.subCase rfl).1
          · rw [hsame.root, hroot]
            simp only [Gen.Tree.deleteLeafDone, Gen.Tree.deleteMerges, Bool.or_false, ge_iff_le, ← decide_not, Int.not_le]
    · -- the key is in this inner node
      obtain ⟨c, hc⟩ := Option.ne_none_iff_exists'.mp (bal_has_child hp.bal hk hs)
      obtain ⟨ht', rfl, -, hbc, hoc, -, hnc⟩ := delPre_child hp hc
      obtain ⟨kv, c', under, hres, -⟩ := removeMax_spec rootId c ht' hbc hoc hnc
      have := del_found_inner cmp k hs hk hc hres hp hroot hcnt hsub hrootp
      have he : kids.isEmpty = false := by simpa using hk
      simp only [he, Bool.false_eq_true, if_false, hc, hres]
      cases under <;> exact this
end Juniper.Proofs.TreeHeapLink
