import Juniper.Proofs.ParMapStreamCtl
/-! Inductive invariants of the MapStream LTS, data: placement (every dispatched index is in exactly one of: yielded,
held by a worker, in `c`, in the reorder buffer, dropped), values (what reaches the consumer for index `k` is what `f`
returned for the `k`-th source item, results are numbered consecutively, a failed index is never forwarded), error
provenance (what errgroup records, what a goroutine returns and what `Next` reports is an error that `f` or the source
returned, or the parent context's error after the caller cancelled it, never a cancellation the library caused itself),
and the shape of the call log of the source stream (C09 clauses). -/

namespace Juniper.Proofs.ParMap.S
open Juniper.Gen Juniper.Facts Juniper.Model.ParMap Juniper.Model.ParMap.Stream Juniper.Proofs.ParMap

def wHolds (k : Nat) : WPc → Bool
  | .inF j => j == k
  | .sendC j _ => j == k
  | _ => false
def wInF (k : Nat) : WPc → Bool
  | .inF j => j == k
  | _ => false

def ecnt (k : Nat) (l : List (Nat × Res)) : Nat := cnt (fun e => e.1 == k) l
@[simp] theorem ecnt_nil (k : Nat) : ecnt k [] = 0 := rfl
@[simp] theorem ecnt_snoc (k : Nat) (l : List (Nat × Res)) (a : Nat × Res) :
    ecnt k (l ++ [a]) = ecnt k l + b2n (a.1 == k) := cnt_snoc _ l a

abbrev PlaceInv (_cfg : Cfg) (s : St) : Prop :=
  Placed wHolds wInF s.ws s.i s.dispI (fun k => icnt k s.c + icnt k s.heap + ncnt k s.dropped)
    (fun k => ecnt k s.fEnded) s.fBegun

theorem placeInv_init (cfg : Cfg) : PlaceInv cfg (Stream.init cfg) := by
  refine ⟨?_, ?_, ?_⟩ <;> simp [Stream.init, wHolds, wInF]

theorem placeInv_step {cfg : Cfg} (hs : cfg.code.Sound) {s s' : St} {l : Label} (hi : PlaceInv cfg s)
    (h : Step cfg s l s') : PlaceInv cfg s' := by
  cases h with
  | cRecv live kv rest hc hcs hy =>
    refine ⟨fun k => ?_, hi.begun, hi.ended⟩
    have := hi.place k
    simp only [hcs, icnt_cons, icnt_snoc] at this ⊢; omega
  | cYield live k v hc hy hf =>
    obtain ⟨rfl, hm⟩ := popped_of_ready hs.nextReady hy hf
    exact hi.yield fun j => by have := icnt_eraseP hm j; dsimp only; omega
  | dSend w v hd hw hin => exact hi.dispatch hw v (fun _ => rfl) (fun _ => rfl) (fun _ => rfl) (fun _ => rfl)
  | fOk w k v hw =>
    -- the worker still holds `k`; `f` has ended for it
    exact hi.move hw (fun _ => rfl) fun j => ecnt_snoc j _ _
  | fErr w k e hw =>
    -- `f` has ended for `k`, and `k` is dropped
    exact hi.move hw (fun j => by simp only [ncnt_snoc, wHolds, b2n_false]; omega) fun j => ecnt_snoc j _ _
  | wSendC w k v hw hc hcl =>
    -- `k` moves from the worker into `c`
    exact hi.move hw (fun j => by simp only [icnt_snoc, wHolds, b2n_false]; omega) fun _ => rfl
  | wSendCtx w k v hw hx =>
    -- `k` moves from the worker to the dropped ones
    exact hi.move hw (fun j => by simp only [ncnt_snoc, wHolds, b2n_false]; omega) fun _ => rfl
  | wExitIdle w hw hin => exact hi.move hw (fun _ => rfl) fun _ => rfl
  | wDefer w r hw => exact hi.move hw (fun _ => rfl) fun _ => rfl
  | wEgDone w r hw => exact hi.move hw (fun _ => rfl) fun _ => rfl
  | _ => exact hi

theorem canYield_of_gap {cfg : Cfg} (hs : cfg.code.Sound) {s : St} (hPlaced : PlaceInv cfg s)
    (hh : ∀ k, cnt (wHolds k) s.ws = 0) (hc : s.c = []) (hdr : s.dropped = []) (hlt : s.i < s.dispI) :
    canYield cfg s = true :=
  hPlaced.ready hs.nextReady hh (fun k => by simp [hc, hdr]) hlt

def valIdx : NextRes → Option Nat
  | .val k _ => some k
  | _ => none

theorem valIdx_snoc_val (l : List NextRes) (k v : Nat) :
    (l ++ [NextRes.val k v]).filterMap valIdx = l.filterMap valIdx ++ [k] := by simp [List.filterMap_append, valIdx]
theorem valIdx_snoc_end (l : List NextRes) : (l ++ [NextRes.end]).filterMap valIdx = l.filterMap valIdx := by
  simp [List.filterMap_append, valIdx]
theorem valIdx_snoc_err (l : List NextRes) (e : Err) : (l ++ [NextRes.err e]).filterMap valIdx = l.filterMap valIdx := by
  simp [List.filterMap_append, valIdx]
theorem valIdx_snoc_ctx (l : List NextRes) : (l ++ [NextRes.ctxCons]).filterMap valIdx = l.filterMap valIdx := by
  simp [List.filterMap_append, valIdx]

/-- values: whatever travels towards the consumer for index `k` is what the call of `f` for item `k`
returned; `f` is called on the `k`-th source item; results come out numbered 0, 1, 2, … -/
structure ValueInv (cfg : Cfg) (s : St) : Prop where
  ofWorker : ∀ k v, WPc.sendC k v ∈ s.ws → (k, Res.ok v) ∈ s.fEnded
  ofChan : ∀ k v, (k, v) ∈ s.c → (k, Res.ok v) ∈ s.fEnded
  ofHeap : ∀ k v, (k, v) ∈ s.heap → (k, Res.ok v) ∈ s.fEnded
  ofReleasing : ∀ k v, s.cons = .releasing k v → (k, Res.ok v) ∈ s.fEnded ∧ k + 1 = s.i
  ofResult : ∀ k v, NextRes.val k v ∈ s.results → (k, Res.ok v) ∈ s.fEnded
  numbered : s.results.filterMap valIdx = List.range (cnt isVal s.results)
  failed_dropped : ∀ k e, (k, Res.err e) ∈ s.fEnded → 0 < ncnt k s.dropped
  held : ∀ v, (s.disp = .waitReady v ∨ s.disp = .sendIn v) → s.srcItems[s.dispI]? = some v
  begunOn : ∀ k a, (k, a) ∈ s.fBegun → s.srcItems[k]? = some a

theorem valueInv_init (cfg : Cfg) : ValueInv cfg (Stream.init cfg) := by
  refine ⟨?_, ?_, ?_, ?_, ?_, ?_, ?_, ?_, ?_⟩ <;> simp [Stream.init]

theorem Step.fEnded_sub {cfg : Cfg} {s s' : St} {l : Label} (h : Step cfg s l s') :
    (∀ x, x ∈ s.fEnded → x ∈ s'.fEnded) ∧ (∀ k, 0 < ncnt k s.dropped → 0 < ncnt k s'.dropped) := by
  cases h with
  | fOk w k v hw => exact ⟨fun _ hx => List.mem_append_left _ hx, fun _ h => h⟩
  | fErr w k e hw => exact ⟨fun _ hx => List.mem_append_left _ hx, fun j hj => by rw [ncnt_snoc]; omega⟩
  | wSendCtx w k v hw hx => exact ⟨fun _ h => h, fun j hj => by rw [ncnt_snoc]; omega⟩
  | _ => exact ⟨fun _ h => h, fun _ h => h⟩

theorem valueInv_step {cfg : Cfg} (hs : cfg.code.Sound) {s s' : St} {l : Label} (ha : CountInv cfg s) (hi : ValueInv cfg s)
    (h : Step cfg s l s') : ValueInv cfg s' := by
  obtain ⟨hsub, hdr⟩ := h.fEnded_sub
  obtain ⟨iOfWorker, iOfChan, iOfHeap, iOfReleasing, iOfResult, iNumbered, iFailedDropped, iHeld, iBegunOn⟩ := hi
  -- each clause is kept, as long as the step does not touch what its premise speaks of
  have kOfWorker := fun k v hm => hsub _ (iOfWorker k v hm)
  have kOfChan := fun k v hm => hsub _ (iOfChan k v hm)
  have kOfHeap := fun k v hm => hsub _ (iOfHeap k v hm)
  have kOfReleasing := fun k v hm => (iOfReleasing k v hm).imp_left (hsub _)
  have kOfResult := fun k v hm => hsub _ (iOfResult k v hm)
  have kFailedDropped := fun k e hm => hdr k (iFailedDropped k e hm)
  have kset : ∀ w pc, (∀ k v, pc = WPc.sendC k v → (k, Res.ok v) ∈ s'.fEnded) →
      ∀ k v, WPc.sendC k v ∈ s.ws.set w pc → (k, Res.ok v) ∈ s'.fEnded := by
    intro w pc hpc k v hm
    rcases (List.mem_or_eq_of_mem_set hm).symm with h | hm
    · exact hpc k v h.symm
    · exact kOfWorker k v hm
  have noHold : ∀ d : DPc, dHolding d = false →
      ∀ v, d = .waitReady v ∨ d = .sendIn v → s'.srcItems[s'.dispI]? = some v := by
    intro d h v hv; rcases hv with rfl | rfl <;> cases h
  have kres : ∀ r, isVal r = false →
      (∀ k v, NextRes.val k v ∈ s.results ++ [r] → (k, Res.ok v) ∈ s'.fEnded) ∧
      (s.results ++ [r]).filterMap valIdx = List.range (cnt isVal (s.results ++ [r])) := by
    intro r hr
    refine ⟨fun k v hm => ?_, ?_⟩
    · rcases List.mem_append.1 hm with hm | hm
      · exact kOfResult k v hm
      · cases List.mem_singleton.1 hm; cases hr
    · cases r <;> first | (cases hr; done) | simp [List.filterMap_append, valIdx, isVal, iNumbered]
  cases h with
  | srcItem v hd =>
    have hS := ha.taken
    simp only [hd, dHolding, dExited, b2n_false, Bool.false_eq_true, false_and, or_false, Nat.add_zero] at hS
    refine ⟨iOfWorker, iOfChan, iOfHeap, iOfReleasing, iOfResult, iNumbered, iFailedDropped, ?_,
      fun k a hm => ListStore.getElem?_append_of_some _ (iBegunOn k a hm)⟩
    intro v' hm
    simp only [DPc.waitReady.injEq, reduceCtorEq, or_false] at hm
    simp [hS, hm]
  | dPull hd | srcEnd hd | srcErr k hd | dWaitCtx v hd hx | dSendCtx v hd hx | dCloseIn r hd | srcCloseRet r hd
  | dEgDone r hd =>
    exact ⟨kOfWorker, kOfChan, kOfHeap, kOfReleasing, kOfResult, iNumbered, kFailedDropped, noHold _ rfl, iBegunOn⟩
  | dTakeToken v hd hr =>
    refine ⟨kOfWorker, kOfChan, kOfHeap, kOfReleasing, kOfResult, iNumbered, kFailedDropped,
      fun v' hv => iHeld v' (Or.inl ?_), iBegunOn⟩
    rcases hv with hv | hv
    · cases hv
    · cases hv; exact hd
  | dSend w v hd hw hin =>
    refine ⟨kset _ _ (fun _ _ => nofun), kOfChan, kOfHeap, kOfReleasing, kOfResult, iNumbered, kFailedDropped,
      noHold _ rfl, fun k a hm => ?_⟩
    rcases List.mem_append.1 hm with hm | hm
    · exact iBegunOn k a hm
    · cases List.mem_singleton.1 hm; exact iHeld v (Or.inr hd)
  | fOk w k v hw =>
    refine ⟨kset _ _ (fun k' v' e => ?_), kOfChan, kOfHeap, kOfReleasing, kOfResult, iNumbered, fun k' e hm => ?_,
      iHeld, iBegunOn⟩
    · cases e; exact List.mem_append_right _ (List.mem_singleton.2 rfl)
    · rcases List.mem_append.1 hm with hm | hm
      · exact iFailedDropped k' e hm
      · cases List.mem_singleton.1 hm
  | fErr w k e hw =>
    refine ⟨kset _ _ (fun _ _ => nofun), kOfChan, kOfHeap, kOfReleasing, kOfResult, iNumbered, fun k' e' hm => ?_,
      iHeld, iBegunOn⟩
    rcases List.mem_append.1 hm with hm | hm
    · exact kFailedDropped k' e' hm
    · cases List.mem_singleton.1 hm; simp
  | wSendC w k v hw hc hcl =>
    refine ⟨kset _ _ (fun _ _ => nofun), fun k' v' hm => ?_, kOfHeap, kOfReleasing, kOfResult, iNumbered,
      kFailedDropped, iHeld, iBegunOn⟩
    rcases List.mem_append.1 hm with hm | hm
    · exact iOfChan k' v' hm
    · cases List.mem_singleton.1 hm; exact iOfWorker k v (List.mem_of_getElem? hw)
  | wSendCtx w k v hw hx | wExitIdle w hw hin | wDefer w r hw | wEgDone w r hw =>
    exact ⟨kset _ _ (fun _ _ => nofun), kOfChan, kOfHeap, kOfReleasing, kOfResult, iNumbered, kFailedDropped, iHeld,
      iBegunOn⟩
  | nextCall live hc | consCtxExpire hc | cRecvClosed live hc hcs hy hcl | closeCall hc | cCloseDone hc hl =>
    exact ⟨iOfWorker, iOfChan, iOfHeap, fun _ _ => nofun, iOfResult, iNumbered, iFailedDropped, iHeld, iBegunOn⟩
  | parentCancel hp => exact ⟨iOfWorker, iOfChan, iOfHeap, iOfReleasing, iOfResult, iNumbered, iFailedDropped, iHeld,
    iBegunOn⟩
  | cCtx hc hy =>
    exact ⟨iOfWorker, iOfChan, iOfHeap, fun _ _ => nofun, (kres .ctxCons rfl).1, (kres .ctxCons rfl).2,
      iFailedDropped, iHeld, iBegunOn⟩
  | cWaitErr e hc hl he =>
    exact ⟨iOfWorker, iOfChan, iOfHeap, fun _ _ => nofun, (kres (.err e) rfl).1, (kres (.err e) rfl).2,
      iFailedDropped, iHeld, iBegunOn⟩
  | cWaitEnd hc hl he =>
    exact ⟨iOfWorker, iOfChan, iOfHeap, fun _ _ => nofun, (kres .end rfl).1, (kres .end rfl).2, iFailedDropped,
      iHeld, iBegunOn⟩
  | cRecv live kv rest hc hcs hy =>
    refine ⟨iOfWorker, ?_, ?_, iOfReleasing, iOfResult, iNumbered, iFailedDropped, iHeld, iBegunOn⟩
    · intro k v hm; exact iOfChan k v (hcs ▸ List.mem_cons_of_mem _ hm)
    · intro k v hm
      rcases List.mem_append.1 hm with hm | hm
      · exact iOfHeap k v hm
      · exact iOfChan k v (hcs ▸ List.mem_cons.2 (Or.inl (List.mem_singleton.1 hm)))
  | cYield live k v hc hy hf =>
    obtain ⟨rfl, hm⟩ := popped_of_ready hs.nextReady hy hf
    refine ⟨iOfWorker, iOfChan, fun k v hm => iOfHeap k v (List.mem_of_mem_eraseP hm), ?_, iOfResult, iNumbered,
      iFailedDropped, iHeld, iBegunOn⟩
    intro k v hk
    obtain ⟨rfl, rfl⟩ := CPc.releasing.inj hk
    exact ⟨iOfHeap _ _ hm, rfl⟩
  | cRelease k v hc hr =>
    have ⟨h1, h2⟩ := iOfReleasing _ _ hc
    have hY := ha.yielded
    simp only [hc, cReleasing, b2n_true] at hY
    refine ⟨iOfWorker, iOfChan, iOfHeap, (fun _ _ hm => by cases hm), ?_, ?_, iFailedDropped, iHeld, iBegunOn⟩
    · intro k' v' hm
      rcases List.mem_append.1 hm with hm | hm
      · exact iOfResult k' v' hm
      · obtain ⟨rfl, rfl⟩ := NextRes.val.inj (List.mem_singleton.1 hm); exact h1
    · rw [valIdx_snoc_val, iNumbered, cnt_snoc, isVal, b2n_true, List.range_succ]
      congr 2; omega

/-- an error that a call of `f` or the source actually returned, or the error of the context the
caller passed to MapStream after the caller cancelled it -/
def genuine (s : St) (e : Err) : Prop :=
  (∃ k idx, e = .f k ∧ (idx, Res.err k) ∈ s.fEnded) ∨ (∃ k, e = .src k ∧ s.srcErr = some k) ∨
    (e = .ctxParent ∧ s.parentCancelled = true)
def okErr (s : St) (e : Err) : Prop := genuine s e ∨ (e = .ctxClose ∧ s.closeCalled = true)
def heldErr (s : St) (e : Err) : Prop := okErr s e ∨ (e = .ctxLib ∧ s.egErr ≠ none)

def dHeld : DPc → Option Err
  | .exiting r => r
  | .srcClosing r => r
  | .egRet r => r
  | _ => none
def wHeld : WPc → Option Err
  | .exiting r => r
  | .egRet r => r
  | _ => none

structure ErrInv (cfg : Cfg) (s : St) : Prop where
  srcErr_exited : s.srcErr ≠ none → dExited s.disp = true
  egErr : ∀ e, s.egErr = some e → okErr s e
  disp : ∀ e, dHeld s.disp = some e → heldErr s e
  worker : ∀ e pc, pc ∈ s.ws → wHeld pc = some e → heldErr s e
  result : ∀ e, NextRes.err e ∈ s.results → genuine s e

theorem errInv_init (cfg : Cfg) : ErrInv cfg (Stream.init cfg) := by
  refine ⟨?_, ?_, ?_, ?_, ?_⟩ <;> simp [Stream.init, dHeld, wHeld]

/-- the evidence an error rests on is never withdrawn -/
structure Grows (s s' : St) : Prop where
  fEnded : ∀ x, x ∈ s.fEnded → x ∈ s'.fEnded
  srcErr : ∀ k, s.srcErr = some k → s'.srcErr = some k
  parent : s.parentCancelled = true → s'.parentCancelled = true
  close : s.closeCalled = true → s'.closeCalled = true
  egErr : s.egErr ≠ none → s'.egErr ≠ none

theorem genuine.mono {s s' : St} {e : Err} (g : Grows s s') (h : genuine s e) : genuine s' e := by
  rcases h with ⟨k, idx, he, hm⟩ | ⟨k, he, hk⟩ | ⟨he, hp⟩
  · exact .inl ⟨k, idx, he, g.fEnded _ hm⟩
  · exact .inr (.inl ⟨k, he, g.srcErr k hk⟩)
  · exact .inr (.inr ⟨he, g.parent hp⟩)

theorem okErr.mono {s s' : St} {e : Err} (g : Grows s s') (h : okErr s e) : okErr s' e :=
  h.imp (genuine.mono g) (And.imp_right g.close)

theorem heldErr.mono {s s' : St} {e : Err} (g : Grows s s') (h : heldErr s e) : heldErr s' e :=
  h.imp (okErr.mono g) (And.imp_right g.egErr)

theorem egRecord_egErr {s : St} {r : Option Err} (h : s.egErr ≠ none ∨ r ≠ none) : (egRecord s r).egErr ≠ none := by
  cases r <;> cases he : s.egErr <;> simp_all [egRecord]

theorem Step.grows {cfg : Cfg} {s s' : St} {l : Label} (hSE : s.srcErr ≠ none → dExited s.disp = true)
    (h : Step cfg s l s') : Grows s s' := by
  have hf := h.fEnded_sub.1
  cases h with
  | srcErr k hd =>
    -- the source returns an error at most once: after the first the dispatcher has left its loop
    refine ⟨hf, fun k' hk => ?_, id, id, id⟩
    have := hSE (hk ▸ Option.some_ne_none k'); rw [hd] at this; cases this
  | dEgDone r hd | wEgDone w r hw => exact ⟨hf, fun _ h => h, id, id, fun h => egRecord_egErr (.inl h)⟩
  | parentCancel hp => exact ⟨hf, fun _ h => h, fun _ => rfl, id, id⟩
  | closeCall hc => exact ⟨hf, fun _ h => h, id, fun _ => rfl, id⟩
  | _ => exact ⟨hf, fun _ h => h, id, id, id⟩

theorem ctxErr_held {cfg : Cfg} {s : St} (hb : ShutdownInv cfg s) (hx : s.ctxCause ≠ none) : heldErr s (ctxErr s) := by
  obtain ⟨h1, h2, h3⟩ := hb.cause
  unfold ctxErr
  cases hc : s.ctxCause with
  | none => exact absurd hc hx
  | some c =>
    cases c with
    | parent => exact .inl (.inl (.inr (.inr ⟨rfl, h2 hc⟩)))
    | close => exact .inl (.inr ⟨rfl, h3 hc⟩)
    | lib => exact .inr ⟨rfl, h1 hc⟩

theorem egRecord_okErr {s : St} {r : Option Err} (i1 : ∀ e, s.egErr = some e → okErr s e)
    (hr : ∀ e, r = some e → heldErr s e) (e : Err) (he : (egRecord s r).egErr = some e) : okErr s e := by
  simp only [egRecord] at he
  split at he
  · exact i1 e he
  · next hn =>
    rcases hr e he with h | ⟨_, h⟩
    · exact h
    · exact absurd (by simpa using hn) h

theorem errInv_step {cfg : Cfg} {s s' : St} {l : Label} (hb : ShutdownInv cfg s) (hi : ErrInv cfg s)
    (h : Step cfg s l s') : ErrInv cfg s' := by
  have g := h.grows hi.srcErr_exited
  obtain ⟨iSrcErrExited, iEgErr, iDisp, iWorker, iResult⟩ := hi
  -- each clause is kept, as long as the step does not touch what it speaks of
  have k1 := fun e he => (iEgErr e he).mono g
  have k2 := fun e he => (iDisp e he).mono g
  have k3 := fun e pc hm he => (iWorker e pc hm he).mono g
  have k4 := fun e he => (iResult e he).mono g
  have kres : ∀ r, (∀ e, r = NextRes.err e → genuine s' e) → ∀ e, NextRes.err e ∈ s.results ++ [r] → genuine s' e := by
    intro r hr e he
    rcases List.mem_append.1 he with he | he
    · exact k4 e he
    · exact hr e (List.mem_singleton.1 he).symm
  have kset : ∀ w pc, (∀ e, wHeld pc = some e → heldErr s' e) →
      ∀ e pc', pc' ∈ s.ws.set w pc → wHeld pc' = some e → heldErr s' e := by
    intro w pc hpc e pc' hm he
    rcases (List.mem_or_eq_of_mem_set hm).symm with rfl | hm
    · exact hpc e he
    · exact k3 e pc' hm he
  cases h with
  | dPull hd | srcItem v hd | srcEnd hd | dTakeToken v hd hr =>
    refine ⟨fun hne => ?_, k1, (fun _ he => nomatch he), k3, k4⟩
    have := iSrcErrExited hne; rw [hd] at this; cases this
  | srcErr k hd =>
    refine ⟨fun _ => rfl, k1, fun e he => ?_, k3, k4⟩
    cases he; exact .inl (.inl (.inr (.inl ⟨k, rfl, rfl⟩)))
  | dWaitCtx v hd hx | dSendCtx v hd hx =>
    refine ⟨fun _ => rfl, k1, fun e he => ?_, k3, k4⟩
    cases he; exact (ctxErr_held hb hx).mono g
  | dSend w v hd hw hin =>
    refine ⟨fun hne => ?_, k1, (fun _ he => nomatch he), kset _ _ ((fun _ he => nomatch he)), k4⟩
    have := iSrcErrExited hne; rw [hd] at this; cases this
  | dCloseIn r hd | srcCloseRet r hd =>
    exact ⟨fun _ => rfl, k1, fun e he => k2 e (hd ▸ he), k3, k4⟩
  | dEgDone r hd =>
    refine ⟨fun _ => rfl, fun e he => (egRecord_okErr iEgErr (fun e he => iDisp e (hd ▸ he)) e he).mono g,
      (fun _ he => nomatch he), k3, k4⟩
  | fOk w k v hw => exact ⟨iSrcErrExited, k1, k2, kset _ _ ((fun _ he => nomatch he)), k4⟩
  | fErr w k e hw =>
    refine ⟨iSrcErrExited, k1, k2, kset _ _ (fun e' he => ?_), k4⟩
    cases he; exact .inl (.inl (.inl ⟨e, k, rfl, by simp⟩))
  | wSendC w k v hw hc hcl | wExitIdle w hw hin => exact ⟨iSrcErrExited, k1, k2, kset _ _ ((fun _ he => nomatch he)), k4⟩
  | wSendCtx w k v hw hx =>
    refine ⟨iSrcErrExited, k1, k2, kset _ _ (fun e' he => ?_), k4⟩
    cases he; exact (ctxErr_held hb hx).mono g
  | wDefer w r hw =>
    exact ⟨iSrcErrExited, k1, k2, kset _ _ (fun e he => k3 e _ (List.mem_of_getElem? hw) he), k4⟩
  | wEgDone w r hw =>
    exact ⟨iSrcErrExited,
      fun e he => (egRecord_okErr iEgErr (fun e he => iWorker e _ (List.mem_of_getElem? hw) he) e he).mono g,
      k2, kset _ _ ((fun _ he => nomatch he)), k4⟩
  | cRelease k v hc hr => exact ⟨iSrcErrExited, k1, k2, k3, kres _ ((fun _ he => nomatch he))⟩
  | cCtx hc hy => exact ⟨iSrcErrExited, k1, k2, k3, kres _ ((fun _ he => nomatch he))⟩
  | cWaitEnd hc hl he => exact ⟨iSrcErrExited, k1, k2, k3, kres _ ((fun _ he => nomatch he))⟩
  | cWaitErr e hc hl he =>
    refine ⟨iSrcErrExited, k1, k2, k3, kres _ (fun e' he' => ?_)⟩
    cases he'
    rcases iEgErr e he with h | ⟨_, h⟩
    · exact h.mono g
    · -- `Close` has not been called: the consumer is inside `Next`
      have := hb.closeCalled.1.1 h; rw [hc] at this; cases this
  | _ => exact ⟨iSrcErrExited, k1, k2, k3, k4⟩

/-- `pairs a`: the log of `a` completed `Next` calls on the source -/
def pairs : Nat → List SrcEv
  | 0 => []
  | n + 1 => pairs n ++ [SrcEv.nextBegin, SrcEv.nextEnd]

/-- what the dispatcher's program counter says about the unfinished end of the source's call log -/
def logTail : DPc → List SrcEv
  | .inNext => [SrcEv.nextBegin]
  | .srcClosing _ => [SrcEv.closeBegin]
  | .egRet _ => [SrcEv.closeBegin, SrcEv.closeEnd]
  | .done => [SrcEv.closeBegin, SrcEv.closeEnd]
  | _ => []

/-- the source sees a sequence of complete `Next` calls, then at most one `Close`: never `Next` after
`Close`, never a second `Close`, never two calls at once -/
structure LogInv (cfg : Cfg) (s : St) : Prop where
  log : ∃ a, s.srcLog = pairs a ++ logTail s.disp

theorem logInv_init (cfg : Cfg) : LogInv cfg (Stream.init cfg) := ⟨⟨0, by simp [Stream.init, pairs, logTail]⟩⟩

theorem logInv_step {cfg : Cfg} {s s' : St} {l : Label} (hi : LogInv cfg s) (h : Step cfg s l s') :
    LogInv cfg s' := by
  obtain ⟨a, ha⟩ := hi.log
  cases h with
  | srcItem v hd | srcEnd hd | srcErr k hd => exact ⟨a + 1, by simp [ha, hd, logTail, pairs]⟩
  | dPull hd | dTakeToken v hd | dWaitCtx v hd | dSend w v hd | dSendCtx v hd | dCloseIn r hd | srcCloseRet r hd
  | dEgDone r hd => exact ⟨a, by simp [ha, hd, logTail, egRecord]⟩
  | _ => exact ⟨a, ha⟩

end Juniper.Proofs.ParMap.S
