import Juniper.Model.TreeHandle
import Juniper.Proofs.TreeOps
/-!
# Calls through copies of a `tree.Map` / `tree.Set` value (C01, handle clause)

`Model/TreeHandle.lean` gives the heap of `btree` objects, the `Map` / `Set` value as the address it
holds, copying, and a call of a `btree` method through a value (shared update only for pointer
receivers — generated `btreeRecvIsPtr`). Here the exported `Map` / `Set` methods are interpreted by the
*generated* text of their bodies (`mapBodies`, `setBodies`: `m.t.Put(k,v)`, `returnm.t.size`, …), and
`runVia_eq_runOps` shows: a history whose calls go through two copies of one value in any alternation is
the history of the ONE shared tree (`runOps`), call by call.
-/
namespace Juniper.Proofs.TreeHandle
open Juniper.Gen.Tree Juniper.Model.BTree Juniper.Model.TreeHandle Juniper.Proofs.Tree

variable {K V : Type}

/-- model of one `btree` method on one tree -/
abbrev Step (K V : Type) := Tree K V → Option (Tree K V × Out K V)

/-- the exported `Map` method an operation stands for -/
def mapMethod : Op K V → String
  | .put _ _ => "Put"
  | .del _ => "Delete"
  | .get _ => "Get"
  | .has _ => "Contains"
  | .len => "Len"
  | .first => "First"
  | .last => "Last"
  | .range _ _ => "Range"
  | .rrange _ _ => "RangeReverse"

/-- what the (generated) body text of that `Map` method does: which `btree` method is called on `m.t`
with the method's own arguments in their own order, or which field is read. Any other text: `none`. -/
def mapTarget (cmp : K → K → Int) (o : Op K V) (body : String) : Option (Access × Step K V) :=
  match o with
  | .put k v => if body = "m.t.Put(k,v)" then some (.method "Put", fun t => applyOp cmp t (.put k v)) else none
  | .del k => if body = "m.t.Delete(k)" then some (.method "Delete", fun t => applyOp cmp t (.del k)) else none
  | .get k => if body = "returnm.t.Get(k)" then some (.method "Get", fun t => applyOp cmp t (.get k)) else none
  | .has k => if body = "returnm.t.Contains(k)" then some (.method "Contains", fun t => applyOp cmp t (.has k)) else none
  | .len => if body = "returnm.t.size" then some (.field, fun t => applyOp cmp t .len) else none
  | .first => if body = "returnm.t.First()" then some (.method "First", fun t => applyOp cmp t .first) else none
  | .last => if body = "returnm.t.Last()" then some (.method "Last", fun t => applyOp cmp t .last) else none
  | .range lo hi =>
    if body = "returnm.t.Range(lower,upper)" then some (.method "Range", fun t => applyOp cmp t (.range lo hi)) else none
  | .rrange lo hi =>
    if body = "returnm.t.RangeReverse(lower,upper)" then
      some (.method "RangeReverse", fun t => applyOp cmp t (.rrange lo hi)) else none

/-- one exported `Map` call through the value `h` -/
def mapApply (cmp : K → K → Int) (s : Store K V) (h : Handle) (o : Op K V) : Option (Store K V × Out K V) :=
  match mapBodies.lookup (mapMethod o) with
  | none => none
  | some body =>
    match mapTarget cmp o body with
    | none => none
    | some (acc, step) => call s h acc step

/-- the exported operations of `tree.Set` -/
inductive SetOp (K : Type) where
  | add (k : K)
  | remove (k : K)
  | contains (k : K)
  | len
  | first
  | last
  | range (lo hi : Bound K)
  | rrange (lo hi : Bound K)

/-- a `Set[T]` is a `btree[T, struct{}]` -/
def SetOp.toOp : SetOp K → Op K Unit
  | .add k => .put k ()
  | .remove k => .del k
  | .contains k => .has k
  | .len => .len
  | .first => .first
  | .last => .last
  | .range lo hi => .range lo hi
  | .rrange lo hi => .rrange lo hi

def setMethod : SetOp K → String
  | .add _ => "Add"
  | .remove _ => "Remove"
  | .contains _ => "Contains"
  | .len => "Len"
  | .first => "First"
  | .last => "Last"
  | .range _ _ => "Range"
  | .rrange _ _ => "RangeReverse"

/-- what the (generated) body text of a `Set` method does (`First` / `Last` / `Range` keep the key of
the pair the `btree` hands out) -/
def setTarget (cmp : K → K → Int) (o : SetOp K) (body : String) : Option (Access × Step K Unit) :=
  match o with
  | .add k => if body = "s.t.Put(item,struct{}{})" then some (.method "Put", fun t => applyOp cmp t (.put k ())) else none
  | .remove k => if body = "s.t.Delete(item)" then some (.method "Delete", fun t => applyOp cmp t (.del k)) else none
  | .contains k =>
    if body = "returns.t.Contains(item)" then some (.method "Contains", fun t => applyOp cmp t (.has k)) else none
  | .len => if body = "returns.t.size" then some (.field, fun t => applyOp cmp t .len) else none
  | .first =>
    if body = "item,_:=s.t.First();returnitem" then some (.method "First", fun t => applyOp cmp t .first) else none
  | .last =>
    if body = "item,_:=s.t.Last();returnitem" then some (.method "Last", fun t => applyOp cmp t .last) else none
  | .range lo hi =>
    if body = "returniterator.Map(s.t.Range(lower,upper),func(pairKVPair[T,struct{}])T{returnpair.Key})" then
      some (.method "Range", fun t => applyOp cmp t (.range lo hi)) else none
  | .rrange lo hi =>
    if body = "returniterator.Map(s.t.RangeReverse(lower,upper),func(pairKVPair[T,struct{}])T{returnpair.Key})" then
      some (.method "RangeReverse", fun t => applyOp cmp t (.rrange lo hi)) else none

def setApply (cmp : K → K → Int) (s : Store K Unit) (h : Handle) (o : SetOp K) : Option (Store K Unit × Out K Unit) :=
  match setBodies.lookup (setMethod o) with
  | none => none
  | some body =>
    match setTarget cmp o body with
    | none => none
    | some (acc, step) => call s h acc step

/-- a history issued through two values `h0`, `h1` (`true` = through `h1`) -/
def runVia {α O S : Type} (app : S → Handle → α → Option (S × O)) (h0 h1 : Handle) :
    S → List (Bool × α) → Option (S × List O)
  | s, [] => some (s, [])
  | s, (b, o) :: os =>
    match app s (if b then h1 else h0) o with
    | none => none
    | some (s', out) =>
      match runVia app h0 h1 s' os with
      | none => none
      | some (s'', outs) => some (s'', out :: outs)

/-- each `btree` method that `Map` / `Set` call has a pointer receiver, and so has every `btree` method
that writes `root` / `size` / `gen`: the effect of each call is on the shared object. A statement about
the generated tables `btreeRecvIsPtr`, `btreeWritesHeader`; the property theorems discharge it by
`decide`. -/
abbrev ReceiversShared : Prop :=
  sharedUpdate "Put" = some true ∧ sharedUpdate "Delete" = some true ∧ sharedUpdate "Get" = some true ∧
  sharedUpdate "Contains" = some true ∧ sharedUpdate "First" = some true ∧ sharedUpdate "Last" = some true ∧
  sharedUpdate "Range" = some true ∧ sharedUpdate "RangeReverse" = some true

theorem call_shared {O : Type} (t : Tree K V) (acc : Access) (step : Tree K V → Option (Tree K V × O))
    (hacc : acc = .field ∨ ∃ m, acc = .method m ∧ sharedUpdate m = some true) :
    call ({ objs := [t] } : Store K V) { addr := 0 } acc step =
      (step t).map fun r => (({ objs := [r.1] } : Store K V), r.2) := by
  unfold call
  simp only [List.getElem?_cons_zero]
  cases hs : step t with
  | none => rfl
  | some r =>
    obtain ⟨t', out⟩ := r
    rcases hacc with rfl | ⟨m, rfl, hm⟩
    · simp
    · simp [hm]

/-- the body of a wrapper method is the expected forwarding text (evaluates the generated table), then
the call is a shared call -/
local macro "forwards " tbl:ident ", " m:str ", " b:str ", " h:term : tactic => `(tactic| (
  have hb : List.lookup $m $tbl = some $b := rfl
  simp only [mapApply, mapMethod, mapTarget, setApply, setMethod, setTarget, SetOp.toOp, hb, if_true]
  exact call_shared _ _ _ $h))

theorem mapApply_eq (cmp : K → K → Int) (hs : ReceiversShared) (t : Tree K V) (o : Op K V) :
    mapApply cmp ({ objs := [t] } : Store K V) { addr := 0 } o =
      (applyOp cmp t o).map fun r => (({ objs := [r.1] } : Store K V), r.2) := by
  obtain ⟨h1, h2, h3, h4, h5, h6, h7, h8⟩ := hs
  cases o with
  | put k v => forwards mapBodies, "Put", "m.t.Put(k,v)", (Or.inr ⟨_, rfl, h1⟩)
  | del k => forwards mapBodies, "Delete", "m.t.Delete(k)", (Or.inr ⟨_, rfl, h2⟩)
  | get k => forwards mapBodies, "Get", "returnm.t.Get(k)", (Or.inr ⟨_, rfl, h3⟩)
  | has k => forwards mapBodies, "Contains", "returnm.t.Contains(k)", (Or.inr ⟨_, rfl, h4⟩)
  | len => forwards mapBodies, "Len", "returnm.t.size", (Or.inl rfl)
  | first => forwards mapBodies, "First", "returnm.t.First()", (Or.inr ⟨_, rfl, h5⟩)
  | last => forwards mapBodies, "Last", "returnm.t.Last()", (Or.inr ⟨_, rfl, h6⟩)
  | range lo hi => forwards mapBodies, "Range", "returnm.t.Range(lower,upper)", (Or.inr ⟨_, rfl, h7⟩)
  | rrange lo hi => forwards mapBodies, "RangeReverse", "returnm.t.RangeReverse(lower,upper)", (Or.inr ⟨_, rfl, h8⟩)

theorem setApply_eq (cmp : K → K → Int) (hs : ReceiversShared) (t : Tree K Unit) (o : SetOp K) :
    setApply cmp ({ objs := [t] } : Store K Unit) { addr := 0 } o =
      (applyOp cmp t o.toOp).map fun r => (({ objs := [r.1] } : Store K Unit), r.2) := by
  obtain ⟨h1, h2, h3, h4, h5, h6, h7, h8⟩ := hs
  cases o with
  | add k => forwards setBodies, "Add", "s.t.Put(item,struct{}{})", (Or.inr ⟨_, rfl, h1⟩)
  | remove k => forwards setBodies, "Remove", "s.t.Delete(item)", (Or.inr ⟨_, rfl, h2⟩)
  | contains k => forwards setBodies, "Contains", "returns.t.Contains(item)", (Or.inr ⟨_, rfl, h4⟩)
  | len => forwards setBodies, "Len", "returns.t.size", (Or.inl rfl)
  | first => forwards setBodies, "First", "item,_:=s.t.First();returnitem", (Or.inr ⟨_, rfl, h5⟩)
  | last => forwards setBodies, "Last", "item,_:=s.t.Last();returnitem", (Or.inr ⟨_, rfl, h6⟩)
  | range lo hi =>
    forwards setBodies, "Range",
      "returniterator.Map(s.t.Range(lower,upper),func(pairKVPair[T,struct{}])T{returnpair.Key})", (Or.inr ⟨_, rfl, h7⟩)
  | rrange lo hi =>
    forwards setBodies, "RangeReverse",
      "returniterator.Map(s.t.RangeReverse(lower,upper),func(pairKVPair[T,struct{}])T{returnpair.Key})",
      (Or.inr ⟨_, rfl, h8⟩)

/-- generic in the wrapper: `app`, `toOp` are `mapApply`, the identity for `Map` and `setApply`, `SetOp.toOp` for `Set`;
`happ` is `mapApply_eq` / `setApply_eq` -/
theorem runVia_eq_runOps {α : Type} (cmp : K → K → Int) (toOp : α → Op K V)
    (app : Store K V → Handle → α → Option (Store K V × Out K V))
    (happ : ∀ t o, app { objs := [t] } { addr := 0 } o =
      (applyOp cmp t (toOp o)).map fun r => (({ objs := [r.1] } : Store K V), r.2)) :
    ∀ (os : List (Bool × α)) (t : Tree K V),
      runVia app { addr := 0 } { addr := 0 } { objs := [t] } os =
        (runOps cmp t (os.map fun bo => toOp bo.2)).map fun r => (({ objs := [r.1] } : Store K V), r.2)
  | [], t => rfl
  | (b, o) :: os, t => by
    simp only [runVia, List.map_cons, runOps, ite_self, happ]
    cases ha : applyOp cmp t (toOp o) with
    | none => rfl
    | some r =>
      obtain ⟨t', out⟩ := r
      simp only [Option.map_some]
      rw [runVia_eq_runOps cmp toOp app happ os t']
      cases runOps cmp t' (os.map fun bo => toOp bo.2) with
      | none => rfl
      | some r' => rfl

/-- `isHandle` stands for the generated `mapIsHandle` / `setIsHandle`; `hh` and `hn` are discharged by `decide` where
the lemma is used (`Props/C01.lean`) -/
theorem new_then_copy (ctor : String)
    (hctor : ctor = "NewMap" ∨ ctor = "NewMapCmp" ∨ ctor = "NewSet" ∨ ctor = "NewSetCmp") (isHandle : Bool)
    (hh : isHandle = true) (hn : newBtreeReturnsPtr = true) :
    newHandle ctor (Store.empty : Store K V) = some ({ objs := [Tree.empty] }, { addr := 0 }) ∧
    copyHandle isHandle ({ objs := [Tree.empty] } : Store K V) { addr := 0 } =
      some ({ objs := [Tree.empty] }, { addr := 0 }) := by
  subst hh
  refine ⟨?_, rfl⟩
  rcases hctor with rfl | rfl | rfl | rfl <;>
    simp [newHandle, ctorBodies, List.lookup, ctorWrapsNewBtree, hn, Store.empty]

end Juniper.Proofs.TreeHandle
