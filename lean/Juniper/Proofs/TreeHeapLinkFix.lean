import Juniper.Proofs.TreeHeapLinkDelOps
import Juniper.Proofs.TreeHeapLinkRepl
/-!
# Linking the two B-tree models (C03): rotations at tree level

`pair_objects`: a node of the functional tree whose children `a`, `a+1` are `L`, `R`: its three objects in the store
(`PairObjs`), the forest of the grandchildren, and what a change of the store at the three objects and at roots of
grandchildren leaves alone. `rotL_sim`, `rotR_sim` follow the heap functions `Heap.rotateLeft`, `Heap.rotateRight`
step by step (the operation on the three objects, `setParents_sub` for the child that changes sides): they produce in
the store exactly the subtrees `rotateLeftAt`, `rotateRightAt` compute.
-/
namespace Juniper.Proofs.TreeHeapLink
open Juniper Juniper.Model.BTree Juniper.Model.BTreeSlotsOps Juniper.Proofs.Tree Juniper.Proofs.TreeSlotsOps

variable {K V : Type}

theorem map_id_two {kids : List (Node K V)} {a : Nat} {L R L' R' : Node K V} (hL : kids[a]? = some L)
    (hR : kids[a + 1]? = some R) (h1 : L'.id = L.id) (h2 : R'.id = R.id) :
    (kids.take a ++ L' :: R' :: kids.drop (a + 2)).map Node.id = kids.map Node.id := by
  conv => rhs; rw [← List.take_append_drop a kids, drop_two hL hR]
  simp [h1, h2]

theorem pair_facts {id li ri : Nat} {kvs lkvs rkvs : List (K × V)} {kids lkids rkids : List (Node K V)} {a : Nat}
    (hcnt : ∀ j, cnt j (Node.mk id kvs kids) ≤ 1)
    (hL : kids[a]? = some (.mk li lkvs lkids)) (hR : kids[a + 1]? = some (.mk ri rkvs rkids)) :
    (∀ j, cntK j (kids.take a) + cntK j lkids + cntK j rkids + cntK j (kids.drop (a + 2)) ≤ 1) ∧
    (∀ j, (j = id ∨ j = li ∨ j = ri) →
      cntK j (kids.take a) + cntK j lkids + cntK j rkids + cntK j (kids.drop (a + 2)) = 0) ∧
    (∀ j, cnt j (Node.mk id kvs kids) = 0 → ¬ (j = id ∨ j = li ∨ j = ri) ∧
      cntK j (kids.take a) + cntK j lkids + cntK j rkids + cntK j (kids.drop (a + 2)) = 0) ∧
    id ≠ li ∧ li ≠ ri ∧ id ≠ ri := by
  have hdec : ∀ j, cnt j (Node.mk id kvs kids) = (if id = j then 1 else 0) + cntK j (kids.take a) +
      ((if li = j then 1 else 0) + cntK j lkids) + ((if ri = j then 1 else 0) + cntK j rkids) +
      cntK j (kids.drop (a + 2)) := by
    intro j
    rw [cnt_mk, cntK_split j a kids, drop_two hL hR, cntK_cons, cntK_cons, cnt_mk, cnt_mk]
    omega
  refine ⟨?_, ?_, ?_, ?_, ?_, ?_⟩
  · intro j; have := hdec j; have := hcnt j; omega
  · intro j hj
    have h1 := hdec j; have h2 := hcnt j
    rcases hj with rfl | rfl | rfl <;> (simp only [if_true] at h1; omega)
  · intro j hj
    have h1 := hdec j
    refine ⟨?_, by omega⟩
    rintro (rfl | rfl | rfl) <;> (simp only [if_true] at h1; omega)
  · intro e; subst e; have h1 := hdec id; have h2 := hcnt id; simp only [if_true] at h1; omega
  · intro e; subst e; have h1 := hdec li; have h2 := hcnt li; simp only [if_true] at h1; omega
  · intro e; subst e; have h1 := hdec id; have h2 := hcnt id; simp only [if_true] at h1; omega

/-- The objects `sp`, `xl`, `xr` of a node and of its children `a`, `a+1` (`L`, `R`) in the store `g`, and what a change
of the store at these objects leaves alone. -/
structure PairObjs (g : Store K V) (p : Option Nat) (id li ri a : Nat) (kvs lkvs rkvs : List (K × V))
    (kids lkids rkids : List (Node K V)) (sp xl xr : SNode K V Nat) : Prop where
  atP : g id = some sp
  atL : g li = some xl
  atR : g ri = some xr
  parP : sp.parent = p
  parL : xl.parent = some id
  parR : xr.parent = some id
  repP : NodeRep sp kvs (kids.map Node.id)
  repL : NodeRep xl lkvs (lkids.map Node.id)
  repR : NodeRep xr rkvs (rkids.map Node.id)
  neL : id ≠ li
  neLR : li ≠ ri
  neR : id ≠ ri
  nodup : (kids.map Node.id).Nodup
  idxL : (kids.map Node.id)[a]? = some li
  idxR : (kids.map Node.id)[a + 1]? = some ri
  /-- The grandchildren below `L` and `R` are a forest in the store; none of the three is a root of it. -/
  forest : ∀ j, cntK j (lkids ++ rkids) ≤ 1
  nodupL : (lkids.map Node.id).Nodup
  nodupR : (rkids.map Node.id).Nodup
  subL : ∀ d ∈ lkids, Sub g (some li) d
  subR : ∀ d ∈ rkids, Sub g (some ri) d
  off : ∀ j, (j = id ∨ j = li ∨ j = ri) → j ∉ (lkids ++ rkids).map Node.id
  /-- A change of the three objects leaves the grandchildren's subtrees alone. -/
  keep : ∀ {g₀ g' : Store K V}, (∀ j, j ≠ id → j ≠ li → j ≠ ri → g' j = g₀ j) →
    ∀ d ∈ lkids ++ rkids, ∀ q, Sub g₀ q d → Sub g' q d
  /-- A change of the three objects and of root objects of grandchildren leaves the other children, and everything
  outside the subtree, alone. -/
  away : ∀ {g' : Store K V}, (∀ j, j ≠ id → j ≠ li → j ≠ ri → j ∉ (lkids ++ rkids).map Node.id → g' j = g j) →
    (∀ d, (d ∈ kids.take a ∨ d ∈ kids.drop (a + 2)) → Sub g' (some id) d) ∧
    ∀ j, cnt j (Node.mk id kvs kids) = 0 → g' j = g j

theorem pair_objects {g : Store K V} {p : Option Nat} {id li ri a : Nat} {kvs lkvs rkvs : List (K × V)}
    {kids lkids rkids : List (Node K V)}
    (hsub : Sub g p (.mk id kvs kids)) (hcnt : ∀ j, cnt j (Node.mk id kvs kids) ≤ 1)
    (hL : kids[a]? = some (.mk li lkvs lkids)) (hR : kids[a + 1]? = some (.mk ri rkvs rkids)) :
    ∃ sp xl xr, PairObjs g p id li ri a kvs lkvs rkvs kids lkids rkids sp xl xr := by
  obtain ⟨sp, hp, hpp, rp, hkids⟩ := sub_mk.mp hsub
  obtain ⟨xl, hl, hlp, rl, hlk⟩ := sub_mk.mp (hkids _ (List.mem_of_getElem? hL))
  obtain ⟨xr, hr, hrp, rr, hrk⟩ := sub_mk.mp (hkids _ (List.mem_of_getElem? hR))
  obtain ⟨hF, hZ, hO, n1, n2, n3⟩ := pair_facts hcnt hL hR
  refine ⟨sp, xl, xr, hp, hl, hr, hpp, hlp, hrp, rp, rl, rr, n1, n2, n3, kids_ids_nodup (cntK_le_one hcnt),
    by simp [hL, Node.id], by simp [hR, Node.id], fun j => ?_, kids_ids_nodup fun j => by have := hF j; omega,
    kids_ids_nodup fun j => by have := hF j; omega, hlk, hrk, fun j h3 => not_mem_ids ?_, ?_, ?_⟩
  · rw [cntK_append]; have := hF j; omega
  · rw [cntK_append]; have := hZ j h3; omega
  · -- an identity counted in a grandchild is none of the three
    intro g₀ g' hg d hd q s
    refine Sub.congr d (fun j hj => ?_) s
    have h3 : ¬ (j = id ∨ j = li ∨ j = ri) := fun h3 => by
      have := cnt_le_cntK hd j; rw [cntK_append] at this
      have := hZ j h3; omega
    exact hg j (fun e => h3 (.inl e)) (fun e => h3 (.inr (.inl e))) (fun e => h3 (.inr (.inr e)))
  · -- an identity counted in another child, or not counted in the subtree, is none of the three and in no grandchild
    intro g' hg
    have hfar : ∀ j, cntK j lkids + cntK j rkids = 0 → ¬ (j = id ∨ j = li ∨ j = ri) → g' j = g j := fun j h0 h3 =>
      hg j (fun e => h3 (.inl e)) (fun e => h3 (.inr (.inl e))) (fun e => h3 (.inr (.inr e)))
        (not_mem_ids (by rw [cntK_append]; exact h0))
    refine ⟨fun d hd => Sub.congr d (fun j hj => ?_) (hkids d (hd.elim List.mem_of_mem_take List.mem_of_mem_drop)),
      fun j hj => hfar j (by have := (hO j hj).2; omega) (hO j hj).1⟩
    have : cnt j d ≤ cntK j (kids.take a) + cntK j (kids.drop (a + 2)) := by
      rcases hd with hd | hd <;> (have := cnt_le_cntK hd j; omega)
    exact hfar j (by have := hF j; omega) (fun h3 => by have := hZ j h3; omega)

theorem rotL_sim {h : Heap K V} {p : Option Nat} {id li ri a : Nat} {kvs lkvs rkvs : List (K × V)} {rk : K × V}
    {kids lkids rkids : List (Node K V)}
    (hsub : Sub h.get p (.mk id kvs kids)) (hcnt : ∀ j, cnt j (Node.mk id kvs kids) ≤ 1)
    (ha : a < kvs.length)
    (hL : kids[a]? = some (.mk li lkvs lkids)) (hR : kids[a + 1]? = some (.mk ri (rk :: rkvs) rkids))
    (hkind : lkids = [] ↔ rkids = []) (hroom : lkvs.length < keysCap) :
    ∃ h', Heap.rotateLeft h li ri = some h' ∧
      Repl h h' p (.mk id kvs kids) (.mk id (kvs.take a ++ rk :: kvs.drop (a + 1))
        (kids.take a ++ .mk li (lkvs ++ [kvs[a]]) (lkids ++ rkids.take 1) :: .mk ri rkvs (rkids.drop 1) ::
          kids.drop (a + 2))) := by
  obtain ⟨sp, xl, xr, o⟩ := pair_objects hsub hcnt hL hR
  obtain ⟨h1, p', l', r', hstep, hsame1, rp', rl', rr', q1, q2, q3, hg1⟩ :=
    step_rotateLeft o.atP o.atL o.atR o.repP o.repL o.repR o.neL o.neLR o.neR (by simp [hkind]) ha (by simp) hroom
      [id, ri, li]
  have hg1' : ∀ j, j ≠ id → j ≠ li → j ≠ ri → h1.get j = h.get j := fun j a b c => by
    rw [hg1, if_neg c, if_neg b, if_neg a]
  have hL1 : ∀ d ∈ lkids, Sub h1.get (some li) d := fun d m => o.keep hg1' d (List.mem_append_left _ m) _ (o.subL d m)
  have hR1 : ∀ d ∈ rkids, Sub h1.get (some ri) d := fun d m => o.keep hg1' d (List.mem_append_right _ m) _ (o.subR d m)
  -- the first child of the right node, if any, gets the left node as parent
  obtain ⟨h2, hsp, hsame2, hsub2, hfr2⟩ := setParents_sub (some li) o.forest ((rkids.map Node.id).take 1)
    (fun d hd => (List.mem_append.mp hd).elim (fun m => ⟨_, hL1 d m⟩) (fun m => ⟨_, hR1 d m⟩))
    (fun c hc => by rw [List.map_append]; exact List.mem_append_right _ (List.mem_of_mem_take hc))
  obtain ⟨hout, hfr⟩ := o.away (g' := h2.get) (fun j a b c m => (hfr2 j m).trans (hg1' j a b c))
  have e1 : h2.get id = some p' := by rw [hfr2 _ (o.off _ (.inl rfl)), hg1, if_neg o.neR, if_neg o.neL, if_pos rfl]
  have e2 : h2.get li = some l' := by rw [hfr2 _ (o.off _ (.inr (.inl rfl))), hg1, if_neg o.neLR, if_pos rfl]
  have e3 : h2.get ri = some r' := by rw [hfr2 _ (o.off _ (.inr (.inr rfl))), hg1, if_pos rfl]
  refine ⟨h2.event ("rotl-" ++ Heap.level xl), ?_, .of_same ((hsame1.trans hsame2).trans (same_event _ _))
    (sub_mk.mpr ⟨p', e1, q1.trans o.parP, ?_, ?_⟩) rfl hfr⟩
  · unfold Heap.rotateLeft
    rw [List.take_one] at hsp
    simp only [bind, pure, o.atL, o.atR, o.parR, o.atP, indexOf_rep o.repP.hkids o.nodup o.idxR,
      o.repR.hkids.get_head? (by have := caps_pos.2.2; omega), hstep, Option.bind_some]
    exact congrArg (Option.bind · _) ((setParents_opt _ _ _).trans hsp)
  · rw [map_id_two (L' := Node.mk li (lkvs ++ [kvs[a]]) (lkids ++ rkids.take 1)) (R' := Node.mk ri rkvs (rkids.drop 1))
      hL hR rfl rfl]; exact rp'
  · intro d hd
    simp only [List.mem_append, List.mem_cons] at hd
    rcases hd with hd | rfl | rfl | hd
    · exact hout d (Or.inl hd)
    · -- the left node with the child that came over
      refine sub_mk.mpr ⟨l', e2, q2.trans o.parL, by simpa [List.map_take] using rl', fun d hd => ?_⟩
      rcases List.mem_append.mp hd with hd | hd
      · have := hsub2 d (List.mem_append_left _ hd) _ (hL1 d hd)
        rwa [ite_self] at this
      · have := hsub2 d (List.mem_append_right _ (List.mem_of_mem_take hd)) _ (hR1 d (List.mem_of_mem_take hd))
        rwa [if_pos (by rw [← List.map_take]; exact List.mem_map_of_mem hd)] at this
    · -- the right node without its first child
      refine sub_mk.mpr ⟨r', e3, q3.trans o.parR, by simpa [List.map_drop] using rr', fun d hd => ?_⟩
      have := hsub2 d (List.mem_append_right _ (List.mem_of_mem_drop hd)) _ (hR1 d (List.mem_of_mem_drop hd))
      rwa [if_neg (not_mem_take_of_mem_drop o.nodupR (by rw [← List.map_drop]; exact List.mem_map_of_mem hd))] at this
    · exact hout d (Or.inr hd)

theorem rotR_sim {h : Heap K V} {p : Option Nat} {id li ri a : Nat} {kvs lkvs rkvs : List (K × V)}
    {kids lkids rkids : List (Node K V)}
    (hsub : Sub h.get p (.mk id kvs kids)) (hcnt : ∀ j, cnt j (Node.mk id kvs kids) ≤ 1)
    (ha : a < kvs.length) (hlne : lkvs ≠ [])
    (hL : kids[a]? = some (.mk li lkvs lkids)) (hR : kids[a + 1]? = some (.mk ri rkvs rkids))
    (hkind : lkids = [] ↔ rkids = []) (hroom : rkvs.length < keysCap) :
    ∃ h', Heap.rotateRight h li ri = some h' ∧
      Repl h h' p (.mk id kvs kids) (.mk id (kvs.take a ++ lkvs.getLast hlne :: kvs.drop (a + 1))
        (kids.take a ++ .mk li lkvs.dropLast lkids.dropLast ::
          .mk ri (kvs[a] :: rkvs) (lkids.getLast?.toList ++ rkids) :: kids.drop (a + 2))) := by
  obtain ⟨sp, xl, xr, o⟩ := pair_objects hsub hcnt hL hR
  obtain ⟨h1, p', l', r', hstep, hsame1, rp', rl', rr', q1, q2, q3, hg1⟩ :=
    step_rotateRight o.atP o.atL o.atR o.repP o.repL o.repR o.neL o.neLR o.neR (by simp [hkind]) ha hlne hroom
      [id, li, ri]
  have hg1' : ∀ j, j ≠ id → j ≠ li → j ≠ ri → h1.get j = h.get j := fun j a b c => by
    rw [hg1, if_neg c, if_neg b, if_neg a]
  have hlast : (lkids.map Node.id).getLast?.toList = lkids.getLast?.toList.map Node.id := by
    rw [List.getLast?_map]; cases lkids.getLast? <;> rfl
  have hL1 : ∀ d ∈ lkids, Sub h1.get (some li) d := fun d m => o.keep hg1' d (List.mem_append_left _ m) _ (o.subL d m)
  have hR1 : ∀ d ∈ rkids, Sub h1.get (some ri) d := fun d m => o.keep hg1' d (List.mem_append_right _ m) _ (o.subR d m)
  -- the last child of the left node, if any, gets the right node as parent
  obtain ⟨h2, hsp, hsame2, hsub2, hfr2⟩ := setParents_sub (some ri) o.forest (lkids.map Node.id).getLast?.toList
    (fun d hd => (List.mem_append.mp hd).elim (fun m => ⟨_, hL1 d m⟩) (fun m => ⟨_, hR1 d m⟩))
    (fun c hc => by
      rw [List.map_append]; exact List.mem_append_left _ (List.mem_of_getLast? (Option.mem_toList.mp hc)))
  obtain ⟨hout, hfr⟩ := o.away (g' := h2.get) (fun j a b c m => (hfr2 j m).trans (hg1' j a b c))
  have e1 : h2.get id = some p' := by rw [hfr2 _ (o.off _ (.inl rfl)), hg1, if_neg o.neR, if_neg o.neL, if_pos rfl]
  have e2 : h2.get li = some l' := by rw [hfr2 _ (o.off _ (.inr (.inl rfl))), hg1, if_neg o.neLR, if_pos rfl]
  have e3 : h2.get ri = some r' := by rw [hfr2 _ (o.off _ (.inr (.inr rfl))), hg1, if_pos rfl]
  rw [← List.map_dropLast] at rl'
  rw [hlast, ← List.map_append] at rr'
  refine ⟨h2.event ("rotr-" ++ Heap.level xl), ?_, .of_same ((hsame1.trans hsame2).trans (same_event _ _))
    (sub_mk.mpr ⟨p', e1, q1.trans o.parP, ?_, ?_⟩) rfl hfr⟩
  · have hcl : xl.kids[lkvs.length]? = some (lkids.map Node.id).getLast? := by
      refine o.repL.hkids.get_last? o.repL.hshape ?_
      have := o.repL.hkeys.2
      have := caps.2
      simp only [List.length_map] at *
      omega
    unfold Heap.rotateRight
    simp only [bind, pure, o.atL, o.parL, o.atP, indexOf_rep o.repP.hkids o.nodup o.idxL,
      toIdx_eq (show Gen.TreeSlots.rotateRightChildIdx xl.n = (lkvs.length : Int) by
        simp [Gen.TreeSlots.rotateRightChildIdx, o.repL.hn]), hcl, hstep, Option.bind_some]
    exact congrArg (Option.bind · _) ((setParents_opt _ _ _).trans hsp)
  · rw [map_id_two (L' := Node.mk li lkvs.dropLast lkids.dropLast)
      (R' := Node.mk ri (kvs[a] :: rkvs) (lkids.getLast?.toList ++ rkids)) hL hR rfl rfl]; exact rp'
  · intro d hd
    simp only [List.mem_append, List.mem_cons] at hd
    rcases hd with hd | rfl | rfl | hd
    · exact hout d (Or.inl hd)
    · -- the left node without its last child
      refine sub_mk.mpr ⟨l', e2, q2.trans o.parL, rl', fun d hd => ?_⟩
      have := hsub2 d (List.mem_append_left _ (List.dropLast_subset _ hd)) _ (hL1 d (List.dropLast_subset _ hd))
      have hnd := o.nodupL
      rw [← dropLast_append_getLast? (lkids.map Node.id)] at hnd
      rwa [if_neg ((List.nodup_append.mp hnd).2.2 _ (by rw [← List.map_dropLast]; exact List.mem_map_of_mem hd) _ · rfl)]
        at this
    · -- the right node with the child that came over
      refine sub_mk.mpr ⟨r', e3, q3.trans o.parR, rr', fun d hd => ?_⟩
      rcases List.mem_append.mp hd with hd | hd
      · have hm := List.mem_of_getLast? (Option.mem_toList.mp hd)
        have := hsub2 d (List.mem_append_left _ hm) _ (hL1 d hm)
        rwa [if_pos (hlast ▸ List.mem_map_of_mem hd)] at this
      · have := hsub2 d (List.mem_append_right _ hd) _ (hR1 d hd)
        rwa [ite_self] at this
    · exact hout d (Or.inr hd)

end Juniper.Proofs.TreeHeapLink
