import Juniper.Proofs.IterComb
/-!
# `iterator.Runs` (C07): the two-port machine driven by the documented protocol yields the runs
-/
namespace Juniper.Proofs.IterDen
open Juniper.Model.Iter Juniper.Spec Juniper.Gen.Comb
universe u v w
variable {σ : Type u} {σ' : Type w} {α β : Type v}

abbrev reached := @takeReached

/-- What the protocol machine yields, on annotated items. Mode `some acc`: a run is being collected
(`take` not yet reached); mode `none`: the rest of a run is being skipped. Items are compared with
their predecessor `prev`. -/
def runsGoA (same : α → α → Bool) (take : Option Nat) :
    Option (List α) → α → List (α × Nat) → Nat → List (List α × Nat)
  | some acc, _, [], e => [(acc, e)]
  | none, _, [], _ => []
  | mode, prev, (b, c) :: L, e =>
    if same prev b then
      match mode with
      | some acc =>
        if reached take (acc ++ [b]).length then (acc ++ [b], c) :: runsGoA same take none b L e
        else runsGoA same take (some (acc ++ [b])) b L e
      | none => runsGoA same take none b L e
    else
      (match mode with | some acc => [(acc, c)] | none => []) ++
        (if reached take 0 then ([], c) :: runsGoA same take none b L e
         else if reached take 1 then ([b], c) :: runsGoA same take none b L e
         else runsGoA same take (some [b]) b L e)

/-- a fresh `Runs` iterator -/
def runsStartA (same : α → α → Bool) (take : Option Nat) : List (α × Nat) → Nat → List (List α × Nat)
  | [], _ => []
  | (b, c) :: L, e =>
    if reached take 0 then ([], c) :: runsGoA same take none b L e
    else if reached take 1 then ([b], c) :: runsGoA same take none b L e
    else runsGoA same take (some [b]) b L e

/-! `runsGoA` on the next item: within a run it goes on; at a boundary the run collected is delivered
and everything after it is what a fresh iterator yields from the boundary item on. -/

section
variable {same : α → α → Bool} {take : Option Nat} {prev b : α} {c : Nat} {L : List (α × Nat)} {e : Nat}

theorem runsGoA_cons_same {acc : List α} (hb : same prev b = true) :
    runsGoA same take (some acc) prev ((b, c) :: L) e =
      if reached take (acc ++ [b]).length then (acc ++ [b], c) :: runsGoA same take none b L e
      else runsGoA same take (some (acc ++ [b])) b L e := by
  simp [runsGoA, hb]

theorem runsGoA_cons_diff {acc : List α} (hb : same prev b = false) :
    runsGoA same take (some acc) prev ((b, c) :: L) e = (acc, c) :: runsStartA same take ((b, c) :: L) e := by
  simp [runsGoA, hb, runsStartA]

theorem runsGoA_none_same (hb : same prev b = true) :
    runsGoA same take none prev ((b, c) :: L) e = runsGoA same take none b L e := by
  simp [runsGoA, hb]

theorem runsGoA_none_diff (hb : same prev b = false) :
    runsGoA same take none prev ((b, c) :: L) e = runsStartA same take ((b, c) :: L) e := by
  simp [runsGoA, hb, runsStartA]

end

section steps
variable {same : α → α → Bool} {take : Option Nat} {m : IM σ α}

/-! `runsInner` on the handle handed out last: detached, it answers the end; otherwise it looks at
what the peekable holds, pulling the source if it holds nothing. -/

theorem inner_detached {pk : PeekSt σ α} {gen g : Nat} {prev : α} :
    runsInner same m g ⟨pk, gen, some (g, prev, true)⟩ = (.done, ⟨pk, gen, some (g, prev, true)⟩) := by
  simp [runsInner]

theorem inner_skip {s s' : σ} {gen g : Nat} {prev : α} (hs : m.step s = (.skip, s')) :
    runsInner same m g ⟨⟨s, none⟩, gen, some (g, prev, false)⟩ =
      (.skip, ⟨⟨s', none⟩, gen, some (g, prev, false)⟩) := by
  simp [runsInner, peekPeek_none, hs]

theorem inner_done {s s' : σ} {gen g : Nat} {prev : α} (hs : m.step s = (.done, s')) :
    runsInner same m g ⟨⟨s, none⟩, gen, some (g, prev, false)⟩ =
      (.done, ⟨⟨s', none⟩, gen, some (g, prev, true)⟩) := by
  simp [runsInner, peekPeek_none, hs, itRunsInnerDetaches]

theorem inner_item_diff {s s' : σ} {gen g : Nat} {prev b : α} (hs : m.step s = (.item b, s'))
    (hb : same prev b = false) :
    runsInner same m g ⟨⟨s, none⟩, gen, some (g, prev, false)⟩ =
      (.done, ⟨⟨s', some b⟩, gen, some (g, prev, true)⟩) := by
  simp [runsInner, peekPeek_none, hs, hb, itRunsInnerDetaches]

theorem inner_item_same {s s' : σ} {gen g : Nat} {prev b : α} (hs : m.step s = (.item b, s'))
    (hb : same prev b = true) :
    runsInner same m g ⟨⟨s, none⟩, gen, some (g, prev, false)⟩ =
      (.item b, ⟨⟨s', none⟩, gen, some (g, b, false)⟩) := by
  simp [runsInner, peekPeek_none, hs, hb, peekNext_buf, itRunsInnerTracksPrev]

theorem inner_buf_same {s : σ} {gen g : Nat} {prev b : α} (hb : same prev b = true) :
    runsInner same m g ⟨⟨s, some b⟩, gen, some (g, prev, false)⟩ =
      (.item b, ⟨⟨s, none⟩, gen, some (g, b, false)⟩) := by
  simp [runsInner, peekPeek_buf, hb, peekNext_buf, itRunsInnerTracksPrev]

/-! The protocol machine, by what it is doing: collecting a run (`RC`), draining the rest of one
(`RD`), or about to ask the outer iterator for the next (`RS`). -/

abbrev RC (s : σ) (pkc : Option α) (gen g : Nat) (prev : α) (acc : List α) : RunsProtoSt σ α :=
  ⟨⟨⟨s, pkc⟩, gen, some (g, prev, false)⟩, some (g, acc, acc.length)⟩
abbrev RD (s : σ) (pkc : Option α) (gen g : Nat) (prev : α) (ended : Bool) : RunsProtoSt σ α :=
  ⟨⟨⟨s, pkc⟩, gen, some (g, prev, ended)⟩, none⟩
abbrev RS (s : σ) (pkc : Option α) (gen : Nat) : RunsProtoSt σ α := ⟨⟨⟨s, pkc⟩, gen, none⟩, none⟩

theorem c_reached {rs : RunsSt σ α} {g : Nat} {acc : List α} (h : reached take acc.length = true) :
    (runsProto same take m).step ⟨rs, some (g, acc, acc.length)⟩ = (.item acc, ⟨rs, none⟩) := by
  simp [runsProto, h]

theorem c_step {rs rs' : RunsSt σ α} {g : Nat} {acc : List α} {r : Step α}
    (h : reached take acc.length = false) (hI : runsInner same m g rs = (r, rs')) :
    (runsProto same take m).step ⟨rs, some (g, acc, acc.length)⟩ =
      match r with
      | .item a => (.skip, ⟨rs', some (g, acc ++ [a], (acc ++ [a]).length)⟩)
      | .skip => (.skip, ⟨rs', some (g, acc, acc.length)⟩)
      | .done => (.item acc, ⟨rs', none⟩) := by
  simp only [runsProto, h, hI]
  cases r <;> simp

theorem d_step {pk : PeekSt σ α} {gen g : Nat} {prev : α} {ended : Bool} {rs' : RunsSt σ α} {r : Step α}
    (hI : runsInner same m g ⟨pk, gen, some (g, prev, ended)⟩ = (r, rs')) :
    (runsProto same take m).step ⟨⟨pk, gen, some (g, prev, ended)⟩, none⟩ =
      (.skip, match r with | .done => ⟨⟨rs'.pk, rs'.gen, none⟩, none⟩ | _ => ⟨rs', none⟩) := by
  simp only [runsProto, runsOuter, hI]
  cases r <;> simp [itRunsClearsCurr]

theorem s_pull {s : σ} {gen : Nat} :
    (runsProto same take m).step (RS s none gen) =
      match m.step s with
      | (.item b, s') => (.skip, RC s' (some b) (gen + 1) (gen + 1) b [])
      | (.skip, s') => (.skip, RS s' none gen)
      | (.done, s') => (.done, RS s' none gen) := by
  simp only [runsProto, runsOuter, peekPeek_none]
  rcases m.step s with ⟨r, s'⟩
  cases r <;> rfl

theorem s_buf {s : σ} {gen : Nat} {b : α} :
    (runsProto same take m).step (RS s (some b) gen) = (.skip, RC s (some b) (gen + 1) (gen + 1) b []) := by
  simp [runsProto, runsOuter, peekPeek_buf]

end steps

section main
variable (same : α → α → Bool) (hrefl : ∀ a, same a a = true) (take : Option Nat) {m : IM σ α} {cost : σ → Nat}

abbrev rcost (cost : σ → Nat) : RunsProtoSt σ α → Nat := fun st => cost st.rs.pk.inner

include hrefl in
/-- from the state in which the first item `b` of a new run sits in the peek buffer and the new
inner iterator has just been handed out -/
theorem runs_buffered {s' : σ} {b : α} {L : List (α × Nat)} {e : Nat}
    (ihc : ∀ gen g prev acc, reached take acc.length = false →
      Den (runsProto same take m) (rcost cost) (RC s' none gen g prev acc) (runsGoA same take (some acc) prev L e) e)
    (ihd : ∀ gen g prev, Den (runsProto same take m) (rcost cost) (RD s' none gen g prev false) (runsGoA same take none prev L e) e)
    (gen g : Nat) :
    Den (runsProto same take m) (rcost cost) (RC s' (some b) gen g b []) (runsStartA same take ((b, cost s') :: L) e) e := by
  simp only [runsStartA]
  by_cases h0 : reached take 0 = true
  · rw [if_pos h0]
    exact .item (c_reached (acc := []) h0) (.skip (d_step (inner_buf_same (hrefl b))) (ihd gen g b))
  · rw [if_neg h0]
    refine .skip (c_step (acc := []) (by simpa using h0) (inner_buf_same (hrefl b))) ?_
    by_cases h1 : reached take 1 = true
    · rw [if_pos h1]
      exact .item (c_reached (acc := [] ++ [b]) h1) (ihd gen g b)
    · rw [if_neg h1]
      exact ihc gen g b ([] ++ [b]) (by simpa using h1)

theorem runs_ended {s' : σ} (he : Ended m s') (hc : ∀ n, cost (after m n s') = cost s') (gen : Nat) :
    Ended (runsProto same take m) (RS s' none gen) ∧
      ∀ n, rcost cost (after (runsProto same take m) n (RS s' none gen)) = cost s' :=
  ended_wrapper (m := m) (m' := runsProto same take m) (cost := cost) (fun st => st.rs.pk.inner)
    (fun st => st.cur = none ∧ st.rs.live = none ∧ st.rs.pk.curr = none) (by
      intro ⟨⟨⟨ti, tc⟩, tg, tl⟩, tcur⟩ t' ⟨hcur, hl, hk⟩ hx
      simp only at hcur hl hk hx
      subst hcur hl hk
      rw [s_pull, hx]
      exact ⟨rfl, ⟨rfl, rfl, rfl⟩, Or.inl rfl⟩) (t := RS s' none gen) ⟨rfl, rfl, rfl⟩ he hc

include hrefl in
theorem runs_den {s : σ} {L : List (α × Nat)} {e : Nat} (h : Den m cost s L e) :
    (∀ gen g prev acc, reached take acc.length = false →
      Den (runsProto same take m) (rcost cost) (RC s none gen g prev acc) (runsGoA same take (some acc) prev L e) e) ∧
    (∀ gen g prev, Den (runsProto same take m) (rcost cost) (RD s none gen g prev false) (runsGoA same take none prev L e) e) ∧
    (∀ gen, Den (runsProto same take m) (rcost cost) (RS s none gen) (runsStartA same take L e) e) := by
  have _tie := Skeleton.Tie.itRuns
  induction h with
  | @skip s s' L e hs _ ih =>
    obtain ⟨ihc, ihd, ihs⟩ := ih
    exact ⟨fun gen g prev acc hr => .skip (c_step hr (inner_skip hs)) (ihc gen g prev acc hr),
      fun gen g prev => .skip (d_step (inner_skip hs)) (ihd gen g prev),
      fun gen => .skip (by rw [s_pull, hs]) (ihs gen)⟩
  | @item s s' b L e hs _ ih =>
    obtain ⟨ihc, ihd, _⟩ := ih
    -- a run that starts with `b`, from the moment the outer iterator sees `b` in the buffer
    have hnew : ∀ gen, Den (runsProto same take m) (rcost cost) (RS s' (some b) gen) (runsStartA same take ((b, cost s') :: L) e) e :=
      fun gen => .skip s_buf (runs_buffered same hrefl take ihc ihd (gen + 1) (gen + 1))
    refine ⟨fun gen g prev acc hr => ?_, fun gen g prev => ?_, fun gen => ?_⟩
    · by_cases hb : same prev b = true
      · rw [runsGoA_cons_same hb]
        refine .skip (c_step hr (inner_item_same hs hb)) ?_
        by_cases hr' : reached take (acc ++ [b]).length = true
        · rw [if_pos hr']
          exact .item (c_reached hr') (ihd gen g b)
        · rw [if_neg hr']
          exact ihc gen g b (acc ++ [b]) (by simpa using hr')
      · have hb' : same prev b = false := by simpa using hb
        rw [runsGoA_cons_diff hb']
        exact .item (c_step hr (inner_item_diff hs hb')) (.skip (d_step inner_detached) (hnew gen))
    · by_cases hb : same prev b = true
      · rw [runsGoA_none_same hb]
        exact .skip (d_step (inner_item_same hs hb)) (ihd gen g b)
      · have hb' : same prev b = false := by simpa using hb
        rw [runsGoA_none_diff hb']
        exact .skip (d_step (inner_item_diff hs hb')) (hnew gen)
    · exact .skip (by rw [s_pull, hs]) (runs_buffered same hrefl take ihc ihd (gen + 1) (gen + 1))
  | @done s s' hs he hc =>
    have hw := runs_ended same take he hc
    have hend := fun gen => den_of_ended (cost := rcost cost) (hw gen).1 (hw gen).2
    exact ⟨fun gen g prev acc hr => .item (c_step hr (inner_done hs)) (.skip (d_step inner_detached) (hend gen)),
      fun gen g prev => .skip (d_step (inner_done hs)) (hend gen),
      fun gen => .done (by rw [s_pull, hs]) (hw gen).1 (hw gen).2⟩

end main

theorem runsGoA_all_fst (same : α → α → Bool) (acc : List α) (prev : α) (L : List (α × Nat)) (e : Nat) :
    (runsGoA same none (some acc) prev L e).map Prod.fst = Seq.runsGo same acc prev (L.map Prod.fst) := by
  induction L generalizing acc prev with
  | nil => rfl
  | cons p L ih =>
    obtain ⟨b, c⟩ := p
    by_cases hb : same prev b = true
    · rw [runsGoA_cons_same hb]
      simp only [reached, takeReached, Bool.false_eq_true, if_false, List.map_cons, Seq.runsGo, hb, if_true]
      exact ih _ _
    · have hb' : same prev b = false := by simpa using hb
      rw [runsGoA_cons_diff hb']
      simp only [runsStartA, reached, takeReached, Bool.false_eq_true, if_false, List.map_cons, Seq.runsGo, hb']
      rw [ih]

theorem runsStartA_all_fst (same : α → α → Bool) (L : List (α × Nat)) (e : Nat) :
    (runsStartA same none L e).map Prod.fst = Seq.runs same (L.map Prod.fst) := by
  cases L with
  | nil => rfl
  | cons p L =>
    obtain ⟨b, c⟩ := p
    simp only [runsStartA, reached, takeReached, Bool.false_eq_true, if_false, List.map_cons, Seq.runs]
    exact runsGoA_all_fst same [b] b L e

end Juniper.Proofs.IterDen
