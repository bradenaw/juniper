import Juniper.Model.Group
import Juniper.Proofs.SkeletonGroup
/-! Helper lemmas for C17, thread-local part: the worker loops in closed form (this is where the
regenerated `select` tables, arm bodies, loop-shape facts and channel capacities are consumed), what a
thread step does to the lock / wait-group accounting, and the per-thread invariant. -/
namespace Juniper.Proofs.GroupLocal
open Juniper.Facts Juniper.Gen.Group Juniper.Model.Group
open Juniper.Proofs.SkeletonGroup

/-! ## What the statement-level facts take for granted (audit C17 F1/F2/F3)

The facts of `Juniper.Gen.Group` pin the *texts* `g.m.RLock()`, `g.wg.Add(1)`, `g.cancel()`, …; the
model reads them as operations on a `sync.RWMutex`, a `sync.WaitGroup` and the cancel function of the
context the spawned functions receive. That reading is true only if `g.m` *is* the standard library's
`sync.RWMutex` (not a local no-op type), `g.wg` its `WaitGroup`, `NewGroup` stores the derived context
and *its* cancel function, and every method has a pointer receiver (a value receiver locks a copy).
`groupWiring_tie` pins exactly that; `progs` (Stop / StopAndWait) is stated and
`threadStep_facts` (spawn) is proved `under` it, so every C17 property theorem depends on it, and `stopAndWait_barrier` checks it
once more in its own proof. -/
theorem groupWiring_tie :
    groupFields = [("ctx", "context.Context"), ("cancel", "context.CancelFunc"),
                   ("m", "sync.RWMutex"), ("wg", "sync.WaitGroup")] ∧
    groupImports = [("context", "context"), ("sync", "sync")] ∧
    groupLocalTypes = [] ∧
    groupReceivers = [("spawn", "*Group"), ("Do", "*Group"), ("Stop", "*Group"), ("StopAndWait", "*Group"),
                      ("Trigger", "*Group"), ("Periodic", "*Group"), ("PeriodicOrTrigger", "*Group")] ∧
    newGroupStmts = ["bgCtx, cancel := context.WithCancel(ctx)", "return &Group{ ctx: bgCtx, cancel: cancel, }"] :=
  ⟨rfl, rfl, rfl, rfl, rfl⟩

/-- `spawn`, statement by statement with identifiers (the skeleton `pskelGroupSpawn` has the kinds only):
the bail-out releases the read lock and returns, `wg.Add(1)` occurs once, the spawned goroutine is
`f(); g.wg.Done()` — `f` runs to its end *before* the wait group is released (a `go f()` inside, or
`Done` first, breaks the barrier with every other fact unchanged: audit C17 F2). -/
theorem spawnText_tie :
    spawnStmts = ["g.m.RLock()", "if g.ctx.Err() != nil {", "g.m.RUnlock()", "return", "}", "g.wg.Add(1)",
                  "g.m.RUnlock()", "go func() { f() g.wg.Done() }()"] ∧
    spawnBailStmts = ["g.m.RUnlock()", "return"] ∧
    spawnGoStmts = ["f()", "g.wg.Done()"] ∧
    spawnAdds = 1 := ⟨rfl, rfl, rfl, rfl⟩

/-- the Trigger goroutine's body and `jitterDuration`, with identifiers. The model takes
`jitterDuration(d, j)` to be `d + off` with `|off| ≤ |j|` (`armTimer`); that is a reading of this one
expression (`rand.Float64()*2 - 1 ∈ [-1, 1)`), which is therefore pinned (audit C17 F3). -/
theorem loopText_tie :
    trigLoopStmts = ["for {", "if g.ctx.Err() != nil {", "return", "}", "select { case <-g.ctx.Done(): return case <-c: }",
                     "f(g.ctx)", "}"] ∧
    jitterDurationStmts = ["return d + time.Duration(float64(jitter)*((rand.Float64()*2)-1))"] := ⟨rfl, rfl⟩

/-! The closed forms of the four registration kinds hold for bodies whose control skeleton is the one
`threadStep` hard-wires (`Proofs/SkeletonGroup.lean`): one `g.spawn(func …)` around one loop that runs
`f` itself, the trigger function returned. -/
theorem loopOf_doOnce : loopOf .doOnce = { arms := [], checksCtxFirst := false, resetAfterSelect := false, ok := true } :=
  under pskelGroupDo_tie (by decide +kernel)
theorem loopOf_trigger : loopOf .trigger =
    { arms := [(.recv "g.ctx.Done()", .exit), (.recv "c", .fall)], checksCtxFirst := true,
      resetAfterSelect := false, ok := true } := under (And.intro pskelGroupTrigger_tie loopText_tie) (by decide +kernel)
theorem loopOf_periodic : loopOf .periodic =
    { arms := [(.recv "g.ctx.Done()", .exit), (.recv "t.C", .fall)], checksCtxFirst := true,
      resetAfterSelect := true, ok := true } := under (And.intro pskelGroupPeriodic_tie loopText_tie) (by decide +kernel)
theorem loopOf_pot : loopOf .pot =
    { arms := [(.recv "g.ctx.Done()", .exit), (.recv "t.C", .reset), (.recv "c", .stopDrainReset)],
      checksCtxFirst := true, resetAfterSelect := false, ok := true } :=
  under (And.intro pskelGroupPeriodicOrTrigger_tie loopText_tie) (by decide +kernel)

theorem loopOf_ok (k : Kind) : (loopOf k).ok = true := by
  cases k
  · rw [loopOf_doOnce]
  · rw [loopOf_trigger]
  · rw [loopOf_periodic]
  · rw [loopOf_pot]

theorem loopOf_checks (k : Kind) (h : k ≠ .doOnce) : (loopOf k).checksCtxFirst = true := by
  cases k
  · exact absurd rfl h
  · rw [loopOf_trigger]
  · rw [loopOf_periodic]
  · rw [loopOf_pot]

theorem atSelect_step {v : View} {t t' : Thread} {c : Nat} {off : Int} {e : Eff} (hpc : t.pc = .atSelect)
    (h : threadStep v t c off = some (t', e)) :
    e = .none ∧
    ((v.ctxDone = true ∧ t.kind ≠ .doOnce ∧ t' = { t with pc := .exiting }) ∨
     (t.kind = .trigger ∧ t.token = true ∧ t' = { t with token := false, pc := .callF }) ∨
     (t.kind = .periodic ∧ t.timer = .fired ∧ t' = { t with timer := .idle, pc := .resetTimer }) ∨
     (t.kind = .pot ∧ t.timer = .fired ∧ t' = { t with timer := .idle, pc := .resetTimer }) ∨
     (t.kind = .pot ∧ t.token = true ∧ t' = { t with token := false, pc := .potStop })) := by
  unfold threadStep at h
  rw [hpc] at h
  dsimp only at h
  cases hk : t.kind <;> rw [hk] at h
  · rw [loopOf_doOnce] at h; simp at h
  · rw [loopOf_trigger] at h
    match c with
    | 0 | 1 => simp [armReady, consume] at h; obtain ⟨h1, rfl, rfl⟩ := h; simp [h1, hk]
    | n + 2 => simp at h
  · rw [loopOf_periodic] at h
    match c with
    | 0 | 1 => simp [armReady, consume] at h; obtain ⟨h1, rfl, rfl⟩ := h; simp [h1, hk]
    | n + 2 => simp at h
  · rw [loopOf_pot] at h
    match c with
    | 0 | 1 | 2 => simp [armReady, consume] at h; obtain ⟨h1, rfl, rfl⟩ := h; simp [h1, hk]
    | n + 3 => simp at h

theorem fnSelOf_spec (k : Kind) :
    fnSelOf k = if k = .trigger ∨ k = .pot then ([.send "c", .dflt], 1) else ([], 0) := by
  cases k <;> decide +kernel

/-- A trigger call always leaves a value in the one-slot channel (and is recorded as owed). -/
theorem trigSend_eq (t : Thread) :
    trigSend t = if t.kind = .trigger ∨ t.kind = .pot then some { t with token := true, owed := true } else none := by
  unfold trigSend
  rw [fnSelOf_spec]
  split
  · have hsel : ([Arm.send "c", .dflt] : List Arm).contains (.send "c") = true ∧
        ([Arm.send "c", .dflt] : List Arm).contains .dflt = true := by decide +kernel
    dsimp only
    rw [hsel.1, hsel.2]
    cases ht : t.token
    · simp
    · simp [← ht]
  · simp

def holdsWg (t : Thread) : Bool :=
  match t.pc with
  | .spawnAdded | .spawnUnlocked | .init | .loopHead | .atSelect | .potStop | .potDrain | .resetTimer
  | .callF | .inF | .exiting => true
  | _ => false

def holdsR (t : Thread) : Bool :=
  match t.pc with
  | .spawnLocked | .spawnChecked | .spawnAdded | .spawnBail => true
  | _ => false

/-- on the way to the call of `f`, with no `select` and no context check left to pass -/
def committed : Pc → Bool
  | .potStop | .potDrain | .resetTimer | .callF => true
  | _ => false

def ThreadInv (t : Thread) : Prop :=
  (t.active = if t.pc = .inF then 1 else 0) ∧
  (t.owed = true → t.token = true ∨ committed t.pc = true) ∧
  ((t.kind = .periodic ∨ t.kind = .pot) →
    match t.pc with
    | .loopHead | .atSelect | .potStop | .callF | .inF => t.timer ≠ .idle
    | .potDrain => t.timer = .fired
    | _ => True) ∧
  (t.pc = .potStop ∨ t.pc = .potDrain → t.kind = .pot)

/-- all (pc before, pc after, effect) triples of a thread step -/
def triples : List (Pc × Pc × Eff) :=
  [(.spawnStart, .spawnLocked, .rlock), (.spawnLocked, .spawnBail, .none), (.spawnLocked, .spawnChecked, .none),
   (.spawnChecked, .spawnAdded, .add), (.spawnAdded, .spawnUnlocked, .runlock), (.spawnLate, .spawnUnlocked, .add),
   (.spawnUnlocked, .init, .none), (.spawnBail, .notSpawned, .runlock),
   (.init, .callF, .none), (.init, .loopHead, .none), (.loopHead, .exiting, .none), (.loopHead, .atSelect, .none),
   (.atSelect, .exiting, .none), (.atSelect, .callF, .none), (.atSelect, .resetTimer, .none), (.atSelect, .potStop, .none),
   (.potStop, .resetTimer, .none), (.potStop, .potDrain, .none), (.potDrain, .resetTimer, .none),
   (.resetTimer, .callF, .none), (.callF, .inF, .none), (.exiting, .exited, .done)]

/-- everything the global proofs need to know about one thread step -/
def StepFacts (v : View) (t t' : Thread) (e : Eff) : Prop :=
  (t.pc, t'.pc, e) ∈ triples ∧
  t'.kind = t.kind ∧ t'.interval = t.interval ∧ t'.jitter = t.jitter ∧
  (e = .rlock → v.writer = false) ∧
  (t'.pc = .spawnChecked → v.ctxDone = false) ∧
  (t'.pc = .spawnBail → v.ctxDone = true) ∧
  (ThreadInv t → ThreadInv t') ∧
  t'.runs = t.runs + (if t'.pc = .inF then 1 else 0) ∧
  (t'.token = true → t.token = true) ∧ (t'.owed = true → t.owed = true) ∧
  (t'.pc = .exiting → v.ctxDone = true) ∧
  (t.token = true ∨ committed t.pc = true → t'.token = true ∨ committed t'.pc = true ∨ t'.pc = .inF) ∧
  (t'.timer = .idle → t.timer = .idle ∨ t'.pc = .resetTimer ∨ t'.pc = .exited) ∧
  t'.active = t.active + (if t'.pc = .inF then 1 else 0) ∧
  (t.owed = true → t'.owed = true ∨ t'.pc = .inF)

theorem threadStep_facts {v : View} {t t' : Thread} {c : Nat} {off : Int} {e : Eff}
    (h : threadStep v t c off = some (t', e)) : StepFacts v t t' e := by
  have hadd : spawnAddUnderRLock = true :=
    under (And.intro pskelGroupSpawn_tie (And.intro groupWiring_tie spawnText_tie)) (by decide +kernel)
  -- in every leaf the successor is explicit; `+decide` settles the membership of the closed triple in `triples`
  cases hpc : t.pc
  case atSelect =>
    obtain ⟨he, hc⟩ := atSelect_step hpc h
    subst he
    rcases hc with ⟨_, _, rfl⟩ | ⟨_, _, rfl⟩ | ⟨_, _, rfl⟩ | ⟨_, _, rfl⟩ | ⟨_, _, rfl⟩ <;> simp_all +decide [StepFacts, ThreadInv, committed]
  all_goals
    unfold threadStep at h
    rw [hpc] at h
    dsimp only at h
  case spawnStart => split at h <;> simp at h; obtain ⟨rfl, rfl⟩ := h; simp_all +decide [StepFacts, ThreadInv, committed]
  case spawnLocked => split at h <;> simp at h <;> (obtain ⟨rfl, rfl⟩ := h; simp_all +decide [StepFacts, ThreadInv, committed])
  case spawnChecked => rw [hadd] at h; simp at h; obtain ⟨rfl, rfl⟩ := h; simp_all +decide [StepFacts, ThreadInv, committed]
  case spawnAdded => simp at h; obtain ⟨rfl, rfl⟩ := h; simp_all +decide [StepFacts, ThreadInv, committed]
  case spawnLate => simp at h; obtain ⟨rfl, rfl⟩ := h; simp_all +decide [StepFacts, ThreadInv, committed]
  case spawnUnlocked => simp at h; obtain ⟨rfl, rfl⟩ := h; simp_all +decide [StepFacts, ThreadInv, committed]
  case spawnBail => simp at h; obtain ⟨rfl, rfl⟩ := h; simp_all +decide [StepFacts, ThreadInv, committed]
  case notSpawned => simp at h
  case init =>
    split at h
    · simp at h; obtain ⟨rfl, rfl⟩ := h; simp_all +decide [StepFacts, ThreadInv, committed]
    · simp at h; obtain ⟨rfl, rfl⟩ := h; simp_all +decide [StepFacts, ThreadInv, committed]
    · simp [armTimer] at h
      obtain ⟨_, rfl, rfl⟩ := h; simp_all +decide [StepFacts, ThreadInv, committed]
  case loopHead => split at h <;> simp at h <;> (obtain ⟨rfl, rfl⟩ := h; simp_all +decide [StepFacts, ThreadInv, committed])
  case potStop =>
    split at h
    · simp at h; obtain ⟨rfl, rfl⟩ := h; simp_all +decide [StepFacts, ThreadInv, committed]
    · split at h <;> simp at h <;> (obtain ⟨rfl, rfl⟩ := h; simp_all +decide [StepFacts, ThreadInv, committed])
    · simp at h; obtain ⟨rfl, rfl⟩ := h; simp_all +decide [StepFacts, ThreadInv, committed]
  case potDrain => split at h <;> simp at h; obtain ⟨rfl, rfl⟩ := h; simp_all +decide [StepFacts, ThreadInv, committed]
  case resetTimer =>
    simp [armTimer] at h
    obtain ⟨_, rfl, rfl⟩ := h; simp_all +decide [StepFacts, ThreadInv, committed]
  case callF => simp at h; obtain ⟨rfl, rfl⟩ := h; simp_all +decide [StepFacts, ThreadInv, committed]
  case inF => simp at h
  case exiting => simp at h; obtain ⟨rfl, rfl⟩ := h; simp_all +decide [StepFacts, ThreadInv, committed]
  case exited => simp at h

def wgOf : Pc → Nat
  | .spawnAdded | .spawnUnlocked | .init | .loopHead | .atSelect | .potStop | .potDrain | .resetTimer
  | .callF | .inF | .exiting => 1
  | _ => 0

def rdOf : Pc → Nat
  | .spawnLocked | .spawnChecked | .spawnAdded | .spawnBail => 1
  | _ => 0

theorem wgOf_eq (t : Thread) : wgOf t.pc = if holdsWg t = true then 1 else 0 := by
  unfold holdsWg wgOf; cases t.pc <;> rfl

theorem rdOf_eq (t : Thread) : rdOf t.pc = if holdsR t = true then 1 else 0 := by
  unfold holdsR rdOf; cases t.pc <;> rfl

/-- every thread step keeps `wg = #threads holding the wait group` and `readers = #threads holding
the read lock`; `wg.Add` happens only from `spawnChecked` (read lock held) or `spawnLate`, which no
step enters; `wg.Done` only where the wait group is held, `RUnlock` only where the read lock is held (or at
`spawnLate`); `f` begins only from `callF`. -/
theorem triples_acct : ∀ x ∈ triples,
    (wgOf x.2.1 + (if x.2.2 = .done then 1 else 0) = wgOf x.1 + (if x.2.2 = .add then 1 else 0)) ∧
    (rdOf x.2.1 + (if x.2.2 = .runlock then 1 else 0) = rdOf x.1 + (if x.2.2 = .rlock then 1 else 0)) ∧
    (x.2.2 = .add → x.1 = .spawnChecked ∨ x.1 = .spawnLate) ∧
    (x.2.2 = .done → wgOf x.1 = 1) ∧
    (x.2.2 = .runlock → rdOf x.1 = 1 ∨ x.1 = .spawnLate) ∧
    (x.2.1 = .spawnLate → False) ∧
    (x.2.1 = .inF → x.1 = .callF) := by decide +kernel

end Juniper.Proofs.GroupLocal
