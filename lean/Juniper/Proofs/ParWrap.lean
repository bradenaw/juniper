import Juniper.Model.ParWrap
import Juniper.Proofs.ParDoInv
/-! Invariants of the wrapper LTS of `parallel.Map` / `MapContext` (`Model/ParWrap.lean`): every reachable
wrapper state projects to a reachable state of the callee's LTS, the calls of the user's `f` are the
callee's calls of the callback (same order, same context state) on the positional element, `out` holds at
position `i` what the call for index `i` returned, no index expression leaves its slice, and the wrapper
returns `out` / `nil, err` as its `return` statements say. -/

namespace Juniper.Proofs.ParWrap
open Juniper.Gen Juniper.Model.ParDo Juniper.Model.ParWrap Juniper.Proofs.ParDo

/-- `wrapper_sound hw` proves `w.Sound false` from `hw : w = mapWrapper` resp. `w.Sound true` from
`hw : w = mapContextWrapper` by evaluating the regenerated definitions, the wrapper's control skeleton
(`skeleton`) among them. As for `pardo_sound` there is no closed lemma in `Proofs/`: the property theorems run it. -/
syntax "wrapper_sound " term : tactic
macro_rules
  | `(tactic| wrapper_sound $hw:term) =>
    `(tactic| (rw [$hw:term]; constructor <;> pardo_tie_field))

variable {α : Type}

theorem sound_code {w : Wrapper} {ctx : Bool} (h : w.Sound ctx) : w.code = if ctx then dcCode else doCode := by
  have := h.callee
  cases ctx <;> simp [Wrapper.code, calleeCode, this] <;> decide

theorem sound_ctxMode {w : Wrapper} {ctx : Bool} (h : w.Sound ctx) : w.code.ctxMode = ctx := by
  rw [sound_code h]; cases ctx <;> rfl

theorem sound_codes {w : Wrapper} {ctx : Bool} (h : w.Sound ctx) : w.code = doCode ∨ w.code = dcCode := by
  rw [sound_code h]; cases ctx <;> simp

theorem cfg_n {wc : WCfg α} {ctx : Bool} (h : wc.w.Sound ctx) : wc.cfg.n = wc.inp.length := by
  simp [WCfg.cfg, h.n]

/-- `wstep wc s l = some s'`, branch by branch: the callee's step `c` it rests on, and what the wrapper does
on top of it. -/
inductive WStep (wc : WCfg α) (s : WSt α) : Label → WSt α → Prop
  | cancel {c} (hm : wc.w.code.ctxMode = true) (hc : step wc.cfg s.core .callerCancel = some c) :
      WStep wc s .callerCancel { s with core := c, callerCancelled := true }
  | cancelUnseen (hm : wc.w.code.ctxMode = true) (hp : wc.w.passesCallerCtx = false) :
      WStep wc s .callerCancel { s with callerCancelled := true }
  | begin {w c i a} (hc : step wc.cfg s.core (.begin w) = some c) (hw : s.core.ws[w]? = some (.call i))
      (ha : getAt wc.inp (wc.w.readIdx i wc.inp.length s.out.length) = some a) :
      WStep wc s (.begin w)
        { s with core := c, calls := s.calls ++ [⟨i, a, wc.w.code.ctxMode && userCtxCancelled wc s⟩] }
  | beginPanic {w c i} (hc : step wc.cfg s.core (.begin w) = some c) (hw : s.core.ws[w]? = some (.call i))
      (ha : getAt wc.inp (wc.w.readIdx i wc.inp.length s.out.length) = none) :
      WStep wc s (.begin w) { s with panic := true }
  | fEndOk {w c i v} (hc : step wc.cfg s.core (.fEnd w (.ok v)) = some c) (hw : s.core.ws[w]? = some (.inF i))
      (hk : ¬ (wc.w.writeIdx i wc.inp.length s.out.length < 0 ∨
        s.out.length ≤ (wc.w.writeIdx i wc.inp.length s.out.length).toNat)) :
      WStep wc s (.fEnd w (.ok v))
        { s with core := c, out := s.out.set (wc.w.writeIdx i wc.inp.length s.out.length).toNat (some v) }
  | fEndPanic {w c i v} (hc : step wc.cfg s.core (.fEnd w (.ok v)) = some c) (hw : s.core.ws[w]? = some (.inF i))
      (hk : wc.w.writeIdx i wc.inp.length s.out.length < 0 ∨
        s.out.length ≤ (wc.w.writeIdx i wc.inp.length s.out.length).toNat) :
      WStep wc s (.fEnd w (.ok v)) { s with core := c, panic := true }
  | fEndErr {w c i k} (hc : step wc.cfg s.core (.fEnd w (.err k)) = some c) (hw : s.core.ws[w]? = some (.inF i)) :
      WStep wc s (.fEnd w (.err k)) { s with core := c }
  | ret {c} (hc : step wc.cfg s.core .ret = some c) :
      WStep wc s .ret { s with core := c, wret := c.ret.map (retOf wc.w s.out) }
  | quiet {l c} (hl : (∃ w, l = .fetch w) ∨ (∃ w, l = .check w) ∨ (∃ w, l = .egDone w))
      (hc : step wc.cfg s.core l = some c) : WStep wc s l { s with core := c }

theorem WStep.of_wstep {wc : WCfg α} {s s' : WSt α} {l : Label} (h : wstep wc s l = some s') : WStep wc s l s' := by
  revert h
  -- `fun_cases` follows the branches of `wstep`: those that return `none` go by `cases h`, which in the others puts the
  -- successor state in; what remains comes in the order of the constructors of `WStep`, the catch-all last
  fun_cases wstep wc s l <;> intro h <;> try cases h
  · rename_i hg _
    obtain ⟨c, hc, rfl⟩ := Option.map_eq_some_iff.1 h
    exact .cancel (by simpa using (Bool.or_eq_false_iff.1 (Bool.eq_false_iff.2 hg)).2) hc
  · rename_i hg hp
    exact .cancelUnseen (by simpa using (Bool.or_eq_false_iff.1 (Bool.eq_false_iff.2 hg)).2) (Bool.eq_false_iff.2 hp)
  · exact .begin ‹_› ‹_› ‹_›
  · exact .beginPanic ‹_› ‹_› ‹_›
  · exact .fEndPanic ‹_› ‹_› ‹_›
  · exact .fEndOk ‹_› ‹_› ‹_›
  · exact .fEndErr ‹_› ‹_›
  · exact .ret ‹_›
  · rename_i _ hcc hb hf hr
    obtain ⟨c, hc, rfl⟩ := Option.map_eq_some_iff.1 h
    refine .quiet ?_ hc
    cases l with
    | fetch w => exact .inl ⟨w, rfl⟩
    | check w => exact .inr (.inl ⟨w, rfl⟩)
    | egDone w => exact .inr (.inr ⟨w, rfl⟩)
    | callerCancel => exact (hcc rfl).elim
    | «begin» w => exact (hb w rfl).elim
    | fEnd w r => exact (hf w r rfl).elim
    | ret => exact (hr rfl).elim

theorem wstep_core {wc : WCfg α} {s s' : WSt α} {l : Label} (h : wstep wc s l = some s') :
    s'.core = s.core ∨ step wc.cfg s.core l = some s'.core := by
  cases WStep.of_wstep h with
  | cancelUnseen | beginPanic => exact .inl rfl
  | cancel _ hc | «begin» hc | fEndOk hc | fEndPanic hc | fEndErr hc | ret hc | quiet _ hc => exact .inr hc

theorem core_reach {wc : WCfg α} {s : WSt α} (h : WReach wc s) : Reach wc.cfg s.core := by
  induction h with
  | init => exact Reach.init
  | step _ hst ih =>
    rcases wstep_core hst with h | h
    · rw [h]; exact ih
    · exact Reach.step ih h

theorem init_fields (cfg : Cfg) :
    (init cfg).ended = [] ∧ (init cfg).begun = [] ∧ (init cfg).ret = none ∧ (init cfg).callerCancelled = false := by
  unfold init; split <;> simp

/-- the wrapper's `return` statements: `out` (and a nil error) unless the callee failed, then `nil` and
that error -/
def expRet (ctx : Bool) (out : List (Option Nat)) (r : Option Err) : WRet :=
  if ctx && r.isSome then ⟨none, r⟩ else ⟨some out, none⟩

theorem retOf_eq {w : Wrapper} {ctx : Bool} (hws : w.Sound ctx) (out : List (Option Nat)) (r : Option Err) :
    retOf w out r = expRet ctx out r := by
  unfold retOf expRet
  rw [hws.failed, hws.retOk]
  cases ctx with
  | false => simp
  | true =>
    rw [hws.retErr rfl]
    cases r <;> simp

structure WInv (wc : WCfg α) (ctx : Bool) (s : WSt α) : Prop where
  noPanic : s.panic = false
  out_length : s.out.length = wc.inp.length
  out_val : ∀ i v, (i, Res.ok v) ∈ s.core.ended → s.out[i]? = some (some v)
  /-- the calls of the user's `f` are the callee's calls of the callback: same order, same index, same
  state of the context at entry -/
  calls_begun : s.calls.map (fun c => (⟨c.idx, c.cancelled⟩ : Begun)) = s.core.begun
  calls_arg : ∀ c ∈ s.calls, wc.inp[c.idx]? = some c.arg
  wret_eq : s.wret = s.core.ret.map (expRet ctx s.out)
  callerCancelled_eq : ctx = true → s.callerCancelled = s.core.callerCancelled

theorem winv_init {wc : WCfg α} {ctx : Bool} (hws : wc.w.Sound ctx) : WInv wc ctx (winit wc) := by
  have ⟨h1, h2, h3, h4⟩ := init_fields wc.cfg
  refine ⟨rfl, ?_, ?_, ?_, ?_, ?_, ?_⟩ <;> simp [winit, hws.alloc, h1, h2, h3, h4]

theorem getAt_natCast {β} (l : List β) (i : Nat) : getAt l (i : Int) = l[i]? := by
  simp [getAt]; intro h; omega

theorem winv_step {wc : WCfg α} {ctx : Bool} (hws : wc.w.Sound ctx) (hs : wc.cfg.code.Sound) {s s' : WSt α} {l : Label}
    (hCount : CountInv wc.cfg s.core) (hState : StateInv wc.cfg s.core) (hi : WInv wc ctx s) (h : WStep wc s l s') :
    WInv wc ctx s' := by
  have hmode : wc.w.code.ctxMode = ctx := sound_ctxMode hws
  have hn : wc.cfg.n = wc.inp.length := cfg_n hws
  -- by cases on the callee's step as well: the callee's successor is then written out, and a clause about a log
  -- that step leaves alone is the old clause (`{ hi with … }`)
  cases h with
  | cancel _ hc => cases Step.of_step hs hc; exact { hi with callerCancelled_eq := fun _ => rfl }
  | cancelUnseen hm hp => cases hp.symm.trans (hws.passesCallerCtx.trans (hmode.symm.trans hm))
  | @«begin» w c i a hc hw ha =>
    cases Step.of_step hs hc with
    | «begin» hw' =>
      cases hw'.symm.trans hw
      rw [hws.readIdx, getAt_natCast] at ha
      refine { hi with calls_begun := ?_
                       calls_arg := List.forall_mem_append.2 ⟨hi.calls_arg, List.forall_mem_singleton.2 ha⟩ }
      have hcx : (wc.w.code.ctxMode && userCtxCancelled wc s) = (wc.cfg.code.ctxMode && ctxCancelled s.core) := by
        cases ctx with
        | false => simp [WCfg.cfg, hmode]
        | true => simp [WCfg.cfg, userCtxCancelled, hws.ctxSrc rfl]
      simp [hi.calls_begun, hcx]
  | @beginPanic w c i _ hw ha =>
    have hlt : i < wc.inp.length := hn ▸ pending_call_lt hCount hw
    rw [hws.readIdx, getAt_natCast, List.getElem?_eq_getElem hlt] at ha
    cases ha
  | @fEndOk w c i v hc hw =>
    have ⟨hlt, hnot⟩ := running_call_fresh hCount hw
    rw [hn] at hlt
    have hret : s.core.ret = none := ret_none_of_active hState.retDone hw rfl
    simp only [hws.writeIdx, Int.toNat_natCast]
    cases Step.of_step hs hc with
    | fEndSeqNext hw' | fEndSeqLast hw' | fEndPar hw' =>
      cases hw'.symm.trans hw
      refine { hi with out_length := by simp [hi.out_length]
                       out_val := fun j v' hm => ?_
                       wret_eq := by simp [hret, hi.wret_eq] }
      rcases List.mem_append.1 hm with hm | hm
      · have hji : i ≠ j := fun hji => hnot _ (hji ▸ hm)
        simp [List.getElem?_set_ne hji, hi.out_val j v' hm]
      · cases List.mem_singleton.1 hm
        simp [hi.out_length, hlt]
  | @fEndPanic w c i v _ hw hk =>
    have := (running_call_fresh hCount hw).1
    rw [hws.writeIdx, hi.out_length] at hk
    omega
  | fEndErr hc hw =>
    cases Step.of_step hs hc with
    | fEndErr hw' =>
      cases hw'.symm.trans hw
      exact { hi with out_val := fun j v' hm => hi.out_val j v' (by simpa using hm) }
  | ret hc =>
    cases Step.of_step hs hc with
    | retSeq hr | retSeqErr hr | retPar hr => exact { hi with wret_eq := by simp [retOf_eq hws] }
  | quiet hl hc =>
    rcases hl with ⟨w, rfl⟩ | ⟨w, rfl⟩ | ⟨w, rfl⟩ <;> cases Step.of_step hs hc <;> exact { hi with }

theorem wstep_begin_calls {wc : WCfg α} {s s' : WSt α} {w : Nat} (hp : s'.panic = false)
    (h : wstep wc s (.begin w) = some s') :
    ∃ i a, s'.calls = s.calls ++ [⟨i, a, wc.w.code.ctxMode && userCtxCancelled wc s⟩] := by
  generalize hl : Label.begin w = l at h
  cases WStep.of_wstep h with
  | «begin» => exact ⟨_, _, rfl⟩
  | beginPanic => cases hp
  | quiet hl' => subst hl; simp at hl'
  | _ => cases hl

theorem winv {wc : WCfg α} {ctx : Bool} (hws : wc.w.Sound ctx) (hs : wc.cfg.code.Sound) {s : WSt α}
    (h : WReach wc s) : WInv wc ctx s := by
  induction h with
  | init => exact winv_init hws
  | step hr hst ih =>
    have hc := inv hs (core_reach hr)
    exact winv_step hws hs hc.toCountInv hc.toStateInv ih (.of_wstep hst)

/-- `wrapper_sound_ex hw` turns `hw : w = mapWrapper ∨ w = mapContextWrapper` into `∃ ctx, w.Sound ctx`
(`ctx = false` for `Map`, `true` for `MapContext`), evaluating the regenerated wrapper facts. -/
syntax "wrapper_sound_ex " term : tactic
macro_rules
  | `(tactic| wrapper_sound_ex $hw:term) =>
    `(tactic| (
      have hww := $hw
      rcases hww with hww | hww
      · exact ⟨false, by wrapper_sound hww⟩
      · exact ⟨true, by wrapper_sound hww⟩))

theorem callCount_eq {wc : WCfg α} {ctx : Bool} {s : WSt α} (hi : WInv wc ctx s) (i : Nat) :
    callCount s i = begunCount s.core i := by
  unfold callCount begunCount
  rw [← hi.calls_begun, List.countP_map]
  rfl

theorem wret_cases {wc : WCfg α} {ctx : Bool} (hws : wc.w.Sound ctx) (hs : wc.cfg.code.Sound) {s : WSt α}
    (h : WReach wc s) :
    (s.wret = none ↔ s.core.ret = none) ∧
    (∀ o, s.wret = some ⟨o, none⟩ → o = some s.out ∧ s.core.ret = some none) ∧
    (∀ o e, s.wret = some ⟨o, some e⟩ → o = none ∧ s.core.ret = some (some e)) := by
  have hi := winv hws hs h
  have hR := hi.wret_eq
  cases hr : s.core.ret with
  | none => simp [hR, hr]
  | some r =>
    cases r with
    | none => simp [hR, hr, expRet]
    | some e =>
      cases ctx with
      | false => cases (inv hs (core_reach h)).ret_nil_of_noctx (sound_ctxMode hws) hr
      | true => simp [hR, hr, expRet]

end Juniper.Proofs.ParWrap
