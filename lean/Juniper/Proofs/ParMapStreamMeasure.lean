import Juniper.Proofs.ParMapStreamInv
/-! Progress measure of the MapStream LTS (`Model/ParMap.lean`, namespace `Stream`).

`nu s` is a natural number that **every** step of the system strictly decreases, except the two labels
by which the consumer starts a new call (`nextCall`, `closeCall`): all 19 internal labels of the
dispatcher, the workers and the consumer, and also the environment's returns (`srcRet`, `srcCloseRet`,
`fRet`), the expiry of the consumer's per-call context and the cancellation of the parent context.
Hence between two calls of the consumer the whole system — library *and* environment — makes at most
`nu s` steps; in reachable states `nu s ≤ 8·tokens + 6·workers + 21`.

The decrease needs no invariant and only one fact about the generated code, `ctxPlain` (the library's
context does not end by itself: the label `libCtxEnd` is disabled); otherwise it holds in every state, for
every `Code`: the only way a goroutine goes round a loop is by consuming a `ready` token, and tokens
come back only through `cRelease`, which ends a `Next` call. -/

namespace Juniper.Proofs.ParMap.SM
open Juniper.Gen Juniper.Facts Juniper.Model.ParMap Juniper.Model.ParMap.Stream Juniper.Proofs.ParMap
open Juniper.Proofs.ParMap.S

/-- weight of one `ready` token: one full round of the dispatcher plus one round of a worker -/
def tokenWeight : Nat := 7

def dRank : DPc → Nat
  | .sendIn _ => 10
  | .pull => 6
  | .inNext => 5
  | .waitReady _ => 4
  | .exiting _ => 3
  | .srcClosing _ => 2
  | .egRet _ => 1
  | .done => 0

def wRank : WPc → Nat
  | .inF _ => 6
  | .sendC _ _ => 5
  | .idle => 3
  | .exiting _ => 2
  | .egRet _ => 1
  | .done => 0

def cBit (b : Bool) : Nat := if b then 1 else 0
def cRank : CPc → Nat
  | .next live => 9 + cBit live
  | .releasing _ _ => 8
  | .nextWait => 1
  | .closeWait => 1
  | .idle => 0
  | .closed => 0

def wSum : List WPc → Nat
  | [] => 0
  | x :: xs => wRank x + wSum xs
def nu (s : St) : Nat :=
  tokenWeight * s.ready + dRank s.disp + wSum s.ws + cRank s.cons + s.c.length
    + cBit (!s.parentCancelled)

def isCall : Label → Bool
  | .nextCall _ => true
  | .closeCall => true
  | _ => false

theorem cRank_eqs : (∀ l, cRank (.next l) = 9 + cBit l) ∧ cBit true = 1 ∧ cBit false = 0 ∧ (∀ k v, cRank (.releasing k v) = 8) ∧
    cRank .nextWait = 1 ∧ cRank .closeWait = 1 ∧ cRank .idle = 0 ∧ cRank .closed = 0 := by simp [cRank, cBit]

theorem wSum_set {ws : List WPc} {w : Nat} {x : WPc} (h : ws[w]? = some x) :
    wRank x ≤ wSum ws ∧ ∀ y, wSum (ws.set w y) = wSum ws - wRank x + wRank y :=
  ListStore.sum_set (fun _ _ => rfl) h

theorem nu_decreases {cfg : Cfg} (hp : cfg.code.ctxPlain = true) {s s' : St} {l : Label}
    (h : Stream.step cfg s l = some s') (hl : isCall l = false) : nu s' < nu s := by
  revert h hl
  -- `fun_cases` follows the branches of `Stream.step`: those that return `none` go by `cases h`, which in the others puts the
  -- successor state in; what remains comes in the order of the labels. In most branches one goroutine moves to a
  -- smaller rank and nothing else that `nu` counts changes; the others say what pays for what
  fun_cases Stream.step cfg s l <;> intro h hl <;> cases h
  · simp only [nu, dRank, ‹s.disp = _›]; omega
  · simp +zetaDelta only [nu, dRank, ‹s.disp = _›]; omega
  · simp +zetaDelta only [nu, dRank, ‹s.disp = _›]; omega
  · simp +zetaDelta only [nu, dRank, ‹s.disp = _›]; omega
  · -- `dTakeToken`: the dispatcher's rank rises by 6, the token it takes weighs 7
    rename_i hc; simp only [Bool.and_eq_true, decide_eq_true_eq] at hc
    simp only [nu, dRank, tokenWeight, ‹s.disp = _›]; omega
  · simp only [nu, dRank, ‹s.disp = _›]; omega
  · -- `dSend`: the worker's rank rises by 3, the dispatcher's falls by 4
    obtain ⟨h0, h1⟩ := wSum_set ‹s.ws[_]? = _›
    simp only [nu, h1, dRank, wRank, ‹s.disp = _›] at h0 ⊢; omega
  · simp only [nu, dRank, ‹s.disp = _›]; omega
  · simp +zetaDelta only [nu, dRank, ‹s.disp = _›]; omega
  · simp +zetaDelta only [nu, dRank, ‹s.disp = _›]; omega
  · simp only [nu, dRank, ‹s.disp = _›]; omega
  · simp only [nu, dRank, egRecord, ‹s.disp = _›]; omega
  · obtain ⟨h0, h1⟩ := wSum_set ‹s.ws[_]? = _›
    simp +zetaDelta only [nu, h1, wRank] at h0 ⊢; omega
  · obtain ⟨h0, h1⟩ := wSum_set ‹s.ws[_]? = _›
    simp +zetaDelta only [nu, h1, wRank] at h0 ⊢; omega
  · -- `wSendC`: `c` grows by one, the worker's rank falls by 2
    obtain ⟨h0, h1⟩ := wSum_set ‹s.ws[_]? = _›
    simp only [nu, h1, wRank, List.length_append, List.length_singleton] at h0 ⊢; omega
  · obtain ⟨h0, h1⟩ := wSum_set ‹s.ws[_]? = _›
    simp only [nu, h1, wRank] at h0 ⊢; omega
  · obtain ⟨h0, h1⟩ := wSum_set ‹s.ws[_]? = _›
    simp only [nu, h1, wRank] at h0 ⊢; omega
  · obtain ⟨h0, h1⟩ := wSum_set ‹s.ws[_]? = _›
    simp +zetaDelta only [nu, h1, wRank] at h0 ⊢; omega
  · obtain ⟨h0, h1⟩ := wSum_set ‹s.ws[_]? = _›
    simp only [nu, h1, wRank, egRecord] at h0 ⊢; omega
  · cases hl
  · simp only [nu, cRank_eqs, ‹s.cons = _›]; omega
  · simp only [nu, cRank_eqs, ‹s.cons = _›]; omega
  · -- `cRelease`: the token given back weighs 7, the consumer's rank falls by 8
    simp only [nu, cRank_eqs, tokenWeight, ‹s.cons = _›]; omega
  · simp only [nu, cRank_eqs, ‹s.cons = _›]; omega
  · simp only [nu, ‹s.c = _›, List.length_cons]; omega
  · simp only [nu, cRank_eqs, ‹s.cons = _›]; omega
  · simp only [nu, cRank_eqs, ‹s.cons = _›]; omega
  · simp only [nu, cRank_eqs, ‹s.cons = _›]; omega
  · simp only [nu, cRank_eqs, ‹s.cons = _›]; omega
  · simp only [nu, cRank_eqs, ‹s.cons = _›]; omega
  · cases hl
  · cases hl
  · simp only [nu, cRank_eqs, ‹s.cons = _›]; omega
  · simp only [nu, cRank_eqs, ‹s.cons = _›]; omega
  · simp only [nu, cRank_eqs, Bool.not_true, Bool.not_false, Bool.eq_false_iff.2 ‹_›]; omega
  · exact absurd hp ‹_›

theorem isCall_of_not_env {l : Label} (h : l.isEnv = false) : isCall l = false := by
  cases l <;> simp_all [Label.isEnv, isCall]

theorem run_nu {cfg : Cfg} (hp : cfg.code.ctxPlain = true) {ls : List Label} {s s' : St}
    (h : Stream.run cfg s ls = some s') (hl : ∀ l ∈ ls, isCall l = false) : ls.length + nu s' ≤ nu s :=
  ((Stream.isRun cfg).measure (P := fun _ => True) (fun _ hl h => ⟨nu_decreases hp h hl, trivial⟩) h hl trivial).1

theorem run_append {cfg : Cfg} {ls₁ ls₂ : List Label} {s s₁ s₂ : St} (h1 : Stream.run cfg s ls₁ = some s₁)
    (h2 : Stream.run cfg s₁ ls₂ = some s₂) : Stream.run cfg s (ls₁ ++ ls₂) = some s₂ := by
  rw [(Stream.isRun cfg).append, h1]; exact h2

structure CapInv (cfg : Cfg) (s : St) : Prop where
  ready_le : s.ready ≤ readyCap cfg
  c_le : s.c.length ≤ cCap cfg

theorem capInv_init {cfg : Cfg} (hs : cfg.code.Sound) : CapInv cfg (Stream.init cfg) :=
  ⟨by simp [Stream.init, readyCap_eq hs, numTokens_eq hs], by simp [Stream.init]⟩

theorem capInv_step {cfg : Cfg} {s s' : St} {l : Label} (hi : CapInv cfg s) (h : Step cfg s l s') :
    CapInv cfg s' := by
  obtain ⟨iReadyLe, iCLe⟩ := hi
  cases h <;> refine ⟨?_, ?_⟩ <;> first | assumption | (simp_all <;> omega)

theorem capInv {cfg : Cfg} (hs : cfg.code.Sound) {s : St} (h : Reach cfg s) : CapInv cfg s := by
  induction h with
  | init => exact capInv_init hs
  | step _ hstep ih => exact capInv_step ih (.of_step hs hstep)

theorem wSum_le (ws : List WPc) : wSum ws ≤ 6 * ws.length :=
  ListStore.sum_le rfl (fun _ _ => rfl) ws fun x _ => by cases x <;> simp [wRank]

theorem dRank_le (d : DPc) : dRank d ≤ 10 := by cases d <;> simp [dRank]
theorem cBit_le (b : Bool) : cBit b ≤ 1 := by cases b <;> simp [cBit]
theorem cRank_le (c : CPc) : cRank c ≤ 10 := by
  cases c with
  | next live => have := cBit_le live; simp [cRank]; omega
  | _ => simp [cRank]

/-- `8 = tokenWeight + 1` (`ready` and `c` hold at most `numTokens` entries each, `CapInv`), `6` is the largest
rank of a worker, `21 = 10 + 10 + 1` the largest ranks of dispatcher and consumer and the bit for the parent context -/
def nuBound (cfg : Cfg) : Nat := 8 * numTokens cfg + 6 * numWorkers cfg + 21

theorem nu_le {cfg : Cfg} (hs : cfg.code.Sound) (hg : 1 ≤ cfg.gmp) {s : St} (h : Reach cfg s) :
    nu s ≤ nuBound cfg := by
  have h1 := numTokens_eq hs
  have h2 := readyCap_eq hs
  have h3 := cCap_eq hs
  have ⟨hR, hC⟩ := capInv hs h
  have hlen := (inv hs hg h).count.len
  have := wSum_le s.ws
  have := dRank_le s.disp
  have := cRank_le s.cons
  have := cBit_le (!s.parentCancelled)
  simp only [nu, nuBound, tokenWeight]; omega

def Quiescent (cfg : Cfg) (s : St) : Prop := ∀ l, l.isEnv = false → Stream.step cfg s l = none

def closePhase : CPc → Bool
  | .closeWait => true
  | .closed => true
  | _ => false

def inNext : CPc → Bool
  | .next _ => true
  | .releasing _ _ => true
  | .nextWait => true
  | _ => false

theorem closePhase_step {cfg : Cfg} {s s' : St} {l : Label} (hp : closePhase s.cons = true)
    (h : Step cfg s l s') : isCall l = false ∧ closePhase s'.cons = true := by
  cases h <;> first | exact ⟨rfl, hp⟩ | exact ⟨rfl, rfl⟩ | (rw [‹s.cons = _›] at hp; cases hp)

/-- what a pending `Next` call has done so far, relative to the state `s0` in which it was pending:
still inside (nothing reported yet), or returned with exactly one more result -/
def NextOutcome (s0 s : St) : Prop :=
  (inNext s.cons = true ∧ s.results = s0.results) ∨ (s.cons = .idle ∧ ∃ r, s.results = s0.results ++ [r])

theorem nextOutcome_step {cfg : Cfg} {s0 s s' : St} {l : Label} (hp : NextOutcome s0 s)
    (hl : isCall l = false) (h : Step cfg s l s') : NextOutcome s0 s' := by
  cases h <;>
    first
    | exact hp
    | (rcases hp with ⟨h1, h2⟩ | ⟨h1, r, h2⟩ <;> simp_all [inNext, NextOutcome, isCall])

def isReturn : Label → Bool
  | .fRet _ _ => true
  | .srcRet _ => true
  | .srcCloseRet => true
  | _ => false

theorem owed_step {cfg : Cfg} (hs : cfg.code.Sound) {s : St} (h : 0 < fRunning s ∨ srcBusy s = true) :
    ∃ l s', (l.isEnv = false ∨ isReturn l = true) ∧ Stream.step cfg s l = some s' := by
  rcases h with hf | hsrc
  · have hf' : 0 < cnt (fun pc => match pc with | WPc.inF _ => true | _ => false) s.ws := hf
    obtain ⟨w, pc, hw, hpc⟩ := exists_index_of_cnt_pos hf'
    cases pc with
    | inF k => exact ⟨_, _, Or.inr rfl, (Step.fOk w k 0 hw).to_step hs⟩
    | _ => simp at hpc
  · cases hd : s.disp with
    | inNext => exact ⟨_, _, Or.inr rfl, (Step.srcEnd hd).to_step hs⟩
    | srcClosing r => exact ⟨_, _, Or.inr rfl, (Step.srcCloseRet r hd).to_step hs⟩
    | _ => simp [srcBusy, hd] at hsrc

theorem isCall_of_service {l : Label} (h : l.isEnv = false ∨ isReturn l = true) : isCall l = false := by
  cases l <;> simp_all [Label.isEnv, isCall, isReturn]

end Juniper.Proofs.ParMap.SM
