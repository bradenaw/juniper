import Juniper.Proofs.TreeHeapLinkRel
import Juniper.Proofs.TreeHeapLinkDelSim
/-!
# Linking the two B-tree models (C03): `Delete` on related states, histories

`delete_sim`: on related states the heap model's `Delete` does not crash and the results are related
again. `refines_runMuts`: hence every `Put` / `Delete` history from the empty tree runs without a crash
on the heap model and ends in a state related to the functional tree.
-/
namespace Juniper.Proofs.TreeHeapLink
open Juniper Juniper.Model.BTree Juniper.Model.BTreeSlotsOps Juniper.Proofs.Tree Juniper.Proofs.TreeSlotsOps

variable {K V : Type}

theorem descend_congr (cmp : K → K → Int) (k : K) {h h' : Heap K V} (hg : ∀ j, h'.get j = h.get j) :
    ∀ (fuel c : Nat), Heap.descend cmp k h' fuel c = Heap.descend cmp k h fuel c := by
  intro fuel
  induction fuel with
  | zero => intro c; rfl
  | succ f ih => intro c; simp only [Heap.descend, hg, ih]

/-- `size--; gen++` -/
def bumpDel (h : Heap K V) : Heap K V :=
  { h with size := bumpIf Gen.Tree.deleteDecSize h.size (-1), gen := bumpIf Gen.Tree.deleteBumpsGen h.gen 1 }

/-- `if curr.leaf() { return }` comes first: a miss leaves the tree as it is -/
theorem delete_miss (cmp : K → K → Int) (h : Heap K V) (k : K) {curr idx : Nat}
    (hd : Heap.descend cmp k h (h.nodes.length + 1) h.root = some (curr, idx, false)) : h.delete cmp k = some h := by
  unfold Heap.delete
  simp [bind, pure, hd, Gen.Tree.deleteMissReturnsFirst]

theorem delete_found (cmp : K → K → Int) (h : Heap K V) (k : K) {curr idx : Nat} {xs : SNode K V Nat}
    (hd : Heap.descend cmp k h (h.nodes.length + 1) h.root = some (curr, idx, true)) (hx : h.get curr = some xs) :
    h.delete cmp k = delAt (h.nodes.length + 1) (h.nodes.length + 1) (bumpDel h) curr idx xs := by
  unfold Heap.delete
  have hx' : (bumpDel h).get curr = some xs := hx
  simp only [bumpDel] at hx'
  simp only [bind, pure, hd, Option.bind_some, Bool.not_true, Bool.false_eq_true, if_false, hx']
  rfl

theorem delete_sim (cmp : K → K → Int) {h : Heap K V} {t : Tree K V} (hrel : Rel h t) (hb : BalTree t) (k : K) :
    ∃ h' t', delete cmp t k = some t' ∧ h.delete cmp k = some h' ∧ Rel h' t' := by
  obtain ⟨ht, hbal, hmax, hroot⟩ := hb
  have hcnt := hrel.cnt_le
  have hfuel := hrel.height_le hbal
  obtain ⟨tp, hdel, -, hids, -⟩ := delete_spec cmp t k ⟨ht, hbal, hmax, hroot⟩ hrel.ids.1
  have hidsOK := hids hrel.ids
  suffices hsuff : ∃ h', h.delete cmp k = some h' ∧ Rel h' tp by
    obtain ⟨h', h1, h2⟩ := hsuff
    exact ⟨h', tp, hdel, h1, h2⟩
  have hpre : DelPre t.root.id ht true t.root := delPre_root hbal hmax hroot hrel.ids.1
  have hsim := del_sim cmp k t.root.id t.root ht true (bumpDel h) none hpre hrel.root hcnt hrel.sub (fun _ => rfl)
  have hdc : ∀ fuel c, Heap.descend cmp k (bumpDel h) fuel c = Heap.descend cmp k h fuel c :=
    descend_congr cmp k (fun _ => rfl)
  unfold delete at hdel
  cases hres : del cmp k t.root.id t.root with
  | crash => rw [hres] at hsim; exact hsim.elim
  | absent =>
    rw [hres] at hsim hdel
    simp only [Gen.Tree.deleteMissReturnsFirst, if_true, Option.some.injEq] at hdel
    subst hdel
    simp only [DelSim] at hsim
    obtain ⟨curr, idx, hdesc⟩ := hsim
    have hd := hdesc (h.nodes.length + 1) (by show ht + 1 ≤ h.nodes.length + 1; omega)
    rw [hdc, ← hrel.root] at hd
    exact ⟨h, delete_miss cmp h k hd, hrel⟩
  | done r u =>
    rw [hres] at hsim hdel
    simp only [Option.some.injEq] at hdel
    subst hdel
    have hu : u = false := by
      have := (del_spec cmp k t.root.id t.root ht true hpre).1
      rw [hres] at this
      exact this.2
    subst hu
    obtain ⟨curr, idx, xs, h2, lf, n, hdesc, hxs, hdl, haft⟩ := hsim
    obtain ⟨h3, r3, htl⟩ := afterSim_done.mp haft
    have hd := hdesc (h.nodes.length + 1) (by show ht + 1 ≤ h.nodes.length + 1; omega)
    rw [hdc, ← hrel.root] at hd
    refine ⟨h3, ?_, ?_⟩
    · rw [delete_found cmp h k hd hxs, hdl _ _ (by omega)]
      exact htl _ (by omega)
    · refine ⟨?_, ?_, ?_, ?_, r3.sub, hidsOK⟩
      · rw [r3.root]
        have : t.root.id = (bumpDel h).root := hrel.root.symm
        rw [if_pos this]
      · show t.nextId = h3.nodes.length
        rw [r3.len]; exact hrel.next
      · show h3.size = _
        rw [r3.size]
        show bumpIf Gen.Tree.deleteDecSize h.size (-1) = _
        rw [hrel.size]
        simp only [bumpIf]
        split <;> rfl
      · show h3.gen = _
        rw [r3.gen]
        show bumpIf Gen.Tree.deleteBumpsGen h.gen 1 = _
        rw [hrel.gen, bumpIf_gen]

/-- the same history for the heap model -/
def toHeapMut : Juniper.Proofs.Tree.Mut K V → Heap.Mut K V
  | .put k v => .put k v
  | .del k => .del k

theorem refines_runMuts (cmp : K → K → Int) : ∀ (ms : List (Juniper.Proofs.Tree.Mut K V)) (h : Heap K V) (t : Tree K V),
    Rel h t → BalTree t →
    ∃ h' t', runMuts cmp t ms = some t' ∧ Heap.runMuts cmp h (ms.map toHeapMut) = some h' ∧ Rel h' t' ∧ BalTree t'
  | [], h, t, hr, hb => ⟨h, t, rfl, rfl, hr, hb⟩
  | .put k v :: ms, h, t, hr, hb => by
    obtain ⟨h1, t1, hp, hhp, hr1⟩ := put_sim cmp hr hb k v
    obtain ⟨t1', hp', hb1⟩ := bal_put cmp t k v hb
    rw [hp] at hp'; cases hp'
    obtain ⟨h', t', h1', h2', h3', h4'⟩ := refines_runMuts cmp ms h1 t1 hr1 hb1
    refine ⟨h', t', ?_, ?_, h3', h4'⟩
    · simp only [runMuts, applyMut, hp]; exact h1'
    · simp only [List.map_cons, toHeapMut, Heap.runMuts, hhp, Option.bind_some]; exact h2'
  | .del k :: ms, h, t, hr, hb => by
    obtain ⟨h1, t1, hp, hhp, hr1⟩ := delete_sim cmp hr hb k
    obtain ⟨t1', hp', hb1⟩ := bal_delete cmp t k hb hr.ids.1
    rw [hp] at hp'; cases hp'
    obtain ⟨h', t', h1', h2', h3', h4'⟩ := refines_runMuts cmp ms h1 t1 hr1 hb1
    refine ⟨h', t', ?_, ?_, h3', h4'⟩
    · simp only [runMuts, applyMut, hp]; exact h1'
    · simp only [List.map_cons, toHeapMut, Heap.runMuts, hhp, Option.bind_some]; exact h2'

theorem toHeapMut_surj (ms : List (Heap.Mut K V)) : ∃ ms' : List (Juniper.Proofs.Tree.Mut K V), ms'.map toHeapMut = ms := by
  induction ms with
  | nil => exact ⟨[], rfl⟩
  | cons m ms ih =>
    obtain ⟨ms', h⟩ := ih
    cases m with
    | put k v => exact ⟨.put k v :: ms', by simp [toHeapMut, h]⟩
    | del k => exact ⟨.del k :: ms', by simp [toHeapMut, h]⟩

end Juniper.Proofs.TreeHeapLink
