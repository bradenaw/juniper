import Juniper.Proofs.PipeStep
/-!
The inductive invariant of the Pipe LTS behind the safety clauses of C10: per sender, what was
handed to the channel (delivered ++ buffered ++ in flight) is a sublist of what the sender's calls
were started with; nothing acknowledged before the sender's `Close` leaves `delivered ++ buf`.
-/
namespace Juniper.Proofs.Pipe
open Juniper.Facts Juniper.Gen.Pipe Juniper.Model.Pipe

def ofSender (i : Nat) (l : List Msg) : List Msg := l.filter (fun m => m.sender == i)

def inflight (sd : Sender) : List Msg :=
  match sd.pc.msg? with
  | some m => [m]
  | none => []

structure SInv (L : List Msg) (i : Nat) (sd : Sender) : Prop where
  tags : ∀ m ∈ sd.sent, m.sender = i
  seqs : sd.sent.map (·.seq) = List.range sd.sent.length
  sub : (ofSender i L ++ inflight sd).Sublist sd.sent

structure Inv (st : State) : Prop where
  cap : st.buf.length ≤ st.cap
  snd : ∀ i sd, st.senders[i]? = some sd → SInv st.acked i sd
  rng : ∀ m ∈ st.acked, m.sender < st.senders.length
  held : ∀ m ∈ st.ackedBC, m ∈ st.acked
  drain : st.rpc = .drain → st.senderDone = true
  /-- the receiver gets the values in the order in which their sends on the channel succeeded -/
  fifoAck : st.delivered ++ st.buf = st.acked

theorem ofSender_append (i : Nat) (a b : List Msg) : ofSender i (a ++ b) = ofSender i a ++ ofSender i b := by
  simp [ofSender, List.filter_append]

theorem inv_init (n b : Nat) : Inv (init n b) := by
  refine ⟨by simp [init], ?_, by simp [init], by simp [init], by simp [init], by simp [init]⟩
  intro i sd h
  simp only [init, List.getElem?_replicate] at h
  split at h
  · simp at h
    subst h
    exact ⟨by simp, by simp, by simp [ofSender, inflight, SPc.msg?, init]⟩
  · simp at h

theorem inv_setSender {st : State} {i : Nat} {sd' : Sender} (h : Inv st) (h' : SInv st.acked i sd') :
    Inv (st.setSender i sd') := by
  refine ⟨h.cap, ?_, ?_, h.held, h.drain, h.fifoAck⟩
  · exact ListStore.forall_set h.snd h'
  · intro m hm
    have := h.rng m hm
    simpa [State.setSender] using this

theorem sinv_shrink {L : List Msg} {i : Nat} {sd sd' : Sender} (h : SInv L i sd)
    (hs : sd'.sent = sd.sent) (hpc : sd'.pc.msg? = none ∨ sd'.pc.msg? = sd.pc.msg?) : SInv L i sd' := by
  refine ⟨by rw [hs]; exact h.tags, by rw [hs]; exact h.seqs, ?_⟩
  rw [hs]
  rcases hpc with hp | hp
  · have : inflight sd' = [] := by simp [inflight, hp]
    rw [this, List.append_nil]
    exact (List.sublist_append_left _ _).trans h.sub
  · have : inflight sd' = inflight sd := by simp [inflight, hp]
    rw [this]; exact h.sub

theorem sinv_start {L : List Msg} {i : Nat} {sd : Sender} {v : Int} {c : Bool} {pc : SPc} (h : SInv L i sd)
    (hidle : sd.pc = .idle) (hpc : pc.msg? = some ⟨i, sd.sent.length, v⟩) :
    SInv L i { pc := pc, ctx := c, sent := sd.sent ++ [⟨i, sd.sent.length, v⟩] } := by
  refine ⟨?_, ?_, ?_⟩
  · intro m hm
    simp only [List.mem_append, List.mem_singleton] at hm
    rcases hm with hm | hm
    · exact h.tags m hm
    · subst hm; rfl
  · simp [List.range_succ, h.seqs]
  · have h0 : inflight sd = [] := by simp [inflight, hidle, SPc.msg?]
    have hs := h.sub
    rw [h0, List.append_nil] at hs
    simp only [inflight, hpc]
    exact List.Sublist.append hs (List.Sublist.refl _)

theorem inflight_sender {L : List Msg} {i : Nat} {sd : Sender} {m : Msg} (h : SInv L i sd)
    (hm : sd.pc.msg? = some m) : m.sender = i := by
  apply h.tags
  apply h.sub.subset
  simp [inflight, hm]

theorem sinv_commit_self {L : List Msg} {i : Nat} {sd sd' : Sender} {m : Msg} (h : SInv L i sd)
    (hm : sd.pc.msg? = some m) (hs : sd'.sent = sd.sent) (hpc : sd'.pc.msg? = none) :
    SInv (L ++ [m]) i sd' := by
  have hmi := inflight_sender h hm
  refine ⟨by rw [hs]; exact h.tags, by rw [hs]; exact h.seqs, ?_⟩
  have h1 : inflight sd' = [] := by simp [inflight, hpc]
  have h2 : inflight sd = [m] := by simp [inflight, hm]
  rw [hs, h1, List.append_nil, ofSender_append]
  have : ofSender i [m] = [m] := by simp [ofSender, hmi]
  rw [this]
  have := h.sub
  rwa [h2] at this

theorem sinv_commit_other {L : List Msg} {j : Nat} {sdj : Sender} {m : Msg} (h : SInv L j sdj)
    (hne : m.sender ≠ j) : SInv (L ++ [m]) j sdj := by
  refine ⟨h.tags, h.seqs, ?_⟩
  have : ofSender j [m] = [] := by simp [ofSender, hne]
  rw [ofSender_append, this, List.append_nil]
  exact h.sub

theorem after_send_idle {pc : SPc} {ch : String} (hT1 : noSendArm trySendArms1 = true)
    (htab : (tableOf pc).contains (.send ch) = true) : (pc.after (.send ch)).msg? = none := by
  cases pc with
  | idle => simp [tableOf] at htab
  | try1 m =>
    exfalso
    simp only [tableOf] at htab
    have := List.all_eq_true.mp hT1 (.send ch) (by simpa using htab)
    simp at this
  | send m p => rw [after_send_pc]; rfl
  | try2 m => rw [after_try2]; rfl

theorem mem_commit_ackedBC {st : State} {m x : Msg} (h : x ∈ (commit st m).ackedBC) :
    x ∈ st.ackedBC ∨ x = m := by
  unfold commit at h
  by_cases hd : st.senderDone = true
  · simp [hd] at h; exact Or.inl h
  · simp [hd] at h; exact h

/-- A successful send on `c` (buffered or rendez-vous): what the sender-indexed part of `Inv` needs. -/
theorem inv_commit {st st' : State} {i : Nat} {sd : Sender} {m : Msg} {pc' : SPc} (h : Inv st)
    (hsd : st.senders[i]? = some sd) (hm : sd.pc.msg? = some m) (hpc : pc'.msg? = none)
    (hsenders : st'.senders = st.senders.set i { sd with pc := pc' })
    (hack : st'.acked = st.acked ++ [m]) (hBC : st'.ackedBC = (commit st m).ackedBC)
    (hcap : st'.buf.length ≤ st'.cap) (hdrain : st'.rpc = .drain → st'.senderDone = true)
    (hfifo : st'.delivered ++ st'.buf = st'.acked) : Inv st' := by
  have hi := h.snd i sd hsd
  have hmi := inflight_sender hi hm
  refine ⟨hcap, ?_, ?_, ?_, hdrain, hfifo⟩
  · intro j sdj hj
    rw [hack]
    rw [hsenders] at hj
    rcases ListStore.getElem?_set_some hj with ⟨rfl, rfl⟩ | ⟨hij, hj⟩
    · exact sinv_commit_self hi hm rfl hpc
    · exact sinv_commit_other (h.snd j sdj hj) (by rw [hmi]; exact hij)
  · intro x hx
    rw [hack] at hx
    rw [hsenders, List.length_set]
    rcases List.mem_append.mp hx with hx | hx
    · exact h.rng x hx
    · rw [List.mem_singleton.mp hx, hmi]; exact (List.getElem?_eq_some_iff.mp hsd).1
  · intro x hx
    rw [hack, List.mem_append, List.mem_singleton]
    rw [hBC] at hx
    exact (mem_commit_ackedBC hx).imp_left (h.held x)

/-- The only fact about the regenerated tables the invariant needs: the first `select` of `TrySend`
has no `send` arm (otherwise a value could enter the channel twice). -/
theorem inv_step {st st' : State} {l : Label} (hT1 : noSendArm trySendArms1 = true)
    (h : Inv st) (hs : Step st l st') : Inv st' := by
  cases hs with
  | sender hsd hmv =>
    have hi := h.snd _ _ hsd
    refine inv_setSender h ?_
    cases hmv with
    | startSend v c hidle => exact sinv_start hi hidle rfl
    | startTry v c hidle => exact sinv_start hi hidle rfl
    | cancel _ => exact sinv_shrink hi rfl (Or.inr rfl)
    | recvArm _ _ _ => exact sinv_shrink hi rfl (after_msg _ _)
    | dflt _ _ _ => exact sinv_shrink hi rfl (after_msg _ _)
    | park hpc _ => exact sinv_shrink hi rfl (Or.inr (by rw [hpc]; rfl))
  | recv hmv =>
    refine ⟨h.cap, h.snd, h.rng, h.held, ?_, h.fifoAck⟩
    cases hmv with
    | cancelNext _ => exact h.drain
    | toDrain _ hsd _ _ => exact fun _ => hsd
    | _ => exact fun hd => nomatch hd
  | closeSender e _ => exact ⟨h.cap, h.snd, h.rng, h.held, fun _ => rfl, h.fifoAck⟩
  | closeRecv _ _ => exact ⟨h.cap, h.snd, h.rng, h.held, h.drain, h.fifoAck⟩
  | commit hsd hm htab hroom =>
    exact inv_commit h hsd hm (after_send_idle hT1 htab) rfl rfl rfl
      (by simpa [commit, State.setSender] using Nat.succ_le_of_lt hroom) h.drain
      (by simp [commit, State.setSender, ← h.fifoAck])
  | handoff hsd hm hc =>
    obtain ⟨hcap0, htab, _⟩ := canHandoff_facts hc
    have hbuf : st.buf = [] := List.eq_nil_of_length_eq_zero (by have := h.cap; omega)
    exact inv_commit h hsd hm (after_send_idle hT1 htab) rfl rfl rfl h.cap (fun hd => nomatch hd)
      (by simp [commit, State.setSender, ← h.fifoAck, hbuf])
  | @pop m rest _ hbuf =>
    refine ⟨?_, h.snd, h.rng, h.held, (fun hd => nomatch hd), by rw [← h.fifoAck, hbuf]; simp⟩
    have := h.cap; rw [hbuf] at this; exact Nat.le_of_succ_le this

theorem inv_reach {n b : Nat} {st : State} (hT1 : noSendArm trySendArms1 = true)
    (hr : Reach (init n b) st) : Inv st := by
  induction hr with
  | refl => exact inv_init n b
  | step _ hs ih => exact inv_step hT1 ih (.of_step hs)

end Juniper.Proofs.Pipe
