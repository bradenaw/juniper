import Juniper.Proofs.TreeHeapLinkIns
/-!
# Linking the two B-tree models (C03): the whole-tree relation, `Put`

`Rel h t`: the heap `h` and the functional tree `t` describe the same tree — same root identity, same
allocation counter, same `size` / `gen`, the functional tree is in the store below parent pointer
`nil` (`Sub`), and the node identities are pairwise distinct and allocated (`IdsOK`).
-/
namespace Juniper.Proofs.TreeHeapLink
open Juniper Juniper.Model.BTree Juniper.Model.BTreeSlotsOps Juniper.Proofs.Tree Juniper.Proofs.TreeSlotsOps

variable {K V : Type}

structure Rel (h : Heap K V) (t : Tree K V) : Prop where
  root : h.root = t.root.id
  next : t.nextId = h.nodes.length
  size : h.size = t.size
  gen : h.gen = (t.gen : Int)
  sub : Sub h.get none t.root
  ids : IdsOK t

theorem rel_empty : Rel (Heap.empty : Heap K V) (Tree.empty : Tree K V) := by
  refine ⟨rfl, rfl, rfl, rfl, ?_, by simp [IdsOK, Tree.empty, ids]⟩
  exact sub_mk.mpr ⟨SNode.fresh, rfl, rfl, nodeRep_fresh, by simp⟩

theorem Rel.cnt_le {h : Heap K V} {t : Tree K V} (hr : Rel h t) : ∀ j, cnt j t.root ≤ 1 :=
  List.nodup_iff_count.mp hr.ids.1

theorem Rel.cnt_lt {h : Heap K V} {t : Tree K V} (hr : Rel h t) : ∀ j, 0 < cnt j t.root → j < h.nodes.length := by
  intro j hj
  rw [← hr.next]
  exact hr.ids.2 j (mem_ids_iff_cnt.mpr hj)

theorem pigeon (n : Nat) (l : List Nat) (hnd : l.Nodup) (hlt : ∀ i ∈ l, i < n) : l.length ≤ n :=
  List.length_range (n := n) ▸ hnd.length_le_of_subset fun i hi => List.mem_range.2 (hlt i hi)

theorem length_ids_child {kids : List (Node K V)} {c : Node K V} (hc : c ∈ kids) :
    (ids c).length ≤ ((kids.map ids).flatten).length := by
  induction kids with
  | nil => cases hc
  | cons d ds ih =>
    simp only [List.map_cons, List.flatten_cons, List.length_append]
    rcases List.mem_cons.mp hc with rfl | hc'
    · omega
    · have := ih hc'; omega

theorem height_lt_ids : ∀ (ht : Nat) (x : Node K V), Bal ht x → ht + 1 ≤ (ids x).length
  | 0, .mk id kvs kids, _ => by simp [ids]
  | ht + 1, .mk id kvs kids, hb => by
    obtain ⟨hlen, hall⟩ := bal_succ.mp hb
    cases kids with
    | nil => simp at hlen
    | cons c cs =>
      have := height_lt_ids ht c (hall c List.mem_cons_self).1
      simp only [ids, List.map_cons, List.flatten_cons, List.length_cons, List.length_append]
      omega

/-- the fuel `h.nodes.length + 1` of `Heap.put` / `Heap.delete` suffices: a tree of height `ht` holds more than `ht`
distinct identities, all of them allocated -/
theorem Rel.height_le {h : Heap K V} {t : Tree K V} (hr : Rel h t) {ht : Nat} (hb : Bal ht t.root) :
    ht + 1 ≤ h.nodes.length := by
  have h1 := height_lt_ids ht t.root hb
  have h2 := pigeon t.nextId (Juniper.Proofs.Tree.ids t.root) hr.ids.1 hr.ids.2
  rw [hr.next] at h2
  omega

theorem put_unfold (cmp : K → K → Int) (h : Heap K V) (k : K) (v : V) {curr idx : Nat} {found : Bool} {xs : SNode K V Nat}
    (hd : Heap.descend cmp k h (h.nodes.length + 1) h.root = some (curr, idx, found)) (hx : h.get curr = some xs) :
    h.put cmp k v =
      if found then h.step (.setValue curr idx v) [curr]
      else (putLeaf cmp (h.nodes.length + 1) h curr xs k v).map fun h' =>
        { h' with gen := bumpIf Gen.Tree.putBumpsGen h'.gen 1, size := bumpIf Gen.Tree.putBumpsSize h'.size 1 } := by
  unfold Heap.put
  simp only [bind, pure, hd, hx, Option.bind_some]
  cases found with
  | true => simp
  | false =>
    simp only [Bool.false_eq_true, if_false]
    unfold putLeaf
    cases hh : (if Gen.Tree.putInsertsDirect (Gen.Tree.full xs.n) = true then
        (toIdx xs.n).bind fun n => (Heap.lowerFrom Gen.Tree.insertLess cmp k xs.keys n 0).bind fun i =>
          h.step (NodeOp.leafInsert curr i k v) [curr]
      else Heap.overfill cmp (h.nodes.length + 1) h curr k v none) <;> rfl

theorem root_kids_noid {t : Tree K V} (hcnt : ∀ j, cnt j t.root ≤ 1) : ∀ c ∈ t.root.kids, cnt t.root.id c = 0 := by
  obtain ⟨⟨id, kvs, kids⟩, size, gen, nextId⟩ := t
  intro c hc
  exact cnt_id_child hcnt hc

theorem bumpIf_gen (b : Bool) (g : Nat) : bumpIf b (g : Int) 1 = (bump b g : Nat) := by
  cases b <;> simp [bumpIf, bump]

theorem put_sim (cmp : K → K → Int) {h : Heap K V} {t : Tree K V} (hrel : Rel h t) (hb : BalTree t) (k : K) (v : V) :
    ∃ h' t', put cmp t k v = some t' ∧ h.put cmp k v = some h' ∧ Rel h' t' := by
  obtain ⟨ht, hbal, hmax, hroot⟩ := hb
  have hcnt := hrel.cnt_le
  have hlt := hrel.cnt_lt
  have hfuel := hrel.height_le hbal
  have hnoid : ∀ c ∈ t.root.kids, cnt h.root c = 0 := by rw [hrel.root]; exact root_kids_noid hcnt
  have hsim := ins_sim cmp k v t.root t.nextId ht h none hbal hmax hcnt hlt hnoid hrel.next hrel.sub
  have hsp := ins_spec cmp k v t.root t.nextId ht hbal hmax
  obtain ⟨tp, hput, _⟩ := bal_put cmp t k v ⟨ht, hbal, hmax, hroot⟩
  have hidsOK := idsOK_put cmp t tp k v ⟨ht, hbal, hmax, hroot⟩ hrel.ids hput
  suffices hsuff : ∃ h', h.put cmp k v = some h' ∧ Rel h' tp by
    obtain ⟨h', h1, h2⟩ := hsuff
    exact ⟨h', tp, hput, h1, h2⟩
  unfold put at hput
  rcases hres : ins cmp k v t.root t.nextId with ⟨res, f⟩
  rw [hres] at hsim hsp hput
  cases res with
  | crash => exact hsim.elim
  | found x' =>
    simp only [InsSim] at hsim
    obtain ⟨curr, idx, xs, h', hdesc, hxs, hstep, hsub, hfr, hlen⟩ := hsim
    simp only [Option.some.injEq] at hput
    subst hput
    refine ⟨h', ?_, ?_⟩
    · rw [put_unfold cmp h k v (by rw [hrel.root]; exact hdesc _ (by omega)) hxs, if_pos rfl]
      exact hstep
    · exact ⟨by rw [hfr.root, hrel.root]; exact (skel_id hsp.ok.2.1).symm, by rw [hlen]; exact hrel.next,
        by rw [hfr.size]; exact hrel.size, by rw [hfr.gen]; exact hrel.gen, hsub, hidsOK⟩
  | one x' =>
    simp only [InsSim] at hsim
    obtain ⟨curr, idx, xs, h', hdesc, hxs, hpl, hsub, hfr, hlen⟩ := hsim
    simp only [Option.some.injEq] at hput
    subst hput
    refine ⟨{ h' with gen := bumpIf Gen.Tree.putBumpsGen h'.gen 1, size := bumpIf Gen.Tree.putBumpsSize h'.size 1 }, ?_, ?_⟩
    · rw [put_unfold cmp h k v (by rw [hrel.root]; exact hdesc _ (by omega)) hxs, if_neg (by simp),
        hpl _ (by omega)]
      rfl
    · refine ⟨?_, ?_, ?_, ?_, hsub, hidsOK⟩
      · show h'.root = x'.id
        rw [hfr.root, hrel.root]; exact hsp.ok.2.2.2.2.symm
      · exact hlen.symm
      · show bumpIf Gen.Tree.putBumpsSize h'.size 1 = _
        rw [hfr.size, hrel.size]; rfl
      · show bumpIf Gen.Tree.putBumpsGen h'.gen 1 = _
        rw [hfr.gen, hrel.gen, bumpIf_gen]
  | split l sep r =>
    simp only [InsSim] at hsim
    obtain ⟨curr, idx, xs, h1, hdesc, hxs, hpl, hsubl, hsubr, hfr, hlen⟩ := hsim
    obtain ⟨-, -, -, -, hlid⟩ := hsp.ok
    simp only [Option.some.injEq] at hput
    subst hput
    -- the identities of the new tree are distinct, so the two halves share none
    obtain ⟨h3, hup, hroot3, hsize3, hgen3, hlen3, hsub3⟩ :=
      up_root_sim cmp sep.1 sep.2 (by rw [hfr.root, hrel.root, hlid]) hsubl hsubr (fun j => by
        have : cnt j (.mk f [sep] [l, r]) ≤ 1 := List.nodup_iff_count.mp hidsOK.1 j
        rw [cnt_mk] at this
        omega)
    refine ⟨{ h3 with gen := bumpIf Gen.Tree.putBumpsGen h3.gen 1, size := bumpIf Gen.Tree.putBumpsSize h3.size 1 }, ?_, ?_⟩
    · rw [put_unfold cmp h k v (by rw [hrel.root]; exact hdesc _ (by omega)) hxs, if_neg (by simp)]
      have := hpl (h.nodes.length - ht)
      rw [Nat.sub_add_cancel (Nat.le_of_succ_le hfuel)] at this
      rw [this, ← hlid, hup]
      rfl
    · refine ⟨?_, ?_, ?_, ?_, ?_, hidsOK⟩
      · show h3.root = f
        rw [hroot3, hlen]
      · show f + 1 = h3.nodes.length
        rw [hlen3, hlen]
      · show bumpIf Gen.Tree.putBumpsSize h3.size 1 = _
        rw [hsize3, hfr.size, hrel.size]; rfl
      · show bumpIf Gen.Tree.putBumpsGen h3.gen 1 = _
        rw [hgen3, hfr.gen, hrel.gen, bumpIf_gen]
      · rw [← hlen]; exact hsub3

end Juniper.Proofs.TreeHeapLink
