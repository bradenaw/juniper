import Juniper.Spec.Seq
import Juniper.Proofs.Skeleton
import Juniper.Proofs.StreamDen
/-!
# Every caller's-goroutine combinator of `stream.go` denotes its list function, faults included (C07, C08)

`SDen soft m cost s L t → SDen soft (C m) (cost ∘ inner) st (C_spec L t).1 (C_spec L t).2`, one lemma per
combinator, each an application of `sden_pull` (`Flatten` / `Join`: once per inner stream, in `flatten_inner` /
`join_head`): a combinator's `Next` is one pull and then `pullThen`, so skips and
failures of the source pass through and only the item and the end are the combinator's own. The spec functions
say what a failure does to the output: everything determined by the items before the failure is delivered, then
the failure itself.
-/
namespace Juniper.Proofs.StreamDen
open Juniper.Model.Stream Juniper.Spec Juniper.Gen.Comb
universe u v w x y
variable {σ : Type u} {σ' : Type w} {α β : Type v} {γ : Type x} {soft : Err → Bool}

/-- `Map` with a failing callback: the images of the items before the first failure, then that failure. -/
def mapS (f : α → Except Err β) : List (α × Nat) → Term → List (β × Nat) × Term
  | [], t => ([], t)
  | (a, c) :: L, t =>
    match f a with
    | .error e => ([], .fail e)
    | .ok b => ((b, c) :: (mapS f L t).1, (mapS f L t).2)

theorem map_sden (f : α → Except Err β) (hf : ∀ a e, f a = .error e → soft e = false)
    {m : SM σ α} {cost : σ → Nat} {s : σ} {L : List (α × Nat)} {t : Term} (h : SDen soft m cost s L t) :
    SDen soft (map f m) (fun st => cost st.inner) ⟨s⟩ (mapS f L t).1 (mapS f L t).2 := by
  have _tie := Skeleton.Tie.stMap
  have hstep : ∀ (_ : Unit) s c, _ := fun _ s c => map_step f m ⟨s⟩ c
  refine sden_pull hstep (fun _ => mapS f) (fun _ _ => rfl) ?_ ?_ h (x := ())
  · intro _ s a s' L t hc hs ih
    simp only [mapS]
    cases hfa : f a with
    | error e => exact .fail hc (by rw [hs, mapOn_item, hfa]) (hf a e hfa)
    | ok b => exact .item hc (by rw [hs, mapOn_item, hfa]) (ih ())
  · intro _ s s' hc hs he hk
    exact .done_pull (fun st => st.inner) (hstep ()) (fun _ s' => mapOn_end f s') (fun _ => rfl) hc hs he hk

def filterS (keep : α → Except Err Bool) : List (α × Nat) → Term → List (α × Nat) × Term
  | [], t => ([], t)
  | (a, c) :: L, t =>
    match keep a with
    | .error e => ([], .fail e)
    | .ok true => ((a, c) :: (filterS keep L t).1, (filterS keep L t).2)
    | .ok false => filterS keep L t

theorem filter_sden (keep : α → Except Err Bool) (hf : ∀ a e, keep a = .error e → soft e = false)
    {m : SM σ α} {cost : σ → Nat} {s : σ} {L : List (α × Nat)} {t : Term} (h : SDen soft m cost s L t) :
    SDen soft (filter keep m) (fun st => cost st.inner) ⟨s⟩ (filterS keep L t).1 (filterS keep L t).2 := by
  have _tie := Skeleton.Tie.stFilter
  have hstep : ∀ (_ : Unit) s c, _ := fun _ s c => filter_step keep m ⟨s⟩ c
  refine sden_pull hstep (fun _ => filterS keep) (fun _ _ => rfl) ?_ ?_ h (x := ())
  · intro _ s a s' L t hc hs ih
    simp only [filterS]
    cases hfa : keep a with
    | error e => exact .fail hc (by rw [hs, filterOn_item, hfa]) (hf a e hfa)
    | ok b =>
      cases b with
      | true => exact .item hc (by rw [hs, filterOn_item, hfa]) (ih ())
      | false => exact .skip hc (by rw [hs, filterOn_item, hfa]) (ih ())
  · intro _ s s' hc hs he hk
    exact .done_pull (fun st => st.inner) (hstep ()) (fun _ s' => filterOn_end keep s') (fun _ => rfl) hc hs he hk

/-- chunks of annotated items; a trailing partial chunk is delivered only if the source *ended*
(a failure drops it: it is not an output that the items seen so far determine) -/
def chunkGoS (n : Nat) : List α → List (α × Nat) → Term → List (List α × Nat)
  | pend, [], .end_ e => if pend.length > 0 then [(pend, e)] else []
  | _, [], .fail _ => []
  | pend, (a, c) :: L, t =>
    if (pend ++ [a]).length = n then (pend ++ [a], c) :: chunkGoS n [] L t else chunkGoS n (pend ++ [a]) L t

theorem chunk_sden (n : Nat) {m : SM σ α} {cost : σ → Nat} {s : σ} {L : List (α × Nat)} {t : Term}
    (h : SDen soft m cost s L t) (pend : List α) :
    SDen soft (chunk (n : Int) m) (fun st => cost st.inner) ⟨s, pend⟩ (chunkGoS n pend L t) t := by
  have _tie := Skeleton.Tie.stChunk
  have hstep : ∀ (pend : List α) s c, _ := fun pend s c => chunk_step (n : Int) m ⟨s, pend⟩ c
  refine sden_pull hstep (fun pend L t => (chunkGoS n pend L t, t)) (fun _ _ => rfl) ?_ ?_ h
  · intro pend s a s' L t hc hs ih
    simp only [chunkOn_item, stChunkFull_eq] at hs
    simp only [chunkGoS]
    by_cases hf : (pend ++ [a]).length = n
    · rw [if_pos hf]
      exact .item hc (by rw [hs, if_pos (decide_eq_true hf)]) (ih [])
    · rw [if_neg hf]
      exact .skip hc (by rw [hs, if_neg (mt of_decide_eq_true hf)]) (ih _)
  · intro pend s s' hc hs he hk
    have hend : ∀ s s' : σ, chunkOn (n : Int) (⟨s, []⟩ : ChunkSt σ α) s' .end_ = (.end_, ⟨s', []⟩) :=
      fun _ _ => by simp [stChunkFlush]
    simp only [chunkGoS]
    by_cases hp : pend.length > 0
    · rw [if_pos hp]
      have hw := sended_pull (cost := cost) (fun st => st.inner) (hstep []) hend (fun _ => rfl) he hk
      exact .item (ctxOk_pull (chunk_step _ m _) rfl hc) (by simp [chunk_step, hs, pullThen, stChunkFlush, hp])
        (sden_of_ended (cost := fun st : ChunkSt σ α => cost st.inner) hw.1 hw.2)
    · obtain rfl : pend = [] := List.eq_nil_of_length_eq_zero (by omega)
      rw [if_neg hp]
      exact .done_pull (fun st => st.inner) (hstep []) hend (fun _ => rfl) hc hs he hk

theorem compactGo_nil (eq : α → α → Bool) (P : Option α) : Seq.compactGo eq P [] = [] := by cases P <;> rfl

theorem compact_sden (eq : α → α → Bool) {m : SM σ α} {cost : σ → Nat} {s : σ} {L : List (α × Nat)} {t : Term}
    (h : SDen soft m cost s L t) (P : Option (α × Nat)) :
    SDen soft (compact eq m) (fun st => cost st.inner) ⟨s, P.isNone, P.map Prod.fst⟩
      (Seq.compactGo (fun p q => eq p.1 q.1) P L) t := by
  have _tie := Skeleton.Tie.stCompact
  have hstep : ∀ (P : Option (α × Nat)) s c, _ :=
    fun P s c => compact_step eq m ⟨s, P.isNone, P.map Prod.fst⟩ c
  refine sden_pull hstep (fun P L t => (Seq.compactGo (fun p q => eq p.1 q.1) P L, t))
    (fun P e => by rw [compactGo_nil]) ?_ ?_ h
  · intro P s a s' L t hc hs ih
    rw [compactOn_item] at hs
    cases P with
    | none => exact .item hc (by rw [hs]; rfl) (ih (some (a, cost s')))
    | some p =>
      simp only [Seq.compactGo]
      by_cases hq : eq p.1 a = true
      · rw [if_pos hq]
        exact .skip hc (by rw [hs]; simp [hq]) (ih (some p))
      · rw [if_neg hq]
        exact .item hc (by rw [hs]; simp [hq]) (ih (some (a, cost s')))
  · intro P s s' hc hs he hk
    simp only [compactGo_nil]
    exact .done_pull (fun st => st.inner) (hstep P) (fun _ _ => compactOn_end ..) (fun _ => rfl) hc hs he hk

/-- how `First(s, k)` terminates: after `k` items with the end (no further pull), otherwise as the source does -/
def firstTermS : Nat → Nat → List (α × Nat) → Term → Term
  | c0, 0, _, _ => .end_ c0
  | _, _ + 1, [], t => t
  | _, k + 1, (_, c) :: L, t => firstTermS c k L t

/-- the cost of the state matters only when no item is wanted any more -/
theorem firstTermS_pos (c0 c1 : Nat) {k : Nat} (hk : 0 < k) (L : List (α × Nat)) (t : Term) :
    firstTermS c0 k L t = firstTermS c1 k L t := by
  obtain ⟨k, rfl⟩ : ∃ j, k = j + 1 := ⟨k - 1, by omega⟩
  cases L with
  | nil => rfl
  | cons p L => rfl

theorem first_zero {m : SM σ α} {cost : σ → Nat} (s : σ) (x : Int) (hx : x ≤ 0) :
    SDen soft (first m) (fun st => cost st.inner) ⟨s, x⟩ [] (.end_ (cost s)) :=
  sden_fixed (first_step_done m ⟨s, x⟩ hx)

theorem first_sden {m : SM σ α} {cost : σ → Nat} {s : σ} {L : List (α × Nat)} {t : Term}
    (h : SDen soft m cost s L t) (x : Int) :
    SDen soft (first m) (fun st => cost st.inner) ⟨s, x⟩ (L.take x.toNat) (firstTermS (cost s) x.toNat L t) := by
  have _tie := Skeleton.Tie.stFirst
  by_cases hx : x ≤ 0
  · rw [Int.toNat_of_nonpos hx]
    exact first_zero s x hx
  have hstep : ∀ (x : { x : Int // 0 < x }) s c, _ := fun x s c => first_step m ⟨s, x.1⟩ x.2 c
  have hsucc : ∀ x : { x : Int // 0 < x }, x.1.toNat = (x.1 - 1).toNat + 1 := fun x => by omega
  rw [firstTermS_pos (cost s) 0 (by omega)]
  refine sden_pull hstep (fun x L t => (L.take x.1.toNat, firstTermS 0 x.1.toNat L t))
    (fun x e => by rw [hsucc x]; rfl) ?_ ?_ h (x := ⟨x, by omega⟩)
  · intro x s a s' L t hc hs ih
    rw [firstOn_item] at hs
    simp only [hsucc x, List.take_succ_cons, firstTermS]
    refine .item hc (by rw [hs]) ?_
    by_cases h0 : x.1 - 1 ≤ 0
    · rw [Int.toNat_of_nonpos h0]
      exact first_zero s' (x.1 - 1) h0
    · rw [firstTermS_pos (cost s') 0 (by omega)]
      exact ih ⟨x.1 - 1, by omega⟩
  · intro x s s' hc hs he hk
    simp only [hsucc x, List.take_nil, firstTermS]
    exact .done_pull (fun st => st.inner) (hstep x) (fun _ _ => firstOn_end ..) (fun _ => rfl) hc hs he hk

/-- `While` with a failing callback: the passing prefix, then the end (with the first item that fails
the test), or the callback's failure. -/
def whileS (f : α → Except Err Bool) : List (α × Nat) → Term → List (α × Nat) × Term
  | [], t => ([], t)
  | (a, c) :: L, t =>
    match f a with
    | .error e => ([], .fail e)
    | .ok false => ([], .end_ c)
    | .ok true => ((a, c) :: (whileS f L t).1, (whileS f L t).2)

theorem while_sden (f : α → Except Err Bool) (hf : ∀ a e, f a = .error e → soft e = false)
    {m : SM σ α} {cost : σ → Nat} {s : σ} {L : List (α × Nat)} {t : Term} (h : SDen soft m cost s L t) :
    SDen soft (while_ f m) (fun st => cost st.inner) ⟨s, none, false⟩ (whileS f L t).1 (whileS f L t).2 := by
  have _tie := Skeleton.Tie.stWhile
  have hstep : ∀ (_ : Unit) s c, _ := fun _ s c => while_step f m s c
  refine sden_pull hstep (fun _ => whileS f) (fun _ _ => rfl) ?_ ?_ h (x := ())
  · intro _ s a s' L t hc hs ih
    rw [whileOn_item, whileEval_eq] at hs
    simp only [whileS]
    cases hfa : f a with
    | error e => exact .fail hc (by rw [hs, hfa]) (hf a e hfa)
    | ok b =>
      cases b with
      | true => exact .item hc (by simp [hs, hfa]) (ih ())
      | false =>
        have hfix := while_step_done f m s' (some a)
        exact .done (cost := fun st : WhileSt σ α => cost st.inner) hc
          (by simp [hs, hfa]) (sended_fixed hfix)
          (fun cs => by rw [afterS_fixed hfix])
  · intro _ s s' hc hs he hk
    exact .done_pull (fun st => st.inner) (hstep ()) (fun _ _ => whileOn_end ..) (fun _ => rfl) hc hs he hk

theorem flattenSlices_buffer {m : SM σ (List α)} {cost : σ → Nat} {s : σ} (buf : List α) {L : List (α × Nat)} {t : Term}
    (h : SDen soft (flattenSlices m) (fun st => cost st.inner) ⟨s, []⟩ L t) :
    SDen soft (flattenSlices m) (fun st => cost st.inner) ⟨s, buf⟩ (buf.map (fun a => (a, cost s)) ++ L) t := by
  induction buf with
  | nil => exact h
  | cons a r ih =>
    exact .item (ctxOk_const (flattenSlices_step_cons m s a r)) (flattenSlices_step_cons m s a r true) ih

theorem flattenSlices_sden {m : SM σ (List α)} {cost : σ → Nat} {s : σ} {L : List (List α × Nat)} {t : Term}
    (h : SDen soft m cost s L t) :
    SDen soft (flattenSlices m) (fun st => cost st.inner) ⟨s, []⟩
      (L.flatMap fun p => p.1.map fun a => (a, p.2)) t := by
  have _tie := Skeleton.Tie.stFlattenSlices
  have hstep : ∀ (_ : Unit) s c, _ := fun _ s c => flattenSlices_step_nil m s c
  refine sden_pull hstep (fun _ L t => (L.flatMap fun p => p.1.map fun a => (a, p.2), t)) (fun _ _ => rfl)
    ?_ ?_ h (x := ())
  · intro _ s xs s' L t hc hs ih
    simp only [List.flatMap_cons]
    exact .skip hc (by rw [hs, flattenSlicesOn_item]) (flattenSlices_buffer xs (ih ()))
  · intro _ s s' hc hs he hk
    exact .done_pull (fun st => st.inner) (hstep ()) (fun _ _ => flattenSlicesOn_end ..) (fun _ => rfl) hc hs he hk

variable {τ : Type w}

theorem peek_sden {m : SM σ α} {cost : σ → Nat} {s : σ} {L : List (α × Nat)} {t : Term}
    (h : SDen soft m cost s L t) : SDen soft (withPeek m) (fun st => cost st.inner) ⟨s, none⟩ L t := by
  have _tie := Skeleton.Tie.stPeek
  have hstep : ∀ (_ : Unit) s c, (withPeek m).step ⟨s, none⟩ c = _ := fun _ s c => peekNext_step_none m s c
  refine sden_pull hstep (fun _ L t => (L, t)) (fun _ _ => rfl) ?_ ?_ h (x := ())
  · intro _ s a s' L t hc hs ih
    exact .item hc hs (ih ())
  · intro _ s s' hc hs he hk
    exact .done_pull (fun st => st.inner) (hstep ()) (fun _ _ => rfl) (fun _ => rfl) hc hs he hk

theorem peek_sden_has {m : SM σ α} {cost : σ → Nat} {s : σ} {L : List (α × Nat)} {t : Term} (a : α)
    (h : SDen soft m cost s L t) : SDen soft (withPeek m) (fun st => cost st.inner) ⟨s, some a⟩ ((a, cost s) :: L) t :=
  have hstep : ∀ c, (withPeek m).step ⟨s, some a⟩ c = (.item a, ⟨s, none⟩) := peekNext_step_some m s a
  .item (ctxOk_const hstep) (hstep true) (peek_sden h)

/-- outputs / termination of one inner stream followed by `rest` / `t`: a failing inner stream ends everything -/
def innerOut (ti : Term) (A rest : List (α × Nat)) : List (α × Nat) :=
  match ti with
  | .fail _ => A
  | .end_ _ => A ++ rest

def innerTerm (ti t : Term) : Term :=
  match ti with
  | .fail e => .fail e
  | .end_ _ => t

theorem innerOut_cons (ti : Term) (p : α × Nat) (A rest : List (α × Nat)) :
    innerOut ti (p :: A) rest = p :: innerOut ti A rest := by cases ti <;> rfl

/-- what `Flatten` yields: the inner sequences one after the other; a failing inner stream ends it -/
def flattenS (D : τ → List α × Term) : List (τ × Nat) → Term → List (α × Nat) × Term
  | [], t => ([], t)
  | (x, k) :: Lo, t =>
    (innerOut (D x).2 ((D x).1.map (fun a => (a, k))) (flattenS D Lo t).1, innerTerm (D x).2 (flattenS D Lo t).2)

theorem flatten_inner {mo : SM σ τ} {mi : SM τ α} {co : σ → Nat} {ci : τ → Nat} {so : σ} {x : τ}
    {Li : List (α × Nat)} {ti : Term} (hi : SDen soft mi ci x Li ti) (fin : List τ)
    {rest : List (α × Nat)} {t : Term}
    (hr : ∀ fin', SDen soft (flatten mo mi) (fun st => co st.outer) ⟨so, none, fin'⟩ rest t) :
    SDen soft (flatten mo mi) (fun st => co st.outer) ⟨so, some x, fin⟩
      (innerOut ti (Li.map (fun p => (p.1, co so))) rest) (innerTerm ti t) := by
  have hstep : ∀ (_ : Unit) x c, _ := fun _ x c => flatten_step_some mo mi so x fin c
  refine sden_pull hstep (fun _ Li ti => (innerOut ti (Li.map (fun p => (p.1, co so))) rest, innerTerm ti t))
    (fun _ _ => rfl) ?_ ?_ hi (x := ())
  · intro _ x a x' Li ti hc hs ih
    simp only [List.map_cons, innerOut_cons]
    exact .item hc (by rw [hs, flattenInnerOn_item]) (ih ())
  · intro _ x x' hc hs _ _
    exact .skip (s' := ⟨so, none, fin ++ [mi.close x']⟩) (ctxOk_pull (flatten_step_some mo mi so x fin) rfl hc)
      (by rw [flatten_step_some, hs]; simp [pullThen, stFlattenClosesEnded, stFlattenClearsCurr]) (hr _)

/-- `Flatten`: every inner stream `x` yielded by the outer one denotes `D x`. -/
theorem flatten_sden {mo : SM σ τ} {mi : SM τ α} {co : σ → Nat} (D : τ → List α × Term) {so : σ}
    {Lo : List (τ × Nat)} {t : Term} (ho : SDen soft mo co so Lo t)
    (hD : ∀ p ∈ Lo, ∃ (ci : τ → Nat) (Li : List (α × Nat)), SDen soft mi ci p.1 Li (D p.1).2 ∧ Li.map Prod.fst = (D p.1).1)
    (fin : List τ) :
    SDen soft (flatten mo mi) (fun st => co st.outer) ⟨so, none, fin⟩ (flattenS D Lo t).1 (flattenS D Lo t).2 := by
  have _tie := Skeleton.Tie.stFlatten
  have hstep : ∀ (fin : List τ) s c, _ := fun fin s c => flatten_step_none mo mi s fin c
  induction ho generalizing fin with
  | skip hc hs _ ih =>
    exact .skip (ctxOk_pull (hstep fin _) rfl hc) (by rw [hstep fin _ _, hs]; rfl) (ih hD fin)
  | soft hc hs he _ ih =>
    exact .soft (ctxOk_pull (hstep fin _) rfl hc) (by rw [hstep fin _ _, hs]; rfl) he (ih hD fin)
  | @item s s' x L t hc hs _ ih =>
    obtain ⟨ci, Li, hi, hLi⟩ := hD (x, co s') (by simp)
    have := flatten_inner (mo := mo) (co := co) (so := s') hi fin (fun fin' => ih (fun p hp => hD p (by simp [hp])) fin')
    simp only [flattenS]
    refine .skip (ctxOk_pull (hstep fin _) rfl hc)
      (by rw [hstep fin _ _, hs]; exact flattenOuterOn_item ..) ?_
    rw [← hLi, List.map_map]
    exact this
  | fail hc hs he =>
    exact .fail (ctxOk_pull (hstep fin _) rfl hc) (by rw [hstep fin _ _, hs]; rfl) he
  | done hc hs he hk =>
    exact .done_pull (fun st => st.outer) (hstep fin) (fun _ _ => flattenOuterOn_end ..) (fun _ => rfl) hc hs he hk

def joinS (D : σ → List α × Term) : List σ → List (α × Nat) × Term
  | [] => ([], .end_ 0)
  | s :: r => (innerOut (D s).2 ((D s).1.map (fun a => (a, 0))) (joinS D r).1, innerTerm (D s).2 (joinS D r).2)

theorem join_head {m : SM σ α} {ci : σ → Nat} {s : σ} {Li : List (α × Nat)} {ti : Term} (hi : SDen soft m ci s Li ti)
    (r fin : List σ) {rest : List (α × Nat)} {t : Term}
    (hr : ∀ fin', SDen soft (join m) (fun _ => 0) ⟨r, fin'⟩ rest t) :
    SDen soft (join m) (fun _ => 0) ⟨s :: r, fin⟩ (innerOut ti (Li.map (fun p => (p.1, 0))) rest) (innerTerm ti t) := by
  have hstep : ∀ (_ : Unit) s c, _ := fun _ s c => join_step m s r fin c
  refine sden_pull hstep (fun _ Li ti => (innerOut ti (Li.map (fun p => (p.1, 0))) rest, innerTerm ti t))
    (fun _ _ => rfl) ?_ ?_ hi (x := ())
  · intro _ s a s' Li ti hc hs ih
    simp only [List.map_cons, innerOut_cons]
    exact .item (cost := fun _ => 0) hc (by rw [hs, joinOn_item]) (ih ())
  · intro _ s s' hc hs _ _
    exact .skip (s' := ⟨r, fin ++ [m.close s']⟩) (ctxOk_pull (join_step m s r fin) rfl hc)
      (by rw [join_step, hs]; simp [pullThen, stJoinClosesEnded, stJoinAdvances]) (hr _)

theorem join_sden {m : SM σ α} (D : σ → List α × Term) (ss : List σ)
    (hD : ∀ s ∈ ss, ∃ (ci : σ → Nat) (Li : List (α × Nat)), SDen soft m ci s Li (D s).2 ∧ Li.map Prod.fst = (D s).1)
    (fin : List σ) : SDen soft (join m) (fun _ => 0) ⟨ss, fin⟩ (joinS D ss).1 (joinS D ss).2 := by
  have _tie := Skeleton.Tie.stJoin
  induction ss generalizing fin with
  | nil => exact sden_fixed (cost := fun _ => 0) (join_step_nil m fin)
  | cons s r ih =>
    obtain ⟨ci, Li, hi, hLi⟩ := hD s (by simp)
    have := join_head hi r fin (fun fin' => ih (fun s hs => hD s (by simp [hs])) fin')
    simp only [joinS]
    rw [← hLi, List.map_map]
    exact this

end Juniper.Proofs.StreamDen
