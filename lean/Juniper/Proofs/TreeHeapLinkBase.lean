import Juniper.Proofs.TreeHistory
import Juniper.Proofs.TreeSlotsOpsHeap
/-!
# Linking the two B-tree models (C03): the abstraction relation

`Model/BTree.lean` is a labelled functional tree (`Node.mk id kvs kids`), `Model/BTreeSlotsOps.lean` a
heap of slot-level nodes with parent pointers. `Sub g p x` says that the store `g` (a partial function
from node identities to slot-level nodes) contains the functional subtree `x` hanging below parent
pointer `p`: the node object `x.id` is there, its three arrays represent (`NodeRep`) exactly the
entries of `x` and the identities of the children of `x`, its parent pointer is `p`, and the same holds
recursively for the children (with parent pointer `x.id`).

Which identities a subtree holds, and that they are distinct, is said by counting them (`cnt`, `cntK` of
`Proofs/TreeNodeOps.lean`).
-/
namespace Juniper.Proofs.TreeHeapLink
open Juniper Juniper.Model.BTree Juniper.Model.BTreeSlotsOps Juniper.Proofs.Tree Juniper.Proofs.TreeSlotsOps

variable {K V : Type}

/-- a store: node identity ↦ node object (`none` = never allocated or unlinked) -/
abbrev Store (K V : Type) := Nat → Option (SNode K V Nat)

def withParent (p : Option Nat) (y : SNode K V Nat) : SNode K V Nat := { y with parent := p }

@[simp] theorem withParent_parent (p : Option Nat) (y : SNode K V Nat) : (withParent p y).parent = p := rfl
@[simp] theorem withParent_n (p : Option Nat) (y : SNode K V Nat) : (withParent p y).n = y.n := rfl
@[simp] theorem withParent_keys (p : Option Nat) (y : SNode K V Nat) : (withParent p y).keys = y.keys := rfl
@[simp] theorem withParent_vals (p : Option Nat) (y : SNode K V Nat) : (withParent p y).vals = y.vals := rfl
@[simp] theorem withParent_kids (p : Option Nat) (y : SNode K V Nat) : (withParent p y).kids = y.kids := rfl
@[simp] theorem withParent_withParent (p q : Option Nat) (y : SNode K V Nat) :
    withParent p (withParent q y) = withParent p y := rfl

theorem nodeRep_withParent {p : Option Nat} {y : SNode K V Nat} {kvs : List (K × V)} {kids : List Nat}
    (h : NodeRep y kvs kids) : NodeRep (withParent p y) kvs kids :=
  ⟨h.hn, h.hkeys, h.hvals, h.hkids, h.hshape⟩

/-- the functional subtree `x` is in the store `g`, below parent pointer `p` -/
def Sub (g : Store K V) : Option Nat → Node K V → Prop
  | p, .mk id kvs kids =>
    ∃ sx, g id = some sx ∧ sx.parent = p ∧ NodeRep sx kvs (kids.map Node.id) ∧ ∀ c ∈ kids, Sub g (some id) c
termination_by _ x => sizeOf x
decreasing_by
  have := List.sizeOf_lt_of_mem ‹c ∈ kids›
  simp only [Node.mk.sizeOf_spec]
  omega

theorem sub_mk {g : Store K V} {p : Option Nat} {id : Nat} {kvs : List (K × V)} {kids : List (Node K V)} :
    Sub g p (.mk id kvs kids) ↔
      ∃ sx, g id = some sx ∧ sx.parent = p ∧ NodeRep sx kvs (kids.map Node.id) ∧ ∀ c ∈ kids, Sub g (some id) c := by
  rw [Sub]

theorem Sub.congr {g g' : Store K V} : ∀ (x : Node K V) {p : Option Nat},
    (∀ j, 0 < cnt j x → g' j = g j) → Sub g p x → Sub g' p x := by
  intro x
  induction x using node_induct with
  | h id kvs kids ih =>
    intro p hfr hs
    obtain ⟨sx, h1, h2, h3, h4⟩ := sub_mk.mp hs
    refine sub_mk.mpr ⟨sx, ?_, h2, h3, ?_⟩
    · rw [hfr id (by rw [cnt_mk]; simp; omega)]; exact h1
    · intro c hc
      exact ih c hc (fun j hj => hfr j (by have := cnt_child_le (id := id) (kvs := kvs) hc j; omega)) (h4 c hc)

theorem Sub.root {g : Store K V} {p : Option Nat} {x : Node K V} (h : Sub g p x) :
    ∃ sx, g x.id = some sx ∧ sx.parent = p ∧ NodeRep sx x.kvs (x.kids.map Node.id) := by
  obtain ⟨id, kvs, kids⟩ := x
  obtain ⟨sx, h1, h2, h3, _⟩ := sub_mk.mp h
  exact ⟨sx, h1, h2, h3⟩

theorem Sub.at {g : Store K V} : ∀ (x : Node K V) {p : Option Nat}, Sub g p x → ∀ j, 0 < cnt j x →
    ∃ (sy : SNode K V Nat) (ykvs : List (K × V)) (ykids : List (Node K V)), g j = some sy ∧ NodeRep sy ykvs (ykids.map Node.id) ∧
      ∀ c ∈ ykids, 0 < cnt c.id x := by
  intro x
  induction x using node_induct with
  | h id kvs kids ih =>
    intro p hs j hj
    obtain ⟨sx, h1, h2, h3, h4⟩ := sub_mk.mp hs
    by_cases hid : id = j
    · subst hid
      refine ⟨sx, kvs, kids, h1, h3, fun c hc => ?_⟩
      have := cnt_self c
      have := cnt_child_le (id := id) (kvs := kvs) hc c.id
      omega
    · rw [cnt_mk, if_neg hid, Nat.zero_add] at hj
      obtain ⟨i, c, hci, hcj⟩ := exists_child_index hj
      have hc := List.mem_of_getElem? hci
      obtain ⟨sy, ykvs, ykids, e1, e2, e4⟩ := ih c hc (h4 c hc) j hcj
      refine ⟨sy, ykvs, ykids, e1, e2, ?_⟩
      intro d hd
      have := e4 d hd
      have := cnt_child_le (id := id) (kvs := kvs) hc d.id
      omega

theorem Sub.present {g : Store K V} : ∀ (x : Node K V) {p : Option Nat}, Sub g p x → ∀ j, 0 < cnt j x → (g j).isSome := by
  intro x p hs j hj
  obtain ⟨sy, _, _, e, _⟩ := Sub.at x hs j hj
  rw [e]; rfl

theorem Sub.reparent {g g' : Store K V} {q q' : Option Nat} {x : Node K V} (hs : Sub g q x)
    (hnd : cnt x.id x ≤ 1)
    (hroot : g' x.id = (g x.id).map (withParent q'))
    (hrest : ∀ j, 0 < cnt j x → j ≠ x.id → g' j = g j) : Sub g' q' x := by
  obtain ⟨id, kvs, kids⟩ := x
  obtain ⟨sx, h1, h2, h3, h4⟩ := sub_mk.mp hs
  simp only [Node.id] at hroot hrest hnd
  refine sub_mk.mpr ⟨withParent q' sx, by rw [hroot, h1]; rfl, rfl, nodeRep_withParent h3, ?_⟩
  intro c hc
  refine Sub.congr c (fun j hj => ?_) (h4 c hc)
  have hle := cnt_child_le (id := id) (kvs := kvs) hc j
  exact hrest j (by omega) (by rintro rfl; exact ne_of_cnt hnd hc hj rfl)

theorem not_mem_ids {F : List (Node K V)} {j : Nat} (h : cntK j F = 0) : j ∉ F.map Node.id := by
  intro hm
  obtain ⟨d, hd, rfl⟩ := List.mem_map.mp hm
  have := cntK_pos_of_mem hd
  omega

/-- an unchanged root object, seen as "re-parented to the parent it has" -/
theorem Sub.root_keep {g g' : Store K V} {q : Option Nat} {d : Node K V} (hs : Sub g q d) (he : g' d.id = g d.id) :
    g' d.id = (g d.id).map (withParent q) := by
  obtain ⟨sd, h1, h2, _⟩ := hs.root
  rw [he, h1]
  subst h2
  rfl

end Juniper.Proofs.TreeHeapLink
