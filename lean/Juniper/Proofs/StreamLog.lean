import Juniper.Proofs.StreamClose
/-!
# The ghost call log of a source behind a pipeline of arbitrary depth (C09)

`lsrc` is the scripted source of `Model/Stream.lean` with an explicit log of the calls it receives
(`Call.next live` / `Call.close`), in order. Any machine that `Forwards` to it — in particular every
`SPipe` pipeline, whatever its depth — makes it see, for a consumer that calls `Next` any number of
times (any contexts, stopping wherever it likes) and then `Close` once: some `Next` calls and then exactly
one `Close` — no `Next` after `Close`, no second `Close`; and every step of the pipeline adds at most one
complete call to the log (calls are made, and finished, inside the consumer's own call: the combinators
start no goroutine — regenerated fact `combConcurrencyOps = 0`).
-/
namespace Juniper.Proofs.StreamDen
open Juniper.Model Juniper.Model.Stream Juniper.Gen.Comb
variable {α : Type}

inductive Call where
  | next (live : Bool)
  | close
  deriving DecidableEq, Repr

/-- the scripted source together with the log of the calls it has received -/
structure LSrc (α : Type) where
  s : Src α
  log : List Call := []

/-- the logged source: behaves exactly like `src` on its `s` component -/
def lsrc : SM (LSrc α) α :=
  ⟨fun st c => ((srcStep st.s c).1, ⟨(srcStep st.s c).2, st.log ++ [.next c]⟩),
   fun st => ⟨srcClose st.s, st.log ++ [.close]⟩⟩

theorem lsrc_simulates (st : LSrc α) (c : Bool) :
    (lsrc.step st c).1 = (src.step st.s c).1 ∧ (lsrc.step st c).2.s = (src.step st.s c).2 ∧
      (lsrc.close st).s = src.close st.s := ⟨rfl, rfl, rfl⟩

theorem lsrc_afterS_log (ds : List Bool) (st : LSrc α) :
    (afterS lsrc ds st).log = st.log ++ ds.map Call.next := by
  induction ds generalizing st with
  | nil => simp [afterS]
  | cons d ds ih =>
    simp only [afterS, List.map_cons]
    rw [ih]
    simp [lsrc]

/-- the shape the property demands of a source's log: `Next` calls, then one `Close`, nothing after -/
def NextsThenClose (log : List Call) : Prop := ∃ ds : List Bool, log = ds.map Call.next ++ [.close]

def closeCount (log : List Call) : Nat := log.count .close

/-- some `Next` arrives after a `Close` -/
def nextAfterClose : List Call → Bool
  | [] => false
  | .close :: r => r.any (fun c => c != .close) || nextAfterClose r
  | .next _ :: r => nextAfterClose r

theorem nextsThenClose_spec {log : List Call} (h : NextsThenClose log) :
    closeCount log = 1 ∧ nextAfterClose log = false ∧ log.getLast? = some .close := by
  obtain ⟨ds, rfl⟩ := h
  refine ⟨?_, ?_, by simp⟩
  · induction ds with
    | nil => rfl
    | cons d ds ih => simpa [closeCount, List.count_cons] using ih
  · induction ds with
    | nil => rfl
    | cons d ds ih => simpa [nextAfterClose] using ih

theorem forwards_call_log {σ' : Type} {γ : Type} {m' : SM σ' γ} {proj : σ' → LSrc α} (h : Forwards lsrc m' proj)
    (t : σ') (cs : List Bool) :
    ∃ ds : List Bool, (proj (m'.close (afterS m' cs t))).log = (proj t).log ++ ds.map Call.next ++ [.close] := by
  obtain ⟨ds, hds⟩ := forwards_final h t cs
  refine ⟨ds, ?_⟩
  rw [hds]
  show (afterS lsrc ds (proj t)).log ++ [Call.close] = _
  rw [lsrc_afterS_log]

/-- every step of a forwarding wrapper adds at most one call to the source's log — a complete `Next`
under the step's own context — and its `Close` adds exactly the one `Close` -/
def AtomicCalls {σ' : Type} {γ : Type} (m' : SM σ' γ) (proj : σ' → LSrc α) : Prop :=
  (∀ t c, (proj (m'.step t c).2).log = (proj t).log ∨ (proj (m'.step t c).2).log = (proj t).log ++ [.next c]) ∧
  (∀ t, (proj (m'.close t)).log = (proj t).log ++ [.close])

theorem forwards_atomic {σ' : Type} {γ : Type} {m' : SM σ' γ} {proj : σ' → LSrc α} (h : Forwards lsrc m' proj) :
    AtomicCalls m' proj := by
  refine ⟨fun t c => ?_, fun t => ?_⟩
  · rcases h.step t c with hh | hh
    · left; rw [hh]
    · right; rw [hh]; rfl
  · rw [h.close]; rfl

theorem forwards_log_append {σ' : Type} {γ : Type} {m' : SM σ' γ} {proj : σ' → LSrc α} (h : Forwards lsrc m' proj)
    (t : σ') (cs1 cs2 : List Bool) :
    ∃ ds1 ds2 : List Bool, (proj (afterS m' cs1 t)).log = (proj t).log ++ ds1.map Call.next ∧
      (proj (afterS m' (cs1 ++ cs2) t)).log = (proj t).log ++ ds1.map Call.next ++ ds2.map Call.next := by
  obtain ⟨ds1, h1⟩ := h.afterS cs1 t
  obtain ⟨ds2, h2⟩ := h.afterS cs2 (afterS m' cs1 t)
  refine ⟨ds1, ds2, by rw [h1, lsrc_afterS_log], ?_⟩
  rw [afterS_append, h2, lsrc_afterS_log, h1, lsrc_afterS_log]

end Juniper.Proofs.StreamDen
