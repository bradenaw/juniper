import Juniper.Proofs.DequeIter
/-!
# Every call refines the ideal sequence; the representation invariant `WF`

`Rep.applyOp`: one call on a state representing `l` returns what `Spec.Deque.step l` returns, the new state
represents the new sequence, and the state is untouched or the modification counter moved (`GenStep`).
`WF d := Rep d (contents d)`, spelled out slot by slot in `WF.bounds`, `WF.dead_slots_none`, `WF.live_slots`.
-/
namespace Juniper.Proofs.Deque
open Juniper.Gen.Deque Juniper.Model.Deque
open Juniper.Spec.Deque (Op Out Obs SnapshotOrPanic)
variable {α : Type}

theorem Rep.contents_eq {d : Deque α} {l : List α} (h : Rep d l) : contents d = l := by
  unfold contents; rw [h.window_eq]; simp

/-- How a call moves the modification counter: the state is untouched, or the counter does not
decrease and — given the generated presence facts — strictly increases. -/
def GenStep (d d' : Deque α) : Prop :=
  d' = d ∨ (d.gen ≤ d'.gen ∧ (GenFacts → d.gen < d'.gen))

theorem genStep_bump {d d' : Deque α} {b : Bool} (hg : d'.gen = bump b d.gen)
    (hb : GenFacts → b = true) : GenStep d d' := by
  refine Or.inr ⟨by rw [hg]; exact le_bump _ _, fun f => ?_⟩
  rw [hg]; exact lt_bump (hb f) _

theorem genStep_resize {d d' : Deque α}
    (hg : d' = d ∨ d'.gen = bump resizeBumpsGen d.gen) : GenStep d d' := by
  rcases hg with hg | hg
  · exact Or.inl hg
  · exact genStep_bump hg (fun f => f.2.2.2.2.2.2.1)

theorem Rep.applyOp {d : Deque α} {l : List α} (h : Rep d l) (o : Op α) (hc : ClearFacts) :
    Rep (applyOp d o).1 (Spec.Deque.step l o).1 ∧ (applyOp d o).2 = (Spec.Deque.step l o).2 ∧
      GenStep d (applyOp d o).1 ∧ (Spec.Deque.panics l o = true → (applyOp d o).1 = d) := by
  obtain ⟨hc1, hc2, hc3, hc4⟩ := hc
  have hne : l ≠ [] → l.isEmpty = false := List.isEmpty_eq_false_iff.2
  -- Both helpers speak of any outcomes `r`, `s` and guard `p`. They are used with `r` the model's call, `s` the
  -- ideal sequence's step, which is `if p then (l, .panic) else s'` by `rfl`, and `p` its guard.
  -- A call that the ideal sequence refuses: the model panics and leaves the state alone.
  have refused : ∀ {r : Deque α × Out α} {s s' : List α × Out α} {p : Bool}, p = true →
      s = (if p then (l, .panic) else s') → r = (d, .panic) →
      Rep r.1 s.1 ∧ r.2 = s.2 ∧ GenStep d r.1 ∧ (p = true → r.1 = d) := by
    intro r s s' p hp hs hr
    rw [hr, hs, if_pos hp]; exact ⟨h, rfl, Or.inl rfl, fun _ => rfl⟩
  have accepted : ∀ {r : Deque α × Out α} {s : List α × Out α} {p : Bool} {d' : Deque α} {l' : List α}
      {out : Out α}, p = false → s = (if p then (l, .panic) else (l', out)) → r = (d', out) → Rep d' l' →
      GenStep d d' → Rep r.1 s.1 ∧ r.2 = s.2 ∧ GenStep d r.1 ∧ (p = true → r.1 = d) := by
    intro r s p d' l' out hp hs hr h' hg
    rw [hr, hs, hp]; exact ⟨h', rfl, hg, nofun⟩
  cases o with
  | pushFront x =>
    obtain ⟨d', he, hr, hg⟩ := h.pushFront x
    exact accepted rfl rfl (congrArg outUnit he) hr (Or.inr ⟨hg.le, fun f => hg.lt f.1⟩)
  | pushBack x =>
    obtain ⟨d', he, hr, hg⟩ := h.pushBack x
    exact accepted rfl rfl (congrArg outUnit he) hr (Or.inr ⟨hg.le, fun f => hg.lt f.2.1⟩)
  | popFront =>
    by_cases hl : l = []
    · subst hl
      exact refused rfl rfl (congrArg outVal h.isEmpty_panics.1)
    · obtain ⟨d', he, hr, _, hg⟩ := h.popFront hl hc1 hc2
      refine accepted (hne hl) rfl (congrArg outVal he) hr (genStep_bump hg (fun f => ?_))
      split
      · exact f.2.2.1
      · exact f.2.2.2.1
  | popBack =>
    by_cases hl : l = []
    · subst hl
      exact refused rfl rfl (congrArg outVal h.isEmpty_panics.2.1)
    · obtain ⟨d', he, hr, _, hg⟩ := h.popBack hl hc3 hc4
      refine accepted (hne hl) rfl (congrArg outVal he) hr (genStep_bump hg (fun f => ?_))
      split
      · exact f.2.2.2.2.1
      · exact f.2.2.2.2.2.1
  | front =>
    by_cases hl : l = []
    · subst hl
      exact refused rfl rfl (congrArg outVal h.isEmpty_panics.2.2.1)
    · exact accepted (hne hl) rfl (congrArg outVal (h.frontOf hl)) h (Or.inl rfl)
  | back =>
    by_cases hl : l = []
    · subst hl
      exact refused rfl rfl (congrArg outVal h.isEmpty_panics.2.2.2)
    · exact accepted (hne hl) rfl (congrArg outVal (h.backOf hl)) h (Or.inl rfl)
  | item i =>
    by_cases hi : i < 0 ∨ (l.length : Int) ≤ i
    · exact refused (by simpa [Spec.Deque.panics] using hi) rfl (congrArg outVal (item_out_of_range h hi))
    · exact accepted (by simpa [Spec.Deque.panics] using hi) rfl
        (congrArg outVal (h.item (by omega) (by omega))) h (Or.inl rfl)
  | set i x =>
    by_cases hi : i < 0 ∨ (l.length : Int) ≤ i
    · exact refused (by simpa [Spec.Deque.panics] using hi) rfl (congrArg outUnit (set_out_of_range h x hi))
    · obtain ⟨d', he, hr, hg⟩ := h.set (i := i) (by omega) (by omega) x
      exact accepted (by simpa [Spec.Deque.panics] using hi) rfl (congrArg outUnit he) hr
        (genStep_bump hg (fun f => f.2.2.2.2.2.2.2))
  | len =>
    exact accepted rfl rfl (congrArg (fun n => (d, Out.int n)) h.len_eq) h (Or.inl rfl)
  | grow n =>
    obtain ⟨d', he, hr, _, hg⟩ := h.grow n
    exact accepted rfl rfl (congrArg outUnit he) hr (genStep_resize hg)
  | shrink n =>
    by_cases hn : n < 0
    · exact refused (by simpa [Spec.Deque.panics] using hn) rfl (congrArg outUnit (shrink_neg d hn))
    · obtain ⟨d', he, hr, _, hg⟩ := h.shrink (n := n) (by omega)
      exact accepted (by simpa [Spec.Deque.panics] using hn) rfl (congrArg outUnit he) hr (genStep_resize hg)
  | iterate =>
    exact accepted rfl rfl (by simp only [Model.Deque.applyOp, h.collect_eq]) h (Or.inl rfl)

theorem Rep.run (hc : ClearFacts) : ∀ (ops : List (Op α)) (d : Deque α) (l : List α), Rep d l →
    Rep (run d ops).1 (Spec.Deque.run l ops).1 ∧ (run d ops).2 = (Spec.Deque.run l ops).2 := by
  intro ops
  induction ops with
  | nil => intro d l h; exact ⟨h, rfl⟩
  | cons o os ih =>
    intro d l h
    obtain ⟨hr, ho, _, _⟩ := h.applyOp o hc
    obtain ⟨hr', ho'⟩ := ih _ _ hr
    simp only [Model.Deque.run, Spec.Deque.run]
    exact ⟨hr', by rw [ho, ho']⟩

/-- Representation invariant: the ring state represents its own abstract contents. -/
def WF (d : Deque α) : Prop := Rep d (contents d)

theorem Rep.wf {d : Deque α} {l : List α} (h : Rep d l) : WF d := by
  unfold WF; rw [h.contents_eq]; exact h

theorem wf_iff (d : Deque α) : WF d ↔ ∃ l, Rep d l :=
  ⟨fun h => ⟨_, h⟩, fun ⟨_, h⟩ => h.wf⟩

theorem WF.bounds {d : Deque α} (h : WF d) :
    (d.isNil = true → d.a = [] ∧ d.front = 0 ∧ d.back = 0) ∧
    (d.isNil = false →
      0 ≤ d.front ∧ (d.front < cap d ∨ (cap d = 0 ∧ d.front = 0)) ∧
      -1 ≤ d.back ∧ (d.back < cap d ∨ (cap d = 0 ∧ d.back = -1)) ∧ (d.back = -1 → d.front = 0)) ∧
    0 ≤ len d ∧ len d ≤ cap d := by
  have hlen := Rep.len_eq h
  have hle := Rep.len_le h
  have hf0 := Rep.front_nonneg h
  have hfl := Rep.front_lt h
  refine ⟨?_, ?_, by omega, by omega⟩
  · intro hn
    obtain ⟨ha, hb⟩ := Rep.nil_a h hn
    have : contents d = [] := by
      apply List.eq_nil_of_length_eq_zero
      simp only [cap, ha, List.length_nil] at hle; omega
    exact ⟨ha, Rep.front_empty h this, hb⟩
  · intro hn
    by_cases hl : contents d = []
    · have hb := Rep.back_empty h hl hn
      have hf := Rep.front_empty h hl
      have := cap_nonneg d
      refine ⟨hf0, by omega, by omega, by omega, fun _ => hf⟩
    · have ⟨hb0, hb1⟩ := Rep.back_bounds h hl
      exact ⟨hf0, by omega, by omega, by omega, fun hb => by omega⟩

/-- Raw slot `j` lies outside the live window `[front .. back]` (taken around the ring). -/
def Dead (d : Deque α) (j : Int) : Prop :=
  len d = 0 ∨ (d.front ≤ d.back ∧ (j < d.front ∨ d.back < j)) ∨
    (d.back < d.front ∧ d.back < j ∧ j < d.front)

theorem WF.dead_slots_none {d : Deque α} (h : WF d) (j : Nat) (hj : j < d.a.length)
    (hdead : Dead d j) : d.a[j]? = some none := by
  have hlen := Rep.len_eq h
  have hle := Rep.len_le h
  have hc : 0 < cap d := by unfold cap; omega
  have hf0 := Rep.front_nonneg h
  have hf1 := Rep.front_lt_cap h hc
  obtain ⟨k, hk, hkj⟩ := ridx_surj hf0 hf1 j (by unfold cap; omega)
  have hcell := Rep.cells h k hk
  rw [hkj, slot_natCast] at hcell
  rw [hcell]
  have hrk := ridx_cases d.front (cap d) k
  suffices hge : (contents d).length ≤ k by rw [List.getElem?_eq_none hge]
  by_cases hl : contents d = []
  · simp [hl]
  · have hb := Rep.back_nonempty h hl
    have hp := List.length_pos_iff.2 hl
    have hrb := ridx_cases d.front (cap d) (((contents d).length : Int) - 1)
    unfold Dead at hdead
    omega

theorem WF.live_slots {d : Deque α} (h : WF d) (k : Nat) (hk : k < (contents d).length) :
    slot d.a (ridx d.front (cap d) k) = some (some (contents d)[k]) := by
  have hle := Rep.len_le h
  rw [Rep.cells h k (by omega), List.getElem?_eq_getElem hk]

theorem spec_step_panic_iff (l : List α) (o : Op α) :
    (Spec.Deque.step l o).2 = .panic ↔ Spec.Deque.panics l o = true := by
  constructor
  · intro h
    cases hp : Spec.Deque.panics l o with
    | true => rfl
    | false =>
      exfalso
      cases o <;> simp [Spec.Deque.step, hp] at h
  · intro hp; simp [Spec.Deque.step, hp]

end Juniper.Proofs.Deque
