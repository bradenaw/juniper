import Juniper.Proofs.StreamPipe
/-!
# A failed `Next` costs nothing — stated exactly (C08, retry clause)

`Conforms (hard soft R) L t` (the reading used by `sden_next`) erases the failed calls: a machine that
answers the context error for ever satisfies it, and the identity of the transient errors is lost. Here
nothing is erased. `sden_call`: one call on a state that denotes `(L, t)` delivers what is due, or fails
with an error that `soft` counts as soft, or with the context error under its own expired context, and leaves a
state that denotes the same `(L, t)`. `SoftThru src M proj`: `M` hands the soft failures of its source through,
unchanged and only those (read off a wrapper's `X_wraps`: `Wraps.softThru`). `retry_exact` (`ExactE`): the whole
run over a scripted source, call by call — the context error only under an expired context, a transient error only
*the next one* of the script and each at most once, else the next item, the end, or the fatal error itself; a
machine that stops delivering does not satisfy it.
-/
namespace Juniper.Proofs.StreamDen
open Juniper.Model Juniper.Model.Stream Juniper.Spec Juniper.Gen.Comb
universe u v w x
variable {σ : Type u} {σ' : Type w} {α β : Type v} {γ : Type x}

section call
variable {soft : Err → Bool}

/-- what one consumer-level `Next` may do on a state that denotes `(L, t)` -/
def CallOk (soft : Err → Bool) (m : SM σ α) (cost : σ → Nat) (c : Bool) (r : Option (SStep α)) (s' : σ)
    (L : List (α × Nat)) (t : Term) : Prop :=
  (∃ e, r = some (.err e) ∧ (soft e = true ∨ (e = .ctx ∧ c = false)) ∧ SDen soft m cost s' L t) ∨
  (∃ a L', L = (a, cost s') :: L' ∧ r = some (.item a) ∧ SDen soft m cost s' L' t) ∨
  (L = [] ∧ ∃ e, t = .end_ e ∧ r = some .end_ ∧ SEnded m s') ∨
  (L = [] ∧ ∃ err, t = .fail err ∧ r = some (.err err))

/-- a call under an expired context that is answered with the context error leaves the state as it was; what is
left to show is what a call does that steps as under a live context -/
theorem callOk_of_live {m : SM σ α} {cost : σ → Nat} {s : σ} {L : List (α × Nat)} {t : Term}
    (h : SDen soft m cost s L t) (F : Nat)
    (live : ∀ g c, F ≤ g → m.step s c = m.step s true →
      CallOk soft m cost c (drive m c (g + 1) s).1 (drive m c (g + 1) s).2 L t)
    (fuel : Nat) (hf : F + 1 ≤ fuel) (c : Bool) : CallOk soft m cost c (drive m c fuel s).1 (drive m c fuel s).2 L t := by
  obtain ⟨g, rfl⟩ : ∃ g, fuel = g + 1 := ⟨fuel - 1, by omega⟩
  cases c with
  | true => exact live g true (by omega) rfl
  | false =>
    rcases h.ctxOk with hk | hk
    · have hd : drive m false (g + 1) s = (some (.err .ctx), s) := by rw [drive_succ, hk]
      rw [hd]; exact Or.inl ⟨.ctx, rfl, Or.inr ⟨rfl, rfl⟩, h⟩
    · exact live g false (by omega) hk

theorem sden_call {m : SM σ α} {cost : σ → Nat} {s : σ} {L : List (α × Nat)} {t : Term}
    (h : SDen soft m cost s L t) :
    ∃ F, ∀ fuel, F ≤ fuel → ∀ c, CallOk soft m cost c (drive m c fuel s).1 (drive m c fuel s).2 L t := by
  induction h with
  | @skip s s' L t hc hs h' ih =>
    obtain ⟨F, hF⟩ := ih
    refine ⟨F + 1, callOk_of_live (.skip hc hs h') F (fun g c hg hk => ?_)⟩
    rw [drive_succ, hk, hs]; exact hF g hg c
  | @soft s s' e L t hc hs he h' _ =>
    refine ⟨1, callOk_of_live (.soft hc hs he h') 0 (fun g c _ hk => ?_)⟩
    rw [drive_succ, hk, hs]; exact Or.inl ⟨e, rfl, Or.inl he, h'⟩
  | @item s s' a L t hc hs h' _ =>
    refine ⟨1, callOk_of_live (.item hc hs h') 0 (fun g c _ hk => ?_)⟩
    rw [drive_succ, hk, hs]; exact Or.inr (Or.inl ⟨a, L, rfl, rfl, h'⟩)
  | @fail s s' e hc hs he =>
    refine ⟨1, callOk_of_live (.fail hc hs he) 0 (fun g c _ hk => ?_)⟩
    rw [drive_succ, hk, hs]; exact Or.inr (Or.inr (Or.inr ⟨rfl, e, rfl, rfl⟩))
  | @done s s' hc hs he hk' =>
    refine ⟨1, callOk_of_live (.done hc hs he hk') 0 (fun g c _ hk => ?_)⟩
    rw [drive_succ, hk, hs]; exact Or.inr (Or.inr (Or.inl ⟨rfl, cost s', rfl, rfl, he⟩))

end call

/-- the transient failures of a script, in order -/
def transientsOf : List (Ev α) → List Nat
  | [] => []
  | .transient n :: r => n :: transientsOf r
  | _ :: r => transientsOf r

theorem transientsOf_items_append (l : List α) (r : List (Ev α)) : transientsOf (l.map Ev.item ++ r) = transientsOf r := by
  induction l with
  | nil => rfl
  | cons a l ih => simpa [transientsOf] using ih

/-- the transient failures still ahead of a source -/
def pendingT (s : Src α) : List Nat := transientsOf s.script

theorem src_soft_answer (s : Src α) (c : Bool) (e : Err) (h : (srcStep s c).1 = .err e) (he : Err.soft e = true) :
    (e = .ctx ∧ c = false ∧ pendingT (srcStep s c).2 = pendingT s) ∨
    (∃ n, e = .transient n ∧ c = true ∧ pendingT s = n :: pendingT (srcStep s c).2) := by
  have hsc := srcStep_script s c
  rw [h] at hsc
  cases e with
  | ctx => exact .inl ⟨rfl, (srcStep_ctx s c).mp h, (congrArg transientsOf hsc).symm⟩
  | transient n =>
    refine .inr ⟨n, rfl, ?_, congrArg transientsOf hsc⟩
    cases c
    · cases h.symm.trans ((srcStep_ctx s false).mpr rfl)
    · rfl
  | _ => cases he

theorem src_other_answer (s : Src α) (c : Bool) (h : ∀ e, (srcStep s c).1 = .err e → Err.soft e = false) :
    pendingT (srcStep s c).2 = pendingT s := by
  rw [pendingT, pendingT, srcStep_script s c]
  generalize (srcStep s c).1 = r at h
  cases r with
  | err e =>
    cases e with
    | transient n => cases h _ rfl
    | _ => rfl
  | _ => rfl

/-- `m'` hands the soft failures of `m` through: a step of `m'` either leaves the inner state alone and
does not answer a soft error, or makes the inner step under the same context and answers the soft error
`e` exactly when the inner step does. -/
structure SoftThru (m : SM σ α) (m' : SM σ' γ) (proj : σ' → σ) : Prop where
  step : ∀ t c,
    (proj (m'.step t c).2 = proj t ∧ ∀ e, (m'.step t c).1 = .err e → Err.soft e = false) ∨
    (proj (m'.step t c).2 = (m.step (proj t) c).2 ∧
      ∀ e, Err.soft e = true → ((m'.step t c).1 = .err e ↔ (m.step (proj t) c).1 = .err e))

theorem SoftThru.step_pending {M : SM σ' γ} {proj : σ' → Src α} (h : SoftThru src M proj) (t : σ') (c : Bool) :
    (∀ e, (M.step t c).1 = .err e → Err.soft e = true →
      (e = .ctx ∧ c = false ∧ pendingT (proj (M.step t c).2) = pendingT (proj t)) ∨
      (∃ n, e = .transient n ∧ c = true ∧ pendingT (proj t) = n :: pendingT (proj (M.step t c).2))) ∧
    ((∀ e, (M.step t c).1 = .err e → Err.soft e = false) → pendingT (proj (M.step t c).2) = pendingT (proj t)) := by
  rcases h.step t c with ⟨hp, hn⟩ | ⟨hp, hiff⟩
  · refine ⟨fun e he hs => ?_, fun _ => by rw [hp]⟩
    rw [hn e he] at hs; cases hs
  · refine ⟨fun e he hs => ?_, fun hn => ?_⟩
    · rw [hp]; exact src_soft_answer (proj t) c e ((hiff e hs).mp he) hs
    · rw [hp]
      refine src_other_answer (proj t) c (fun e he => ?_)
      cases hs : Err.soft e with
      | false => rfl
      | true => have := hn e ((hiff e hs).mpr he); rw [hs] at this; cases this

theorem SoftThru.drive_pending {M : SM σ' γ} {proj : σ' → Src α} (h : SoftThru src M proj) (c : Bool) (fuel : Nat) (t : σ') :
    (∀ e, (drive M c fuel t).1 = some (.err e) → Err.soft e = true →
      (e = .ctx ∧ c = false ∧ pendingT (proj (drive M c fuel t).2) = pendingT (proj t)) ∨
      (∃ n, e = .transient n ∧ c = true ∧ pendingT (proj t) = n :: pendingT (proj (drive M c fuel t).2))) ∧
    ((∀ e, (drive M c fuel t).1 = some (.err e) → Err.soft e = false) →
      pendingT (proj (drive M c fuel t).2) = pendingT (proj t)) := by
  induction fuel generalizing t with
  | zero => exact ⟨fun e he _ => by simp [drive] at he, fun _ => rfl⟩
  | succ g ih =>
    have hs := h.step_pending t c
    rw [drive_succ]
    rcases hx : M.step t c with ⟨r, t'⟩
    rw [hx] at hs
    simp only at hs
    cases r with
    | skip =>
      simp only
      have e0 : pendingT (proj t') = pendingT (proj t) := hs.2 (fun e he => by cases he)
      have := ih t'
      rw [e0] at this
      exact this
    | item a =>
      exact ⟨fun e he _ => (by cases he), fun _ => hs.2 (fun e he => by cases he)⟩
    | end_ =>
      exact ⟨fun e he _ => (by cases he), fun _ => hs.2 (fun e he => by cases he)⟩
    | err e0 =>
      refine ⟨fun e he hsoft => ?_, fun hn => hs.2 (fun e he => ?_)⟩
      · simp only [Option.some.injEq, SStep.err.injEq] at he
        subst he
        exact hs.1 e0 rfl hsoft
      · simp only [SStep.err.injEq] at he
        subst he
        exact hn e0 rfl

theorem Wraps.softThru {m : SM σ α} {m' : SM σ' γ} {proj : σ' → σ} (h : Wraps (fun e => Err.soft e = true) m m' proj) :
    SoftThru m m' proj :=
  ⟨fun t c => (h.thru t c).imp (fun h => ⟨h.1, fun e he => Bool.eq_false_iff.mpr (h.2 e he)⟩) id⟩

theorem spipe_softThru {α : Type} {σ0 : Type} (base : SM σ0 α) (p : SPipe α) :
    SoftThru base (p.machine base).m (p.machine base).proj :=
  (spipe_wraps (fun _ h => by cases h) base p).softThru

/-- **What a consumer of a machine over a scripted source sees, call by call** (`E` = the transient
failures still ahead in the script, `l` = the items still to come, `t` = how the stream terminates): a
call answers the context error only if its context had expired; a transient error only under a live
context and only *the next one* of the script, which is thereby used up; otherwise the next item, the
end (again and again), or the hard failure itself. -/
def ExactE : List (Bool × Option (SStep β)) → List Nat → List β → Term → Prop
  | [], _, _, _ => True
  | (c, r) :: R, E, l, t =>
    (c = false ∧ r = some (.err .ctx) ∧ ExactE R E l t) ∨
    (∃ n E', c = true ∧ E = n :: E' ∧ r = some (.err (.transient n)) ∧ ExactE R E' l t) ∨
    (∃ a l', l = a :: l' ∧ r = some (.item a) ∧ ExactE R E l' t) ∨
    (l = [] ∧ (∃ e, t = .end_ e) ∧ r = some .end_ ∧ ExactE R E [] t) ∨
    (l = [] ∧ ∃ err, t = .fail err ∧ Err.soft err = false ∧ r = some (.err err))

theorem snextsF_cons (m : SM σ α) (c : Bool) (f : Nat) (cs : List (Bool × Nat)) (s : σ) :
    snextsF m ((c, f) :: cs) s = (drive m c f s).1 :: snextsF m cs (drive m c f s).2 := rfl

/-- from the erased reading (`Conforms ∘ hard`) and the hand-through property to the exact one -/
theorem exact_of_conforms {M : SM σ' β} {proj : σ' → Src α} (hthru : SoftThru src M proj)
    (fuel : Nat) (cs : List Bool) (st : σ') (l : List β) (t : Term) (ht : ∀ e, t = .fail e → Err.soft e = false)
    (h : Conforms (hard Err.soft (snexts M fuel cs st)) l t) :
    ExactE (cs.zip (snexts M fuel cs st)) (pendingT (proj st)) l t := by
  induction cs generalizing st l with
  | nil => simp [ExactE]
  | cons c cs ih =>
    have hp := hthru.drive_pending c fuel st
    have e0 : snexts M fuel (c :: cs) st = (drive M c fuel st).1 :: snexts M fuel cs (drive M c fuel st).2 := rfl
    rw [e0] at h ⊢
    simp only [List.zip_cons_cons, ExactE]
    rcases hd : drive M c fuel st with ⟨r, st'⟩
    rw [hd] at h hp
    simp only at h hp
    by_cases hsoft : ∃ e, r = some (.err e) ∧ Err.soft e = true
    · obtain ⟨e, rfl, he⟩ := hsoft
      rw [hard_cons_soft e he] at h
      rcases hp.1 e rfl he with ⟨rfl, rfl, hE⟩ | ⟨n, rfl, rfl, hE⟩
      · exact Or.inl ⟨rfl, rfl, by rw [← hE]; exact ih st' l h⟩
      · exact Or.inr (Or.inl ⟨n, pendingT (proj st'), rfl, hE, rfl, ih st' l h⟩)
    · have hns : ∀ e, r = some (.err e) → Err.soft e = false := by
        intro e he
        cases hs : Err.soft e with
        | false => rfl
        | true => exact absurd ⟨e, he, hs⟩ hsoft
      have hE := hp.2 hns
      have hhard : hard Err.soft (r :: snexts M fuel cs st') = r :: hard Err.soft (snexts M fuel cs st') := by
        cases r with
        | none => rfl
        | some x =>
          cases x with
          | err e => exact hard_cons_hard e (hns e rfl) _
          | item a => rfl
          | skip => rfl
          | end_ => rfl
      rw [hhard] at h
      right; right
      cases l with
      | cons a l' =>
        simp only [Conforms] at h
        exact Or.inl ⟨a, l', rfl, h.1, by rw [← hE]; exact ih st' l' h.2⟩
      | nil =>
        right
        cases t with
        | end_ e =>
          simp only [Conforms] at h
          exact Or.inl ⟨rfl, ⟨e, rfl⟩, h.1, by rw [← hE]; exact ih st' [] h.2⟩
        | fail err =>
          simp only [Conforms] at h
          exact Or.inr ⟨rfl, err, rfl, ht err rfl, h⟩

theorem sden_term_hard {soft : Err → Bool} {m : SM σ α} {cost : σ → Nat} {s : σ} {L : List (α × Nat)} {t : Term}
    (h : SDen soft m cost s L t) : ∀ e, t = .fail e → soft e = false := by
  induction h with
  | skip _ _ _ ih => exact ih
  | soft _ _ _ _ ih => exact ih
  | item _ _ _ ih => exact ih
  | fail _ _ he => intro e h; cases h; exact he
  | done _ _ _ _ => intro e h; cases h

theorem retry_exact {M : SM σ' β} {proj : σ' → Src α} {cost : σ' → Nat} {st : σ'} {L : List (β × Nat)} {t : Term}
    (hthru : SoftThru src M proj) (h : SDen Err.soft M cost st L t) :
    ∃ F, ∀ fuel, F ≤ fuel → ∀ cs : List Bool,
      ExactE (cs.zip (snexts M fuel cs st)) (pendingT (proj st)) (L.map Prod.fst) t := by
  obtain ⟨F, hF⟩ := sden_conforms (soft := Err.soft) rfl h
  exact ⟨F, fun fuel hf cs => exact_of_conforms hthru fuel cs st _ t (sden_term_hard h) (hF fuel hf cs)⟩

end Juniper.Proofs.StreamDen
