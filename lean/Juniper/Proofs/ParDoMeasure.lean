import Juniper.Proofs.ParDoInv
/-! Progress measure of the `parallel.Do` / `DoContext` LTS (`Model/ParDo.lean`).

`phi cfg s` is strictly decreased by **every** step of the LTS — the internal ones (`fetch`, `check`,
`begin`, `egDone`, `ret`) and the environment's (`fEnd`: a call of `f` returns; `callerCancel`). Hence
every run of the system from the initial state, whatever the schedule and whatever the environment does,
has at most `phi cfg (init cfg) ≤ 4·n + 2·workers + 2` steps. Then enabledness: a reachable state that has not returned
has an enabled library step or a call of `f` in progress (`served`), and a call in progress can return (`fEnd_enabled`). -/

namespace Juniper.Proofs.ParDo.M
open Juniper.Gen Juniper.Model.ParDo Juniper.Proofs.ParDo

def wRank : Pc → Nat
  | .check _ => 5
  | .call _ => 4
  | .inF _ => 3
  | .fetch => 2
  | .retErr _ => 1
  | .done => 0

def wSum : List Pc → Nat
  | [] => 0
  | x :: xs => wRank x + wSum xs

def bit (b : Bool) : Nat := if b then 1 else 0

/-- indices not yet handed out: the shared counter `x` (parallel path) / the loop variable (sequential
path) is below `n - 1` by this much -/
def remaining (cfg : Cfg) (s : St) : Nat := ((cfg.n : Int) - 1 - s.x).toNat

/-- weight of one index still to be handed out: fetch, check, begin, return of `f` -/
def idxWeight : Nat := 4

def phi (cfg : Cfg) (s : St) : Nat :=
  idxWeight * remaining cfg s + wSum s.ws + bit s.ret.isNone + bit (!s.callerCancelled)

theorem wSum_set {ws : List Pc} {w : Nat} {b : Pc} (h : ws[w]? = some b) :
    wRank b ≤ wSum ws ∧ ∀ a, wSum (ws.set w a) = wSum ws - wRank b + wRank a :=
  ListStore.sum_set (fun _ _ => rfl) h

theorem wRank_ite (c : Prop) [Decidable c] (a b : Pc) : wRank (if c then a else b) = if c then wRank a else wRank b := by
  split <;> rfl

theorem phi_decreases {cfg : Cfg} (hs : cfg.code.Sound) {s s' : St} {l : Label} (h : step cfg s l = some s') :
    phi cfg s' < phi cfg s := by
  cases Step.of_step hs h
  case callerCancel _ hc => simp [phi, remaining, bit, hc]
  case retSeq hr _ _ | retPar hr _ _ => simp [phi, remaining, bit, hr]
  case retSeqErr hr _ hws => simp [phi, remaining, bit, hr, hws, wSum, wRank]; omega
  all_goals
    obtain ⟨h0, h1⟩ := wSum_set ‹_›
    simp only [phi, remaining, idxWeight, h1, wRank, bit] at h0 ⊢
    omega

theorem run_phi {cfg : Cfg} (hs : cfg.code.Sound) {ls : List Label} {s s' : St} (h : run cfg s ls = some s') :
    ls.length + phi cfg s' ≤ phi cfg s :=
  ((run_isRun cfg).measure (μ := phi cfg) (P := fun _ => True) (Q := fun _ => True)
    (fun _ _ h => ⟨phi_decreases hs h, trivial⟩) h (fun _ _ => trivial) trivial).1

theorem wSum_replicate (n : Nat) (pc : Pc) : wSum (List.replicate n pc) = n * wRank pc := by
  induction n with
  | zero => simp [wSum]
  | succ n ih => simp only [List.replicate_succ, wSum, ih, Nat.succ_mul]; omega

/-- the measure of the initial state: `4·n + 2·workers + 2` on the parallel path, at most `4·n + 2` on
the sequential one -/
theorem phi_init_le {cfg : Cfg} (hs : cfg.code.Sound) : phi cfg (init cfg) ≤ 4 * cfg.n + 2 * nW cfg + 2 := by
  unfold init nW
  split
  · by_cases h0 : 0 < cfg.n <;>
      simp [phi, remaining, idxWeight, hs.seqLoop, hs.seqInit, effN_eq hs, wSum, wRank, bit, h0] <;> omega
  · simp only [phi, remaining, idxWeight, hs.counterInit, wSum_replicate, wRank, bit, Option.isNone_none,
      Bool.not_false, if_true]
    omega

def Quiescent (cfg : Cfg) (s : St) : Prop := ∀ l, l.isEnv = false → step cfg s l = none

theorem worker_enabled {cfg : Cfg} {s : St} (hState : StateInv cfg s) {w : Nat} {pc : Pc}
    (hw : s.ws[w]? = some pc) (hnd : pc ≠ .done) (hnf : ∀ i, pc ≠ .inF i) (hne : ∀ e, pc = .retErr e → s.seq = false) :
    ∃ l, l.isEnv = false ∧ (step cfg s l).isSome = true := by
  cases pc
  case done => exact absurd rfl hnd
  case inF i => exact absurd rfl (hnf i)
  case call i => exact ⟨.begin w, rfl, by simp [step, hw]⟩
  -- the other three are steps of the parallel path only, enabled whatever their guards decide
  case' fetch =>
    have hseq : s.seq = false := Bool.eq_false_iff.2 fun hq => Nat.ne_of_gt (cnt_pos hw rfl) (hState.seqPath hq).noFetch
    refine ⟨.fetch w, rfl, ?_⟩
  case' check i =>
    have hseq : s.seq = false := Bool.eq_false_iff.2 fun hq => Nat.ne_of_gt (cnt_pos hw rfl) (hState.seqPath hq).noCheck
    refine ⟨.check w, rfl, ?_⟩
  case' retErr e =>
    have hseq := hne e rfl
    refine ⟨.egDone w, rfl, ?_⟩
  all_goals
    simp only [step, hw, hseq, Bool.false_eq_true, if_false]
    repeat' split
    all_goals rfl

theorem progress {cfg : Cfg} (hs : cfg.code.Sound) {s : St} (h : Reach cfg s) (hret : s.ret = none) :
    (∃ l, l.isEnv = false ∧ (step cfg s l).isSome = true) ∨ 0 < running s := by
  have hi := inv hs h
  by_cases hrun : 0 < running s
  · exact Or.inr hrun
  refine Or.inl ?_
  have hnf : ∀ w i, s.ws[w]? ≠ some (Pc.inF i) := fun w i hw =>
    hrun (ListStore.countP_pos hw rfl)
  cases hseq : s.seq with
  | true =>
    match hws : s.ws, hi.len_seq hseq with
    | [pc], _ =>
      have hw : s.ws[0]? = some pc := by simp [hws]
      cases pc with
      | done | retErr e => exact ⟨.ret, rfl, by simp [step, hret, hseq, hws]⟩
      | inF i => exact absurd hw (hnf 0 i)
      | _ => exact worker_enabled hi.toStateInv hw nofun nofun nofun
  | false =>
    by_cases hall : allDone s.ws = true
    · exact ⟨.ret, rfl, by simp [step, hret, hseq, hall]⟩
    · simp only [allDone, List.all_eq_true] at hall
      obtain ⟨pc, hpc'⟩ := Classical.not_forall.1 hall
      obtain ⟨hpc, hnd⟩ := Classical.not_imp.1 hpc'
      obtain ⟨w, hw⟩ := List.getElem?_of_mem hpc
      refine worker_enabled hi.toStateInv hw ?_ (fun i hi => hnf w i (hi ▸ hw)) (fun _ _ => hseq)
      intro hd; subst hd; simp at hnd

theorem fEnd_enabled {cfg : Cfg} {s : St} (hrun : 0 < running s) :
    ∃ w s', step cfg s (.fEnd w (.ok 0)) = some s' := by
  obtain ⟨pc, hpc, hp⟩ := List.countP_pos_iff.1 hrun
  obtain ⟨w, hw⟩ := List.getElem?_of_mem hpc
  cases pc with
  | inF i =>
    refine ⟨w, Option.isSome_iff_exists.1 ?_⟩
    simp only [step, hw, Res.isErr, Bool.false_and, Bool.false_eq_true, if_false]
    repeat' split
    all_goals simp
  | _ => simp at hp

theorem served {cfg : Cfg} (hs : cfg.code.Sound) {s : St} (h : Reach cfg s) (hret : s.ret = none) :
    (∃ l s', l.isEnv = false ∧ step cfg s l = some s') ∨ 0 < running s :=
  (progress hs h hret).imp_left fun ⟨l, hl, hen⟩ => let ⟨s', hs'⟩ := Option.isSome_iff_exists.1 hen; ⟨l, s', hl, hs'⟩

end Juniper.Proofs.ParDo.M
