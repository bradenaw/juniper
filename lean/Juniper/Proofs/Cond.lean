import Juniper.Model.Cond
import Juniper.Proofs.ListStore
import Juniper.Proofs.LTS
import Juniper.Proofs.Tie
/-!
# The atomic LTS of `ContextCond` under the standard configuration (C16)

`Step` is `step Cfg.std` as a relation, one constructor per branch with its guards and successor state; the
reachability invariant `Inv`, the moves of a single waiter (`PcTrans`) and the consequences of a `Broadcast` go by
cases on it.
-/
namespace Juniper.Proofs.Cond
open Juniper.Model.Cond Juniper.ListStore

/-- What the statement-level facts take for granted: `c.m` is the standard library's `sync.RWMutex` (not a
local type with the same method names), `c.ch` a `chan struct{}`, `c.L` a `sync.Locker`; `Broadcast`, `Signal`
and `Wait` have pointer receivers (a value receiver would lock and replace a copy); `NewContextCond` stores the
caller's locker and one fresh channel and nothing else. -/
theorem condWiring_tie :
    Gen.Cond.condFields = [("m", "sync.RWMutex"), ("ch", "chan struct{}"), ("L", "sync.Locker")] ∧
    Gen.Cond.condImports = [("sync", "sync")] ∧ Gen.Cond.condLocalTypes = [] ∧
    Gen.Cond.condReceivers = [("Broadcast", "*ContextCond"), ("Signal", "*ContextCond"), ("Wait", "*ContextCond")] ∧
    Gen.Cond.newContextCondStmts = ["return &ContextCond{ L: l, ch: make(chan struct{}, 1), }"] :=
  ⟨rfl, rfl, rfl, rfl, rfl⟩

/-- Tie 1: the configuration regenerated from `xsync.go` is the one the proofs are about — select arms,
capacities, arm bodies, and the **ordered** statement lists of `Wait`, `Signal` and `Broadcast` (`sigOps`,
`bcOps`: lock operations included, compared as lists, not as sets). -/
theorem cfg_gen : Cfg.gen = Cfg.std := under condWiring_tie (by decide +kernel)

@[simp] theorem setPc_lock (s : State) (i : Nat) (p : Pc) : (setPc s i p).lock = s.lock := rfl
@[simp] theorem setPc_chans (s : State) (i : Nat) (p : Pc) : (setPc s i p).chans = s.chans := rfl
@[simp] theorem setPc_cur (s : State) (i : Nat) (p : Pc) : (setPc s i p).cur = s.cur := rfl
@[simp] theorem chanAt_setPc (s : State) (i : Nat) (p : Pc) (c : Nat) : chanAt (setPc s i p) c = chanAt s c := rfl

theorem chanAt_congr {s t : State} (h : s.chans = t.chans) (c : Nat) : chanAt s c = chanAt t c := by
  simp [chanAt, h]

theorem chanAt_set_same (s : State) (c : Nat) (x : Chan) (hc : c < s.chans.length) :
    chanAt { s with chans := s.chans.set c x } c = x := by
  simp [chanAt, hc]

theorem chanAt_set_other (s : State) (c c' : Nat) (x : Chan) (hne : c ≠ c') :
    chanAt { s with chans := s.chans.set c x } c' = chanAt s c' := by
  simp [chanAt, hne]

@[reducible] def NoParked (s : State) (c : Nat) : Prop := ∀ (i : Nat) (w : Waiter), s.ws[i]? = some w → w.pc ≠ Pc.parked c

theorem any_parked_false_iff (s : State) (c : Nat) : s.ws.any (isParkedOn c) = false ↔ NoParked s c := by
  rw [List.any_eq_false]
  constructor
  · intro h i w hw hp
    have := h w (List.mem_of_getElem? hw)
    simp [isParkedOn, hp] at this
  · intro h w hw
    obtain ⟨i, hi⟩ := List.mem_iff_getElem?.mp hw
    have := h i w hi
    simp [isParkedOn, this]

/-- the state after waiter `i` took the `<-ch` arm on channel `ch` -/
def recvState (s : State) (i ch : Nat) : State :=
  setPc (if (chanAt s ch).closed then s
         else { s with chans := s.chans.set ch { chanAt s ch with buf := (chanAt s ch).buf - 1 } }) i (.woken false)

theorem recvState_ws (s : State) (i ch : Nat) : (recvState s i ch).ws = (setPc s i (.woken false)).ws := by
  unfold recvState; split <;> rfl

/-- the state after `Broadcast` under the standard configuration -/
def bcState (s : State) : State :=
  { s with chans := s.chans.set s.cur { chanAt s s.cur with closed := true } ++ [{ cap := 1, buf := 0, closed := false }],
           ws := wakeAll Cfg.std s.cur s.ws,
           cur := s.chans.length }

inductive Step (s : State) : Label → State → Prop where
  | start {i w} : s.ws[i]? = some w → w.pc = .idle → s.lock = none →
      Step s (.start i) { (setPc s i (.held (some s.cur))) with lock := some i }
  | release {i w ch} : s.ws[i]? = some w → w.pc = .held ch → s.lock = some i →
      Step s (.release i) { (setPc s i (.unlocked ch)) with lock := none }
  | recv {i w ch0} : s.ws[i]? = some w → w.pc = .unlocked ch0 →
      ((chanAt s (ch0.getD s.cur)).closed = true ∨ 0 < (chanAt s (ch0.getD s.cur)).buf) →
      Step s (.arrive i .recv) (recvState s i (ch0.getD s.cur))
  | ctx {i w ch0} : s.ws[i]? = some w → w.pc = .unlocked ch0 → w.cancelled = true →
      Step s (.arrive i .ctx) (setPc s i .doneErr)
  | park {i w ch0} : s.ws[i]? = some w → w.pc = .unlocked ch0 →
      (chanAt s (ch0.getD s.cur)).closed = false → (chanAt s (ch0.getD s.cur)).buf = 0 → w.cancelled = false →
      Step s (.arrive i .park) (setPc s i (.parked (ch0.getD s.cur)))
  | handoff {i w} : (chanAt s s.cur).closed = false → s.ws[i]? = some w → w.pc = .parked s.cur →
      Step s (.signal (some i)) (setPc s i (.woken false))
  | buffer : (chanAt s s.cur).closed = false → NoParked s s.cur → (chanAt s s.cur).buf < (chanAt s s.cur).cap →
      Step s (.signal none) { s with chans := s.chans.set s.cur { chanAt s s.cur with buf := (chanAt s s.cur).buf + 1 } }
  | drop : (chanAt s s.cur).closed = false → NoParked s s.cur → ¬ (chanAt s s.cur).buf < (chanAt s s.cur).cap →
      Step s (.signal none) s
  | broadcast : (chanAt s s.cur).closed = false → Step s .broadcast (bcState s)
  | cancel {i w} : s.ws[i]? = some w → w.cancelled = false →
      Step s (.cancel i) { s with ws := s.ws.modify i (fun w => { pc := cancelPc Cfg.std w.pc, cancelled := true }) }
  | relock {i w e} : s.ws[i]? = some w → w.pc = .woken e → s.lock = none →
      Step s (.relock i) { (setPc s i (if e then .doneErr else .doneNil)) with lock := some i }
  | hunlock {i w} : s.lock = some i → s.ws[i]? = some w → (w.pc = .doneNil ∨ w.pc = .doneErr) →
      Step s .hunlock { s with lock := none }

theorem pcOf_some {s : State} {i : Nat} {p : Pc} : pcOf s i = some p ↔ ∃ w, s.ws[i]? = some w ∧ w.pc = p := by
  simp [pcOf]

theorem Step.of_sendOn {s s' : State} {to : Option Nat} (h : sendOn Cfg.std s s.cur to = some s') : Step s (.signal to) s' := by
  revert h
  fun_cases sendOn Cfg.std s s.cur to <;> intro h <;> cases h
  all_goals have hcl : (chanAt s s.cur).closed = false := Bool.eq_false_iff.mpr ‹_›
  · obtain ⟨w, hw, hpc⟩ := pcOf_some.mp (of_decide_eq_true (Bool.and_eq_true_iff.mp ‹_›).2)
    exact .handoff hcl hw hpc
  · rename_i hp hb
    exact .buffer hcl ((any_parked_false_iff s s.cur).mp (by simpa [Cfg.std] using hp)) hb
  · rename_i hp hb _
    exact .drop hcl ((any_parked_false_iff s s.cur).mp (by simpa [Cfg.std] using hp)) hb

theorem Step.of_step {s s' : State} {l : Label} (h : step Cfg.std s l = some s') : Step s l s' := by
  revert h
  -- `fun_cases` follows the branches of `step`: those that return `none` go by `cases h`, which in the others puts the
  -- successor state in; what remains comes in the order of the labels (`signal` and `broadcast` call a helper)
  fun_cases step Cfg.std s l <;> intro h <;> try cases h
  · exact .start ‹_› ‹_› ‹_›
  · obtain ⟨w, hw, hpc⟩ := pcOf_some.mp ‹_›; exact .release hw hpc ‹_›
  · rename_i hr _
    exact .recv ‹_› ‹_› (by simpa +zetaDelta [Cfg.std] using hr)
  · rename_i hc
    exact .ctx ‹_› ‹_› (by simpa +zetaDelta [Cfg.std] using hc)
  · rename_i hp
    simp +zetaDelta only [Cfg.std, Bool.true_and, Bool.and_eq_true, Bool.not_eq_true', Bool.or_eq_false_iff,
      decide_eq_false_iff_not, Nat.not_lt, Nat.le_zero_eq] at hp
    exact .park ‹_› ‹_› hp.1.1 hp.1.2 hp.2
  · -- `Signal` without a send arm: not the standard configuration
    rename_i h1 _; cases h1
  · exact .of_sendOn h
  · simp only [bcRun, bcStep, show Cfg.std.bcProg = [.closeCur, .install] from rfl] at h
    split at h
    · rename_i s1 h1
      split at h1
      · cases h1
      · rename_i hcl
        cases h1
        simp only [Option.some.injEq] at h
        have : s' = bcState s := by simp [bcState, ← h, Cfg.std]
        exact this ▸ .broadcast (by simpa using hcl)
    · cases h
  · exact .cancel ‹_› (Bool.eq_false_iff.mpr ‹_›)
  · obtain ⟨w, hw, hpc⟩ := pcOf_some.mp ‹_›; exact .relock hw hpc ‹_›
  · obtain ⟨w, hw, hpc⟩ := pcOf_some.mp ‹_›; exact .hunlock ‹_› hw (.inl hpc)
  · obtain ⟨w, hw, hpc⟩ := pcOf_some.mp ‹_›; exact .hunlock ‹_› hw (.inr hpc)

theorem Step.to_step {s s' : State} {l : Label} (h : Step s l s') : step Cfg.std s l = some s' := by
  cases h with
  | start hw hpc hl => simp [step, hw, hl, hpc, Cfg.std]
  | release hw hpc hl => simp [step, pcOf, hw, hl, hpc]
  | @recv i w ch0 hw hpc hr =>
    have hr' : ((chanAt s (ch0.getD s.cur)).closed || decide (0 < (chanAt s (ch0.getD s.cur)).buf)) = true := by
      rcases hr with h1 | h1 <;> simp [h1]
    simp only [step, hw, hpc, Cfg.std, Bool.true_and, afterWake, if_true, hr']
    rfl
  | ctx hw hpc hc => simp [step, hw, hpc, Cfg.std, afterCtx, hc]
  | park hw hpc hopen hbuf hc => simp [step, hw, hpc, Cfg.std, hopen, hbuf, hc]
  | handoff hcl hw hpc => simp [step, sendOn, Cfg.std, hcl, pcOf, hw, hpc, afterWake]
  | buffer hcl hnp hb => simp [step, sendOn, Cfg.std, hcl, (any_parked_false_iff s s.cur).mpr hnp, hb]
  | drop hcl hnp hb => simp [step, sendOn, Cfg.std, hcl, (any_parked_false_iff s s.cur).mpr hnp, hb]
  | broadcast hcl => simp [step, Cfg.std, bcRun, bcStep, hcl, bcState]
  | cancel hw hc => simp [step, hw, hc]
  | relock hw hpc hl => simp [step, pcOf, hw, hpc, hl]
  | hunlock hl hw hpc => rcases hpc with hpc | hpc <;> simp [step, hl, pcOf, hw, hpc]

def WInv (s : State) (i : Nat) (w : Waiter) : Prop :=
  match w.pc with
  | .idle => s.lock ≠ some i
  | .held ch => s.lock = some i ∧ ∃ c, ch = some c ∧ c < s.chans.length
  | .unlocked ch => s.lock ≠ some i ∧ ∃ c, ch = some c ∧ c < s.chans.length
  | .parked c => s.lock ≠ some i ∧ c = s.cur ∧ w.cancelled = false
  | .woken e => s.lock ≠ some i ∧ e = false
  | .doneNil => True
  | .doneErr => s.lock ≠ some i ∧ w.cancelled = true

structure Inv (s : State) : Prop where
  cur_lt : s.cur < s.chans.length
  cur_open : (chanAt s s.cur).closed = false
  old_closed : ∀ c, c < s.chans.length → c ≠ s.cur → (chanAt s c).closed = true
  cur_cap : (chanAt s s.cur).cap = 1
  buf_le : (chanAt s s.cur).buf ≤ 1
  buf_parked : 0 < (chanAt s s.cur).buf → NoParked s s.cur
  lock_lt : ∀ j, s.lock = some j → j < s.ws.length
  wait : ∀ i w, s.ws[i]? = some w → WInv s i w

theorem init_ws {cfg : Cfg} {k i : Nat} {w : Waiter} (h : (init cfg k).ws[i]? = some w) :
    w = { pc := .idle, cancelled := false } :=
  (List.mem_replicate.mp (List.mem_of_getElem? h)).2

theorem inv_init (k : Nat) : Inv (init Cfg.std k) := by
  refine ⟨by simp [init], by simp [init, chanAt], ?_, by simp [init, chanAt, Cfg.std], by simp [init, chanAt], ?_, by simp [init], ?_⟩
  · intro c hc hne; simp [init] at hc hne; omega
  · intro _ i w hw; cases init_ws hw; simp
  · intro i w hw; cases init_ws hw; simp [WInv, init]

theorem Inv.eq_cur {s : State} (hi : Inv s) {c : Nat} (hc : c < s.chans.length) (hopen : (chanAt s c).closed = false) :
    c = s.cur := by
  by_cases hne : c = s.cur
  · exact hne
  · have := hi.old_closed c hc hne
    rw [hopen] at this; cases this

theorem Inv.wait_pc {s : State} (hi : Inv s) {i : Nat} {w : Waiter} {p : Pc} (hw : s.ws[i]? = some w) (hpc : w.pc = p) :
    WInv s i { w with pc := p } := by
  subst hpc; exact hi.wait i w hw

theorem winv_congr {s t : State} {i : Nat} {w : Waiter} (hl : s.lock = some i ↔ t.lock = some i)
    (hc : s.chans.length = t.chans.length) (hcur : s.cur = t.cur) (h : WInv s i w) : WInv t i w := by
  unfold WInv at h ⊢
  rw [← hc, ← hcur]
  revert h
  cases w.pc <;> simp only [ne_eq, ← hl] <;> exact id

theorem inv_modify {s : State} {i : Nat} {w : Waiter} {f : Waiter → Waiter} {lk : Option Nat} (hi : Inv s)
    (hw : s.ws[i]? = some w) (hlk : ∀ j, j ≠ i → (s.lock = some j ↔ lk = some j))
    (hp : WInv { s with lock := lk } i (f w)) (hnp : (f w).pc = .parked s.cur → (chanAt s s.cur).buf = 0) :
    Inv { s with ws := s.ws.modify i f, lock := lk } := by
  refine ⟨hi.cur_lt, hi.cur_open, hi.old_closed, hi.cur_cap, hi.buf_le, ?_, ?_, ?_⟩
  · intro hb j w' hw'
    have hb' : 0 < (chanAt s s.cur).buf := hb
    have hw'' : (s.ws.modify i f)[j]? = some w' := hw'
    by_cases hji : j = i
    · subst hji
      rw [getElem?_modify_self f hw] at hw''; cases hw''
      intro hpk; have := hnp hpk; omega
    · rw [List.getElem?_modify_ne f _ (Ne.symm hji)] at hw''
      exact hi.buf_parked hb' j w' hw''
  · intro j hj
    have hj' : lk = some j := hj
    show j < (s.ws.modify i f).length
    rw [List.length_modify]
    by_cases hji : j = i
    · subst hji; exact lt_of_getElem? hw
    · exact hi.lock_lt j ((hlk j hji).mpr hj')
  · intro j w' hw'
    have hw'' : (s.ws.modify i f)[j]? = some w' := hw'
    by_cases hji : j = i
    · subst hji
      rw [getElem?_modify_self f hw] at hw''; cases hw''
      exact winv_congr Iff.rfl rfl rfl hp
    · rw [List.getElem?_modify_ne f _ (Ne.symm hji)] at hw''
      exact winv_congr (hlk j hji) rfl rfl (hi.wait j w' hw'')

theorem inv_setPc {s : State} {i : Nat} {w : Waiter} {p : Pc} (hi : Inv s) (hw : s.ws[i]? = some w)
    (hp : WInv s i { w with pc := p }) (hnp : p = .parked s.cur → (chanAt s s.cur).buf = 0) : Inv (setPc s i p) :=
  inv_modify (lk := s.lock) hi hw (fun _ _ => Iff.rfl) hp hnp

theorem inv_setChan {s : State} {x : Chan} (hi : Inv s) (hcl : x.closed = false) (hcap : x.cap = 1)
    (hbuf : x.buf ≤ 1) (hnp : 0 < x.buf → NoParked s s.cur) :
    Inv { s with chans := s.chans.set s.cur x } := by
  have hsame := chanAt_set_same s s.cur x hi.cur_lt
  refine ⟨by simpa using hi.cur_lt, by simpa [hsame] using hcl, ?_, by simpa [hsame] using hcap,
    by simpa [hsame] using hbuf, ?_, hi.lock_lt, ?_⟩
  · intro c hc hne
    have hc' : c < s.chans.length := by simpa using hc
    show (chanAt { s with chans := _ } c).closed = true
    rw [chanAt_set_other s s.cur c _ (Ne.symm hne)]
    exact hi.old_closed c hc' hne
  · intro hb
    exact hnp (by simpa [hsame] using hb)
  · intro j w' hw'
    exact winv_congr (s := s) Iff.rfl (by simp) rfl (hi.wait j w' hw')

theorem wakeAll_get (c : Nat) (ws : List Waiter) (j : Nat) :
    (wakeAll Cfg.std c ws)[j]? = (ws[j]?).map (fun w => if w.pc = .parked c then { w with pc := .woken false } else w) := by
  simp [wakeAll, isParkedOn, afterWake, Cfg.std]

theorem wakeAll_get_some {c : Nat} {ws : List Waiter} {j : Nat} {w' : Waiter} (h : (wakeAll Cfg.std c ws)[j]? = some w') :
    ∃ w, ws[j]? = some w ∧ w' = if w.pc = .parked c then { w with pc := .woken false } else w := by
  rw [wakeAll_get] at h
  obtain ⟨w, hw, rfl⟩ := Option.map_eq_some_iff.mp h
  exact ⟨w, hw, rfl⟩

theorem chanAt_bc_lt (s : State) (c : Nat) (hc : c < s.chans.length) :
    chanAt (bcState s) c = if c = s.cur then { chanAt s s.cur with closed := true } else chanAt s c := by
  simp only [chanAt, bcState]
  rw [List.getElem?_append_left (by simpa using hc)]
  by_cases h : c = s.cur
  · subst h; simp [hc]
  · have : s.cur ≠ c := fun e => h e.symm
    simp [this, h]

theorem chanAt_bc_new (s : State) : chanAt (bcState s) s.chans.length = { cap := 1, buf := 0, closed := false } := by
  simp [chanAt, bcState]

theorem inv_bcState {s : State} (hi : Inv s) : Inv (bcState s) := by
  have hcur' : (bcState s).cur = s.chans.length := rfl
  have hlen' : (bcState s).chans.length = s.chans.length + 1 := by simp [bcState]
  refine ⟨by rw [hcur', hlen']; omega, by rw [hcur', chanAt_bc_new], ?_, by rw [hcur', chanAt_bc_new],
    by rw [hcur', chanAt_bc_new]; simp, ?_, ?_, ?_⟩
  · intro c hc hne
    rw [hcur'] at hne
    rw [hlen'] at hc
    have hc' : c < s.chans.length := by omega
    rw [chanAt_bc_lt s c hc']
    split
    · rfl
    · rename_i hcc; exact hi.old_closed c hc' hcc
  · intro hb
    rw [hcur', chanAt_bc_new] at hb
    simp at hb
  · intro j hj
    have : (bcState s).ws.length = s.ws.length := by simp [bcState, wakeAll]
    rw [this]
    exact hi.lock_lt j hj
  · intro j w' hw'
    obtain ⟨w0, hs, rfl⟩ := wakeAll_get_some (show (wakeAll Cfg.std s.cur s.ws)[j]? = some w' from hw')
    have h0 := hi.wait j w0 hs
    have hlk : (bcState s).lock = s.lock := rfl
    unfold WInv at h0 ⊢
    rw [hlk, hlen', hcur']
    cases hp : w0.pc with
    | parked c =>
      simp only [hp] at h0
      obtain ⟨h1, rfl, _⟩ := h0
      simp [h1]
    | held ch | unlocked ch =>
      simp only [hp] at h0
      obtain ⟨h1, c, rfl, hc⟩ := h0
      simp [hp, h1]; omega
    | _ => simp_all

theorem inv_step {s s' : State} {l : Label} (hi : Inv s) (h : step Cfg.std s l = some s') : Inv s' := by
  cases Step.of_step h with
  | start hw hpc hl =>
    refine inv_modify hi hw (fun j hj => ?_) ?_ (by simp)
    · rw [hl]; simp [Ne.symm hj]
    · simp [WInv, hi.cur_lt]
  | release hw hpc hl =>
    have h0 := hi.wait_pc hw hpc
    refine inv_modify hi hw (fun j hj => ?_) ?_ (by simp)
    · rw [hl]; simp [Ne.symm hj]
    · simp [WInv, h0.2]
  | @recv i w ch0 hw hpc hr =>
    obtain ⟨hlk, ch, rfl, hch⟩ := hi.wait_pc hw hpc
    simp only [Option.getD_some] at hr ⊢
    unfold recvState
    cases hcl : (chanAt s ch).closed
    · -- open: it is the current channel and holds a token
      obtain rfl := hi.eq_cur hch hcl
      have hb : 0 < (chanAt s s.cur).buf := by simpa [hcl] using hr
      have hle := hi.buf_le
      have hi2 := inv_setChan (x := { chanAt s s.cur with buf := (chanAt s s.cur).buf - 1 }) hi hcl hi.cur_cap
        (by simp; omega) (by intro h; simp at h; omega)
      exact inv_setPc hi2 hw (by simp [WInv, hlk]) (by simp)
    · exact inv_setPc hi hw (by simp [WInv, hlk]) (by simp)
  | ctx hw hpc hc =>
    have h0 := hi.wait_pc hw hpc
    exact inv_setPc hi hw (by simp [WInv, h0.1, hc]) (by simp)
  | @park i w ch0 hw hpc hopen hbuf hc =>
    obtain ⟨hlk, ch, rfl, hch⟩ := hi.wait_pc hw hpc
    simp only [Option.getD_some] at hopen hbuf ⊢
    obtain rfl := hi.eq_cur hch hopen
    exact inv_setPc hi hw (by simp [WInv, hlk, hc]) (fun _ => hbuf)
  | handoff hcl hw hpc =>
    have h0 := hi.wait_pc hw hpc
    exact inv_setPc hi hw (by simp [WInv, h0.1]) (by simp)
  | buffer hcl hnp hb =>
    have hcap := hi.cur_cap
    exact inv_setChan hi hcl hcap (by simp; omega) (fun _ => hnp)
  | drop => exact hi
  | broadcast => exact inv_bcState hi
  | @cancel i w hw hc =>
    -- only a parked waiter moves (to `doneErr`); `WInv` of any other pc does not read the flag
    have h0 := hi.wait _ _ hw
    refine inv_modify (lk := s.lock) hi hw (fun _ _ => Iff.rfl) ?_ ?_
    · unfold WInv at h0 ⊢
      cases hp : w.pc <;> simp only [hp] at h0 <;> simp [cancelPc, Cfg.std, afterCtx, h0]
    · cases hp : w.pc <;> simp [cancelPc, Cfg.std, afterCtx]
  | @relock i w e hw hpc hl =>
    have h0 := hi.wait_pc hw hpc
    refine inv_modify hi hw (fun j hj => ?_) ?_ (by rw [h0.2]; simp)
    · rw [hl]; simp [Ne.symm hj]
    · rw [h0.2]; simp [WInv]
  | @hunlock i w hl hw hpc =>
    -- the holder keeps its pc: it has returned, so it was not at `held`
    have := inv_modify (f := id) (lk := none) hi hw (fun j hj => by rw [hl]; simp [Ne.symm hj])
      (by
        rcases hpc with hpc | hpc
        · simp [WInv, hpc]
        · simpa [WInv, hpc] using (hi.wait_pc hw hpc).2)
      (by rcases hpc with hpc | hpc <;> simp [hpc])
    rwa [List.modify_id] at this

theorem inv_reach {s : State} (h : Reach Cfg.std s) : Inv s := by
  induction h with
  | init k => exact inv_init k
  | step l _ hs ih => exact inv_step ih hs

theorem step_ws_length {s s' : State} {l : Label} (h : step Cfg.std s l = some s') : s'.ws.length = s.ws.length := by
  cases Step.of_step h <;> simp [recvState_ws, bcState, wakeAll, setPc]

theorem step_frame {s s' : State} {l : Label} (h : step Cfg.std s l = some s') (hl : l ≠ .broadcast) :
    s'.cur = s.cur ∧ s'.chans.length = s.chans.length ∧ ∀ c, (chanAt s' c).closed = (chanAt s c).closed := by
  have setCase : ∀ (d : Nat) (x : Chan), x.closed = (chanAt s d).closed →
      ({ s with chans := s.chans.set d x } : State).chans.length = s.chans.length ∧
      ∀ c, (chanAt { s with chans := s.chans.set d x } c).closed = (chanAt s c).closed := by
    intro d x hx
    refine ⟨by simp, fun c => ?_⟩
    by_cases hdc : d = c
    · subst hdc
      by_cases hd : d < s.chans.length
      · rw [chanAt_set_same s d x hd, hx]
      · simp [chanAt, hd]
    · rw [chanAt_set_other s d c x hdc]
  cases Step.of_step h with
  | recv =>
    unfold recvState
    split
    · exact ⟨rfl, rfl, fun _ => rfl⟩
    · exact ⟨rfl, setCase _ _ rfl⟩
  | buffer => exact ⟨rfl, setCase _ _ rfl⟩
  | broadcast => exact absurd rfl hl
  | _ => exact ⟨rfl, rfl, fun _ => rfl⟩

theorem step_chan_mono {s s' : State} {l : Label} {c : Nat} (h : step Cfg.std s l = some s')
    (hc : c < s.chans.length) :
    c < s'.chans.length ∧ ((chanAt s c).closed = true → (chanAt s' c).closed = true) := by
  by_cases hl : l = .broadcast
  · subst hl
    cases Step.of_step h
    refine ⟨by simp [bcState]; omega, fun hcl => ?_⟩
    rw [chanAt_bc_lt s c hc]
    split
    · rfl
    · exact hcl
  · obtain ⟨_, hlen, hcl⟩ := step_frame h hl
    exact ⟨hlen ▸ hc, fun h1 => (hcl c).trans h1⟩

/-- nothing but waiter `i` changes, the lock apart -/
def Frame (s s' : State) (i : Nat) : Prop :=
  s'.chans = s.chans ∧ s'.cur = s.cur ∧ ∀ j, j ≠ i → s'.ws[j]? = s.ws[j]?

theorem frame_modify {s s' : State} {i : Nat} {f : Waiter → Waiter} (hc : s'.chans = s.chans) (hcur : s'.cur = s.cur)
    (hws : s'.ws = s.ws.modify i f) : Frame s s' i :=
  ⟨hc, hcur, fun _ hk => hws ▸ List.getElem?_modify_ne _ _ (Ne.symm hk)⟩

/-- How the pc of waiter `i` can change in a step `s → s'` with label `l`. -/
inductive PcTrans (s s' : State) (i : Nat) : Label → Pc → Pc → Prop where
  | same (l : Label) (p : Pc) : PcTrans s s' i l p p
  | start : PcTrans s s' i (.start i) .idle (.held (some s.cur))
  | release (ch : Option Nat) : PcTrans s s' i (.release i) (.held ch) (.unlocked ch)
  | recv (ch : Option Nat) : PcTrans s s' i (.arrive i .recv) (.unlocked ch) (.woken false)
  | ctx (ch : Option Nat) : Frame s s' i → PcTrans s s' i (.arrive i .ctx) (.unlocked ch) .doneErr
  | park (ch : Option Nat) : (chanAt s (ch.getD s.cur)).closed = false →
      PcTrans s s' i (.arrive i .park) (.unlocked ch) (.parked (ch.getD s.cur))
  | handoff (c : Nat) : PcTrans s s' i (.signal (some i)) (.parked c) (.woken false)
  | wake (c : Nat) : PcTrans s s' i .broadcast (.parked c) (.woken false)
  | expire (c : Nat) : Frame s s' i → PcTrans s s' i (.cancel i) (.parked c) .doneErr
  | relockNil : s'.lock = some i → PcTrans s s' i (.relock i) (.woken false) .doneNil
  | relockErr : Frame s s' i → PcTrans s s' i (.relock i) (.woken true) .doneErr

theorem step_trans {s s' : State} {l : Label} {i : Nat} {w : Waiter}
    (h : step Cfg.std s l = some s') (hw : s.ws[i]? = some w) :
    ∃ w', s'.ws[i]? = some w' ∧ PcTrans s s' i l w.pc w'.pc ∧ (w'.cancelled = w.cancelled ∨ l = .cancel i) := by
  -- `s'` is `setPc s j p` up to lock and channels, where `j` was at `w0`
  have viaSet : ∀ {j : Nat} {w0 : Waiter} {p : Pc}, s.ws[j]? = some w0 → s'.ws = (setPc s j p).ws →
      (j = i → PcTrans s s' i l w0.pc p) →
      ∃ w' : Waiter, s'.ws[i]? = some w' ∧ PcTrans s s' i l w.pc w'.pc ∧ (w'.cancelled = w.cancelled ∨ l = .cancel i) := by
    intro j w0 p hw0 ht' hp
    show ∃ w' : Waiter, s'.ws[i]? = some w' ∧ _
    rw [ht']
    by_cases hji : j = i
    · have hp := hp hji
      subst hji
      rw [hw] at hw0; cases hw0
      exact ⟨_, getElem?_modify_self _ hw, hp, .inl rfl⟩
    · exact ⟨w, (List.getElem?_modify_ne _ _ hji).trans hw, .same _ _, .inl rfl⟩
  cases Step.of_step h with
  | start hw0 hpc hl => exact viaSet hw0 rfl fun e => by subst e; rw [hpc]; exact .start
  | release hw0 hpc hl => exact viaSet hw0 rfl fun e => by subst e; rw [hpc]; exact .release _
  | recv hw0 hpc => exact viaSet hw0 (recvState_ws ..) fun e => by subst e; rw [hpc]; exact .recv _
  | ctx hw0 hpc hc =>
    exact viaSet hw0 rfl fun e => by
      subst e; rw [hpc]; exact .ctx _ (frame_modify rfl rfl rfl)
  | park hw0 hpc hopen => exact viaSet hw0 rfl fun e => by subst e; rw [hpc]; exact .park _ hopen
  | handoff _ hw0 hpc => exact viaSet hw0 rfl fun e => by subst e; rw [hpc]; exact .handoff _
  | buffer | drop | hunlock => exact ⟨w, hw, .same _ _, .inl rfl⟩
  | broadcast =>
    have : (bcState s).ws[i]? = _ := wakeAll_get s.cur s.ws i
    rw [hw] at this
    refine ⟨_, this, ?_⟩
    simp only
    split
    · rename_i hp; rw [hp]; exact ⟨.wake _, .inl rfl⟩
    · exact ⟨.same _ _, .inl rfl⟩
  | @cancel j w0 hw0 =>
    by_cases hji : j = i
    · subst hji
      rw [hw] at hw0; cases hw0
      refine ⟨_, getElem?_modify_self _ hw, ?_, .inr rfl⟩
      show PcTrans s _ _ _ w.pc (cancelPc Cfg.std w.pc)
      cases w.pc with
      | parked c => exact .expire c (frame_modify rfl rfl rfl)
      | _ => exact .same _ _
    · exact ⟨w, (List.getElem?_modify_ne _ _ hji).trans hw, .same _ _, .inl rfl⟩
  | @relock j w0 e hw0 hpc =>
    exact viaSet hw0 rfl fun e' => by
      subst e'; rw [hpc]
      cases e
      · exact .relockNil rfl
      · exact .relockErr (frame_modify rfl rfl rfl)

theorem step_pcTrans {s s' : State} {l : Label} {i : Nat} {w w' : Waiter}
    (h : step Cfg.std s l = some s') (hw : s.ws[i]? = some w) (hw' : s'.ws[i]? = some w') :
    PcTrans s s' i l w.pc w'.pc ∧ (w'.cancelled = w.cancelled ∨ l = .cancel i) := by
  obtain ⟨w2, hw2, ht⟩ := step_trans h hw
  rw [hw'] at hw2; cases hw2
  exact ht

theorem step_trans_back {s s' : State} {l : Label} {i : Nat} {w' : Waiter}
    (h : step Cfg.std s l = some s') (hw' : s'.ws[i]? = some w') :
    ∃ w, s.ws[i]? = some w ∧ PcTrans s s' i l w.pc w'.pc ∧ (w'.cancelled = w.cancelled ∨ l = .cancel i) := by
  have hlt : i < s.ws.length := step_ws_length h ▸ lt_of_getElem? hw'
  exact ⟨_, List.getElem?_eq_getElem hlt, step_pcTrans h (List.getElem?_eq_getElem hlt) hw'⟩

theorem isRun (cfg : Cfg) : LTS.IsRun (step cfg) (run cfg) :=
  ⟨fun _ => rfl, fun s l ls => by rw [run]; cases step cfg s l <;> rfl⟩

/-- Waiter `i` can no longer go to sleep in this `Wait` call: it has been woken or has returned,
or it is still on its way to the `select` with a snapshot that is a closed channel. -/
def Doomed (s : State) (i : Nat) : Prop :=
  ∃ w, s.ws[i]? = some w ∧
    (w.pc = .woken false ∨ w.pc = .doneNil ∨ w.pc = .doneErr ∨
      ∃ ch, w.pc = .unlocked (some ch) ∧ ch < s.chans.length ∧ (chanAt s ch).closed = true)

theorem doomed_step {s s' : State} {l : Label} {i : Nat} (hd : Doomed s i) (h : step Cfg.std s l = some s') :
    Doomed s' i := by
  obtain ⟨w, hw, hcase⟩ := hd
  obtain ⟨w', hw', ht, _⟩ := step_trans h hw
  refine ⟨w', hw', ?_⟩
  generalize w'.pc = p' at ht
  rcases hcase with hp | hp | hp | ⟨ch, hp, hlt, hcl⟩ <;> rw [hp] at ht
  · cases ht <;> simp
  · cases ht; simp
  · cases ht; simp
  · have hm := step_chan_mono (c := ch) h hlt
    cases ht with
    | same => right; right; right; exact ⟨ch, rfl, hm.1, hm.2 hcl⟩
    | recv => simp
    | ctx => simp
    | park _ hopen => simp [hcl] at hopen

theorem doomed_run {s s' : State} {ls : List Label} {i : Nat} (hd : Doomed s i) (h : run Cfg.std s ls = some s') :
    Doomed s' i :=
  (isRun _).reach (fun hd h => doomed_step hd h) hd h

theorem Doomed.no_park {s : State} {i : Nat} (hd : Doomed s i) : step Cfg.std s (.arrive i .park) = none := by
  refine Option.eq_none_iff_forall_ne_some.mpr fun s' h => ?_
  obtain ⟨w, hw, hc⟩ := hd
  cases Step.of_step h with
  | park hw' hpc hopen =>
    cases hw.symm.trans hw'
    rcases hc with hp | hp | hp | ⟨ch, hp, _, hcl⟩ <;> rw [hp] at hpc <;> cases hpc
    exact nomatch hcl.symm.trans hopen

theorem Doomed.recv_ready {s : State} {i : Nat} {w : Waiter} {ch : Option Nat} (hd : Doomed s i)
    (hw : s.ws[i]? = some w) (hp : w.pc = .unlocked ch) : (step Cfg.std s (.arrive i .recv)).isSome := by
  obtain ⟨w', hw', hc⟩ := hd
  cases hw.symm.trans hw'
  rcases hc with hq | hq | hq | ⟨c, hq, _, hcl⟩ <;> rw [hp] at hq <;> cases hq
  exact Option.isSome_iff_exists.mpr ⟨_, (Step.recv hw hp (.inl hcl)).to_step⟩

theorem broadcast_dooms {s s' : State} {i : Nat} {w : Waiter} (hi : Inv s) (h : step Cfg.std s .broadcast = some s')
    (hw : s.ws[i]? = some w) (hent : (∃ ch, w.pc = .unlocked ch) ∨ (∃ c, w.pc = .parked c)) : Doomed s' i := by
  cases Step.of_step h
  have hget : (bcState s).ws[i]? = _ := wakeAll_get s.cur s.ws i
  rw [hw] at hget
  refine ⟨_, hget, ?_⟩
  rcases hent with ⟨ch, hp⟩ | ⟨c, hp⟩
  · obtain ⟨_, c, rfl, hc⟩ := hi.wait_pc hw hp
    right; right; right
    have hc' : c < (bcState s).chans.length := by simp [bcState]; omega
    exact ⟨c, by simp [hp], hc', (inv_bcState hi).old_closed c hc' (Nat.ne_of_lt hc)⟩
  · obtain ⟨_, rfl, _⟩ := hi.wait_pc hw hp
    left; simp [hp]

theorem reach_run {cfg : Cfg} {ls : List Label} {s s' : State} (hr : Reach cfg s) (h : run cfg s ls = some s') :
    Reach cfg s' :=
  (isRun cfg).reach (.step _) hr h

/-- A token remembered for a waiter that has released the lock but is not yet parked can be taken by a waiter
that enters `Wait` only after the `Signal`; the earlier waiter then parks. Under the property text ("m Signal
calls wake at least min(k, m) *of them*") this is a lost wake-up with k = 1, m = 1: second refutation of the
clause, `Props.C16.signal_wakes_min_late_entrant_false` (open known finding, D13 family). -/
theorem late_entrant_takes_token :
    ∃ s, run Cfg.std (init Cfg.std 2)
        [.start 0, .release 0, .signal none, .start 1, .release 1, .arrive 1 .recv, .relock 1, .arrive 0 .park] = some s ∧
      pcOf s 0 = some (.parked 0) ∧ pcOf s 1 = some .doneNil :=
  ⟨_, rfl, by decide, by decide⟩

end Juniper.Proofs.Cond
