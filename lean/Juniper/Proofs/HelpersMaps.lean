import Juniper.Proofs.HelpersBasic
import Juniper.Model.HelpersSort
/-! `xmaps`: finite maps as association lists, sets as lists (C19). -/
namespace Juniper.Proofs.Helpers
open Juniper.Model.Helpers Juniper.Spec.Helpers Juniper.Gen.Helpers

variable {κ ν : Type} [DecidableEq κ]

theorem mget_nil (k : κ) : mget ([] : List (κ × ν)) k = none := rfl

theorem mget_cons (p : κ × ν) (m : List (κ × ν)) (k : κ) :
    mget (p :: m) k = if p.1 = k then some p.2 else mget m k := by
  unfold mget
  rw [List.find?_cons]
  by_cases h : p.1 = k <;> simp [h]

theorem mget_filter_of (m : List (κ × ν)) (k' : κ) (q : κ × ν → Bool) (hq : ∀ p, p.1 = k' → q p = true) :
    mget (m.filter q) k' = mget m k' := by
  induction m with
  | nil => rfl
  | cons p m ih =>
    rw [List.filter_cons]
    by_cases hp : p.1 = k'
    · rw [if_pos (hq p hp), mget_cons, mget_cons, if_pos hp, if_pos hp]
    · by_cases hqp : q p = true
      · rw [if_pos hqp, mget_cons, mget_cons, if_neg hp, if_neg hp, ih]
      · rw [if_neg hqp, mget_cons, if_neg hp, ih]

theorem mget_mput (m : List (κ × ν)) (k k' : κ) (v : ν) :
    mget (mput m k v) k' = if k' = k then some v else mget m k' := by
  unfold mput
  rw [mget_cons]
  by_cases h : k' = k
  · subst h; simp
  · have h' : ¬ k = k' := fun e => h e.symm
    rw [if_neg h', if_neg h]
    apply mget_filter_of
    intro p hp
    simp only [ne_eq, decide_eq_true_eq]
    intro e; exact h (hp ▸ e)

theorem mget_some_mem {m : List (κ × ν)} {k : κ} {v : ν} (h : mget m k = some v) : (k, v) ∈ m := by
  induction m with
  | nil => simp [mget_nil] at h
  | cons p m ih =>
    rw [mget_cons] at h
    by_cases hp : p.1 = k
    · simp [hp] at h; simp [← hp, ← h]
    · simp [hp] at h; exact List.mem_cons_of_mem _ (ih h)

theorem mget_isSome_iff (m : List (κ × ν)) (k : κ) : (mget m k).isSome = true ↔ ∃ v, (k, v) ∈ m := by
  induction m with
  | nil => simp [mget_nil]
  | cons p m ih =>
    rw [mget_cons]
    by_cases hp : p.1 = k
    · simp only [hp, ↓reduceIte, Option.isSome_some, List.mem_cons, true_iff]
      exact ⟨p.2, Or.inl (by rw [← hp])⟩
    · simp only [hp, ↓reduceIte, ih, List.mem_cons]
      constructor
      · rintro ⟨v, hv⟩; exact ⟨v, Or.inr hv⟩
      · rintro ⟨v, hv | hv⟩
        · exact absurd (congrArg Prod.fst hv).symm hp
        · exact ⟨v, hv⟩

omit [DecidableEq κ] in
theorem rs_flag (ok : Bool) (o : Option κ) : (if rsDup o.isSome then rsDupVal else ok) = (ok && o.isNone) := by
  cases o <;> cases ok <;> rfl

omit [DecidableEq κ] in
theorem fkv_flag (ok : Bool) (o : Option ν) : (if fkvDup o.isSome then fkvDupVal else ok) = (ok && o.isNone) := by
  cases o <;> cases ok <;> rfl

theorem mapReverse_spec [DecidableEq ν] (m : List (κ × ν)) (k : κ) (v : ν) :
    k ∈ (mget (mapReverse m) v).getD [] ↔ (k, v) ∈ m := by
  induction m with
  | nil => simp [mapReverse, mget_nil]
  | cons p m ih =>
    obtain ⟨k0, v0⟩ := p
    simp only [mapReverse, mapRevBody, ↓reduceIte, mget_mput, List.mem_cons, Prod.mk.injEq]
    by_cases hv : v = v0
    · subst hv; simp [ih]
    · simp [hv, ih]

theorem mapReverseSingle_spec [DecidableEq ν] (m : List (κ × ν)) :
    (∀ v k, mget (mapReverseSingle m).1 v = some k → (k, v) ∈ m) ∧
    (∀ v, (mget (mapReverseSingle m).1 v).isSome = true ↔ ∃ k, (k, v) ∈ m) ∧
    ((mapReverseSingle m).2 = true ↔ (m.map Prod.snd).Nodup) := by
  induction m with
  | nil => simp [mapReverseSingle, mget_nil, rsOk0]
  | cons p m ih =>
    obtain ⟨k0, v0⟩ := p
    obtain ⟨ih1, ih2, ih3⟩ := ih
    simp only [mapReverseSingle, rsBody, ↓reduceIte, rs_flag]
    refine ⟨?_, ?_, ?_⟩
    · intro v k h
      rw [mget_mput] at h
      by_cases hv : v = v0
      · simp [hv] at h; simp [hv, h]
      · simp [hv] at h; exact List.mem_cons_of_mem _ (ih1 v k h)
    · intro v
      rw [mget_mput]
      by_cases hv : v = v0
      · simp only [hv, ↓reduceIte, Option.isSome_some, List.mem_cons, Prod.mk.injEq, and_true, true_iff]
        exact ⟨k0, Or.inl rfl⟩
      · simp only [hv, ↓reduceIte, ih2, List.mem_cons, Prod.mk.injEq, and_false, false_or]
    · simp only [Bool.and_eq_true, ih3, List.map_cons, List.nodup_cons, List.mem_map]
      have hex : (∃ k, (k, v0) ∈ m) ↔ ∃ a, a ∈ m ∧ a.2 = v0 :=
        ⟨fun ⟨k, h⟩ => ⟨(k, v0), h, rfl⟩, fun ⟨⟨k, v⟩, h, e⟩ => ⟨k, by cases e; exact h⟩⟩
      have : (mget (mapReverseSingle m).1 v0).isNone = true ↔ ¬ ∃ a, a ∈ m ∧ a.2 = v0 := by
        rw [← hex, ← ih2 v0]; cases mget (mapReverseSingle m).1 v0 <;> simp
      rw [this]
      exact And.comm

/-- what the loop of `FromKeysAndValues` leaves under a key: the value standing at the key's LAST index (a later
`m[k] = v` overwrites an earlier one) -/
theorem fromKVLoop_get (hb : fkvBody = ["if ok {", "allOk = false", "}", "m[keys[i]] = values[i]"]) (ks : List κ) (vs : List ν) (m : List (κ × ν)) (ok : Bool) (hl : ks.length = vs.length) (k : κ) :
    (k ∉ ks → mget (fromKVLoop ks vs m ok).1 k = mget m k) ∧
    (k ∈ ks → ∃ (j : Nat) (v : ν), mget (fromKVLoop ks vs m ok).1 k = some v ∧ ks[j]? = some k ∧ vs[j]? = some v ∧
      ∀ j', j < j' → ks[j']? ≠ some k) := by
  induction ks generalizing vs m ok with
  | nil =>
    cases vs with
    | nil => simp [fromKVLoop]
    | cons _ _ => simp at hl
  | cons x xs ih =>
    cases vs with
    | nil => simp at hl
    | cons v vs =>
      simp only [List.length_cons, Nat.add_right_cancel_iff] at hl
      simp only [fromKVLoop, if_pos hb, fkv_flag]
      obtain ⟨ih1, ih2⟩ := ih vs (mput m x v) (ok && (mget m x).isNone) hl
      refine ⟨?_, ?_⟩
      · intro hk
        simp only [List.mem_cons, not_or] at hk
        rw [ih1 hk.2, mget_mput]; simp [hk.1]
      · intro hk
        by_cases hxs : k ∈ xs
        · obtain ⟨j, w, h1, h2, h3, h4⟩ := ih2 hxs
          refine ⟨j + 1, w, h1, by simpa using h2, by simpa using h3, fun j' hj' => ?_⟩
          cases j' with
          | zero => omega
          | succ j'' => simpa using h4 j'' (by omega)
        · have hkx : k = x := (List.mem_cons.mp hk).resolve_right hxs
          refine ⟨0, v, ?_, by simp [hkx], by simp, fun j' hj' => ?_⟩
          · rw [ih1 hxs, mget_mput]; simp [hkx]
          · cases j' with
            | zero => omega
            | succ j'' => exact fun h => hxs (List.mem_of_getElem? (by simpa using h))

theorem toIndexFrom_eq_fromKVLoop (hb : toIndexBody = ["m[keys[i]] = i"])
    (hb' : fkvBody = ["if ok {", "allOk = false", "}", "m[keys[i]] = values[i]"]) (ks : List κ) :
    ∀ (i : Nat) (m : List (κ × Nat)) (ok : Bool),
      toIndexFrom i ks m = (fromKVLoop ks (List.range' i ks.length) m ok).1 := by
  induction ks with
  | nil => intro i m ok; rfl
  | cons x xs ih =>
    intro i m ok
    simp only [toIndexFrom, if_pos hb, List.length_cons, List.range'_succ, fromKVLoop, if_pos hb']
    exact ih (i + 1) _ _

theorem toIndex_spec (keys : List κ) (k : κ) :
    (k ∉ keys → mget (toIndex keys) k = none) ∧
    (k ∈ keys → ∃ j : Nat, mget (toIndex keys) k = some j ∧ keys[j]? = some k ∧ ∀ j', j < j' → keys[j']? ≠ some k) := by
  -- the loop bodies are `m[keys[i]] = i` and `m[keys[i]] = values[i]`
  obtain ⟨h1, h2⟩ := fromKVLoop_get rfl keys (List.range' 0 keys.length) [] true (by simp) k
  rw [toIndex, toIndexFrom_eq_fromKVLoop rfl rfl keys 0 [] true]
  refine ⟨h1, fun hk => ?_⟩
  obtain ⟨j, v, e, hj, hv, hlast⟩ := h2 hk
  obtain ⟨_, rfl⟩ := List.getElem?_eq_some_iff.mp hv
  exact ⟨j, by simpa using e, hj, hlast⟩

theorem fromKVLoop_ok (hb : fkvBody = ["if ok {", "allOk = false", "}", "m[keys[i]] = values[i]"]) (ks : List κ) (vs : List ν) (m : List (κ × ν)) (ok : Bool) (hl : ks.length = vs.length) :
    ((fromKVLoop ks vs m ok).2 = true ↔ ok = true ∧ ks.Nodup ∧ ∀ x ∈ ks, mget m x = none) := by
  induction ks generalizing vs m ok with
  | nil =>
    cases vs with
    | nil => simp [fromKVLoop]
    | cons _ _ => simp at hl
  | cons x xs ih =>
    cases vs with
    | nil => simp at hl
    | cons v vs =>
      simp only [List.length_cons, Nat.add_right_cancel_iff] at hl
      simp only [fromKVLoop, if_pos hb, fkv_flag]
      rw [ih vs (mput m x v) (ok && (mget m x).isNone) hl]
      simp only [Bool.and_eq_true, List.nodup_cons, List.mem_cons, forall_eq_or_imp, Option.isNone_iff_eq_none]
      constructor
      · rintro ⟨⟨h1, h2⟩, h3, h4⟩
        refine ⟨h1, ⟨?_, h3⟩, h2, ?_⟩
        · intro hx
          have := h4 x hx
          rw [mget_mput] at this; simp at this
        · intro y hy
          have := h4 y hy
          rw [mget_mput] at this
          by_cases hyx : y = x
          · simp [hyx] at this
          · simpa [hyx] using this
      · rintro ⟨h1, ⟨h2, h3⟩, h4, h5⟩
        refine ⟨⟨h1, h4⟩, h3, ?_⟩
        intro y hy
        rw [mget_mput]
        have : y ≠ x := fun e => h2 (e ▸ hy)
        simp [this, h5 y hy]

theorem fromKeysAndValues_spec (keys : List κ) (values : List ν) :
    (fromKeysAndValues keys values = none ↔ keys.length ≠ values.length) ∧
    (∀ m ok, fromKeysAndValues keys values = some (m, ok) →
      (ok = true ↔ keys.Nodup) ∧
      (∀ k, k ∉ keys → mget m k = none) ∧
      (∀ k, k ∈ keys → ∃ (j : Nat) (v : ν), mget m k = some v ∧ keys[j]? = some k ∧ values[j]? = some v)) := by
  unfold fromKeysAndValues
  have hp : fkvPanics keys.length values.length = decide (keys.length ≠ values.length) := by
    simp only [fkvPanics, ne_eq, decide_not, Int.natCast_inj]
  rw [hp, show fkvOk0 = true from rfl]
  simp only [decide_eq_true_eq]
  by_cases hl : keys.length = values.length
  · simp only [hl, ne_eq, not_true_eq_false, ↓reduceIte, reduceCtorEq, Option.some.injEq, true_and]
    intro m ok h
    have hm : m = (fromKVLoop keys values [] true).1 := by rw [h]
    have hok : ok = (fromKVLoop keys values [] true).2 := by rw [h]
    subst hm hok
    refine ⟨?_, ?_, ?_⟩
    · rw [fromKVLoop_ok rfl keys values [] true hl]
      simp [mget_nil]
    · intro k hk; have := (fromKVLoop_get rfl keys values [] true hl k).1 hk; simpa [mget_nil] using this
    · intro k hk
      obtain ⟨j, v, h1, h2, h3, _⟩ := (fromKVLoop_get rfl keys values [] true hl k).2 hk
      exact ⟨j, v, h1, h2, h3⟩
  · simp [hl]

/-- `missScan` with the mirrored pieces (`j < len(sets)`, `!ok`, `include = false; break`, `j++`):
`include` survives iff `k` is in every set from index `j` on; no index panic, the fuel suffices. -/
theorem missScan_spec (loop : Int → Int → Bool) (miss : Bool → Bool) (missVal breaks : Bool) (incs : Nat)
    (hl : ∀ j n, loop j n = decide (j < n)) (hm : ∀ b, miss b = !b) (hv : missVal = false) (hb : breaks = true)
    (hi : incs = 1) (k : κ) (sets : List (List κ)) :
    ∀ (fuel j : Nat) (inc : Bool), j ≤ sets.length → sets.length - j < fuel →
      missScan loop miss missVal breaks incs k sets fuel (j : Int) inc =
        some (inc && (sets.drop j).all (fun t => decide (k ∈ t))) := by
  subst hv hb hi
  intro fuel
  induction fuel with
  | zero => intro j inc _ hf; omega
  | succ fuel ih =>
    intro j inc hj hf
    simp only [missScan, hl, hm, decide_eq_true_eq, Int.ofNat_lt, if_true]
    by_cases hlt : j < sets.length
    · rw [if_pos hlt, getI_of_lt sets j hlt]
      simp only
      have hd : sets.drop j = sets[j] :: sets.drop (j + 1) := List.drop_eq_getElem_cons hlt
      by_cases hk : k ∈ sets[j]
      · have : ((j : Int) + ((1 : Nat) : Int)) = ((j + 1 : Nat) : Int) := by omega
        simp only [hk, decide_true, Bool.not_true, Bool.false_eq_true, if_false, this]
        rw [ih (j + 1) inc (by omega) (by omega), hd, List.all_cons]
        simp only [hk, decide_true, Bool.true_and]
      · simp only [hk, decide_false, Bool.not_false, if_true]
        rw [hd, List.all_cons]
        simp only [hk, decide_false, Bool.false_and, Bool.and_false]
    · rw [if_neg hlt]
      have : sets.drop j = [] := List.drop_eq_nil_of_le (by omega)
      simp [this]

/-! A set is a duplicate-free list; `s[k] = struct{}{}` appends `k` unless it is there (`Union`, `Set.Add`,
`SetFromSlice`). -/

theorem mem_insert (out : List κ) (k x : κ) : x ∈ (if k ∈ out then out else out ++ [k]) ↔ x ∈ out ∨ x = k := by
  by_cases h : k ∈ out
  · rw [if_pos h]; exact ⟨Or.inl, fun hx => hx.elim id (· ▸ h)⟩
  · rw [if_neg h, List.mem_append, List.mem_singleton]

theorem nodup_insert (out : List κ) (k : κ) (h : out.Nodup) : (if k ∈ out then out else out ++ [k]).Nodup := by
  by_cases hk : k ∈ out
  · rwa [if_pos hk]
  · rw [if_neg hk]
    exact List.nodup_append.mpr
      ⟨h, List.pairwise_singleton _ k, fun a ha b hb e => hk (List.mem_singleton.mp hb ▸ e ▸ ha)⟩

theorem mem_foldl_insert (set out : List κ) (x : κ) :
    x ∈ set.foldl (fun out k => if k ∈ out then out else out ++ [k]) out ↔ x ∈ out ∨ x ∈ set := by
  induction set generalizing out with
  | nil => simp
  | cons k ks ih => rw [List.foldl_cons, ih, mem_insert, List.mem_cons, or_assoc]

theorem nodup_foldl_insert (set out : List κ) (h : out.Nodup) :
    (set.foldl (fun out k => if k ∈ out then out else out ++ [k]) out).Nodup := by
  induction set generalizing out with
  | nil => exact h
  | cons k ks ih => exact ih _ (nodup_insert out k h)

theorem mem_setUnion_aux (sets : List (List κ)) (out : List κ) (x : κ) :
    x ∈ sets.foldl (fun out set => set.foldl (fun out k => if k ∈ out then out else out ++ [k]) out) out ↔
      x ∈ out ∨ ∃ s ∈ sets, x ∈ s := by
  induction sets generalizing out with
  | nil => simp
  | cons s ss ih => simp only [List.foldl_cons, ih, mem_foldl_insert, List.mem_cons, exists_eq_or_imp, or_assoc]

theorem mem_setUnion (sets : List (List κ)) (x : κ) : x ∈ setUnion sets ↔ ∃ s ∈ sets, x ∈ s := by
  unfold setUnion
  simp only [unionBody, ↓reduceIte]      -- the body of the outer loop is the inner `for k := range set` loop
  rw [mem_setUnion_aux]; simp

omit [DecidableEq κ] in
theorem mem_insertBySize (s : List κ) (ts : List (List κ)) (t : List κ) :
    t ∈ insertBySize s ts ↔ t = s ∨ t ∈ ts := by
  induction ts with
  | nil => simp [insertBySize]
  | cons u us ih =>
    simp only [insertBySize]
    split
    · simp
    · simp only [List.mem_cons, ih, or_left_comm]

omit [DecidableEq κ] in
theorem mem_sortBySize (sets : List (List κ)) (t : List κ) : t ∈ sortBySize sets ↔ t ∈ sets := by
  induction sets with
  | nil => simp [sortBySize]
  | cons s ss ih =>
    simp only [sortBySize, List.foldr_cons, List.mem_cons] at *
    rw [mem_insertBySize, ih]

omit [DecidableEq κ] in
theorem sortBySize_cases (sets : List (List κ)) :
    (sortBySize sets = [] ∧ sets = []) ∨
    ∃ s0 rest, sortBySize sets = s0 :: rest ∧ sets ≠ [] ∧
      ∀ x, (x ∈ s0 ∧ ∀ t ∈ rest, x ∈ t) ↔ ∀ s ∈ sets, x ∈ s := by
  have hm := mem_sortBySize sets
  cases hs : sortBySize sets with
  | nil =>
    left
    refine ⟨rfl, ?_⟩
    cases sets with
    | nil => rfl
    | cons a _ => have := (hm a).mpr (List.mem_cons_self ..); rw [hs] at this; simp at this
  | cons s0 rest =>
    right
    rw [hs] at hm
    refine ⟨s0, rest, rfl, ?_, fun x => ⟨?_, ?_⟩⟩
    · intro he; subst he; have := (hm s0).mp (List.mem_cons_self ..); simp at this
    · rintro ⟨h0, hr⟩ s hs'
      rcases List.mem_cons.mp ((hm s).mpr hs') with h | h
      · exact h ▸ h0
      · exact hr s h
    · intro h
      exact ⟨h s0 ((hm s0).mp (List.mem_cons_self ..)), fun t ht => h t ((hm t).mp (List.mem_cons_of_mem _ ht))⟩

theorem interKeys_spec (sorted : List (List κ)) (P : κ → Bool)
    (hinc : ∀ k, interInclude k sorted = some (P k)) (hst : ∀ b, interStores b = b) :
    ∀ ks, interKeys sorted ks = some (ks.filter P) := by
  intro ks
  induction ks with
  | nil => rfl
  | cons k ks ih =>
    simp only [interKeys, hinc, ih, hst, List.filter_cons]

theorem intsKeys_spec (sorted : List (List κ)) (P : κ → Bool)
    (hinc : ∀ k, intsInclude k sorted = some (P k)) (hh : ∀ b, intsHit b = b) (ht : intsHitRet = true)
    (he : intsEndRet = false) :
    ∀ ks, intsKeys sorted ks = some (ks.any P) := by
  intro ks
  induction ks with
  | nil => simp [intsKeys, he]
  | cons k ks ih =>
    simp only [intsKeys, hinc, ih, hh, ht, List.any_cons]
    cases P k <;> simp

theorem mem_setIntersection (sets : List (List κ)) :
    ∃ r, setIntersection sets = some r ∧ ∀ x, x ∈ r ↔ sets ≠ [] ∧ ∀ s ∈ sets, x ∈ s := by
  -- the model, through the regenerated pieces of `xmaps.Intersection` (guards, `j := 1`, `j < len(sets)`,
  -- `j++`, `include = false; break`, `if include`, the sort by size)
  have heq : setIntersection sets = some (match sortBySize sets with
      | [] => []
      | s0 :: rest => s0.filter (fun k => rest.all (fun t => decide (k ∈ t)))) := by
    unfold setIntersection
    cases sets with
    | nil => rfl
    | cons a as =>
      have : interEmpty ((a :: as).length : Int) = false := by
        simp only [interEmpty, List.length_cons, decide_eq_false_iff_not]; omega
      rw [this]
      simp only [Bool.false_eq_true, ↓reduceIte, interSortsBySize]
      cases sortBySize (a :: as) with
      | nil => rfl
      | cons s0 rest =>
        simp only
        refine interKeys_spec (s0 :: rest) _ (fun k => ?_) (fun _ => rfl) s0
        have := missScan_spec interLoop interMiss interMissVal interMissBreaks interIncs
          (fun _ _ => rfl) (fun _ => rfl) rfl rfl rfl k (s0 :: rest) ((s0 :: rest).length + 1) 1 interInclude0
          (by simp) (by simp only [List.length_cons]; omega)
        simpa [interInclude, interJ0, interInclude0] using this
  refine ⟨_, heq, fun x => ?_⟩
  rcases sortBySize_cases sets with ⟨hs, he⟩ | ⟨s0, rest, hs, hne, hx⟩
  · rw [hs]; simp [he]
  · rw [hs, ← hx x]
    simp only [List.mem_filter, List.all_eq_true, decide_eq_true_eq, hne, ne_eq, not_false_eq_true, true_and]

theorem setIntersects_iff (sets : List (List κ)) :
    ∃ b, setIntersects sets = some b ∧ (b = true ↔ sets ≠ [] ∧ ∃ x, ∀ s ∈ sets, x ∈ s) := by
  have heq : setIntersects sets = some (match sortBySize sets with
      | [] => false
      | s0 :: rest => s0.any (fun k => rest.all (fun t => decide (k ∈ t)))) := by
    unfold setIntersects
    cases sets with
    | nil => rfl
    | cons a as =>
      have : intsEmpty ((a :: as).length : Int) = false := by
        simp only [intsEmpty, List.length_cons, decide_eq_false_iff_not]; omega
      rw [this]
      simp only [Bool.false_eq_true, ↓reduceIte, intsSortsBySize]
      cases sortBySize (a :: as) with
      | nil => rfl
      | cons s0 rest =>
        simp only
        refine intsKeys_spec (s0 :: rest) _ (fun k => ?_) (fun _ => rfl) rfl rfl s0
        have := missScan_spec intsLoop intsMiss intsMissVal intsMissBreaks intsIncs
          (fun _ _ => rfl) (fun _ => rfl) rfl rfl rfl k (s0 :: rest) ((s0 :: rest).length + 1) 1 intsInclude0
          (by simp) (by simp only [List.length_cons]; omega)
        simpa [intsInclude, intsJ0, intsInclude0] using this
  refine ⟨_, heq, ?_⟩
  rcases sortBySize_cases sets with ⟨hs, he⟩ | ⟨s0, rest, hs, hne, hx⟩
  · rw [hs]; simp [he]
  · rw [hs]
    simp only [List.any_eq_true, List.all_eq_true, decide_eq_true_eq, hne, ne_eq, not_false_eq_true, true_and, ← hx]

theorem mem_setDifference (a b : List κ) (x : κ) : x ∈ setDifference a b ↔ x ∈ a ∧ x ∉ b := by
  simp [setDifference, diffBody, diffKeeps]

end Juniper.Proofs.Helpers
