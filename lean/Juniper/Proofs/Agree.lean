import Juniper.Proofs.IterReduce
import Juniper.Proofs.StreamReduce
import Juniper.Proofs.StreamSrc
/-!
# Iterator and stream versions agree (C07)

For the `iter_stream_agree_*` theorems of `Props/C07.lean`: on streams that end, the spec functions of the stream side
(`flattenS`, `joinS`, `oneRes`) are the list functions of the iterator side; `stream.One` makes the iterator's number of pulls.
-/
namespace Juniper.Proofs.StreamDen
open Juniper.Model Juniper.Model.Stream Juniper.Spec Juniper.Gen.Comb
open Juniper.Proofs.IterDen
universe u v w x
variable {σ : Type u} {σ' : Type w} {τ : Type w} {α β : Type v} {γ : Type x} {soft : Err → Bool}

theorem flattenS_ended (p : Nat) (ls : List (List α)) (e : Nat) :
    flattenS srcD (annot p (ls.map ofList)) (.end_ e) =
      ((annot p ls).flatMap fun q => q.1.map fun a => (a, q.2), .end_ e) := by
  induction ls generalizing p with
  | nil => rfl
  | cons l ls ih => simp [annot, flattenS, srcD_ofList, innerOut, innerTerm, ih]

theorem joinS_ended (ls : List (List α)) :
    joinS srcD (ls.map ofList) = (ls.flatten.map fun a => (a, 0), .end_ 0) := by
  induction ls with
  | nil => rfl
  | cons l ls ih => simp [joinS, srcD_ofList, innerOut, innerTerm, ih]

/-- the iterator side of `Flatten` over slices, in the same normal form -/
theorem flatten_annot (p : Nat) (ls : List (List α)) :
    ((annot p (ls.map Iter.Src.of)).flatMap fun q => (q.1.rest).map fun a => (a, q.2)) =
      (annot p ls).flatMap fun q => q.1.map fun a => (a, q.2) := by
  rw [annot_map, List.flatMap_map]
  rfl

/-- the iterator's `(value, ok)` reading of the stream's `One` result -/
def oneOpt : ROut α → Option α
  | .ok a => some a
  | _ => none

theorem oneRes_opt (l : List α) (e : Nat) :
    oneOpt (oneRes l (.end_ e)) = (match l with | [a] => some a | _ => none) := by
  match l with
  | [] => rfl
  | [_] => rfl
  | _ :: _ :: _ => rfl

/-- `stream.One` (fault-free run, live context) makes at most two `Next` calls, as `iterator.One` does (then closes). -/
theorem one_cost {m : SM σ α} {cost : σ → Nat} {s : σ} {L : List (α × Nat)} {e : Nat}
    (hclose : ∀ s, cost (m.close s) = cost s) (h : SDen strict m cost s L (.end_ e)) :
    Enough fun fuel => cost (Stream.one m true fuel s).2 = oneCost L e := by
  refine (one_strict h).mono fun fuel hF => (hF.2 e rfl hclose).trans ?_
  match L with
  | [] => rfl
  | [_] => rfl
  | _ :: _ :: _ => rfl

end Juniper.Proofs.StreamDen
