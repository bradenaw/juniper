import Juniper.Proofs.HeapInv
/-!
# The heap operations: shape lemmas (what each operation computes, all presence facts discharged),
then order and permutation for heapify / push / pop / removeAt / updateAt.
-/
namespace Juniper.Proofs.Heap
open Juniper.Gen.Heap Juniper.Model.Heap Juniper.Spec.Heap

variable {α : Type}

theorem heapifyLoop_heapFrom {less : α → α → Bool} (sw : StrictWeak less) (f k : Nat) (a : List α)
    (hk : k ≤ f) (h : HeapFrom less a k) : HeapFrom less (heapifyLoop less f a ((k : Int) - 1)).1 0 := by
  induction f generalizing k a with
  | zero =>
    have : k = 0 := by omega
    subst this; exact h
  | succ f ih =>
    rw [heapifyLoop_succ]
    cases k with
    | zero => simpa using h
    | succ k =>
      have e1 : (0 : Int) ≤ ((k + 1 : Nat) : Int) - 1 := by omega
      have e2 : (((k + 1 : Nat) : Int) - 1).toNat = k := by omega
      have e3 : ((k + 1 : Nat) : Int) - 1 - 1 = (k : Int) - 1 := by omega
      simp only [e1, if_true, e2, e3]
      apply ih k _ (by omega)
      exact percolateDown_heapFrom sw a k k (Nat.le_refl _)
        ⟨fun j hj hlo hne => h j hj (by omega), fun j hi hlo => by omega⟩

theorem new_a (less : α → α → Bool) (init : List α) :
    (new less init).1.a = (heapifyLoop less init.length init (((init.length / 2 : Nat) : Int) - 1)).1 := by
  simp only [new, newStart_eq]

theorem new_gen (less : α → α → Bool) (init : List α) : (new less init).1.gen = 0 := rfl

theorem new_notes (less : α → α → Bool) (init : List α) :
    (new less init).2 =
      (heapifyLoop less init.length init (((init.length / 2 : Nat) : Int) - 1)).2 ++
        notifyAll (new less init).1.a := by
  simp only [new, newStart_eq, newNotifiesAll, if_true]

theorem notifyAll_mem {a : List α} {n : Note α} (hn : n ∈ notifyAll a) : n.1 ∈ a := by
  rw [notifyAll_eq] at hn
  exact List.mem_of_getElem? (List.mem_zipIdx_iff_getElem?.mp hn)

theorem new_heapInv {less : α → α → Bool} (sw : StrictWeak less) (init : List α) :
    HeapInv less (new less init).1.a := by
  rw [new_a, heapInv_iff_heapFrom]
  apply heapifyLoop_heapFrom sw _ _ _ (Nat.div_le_self _ _)
  intro j hj hlo
  exact lessAt_of_length_le (by omega) _

theorem new_perm (less : α → α → Bool) (init : List α) : (new less init).1.a.Perm init := by
  rw [new_a]; exact (heapifyLoop_swaps _ _ _ _).perm

theorem push_a (less : α → α → Bool) (h : Heap α) (x : α) :
    (push less h x).1.a = (percolateUp less (h.a ++ [x]) h.a.length).1 := by
  simp [push, pushAppends, pushSiftsUp]

theorem push_gen (less : α → α → Bool) (h : Heap α) (x : α) :
    (push less h x).1.gen = bump pushBumpsGen h.gen := rfl

theorem push_announced (less : α → α → Bool) (h : Heap α) (x : α) :
    Announced (h.a ++ [x]) h.a.length (push less h x).1.a (push less h x).2 :=
  ⟨_, by simp [push, pushAppends, pushSiftsUp, pushNotifies], push_a less h x ▸ percolateUp_swaps less _ _⟩

theorem push_heapInv {less : α → α → Bool} (sw : StrictWeak less) (h : Heap α) (x : α)
    (hh : HeapInv less h.a) : HeapInv less (push less h x).1.a := by
  rw [push_a]
  rw [heapInv_iff] at hh
  apply percolateUp_heapInv sw _ _ (by simp)
  constructor
  · intro j hj hne
    by_cases hjl : j < h.a.length
    · rw [lessAt_append_left _ hjl (by omega)]; exact hh j hj
    · exact lessAt_of_length_le (by simp; omega) _
  · intro j _ hj hpj
    exact lessAt_of_length_le (by simp; omega) _

theorem push_perm (less : α → α → Bool) (h : Heap α) (x : α) : (push less h x).1.a.Perm (x :: h.a) := by
  rw [push_a]
  exact (percolateUp_perm _ _ _).trans (List.perm_append_singleton x h.a)

theorem len_eq_length (h : Heap α) : len h = h.a.length := rfl

theorem peek_eq_getElem? (h : Heap α) : peek h = h.a[0]? := rfl

theorem pop_none_iff (less : α → α → Bool) (h : Heap α) : pop less h = none ↔ h.a = [] := by
  unfold pop
  cases ha : h.a with
  | nil => simp [popIdx]
  | cons x t =>
    have : (x :: t).getLast? = some ((x :: t).getLast (by simp)) := List.getLast?_eq_some_getLast (by simp)
    simp [popIdx, this]

theorem pop_shape {less : α → α → Bool} {h h' : Heap α} {it : α} {notes : List (Note α)}
    (hp : pop less h = some (h', it, notes)) :
    ∃ last, h.a[0]? = some it ∧ h.a.getLast? = some last ∧
      h'.a = (percolateDown less (moveLast h.a 0 last) 0).1 ∧ h'.gen = bump popBumpsGen h.gen ∧
      Announced (moveLast h.a 0 last) 0 h'.a notes := by
  unfold pop at hp
  split at hp
  · rename_i it' last hit hlast
    simp only [popMovesLast, popTruncates, popNotifies, popSiftsDown, if_true, popNotifyGuard, Bool.and_true,
      Option.some.injEq, Prod.mk.injEq] at hp
    obtain ⟨rfl, rfl, rfl⟩ := hp
    refine ⟨last, by simpa [popIdx] using hit, hlast, rfl, rfl, _, ?_, percolateDown_swaps less _ 0⟩
    -- `if len(h.a) > 0 { notifyIndexChanged(0) }`: outside the array `notifyAt` announces nothing anyway
    have e : notifyAt (moveLast h.a 0 last) 0 =
        if 0 < (moveLast h.a 0 last).length then notifyAt (moveLast h.a 0 last) 0 else [] := by
      split
      · rfl
      · exact notifyAt_of_length_le (by omega)
    rw [e]; simp [moveLast]
  · cases hp

theorem heapInv_prefix {less : α → α → Bool} {d e : List α} (h : HeapInv less (d ++ e)) : HeapInv less d := by
  rw [heapInv_iff] at h ⊢
  intro j hj
  by_cases hjl : j < d.length
  · rw [← lessAt_append_left e hjl (by omega)]; exact h j hj
  · exact lessAt_of_length_le (by omega) _

/-- replacing the element at `i` of a heap and sifting up, then down, restores the heap
(the common core of `RemoveAt` and `UpdateAt`) -/
theorem replace_heapInv {less : α → α → Bool} (sw : StrictWeak less) {a : List α} {i : Nat} (x : α)
    (hi : i < a.length) (h : HeapInv less a) :
    HeapInv less (percolateDown less (percolateUp less (a.set i x) i).1 i).1 := by
  -- away from `i` nothing changed: `i`'s children respect `i`'s parent, pairs without `i` are in order
  have grand : ∀ j, 0 < i → 0 < j → (j - 1) / 2 = i → lessAt less (a.set i x) j ((i - 1) / 2) = false :=
    fun j h0 hj hpj => by
      rw [lessAt_set_ne x (by omega) (by omega)]
      exact (downInv_of_heapInv sw i h).2 j h0 (Nat.zero_le _) hj hpj
  rw [heapInv_iff] at h
  have other : ∀ j, 0 < j → j ≠ i → (j - 1) / 2 ≠ i → lessAt less (a.set i x) j ((j - 1) / 2) = false :=
    fun j hj h1 h2 => by rw [lessAt_set_ne x (Ne.symm h1) (Ne.symm h2)]; exact h j hj
  rw [heapInv_iff_heapFrom]
  by_cases hA : 0 < i ∧ lessAt less (a.set i x) i ((i - 1) / 2) = true
  · -- the new element rises
    obtain ⟨h0, hl⟩ := hA
    apply percolateDown_heapFrom sw _ 0 i (Nat.zero_le _)
    apply downInv_of_heapInv sw
    apply percolateUp_heapInv sw _ _ (by simp [hi])
    refine ⟨fun j hj hne => ?_, grand⟩
    by_cases hp : (j - 1) / 2 = i
    · rw [hp]
      exact lessAt_neg_trans sw (by simp; omega) (grand j h0 hj hp) (lessAt_asymm sw hl)
    · exact other j hj hne hp
  · -- the new element stays or sinks: percolateUp changes nothing
    have hB : ∀ j, 0 < j → (j - 1) / 2 ≠ i → lessAt less (a.set i x) j ((j - 1) / 2) = false :=
      fun j hj hne => by
        by_cases e : j = i
        · rw [e] at hj ⊢
          exact Bool.eq_false_iff.mpr fun hl => hA ⟨hj, hl⟩
        · exact other j hj e hne
    rw [show percolateUp less (a.set i x) i = (a.set i x, []) from
      upLoop_noop _ _ _ fun j hj hji => hB j hj (by omega)]
    exact percolateDown_heapFrom sw _ 0 i (Nat.zero_le _)
      ⟨fun j hj _ hne => hB j hj hne, fun j h0 _ => grand j h0⟩

theorem pop_heapInv {less : α → α → Bool} (sw : StrictWeak less) {h h' : Heap α} {it : α}
    {notes : List (Note α)} (hh : HeapInv less h.a) (hp : pop less h = some (h', it, notes)) :
    HeapInv less h'.a := by
  obtain ⟨last, _, hlast, ha, _, _⟩ := pop_shape hp
  obtain ⟨d, hd⟩ := List.getLast?_eq_some_iff.mp hlast
  have hdh := heapInv_iff.mp (heapInv_prefix (hd ▸ hh))
  rw [ha, hd, moveLast_concat, heapInv_iff_heapFrom]
  exact percolateDown_heapFrom sw _ 0 0 (Nat.le_refl _)
    ⟨fun j hj _ hne => by rw [lessAt_set_ne last (by omega) (by omega)]; exact hdh j hj,
      fun j h0 => by omega⟩

theorem pop_perm {less : α → α → Bool} {h h' : Heap α} {it : α} {notes : List (Note α)}
    (hp : pop less h = some (h', it, notes)) : (it :: h'.a).Perm h.a := by
  obtain ⟨last, hit, hlast, _, _, c⟩ := pop_shape hp
  exact (c.perm.cons it).trans (moveLast_perm hit hlast)

theorem removeAt_shape {less : α → α → Bool} {h h' : Heap α} {i : Nat} {notes : List (Note α)}
    (hp : removeAt less h i = some (h', notes)) :
    ∃ last, i < h.a.length ∧ h.a.getLast? = some last ∧ h'.gen = bump removeAtBumpsGen h.gen ∧
      Announced (moveLast h.a i last) i h'.a notes ∧
      ((i < (moveLast h.a i last).length ∧
        h'.a = (percolateDown less (percolateUp less (moveLast h.a i last) i).1 i).1) ∨
       (¬ i < (moveLast h.a i last).length ∧ h'.a = moveLast h.a i last)) := by
  unfold removeAt at hp
  split at hp
  · rename_i hi
    split at hp
    · cases hp
    · rename_i last hlast
      simp only [removeAtMovesLast, removeAtTruncates, removeAtNotifies, removeAtSiftsUp, removeAtSiftsDown,
        if_true, removeAtGuard, decide_eq_true_eq] at hp
      refine ⟨last, hi, hlast, ?_⟩
      split at hp
      · rename_i hlt
        simp only [Option.some.injEq, Prod.mk.injEq] at hp
        obtain ⟨rfl, rfl⟩ := hp
        exact ⟨rfl, ⟨_, List.append_assoc _ _ _, (percolateUp_swaps less _ i).trans (percolateDown_swaps less _ i)⟩,
          Or.inl ⟨by simpa [moveLast] using hlt, rfl⟩⟩
      · rename_i hlt
        simp only [Option.some.injEq, Prod.mk.injEq] at hp
        obtain ⟨rfl, rfl⟩ := hp
        -- the last slot was removed: nothing is announced, and `notifyAt` has nothing to announce there
        have hge : ¬ i < (moveLast h.a i last).length := by simpa [moveLast] using hlt
        exact ⟨rfl, ⟨[], by rw [notifyAt_of_length_le (by omega)]; rfl, .refl _⟩, Or.inr ⟨hge, rfl⟩⟩
  · cases hp

theorem removeAt_none_iff (less : α → α → Bool) (h : Heap α) (i : Nat) :
    removeAt less h i = none ↔ ¬ i < h.a.length := by
  unfold removeAt
  by_cases hi : i < h.a.length
  · have hne : h.a ≠ [] := by intro e; rw [e] at hi; simp at hi
    have : h.a.getLast? = some (h.a.getLast hne) := List.getLast?_eq_some_getLast hne
    constructor
    · intro hc
      simp only [hi, if_true, this, removeAtMovesLast, removeAtTruncates, removeAtNotifies, removeAtSiftsUp,
        removeAtSiftsDown] at hc
      split at hc <;> simp at hc
    · intro hc; exact absurd hi hc
  · simp [hi]

theorem removeAt_heapInv {less : α → α → Bool} (sw : StrictWeak less) {h h' : Heap α} {i : Nat}
    {notes : List (Note α)} (hh : HeapInv less h.a) (hp : removeAt less h i = some (h', notes)) :
    HeapInv less h'.a := by
  obtain ⟨last, _, hlast, _, _, hcase⟩ := removeAt_shape hp
  obtain ⟨d, hd⟩ := List.getLast?_eq_some_iff.mp hlast
  have hdh : HeapInv less d := heapInv_prefix (hd ▸ hh)
  rw [hd, moveLast_concat, List.length_set] at hcase
  rcases hcase with ⟨hlt, ha⟩ | ⟨hge, ha⟩
  · rw [ha]; exact replace_heapInv sw last hlt hdh
  · rw [ha, List.set_eq_of_length_le (Nat.le_of_not_lt hge)]; exact hdh

theorem removeAt_perm {less : α → α → Bool} {h h' : Heap α} {i : Nat} {notes : List (Note α)}
    (hp : removeAt less h i = some (h', notes)) :
    ∃ x, h.a[i]? = some x ∧ (x :: h'.a).Perm h.a := by
  obtain ⟨last, hi, hlast, _, c, _⟩ := removeAt_shape hp
  have hx : h.a[i]? = some h.a[i] := List.getElem?_eq_getElem hi
  exact ⟨h.a[i], hx, (c.perm.cons _).trans (moveLast_perm hx hlast)⟩

theorem updateAt_shape {less : α → α → Bool} {h h' : Heap α} {i : Nat} {x : α} {notes : List (Note α)}
    (hp : updateAt less h i x = some (h', notes)) :
    i < h.a.length ∧ h'.gen = bump updateAtBumpsGen h.gen ∧
      h'.a = (percolateDown less (percolateUp less (h.a.set i x) i).1 i).1 ∧
      Announced (h.a.set i x) i h'.a notes := by
  unfold updateAt at hp
  split at hp
  · rename_i hi
    simp only [updateAtSets, updateAtNotifies, updateAtSiftsUp, updateAtSiftsDown, if_true,
      Option.some.injEq, Prod.mk.injEq] at hp
    obtain ⟨rfl, rfl⟩ := hp
    exact ⟨hi, rfl, rfl, _, List.append_assoc _ _ _, (percolateUp_swaps less _ i).trans (percolateDown_swaps less _ i)⟩
  · cases hp

theorem updateAt_none_iff (less : α → α → Bool) (h : Heap α) (i : Nat) (x : α) :
    updateAt less h i x = none ↔ ¬ i < h.a.length := by
  unfold updateAt
  by_cases hi : i < h.a.length <;> simp [hi]

theorem updateAt_heapInv {less : α → α → Bool} (sw : StrictWeak less) {h h' : Heap α} {i : Nat} {x : α}
    {notes : List (Note α)} (hh : HeapInv less h.a) (hp : updateAt less h i x = some (h', notes)) :
    HeapInv less h'.a := by
  obtain ⟨hi, _, ha, _⟩ := updateAt_shape hp
  rw [ha]; exact replace_heapInv sw x hi hh

theorem updateAt_perm {less : α → α → Bool} {h h' : Heap α} {i : Nat} {x : α} {notes : List (Note α)}
    (hp : updateAt less h i x = some (h', notes)) :
    ∃ y, h.a[i]? = some y ∧ (y :: h'.a).Perm (x :: h.a) := by
  obtain ⟨hi, _, _, c⟩ := updateAt_shape hp
  exact ⟨h.a[i], by simp [hi], (c.perm.cons _).trans (set_perm_cons (by simp [hi]))⟩

theorem heapInv_root_min {less : α → α → Bool} (sw : StrictWeak less) {a : List α} (h : HeapInv less a)
    (j : Nat) : lessAt less a j 0 = false := by
  induction j using Nat.strongRecOn with
  | _ j ih =>
    by_cases hj : j = 0
    · rw [hj]; exact lessAt_self sw a 0
    · by_cases hjl : j < a.length
      · exact lessAt_neg_trans sw (by omega) (heapInv_iff.mp h j (by omega)) (ih _ (by omega))
      · exact lessAt_of_length_le (by omega) _

theorem isMin_root {less : α → α → Bool} (sw : StrictWeak less) {a : List α} (h : HeapInv less a)
    {r : α} (hr : a[0]? = some r) : IsMin less r a := by
  refine ⟨List.mem_of_getElem? hr, fun y hy => ?_⟩
  obtain ⟨j, hj⟩ := List.getElem?_of_mem hy
  exact lessAt_eq_false_iff.mp (heapInv_root_min sw h j) y r hj hr

/-! ## `xheap.Heap`: each wrapper method is the inner method, given the generated fact that its body
is exactly the forwarding statement (the hypotheses are discharged by `decide` inside the property
theorems of `Props/C05`, `Props/C15Heap`) -/

theorem xpush_eq (hx : xPushForwards = true) (less : α → α → Bool) (h : Heap α) (x : α) :
    X.push less h x = (push less h x).1 := by simp [X.push, hx]

theorem xpop_eq (hx : xPopForwards = true) (less : α → α → Bool) (h : Heap α) :
    X.pop less h = (pop less h).map (fun r => (r.1, r.2.1)) := by simp [X.pop, hx]

theorem xpeek_eq (hx : xPeekForwards = true) (h : Heap α) : X.peek h = peek h := by simp [X.peek, hx]

theorem xlen_eq (hx : xLenForwards = true) (h : Heap α) : X.len h = len h := by simp [X.len, hx]

theorem xgrow_eq (hx : xGrowForwards = true) (h : Heap α) : X.grow h = grow h := by simp [X.grow, hx]

theorem xshrink_eq (hx : xShrinkForwards = true) (h : Heap α) : X.shrink h = shrink h := by
  simp [X.shrink, hx]

theorem xiterNext_eq (hx : xIterateForwards = true) (h : Heap α) (it : Iter) :
    X.iterNext h it = iterNext h it := by simp [X.iterNext, hx]

theorem xpop_some (hx : xPopForwards = true) {less : α → α → Bool} {h h' : Heap α} {x : α}
    (hp : X.pop less h = some (h', x)) : ∃ notes, pop less h = some (h', x, notes) := by
  rw [xpop_eq hx] at hp
  obtain ⟨⟨h1, x1, n1⟩, hq, he⟩ := Option.map_eq_some_iff.mp hp
  cases he; exact ⟨n1, hq⟩

theorem xpop_none (hx : xPopForwards = true) (less : α → α → Bool) (h : Heap α) :
    X.pop less h = none ↔ pop less h = none := by
  rw [xpop_eq hx]; cases pop less h <;> simp

def ltN : Nat → Nat → Bool := fun a b => decide (a < b)

theorem ltN_sw : StrictWeak ltN :=
  ⟨by intro a; simp [ltN], by intro a b c; simp [ltN]; omega, by intro a b c; simp [ltN]; omega⟩

end Juniper.Proofs.Heap
