import Juniper.Proofs.GroupInv
import Juniper.Proofs.LTS
/-! Helper lemmas for C17, progress part: the measure `dist` (how many steps a registration's own
goroutine is away from beginning a run of `f`): every own step decreases it or begins a run, an own step is
enabled, no other label moves the goroutine, takes its token, clears `owed` or un-fires its timer (`env_stable`),
and a live context means the registration is on its way (`live_on_its_way`); together: `own_steps_bounded`. -/
namespace Juniper.Proofs.GroupProgress
open Juniper.Model.Group Juniper.Proofs.GroupLocal Juniper.Proofs.GroupInv Juniper.ListStore

/-- steps of the registration's own goroutine until the next run of `f` begins (0 = not on its way) -/
def dist : Pc → Nat
  | .callF => 1 | .resetTimer => 2 | .potDrain => 3 | .potStop => 4 | .atSelect => 5 | .loopHead => 6
  | .init => 7 | .inF => 7 | .spawnUnlocked => 8 | .spawnAdded => 9
  | _ => 0

theorem triples_dist : ∀ x ∈ triples, 0 < dist x.1 → x.2.1 = .exiting ∨ x.2.1 = .inF ∨
    (0 < dist x.2.1 ∧ dist x.2.1 < dist x.1) := by decide +kernel

theorem step_decreases {v : View} {t t' : Thread} {c : Nat} {off : Int} {e : Eff}
    (h : threadStep v t c off = some (t', e)) (hctx : v.ctxDone = false) (hd : 0 < dist t.pc) :
    ((t'.pc = .inF ∧ t'.runs = t.runs + 1) ∨
     (t'.pc ≠ .inF ∧ 0 < dist t'.pc ∧ dist t'.pc < dist t.pc ∧ t'.runs = t.runs)) ∧
    (t.token = true ∨ committed t.pc = true → t'.token = true ∨ committed t'.pc = true ∨ t'.pc = .inF) := by
  obtain ⟨Ftr, _, _, _, _, _, _, _, Fruns, _, _, Fexit, Fpend, _⟩ := threadStep_facts h
  refine ⟨?_, Fpend⟩
  by_cases hin : t'.pc = .inF
  · exact .inl ⟨hin, by rw [Fruns, if_pos hin]⟩
  · rcases triples_dist _ Ftr hd with hx | hx | hx
    · rw [Fexit hx] at hctx; cases hctx
    · exact absurd hx hin
    · exact .inr ⟨hin, hx.1, hx.2, by rw [Fruns, if_neg hin]; rfl⟩

/-- what a goroutine parked at the `select` of its loop needs in order to move (context live) -/
def selectReady (t : Thread) : Prop :=
  t.pc = .atSelect →
    (t.kind = .trigger ∧ t.token = true) ∨ (t.kind = .periodic ∧ t.timer = .fired) ∨
    (t.kind = .pot ∧ (t.token = true ∨ t.timer = .fired))

/-- In particular the drain `<-t.C` of PeriodicOrTrigger never blocks. -/
theorem step_enabled {v : View} {t : Thread} (hinv : ThreadInv t) (hd : 0 < dist t.pc) (hne : t.pc ≠ .inF)
    (hsel : selectReady t) : ∃ c, (threadStep v t c 0).isSome = true := by
  obtain ⟨_, _, htm, hkp⟩ := hinv
  have hoff : -(t.jitter.natAbs : Int) ≤ 0 ∧ (0 : Int) ≤ t.jitter.natAbs := by omega
  cases hpc : t.pc <;> rw [hpc] at hd <;> simp [dist] at hd
  case spawnAdded => exact ⟨0, by simp [threadStep, hpc]⟩
  case spawnUnlocked => exact ⟨0, by simp [threadStep, hpc]⟩
  case init =>
    cases hk : t.kind
    · exact ⟨0, by simp [threadStep, hpc, hk]⟩
    · exact ⟨0, by simp [threadStep, hpc, hk]⟩
    · exact ⟨0, by simp [threadStep, hpc, hk, armTimer, hoff]⟩
    · exact ⟨0, by simp [threadStep, hpc, hk, armTimer, hoff]⟩
  case loopHead =>
    refine ⟨0, ?_⟩
    unfold threadStep; rw [hpc]; dsimp only
    split <;> rfl
  case atSelect =>
    rcases hsel hpc with ⟨hk, htok⟩ | ⟨hk, hf⟩ | ⟨hk, htok | hf⟩
    · exact ⟨1, by simp [threadStep, hpc, hk, loopOf_trigger, armReady, htok]⟩
    · exact ⟨1, by simp [threadStep, hpc, hk, loopOf_periodic, armReady, hf]⟩
    · exact ⟨2, by simp [threadStep, hpc, hk, loopOf_pot, armReady, htok]⟩
    · exact ⟨1, by simp [threadStep, hpc, hk, loopOf_pot, armReady, hf]⟩
  case potStop =>
    refine ⟨0, ?_⟩
    unfold threadStep; rw [hpc]; dsimp only
    split
    · rfl
    · split <;> rfl
    · rfl
  case potDrain =>
    refine ⟨0, ?_⟩
    have hk := hkp (Or.inr hpc)
    have := htm (Or.inr hk)
    rw [hpc] at this
    simp only at this
    unfold threadStep; rw [hpc]; dsimp only
    rw [if_pos this]; rfl
  case resetTimer => exact ⟨0, by simp [threadStep, hpc, armTimer, hoff]⟩
  case callF => exact ⟨0, by simp [threadStep, hpc]⟩
  case inF => exact absurd hpc hne

theorem work_some {s : GState} {i c : Nat} {off : Int} {t : Thread} (hti : s.threads[i]? = some t)
    (h : (threadStep (view s) t c off).isSome = true) : (step s (.work i c off)).isSome = true := by
  simp only [step, hti]
  cases hts : threadStep (view s) t c off with
  | none => rw [hts] at h; cases h
  | some p => rfl

theorem fEnd_enabled {s : GState} {i : Nat} {t : Thread} (hti : s.threads[i]? = some t) (hpc : t.pc = .inF)
    (hk : t.kind ≠ .doOnce) :
    ∃ s' t', step s (.fEnd i) = some s' ∧ s'.threads[i]? = some t' ∧ t'.pc = .loopHead ∧ t'.token = t.token :=
  ⟨{ s with threads := s.threads.set i { t with pc := .loopHead, active := t.active - 1 } }, _,
    by simp [step, hti, hpc, hk], List.getElem?_set_self (List.getElem?_eq_some_iff.mp hti).1, rfl, rfl⟩

theorem ctx_mono {s s' : GState} {l : GLabel} (h : step s l = some s') (hc : s.ctxDone = true) : s'.ctxDone = true := by
  cases step_sound h with
  | @move _ _ _ _ e _ _ => rw [(applyEff_frame _ e).2.1]; exact hc
  | parentCancel => rfl
  | cancel _ _ => rfl
  | _ => exact hc

theorem ctx_live_before {s s' : GState} {l : GLabel} (h : step s l = some s') (hc : s'.ctxDone = false) :
    s.ctxDone = false := by
  cases hc0 : s.ctxDone
  · rfl
  · rw [ctx_mono h hc0] at hc; cases hc

/-- `l` is a step of registration `i`'s own goroutine, or its `f` returning -/
def isOwn (i : Nat) : GLabel → Bool
  | .work j _ _ => j == i
  | .fEnd j => j == i
  | _ => false

theorem step_at {s s' : GState} {l : GLabel} {i : Nat} {t : Thread}
    (h : step s l = some s') (hti : s.threads[i]? = some t) :
    ∃ t', s'.threads[i]? = some t' ∧ ((isOwn i l = false ∧ t' = t) ∨ ∃ e, Move s i t l t' e) := by
  have hlt := (List.getElem?_eq_some_iff.mp hti).1
  cases step_sound h with
  | register k iv j => exact ⟨t, by simp [List.getElem?_append_left hlt, hti], .inl ⟨rfl, rfl⟩⟩
  | @move j tj l t' e hj m =>
    rw [(applyEff_frame _ e).1]
    by_cases hji : j = i
    · subst hji
      rw [hti] at hj; cases hj
      exact ⟨t', List.getElem?_set_self hlt, .inr ⟨e, m⟩⟩
    · refine ⟨t, by rw [List.getElem?_set_ne hji]; exact hti, .inl ⟨?_, rfl⟩⟩
      cases m <;> simp [isOwn, hji]
  | _ => exact ⟨t, hti, .inl ⟨rfl, rfl⟩⟩

theorem work_inv {s s' : GState} {i c : Nat} {off : Int} {t t' : Thread} (h : step s (.work i c off) = some s')
    (hti : s.threads[i]? = some t) (ht' : s'.threads[i]? = some t') :
    ∃ e, threadStep (view s) t c off = some (t', e) := by
  obtain ⟨t1, h1, hm⟩ := step_at h hti
  rw [ht'] at h1; cases h1
  rcases hm with ⟨ho, _⟩ | ⟨e, m⟩
  · simp [isOwn] at ho
  · cases m; exact ⟨e, ‹_›⟩

theorem env_stable {s s' : GState} {l : GLabel} {i : Nat} {t : Thread}
    (h : step s l = some s') (hti : s.threads[i]? = some t) (hl : isOwn i l = false) :
    ∃ t', s'.threads[i]? = some t' ∧ t'.pc = t.pc ∧ t'.kind = t.kind ∧ t'.runs = t.runs ∧ t'.active = t.active ∧
      (t.owed = true → t'.owed = true) ∧ (t.token = true → t'.token = true) ∧
      (t.timer = .fired → t'.timer = .fired) ∧ (t.timer ≠ .idle → t'.timer ≠ .idle) := by
  obtain ⟨t', ht', ⟨_, rfl⟩ | ⟨e, m⟩⟩ := step_at h hti
  · exact ⟨t', ht', rfl, rfl, rfl, rfl, id, id, id, id⟩
  · refine ⟨t', ht', ?_⟩
    cases m with
    | work _ => simp [isOwn] at hl
    | fEnd _ => simp [isOwn] at hl
    | trig _ => exact ⟨rfl, rfl, rfl, rfl, fun _ => rfl, fun _ => rfl, id, id⟩
    | fire _ _ => exact ⟨rfl, rfl, rfl, rfl, id, id, fun _ => rfl, fun _ => TimerSt.noConfusion⟩

/-- pcs from which a registration's goroutine never runs `f` again -/
def gone : Pc → Bool
  | .exiting | .exited | .spawnBail | .notSpawned => true
  | _ => false

theorem triples_gone : ∀ x ∈ triples, gone x.2.1 = true → gone x.1 = true ∨ x.2.1 = .exiting ∨ x.2.1 = .spawnBail := by
  decide +kernel

/-- only a cancelled context (or, for `Do`, the end of its single run) takes a registration out of its loop -/
def LiveInv (s : GState) : Prop := ∀ t ∈ s.threads, gone t.pc = true → s.ctxDone = true ∨ t.kind = .doOnce

theorem liveinv_step {s s' : GState} {l : GLabel} (hi : LiveInv s) (h : step s l = some s') : LiveInv s' := by
  have keep : ∀ t ∈ s.threads, gone t.pc = true → s'.ctxDone = true ∨ t.kind = .doOnce :=
    fun t hm hg => (hi t hm hg).imp_left (ctx_mono h)
  cases step_sound h with
  | register k iv j => exact List.forall_mem_append.mpr ⟨keep, by simp [newThread, gone]⟩
  | @move i t l t' e hti m =>
    unfold LiveInv
    rw [(applyEff_frame _ e).2.1] at keep
    rw [(applyEff_frame _ e).1, (applyEff_frame _ e).2.1]
    refine forall_mem_set i keep fun hg => ?_
    have ht := keep t (List.mem_of_getElem? hti)
    cases m with
    | work hts =>
      obtain ⟨Ftr, Fk, _, _, _, _, Fbail, _, _, _, _, Fexit, _⟩ := threadStep_facts hts
      rcases triples_gone _ Ftr hg with hx | hx | hx
      · rw [Fk]; exact ht hx
      · exact .inl (Fexit hx)
      · exact .inl (Fbail hx)
    | fEnd _ =>
      by_cases hk : t.kind = .doOnce
      · exact .inr hk
      · simp [hk, gone] at hg
    | trig _ => exact ht hg
    | fire _ _ => exact ht hg
  | _ => exact keep

theorem liveinv_reach {now : Int} {async : Bool} {s : GState} (hr : Reach (gInit now async) s) : LiveInv s := by
  induction hr with
  | refl => intro t hm; simp [gInit] at hm
  | step l _ hs ih => exact liveinv_step ih hs

theorem live_on_its_way {now : Int} {async : Bool} {s : GState} (hr : Reach (gInit now async) s) {t : Thread}
    (hm : t ∈ s.threads) (hctx : s.ctxDone = false) (hk : t.kind ≠ .doOnce) :
    0 < dist t.pc ∨ t.pc = .spawnStart ∨ t.pc = .spawnLocked ∨ t.pc = .spawnChecked := by
  have hl := liveinv_reach hr t hm
  have hnl := (ginv_reach hr).noLate t hm
  cases hp : t.pc <;> simp_all [dist, gone]

def runG (s : GState) : List GLabel → Option GState
  | [] => some s
  | l :: ls => (step s l).bind (fun s' => runG s' ls)

theorem isRun : LTS.IsRun step runG := ⟨fun _ => rfl, fun _ _ _ => rfl⟩

theorem reach_of_runG : ∀ (ls : List GLabel) (s0 s s' : GState), Reach s0 s → runG s ls = some s' → Reach s0 s' :=
  fun _ _ _ _ hr h => isRun.reach (.step _) hr h

/-- a trigger request is pending: the value is in the channel, or the loop has received it and is committed to `f` -/
def pend (t : Thread) : Prop := t.token = true ∨ committed t.pc = true

def nOwn (i : Nat) (ls : List GLabel) : Nat := ls.countP (isOwn i)

theorem dist_le (p : Pc) : dist p ≤ 9 := by cases p <;> simp [dist]

theorem live_step {s s' : GState} {l : GLabel} {i : Nat} {t : Thread}
    (h : step s l = some s') (hctx : s'.ctxDone = false) (hti : s.threads[i]? = some t)
    (hk : t.kind ≠ .doOnce) (hd : 0 < dist t.pc) :
    ∃ t', s'.threads[i]? = some t' ∧ t'.kind = t.kind ∧
      ((t'.pc = .inF ∧ t'.runs = t.runs + 1) ∨
       (t'.runs = t.runs ∧ 0 < dist t'.pc ∧ dist t'.pc + (if isOwn i l = true then 1 else 0) ≤ dist t.pc ∧
         (pend t → pend t'))) := by
  have hctx0 := ctx_live_before h hctx
  obtain ⟨t', ht', ⟨hl, rfl⟩ | ⟨e, m⟩⟩ := step_at h hti
  · exact ⟨t', ht', rfl, .inr ⟨rfl, hd, by rw [hl]; exact Nat.le_refl _, id⟩⟩
  · refine ⟨t', ht', ?_⟩
    cases m with
    | work hts =>
      obtain ⟨hA, hB⟩ := step_decreases hts hctx0 hd
      refine ⟨(threadStep_facts hts).2.1, hA.imp_right fun ⟨hne, h0, hlt, hr⟩ => ⟨hr, h0, ?_, fun hp => ?_⟩⟩
      · simp only [isOwn, beq_self_eq_true, if_true]; omega
      · exact (hB hp).elim .inl fun x => x.elim .inr fun x => absurd x hne
    | fEnd hpc =>
      rw [if_neg hk]
      refine ⟨rfl, .inr ⟨rfl, by simp [dist], by rw [hpc]; simp [dist, isOwn], ?_⟩⟩
      exact fun hp => hp.imp_right fun x => by rw [hpc] at x; cases x
    | trig _ => exact ⟨rfl, .inr ⟨rfl, hd, Nat.le_refl _, fun hp => .inl rfl⟩⟩
    | fire _ _ => exact ⟨rfl, .inr ⟨rfl, hd, Nat.le_refl _, id⟩⟩

theorem ctx_live_back (ls : List GLabel) {s s' : GState} (h : runG s ls = some s') (hc : s'.ctxDone = false) :
    s.ctxDone = false :=
  Bool.eq_false_iff.mpr fun hc0 => Bool.false_ne_true (hc.symm.trans (isRun.reach (fun h0 h1 => ctx_mono h1 h0) hc0 h))

theorem own_steps_bounded : ∀ (ls : List GLabel) {s s' : GState} {i : Nat} {t : Thread},
    runG s ls = some s' → s'.ctxDone = false → s.threads[i]? = some t → t.kind ≠ .doOnce → 0 < dist t.pc →
    ∃ t', s'.threads[i]? = some t' ∧ t'.kind = t.kind ∧ t.runs ≤ t'.runs ∧
      (t'.runs = t.runs → 0 < dist t'.pc ∧ dist t'.pc + nOwn i ls ≤ dist t.pc ∧ (pend t → pend t'))
  | [], s, s', i, t, h, _, hti, _, hd => by
    cases h
    exact ⟨t, hti, rfl, Nat.le_refl _, fun _ => ⟨hd, by simp [nOwn], id⟩⟩
  | l :: ls, s, s', i, t, h, hctx, hti, hk, hd => by
    obtain ⟨s1, hs, h⟩ := isRun.cons_eq_some.mp h
    obtain ⟨t1, h1, hk1, hcase⟩ := live_step hs (ctx_live_back ls h hctx) hti hk hd
    -- after a run has begun the goroutine is inside `f`, so still on its way
    have hd1 : 0 < dist t1.pc := by
      rcases hcase with ⟨hin, _⟩ | ⟨_, hd1, _⟩
      · rw [hin]; simp [dist]
      · exact hd1
    obtain ⟨t', ht', hk', hle', himp⟩ := own_steps_bounded ls h hctx h1 (hk1 ▸ hk) hd1
    refine ⟨t', ht', hk'.trans hk1, ?_, fun he => ?_⟩
    · rcases hcase with ⟨_, hr⟩ | ⟨hr, _⟩ <;> omega
    · rcases hcase with ⟨_, hr⟩ | ⟨hr, _, hle, hp⟩
      · omega
      · obtain ⟨a, b, c⟩ := himp (by omega)
        refine ⟨a, ?_, fun x => c (hp x)⟩
        simp only [nOwn, List.countP_cons] at b ⊢
        omega

end Juniper.Proofs.GroupProgress
