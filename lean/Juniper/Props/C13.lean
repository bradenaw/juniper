import Juniper.Proofs.ParWrap
/-!
# C13 — parallel.Do / DoContext / Map / MapContext (property theorems)

The LTS is `Juniper.Model.ParDo` (`step`, `Reach`): all interleavings of the worker goroutines, `f`
as the environment (arbitrary results, arbitrary order of returns), the caller's cancellation as an
environment label at any moment. `doCode` / `dcCode` are the two function bodies as they are in the source
now; every theorem holds for all `n`, requested parallelism `P : Int` (`GOMAXPROCS = gmp` when `P ≤ 0`),
failure sets and schedules. The wrappers `Map` / `MapContext` have their own LTS on top of it
(`Juniper.Model.ParWrap`, second half of this file). Only property theorems and their non-vacuity
examples live here; invariants are in `Juniper/Proofs/ParDo*.lean`, `Juniper/Proofs/ParWrap.lean`.

**What is regenerated from `parallel/parallel.go` on every run and consumed semantically** (the model
computes with it, `Code.Sound` / `Wrapper.Sound` state what the proofs assume about it): the three
clamping guards, the *bodies* of the two clamp statements (assigned variable and right-hand side), the
`init`, condition and `post` clauses of the sequential loop and of the spawn loop, the counter's initial
value, increment and conversion, the worker's three tests, the sequential loop's stop test; for the
wrappers the allocation length, the callee and its argument expressions, the callback's parameter
binders, the index expressions of `out[…]` and `in[…]`, which context variable `f` gets, the result
expressions of the `return`s. **Pinned but not computed with**: presence / order of the statements named
in `Code.structural`, the statement shapes of the wrappers, the control skeletons (`Code.skeleton`, `Wrapper.skeleton`).
**Hand-written** (tied by skeletons + trace conformance of the real code only): the step function itself —
which goroutine does what in which order, `.ret` enabled exactly when every worker is done
(= the trusted meaning of `WaitGroup.Wait` / `errgroup.Wait`), `egDone` recording the first error and
cancelling in one step (= the trusted meaning of errgroup), context propagation from the caller.

`Code.Sound` / `Wrapper.Sound` are proved *inside every theorem below* (`pardo_sound`, `wrapper_sound`): there
is no closed soundness lemma upstream, so a changed fact makes these theorems fail to compile by name.

Ghost vocabulary: `begunCount s i` / `endedCount s i` = number of calls of `f` for index `i` that
began / returned so far; `s.ret = some r` = the call has returned `r`; `running s` = calls in progress.
-/
namespace Juniper.Props.C13
open Juniper.Gen Juniper.Model.ParDo Juniper.Proofs.ParDo

/-- **Exactly once.** When `Do`/`DoContext` has returned, no call failed and the caller's context
was not cancelled, `f` was called exactly once for every `i < n` (and each of these calls has
returned). In every reachable state no index is ever handed to `f` twice or out of range.
Content (through `Code.Sound`): the regenerated loop headers `for i := 0; i < n; i++` (sequential path:
`seqInit`, `seqLoop`, `seqPost`), the counter (`counterInit = -1`, `counterDelta = 1`, `fetch`), the worker's
`i >= n` test, and that neither clamp assigns `n` (`effN = n`). Model shape: one atomic `fetch` per
`atomic.AddInt32` (linearizability of the atomic add is trusted). -/
theorem do_exactly_once (cfg : Cfg) (hc : cfg.code = doCode ∨ cfg.code = dcCode) (hg : 1 ≤ cfg.gmp)
    (s : St) (h : Reach cfg s) :
    (∀ i, begunCount s i ≤ 1 ∧ (0 < begunCount s i → i < cfg.n)) ∧
    (s.ret ≠ none → noFailure s → s.callerCancelled = false →
      ∀ i, i < cfg.n → begunCount s i = 1 ∧ endedCount s i = 1) := by
  have hs : cfg.code.Sound := by pardo_sound hc
  have hi := inv hs h
  constructor
  · intro i
    have hA := hi.handed i
    exact ⟨by omega, fun hp => hA.2 (by omega)⟩
  · intro hret hnf hcc
    exact hi.all_once_of_clean hs hg hret ((noFailure_iff s).1 hnf) (hi.quiet_of_noFailure hnf hcc).2

/-- For `Do` itself there is no failure and no context: exactly once, unconditionally. -/
theorem do_exactly_once_Do (cfg : Cfg) (hc : cfg.code = doCode) (hg : 1 ≤ cfg.gmp)
    (s : St) (h : Reach cfg s) (hret : s.ret ≠ none) :
    ∀ i, i < cfg.n → begunCount s i = 1 ∧ endedCount s i = 1 := by
  have hs : cfg.code.Sound := by pardo_sound (Or.inl hc : cfg.code = doCode ∨ cfg.code = dcCode)
  have hm := (inv hs h).noCtx (by rw [hc]; rfl)
  exact (do_exactly_once cfg (Or.inl hc) hg s h).2 hret hm.noFail hm.live

/-- non-vacuity: `Do(2, 3, f)` run to its return, late index first -/
example : ∃ s, Reach ⟨doCode, 2, 3, 8⟩ s ∧ s.ret ≠ none ∧ begunCount s 2 = 1 :=
  ⟨_, reach_of_run Reach.init (ls := [.fetch 0, .fetch 1, .begin 1, .begin 0, .fEnd 1 (.ok 7), .fetch 1, .begin 1,
      .fEnd 1 (.ok 8), .fEnd 0 (.ok 9), .fetch 0, .fetch 1, .ret]) rfl, by decide, by decide⟩

/-- **Bounded.** In every reachable state:

1. `running s ≤ s.ws.length` — the calls of `f` in progress are at most the goroutines that call `f`. This
   conjunct is *model shape*: the LTS gives every such goroutine one program counter, i.e. a goroutine runs
   its calls one after another. What ties that shape to the source is the worker's control skeleton
   (`forever{fetch; if … {return}; … call}`, and the sequential loops: `Code.skeleton`, the field
   `Code.Sound.skeleton` this conjunct's proof is handed), plus conformance.
2. `s.ws.length = nW cfg` and `nW cfg = if effPar cfg = 1 then 1 else (effPar cfg).toNat` — *content*: the number
   of goroutines is the number of iterations of the spawn loop `for j := 0; j < parallelism; j++`, whose
   `init`, condition and `post` clauses are regenerated (`spawnInit`, `spawnLoop`, `spawnPost`), run with the
   clamped parallelism; the caller alone on the fast path `parallelism == 1`.
3. `effPar cfg = min (reqPar cfg) n` and `(nW cfg : Int) ≤ max 1 (reqPar cfg)` — content: the second clamp
   (`if parallelism > n { parallelism = n }`, guard, assigned variable and right-hand side regenerated).
4. `reqPar cfg = if P ≤ 0 then GOMAXPROCS else P` — content: the first clamp's regenerated guard
   `parallelism <= 0` and its regenerated body `parallelism = runtime.GOMAXPROCS(-1)` (`lowAssign`): with
   `parallelism = 16` there, or with the assignment going to `n`, `Code.Sound` and hence this theorem fail.

Together: never more than `max(1, parallelism)` calls at a time, `GOMAXPROCS` standing in for `parallelism ≤ 0`. -/
theorem do_bound (cfg : Cfg) (hc : cfg.code = doCode ∨ cfg.code = dcCode) (s : St) (h : Reach cfg s) :
    running s ≤ s.ws.length ∧
    (s.ws.length = nW cfg ∧ nW cfg = if effPar cfg = 1 then 1 else (effPar cfg).toNat) ∧
    (effPar cfg = min (reqPar cfg) cfg.n ∧ (nW cfg : Int) ≤ max 1 (reqPar cfg)) ∧
    (reqPar cfg = if cfg.P ≤ 0 then (cfg.gmp : Int) else cfg.P) ∧
    (running s : Int) ≤ max 1 (if cfg.P ≤ 0 then (cfg.gmp : Int) else cfg.P) := by
  have hs : cfg.code.Sound := by pardo_sound hc
  have hlen := (inv hs h).len
  have hshape : running s ≤ s.ws.length :=
    (fun (_ : cfg.code.skeleton = true) => List.countP_le_length) hs.skeleton
  have hle := nW_le hs
  have hreq := reqPar_eq hs
  refine ⟨hshape, ⟨hlen, nW_eq hs⟩, ⟨?_, hle⟩, hreq, ?_⟩
  · rw [effPar_eq hs]; split <;> omega
  · rw [← hreq]; omega

/-- non-vacuity: `DoContext(ctx, 2, 3, f)` with two calls running at once -/
example : ∃ s, Reach ⟨dcCode, 2, 3, 8⟩ s ∧ running s = 2 :=
  ⟨_, reach_of_run Reach.init (ls := [.fetch 0, .fetch 1, .check 0, .check 1, .begin 1, .begin 0]) rfl, by decide⟩

/-- **Barrier.** Once the call has returned, no call of `f` is in progress and every call that
began has returned. What this rests on: the model's `.ret` step is enabled only when every worker's program
counter is `done` (`allDone ws`) — a *hand-written* guard that encodes the trusted meaning of
`WaitGroup.Wait` / `errgroup.Wait` ("returns after every worker function has returned"); it is tied to the
source by the presence / order facts `wg.Add(parallelism)`, `defer wg.Done()`, `wg.Wait()`, `wg.Add` before
`wg.Wait`, `return eg.Wait()` (in `Code.structural`), by the control skeletons and by trace conformance, not
by a computation. The content proved on top of it is the counting invariant: no call is running or pending
in a `done` worker (`run + ended = begun` per index). Visibility of the calls' effects is the happens-before
edge of `WaitGroup` / `errgroup`: trusted, exercised by the `-race` binary (thorough tier). -/
theorem do_barrier (cfg : Cfg) (hc : cfg.code = doCode ∨ cfg.code = dcCode) (s : St) (h : Reach cfg s)
    (hret : s.ret ≠ none) : running s = 0 ∧ ∀ i, endedCount s i = begunCount s i := by
  have hs : cfg.code.Sound := by pardo_sound hc
  have hi := inv hs h
  exact ⟨hi.running_eq_zero hret, hi.ended_eq_begun (hi.running_eq_zero hret)⟩

/-- non-vacuity: a returned `DoContext` whose calls all ended -/
example : ∃ s, Reach ⟨dcCode, 2, 2, 8⟩ s ∧ s.ret ≠ none ∧ s.begun.length = 2 :=
  ⟨_, reach_of_run Reach.init (ls := [.fetch 0, .fetch 1, .check 0, .check 1, .begin 1, .begin 0, .fEnd 1 (.ok 11),
      .fEnd 0 (.ok 10), .fetch 0, .fetch 1, .ret]) rfl, by decide, by decide⟩

/-- **First error.** If `DoContext` returns an error, it is an error that one of the
calls of `f` returned, or the caller's own context error after the caller cancelled — never the
cancellation the errgroup caused itself; and a failure is never swallowed: a `nil` return means no
call returned an error. (For `MapContext`: `mapContext_ctx_and_first_error`.) "First" is the trusted errgroup
semantics (`egDone` keeps the first recorded error); which of two concurrent failures is recorded first is
up to the schedule, both are reachable. -/
theorem doContext_error_is_returned_by_some_call_or_caller_ctx (cfg : Cfg)
    (hc : cfg.code = doCode ∨ cfg.code = dcCode) (s : St) (h : Reach cfg s) :
    (∀ e, s.ret = some (some e) →
      (∃ k i, e = .f k ∧ (i, Res.err k) ∈ s.ended) ∨ (e = .ctxCaller ∧ s.callerCancelled = true)) ∧
    (s.ret = some none → noFailure s) := by
  have hs : cfg.code.Sound := by pardo_sound hc
  have hi := inv hs h
  exact ⟨hi.ret_good, fun hret => (noFailure_iff s).2 (hi.clean_of_ret_nil hret).1⟩

/-- non-vacuity: index 1 fails with error 5 while index 0 is still running; `DoContext` returns it -/
example : ∃ s, Reach ⟨dcCode, 2, 3, 8⟩ s ∧ s.ret = some (some (.f 5)) :=
  ⟨_, reach_of_run Reach.init (ls := [.fetch 0, .fetch 1, .check 0, .check 1, .begin 0, .begin 1, .fEnd 1 (.err 5),
      .egDone 1, .fEnd 0 (.ok 1), .fetch 0, .check 0, .egDone 0, .ret]) rfl, by decide⟩

/-- **Cancels the others.** For every reachable state of `DoContext`:

1. (parallel path, unconditional) once errgroup has recorded an error (`s.egErr ≠ none`) the context handed
   to the calls is cancelled (`s.dCause ≠ none`) — in the model `egDone` does both in one step, which is the
   trusted errgroup semantics "records the first error, then cancels" — and every call of `f` that begins
   from then on is recorded as begun with a cancelled context;
2. (parallel path) a failed call leaves no gap: when some call has returned an error, either errgroup has
   recorded an error already (so 1. applies) or the worker in which a call failed is still at
   `retErr (.f k)`, i.e. between the return of `f` and errgroup's bookkeeping, a step that is enabled
   (`egDone`) and not up to the environment;
3. (sequential path, effective parallelism 1) after a failure no call begins at all.

There is no cancellation "at once": between the return of the failing call and the `egDone` step of its
worker the others still see a live context (that window is in the model and in the real code). -/
theorem doContext_cancels_others (cfg : Cfg) (hc : cfg.code = doCode ∨ cfg.code = dcCode)
    (s : St) (h : Reach cfg s) :
    (s.seq = false → s.egErr ≠ none →
        s.dCause ≠ none ∧ ctxCancelled s = true ∧
        ∀ w s', step cfg s (.begin w) = some s' → ∃ i, s'.begun = s.begun ++ [⟨i, true⟩]) ∧
    (hasFail s = true → s.seq = false →
        s.egErr ≠ none ∨ ∃ k w, s.ws[w]? = some (.retErr (.f k)) ∧ (step cfg s (.egDone w)).isSome = true) ∧
    (hasFail s = true → s.seq = true → ∀ w s', step cfg s (.begin w) ≠ some s') := by
  have hs : cfg.code.Sound := by pardo_sound hc
  have hi := inv hs h
  have hState := hi.toStateInv
  have hFail := hi.toFailInv
  refine ⟨?_, ?_, ?_⟩
  · intro hseq heg
    have hdc : s.dCause ≠ none := hState.egErr_cancels heg
    have hctx : cfg.code.ctxMode = true := by
      cases hm : cfg.code.ctxMode with
      | true => rfl
      | false => exact absurd (hState.noCtx hm).dCause hdc
    refine ⟨hdc, by simp [ctxCancelled, hseq, Option.isSome_iff_ne_none, hdc], ?_⟩
    intro w s' hstep
    cases Step.of_step hs hstep with
    | @«begin» _ i _ => exact ⟨i, by simp [hctx, ctxCancelled, hseq, Option.isSome_iff_ne_none, hdc]⟩
  · intro hf hseq
    rcases hFail.traceF hf with h' | h' | ⟨e, h', _⟩
    · exact Or.inl h'
    · obtain ⟨k, hm⟩ := exists_retF_of_cnt h'
      obtain ⟨w, hw⟩ := List.getElem?_of_mem hm
      refine Or.inr ⟨k, w, hw, ?_⟩
      simp only [step, hw, hseq]
      cases s.egErr <;> simp
    · have := hState.ret_egErr hseq _ h'
      exact Or.inl (by rw [← this]; simp)
  · intro hf hseq w s' hstep
    have hS := hState.seqPath hseq
    have h1 := hi.len_seq hseq
    cases Step.of_step hs hstep with
    | «begin» hw =>
      rcases hFail.traceF hf with h' | h' | ⟨e, h', _⟩
      · exact h' hS.egErr
      · have hre := cnt_lt_length hw (p := isRetF) rfl
        omega
      · cases (ret_none_of_active hState.retDone hw rfl).symm.trans h'

/-- non-vacuity: after index 1 failed and its worker is done, the other worker begins index 2 with a
cancelled context (it had passed its `ctx.Err()` test before) -/
example : ∃ s, Reach ⟨dcCode, 2, 4, 8⟩ s ∧ hasFail s = true ∧ s.seq = false ∧ s.egErr ≠ none ∧
    startedCancelled s = 1 :=
  ⟨_, reach_of_run Reach.init (ls := [.fetch 0, .fetch 1, .check 0, .check 1, .begin 0, .begin 1, .fEnd 0 (.ok 1),
      .fetch 0, .check 0, .fEnd 1 (.err 5), .egDone 1, .begin 0]) rfl, by decide, by decide, by decide, by decide⟩

/-- non-vacuity of the window of conjunct 2: call 1 has failed, errgroup has not recorded it yet (its worker
is at `retErr (.f 5)`), the call still running sees a live context -/
example : ∃ s, Reach ⟨dcCode, 2, 4, 8⟩ s ∧ hasFail s = true ∧ s.seq = false ∧ s.egErr = none ∧
    s.ws[1]? = some (.retErr (.f 5)) ∧ ctxCancelled s = false ∧ running s = 1 :=
  ⟨_, reach_of_run Reach.init (ls := [.fetch 0, .fetch 1, .check 0, .check 1, .begin 0, .begin 1, .fEnd 1 (.err 5)]) rfl,
    by decide, by decide, by decide, by decide, by decide, by decide⟩

/-- **No call after the return.** From a state in which the call has returned, the only possible
step is the caller cancelling its own context: no worker moves, no call of `f` begins. (Consequence of the
same hand-written `.ret` guard as `do_barrier`: after the return every worker is `done`, and a `done`
worker has no step.) -/
theorem doContext_no_call_after_return (cfg : Cfg) (hc : cfg.code = doCode ∨ cfg.code = dcCode)
    (s : St) (h : Reach cfg s) (hret : s.ret ≠ none) (l : Label) (s' : St)
    (hstep : step cfg s l = some s') : l = .callerCancel ∧ s'.begun = s.begun ∧ s'.ws = s.ws := by
  have hs : cfg.code.Sound := by pardo_sound hc
  cases Step.of_step hs hstep with
  | callerCancel => exact ⟨rfl, rfl, rfl⟩
  | retSeq hr | retSeqErr hr | retPar hr => exact absurd hr hret
  | fetchDone hw | fetchCheck hw | fetchCall hw | checkSkip hw | checkPass hw | «begin» hw | fEndErr hw
  | fEndSeqNext hw | fEndSeqLast hw | fEndPar hw | egFirst hw | egLater hw =>
    exact absurd (ret_none_of_active (inv hs h).retDone hw rfl) hret

/-- non-vacuity: a returned state from which the caller can still cancel -/
example : ∃ s s', Reach ⟨dcCode, 2, 1, 8⟩ s ∧ s.ret ≠ none ∧ step ⟨dcCode, 2, 1, 8⟩ s .callerCancel = some s' :=
  ⟨_, _, reach_of_run Reach.init (ls := [.begin 0, .fEnd 0 (.ok 1), .ret]) rfl, by decide, rfl⟩

/-- **At most `parallelism − 1` calls begin cancelled.** In every reachable state in which the
caller's own context is still live, the number of calls of `f` that began with an already-cancelled
context is at most (number of workers) − 1 ≤ `max(1, parallelism) − 1` with the *requested* parallelism
(`GOMAXPROCS` when `P ≤ 0`), and 0 as long as no call failed. Content: the worker tests `ctx.Err()` between
the fetch and the call (regenerated test `workerCancelled`, order facts `dcFetchBeforeCheck`,
`dcCheckBeforeCall`), so only the workers already past that test can still begin a call, and the failing
worker itself begins none; the number of workers comes from the regenerated spawn-loop header. -/
theorem doContext_at_most_Pminus1_start_cancelled (cfg : Cfg) (hc : cfg.code = doCode ∨ cfg.code = dcCode)
    (s : St) (h : Reach cfg s) (hlive : s.callerCancelled = false) :
    (startedCancelled s : Int) ≤ max 1 (reqPar cfg) - 1 ∧ (hasFail s = false → startedCancelled s = 0) := by
  have hs : cfg.code.Sound := by pardo_sound hc
  have hi := inv hs h
  have ⟨h0, h1⟩ := hi.startedCancelled_le hlive
  have hb := nW_le hs
  have hlen := hi.len
  constructor
  · cases hd : s.dCause with
    | none => have := h0 hd; omega
    | some c => have := h1 (by simp [hd]); omega
  · exact fun hf => h0 (hi.quiet_of_noFailure ((noFailure_iff s).2 hf) hlive).1

/-- non-vacuity: parallelism 3, index 0 fails, the two other workers each begin one call cancelled:
`3 − 1` is reached -/
example : ∃ s, Reach ⟨dcCode, 3, 6, 8⟩ s ∧ s.callerCancelled = false ∧ startedCancelled s = 2 :=
  ⟨_, reach_of_run Reach.init (ls := [.fetch 0, .fetch 1, .fetch 2, .check 0, .check 1, .check 2, .begin 0,
      .fEnd 0 (.err 1), .egDone 0, .begin 1, .begin 2]) rfl, by decide, by decide⟩

/-! ## The wrappers `Map` / `MapContext`

`Juniper.Model.ParWrap`: the wrapper LTS `wstep` runs the `Do` / `DoContext` LTS above with
`n := len(in)` and the wrapper's `parallelism` (both through the regenerated argument expressions) and
does what the regenerated callback does: the user's `f` is called on `in[readIdx i]` with the context the
binder facts say, its value is stored at `out[writeIdx i]`. `mapWrapper` / `mapContextWrapper` are the two
wrappers as they are in the source now; `WCfg` = the wrapper, `parallelism : Int`, `in : List α` (any
element type), `GOMAXPROCS`. `s.calls` = the calls of the user's `f` in the order they began (callee's
index, element, context state at entry); `s.wret` = what the wrapper has returned. -/
section Wrappers
open Juniper.Model.ParWrap Juniper.Proofs.ParWrap
variable {α : Type}

/-- **Positional.** For `Map` and `MapContext`, all `parallelism : Int`, all `in`, every schedule, every
reachable state:

* the callee runs with `n = len(in)` and the wrapper's `parallelism` (regenerated arguments);
* no index expression of the callback ever leaves its slice (`panic = false`), `out` has `len(in)` slots;
* every call of the user's `f` is for an index `i < len(in)` and receives `in[i]`;
* the wrapper returns exactly when the callee does: `out` with a nil error if the callee returned nil,
  `nil` with the callee's error otherwise (`MapContext` only);
* when it has returned without error, for every `i < len(in)`: `out[i]` is the value returned by the one
  call of `f` for `in[i]` (exactly one call began for `i`, it got `in[i]`, exactly one ended, with that value).

Depends on the regenerated wrapper facts through `Wrapper.Sound` (proved here by `wrapper_sound_ex`: write
index, read index, allocation length, argument expressions, binders, statement shapes, `return`s) and on
`Code.Sound` of the callee (`pardo_sound`). Model shape, not content: that the callback calls `f` once,
synchronously, and stores its value (the statement shapes `mapCbShape` / `mcCbShape` pin the text). -/
theorem map_positional (wc : WCfg α) (hw : wc.w = mapWrapper ∨ wc.w = mapContextWrapper) (hg : 1 ≤ wc.gmp)
    (s : WSt α) (h : WReach wc s) :
    (wc.cfg.n = wc.inp.length ∧ wc.cfg.P = wc.P) ∧
    (s.panic = false ∧ s.out.length = wc.inp.length) ∧
    (∀ c ∈ s.calls, c.idx < wc.inp.length ∧ wc.inp[c.idx]? = some c.arg) ∧
    ((s.wret = none ↔ s.core.ret = none) ∧
      (∀ o, s.wret = some ⟨o, none⟩ → o = some s.out ∧ s.core.ret = some none) ∧
      (∀ o e, s.wret = some ⟨o, some e⟩ → o = none ∧ s.core.ret = some (some e))) ∧
    (∀ o, s.wret = some ⟨o, none⟩ → ∀ i, i < wc.inp.length →
      ∃ v a, s.out[i]? = some (some v) ∧ (i, Res.ok v) ∈ s.core.ended ∧ endedCount s.core i = 1 ∧
        callCount s i = 1 ∧ wc.inp[i]? = some a ∧ (⟨i, a, false⟩ ∈ s.calls ∨ ⟨i, a, true⟩ ∈ s.calls)) := by
  obtain ⟨ctx, hws⟩ : ∃ ctx, wc.w.Sound ctx := by wrapper_sound_ex hw
  have hc : wc.cfg.code = doCode ∨ wc.cfg.code = dcCode := sound_codes hws
  have hs : wc.cfg.code.Sound := by pardo_sound hc
  have hi := winv hws hs h
  have hcore := core_reach h
  have hn := cfg_n hws
  have hwr := wret_cases hws hs h
  refine ⟨⟨hn, hws.P _⟩, ⟨hi.noPanic, hi.out_length⟩, ?_, hwr, ?_⟩
  · intro c hcm
    have h2 := hi.calls_arg c hcm
    exact ⟨(List.getElem?_eq_some_iff.1 h2).1, h2⟩
  · intro o ho i hlt
    have hret := (hwr.2.1 o ho).2
    have hcl := (inv hs hcore).clean_of_ret_nil hret
    have ⟨hb, hend⟩ := (inv hs hcore).all_once_of_clean hs hg (by simp [hret]) hcl.1 hcl.2 i (hn ▸ hlt)
    have hpos : 0 < endedCount s.core i := by omega
    obtain ⟨⟨j, r⟩, hm, hj⟩ := List.countP_pos_iff.1 hpos
    simp at hj; subst hj
    have hcc : callCount s j = 1 := by rw [callCount_eq hi]; exact hb
    obtain ⟨c, hcm, hcj⟩ := List.countP_pos_iff.1 (by rw [← callCount, hcc]; omega : 0 < s.calls.countP (·.idx == j))
    simp at hcj
    have hca := hi.calls_arg c hcm
    rw [hcj] at hca
    cases r with
    | ok v =>
      refine ⟨v, c.arg, hi.out_val j v hm, hm, hend, hcc, hca, ?_⟩
      obtain ⟨ci, ca, cc⟩ := c
      simp at hcj; subst hcj
      cases cc
      · exact Or.inl hcm
      · exact Or.inr hcm
    | err k =>
      have := (noFailure_iff s.core).2 hcl.1 _ hm
      simp [Res.isErr] at this

/-- non-vacuity: `MapContext(ctx, 2, ["a", "b"], f)`, second element first; the wrapper returns `out` -/
example : ∃ s, WReach (⟨mapContextWrapper, 2, ["a", "b"], 8⟩ : WCfg String) s ∧
    s.wret = some ⟨some [some 10, some 11], none⟩ ∧
    s.calls = [⟨1, "b", false⟩, ⟨0, "a", false⟩] :=
  ⟨_, wreach_of_run WReach.init (ls := [.fetch 0, .fetch 1, .check 0, .check 1, .begin 1, .begin 0, .fEnd 1 (.ok 11),
      .fEnd 0 (.ok 10), .fetch 0, .fetch 1, .ret]) rfl, by decide, by decide⟩

/-- **Exactly once, bounded, barrier — for the wrappers** (corollaries of `do_exactly_once`, `do_bound`,
`do_barrier` through the wrapper: the calls of the user's `f` are the callee's calls of the callback, one
for one, which is clause `calls_begun` of the wrapper invariant `WInv` and rests on the regenerated callback shape).
In every reachable state of `Map` / `MapContext`: no element is handed to `f` twice or from outside `in`;
once the wrapper has returned with no failed call and a live caller context, `f` was called exactly once
for every element and every call has returned; the calls of `f` in progress are at most
`max(1, parallelism)` (`GOMAXPROCS` for `parallelism ≤ 0`); once the wrapper has returned no call of `f` is
in progress and every call that began has ended. -/
theorem map_exactly_once_bound_barrier (wc : WCfg α) (hw : wc.w = mapWrapper ∨ wc.w = mapContextWrapper)
    (hg : 1 ≤ wc.gmp) (s : WSt α) (h : WReach wc s) :
    (∀ i, callCount s i ≤ 1 ∧ (0 < callCount s i → i < wc.inp.length)) ∧
    (s.wret ≠ none → noFailure s.core → s.core.callerCancelled = false →
      ∀ i, i < wc.inp.length → callCount s i = 1 ∧ endedCount s.core i = 1) ∧
    ((running s.core : Int) ≤ max 1 (if wc.P ≤ 0 then (wc.gmp : Int) else wc.P)) ∧
    (s.wret ≠ none → running s.core = 0 ∧ ∀ i, endedCount s.core i = callCount s i) := by
  obtain ⟨ctx, hws⟩ : ∃ ctx, wc.w.Sound ctx := by wrapper_sound_ex hw
  have hc : wc.cfg.code = doCode ∨ wc.cfg.code = dcCode := sound_codes hws
  have hs : wc.cfg.code.Sound := by pardo_sound hc
  have hi := winv hws hs h
  have hcore := core_reach h
  have hn := cfg_n hws
  have hwr := (wret_cases hws hs h).1
  have hP : wc.cfg.P = wc.P := hws.P _
  have hE := do_exactly_once wc.cfg hc hg s.core hcore
  have hB := (do_bound wc.cfg hc s.core hcore).2.2.2.2
  refine ⟨?_, ?_, ?_, ?_⟩
  · intro i; rw [callCount_eq hi, ← hn]; exact hE.1 i
  · intro hret hnf hcc i hlt
    rw [callCount_eq hi]
    exact hE.2 (fun hx => hret (hwr.2 hx)) hnf hcc i (hn ▸ hlt)
  · rw [hP] at hB; exact hB
  · intro hret
    have := do_barrier wc.cfg hc s.core hcore (fun hx => hret (hwr.2 hx))
    exact ⟨this.1, fun i => by rw [callCount_eq hi]; exact this.2 i⟩

/-- non-vacuity: `Map(0, [7, 8, 9], f)` under `GOMAXPROCS = 2`: two calls of `f` in progress -/
example : ∃ s, WReach (⟨mapWrapper, 0, [7, 8, 9], 2⟩ : WCfg Nat) s ∧ running s.core = 2 ∧
    s.calls = [⟨1, 8, false⟩, ⟨0, 7, false⟩] :=
  ⟨_, wreach_of_run WReach.init (ls := [.fetch 0, .fetch 1, .begin 1, .begin 0]) rfl, by decide, by decide⟩

/-- **`MapContext`: the context handed to `f`, first error.** In every reachable state of `MapContext`:

1. every call of the user's `f` received the context `DoContext` hands to its callback — the errgroup's
   context on the parallel path — and not, say, the caller's: call by call, the state of `f`'s context at
   entry is the state `DoContext` recorded for its callback (`s.calls` ↦ `s.core.begun`), and at any
   moment `f`'s context is cancelled iff that context is (`userCtxCancelled = ctxCancelled`). This is the
   regenerated binder fact `mcCtxSource = "closureParam"` (with `func(_ context.Context, i int)` the
   argument `ctx` of `f(ctx, in[i])` is the *caller's* context: `"callerCtx"`, and this theorem fails);
2. hence `doContext_cancels_others` transfers: on the parallel path, once errgroup has recorded an error
   the context handed to `f` is cancelled, and every call of `f` that begins from then on is recorded
   with `cancelled = true`;
3. if `MapContext` returns an error, the slice is `nil` and the error is one a call of `f` returned, or the
   caller's context error after the caller cancelled; if it returns a nil error no call failed. -/
theorem mapContext_ctx_and_first_error (wc : WCfg α) (hw : wc.w = mapContextWrapper)
    (s : WSt α) (h : WReach wc s) :
    (s.calls.map (fun c => (⟨c.idx, c.cancelled⟩ : Begun)) = s.core.begun ∧
      userCtxCancelled wc s = ctxCancelled s.core ∧ s.callerCancelled = s.core.callerCancelled) ∧
    (s.core.seq = false → s.core.egErr ≠ none →
      userCtxCancelled wc s = true ∧
      ∀ w s', wstep wc s (.begin w) = some s' → ∃ c, s'.calls = s.calls ++ [c] ∧ c.cancelled = true) ∧
    ((∀ o e, s.wret = some ⟨o, some e⟩ → o = none ∧
        ((∃ k i, e = .f k ∧ (i, Res.err k) ∈ s.core.ended) ∨ (e = .ctxCaller ∧ s.callerCancelled = true))) ∧
      (∀ o, s.wret = some ⟨o, none⟩ → noFailure s.core)) := by
  have hws : wc.w.Sound true := by wrapper_sound hw
  have hc : wc.cfg.code = doCode ∨ wc.cfg.code = dcCode := sound_codes hws
  have hs : wc.cfg.code.Sound := by pardo_sound hc
  have hi := winv hws hs h
  have hcore := core_reach h
  have hwr := wret_cases hws hs h
  have hux : userCtxCancelled wc s = ctxCancelled s.core := by simp [userCtxCancelled, hws.ctxSrc rfl]
  have hcc := hi.callerCancelled_eq rfl
  have hE := doContext_error_is_returned_by_some_call_or_caller_ctx wc.cfg hc s.core hcore
  refine ⟨⟨hi.calls_begun, hux, hcc⟩, ?_, ⟨?_, ?_⟩⟩
  · intro hseq heg
    have hC := (doContext_cancels_others wc.cfg hc s.core hcore).1 hseq heg
    refine ⟨by rw [hux]; exact hC.2.1, ?_⟩
    intro w s' hst
    obtain ⟨i, a, hcalls⟩ := wstep_begin_calls (winv hws hs (.step h hst)).noPanic hst
    refine ⟨_, hcalls, ?_⟩
    simp [sound_ctxMode hws, hux, hC.2.1]
  · intro o e he
    have ⟨h1, h3⟩ := hwr.2.2 o e he
    refine ⟨h1, ?_⟩
    rw [hcc]
    exact hE.1 e h3
  · intro o ho
    exact hE.2 (hwr.2.1 o ho).2

/-- non-vacuity: `MapContext(ctx, 2, [7, 8, 9, 10], f)`: `f(8)` fails, errgroup records it, the other worker
(past its `ctx.Err()` test) calls `f(9)` with a cancelled context; the wrapper returns `nil` and that error -/
example : ∃ s s', WReach (⟨mapContextWrapper, 2, [7, 8, 9, 10], 8⟩ : WCfg Nat) s ∧ s.core.egErr ≠ none ∧
    s.calls = [⟨0, 7, false⟩, ⟨1, 8, false⟩, ⟨2, 9, true⟩] ∧
    wrun ⟨mapContextWrapper, 2, [7, 8, 9, 10], 8⟩ s [.fEnd 0 (.ok 1), .fetch 0, .check 0, .egDone 0, .ret] = some s' ∧
    s'.wret = some ⟨none, some (.f 5)⟩ :=
  ⟨_, _, wreach_of_run WReach.init (ls := [.fetch 0, .fetch 1, .check 0, .check 1, .begin 0, .begin 1, .fEnd 0 (.ok 1),
      .fetch 0, .check 0, .fEnd 1 (.err 5), .egDone 1, .begin 0]) rfl, by decide, by decide, rfl, by decide⟩

end Wrappers

end Juniper.Props.C13
