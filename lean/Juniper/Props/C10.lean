import Juniper.Model.Pipe
import Juniper.Model.Skeleton
import Juniper.Generated.Skeleton
import Juniper.Proofs.PipeFifo
import Juniper.Proofs.PipeNoLoss
import Juniper.Proofs.PipeLive
import Juniper.Proofs.PipeQueue
import Juniper.Proofs.PipeResult
import Juniper.Proofs.PipeTrySticky
/-!
# C10 — stream.Pipe: FIFO per sender, nothing sent-before-close lost, no stuck call
(and the Pipe clauses of C08: a call that fails on an expired context costs nothing, the close
error surfaces after the data)

All theorems are about `Juniper.Model.Pipe`, the labelled transition system whose `select` arms,
arm bodies and drain step are the definitions regenerated from `stream/stream.go`
(`Juniper.Gen.Pipe`). `Reach (init n b) st`: `st` is reachable in a pipe with `n` sender goroutines and
`bufferSize = b` under *some* schedule and environment — the theorems quantify over all of them.
Facts about the regenerated tables are discharged by `decide` inside the proofs: when the source
changes so that one of them no longer holds, exactly the theorems that rely on it stop compiling.

Vocabulary (defined in `Model/Pipe.lean` and `Proofs/Pipe*.lean`): `ofSender i l` = the messages of
sender `i` in `l`, in order; `sd.sent` = the messages sender `i`'s calls were started with (ghost);
`st.ackedBC` = messages whose send on the channel succeeded before the sender's `Close` (ghost);
`st.delivered` = what `Next` returned so far (ghost); `reportsEnd st l` = step `l` makes `Next` return
the end / the close error; `Quiet` = no `Send`/`TrySend` in flight; `stage`/`rstage` = upper bound on
the number of own steps a call still has in front of it (poll-or-park, arm); `ownLabel i l` = `l` is a
step of sender goroutine `i` (an arm of its `select`, a rendez-vous, its parking); `isRecvLabel l`
likewise for the receiver. A call at a blocking `select` is *polling* (`send m false`, `next false`) or
*parked* (`… true`); `canHandoff st sd` = a rendez-vous between `sd` and the receiver on the unbuffered
channel is possible, which needs exactly one of the two to be parked (`Model/Pipe.lean`, "Polling and
parking").

**What the liveness theorems (`…_never_stuck`, `…_never_blocks`, `unbuffered_send_meets_next`) say:** an
*enabled step* of the call that returns / brings it strictly closer to its return (measure `stage` /
`rstage`), and that the condition under which it is enabled is *stable* under every label of the LTS.
"The call returns" follows under the assumption — not proved, it is a property of the Go scheduler —
that an internal step of a goroutine that stays enabled is eventually taken (weak fairness per call).
-/
namespace Juniper.Props.C10
open Juniper.Facts Juniper.Gen.Pipe Juniper.Model.Pipe Juniper.Proofs.Pipe

/-- A two-sender pipe with `bufferSize = 2`: sender 0 sends 7, sender 1 `TrySend`s 8 (both buffered),
sender 0 starts sending 9 and parks because the buffer is full; the sender is closed
with an error, the parked `Send` returns it; the receiver's first `Next` takes the `senderDone` arm,
drains 7; the second `Next` takes 8 from its main select; the third goes through the drain's
`default` and reports. -/
def demo : List Label :=
  [.startSend 0 7 false, .sender 0 (.send chData), .startTry 1 8 false, .sender 1 .dflt, .sender 1 (.send chData),
   .startSend 0 9 false, .closeSender true, .sender 0 (.recv chSenderDone),
   .startNext false, .recv (.recv chSenderDone), .recv (.recv chData),
   .startNext false, .recv (.recv chData),
   .startNext false, .recv (.recv chSenderDone), .recv .dflt]

/-- The regenerated `select` tables of `Send`, `TrySend` and `pipeStream.Next` contain exactly the arms
the model interprets (no arm it would ignore), and `Pipe` wires both halves to the same channels,
`Close` stores the error before closing `senderDone`. -/
theorem tables_exact : tablesKnown = true ∧ wiringOK = true := by decide

/-- The state before the last step of `demo`: everything delivered, `Next` at the drain's `default`. -/
def demoDrained : State :=
  { cap := 2, senderDone := true, senderErr := true, rpc := .drain,
    senders := [⟨.idle, false, [⟨0, 0, 7⟩, ⟨0, 1, 9⟩]⟩, ⟨.idle, false, [⟨1, 0, 8⟩]⟩],
    acked := [⟨0, 0, 7⟩, ⟨1, 0, 8⟩], ackedBC := [⟨0, 0, 7⟩, ⟨1, 0, 8⟩], delivered := [⟨0, 0, 7⟩, ⟨1, 0, 8⟩] }

theorem demo_drained : run (init 2 2) (demo.take 15) = some demoDrained := by decide +kernel

theorem demo_end : run (init 2 2) demo = some (reportEnd demoDrained) := by decide +kernel

theorem after_demo : after (init 2 2) demo = reportEnd demoDrained := by rw [after, demo_end]; rfl

theorem demo_runs : (run (init 2 2) demo).isSome = true := by rw [demo_end]; rfl

/-- Tie 1 for the control flow *between* the tables: the LTS hard-wires that `Send` is one `select`,
`TrySend` two non-blocking `select`s and nothing else, `Next` one `select` whose `senderDone` arm is the
drain followed by the report, `Close` = store the error, then `close(senderDone)`. The statement-kind
skeletons regenerated from `stream/stream.go` (`Juniper.Gen.Skeleton`: one token per statement, in
source order, nested blocks flattened, identifiers and operands normalised away, `select` arms in
canonical order) are exactly the ones written down in `Model/Skeleton.lean`: no statement was added
(a fast path, a bare channel operation, an early `return`), removed or moved. -/
theorem skeleton_ok :
    Gen.Skeleton.pipe = Model.Skeleton.pipe ∧ Gen.Skeleton.send = Model.Skeleton.send ∧
    Gen.Skeleton.trySend = Model.Skeleton.trySend ∧ Gen.Skeleton.senderClose = Model.Skeleton.senderClose ∧
    Gen.Skeleton.pipeNext = Model.Skeleton.pipeNext ∧ Gen.Skeleton.pipeClose = Model.Skeleton.pipeClose := by
  exact ⟨rfl, rfl, rfl, rfl, rfl, rfl⟩

/-- The buffer never exceeds the capacity `make(chan T, bufferSize)` was given, which is
`bufferSize` itself. -/
theorem pipe_capacity {n b : Nat} {st : State} (hr : Reach (init n b) st) :
    st.cap = b ∧ st.buf.length ≤ b := by
  have := (inv_reach (by decide) hr).cap
  have hcap := cap_reach (fun _ => rfl) hr
  rw [hcap] at this
  exact ⟨hcap, this⟩


example : ∃ st, Reach (init 2 2) st ∧ st.buf.length = 2 :=
  ⟨after (init 2 2) (demo.take 6), reach_after (isSome_run_take demo_runs 6), by decide +kernel⟩

/-- **Only sent values, each at most once, each sender's values in the order sent.** In every
reachable state, for what has been delivered and what is still buffered: every message is one that
a `Send`/`TrySend` of its sender was called with; no message occurs twice; and per sender the
messages form a sublist (order-preserving, gaps allowed: failed calls) of that sender's calls. -/
theorem pipe_only_sent_at_most_once_in_order {n b : Nat} {st : State} (hr : Reach (init n b) st) :
    (∀ m ∈ st.delivered ++ st.buf, ∃ sd, st.senders[m.sender]? = some sd ∧ m ∈ sd.sent) ∧
    (st.delivered ++ st.buf).Nodup ∧
    (∀ i sd, st.senders[i]? = some sd → (ofSender i (st.delivered ++ st.buf)).Sublist sd.sent) :=
  fifo_of_inv (inv_reach (by decide) hr)


/-- non-vacuity: two senders, both delivered, one failed call (9) in between -/
example : ∃ st, Reach (init 2 2) st ∧ st.delivered.map (·.val) = [7, 8] ∧
    (st.senders.map fun sd => sd.sent.map (·.val)) = [[7, 9], [8]] :=
  ⟨_, reach_of_run demo_end, by decide +kernel⟩

/-- **Nothing sent before close is lost.** Once a `Next` has reported the end / the close error, the
sender had been closed and every value whose send succeeded before that `Close` has been
delivered. (False of the tree before the D11 fix: `nextDrains = false` there.) -/
theorem pipe_no_loss_before_close {n b : Nat} {st : State} (hr : Reach (init n b) st)
    (hend : st.endReported = true) :
    st.senderDone = true ∧ ∀ m ∈ st.ackedBC, m ∈ st.delivered :=
  noLoss_reach (by decide) ⟨rfl, by decide, by decide⟩ hr hend


example : ∃ st, Reach (init 2 2) st ∧ st.endReported = true ∧ st.ackedBC.map (·.val) = [7, 8] :=
  ⟨_, reach_of_run demo_end, by decide +kernel⟩

/-- The same at the reporting step itself: `Next` reports only out of the drain's `default`, with an
empty buffer, and at that moment everything acknowledged before the `Close` has been delivered
(so those values were delivered *before* the receiver is told about the end). -/
theorem pipe_no_loss_at_report {n b : Nat} {st st' : State} {l : Label} (hr : Reach (init n b) st)
    (hs : step st l = some st') (hrep : reportsEnd st l = true) :
    st.buf = [] ∧ st'.delivered = st.delivered ∧ ∀ m ∈ st'.ackedBC, m ∈ st'.delivered := by
  obtain ⟨_, _, hbuf, hst'⟩ := report_only_when_drained ⟨rfl, by decide, by decide⟩ (.of_step hs) hrep
  refine ⟨hbuf, by rw [hst']; rfl, ?_⟩
  have := pipe_no_loss_before_close (Reach.step hr hs) (by rw [hst']; rfl)
  exact this.2


example : ∃ st st', Reach (init 2 2) st ∧ step st (.recv .dflt) = some st' ∧ reportsEnd st (.recv .dflt) = true ∧
    st'.ackedBC.length = 2 :=
  ⟨_, reportEnd demoDrained, reach_of_run demo_drained, by decide +kernel⟩

/-- **Once no Send is in flight, the end, once reported, keeps being reported** — proved in this shape:
if a step reports (`reportsEnd st l`) in a reachable state in which no `Send`/`TrySend` is in flight
(`Quiet st`), then after every continuation `ls` **in which no `Send`/`TrySend` is started**
(`startsSend x = false` for every label of `ls`; all other labels — `Next` calls, context expiries, the
receiver's `Close` — are allowed), in the state reached: no value-delivering label (data arm of `Next` or
of its drain, rendez-vous) is enabled, the sender is still closed and the stored error is the one that
was reported. The hypothesis is stronger than the text's "no Send is in flight": it also excludes calls
started *after* the report. It is needed: a `Send` started after the sender's `Close` on a buffered pipe
has its data arm and its `senderDone` arm both ready and may still put a value into the channel, which a
later `Next` delivers (after that the pipe is `Quiet` again with `endReported` and a longer `delivered`). The
property text leaves that period open. What every later `Next` *returns* under the same hypotheses is
`pipe_end_sticky_results` (the same report, or its own context's error); that such a `Next` returns at all
is `next_never_stuck` (`senderDone = true` is a stable return condition) plus scheduler fairness. -/
theorem pipe_end_sticky_when_quiet {n b : Nat} {st s1 s2 : State} {l : Label} {ls : List Label}
    (hr : Reach (init n b) st) (hq : Quiet st) (hs : step st l = some s1) (hrep : reportsEnd st l = true)
    (hls : ∀ x ∈ ls, startsSend x = false) (hrun : run s1 ls = some s2) :
    (∀ l', deliversValue l' = true → step s2 l' = none) ∧
    s2.senderDone = true ∧ s2.senderErr = s1.senderErr := by
  have hF : TryGateFacts := by decide
  have h1 := settledT_of_quiet_report ⟨rfl, by decide, by decide⟩ (inv_reach (by decide) hr) hq (.of_step hs) hrep
  obtain ⟨h2, herr⟩ := settledT_run hF h1 (fun x hx => startsRealSend_of_startsSend (hls x hx)) hrun
  exact ⟨fun l' hl' => settledT_no_delivery hF h2 hl', h2.1, herr⟩


/-- non-vacuity: after the report of `demo`, two more `Next` calls (one with an expired context)
and the receiver's `Close`: all hypotheses hold -/
example : ∃ st s1 s2, Reach (init 2 2) st ∧ Quiet st ∧ step st (.recv .dflt) = some s1 ∧
    reportsEnd st (.recv .dflt) = true ∧
    run s1 [.startNext true, .recv (.recv chCtx), .startNext false, .recv (.recv chSenderDone), .recv .dflt, .closeRecv] = some s2 :=
  ⟨_, reportEnd demoDrained,
   after (reportEnd demoDrained) [.startNext true, .recv (.recv chCtx), .startNext false, .recv (.recv chSenderDone), .recv .dflt, .closeRecv],
   reach_of_run demo_drained, by decide +kernel⟩

/-- **Send returns once the receiver closes, the sender closes or its context expires** — proved as:
in any state (reachable or not) in which a `Send` is pending (polling or parked, `pc = send m p`) and
one of the three holds,
1. `Send` *is* one `select` and nothing else (regenerated control skeleton);
2. an arm of that `select` is enabled whose step makes the call return (`pc = idle` afterwards);
3. stability: whatever label of the LTS is taken next (any goroutine, any environment action), the call
   has returned or is still pending with one of the three still true;
4. a `Send` that has not parked yet (`p = false`) has an enabled own step in *every* state (an arm, a
   rendez-vous, or it parks) — polling never waits;
5. every own step of the call strictly decreases `stage ≤ 2`.
Assumption for "returns": weak fairness of the scheduler towards this call's enabled steps. -/
theorem send_never_stuck {st : State} {i : Nat} {sd : Sender} {m : Msg} {p : Bool}
    (hsd : st.senders[i]? = some sd) (hpc : sd.pc = .send m p)
    (hc : st.streamDone = true ∨ st.senderDone = true ∨ sd.ctx = true) :
    Gen.Skeleton.send = Model.Skeleton.send ∧
    (∃ a st' sd', step st (.sender i a) = some st' ∧ st'.senders[i]? = some sd' ∧ sd'.pc = .idle) ∧
    (∀ l st', step st l = some st' → ∃ sd', st'.senders[i]? = some sd' ∧
      (sd'.pc = .idle ∨ ((∃ p', sd'.pc = .send m p') ∧
        (st'.streamDone = true ∨ st'.senderDone = true ∨ sd'.ctx = true)))) ∧
    (p = false → ∃ l st', ownLabel i l ∧ step st l = some st') ∧
    (∀ l st', ownLabel i l → step st l = some st' →
      ∃ sd', st'.senders[i]? = some sd' ∧ stage sd'.pc < stage sd.pc) ∧ stage sd.pc ≤ 2 := by
  refine ⟨rfl, send_enabled ⟨by decide, by decide, by decide⟩ hsd hpc hc,
    fun l st' hs => send_cond_stable hsd hpc hc (.of_step hs), ?_, ?_, ?_⟩
  · intro hp; subst hp; exact send_poll_enabled hsd hpc
  · intro l st' hl hs
    obtain ⟨sd', h1, h2, _⟩ := sender_step_progress hsd hl (.of_step hs)
    exact ⟨sd', h1, h2⟩
  · exact stage_le _


/-- non-vacuity: sender 0 parked in `Send 9` on a full buffer when the sender is closed -/
example : ∃ st sd m, Reach (init 2 2) st ∧ st.senders[0]? = some sd ∧ sd.pc = .send m false ∧ st.senderDone = true ∧ m.val = 9 :=
  ⟨after (init 2 2) (demo.take 7), ⟨.send ⟨0, 1, 9⟩ false, false, [⟨0, 0, 7⟩, ⟨0, 1, 9⟩]⟩, ⟨0, 1, 9⟩,
   reach_after (isSome_run_take demo_runs 7), by decide +kernel⟩
/-- … and the same `Send` parked (it polled the full buffer before the `Close`) -/
example : ∃ st sd m, Reach (init 2 2) st ∧ st.senders[0]? = some sd ∧ sd.pc = .send m true ∧ st.senderDone = true :=
  ⟨after (init 2 2) (demo.take 6 ++ [.park 0, .closeSender true]), ⟨.send ⟨0, 1, 9⟩ true, false, [⟨0, 0, 7⟩, ⟨0, 1, 9⟩]⟩, ⟨0, 1, 9⟩,
   reach_after (by decide +kernel), by decide +kernel⟩

/-- **TrySend never blocks** — proved as: its body consists of exactly two `select` statements — no
statement before, between or after them that could block or return early (regenerated control
skeleton) —, both with a `default` arm (regenerated tables); in *every* state (reachable or not,
whatever the other goroutines do) a pending `TrySend` has an enabled step of its own (an arm, `default`,
or a rendez-vous with a *parked* `Next`); each own step strictly decreases `stage ≤ 2`, i.e. takes it to
the second `select` or returns. So it returns after at most two own steps and never waits for another
goroutine. (That the scheduler runs the goroutine is the only assumption.) -/
theorem trySend_never_blocks {st : State} {i : Nat} {sd : Sender} {m : Msg}
    (hsd : st.senders[i]? = some sd) (hpc : sd.pc = .try1 m ∨ sd.pc = .try2 m) :
    Gen.Skeleton.trySend = Model.Skeleton.trySend ∧
    (trySendArms1.contains .dflt = true ∧ trySendArms2.contains .dflt = true) ∧
    (∃ l st', ownLabel i l ∧ step st l = some st') ∧
    (∀ l st', ownLabel i l → step st l = some st' →
      ∃ sd', st'.senders[i]? = some sd' ∧ stage sd'.pc < stage sd.pc) ∧
    stage sd.pc ≤ 2 :=
  ⟨rfl, ⟨by decide, by decide⟩, trySend_enabled ⟨by decide, by decide⟩ hsd hpc,
    fun _ _ hl hs => by
      obtain ⟨sd', h1, h2, _⟩ := sender_step_progress hsd hl (.of_step hs)
      exact ⟨sd', h1, h2⟩,
    stage_le _⟩


/-- non-vacuity: sender 1 at the first and at the second `select` of `TrySend 8` -/
example : ∃ st sd m, Reach (init 2 2) st ∧ st.senders[1]? = some sd ∧ sd.pc = .try1 m :=
  ⟨after (init 2 2) (demo.take 3), ⟨.try1 ⟨1, 0, 8⟩, false, [⟨1, 0, 8⟩]⟩, ⟨1, 0, 8⟩, reach_after (isSome_run_take demo_runs 3), by decide +kernel⟩
example : ∃ st sd m, Reach (init 2 2) st ∧ st.senders[1]? = some sd ∧ sd.pc = .try2 m :=
  ⟨after (init 2 2) (demo.take 4), ⟨.try2 ⟨1, 0, 8⟩, false, [⟨1, 0, 8⟩]⟩, ⟨1, 0, 8⟩, reach_after (isSome_run_take demo_runs 4), by decide +kernel⟩

/-- **Next returns once a value is available, the sender closes or its context expires** — proved as,
in every state (reachable or not):
1. `Next` is one `select` (with the drain `select` and the report inside its `senderDone` arm) and nothing
   else (regenerated control skeleton);
2. if `Next` is at its main `select` (polling or parked) and a value is buffered, a rendez-vous is
   possible (`canHandoff`: unbuffered pipe, a sender offers, exactly one side parked), the sender is
   closed or the context expired, then a step of the receiver is enabled that strictly decreases `rstage`;
3. a `Next` that has not parked yet has an enabled own step in every state (an arm, a rendez-vous with
   a parked `Send`, or it parks), which decreases `rstage` — polling never waits;
4. in the drain (if the source has one) it never waits: a receiver step is enabled and returns;
5. stability: the part of the condition that does not depend on other calls — a buffered value, the
   sender's `Close`, the expired context — persists under every label while `Next` is at its main `select`.
(That a pending `Send` and a pending `Next` on an unbuffered pipe do reach a state with `canHandoff` is
`unbuffered_send_meets_next`.) Assumption for "returns": weak fairness of the scheduler towards the
receiver's enabled steps. -/
theorem next_never_stuck {st : State} :
    Gen.Skeleton.pipeNext = Model.Skeleton.pipeNext ∧
    (∀ p, st.rpc = .next p →
      (st.buf ≠ [] ∨ (∃ sd ∈ st.senders, canHandoff st sd = true) ∨ st.senderDone = true ∨ st.rctx = true) →
      ∃ l st', isRecvLabel l = true ∧ step st l = some st' ∧ rstage st'.rpc < rstage st.rpc) ∧
    (st.rpc = .next false →
      ∃ l st', isRecvLabel l = true ∧ step st l = some st' ∧ rstage st'.rpc < rstage st.rpc) ∧
    (nextDrains = true → st.rpc = .drain →
      ∃ l st', isRecvLabel l = true ∧ step st l = some st' ∧ st'.rpc = .idle) ∧
    (st.rpc.isNext = true → (st.buf ≠ [] ∨ st.senderDone = true ∨ st.rctx = true) →
      ∀ l st', step st l = some st' →
        st'.rpc.isNext = false ∨ (st'.buf ≠ [] ∨ st'.senderDone = true ∨ st'.rctx = true)) := by
  have hF : NextFacts := ⟨by decide, by decide, by decide, fun _ => by decide⟩
  exact ⟨rfl, fun p hpc hc => next_enabled hF hpc hc, fun hpc => next_poll_enabled hpc,
    fun hd hpc => drain_enabled (hF.drainDflt hd) hpc, fun hpc hc l st' hs => next_cond_stable hpc hc (.of_step hs)⟩


/-- non-vacuity: `Next` at its select with two buffered values and a closed sender; `Next` in the drain;
`Next` polling while a `Send` is parked on an unbuffered pipe (rendez-vous possible) -/
example : ∃ st, Reach (init 2 2) st ∧ st.rpc = .next false ∧ st.buf ≠ [] ∧ st.senderDone = true :=
  ⟨after (init 2 2) (demo.take 9), reach_after (isSome_run_take demo_runs 9), by decide +kernel⟩
example : ∃ st, Reach (init 2 2) st ∧ st.rpc = .drain :=
  ⟨after (init 2 2) (demo.take 10), reach_after (isSome_run_take demo_runs 10), by decide +kernel⟩
example : ∃ st sd, Reach (init 1 0) st ∧ st.rpc = .next false ∧ sd ∈ st.senders ∧ canHandoff st sd = true :=
  ⟨after (init 1 0) [.startSend 0 5 false, .park 0, .startNext false], ⟨.send ⟨0, 0, 5⟩ true, false, [⟨0, 0, 5⟩]⟩,
   reach_after (by decide +kernel), by decide +kernel⟩

/-- **No lost rendez-vous on an unbuffered pipe.** In every reachable state of a pipe with `bufferSize = 0`
in which a `Send` and a `Next` are both pending (each polling or parked), an internal step of one of the
two calls is enabled: whoever is still polling can fire an arm, complete the rendez-vous with the parked
partner, or park; and the two are never both parked (wait-queue invariant `QInv`: the poll of the
second to arrive finds the first in the queue — `park` is enabled only if no partner is parked). Each
such step decreases `stage`/`rstage`, so after at most two of them the rendez-vous `handoff i` itself, or a
returning arm, is enabled. Assumption for "they do meet": weak fairness of the scheduler. -/
theorem unbuffered_send_meets_next {n : Nat} {st : State} {i : Nat} {sd : Sender} {m : Msg} {p q : Bool}
    (hr : Reach (init n 0) st) (hsd : st.senders[i]? = some sd) (hpc : sd.pc = .send m p)
    (hn : st.rpc = .next q) :
    (sendArms.contains (.send chData) = true ∧ nextArms.contains (.recv chData) = true) ∧
    ¬(p = true ∧ q = true) ∧
    ((∃ l st', ownLabel i l ∧ step st l = some st') ∨
     (∃ l st', isRecvLabel l = true ∧ step st l = some st' ∧ rstage st'.rpc < rstage st.rpc)) := by
  have hcap : st.cap = 0 := cap_reach (fun _ => rfl) hr
  have hq := qinv_reach ⟨by decide, by decide⟩ hr hcap
  have hnot : ¬(p = true ∧ q = true) := by
    rintro ⟨rfl, rfl⟩
    have := hq (by simp [hn, RPc.parked]) sd (List.mem_of_getElem? hsd)
    simp [hpc, SPc.parked] at this
  refine ⟨⟨by decide, by decide⟩, hnot, ?_⟩
  cases p with
  | false => exact Or.inl (send_poll_enabled hsd hpc)
  | true =>
    cases q with
    | false => exact Or.inr (next_poll_enabled hn)
    | true => exact (hnot ⟨rfl, rfl⟩).elim


/-- non-vacuity: both polling; `Send` parked, `Next` polling; `Next` parked, `Send` polling -/
example : ∃ st sd, Reach (init 1 0) st ∧ st.senders[0]? = some sd ∧ sd.pc = .send ⟨0, 0, 5⟩ false ∧ st.rpc = .next false :=
  ⟨after (init 1 0) [.startSend 0 5 false, .startNext false], ⟨.send ⟨0, 0, 5⟩ false, false, [⟨0, 0, 5⟩]⟩,
   reach_after (by decide +kernel), by decide +kernel⟩
example : ∃ st sd, Reach (init 1 0) st ∧ st.senders[0]? = some sd ∧ sd.pc = .send ⟨0, 0, 5⟩ true ∧ st.rpc = .next false :=
  ⟨after (init 1 0) [.startSend 0 5 false, .park 0, .startNext false], ⟨.send ⟨0, 0, 5⟩ true, false, [⟨0, 0, 5⟩]⟩,
   reach_after (by decide +kernel), by decide +kernel⟩
example : ∃ st sd, Reach (init 1 0) st ∧ st.senders[0]? = some sd ∧ sd.pc = .send ⟨0, 0, 5⟩ false ∧ st.rpc = .next true :=
  ⟨after (init 1 0) [.startNext false, .parkRecv, .startSend 0 5 false], ⟨.send ⟨0, 0, 5⟩ false, false, [⟨0, 0, 5⟩]⟩,
   reach_after (by decide +kernel), by decide +kernel⟩

/-! ### Non-blocking selects meet only parked partners (audit C10 F1)

The second `select` of `TrySend` and the drain `select` of `Next` are both non-blocking: neither ever
waits in a channel queue, so they cannot rendez-vous with each other. -/

/-- Sender 0 between the two selects of `TrySend 5` on an unbuffered pipe when the sender is closed with
an error; `Next` takes the `senderDone` arm and stands at its drain `select`. -/
def raceTryDrain : List Label :=
  [.startNext false, .parkRecv, .startTry 0 5 false, .sender 0 .dflt, .closeSender true, .recv (.recv chSenderDone)]

/-- In that state **both `default`s are enabled and the rendez-vous is not**: `TrySend` returns `false`,
`Next` reports the close error — the outcome real threads show (`Next=err, TrySend=false`). -/
example : ∃ st, Reach (init 1 0) st ∧ st.rpc = .drain ∧ st.senders[0]?.map (·.pc) = some (.try2 ⟨0, 0, 5⟩) ∧
    (step st (.recv .dflt)).isSome = true ∧ (step st (.sender 0 .dflt)).isSome = true ∧ step st (.handoff 0) = none :=
  exists_reach_after raceTryDrain (by decide +kernel)

/-- … and the run to the end, with the results of the two calls: `Next = err`, `TrySend = false`. -/
example : runCompletions (init 1 0) (raceTryDrain ++ [.recv .dflt, .sender 0 .dflt]) = [(.recv, .err), (.sender 0, .fls)] ∧
    (run (init 1 0) (raceTryDrain ++ [.recv .dflt, .sender 0 .dflt])).isSome = true := by decide +kernel

/-- `TrySend` on an unbuffered pipe with a *parked* `Next`: at the second `select` the rendez-vous is the
only own step (`default` is not enabled), `TrySend` returns `true` and `Next` the value. -/
example : ∃ st, Reach (init 1 0) st ∧ st.rpc = .next true ∧ st.senders[0]?.map (·.pc) = some (.try2 ⟨0, 0, 5⟩) ∧
    step st (.sender 0 .dflt) = none ∧ step st (.sender 0 (.send chData)) = none ∧
    completions st (.handoff 0) = [(.sender 0, .tru), (.recv, .val 5)] ∧ (step st (.handoff 0)).isSome = true :=
  exists_reach_after [.startNext false, .parkRecv, .startTry 0 5 false, .sender 0 .dflt] (by decide +kernel)

/-- … while a `Next` that has been started but has not parked yet is not in the wait queue: `TrySend`
takes its `default` (returns `false`), no rendez-vous. -/
example : ∃ st, Reach (init 1 0) st ∧ st.rpc = .next false ∧ st.senders[0]?.map (·.pc) = some (.try2 ⟨0, 0, 5⟩) ∧
    (step st (.sender 0 .dflt)).isSome = true ∧ step st (.handoff 0) = none :=
  exists_reach_after [.startNext false, .startTry 0 5 false, .sender 0 .dflt] (by decide +kernel)

/-- The drain receives from an unbuffered pipe only from a *parked* `Send`: with a `Send` that is still
polling the drain's `default` is enabled and the rendez-vous is not; once the `Send` is parked it is the
other way round. (A `Send` cannot park after the `Close`, so the parked case needs the `Send` to have
parked before it.) -/
example : ∃ st, Reach (init 1 0) st ∧ st.rpc = .drain ∧ (step st (.recv .dflt)).isSome = true ∧ step st (.handoff 0) = none :=
  exists_reach_after [.startSend 0 5 false, .closeSender false, .startNext false, .recv (.recv chSenderDone)]
    (by decide +kernel)
example : ∃ st, Reach (init 1 0) st ∧ st.rpc = .drain ∧ step st (.recv .dflt) = none ∧ (step st (.handoff 0)).isSome = true :=
  exists_reach_after [.startSend 0 5 false, .park 0, .closeSender false, .startNext false, .recv (.recv chSenderDone)]
    (by decide +kernel)

/-! ## What the calls return versus what happens to the logs (audit C10 F2)

The clauses of the property speak about *results* ("every value whose Send returned nil before Close"),
the invariants above about ghost logs (`ackedBC` = committed before the `Close`). `completions st l` is the
list of calls that return in step `l`, with the result read off the **regenerated arm bodies**
(`Gen.Pipe.sendBodies`, `trySendBodies1/2`, `nextBodies`, `nextDrainBodies`, `nextEndStmts`); `Res` =
`nil ctx closed err tru fls fin (val v) unknown`; `endRes st` = what a report returns: `err` if the sender was
closed with an error (`st.senderErr`), `fin` (`End`) otherwise. The theorems below tie result and log change together,
arm by arm and then along runs. The facts about the bodies are discharged by `decide` *inside* these
theorems: a changed `return` statement (e.g. `Send`'s `ctx` arm returning `nil`) makes them fail to
compile. -/

/-- **`Send` returned nil ⇒ its value was committed (and nothing else returns nil before `Close`).** For a
pending `Send` of message `m` (polling or parked) and any step `sender i a` of its `select`: the call
returns in this step, with exactly one result `r`, and
* the data arm returns `nil`, appends `m` to the channel buffer and to `acked`, and to `ackedBC` iff the
  sender is not yet closed;
* every other arm leaves buffer and all logs untouched and returns the context's error (`ctx` arm),
  `ErrClosedPipe` (`streamDone` arm), or what the sender was closed with (`senderDone` arm: `err`, or
  `nil` after `Close(nil)` — the only `nil` without a commit, and it needs `senderDone`);
hence (last conjunct) `r = nil` while the sender is not closed implies `ackedBC` grew by `m`. -/
theorem send_returns_nil_iff_committed {st st' : State} {i : Nat} {sd : Sender} {m : Msg} {p : Bool} {a : Arm}
    (hsd : st.senders[i]? = some sd) (hpc : sd.pc = .send m p) (hs : step st (.sender i a) = some st') :
    ∃ r, completions st (.sender i a) = [(.sender i, r)] ∧
      ((a = .send chData ∧ r = .nil ∧ st'.buf = st.buf ++ [m] ∧ st'.acked = st.acked ++ [m] ∧
          st'.ackedBC = (if st.senderDone then st.ackedBC else st.ackedBC ++ [m])) ∨
       (a ≠ .send chData ∧ st'.buf = st.buf ∧ st'.acked = st.acked ∧ st'.ackedBC = st.ackedBC ∧
          st'.delivered = st.delivered ∧
          ((a = .recv chCtx ∧ sd.ctx = true ∧ r = .ctx) ∨ (a = .recv chStreamDone ∧ st.streamDone = true ∧ r = .closed) ∨
           (a = .recv chSenderDone ∧ st.senderDone = true ∧ r = (if st.senderErr then .err else .nil))))) ∧
      (r = .nil → st.senderDone = false → st'.ackedBC = st.ackedBC ++ [m]) := by
  exact send_arm_result ⟨by decide, by decide, by decide, by decide, by decide⟩ hsd hpc (.of_step hs)

/-- non-vacuity: the `Send 7` of `demo` returns `nil` from its data arm; the `Send 9` parked on the full
buffer returns the close error from its `senderDone` arm -/
example : completions (init 2 2 |> fun s => after s (demo.take 1)) (.sender 0 (.send chData)) = [(.sender 0, .nil)] ∧
    completions (after (init 2 2) (demo.take 7)) (.sender 0 (.recv chSenderDone)) = [(.sender 0, .err)] := by decide +kernel

/-- **`TrySend` returned true ⇔ its value was committed; false ⇒ nothing happened; the first `select`'s
`default` does not return.** For a pending `TrySend` of `m` and a step `sender i a`:
* at the first `select`: `default` returns nothing — the call moves to the second `select`, nothing else
  changes; the three `Done` arms return the context's error / `ErrClosedPipe` / what the sender was
  closed with (`err`, or `false` after `Close(nil)`), and change nothing but the call's pc;
* at the second `select`: the data arm returns `true`, appends `m` to the buffer and to `acked` (to
  `ackedBC` iff the sender is not yet closed); `default` returns `false` and changes nothing but the pc. -/
theorem trySend_returns_true_iff_committed {st st' : State} {i : Nat} {sd : Sender} {m : Msg} {a : Arm}
    (hsd : st.senders[i]? = some sd) (hs : step st (.sender i a) = some st') :
    (sd.pc = .try1 m →
      (a = .dflt ∧ completions st (.sender i a) = [] ∧ st' = st.setSender i { sd with pc := .try2 m }) ∨
      (a ≠ .dflt ∧ st' = st.setSender i { sd with pc := .idle } ∧
        ((a = .recv chCtx ∧ sd.ctx = true ∧ completions st (.sender i a) = [(.sender i, .ctx)]) ∨
         (a = .recv chStreamDone ∧ st.streamDone = true ∧ completions st (.sender i a) = [(.sender i, .closed)]) ∨
         (a = .recv chSenderDone ∧ st.senderDone = true ∧
            completions st (.sender i a) = [(.sender i, if st.senderErr then .err else .fls)])))) ∧
    (sd.pc = .try2 m →
      (a = .send chData ∧ completions st (.sender i a) = [(.sender i, .tru)] ∧ st'.buf = st.buf ++ [m] ∧
        st'.acked = st.acked ++ [m] ∧ st'.ackedBC = (if st.senderDone then st.ackedBC else st.ackedBC ++ [m])) ∨
      (a = .dflt ∧ completions st (.sender i a) = [(.sender i, .fls)] ∧
        st' = st.setSender i { sd with pc := .idle })) := by
  exact try_arm_result ⟨by decide, by decide, by decide, by decide, by decide, by decide, by decide, by decide⟩ hsd
    (.of_step hs)

/-- non-vacuity: the `TrySend 8` of `demo` passes its first `select` without returning and returns `true`
from the second; a `TrySend` on a full buffer returns `false` -/
example : completions (after (init 2 2) (demo.take 3)) (.sender 1 .dflt) = [] ∧
    completions (after (init 2 2) (demo.take 4)) (.sender 1 (.send chData)) = [(.sender 1, .tru)] ∧
    completions (after (init 1 1) [.startSend 0 1 false, .sender 0 (.send chData), .startTry 0 2 false, .sender 0 .dflt])
      (.sender 0 .dflt) = [(.sender 0, .fls)] := by decide +kernel

/-- **A rendez-vous returns success to the sender and the value to `Next`.** In a `handoff i` step the
call of sender `i` is a `Send` (returns `nil`) or a `TrySend` at its second `select` (returns `true`), `Next`
returns the value of the message in flight, and that message is appended to `acked` (to `ackedBC` iff the
sender is not closed) and to `delivered` in the same step. -/
theorem rendezvous_returns_success_and_value {st st' : State} {i : Nat} {sd : Sender}
    (hsd : st.senders[i]? = some sd) (hs : step st (.handoff i) = some st') :
    ∃ m, sd.pc.msg? = some m ∧
      (((∃ p, sd.pc = .send m p) ∧ completions st (.handoff i) = [(.sender i, .nil), (.recv, .val m.val)]) ∨
       (sd.pc = .try2 m ∧ completions st (.handoff i) = [(.sender i, .tru), (.recv, .val m.val)])) ∧
      st'.acked = st.acked ++ [m] ∧ st'.delivered = st.delivered ++ [m] ∧
      st'.ackedBC = (if st.senderDone then st.ackedBC else st.ackedBC ++ [m]) := by
  have hN : NextBodies := ⟨by decide, by decide, by decide, rfl, by decide, by decide, by decide, rfl⟩
  obtain ⟨m, hm, hacc, hres, rfl⟩ := handoff_send_result ⟨by decide, by decide, by decide, by decide, by decide⟩
    ⟨by decide, by decide, by decide, by decide, by decide, by decide, by decide, by decide⟩ hsd (.of_step hs)
  rw [hN.dataBody hacc, bodyResult_item] at hres
  exact ⟨m, hm, hres, rfl, rfl, rfl⟩

/-- non-vacuity: a polling `Next` meets a parked `Send 5` on an unbuffered pipe -/
example : completions (after (init 1 0) [.startSend 0 5 false, .park 0, .startNext false]) (.handoff 0) =
    [(.sender 0, .nil), (.recv, .val 5)] := by decide +kernel

/-- **`Next` returns a value ⇔ `delivered` grows by exactly that value; the report is the close error or
`End`.** First conjunct (pin): the `senderDone` arm of `pipeStream.Next` as listed in `nextBodies` is the
drain `select` followed by exactly the statements `nextEndStmts` the model reads the report from. Then, for
every step `recv a` of the receiver:
* a data arm (main `select` or drain) returns the value of the head of the buffer and moves that message
  from the buffer to the end of `delivered`;
* the `senderDone` arm of the main `select` returns nothing (it enters the drain);
* the context arm returns the context's error; `delivered` is untouched;
* the drain's `default` returns no value: it falls through to the report — `err` if the sender was closed
  with an error, `End` (`fin`) otherwise; `delivered` is untouched. -/
theorem next_returns_value_iff_delivered {st st' : State} {a : Arm} (hs : step st (.recv a) = some st') :
    nextBodies.lookup (.recv chSenderDone) =
      some ("select { case item := <-s.c: return item, nil default: }" :: nextEndStmts) ∧
    ((∃ m rest, a = .recv chData ∧ st.buf = m :: rest ∧ completions st (.recv a) = [(.recv, .val m.val)] ∧
        st'.buf = rest ∧ st'.delivered = st.delivered ++ [m]) ∨
     (a = .recv chSenderDone ∧ st.rpc.isNext = true ∧ st.senderDone = true ∧ completions st (.recv a) = [] ∧
        st' = { st with rpc := .drain }) ∨
     (a = .recv chCtx ∧ st.rpc.isNext = true ∧ st.rctx = true ∧ completions st (.recv a) = [(.recv, .ctx)] ∧
        st' = { st with rpc := .idle }) ∨
     (a = .dflt ∧ st.rpc = .drain ∧ reportsEnd st (.recv a) = true ∧
        completions st (.recv a) = [(.recv, endRes st)] ∧ st' = reportEnd st)) := by
  exact ⟨by decide,
    recv_result ⟨by decide, by decide, by decide, rfl, by decide, by decide, by decide, rfl⟩ (.of_step hs)⟩

/-- non-vacuity: `demo`'s first `Next` returns 7 from the drain, the third reports the close error from
the drain's `default` -/
example : completions (after (init 2 2) (demo.take 10)) (.recv (.recv chData)) = [(.recv, .val 7)] ∧
    completions (after (init 2 2) (demo.take 15)) (.recv .dflt) = [(.recv, .err)] := by decide +kernel

/-- **Results versus logs, for every label of the LTS** (environment actions, arms of any call,
rendez-vous, parking):
1. either the step commits the message `m` in flight of some sender `i` — `acked` grows by `m`, `ackedBC`
   too unless the sender is already closed — and that call returns success in this very step (`nil` /
   `true`); or both logs are untouched and no call returns `true`, and a call returns `nil` only if the
   sender is closed (`Send`'s `senderDone` arm after `Close(nil)`);
2. either the step appends one message to `delivered` and `Next` returns exactly that message's value in
   this step (and nothing else); or `delivered` is untouched and `Next`, if it returns, returns its
   context's error or — in a reporting step — the close error / `End`. -/
theorem results_match_logs {st st' : State} {l : Label} (hs : step st l = some st') :
    ((∃ i sd m, st.senders[i]? = some sd ∧ sd.pc.msg? = some m ∧ st'.acked = st.acked ++ [m] ∧
        st'.ackedBC = (if st.senderDone then st.ackedBC else st.ackedBC ++ [m]) ∧
        (l = .handoff i ∨ ∃ a, l = .sender i a) ∧
        ((.sender i, .nil) ∈ completions st l ∨ (.sender i, .tru) ∈ completions st l)) ∨
     (st'.acked = st.acked ∧ st'.ackedBC = st.ackedBC ∧
        ∀ i r, (Who.sender i, r) ∈ completions st l → r ≠ .tru ∧ (r = .nil → st.senderDone = true))) ∧
    ((∃ m, st'.delivered = st.delivered ++ [m] ∧ deliversValue l = true ∧
        ∀ r, (Who.recv, r) ∈ completions st l ↔ r = .val m.val) ∨
     (st'.delivered = st.delivered ∧
        ∀ r, (Who.recv, r) ∈ completions st l →
          r = .ctx ∨ (r = endRes st ∧ reportsEnd st l = true))) := by
  have hB : Bodies := ⟨⟨by decide, by decide, by decide, by decide, by decide⟩,
    ⟨by decide, by decide, by decide, by decide, by decide, by decide, by decide, by decide⟩,
    ⟨by decide, by decide, by decide, rfl, by decide, by decide, by decide, rfl⟩, by decide⟩
  exact ⟨step_commit_results hB.send hB.try_ (.of_step hs), step_delivery_results hB.next (.of_step hs)⟩

/-- non-vacuity: the committing steps of `demo` (positions 1, 4) and its delivering steps (10, 12) -/
example : (step (after (init 2 2) (demo.take 1)) (.sender 0 (.send chData))).map (·.acked.map (·.val)) = some [7] ∧
    (step (after (init 2 2) (demo.take 10)) (.recv (.recv chData))).map (·.delivered.map (·.val)) = some [7] := by decide +kernel

/-- **Clause 5 over results: every value whose `Send` returned nil (`TrySend`: true) before the sender's
`Close` is delivered before the end / the close error is reported.** `okBeforeClose s0 ls` lists, along the
run `ls`, the messages of the calls whose step of return had `(sender i, nil)` or `(sender i, tru)` among
its `completions` while `senderDone` was still `false` (`Model/Pipe.lean`). For every run from the initial
state (any schedule, any environment):
1. in the state reached, each of them is delivered or still in the channel buffer;
2. if the end has been reported, each of them has been delivered;
3. if the next step reports (`reportsEnd`), each of them has *already* been delivered (the report itself
   delivers nothing). -/
theorem pipe_returned_ok_before_close_is_delivered {n b : Nat} {ls : List Label} {st : State}
    (hrun : run (init n b) ls = some st) :
    (∀ m ∈ okBeforeClose (init n b) ls, m ∈ st.delivered ∨ m ∈ st.buf) ∧
    (st.endReported = true → ∀ m ∈ okBeforeClose (init n b) ls, m ∈ st.delivered) ∧
    (∀ l st', step st l = some st' → reportsEnd st l = true →
      st'.delivered = st.delivered ∧ ∀ m ∈ okBeforeClose (init n b) ls, m ∈ st.delivered) := by
  have hB : Bodies := ⟨⟨by decide, by decide, by decide, by decide, by decide⟩,
    ⟨by decide, by decide, by decide, by decide, by decide, by decide, by decide, by decide⟩,
    ⟨by decide, by decide, by decide, rfl, by decide, by decide, by decide, rfl⟩, by decide⟩
  have hr : Reach (init n b) st := reach_of_run hrun
  have hsub := okBeforeClose_sub_ackedBC hB.send hB.try_ hrun
  have hI := inv_reach (by decide) hr
  refine ⟨fun m hm => List.mem_append.mp (hI.fifoAck ▸ hI.held m (hsub m hm)),
    fun hend m hm => (pipe_no_loss_before_close hr hend).2 m (hsub m hm), ?_⟩
  intro l st' hs hrep
  obtain ⟨_, hdel, hall⟩ := pipe_no_loss_at_report hr hs hrep
  refine ⟨hdel, fun m hm => ?_⟩
  rw [← hdel]
  exact hall m ((step_monotone (.of_step hs)).2.2.2 m (hsub m hm))

/-- non-vacuity: along `demo` the calls with 7 and 8 returned success before the `Close` (the `Send 9`
returned the close error), and the end is reported after both were delivered; the prefix of `demo`
before the report is a run whose next step reports -/
example : (okBeforeClose (init 2 2) demo).map (·.val) = [7, 8] ∧
    (run (init 2 2) demo).map (fun st => (st.endReported, st.delivered.map (·.val))) = some (true, [7, 8]) ∧
    (run (init 2 2) (demo.take 15)).map (fun st => reportsEnd st (.recv .dflt)) = some true := by decide +kernel

/-- **Stickiness over results.** If `Next` reports — the step returns exactly the close error or `End` to
the receiver — at a moment when no `Send`/`TrySend` is in flight (`Quiet`), then along every continuation
in which no `Send`/`TrySend` is *started* (`startsSend x = false` for every label; everything else —
`Next` calls with live or expired contexts, context expiries, the receiver's `Close` — is allowed), every
`Next` that returns returns its own context's error or the same report again; never a value, never the
other report. -/
theorem pipe_end_sticky_results {n b : Nat} {st s1 s2 : State} {l : Label} {ls : List Label}
    (hr : Reach (init n b) st) (hq : Quiet st) (hs : step st l = some s1) (hrep : reportsEnd st l = true)
    (hls : ∀ x ∈ ls, startsSend x = false) (hrun : run s1 ls = some s2) :
    completions st l = [(.recv, endRes st)] ∧
    ∀ r, (Who.recv, r) ∈ runCompletions s1 ls → r = .ctx ∨ r = endRes st := by
  have hB : Bodies := ⟨⟨by decide, by decide, by decide, by decide, by decide⟩,
    ⟨by decide, by decide, by decide, by decide, by decide, by decide, by decide, by decide⟩,
    ⟨by decide, by decide, by decide, rfl, by decide, by decide, by decide, rfl⟩, by decide⟩
  obtain ⟨h1, _, h2⟩ := sticky_after_report (by decide) hB.next ⟨rfl, by decide, by decide⟩
    (inv_reach (by decide) hr) hq hs hrep (fun x hx => startsRealSend_of_startsSend (hls x hx)) hrun
  exact ⟨h1, h2⟩

/-- non-vacuity: after the report of `demo` (close error), a `Next` with an expired context returns `ctx`,
a live one reports the close error again -/
example : runCompletions (after (init 2 2) demo)
    [.startNext true, .recv (.recv chCtx), .startNext false, .recv (.recv chSenderDone), .recv .dflt, .closeRecv] =
    [(.recv, .ctx), (.recv, .err)] := by rw [after_demo]; decide +kernel

/-- **… and a `TrySend` called after the report does not re-open it** (seeded/C10-m10).
`pipe_end_sticky_when_quiet` / `pipe_end_sticky_results` with a weaker hypothesis on the continuation: only
the start of a **`Send`** is excluded (`startsRealSend x = false`). `TrySend`s may be started after the report
— any number, from any sender goroutine, with live or expired contexts — and run to completion, interleaved
with `Next` calls, context expiries and the receiver's `Close`. If `Next` reports at a moment when no
`Send`/`TrySend` is in flight (`Quiet`), then along every such continuation `ls`
1. in the state reached no value-delivering label is enabled, the channel is empty, the sender is still
   closed and the stored error is the one that was reported;
2. every `Next` that returns along `ls` returns its own context's error or the same report again.
Why it holds, and why only for `TrySend`: once the sender is closed a `TrySend` at its first `select` finds
the `senderDone` arm ready, so that `select` cannot take `default`; every arm it can take returns; the second
`select`, the only statement of `TrySend` that touches the data channel, is never reached. All three are
statements about the regenerated first arm table of `TrySend` and its arm bodies (`TryGateFacts`, first
line of the proof, `by decide`): a `TrySend` whose closed-check can fall through breaks this theorem by name.
What the calls return along `ls` — `TrySend`s and `Next`s — is read off all the regenerated arm bodies (`Bodies`,
second line).
The property text's "once no Send is in flight …" is thereby proved for every period in which no call of
the method `Send` is started after the report; for a `Send` started after the sender's `Close` the remark at
`pipe_end_sticky_when_quiet` stands. -/
theorem pipe_end_sticky_trySend_after_report {n b : Nat} {st s1 s2 : State} {l : Label} {ls : List Label}
    (hr : Reach (init n b) st) (hq : Quiet st) (hs : step st l = some s1) (hrep : reportsEnd st l = true)
    (hls : ∀ x ∈ ls, startsRealSend x = false) (hrun : run s1 ls = some s2) :
    ((∀ l', deliversValue l' = true → step s2 l' = none) ∧ s2.buf = [] ∧
      s2.senderDone = true ∧ s2.senderErr = s1.senderErr) ∧
    ∀ r, (Who.recv, r) ∈ runCompletions s1 ls → r = .ctx ∨ r = endRes st := by
  have hF : TryGateFacts := by decide
  have hB : Bodies := ⟨⟨by decide, by decide, by decide, by decide, by decide⟩,
    ⟨by decide, by decide, by decide, by decide, by decide, by decide, by decide, by decide⟩,
    ⟨by decide, by decide, by decide, rfl, by decide, by decide, by decide, rfl⟩, by decide⟩
  have hD : DrainFacts := ⟨rfl, by decide, by decide⟩
  exact (sticky_after_report hF hB.next hD (inv_reach hB.noSend1 hr) hq hs hrep hls hrun).2

/-- non-vacuity: after the report of `demo` (sender closed with an error, buffer of 2 empty again), sender 1
calls `TrySend 5` with a live context — it returns through the `senderDone` arm — sender 0 calls `TrySend 6`
with an expired context and returns through the `ctx` arm; the `Next` calls in between and after report the
close error again. All hypotheses hold, two `TrySend`s were started and have returned, nothing was sent. -/
example : ∃ st s1 s2, Reach (init 2 2) st ∧ Quiet st ∧ step st (.recv .dflt) = some s1 ∧
    reportsEnd st (.recv .dflt) = true ∧
    run s1 [.startTry 1 5 false, .sender 1 (.recv chSenderDone), .startNext false, .recv (.recv chSenderDone), .recv .dflt,
            .startTry 0 6 true, .sender 0 (.recv chCtx), .startNext false, .recv (.recv chSenderDone), .recv .dflt] = some s2 ∧
    s2.buf = [] ∧ Quiet s2 ∧
    runCompletions s1 [.startTry 1 5 false, .sender 1 (.recv chSenderDone), .startNext false, .recv (.recv chSenderDone), .recv .dflt,
            .startTry 0 6 true, .sender 0 (.recv chCtx), .startNext false, .recv (.recv chSenderDone), .recv .dflt] =
      [(.sender 1, .err), (.recv, .err), (.sender 0, .ctx), (.recv, .err)] :=
  ⟨_, reportEnd demoDrained,
   after (reportEnd demoDrained) [.startTry 1 5 false, .sender 1 (.recv chSenderDone), .startNext false, .recv (.recv chSenderDone), .recv .dflt,
            .startTry 0 6 true, .sender 0 (.recv chCtx), .startNext false, .recv (.recv chSenderDone), .recv .dflt],
   reach_of_run demo_drained, by decide +kernel⟩

/-- … and the `default` of that first `select` is indeed not enabled there: the step is refused by the model
(the changed `TrySend` of seeded/C10-m10 takes exactly this step). -/
example : (run (after (init 2 2) demo) [.startTry 1 5 false, .sender 1 .dflt]) = none := by
  rw [after_demo]; decide +kernel

/-- **A Next/Send/TrySend that fails on an expired context costs nothing.** The step in which the
call returns the context's error changes nothing but that call's program counter: channel
contents, ghost logs, flags and every other goroutine are as they were, so the next call continues
exactly where this one left off. -/
theorem pipe_ctx_costs_nothing {st st' : State} :
    (step st (.recv (.recv chCtx)) = some st' → st' = { st with rpc := .idle }) ∧
    (∀ i, step st (.sender i (.recv chCtx)) = some st' →
      ∃ sd, st.senders[i]? = some sd ∧ st' = st.setSender i { sd with pc := sd.pc.after (.recv chCtx) }) := by
  constructor
  · have : ∀ a, Step st (.recv a) st' → a = .recv chCtx → st' = { st with rpc := .idle } := by
      intro a hs ha
      cases hs with
      | sender _ h => cases h
      | pop _ _ => simp [chCtx, chData] at ha
      | recv h => cases h <;> first | rfl | simp [chCtx, chSenderDone] at ha
    exact fun hs => this _ (.of_step hs) rfl
  · have : ∀ i a, Step st (.sender i a) st' → a = .recv chCtx →
        ∃ sd, st.senders[i]? = some sd ∧ st' = st.setSender i { sd with pc := sd.pc.after (.recv chCtx) } := by
      intro i a hs ha
      cases hs with
      | recv h => cases h
      | commit _ _ _ _ => cases ha
      | sender hsd h =>
        cases h with
        | recvArm _ _ _ => cases ha; exact ⟨_, hsd, rfl⟩
        | dflt _ _ _ => cases ha
    exact fun i hs => this i _ (.of_step hs) rfl


/-- non-vacuity: a `Next` and a `Send` whose contexts expire while they wait on a full, unread pipe -/
example : ∃ st st', Reach (init 1 1) st ∧ step st (.recv (.recv chCtx)) = some st' ∧ st'.buf.length = 1 :=
  ⟨after (init 1 1) [.startSend 0 5 false, .sender 0 (.send chData), .startNext true],
   after (init 1 1) [.startSend 0 5 false, .sender 0 (.send chData), .startNext true, .recv (.recv chCtx)],
   reach_after (by decide +kernel), by decide +kernel⟩
example : ∃ st st', Reach (init 1 1) st ∧ step st (.sender 0 (.recv chCtx)) = some st' :=
  ⟨after (init 1 1) [.startSend 0 5 false, .sender 0 (.send chData), .startSend 0 6 false, .cancelSender 0],
   after (init 1 1) [.startSend 0 5 false, .sender 0 (.send chData), .startSend 0 6 false, .cancelSender 0, .sender 0 (.recv chCtx)],
   reach_after (by decide +kernel), by decide +kernel⟩

/-- **The close error surfaces after the data.** When `Next` reports (`reportsEnd st l`, any reachable
state), the sender has been closed; the call returns in that step with exactly the error the sender was
closed with (`err`), or the normal end (`fin`) if that was `nil` — `completions` reads this off the
regenerated drain `default` body (empty: falls through) and the regenerated statements that follow the
drain (`nextEndStmts`) —; and every value committed before the `Close` (hence, by
`pipe_returned_ok_before_close_is_delivered`, every value whose `Send` had returned nil before it) has been
delivered. First conjunct: `Close(err)` is "store `err`, close `senderDone`" and `Next` has no statement
besides its `select`, the drain and that report — no test of the error's *kind* in between (regenerated
control skeletons). -/
theorem pipe_close_error_after_data {n b : Nat} {st st' : State} {l : Label} (hr : Reach (init n b) st)
    (hs : step st l = some st') (hrep : reportsEnd st l = true) :
    (Gen.Skeleton.senderClose = Model.Skeleton.senderClose ∧ Gen.Skeleton.pipeNext = Model.Skeleton.pipeNext) ∧
    st.senderDone = true ∧ completions st l = [(.recv, if st.senderErr then Res.err else Res.fin)] ∧
    ∀ m ∈ st'.ackedBC, m ∈ st'.delivered := by
  obtain ⟨rfl, hrpc, _, _⟩ := report_only_when_drained ⟨rfl, by decide, by decide⟩ (.of_step hs) hrep
  exact ⟨⟨rfl, rfl⟩, (inv_reach (by decide) hr).drain hrpc,
    report_result ⟨by decide, by decide, by decide, rfl, by decide, by decide, by decide, rfl⟩ (.of_step hs),
    (pipe_no_loss_at_report hr hs hrep).2.2⟩


example : ∃ st st', Reach (init 2 2) st ∧ step st (.recv .dflt) = some st' ∧ reportsEnd st (.recv .dflt) = true ∧
    st.senderErr = true ∧ st'.delivered.map (·.val) = [7, 8] :=
  ⟨_, reportEnd demoDrained, reach_of_run demo_drained, by decide +kernel⟩

end Juniper.Props.C10
