import Juniper.Proofs.HelpersPartition
import Juniper.Proofs.HelpersRemove
import Juniper.Proofs.HelpersReverse
import Juniper.Proofs.HelpersChunk
import Juniper.Proofs.HelpersRuns
import Juniper.Proofs.HelpersUnique
import Juniper.Proofs.HelpersSearch
import Juniper.Proofs.HelpersMerge
import Juniper.Proofs.HelpersMinK
import Juniper.Proofs.HelpersMaps
import Juniper.Proofs.HelpersMisc
import Juniper.Proofs.HelpersRand
import Juniper.Proofs.HelpersLoops
import Juniper.Proofs.HelpersWrappers
import Juniper.Proofs.HelpersShapes
/-!
# C19 — pure helpers match their specification (property theorems)

Only property theorems and their non-vacuity examples live here; helper lemmas are in
`Juniper/Proofs/Helpers*.lean`, the specification vocabulary in `Juniper/Spec/Helpers.lean`, the
models in `Juniper/Model/Helpers*.lean` (defined through the facts regenerated from the Go source,
`Juniper.Gen.Helpers`). A Go panic is `none`; functions that write through their argument also
return the caller's backing array.

Go's `int` is 64-bit two's complement: every index / count expression of the generated facts is rendered
with `Juniper.Facts.wrap64` (it overflows exactly where the Go expression does), the theorems are stated
for every `int` argument (`-2^63 ≤ x ≤ 2^63-1`, written out as literals) and every slice length an `int`
can hold (`s.length ≤ 9223372036854775807` — true of every Go slice); that no intermediate value
overflows is *proved*, not assumed. Allocating helpers (`Repeat`, `Grow`) carry the allocator's limit
`Stdlib.allocLimit` explicitly.

Not proved (partial, see `notes/C19.md`): "every subset equally likely" for the `xrand.Sample*`
functions — a statement about IEEE floats fed by a PRNG. What is proved about sampling is
`sample_count_distinct_positions` for *every* decision script satisfying the sampler's contract; the
contract is checked on the real sampler on every run and the distribution is tested statistically.
-/
namespace Juniper.Props.C19
open Juniper.Gen.Helpers Juniper.Model.Helpers Juniper.Spec.Helpers
open Juniper.Model.Stdlib (Sl)

variable {α : Type}

/-! ## xslices -/

/-- `Partition`: never panics; the result is a permutation of the input; everything before the
returned index has `f = false`, everything from it on has `f = true` (so it is the index of the
first element for which `f` holds, or `len(s)`). -/
theorem partition_perm_and_split (f : α → Bool) (s : List α) (hlen : s.length ≤ 9223372036854775807) :
    ∃ (s' : List α) (r : Nat), partition f s = some (s', (r : Int)) ∧ s'.Perm s ∧ r ≤ s.length ∧
      (∀ x ∈ s'.take r, f x = false) ∧ (∀ x ∈ s'.drop r, f x = true) :=
  Proofs.Helpers.partition_perm_and_split f s hlen

example : partition (fun x => x % 2 == 1) [1, 2, 3, 4] = some ([4, 2, 3, 1], 2) := by decide +kernel

/-- `RemoveUnordered(s, idx, n)` for `idx + n ≤ len(s)`: no panic; the result has `len - n` items,
keeps `s[:idx]`, is a rearrangement of `s[:idx] ++ s[idx+n:]` in which only (up to) the last `n`
items moved, and the vacated tail of the caller's array is cleared. -/
theorem removeUnordered_spec (zero : α) (s : List α) (idx n : Nat) (h : idx + n ≤ s.length)
    (hlen : s.length ≤ 9223372036854775807) :
    ∃ ret arr, removeUnordered zero s (idx : Int) (n : Int) = some (ret, arr) ∧
      ret.length = s.length - n ∧ ret.take idx = s.take idx ∧
      ret.Perm (s.take idx ++ s.drop (idx + n)) ∧
      (∀ p, idx + n ≤ p → p < s.length - n → ret[p]? = s[p]?) ∧
      arr = ret ++ List.replicate n zero :=
  Proofs.Helpers.removeUnordered_spec zero s idx n h hlen

example : removeUnordered 0 [1, 2, 3, 4, 5] 1 2 = some ([1, 4, 5], [1, 4, 5, 0, 0]) := by decide +kernel

/-- `Unique` keeps exactly the first instance of every item, in order: it equals the
specification `firstOccs`, which is duplicate-free, has the same members as `s` and is a
subsequence of `s`. -/
theorem unique_first_occurrences [DecidableEq α] (s : List α) :
    unique s = firstOccs s ∧ (unique s).Nodup ∧ (∀ x, x ∈ unique s ↔ x ∈ s) ∧ (unique s).Sublist s := by
  rw [Proofs.Helpers.unique_eq_firstOccs]
  exact ⟨rfl, Proofs.Helpers.nodup_firstOccs s, Proofs.Helpers.mem_firstOccs s, Proofs.Helpers.sublist_firstOccs s⟩

example : unique [1, 2, 1, 3, 2] = [1, 2, 3] := by decide +kernel

/-- `UniqueInPlace` returns the same items as `Unique`, stored at the front of the caller's array,
and clears the rest of the array. -/
theorem uniqueInPlace_clears_tail [DecidableEq α] (zero : α) (s : List α) :
    uniqueInPlace zero s =
      some (firstOccs s, firstOccs s ++ List.replicate (s.length - (firstOccs s).length) zero) :=
  Proofs.Helpers.uniqueInPlace_eq zero s

example : uniqueInPlace 0 [1, 2, 1, 3, 2] = some ([1, 2, 3], [1, 2, 3, 0, 0]) := by decide +kernel

/-- `Chunk` panics exactly for `chunkSize ≤ 0` — for every `int` chunk size (up to `MaxInt64`; below
`MinInt64` there is no `int`) and every slice length, in 64-bit arithmetic: no chunk size, however
large, makes the count or a bound overflow (D19: before the fix `Chunk(s, MaxInt)` panicked or
silently returned nothing). -/
theorem chunk_panics_iff_nonpositive (len size : Int) (h : 0 ≤ len) (hlen : len ≤ 9223372036854775807)
    (hsize : size ≤ 9223372036854775807) : chunk len size = none ↔ size ≤ 0 :=
  Proofs.Helpers.chunk_panics_iff_nonpositive len size h hlen hsize

example : chunk 2 (-1) = none ∧ chunk 3 0 = none ∧ chunk 0 3 = some [] ∧ chunk 2 (-9223372036854775808) = none := by decide +kernel
/-- the inputs of D19: the largest chunk size, the longest slice -/
example : chunk 2 9223372036854775807 = some [(0, 2)] ∧ chunk 5 9223372036854775807 = some [(0, 5)] ∧
    chunk 9223372036854775807 4611686018427387904 = some [(0, 4611686018427387904), (4611686018427387904, 9223372036854775807)] ∧
    chunk 0 9223372036854775807 = some [] := by decide +kernel

/-- `Chunk` for a positive size: the chunks are sub-slices of `s` that concatenate to `s`; there are
`⌈len/size⌉` of them (none for an empty `s`); every chunk is non-empty and at most `size` long and
all but the last are exactly `size` long. -/
theorem chunk_concat_sizes (s : List α) (size : Int) (h : 0 < size) (hsize : size ≤ 9223372036854775807)
    (hlen : s.length ≤ 9223372036854775807) :
    ∃ rs, chunk (s.length : Int) size = some rs ∧
      (rs.map (fun r => slice s r.1 r.2)).flatten = s ∧
      (rs.length : Int) = ((s.length : Int) + size - 1) / size ∧
      (∀ r ∈ rs, 0 ≤ r.1 ∧ 0 < r.2 - r.1 ∧ r.2 - r.1 ≤ size ∧ r.2 ≤ s.length) ∧
      (∀ r ∈ rs.dropLast, r.2 - r.1 = size) :=
  Proofs.Helpers.chunk_concat_sizes s size h hsize hlen

example : chunk 5 2 = some [(0, 2), (2, 4), (4, 5)] := by decide +kernel

/-- `Runs` (for any `same`): the runs are sub-slices of `s` (index ranges: they share `s`'s array)
that concatenate to `s`, each is non-empty, neighbours inside a run are `same`, consecutive runs
are adjacent and the last item of a run is not `same` as the first item of the next (maximality). -/
theorem runs_spec (same : α → α → Bool) (s : List α) (hlen : s.length ≤ 9223372036854775807) :
    ∃ rs, runs same s = some rs ∧
      (rs.map (fun r => slice s r.1 r.2)).flatten = s ∧
      (∀ r ∈ rs, 0 ≤ r.1 ∧ r.1 < r.2 ∧ r.2 ≤ s.length) ∧
      (∀ r ∈ rs, AdjAll (fun a b => same a b = true) (slice s r.1 r.2)) ∧
      AdjAll (fun (r1 r2 : Int × Int) => r1.2 = r2.1 ∧
        ∀ a b, getI s (r1.2 - 1) = some a → getI s r2.1 = some b → same a b = false) rs :=
  Proofs.Helpers.runs_spec same s hlen

example : runs (fun a b => a / 2 == b / 2) [5, 2, 3, 7] = some [(0, 1), (1, 3), (3, 4)] := by decide +kernel
example : runs (fun a b => a == b) [5] = some [(0, 1)] ∧ runs (fun a b => a == b) [1, 2, 2] = some [(0, 1), (1, 3)] := by
  decide +kernel

/-- With `same` reflexive and transitive (the documented requirement) every item of a run is `same`
as every later item of the run — "same(a, b) returns true for any a and b in the run". -/
theorem runs_all_pairs_same (same : α → α → Bool) (hr : ∀ a, same a a = true)
    (ht : ∀ a b c, same a b = true → same b c = true → same a c = true) (s : List α)
    (hlen : s.length ≤ 9223372036854775807) :
    ∃ rs, runs same s = some rs ∧ ∀ r ∈ rs, ∀ i j (hi : i < (slice s r.1 r.2).length)
      (hj : j < (slice s r.1 r.2).length), i ≤ j → same (slice s r.1 r.2)[i] (slice s r.1 r.2)[j] = true := by
  obtain ⟨rs, h1, _, _, h4, _⟩ := Proofs.Helpers.runs_spec same s hlen
  exact ⟨rs, h1, fun r hr' => Proofs.Helpers.adjAll_all_pairs same hr ht _ (h4 r hr')⟩

/-- `Shrink(s, n)` for `n ≥ 0`: same contents; the result's capacity is at most `len + n`; the slice
is reallocated only if necessary (`cap(s) > len + n`), otherwise it is returned as it is. `len + n` in
this statement is the sum in the integers; the code's 64-bit arithmetic (`cap(s)-len(s) > n`,
`make([]T, len(s)+n)` on the reallocating path only) is exact for every `n ≥ 0` and every capacity an
`int` can hold (D20: before the fix `Shrink(s, MaxInt)` panicked). -/
theorem shrink_cap (zero : α) (s : List α) (cap n : Int) (hc : (s.length : Int) ≤ cap) (hn : 0 ≤ n)
    (hcap : cap ≤ 9223372036854775807) :
    ∃ c re, shrink zero s cap n = some (s, c, re) ∧ c ≤ s.length + n ∧ (s.length : Int) ≤ c ∧
      (cap ≤ s.length + n → c = cap ∧ re = false) ∧ (s.length + n < cap → c = s.length + n ∧ re = true) :=
  Proofs.Helpers.shrink_spec zero s cap n hc hn hcap

example : shrink 0 [1, 2] 5 1 = some ([1, 2], 3, true) ∧ shrink 0 [1, 2] 3 1 = some ([1, 2], 3, false) := by decide +kernel
/-- the input of D20, and the other end of the range -/
example : shrink 0 [1] 4 9223372036854775807 = some ([1], 4, false) ∧ shrink 0 [1] 4 (-9223372036854775808) = none := by decide +kernel

/-- `Reverse` reverses in place and never panics. -/
theorem reverse_spec (s : List α) (hlen : s.length ≤ 9223372036854775807) : reverse s = some s.reverse :=
  Proofs.Helpers.reverse_spec s hlen

example : reverse [1, 2, 3, 4, 5] = some [5, 4, 3, 2, 1] := by decide +kernel

/-! ## xsort -/

/-- `Search` on a slice sorted by a strict weak order returns the lower bound of `item`: everything
before the returned index is less than `item`, nothing from it on is. (Hence it is the index of an
equal item if there is one, and the insertion index otherwise.) `sort.Search` is modelled by its
binary search. -/
theorem search_lower_bound (less : α → α → Bool) (hw : StrictWeak less) (x : List α) (hs : SortedBy less x) (item : α) :
    ∃ r : Nat, search less x item = (r : Int) ∧ r ≤ x.length ∧
      (∀ a ∈ x.take r, less a item = true) ∧ (∀ a ∈ x.drop r, less a item = false) :=
  Proofs.Helpers.search_lower_bound less hw x hs item

example : search (fun a b => decide (a < b)) [1, 3, 3, 5] 3 = 1 ∧ search (fun a b => decide (a / 2 < b / 2)) [1, 2, 3, 5] 4 = 3 := by
  decide +kernel

/-- `LessCompare(less)` for a strict weak order: negative iff `a < b`, positive iff `b < a`, zero
iff neither, and antisymmetric. (`lessCompare` is the generated function.) -/
theorem lessCompare_spec (less : α → α → Bool) (hw : StrictWeak less) (a b : α) :
    (lessCompareOf less a b < 0 ↔ less a b = true) ∧ (lessCompareOf less a b > 0 ↔ less b a = true) ∧
    (lessCompareOf less a b = 0 ↔ (less a b = false ∧ less b a = false)) ∧
    lessCompareOf less a b = - lessCompareOf less b a :=
  Proofs.Helpers.lessCompare_spec less hw a b

example : lessCompare true false = -1 ∧ lessCompare false true = 1 ∧ lessCompare false false = 0 := by decide +kernel

/-- `Merge` (drained) for any heap meeting the min-heap specification `PopSpec`: the output holds
exactly the items of all inputs, and it is sorted whenever `less` is a strict weak order and every
input is sorted. Any number of inputs, empty ones included. -/
theorem merge_sorted_perm (less : α → α → Bool)
    (pop : ((α × Nat) → (α × Nat) → Bool) → List (α × Nat) → Option ((α × Nat) × List (α × Nat)))
    (hp : PopSpec pop) (ins : List (List α)) :
    (merge less pop ins).Perm ins.flatten ∧
    (StrictWeak less → (∀ l ∈ ins, SortedBy less l) → SortedBy less (merge less pop ins)) :=
  Proofs.Helpers.merge_sorted_perm less pop hp ins

example : merge (fun a b => decide (a < b)) popFirstMin [[1, 4], [], [2, 3]] = [1, 2, 3, 4] ∧
    merge (fun a b => decide (a < b)) popFirstMin ([] : List (List Int)) = [] := by decide +kernel

/-- The heap specification assumed by `merge_sorted_perm` and `minK_spec` is satisfiable: the
driver's instance meets it. (The real `internal/heap` is the subject of C05.) -/
theorem popFirstMin_meets_heap_spec {ε : Type} : PopSpec (popFirstMin (α := ε)) :=
  ⟨Proofs.Helpers.popFirstMin_none_iff, fun lt l m r h => (Proofs.Helpers.popFirstMin_perm_min lt l m r h).1,
    fun lt hw l m r h => (Proofs.Helpers.popFirstMin_perm_min lt l m r h).2 hw⟩

/-- `MergeSlices`: the result is `Merge` drained (so a sorted permutation of all inputs), and it is
stored into the caller's `out` array exactly when that has room for all items (`Grow(out[:0], n)`:
generated arguments, documented contract of `slices.Grow`). -/
theorem mergeSlices_spec (less : α → α → Bool)
    (pop : ((α × Nat) → (α × Nat) → Bool) → List (α × Nat) → Option ((α × Nat) × List (α × Nat)))
    (hp : PopSpec pop) (outCap : Int) (hc : 0 ≤ outCap) (ins : List (List α)) :
    (mergeSlices less pop outCap ins).1.Perm ins.flatten ∧
    (StrictWeak less → (∀ l ∈ ins, SortedBy less l) → SortedBy less (mergeSlices less pop outCap ins).1) ∧
    ((mergeSlices less pop outCap ins).2 = true ↔ ((ins.map List.length).sum : Int) ≤ outCap) :=
  ⟨(Proofs.Helpers.merge_sorted_perm less pop hp ins).1, (Proofs.Helpers.merge_sorted_perm less pop hp ins).2,
    Proofs.Helpers.mergeSlices_reuse less pop outCap hc ins⟩

example : mergeSlices (fun a b => decide (a < b)) popFirstMin 3 [[1, 3], [2]] = ([1, 2, 3], true) := by decide +kernel

/-- `MinK` for any heap meeting `PopSpec`, a strict weak order and every `int` `k`: never panics and
returns `min(k, n)` items (none for `k ≤ 0`), sorted, taken from the input, and nothing left out is less
than anything returned. The output loop is modelled statement by statement: `out := make([]T, h.Len())`,
`for i := len(out) - 1; i >= 0; i-- { out[i] = h.Pop() }` with the generated length, start index (64-bit:
`len(out) - 1` is exact because `h.Len() ≤ k ≤ MaxInt64`) and loop condition; `zero` is what `make` fills
the slice with (no slot keeps it). -/
theorem minK_spec (zero : α) (less : α → α → Bool) (pop : (α → α → Bool) → List α → Option (α × List α))
    (hp : PopSpec pop) (hw : StrictWeak less) (xs : List α) (k : Int) (hk64 : k ≤ 9223372036854775807) :
    ∃ out, minK zero less pop xs k = some out ∧
    out.length = min k.toNat xs.length ∧ SortedBy less out ∧
    ∃ rest, xs.Perm (out ++ rest) ∧ ∀ a ∈ out, ∀ b ∈ rest, less b a = false :=
  Proofs.Helpers.minK_spec zero less pop hp hw xs k hk64

example : minK 0 (fun a b => decide (a < b)) popFirstMin [5, 1, 4, 2] 2 = some [1, 2] ∧
    minK 0 (fun a b => decide (a < b)) popFirstMin [5, 1] 7 = some [1, 5] ∧
    minK 0 (fun a b => decide (a < b)) popFirstMin [5, 1] (-3) = some [] := by decide +kernel

/-! ## xmaps (maps as association lists `mget`/`mput`, sets as lists) -/

variable {κ ν : Type} [DecidableEq κ]

/-- `Union`: an element is in the result iff it is in some input set (no sets: empty). -/
theorem union_spec (sets : List (List κ)) (x : κ) : x ∈ setUnion sets ↔ ∃ s ∈ sets, x ∈ s :=
  Proofs.Helpers.mem_setUnion sets x

/-- `Intersection` never panics (`sets[j]` stays in range); an element is in the result iff there is at
least one set and it is in all. The inner loop is modelled statement by statement from the generated
`j := 1`, `j < len(sets)`, `j++`, miss guard, `include = false`, `break`, `if include`, and the sort by size. -/
theorem intersection_spec (sets : List (List κ)) :
    ∃ r, setIntersection sets = some r ∧ ∀ x, x ∈ r ↔ sets ≠ [] ∧ ∀ s ∈ sets, x ∈ s :=
  Proofs.Helpers.mem_setIntersection sets

/-- `Intersects` never panics; true iff there is at least one set and some element is in all of them. -/
theorem intersects_spec (sets : List (List κ)) :
    ∃ b, setIntersects sets = some b ∧ (b = true ↔ sets ≠ [] ∧ ∃ x, ∀ s ∈ sets, x ∈ s) :=
  Proofs.Helpers.setIntersects_iff sets

/-- `Difference`. -/
theorem difference_spec (a b : List κ) (x : κ) : x ∈ setDifference a b ↔ x ∈ a ∧ x ∉ b :=
  Proofs.Helpers.mem_setDifference a b x

example : setUnion [[1, 2], [2, 3]] = [1, 2, 3] ∧ setIntersection [[1, 2, 3], [2, 3], [3, 2, 5]] = some [2, 3] ∧
    setIntersection ([] : List (List Int)) = some [] ∧ setIntersects [[1, 2], [3]] = some false ∧
    setIntersects [[1, 2], [3, 2], [2]] = some true ∧
    setDifference [1, 2, 3] [2] = [1, 3] := by decide +kernel

/-- `Reverse`: `k` is listed under `v` iff `m[k] = v`. -/
theorem reverse_map_spec [DecidableEq ν] (m : List (κ × ν)) (k : κ) (v : ν) :
    k ∈ (mget (mapReverse m) v).getD [] ↔ (k, v) ∈ m :=
  Proofs.Helpers.mapReverse_spec m k v

/-- `ReverseSingle`: every entry `v ↦ k` of the result comes from `m[k] = v`; the result's keys are
exactly `m`'s values; the flag is true iff no value occurs twice. -/
theorem reverseSingle_spec [DecidableEq ν] (m : List (κ × ν)) :
    (∀ v k, mget (mapReverseSingle m).1 v = some k → (k, v) ∈ m) ∧
    (∀ v, (mget (mapReverseSingle m).1 v).isSome = true ↔ ∃ k, (k, v) ∈ m) ∧
    ((mapReverseSingle m).2 = true ↔ (m.map Prod.snd).Nodup) :=
  Proofs.Helpers.mapReverseSingle_spec m

/-- `ToIndex`: exactly the keys are mapped, each to an index holding it (the last one). -/
theorem toIndex_spec (keys : List κ) (k : κ) :
    (k ∉ keys → mget (toIndex keys) k = none) ∧
    (k ∈ keys → ∃ j : Nat, mget (toIndex keys) k = some j ∧ keys[j]? = some k ∧ ∀ j', j < j' → keys[j']? ≠ some k) :=
  Proofs.Helpers.toIndex_spec keys k

/-- `FromKeysAndValues` panics iff the lengths differ; otherwise exactly the keys are mapped, each
to a value standing at one of its indices, and the flag is true iff no key occurs twice. -/
theorem fromKeysAndValues_spec (keys : List κ) (values : List ν) :
    (fromKeysAndValues keys values = none ↔ keys.length ≠ values.length) ∧
    (∀ m ok, fromKeysAndValues keys values = some (m, ok) →
      (ok = true ↔ keys.Nodup) ∧
      (∀ k, k ∉ keys → mget m k = none) ∧
      (∀ k, k ∈ keys → ∃ (j : Nat) (v : ν), mget m k = some v ∧ keys[j]? = some k ∧ values[j]? = some v)) :=
  Proofs.Helpers.fromKeysAndValues_spec keys values

example : mapReverse [(1, 5), (2, 5), (3, 6)] = [(5, [1, 2]), (6, [3])] ∧
    (mapReverseSingle [(1, 5), (2, 5)]).2 = false ∧ toIndex [7, 8, 7] = [(7, 2), (8, 1)] ∧
    fromKeysAndValues [1, 2] [3, 4] = some ([(2, 4), (1, 3)], true) ∧ fromKeysAndValues [1] [3, 4] = none := by
  decide +kernel

/-! ## xmath -/

/-- `Abs` (the generated function, two's complement `BitVec w`) for the 8/16/32/64-bit
instantiations: panics exactly on the minimum value, otherwise returns the absolute value. -/
theorem abs_spec :
    (∀ x : BitVec 8, (abs 8 x = none ↔ x = BitVec.intMin 8) ∧ ∀ y, abs 8 x = some y → y.toInt = (x.toInt.natAbs : Int)) ∧
    (∀ x : BitVec 16, (abs 16 x = none ↔ x = BitVec.intMin 16) ∧ ∀ y, abs 16 x = some y → y.toInt = (x.toInt.natAbs : Int)) ∧
    (∀ x : BitVec 32, (abs 32 x = none ↔ x = BitVec.intMin 32) ∧ ∀ y, abs 32 x = some y → y.toInt = (x.toInt.natAbs : Int)) ∧
    (∀ x : BitVec 64, (abs 64 x = none ↔ x = BitVec.intMin 64) ∧ ∀ y, abs 64 x = some y → y.toInt = (x.toInt.natAbs : Int)) :=
  ⟨Proofs.Helpers.abs_spec (by decide), Proofs.Helpers.abs_spec (by decide), Proofs.Helpers.abs_spec (by decide),
    Proofs.Helpers.abs_spec (by decide)⟩

example : abs 8 (-128#8) = none ∧ abs 8 (-127#8) = some 127#8 ∧ abs 8 5#8 = some 5#8 := by decide +kernel

/-- `Clamp` (the generated function): for `lo ≤ hi` the result lies in `[lo, hi]`, is `x` when `x`
already does, `lo` when `x` is below and `hi` when `x` is above. -/
theorem clamp_spec (x lo hi : Int) (h : lo ≤ hi) :
    lo ≤ clamp x lo hi ∧ clamp x lo hi ≤ hi ∧
    (lo ≤ x → x ≤ hi → clamp x lo hi = x) ∧ (x < lo → clamp x lo hi = lo) ∧ (hi < x → clamp x lo hi = hi) := by
  unfold clamp
  simp only [decide_eq_true_eq]
  split <;> (try split) <;> omega

example : clamp 5 1 3 = 3 ∧ clamp 0 1 3 = 1 ∧ clamp 2 1 3 = 2 := by decide +kernel

/-! ## xerrors (`inductive Err`: leaves comparable or not, `fmt.Errorf("%w")` wrappers, stacks)

The theorems consume the regenerated facts about `WithStack` — how an attached stack is detected
(`errors.As` with a `withStack` target), that `withStack` is not comparable and has no `Is`/`As`
method, that `Unwrap` returns the inner error — as obligations discharged by `decide` INSIDE each proof
(not as auto-param binders, which would only be checked at use sites). -/

/-- `WithStack(nil) = nil`. -/
theorem withStack_nil : withStack none = none := by
  have h1 : wsNilGuard true = true := by decide
  have h2 : wsNilReturnsNil = true := by decide
  simp [withStack, h1, h2]

/-- `WithStack` is idempotent: an error that already has a stack attached (anywhere along its
chain) is returned as it is; in particular `WithStack(WithStack(e)) = WithStack(e)`.
The generated facts are obligations of THIS theorem (discharged by `decide` inside the proof):
re-introducing D4 (`wsDetect = "is"`) makes it fail to compile. -/
theorem withStack_idempotent (o : Option Err) :
    withStack (withStack o) = withStack o ∧
    (∀ e, o = some e → Proofs.Helpers.hasStack e = true → withStack o = some e) := by
  have hd : wsDetect = "as" := by decide
  have ha : wsHasAsMethod = false := by decide
  have h0 : wsNilGuard true = true := by decide
  have h1 : wsNilGuard false = false := by decide
  have h2 : wsDetectedReturnsErr = true := by decide
  have h3 : wsWrapsErr = true := by decide
  have h4 : wsNilReturnsNil = true := by decide
  cases o with
  | none => simp [withStack, h0, h4]
  | some e =>
    rw [Proofs.Helpers.withStack_some e hd ha h1 h2 h3]
    by_cases hs : Proofs.Helpers.hasStack e = true
    · simp [hs, Proofs.Helpers.withStack_some e hd ha h1 h2 h3]
    · simp only [hs, Bool.false_eq_true, ↓reduceIte, Option.some.injEq, forall_eq', false_imp_iff, and_true]
      rw [Proofs.Helpers.withStack_some _ hd ha h1 h2 h3, Proofs.Helpers.hasStack_stack]
      simp

example : withStack (withStack (some (.wrap 1 (.leaf 3 false)))) = some (.stack (.wrap 1 (.leaf 3 false))) ∧
    withStack (some (.wrap 2 (.stack (.leaf 1 true)))) = some (.wrap 2 (.stack (.leaf 1 true))) := by decide +kernel

/-- `WithStack(e)` for an `e` without a stack wraps `e`: `errors.Unwrap` gives `e` back. -/
theorem withStack_unwrap (e : Err) (hs : Proofs.Helpers.hasStack e = false) :
    ∃ w, withStack (some e) = some w ∧ w.unwrap = some e := by
  have hd : wsDetect = "as" := by decide
  have ha : wsHasAsMethod = false := by decide
  have h1 : wsNilGuard false = false := by decide
  have h2 : wsDetectedReturnsErr = true := by decide
  have h3 : wsWrapsErr = true := by decide
  have h5 : wsUnwrapReturnsInner = true := by decide
  refine ⟨.stack e, ?_, by simp [Err.unwrap, h5]⟩
  rw [Proofs.Helpers.withStack_some e hd ha h1 h2 h3]; simp [hs]

/-- `WithStack` is transparent to `errors.Is` for every target (comparable or not), and to
`errors.As` for every target type other than the stack type itself. The stack type declares neither
an `Is` nor an `As` method and is not comparable (all three are generated facts and obligations of
this theorem: with an `Is` method `Err.is` would be `false` on both sides and the statement hollow). -/
theorem withStack_is_transparent (e : Err) :
    wsHasIsMethod = false ∧
    ∃ w, withStack (some e) = some w ∧ (∀ t, w.is t = e.is t) ∧ (∀ ty, ty ≠ Err.Ty.stackTy → w.as ty = e.as ty) := by
  have hd : wsDetect = "as" := by decide
  have ha : wsHasAsMethod = false := by decide
  have hi : wsHasIsMethod = false := by decide
  have h1 : wsNilGuard false = false := by decide
  have h2 : wsDetectedReturnsErr = true := by decide
  have h3 : wsWrapsErr = true := by decide
  have h5 : wsUnwrapReturnsInner = true := by decide
  have h6 : wsComparable = false := by decide
  refine ⟨hi, ?_⟩
  rw [Proofs.Helpers.withStack_some e hd ha h1 h2 h3]
  by_cases hs : Proofs.Helpers.hasStack e = true
  · exact ⟨e, by simp [hs], fun _ => rfl, fun _ _ => rfl⟩
  · exact ⟨.stack e, by simp [hs], fun t => Proofs.Helpers.stack_is e t h5 h6,
      fun ty hty => Proofs.Helpers.stack_as e ty hty ha h5⟩

example : (Err.stack (.wrap 1 (.leaf 3 false))).is (.leaf 3 false) = false ∧
    (Err.stack (.wrap 1 (.leaf 2 true))).is (.leaf 2 true) = true ∧
    (Err.stack (.wrap 1 (.leaf 3 false))).as (.leafTy 3) = some (.leaf 3 false) := by decide +kernel

/-! ## xmath/xrand -/

/-- `Sample` (positions of `[0, n)`): for **every** decision script satisfying the sampler's contract
that reaches a stopping decision, the reservoir holds `min(k, n)` positions, all distinct and all in
`[0, n)`. (The final shuffle only permutes them: `shuffle_perm`.) -/
theorem sample_count_distinct_positions (n k : Int) (hk : 0 ≤ k) (hn : 0 ≤ n) (ds : List (Int × Int))
    (hc : SamplerContract k n ds) (hstop : ∃ d ∈ ds, n ≤ d.1) :
    ∃ out, rSample n k ds = some out ∧ (out.length : Int) = min k n ∧ out.Nodup ∧ ∀ p ∈ out, 0 ≤ p ∧ p < n := by
  obtain ⟨out, e, h1, h2, h3⟩ := Proofs.Helpers.reservoirLoop_of_contract k n 0 hk hn ds hc hstop
  refine ⟨out, ?_, h1, h2, h3⟩
  unfold rSample
  rw [if_neg (show ¬ rsMake n k < 0 by simp only [rsMake]; omega)]
  simp only [rsMake, rsStop, rsStores, rsTrunc, rsTruncHi, e]
  exact Proofs.Helpers.randResv_trunc k n 0 hn out h1

/-- the same for `SampleSlice` (which position of `a` each returned item comes from) -/
theorem sampleSlice_count_distinct_positions (n k : Int) (hk : 0 ≤ k) (hn : 0 ≤ n) (ds : List (Int × Int))
    (hc : SamplerContract k n ds) (hstop : ∃ d ∈ ds, n ≤ d.1) :
    ∃ out, rSampleSlicePos n k ds = some out ∧ (out.length : Int) = min k n ∧ out.Nodup ∧ ∀ p ∈ out, 0 ≤ p ∧ p < n := by
  obtain ⟨out, e, h1, h2, h3⟩ := Proofs.Helpers.reservoirLoop_of_contract k n (-1) hk hn ds hc hstop
  refine ⟨out, ?_, h1, h2, h3⟩
  unfold rSampleSlicePos
  simp only [rssStop, rssStores, rssTrunc, rssTruncHi]
  rw [if_neg (by omega)]
  rw [e]
  exact Proofs.Helpers.randResv_trunc k n (-1) hn out h1

/-- the same for `SampleIterator` (`stream = false`) and `SampleStream` (`stream = true`) on a source
of `n` items -/
theorem sampleIter_count_distinct_positions (stream : Bool) (n k : Int) (hk : 0 ≤ k) (hn : 0 ≤ n) (ds : List (Int × Int))
    (hc : SamplerContract k n ds) (hstop : ∃ d ∈ ds, n ≤ d.1) :
    ∃ out, rSampleIterPos stream n k ds = some out ∧ (out.length : Int) = min k n ∧ out.Nodup ∧ ∀ p ∈ out, 0 ≤ p ∧ p < n :=
  Proofs.Helpers.sampleIter_count_distinct_positions stream n k hk hn ds hc hstop

example : rSample 10 2 [(0, 0), (1, 1), (4, 0), (7, 1), (12, 0)] = some [4, 7] ∧
    rSample 1 3 [(0, 0), (1, 1)] = some [0] ∧
    rSampleIterPos false 10 2 [(0, 0), (1, 1), (4, 0), (7, 1), (12, 0)] = some [4, 7] := by decide +kernel

/-- The hypothesis of the three theorems above is satisfiable and is what the integer part of the
sampler (generated guards and updates of `sampler.Next`) produces: for every script of finite
non-negative skips and in-range `Intn` results its decisions satisfy the contract. `int(skip) + 1` is
64-bit (`wrap64`): a skip below `MaxInt64` is required explicitly; the running position `s.i` is a
mathematical integer (that `s.i + int(skip) + 1` stays below 2^63 for `float64` variates is a statement
about floats and is not proved — the loop stops at the first position `≥ n`, see `notes/C19.md`). -/
theorem sampler_decisions_contract (k n maxInt : Int) (hk : 0 ≤ k) (m : Nat) (script : List (Option Int × Int))
    (hs : ∀ e ∈ script, ∃ sk, e.1 = some sk ∧ 0 ≤ sk ∧ sk < 9223372036854775807 ∧ 0 ≤ e.2 ∧ e.2 < k) :
    SamplerContract k n (samplerRun maxInt m (newSamp k) script) :=
  Proofs.Helpers.sampler_decisions_contract k n maxInt hk m script hs

example : samplerRun 99 4 (newSamp 2) [(some 1, 0), (some 0, 1)] = [(0, 0), (1, 1), (3, 0), (4, 1)] ∧
    samplerRun 99 3 (newSamp 2) [(none, 0)] = [(0, 0), (1, 1), (99, 0)] := by decide +kernel

/-- `Shuffle`: whatever swaps `r.Shuffle(n, swap)` asks for — `swap(i, j)` with `0 ≤ i, j < n`, and `n` is
what `rShuffle` hands over: the generated `shuffleN (len a)` (= `len(a)`) — the result is a permutation
(no index panic). Were the count `len(a) + 1`, the hypothesis would allow the index `len(a)` and the
statement would be false. -/
theorem shuffle_perm (a : List α) (swaps : List (Int × Int))
    (h : ∀ p ∈ swaps, 0 ≤ p.1 ∧ p.1 < shuffleN a.length ∧ 0 ≤ p.2 ∧ p.2 < shuffleN a.length) :
    ∃ a', applySwaps swaps a = some a' ∧ a'.Perm a :=
  Proofs.Helpers.shuffle_perm a swaps h

example : applySwaps [(0, 2), (1, 2)] [1, 2, 3] = some [3, 1, 2] := by decide +kernel

/-- **The entry points users call.** The package-level `Sample`, `SampleSlice`, `SampleIterator`,
`SampleStream`, `Shuffle` and the exported `RSample*`, `RShuffle` are, argument for argument, the
unexported `r*` functions the theorems above are about (with the default source resp. the caller's
source), and the default source's three methods are `math/rand`'s top-level `Float64`, `Intn`,
`Shuffle` called with the same arguments. All thirteen bodies are regenerated facts: a package-level
function that swaps `n` and `k`, samples from a different source, or a default source whose `Intn`
ignores its argument (audit C19 F2: `Intn ≡ 0`) no longer satisfies this theorem. What the default
source's *distribution* is remains the statistical part (χ² and all-subsets tests run through these very
entry points). -/
theorem xrand_entry_points_delegate (n k : Int) (ds sw : List (Int × Int)) (a : List α) :
    pkgSample n k ds = rSample n k ds ∧ pkgSampleSlicePos n k ds = rSampleSlicePos n k ds ∧
    pkgSampleIterPos n k ds = rSampleIterPos false n k ds ∧ pkgSampleStreamPos n k ds = rSampleIterPos true n k ds ∧
    pkgShuffle sw a = applySwaps sw a ∧
    expRSample n k ds = rSample n k ds ∧ expRSampleSlicePos n k ds = rSampleSlicePos n k ds ∧
    expRSampleIterPos n k ds = rSampleIterPos false n k ds ∧ expRSampleStreamPos n k ds = rSampleIterPos true n k ds ∧
    expRShuffle sw a = applySwaps sw a ∧
    (∀ (R : Type) (randFloat64 : R), dfltFloat64W randFloat64 = randFloat64) ∧
    (∀ (R : Type) (randIntn : Int → R) (m : Int), dfltIntnW randIntn m = randIntn m) ∧
    (∀ (S R : Type) (randShuffle : Int → S → R) (m : Int) (swap : S), dfltShuffleW randShuffle m swap = randShuffle m swap) :=
  ⟨rfl, rfl, rfl, rfl, rfl, rfl, rfl, rfl, rfl, rfl, fun _ _ => rfl, fun _ _ _ => rfl, fun _ _ _ _ _ => rfl⟩

/-- hence the count / distinct-positions theorem holds for the package-level `Sample` itself -/
theorem pkgSample_count_distinct_positions (n k : Int) (hk : 0 ≤ k) (hn : 0 ≤ n) (ds : List (Int × Int))
    (hc : SamplerContract k n ds) (hstop : ∃ d ∈ ds, n ≤ d.1) :
    ∃ out, pkgSample n k ds = some out ∧ (out.length : Int) = min k n ∧ out.Nodup ∧ ∀ p ∈ out, 0 ≤ p ∧ p < n := by
  rw [(xrand_entry_points_delegate (α := Int) n k ds [] []).1]
  exact sample_count_distinct_positions n k hk hn ds hc hstop

example : pkgSample 10 2 [(0, 0), (1, 1), (4, 0), (7, 1), (12, 0)] = some [4, 7] ∧
    pkgShuffle [(0, 2), (1, 2)] [1, 2, 3] = some [3, 1, 2] := by decide +kernel

/-! # The remaining exported helpers (one theorem each)

Models: `Model/HelpersMore.lean`. Helpers with a loop of their own mirror the loop through the
regenerated guards / values / statement lists. Thin wrappers are the regenerated body
(`Gen.Helpers.<name>W`) applied to the *documented contract* of the standard-library callee
(`Model/HelpersStdlib.lean`: trusted, compared with the real behaviour by the correspondence check on
every run). `Sl α` is a slice value with its backing array up to the capacity (`arr`), its length and
whether that array was allocated by the call (`fresh`); `Sl.callerAfter s r` is the caller's array
after a call that was given `s` and returned `r`. A panic is `none`. -/

/-! ## xslices: helpers with their own loop -/

variable {β : Type}

/-- `All`: "returns true if f(s[i]) returns true for all i. Trivially, returns true if s is empty." -/
theorem all_spec (f : α → Bool) (s : List α) : all f s = true ↔ ∀ x ∈ s, f x = true :=
  Proofs.Helpers.all_iff f s

example : all (fun x => x % 2 == 1) [1, 3, 4] = false ∧ all (fun x => x % 2 == 1) [1, 3] = true ∧
    all (fun _ => false) ([] : List Int) = true := by decide +kernel

/-- `CountFunc`: "the number of items in s for which f returns true." -/
theorem countFunc_spec (f : α → Bool) (s : List α) : countFunc f s = (s.countP f : Int) := by
  simp [countFunc, cfRet, cfInit, Proofs.Helpers.countFuncLoop_eq]

/-- `Count`: "the number of times x appears in s." (generated body: `CountFunc` with `x == ·`) -/
theorem count_spec [DecidableEq α] (s : List α) (x : α) : count s x = (s.count x : Int) := by
  show countFunc (fun y => x == y) s = _
  rw [countFunc_spec, List.count]
  congr 2
  funext y
  rw [Bool.eq_iff_iff, beq_iff_eq, beq_iff_eq]
  exact eq_comm

example : countFunc (fun x => x % 2 == 1) [1, 2, 3, 5] = 3 ∧ count [1, 2, 1, 3] 1 = 2 ∧ count [1, 2] 7 = 0 := by decide +kernel

/-- `Fill`: "fills s with copies of x" — the caller's array afterwards. -/
theorem fill_spec (s : List α) (x : α) : fill s x = List.replicate s.length x := by
  simp [fill, fillBody, List.map_const']

/-- `Clear`: "fills s with the zero value of T." (generated body: `Fill(s, zero)`) -/
theorem clear_spec (zero : α) (s : List α) : clear zero s = List.replicate s.length zero :=
  fill_spec s zero

example : fill [1, 2, 3] 9 = [9, 9, 9] ∧ clear 0 [1, 2] = [0, 0] := by decide +kernel

/-- `Group`: "a map from u to all items of s for which f(s[i]) returned u": a key is present iff some
item maps to it, and it holds exactly those items (the code keeps them in their order in `s`). -/
theorem group_spec (f : α → κ) (s : List α) (u : κ) :
    mget (group f s) u =
      if s.any (fun x => decide (f x = u)) then some (s.filter (fun x => decide (f x = u))) else none := by
  simp [group, Proofs.Helpers.groupLoop_get, Proofs.Helpers.mget_nil]

example : group (fun x => x % 2) [1, 2, 3, 4, 5] = [(1, [1, 3, 5]), (0, [2, 4])] := by decide +kernel

/-- `Join`: "joins together the contents of each in" — never panics; the result is the concatenation,
allocated once with exactly the capacity needed. -/
theorem join_spec (zero : α) (ins : List (List α)) :
    join zero ins = some (ins.flatten, some (ins.flatten.length : Int)) :=
  Proofs.Helpers.join_eq zero ins

example : join 0 [[1, 2], [], [3]] = some ([1, 2, 3], some 3) ∧ join 0 ([] : List (List Int)) = some ([], some 0) := by
  decide +kernel

/-- `LastIndexFunc`: "the last index in s for which f(s[i]) returns true, or -1 if there are no such
items." -/
theorem lastIndexFunc_spec (s : List α) (f : α → Bool) (hlen : s.length ≤ 9223372036854775807) :
    ∃ r : Int, lastIndexFunc s f = some r ∧ -1 ≤ r ∧ r < s.length ∧
      (r = -1 → ∀ y ∈ s, f y = false) ∧
      (0 ≤ r → (∃ y, s[r.toNat]? = some y ∧ f y = true) ∧
        ∀ j : Nat, r < j → ∀ y, s[j]? = some y → f y = false) := by
  have e : lastIndexFunc s f = lastIdxLoop (fun i => decide (i ≥ 0)) f (fun i => i) (-1) 1 s (s.length + 1)
      ((s.length : Int) - 1) := by
    unfold lastIndexFunc
    rw [(Proofs.Helpers.liStart_nat s.length hlen).2]
    rfl
  rw [e]
  exact Proofs.Helpers.lastIdxLoop_full f s

/-- `LastIndex`: "the last index of x in s, or -1 if x is not in s" (never out of range). -/
theorem lastIndex_spec [DecidableEq α] (s : List α) (x : α) (hlen : s.length ≤ 9223372036854775807) :
    ∃ r : Int, lastIndex s x = some r ∧ -1 ≤ r ∧ r < s.length ∧
      (r = -1 → x ∉ s) ∧ (0 ≤ r → s[r.toNat]? = some x ∧ ∀ j : Nat, r < j → s[j]? ≠ some x) := by
  obtain ⟨r, h1, h2, h3, h4, h5⟩ := lastIndexFunc_spec s (fun y => decide (y = x)) hlen
  refine ⟨r, h1, h2, h3, ?_, ?_⟩
  · intro hr hx
    simpa using h4 hr x hx
  · intro hr
    obtain ⟨⟨y, hy, hyx⟩, hj⟩ := h5 hr
    have : y = x := by simpa using hyx
    subst this
    refine ⟨hy, fun j hjr hjx => ?_⟩
    simpa using hj j hjr y hjx

example : lastIndex [1, 2, 1, 3] 1 = some 2 ∧ lastIndex [1, 2] 7 = some (-1) ∧
    lastIndexFunc [1, 2, 4, 3] (fun x => x % 2 == 0) = some 2 ∧ lastIndex ([] : List Int) 1 = some (-1) := by decide +kernel

/-- `Map`: "creates a new slice by applying f to each element of s." -/
theorem map_spec (zero : β) (f : α → β) (s : List α) : map zero f s = some (s.map f) :=
  Proofs.Helpers.map_eq zero f s

/-- `Reduce`: "reduces s to a single value using the reduction function f" — the left fold from
`initial`. -/
theorem reduce_spec (zero : β) (s : List α) (initial : β) (f : β → α → β) :
    reduce zero s initial f = s.foldl f initial :=
  Proofs.Helpers.reduce_eq zero s initial f

/-- `Repeat`: "a slice with length n where every item is s" (panics for a negative `n`, and — `make` —
for more elements than the allocator can provide, `Stdlib.allocLimit`). -/
theorem repeat_spec (zero x : α) (n : Int) :
    repeatN zero x n = if n < 0 then none else if n > Model.Stdlib.allocLimit then none
      else some (List.replicate n.toNat x) :=
  Proofs.Helpers.repeatN_eq zero x n

example : map 0 (fun x => 2 * x) [1, 2, 3] = some [2, 4, 6] ∧ reduce 0 [1, 2, 3] 10 (fun a x => a - x) = 4 ∧
    repeatN 0 7 3 = some [7, 7, 7] ∧ repeatN 0 7 (-1) = none ∧ repeatN 0 7 9223372036854775807 = none := by decide +kernel

/-! ## xslices: wrappers over package `slices` -/

/-- `Any`: "returns true if f(s[i]) returns true for any i. Trivially, returns false if s is empty." -/
theorem any_spec (s : Sl α) (f : α → Bool) : any s f = true ↔ ∃ x ∈ s.items, f x = true := by
  simp [any, anyW, Model.Stdlib.containsFunc]

example : any (Sl.ofList [2, 4, 5]) (fun x => x % 2 == 1) = true ∧ any (Sl.ofList ([] : List Int)) (fun _ => true) = false := by
  decide +kernel

/-- `Clone`: "creates a new slice and copies the elements of s into it" — same items, an array of its
own, the caller's array untouched. -/
theorem clone_spec (s : Sl α) :
    (clone s).items = s.items ∧ (clone s).fresh = true ∧ Sl.callerAfter s (clone s) = s.arr :=
  ⟨Proofs.Helpers.items_clone s, rfl, rfl⟩

example : (clone (Sl.withSpare [1, 2] [-7])).items = [1, 2] ∧ (clone (Sl.withSpare [1, 2] [-7])).fresh = true ∧
    Sl.callerAfter (Sl.withSpare [1, 2] [-7]) (clone (Sl.withSpare [1, 2] [-7])) = [1, 2, -7] := by decide +kernel

/-- `CompactFunc`: "only the first item from each contiguous run of items for which eq returns true",
in a new slice. -/
theorem compactFunc_spec (zero : α) (s : Sl α) (eq : α → α → Bool) :
    (compactFunc zero s eq).items = firstOfRuns eq s.items ∧
    (compactFunc zero s eq).fresh = true ∧ Sl.callerAfter s (compactFunc zero s eq) = s.arr := by
  refine ⟨?_, rfl, rfl⟩
  show (Sl.shrinkTo zero (Model.Stdlib.clone s) _).items = _
  rw [Proofs.Helpers.items_shrinkTo, Proofs.Helpers.items_clone, Proofs.Helpers.compactBy_eq]

/-- `Compact`: "only the first item from each contiguous run of the same item", in a new slice (the
input is not modified). -/
theorem compact_spec [DecidableEq α] (zero : α) (s : Sl α) :
    (compact zero s).items = firstOfRuns (fun a b => decide (a = b)) s.items ∧
    (compact zero s).items.Sublist s.items ∧
    (compact zero s).fresh = true ∧ Sl.callerAfter s (compact zero s) = s.arr := by
  obtain ⟨h, h2, h3⟩ := compactFunc_spec zero s (fun a b => decide (a = b))
  exact ⟨h, h ▸ Proofs.Helpers.firstOfRuns_sublist _ _, h2, h3⟩

/-- `CompactInPlaceFunc`: as `CompactFunc`, in place. -/
theorem compactInPlaceFunc_spec (zero : α) (s : Sl α) (eq : α → α → Bool) :
    (compactInPlaceFunc zero s eq).items = firstOfRuns eq s.items ∧
    (compactInPlaceFunc zero s eq).fresh = s.fresh ∧
    (compactInPlaceFunc zero s eq).arr = (compactInPlaceFunc zero s eq).items ++
      List.replicate (s.items.length - (compactInPlaceFunc zero s eq).items.length) zero ++ s.arr.drop s.len := by
  have hc : compactInPlaceFunc zero s eq = Sl.shrinkTo zero s (Model.Stdlib.compactBy eq s.items) := rfl
  obtain ⟨h1, h2, h3⟩ := Proofs.Helpers.shrinkTo_spec zero s (Model.Stdlib.compactBy eq s.items)
  rw [hc]
  refine ⟨by rw [h1, Proofs.Helpers.compactBy_eq], h2, ?_⟩
  rw [h3, h1]

/-- `CompactInPlace`: the items of `Compact`, "done in-place and so modifies the contents of s. The modified
slice is returned": the result is the front of `s`'s own array; the vacated elements are zeroed
(documented by `slices.Compact`), the spare capacity is untouched. -/
theorem compactInPlace_spec [DecidableEq α] (zero : α) (s : Sl α) :
    (compactInPlace zero s).items = firstOfRuns (fun a b => decide (a = b)) s.items ∧
    (compactInPlace zero s).fresh = s.fresh ∧
    (compactInPlace zero s).arr = (compactInPlace zero s).items ++
      List.replicate (s.items.length - (compactInPlace zero s).items.length) zero ++ s.arr.drop s.len :=
  compactInPlaceFunc_spec zero s (fun a b => decide (a = b))

example : firstOfRuns (fun a b => decide (a = b)) [1, 1, 2, 2, 2, 1] = [1, 2, 1] ∧
    (compact 0 (Sl.ofList [1, 1, 2, 2, 2, 1])).items = [1, 2, 1] ∧
    (compactInPlace 0 (Sl.withSpare [1, 1, 2, 2, 2, 1] [-7])).arr = [1, 2, 1, 0, 0, 0, -7] ∧
    (compactFunc 0 (Sl.ofList [1, 3, 2, 5]) (fun a b => a % 2 == b % 2)).items = [1, 2, 5] := by decide +kernel

/-- `Equal`: "true if a and b contain the same items in the same order." -/
theorem equal_spec [DecidableEq α] (a b : Sl α) : equal a b = true ↔ a.items = b.items := by
  simp [equal, equalW, Model.Stdlib.equal]

/-- `EqualFunc`: "... the same items in the same order according to eq": equal lengths and `eq` on
every pair of corresponding items. -/
theorem equalFunc_spec (a b : Sl α) (eq : α → α → Bool) :
    equalFunc a b eq = true ↔ a.items.length = b.items.length ∧ ∀ p ∈ a.items.zip b.items, eq p.1 p.2 = true :=
  Proofs.Helpers.equalFuncL_iff eq a.items b.items

example : equal (Sl.ofList [1, 2]) (Sl.withSpare [1, 2] [9]) = true ∧ equal (Sl.ofList [1, 2]) (Sl.ofList [1]) = false ∧
    equalFunc (Sl.ofList [1, 2]) (Sl.ofList [3, 4]) (fun a b => a % 2 == b % 2) = true := by decide +kernel

/-- `Filter`: "only the elements of s for which keep() returns true in the same order", in a new
slice (the polarity adapter `!keep(t)` is part of the generated body). -/
theorem filter_spec (zero : α) (s : Sl α) (keep : α → Bool) :
    (filter zero s keep).items = s.items.filter keep ∧
    (filter zero s keep).fresh = true ∧ Sl.callerAfter s (filter zero s keep) = s.arr := by
  refine ⟨?_, rfl, rfl⟩
  show (Sl.shrinkTo zero (Model.Stdlib.clone s) _).items = _
  rw [Proofs.Helpers.items_shrinkTo, Proofs.Helpers.items_clone]
  simp

/-- `FilterInPlace`: the same, "done in-place and so modifies the contents of s. The modified slice is
returned": front of `s`'s own array, vacated elements zeroed, spare capacity untouched. -/
theorem filterInPlace_spec (zero : α) (s : Sl α) (keep : α → Bool) :
    (filterInPlace zero s keep).items = s.items.filter keep ∧
    (filterInPlace zero s keep).fresh = s.fresh ∧
    (filterInPlace zero s keep).arr = s.items.filter keep ++
      List.replicate (s.items.length - (s.items.filter keep).length) zero ++ s.arr.drop s.len := by
  have e : (fun x => !(fun t => !keep t) x) = keep := by funext x; simp
  have hc : filterInPlace zero s keep = Sl.shrinkTo zero s (s.items.filter (fun x => !(fun t => !keep t) x)) := rfl
  rw [hc, e]
  exact Proofs.Helpers.shrinkTo_spec zero s _

example : (filter 0 (Sl.ofList [1, 2, 3, 4]) (fun x => x % 2 == 0)).items = [2, 4] ∧
    (filterInPlace 0 (Sl.withSpare [1, 2, 3, 4] [-7]) (fun x => x % 2 == 0)).arr = [2, 4, 0, 0, -7] := by decide +kernel

/-- `Grow`: "grows s's capacity by reallocating, if necessary, to fit n more elements ... does not
change the length of s": same items, room for `n` more; `s` itself is returned when it already has
the room, otherwise a new array; a negative `n` panics, and so does (documented by `slices.Grow`: "too
large to allocate the memory") an `n` beyond the allocator's limit that does not already fit. -/
theorem grow_spec (zero : α) (s : Sl α) (n : Int) :
    (n < 0 → grow zero s n = none) ∧
    (0 ≤ n → Model.Stdlib.allocLimit < n → s.cap < s.len + n.toNat → grow zero s n = none) ∧
    (0 ≤ n → (n ≤ Model.Stdlib.allocLimit ∨ s.len + n.toNat ≤ s.cap) →
      ∃ r, grow zero s n = some r ∧ r.items = s.items ∧ r.items.length + n.toNat ≤ r.cap ∧
      (s.len + n.toNat ≤ s.cap → r = s) ∧ (s.cap < s.len + n.toNat → r.fresh = true)) :=
  Proofs.Helpers.grow_spec zero s n

example : grow 0 (Sl.withSpare [1, 2] [-7]) 1 = some (Sl.withSpare [1, 2] [-7]) ∧
    (grow 0 (Sl.withSpare [1, 2] [-7]) 2).map (·.fresh) = some true ∧ grow 0 (Sl.ofList [1]) (-1) = none ∧
    grow 0 (Sl.ofList [1]) 9223372036854775807 = none := by decide +kernel

/-- `Index`: "the first index of x in s, or -1 if x is not in s." -/
theorem index_spec [DecidableEq α] (s : Sl α) (x : α) :
    -1 ≤ index s x ∧ index s x < s.items.length ∧ (index s x = -1 ↔ x ∉ s.items) ∧
    (∀ i : Nat, index s x = i → s.items[i]? = some x ∧ ∀ j : Nat, j < i → s.items[j]? ≠ some x) := by
  obtain ⟨h1, h2, h3, h4⟩ := Proofs.Helpers.indexFunc_spec s (fun y => decide (y = x))
  refine ⟨h1, h2, ?_, fun i hi => ?_⟩
  · rw [show index s x = Model.Stdlib.indexFunc s (fun y => decide (y = x)) from rfl, h3]
    constructor
    · intro h hx; simpa using h x hx
    · intro h y hy; simp only [decide_eq_false_iff_not]; intro e; exact h (e ▸ hy)
  · obtain ⟨⟨y, hy, hyx⟩, hlt⟩ := h4 i hi
    have : y = x := by simpa using hyx
    subst this
    exact ⟨hy, fun j hj hjx => by simpa using hlt j hj y hjx⟩

/-- `IndexFunc`: "the first index in s for which f(s[i]) returns true, or -1 if there are no such
items." -/
theorem indexFunc_spec (s : Sl α) (f : α → Bool) :
    -1 ≤ indexFunc s f ∧ indexFunc s f < s.items.length ∧
    (indexFunc s f = -1 ↔ ∀ y ∈ s.items, f y = false) ∧
    (∀ i : Nat, indexFunc s f = i →
      (∃ y, s.items[i]? = some y ∧ f y = true) ∧ ∀ j : Nat, j < i → ∀ y, s.items[j]? = some y → f y = false) :=
  Proofs.Helpers.indexFunc_spec s f

example : index (Sl.ofList [3, 1, 2, 1]) 1 = 1 ∧ index (Sl.ofList [3, 1]) 7 = -1 ∧
    indexFunc (Sl.ofList [3, 1, 2, 4]) (fun x => x % 2 == 0) = 2 := by decide +kernel

/-- `Insert`: "inserts the given values starting at index idx, shifting elements after idx to the
right and growing the slice to make room. Insert will expand the length of the slice up to its
capacity if it can": panics exactly for `idx` outside `[0, len]` (documented by `slices.Insert`);
otherwise the items are `s[:idx] ++ values ++ s[idx:]`, stored in `s`'s own array when
`len + len(values) ≤ cap` (the rest of the spare capacity untouched) and in a new array otherwise. -/
theorem insert_spec (s : Sl α) (idx : Int) (vals : List α) (hs : s.WF) :
    (insertAt s idx vals = none ↔ idx < 0 ∨ (s.len : Int) < idx) ∧
    (∀ r, insertAt s idx vals = some r →
      r.items = s.items.take idx.toNat ++ vals ++ s.items.drop idx.toNat ∧
      (s.len + vals.length ≤ s.cap → r.fresh = s.fresh ∧ r.arr = r.items ++ s.arr.drop (s.len + vals.length)) ∧
      (s.cap < s.len + vals.length → r.fresh = true)) :=
  Proofs.Helpers.insertAt_spec s idx vals hs

example : (insertAt (Sl.withSpare [1, 2, 3] [-7, -7, -7]) 1 [8, 9]).map (fun r => (r.items, r.arr, r.fresh)) =
      some ([1, 8, 9, 2, 3], [1, 8, 9, 2, 3, -7], false) ∧
    (insertAt (Sl.withSpare [1, 2, 3] [-7]) 1 [8, 9]).map (fun r => (r.items, r.fresh)) = some ([1, 8, 9, 2, 3], true) ∧
    insertAt (Sl.ofList [1, 2]) 3 [8] = none := by decide +kernel

/-- `Remove`: "removes n elements from s starting at index idx and returns the modified slice"
(generated body: `slices.Delete(s, idx, idx+n)`, the sum in 64-bit arithmetic): for EVERY pair of `int`
arguments it panics exactly when `s[idx:idx+n]` (sum in the integers) is not a valid range — an
overflowing `idx+n` wraps to a negative bound, which `Delete` rejects too; otherwise order is preserved,
the result is the front of `s`'s own array and the `n` vacated elements at the end are zeroed
(documented by `slices.Delete`). -/
theorem remove_spec (zero : α) (s : Sl α) (idx n : Int) (hs : s.WF)
    (hlen : (s.len : Int) ≤ 9223372036854775807)
    (hidx : -9223372036854775808 ≤ idx ∧ idx ≤ 9223372036854775807)
    (hn : -9223372036854775808 ≤ n ∧ n ≤ 9223372036854775807) :
    (remove zero s idx n = none ↔ idx < 0 ∨ n < 0 ∨ (s.len : Int) < idx + n) ∧
    (∀ r, remove zero s idx n = some r →
      r.items = s.items.take idx.toNat ++ s.items.drop (idx + n).toNat ∧ r.fresh = s.fresh ∧
      r.arr = r.items ++ List.replicate n.toNat zero ++ s.arr.drop s.len) :=
  Proofs.Helpers.remove_spec zero s idx n hs hlen hidx hn

example : (remove 0 (Sl.withSpare [1, 2, 3, 4] [-7]) 1 2).map (fun r => (r.items, r.arr, r.fresh)) =
      some ([1, 4], [1, 4, 0, 0, -7], false) ∧ remove 0 (Sl.ofList [1, 2]) 1 2 = none ∧
    remove 0 (Sl.ofList [1, 2]) 1 9223372036854775807 = none := by decide +kernel

/-! ## xsort: derived comparisons, `Reverse`, `OrderedLess`, the `sort.Slice*` adapters -/

/-- `Greater`: "true if a > b according to less" — `b` is less than `a`. (generated function) -/
theorem greater_spec (less : α → α → Bool) (a b : α) : greaterOf less a b = less b a := rfl

/-- `LessOrEqual`: "true if a <= b according to less": for a strict weak order, `a` is less than `b`
or they are equivalent. -/
theorem lessOrEqual_spec (less : α → α → Bool) (hw : StrictWeak less) (a b : α) :
    lessOrEqualOf less a b = true ↔ less a b = true ∨ Equiv less a b = true := by
  have := @Proofs.Helpers.sw_asymm _ less hw a b
  simp only [lessOrEqualOf, lessOrEqual, Equiv]
  cases h1 : less a b <;> cases h2 : less b a <;> simp_all

/-- `GreaterOrEqual`: "true if a >= b according to less". -/
theorem greaterOrEqual_spec (less : α → α → Bool) (hw : StrictWeak less) (a b : α) :
    greaterOrEqualOf less a b = true ↔ less b a = true ∨ Equiv less a b = true := by
  have := @Proofs.Helpers.sw_asymm _ less hw a b
  simp only [greaterOrEqualOf, greaterOrEqual, Equiv]
  cases h1 : less a b <;> cases h2 : less b a <;> simp_all

/-- `Equal`: "true if a == b according to less" — neither is less than the other. -/
theorem sortEqual_spec (less : α → α → Bool) (a b : α) : sortEqualOf less a b = Equiv less a b := rfl

example : greater false true = true ∧ lessOrEqual true false = true ∧ lessOrEqual false true = false ∧
    greaterOrEqual false false = true ∧ sortEqual false false = true ∧ sortEqual true false = false := by decide +kernel

/-- `Reverse`: "a Less that orders elements in the opposite order of the provided less": the closure
is `less(b, a)`; it is again a strict weak order, and a list is sorted by it iff its reversal is
sorted by `less`. -/
theorem sortReverse_spec (less : α → α → Bool) :
    (∀ a b, reverseOf less a b = less b a) ∧
    (StrictWeak less → StrictWeak (reverseOf less)) ∧
    (∀ l, SortedBy (reverseOf less) l ↔ SortedBy less l.reverse) := by
  refine ⟨fun _ _ => rfl, Proofs.Helpers.strictWeak_rev, fun l => ?_⟩
  unfold SortedBy
  rw [List.pairwise_reverse]
  rfl

example : reverseOf (fun a b => decide (a < b)) 2 1 = true ∧ reverseOf (fun a b => decide (a < b)) 1 2 = false := by decide +kernel

/-- `OrderedLess`: "an implementation of Less for cmp.Ordered types by using the < operator" (at
`int`): it is `<`, a strict weak order. -/
theorem orderedLess_spec : (∀ a b : Int, orderedLess a b = true ↔ a < b) ∧ StrictWeak orderedLess := by
  have h : ∀ a b : Int, orderedLess a b = decide (a < b) := fun _ _ => rfl
  refine ⟨fun a b => by simp [h], ⟨fun a => by simp [h], fun a b c => ?_, fun a b c => ?_⟩⟩
  · simp only [h, decide_eq_true_eq]; omega
  · simp only [h, decide_eq_false_iff_not]; omega

example : orderedLess (-1) 2 = true ∧ orderedLess 2 2 = false ∧ orderedLess 3 2 = false := by decide +kernel

/-- `SliceStable`: "stably sorts x in-place": as `Slice`, and for every `a` the items equivalent to `a`
keep their original relative order. -/
theorem sortSliceStable_spec (zero : α) (x : Sl α) (less : α → α → Bool) (hw : StrictWeak less) :
    (sortSliceStable zero x less).items.Perm x.items ∧ SortedBy less (sortSliceStable zero x less).items ∧
    (∀ a, (sortSliceStable zero x less).items.filter (Equiv less a) = x.items.filter (Equiv less a)) ∧
    (sortSliceStable zero x less).fresh = x.fresh ∧
    (sortSliceStable zero x less).arr = (sortSliceStable zero x less).items ++ x.arr.drop x.len := by
  obtain ⟨h1, h2, h3⟩ := Proofs.Helpers.sortSliceStable_items zero x less
  rw [h1]
  exact ⟨Proofs.Helpers.sortStable_perm less _, Proofs.Helpers.sortStable_sorted less hw _,
    fun a => Proofs.Helpers.sortStable_stable less hw a _, h2, h3⟩

/-- `Slice`: "sorts x in-place using the given less function" (`sort.Slice` with the index adapter
`less(x[i], x[j])`, generated): the items afterwards are a permutation of the items before, sorted
by `less`; in `x`'s own array, spare capacity untouched. Which arrangement of equivalent items
results is left open by `sort.Slice`. -/
theorem sortSlice_spec (zero : α) (x : Sl α) (less : α → α → Bool) (hw : StrictWeak less) :
    (sortSlice zero x less).items.Perm x.items ∧ SortedBy less (sortSlice zero x less).items ∧
    (sortSlice zero x less).fresh = x.fresh ∧
    (sortSlice zero x less).arr = (sortSlice zero x less).items ++ x.arr.drop x.len := by
  obtain ⟨h1, h2, _, h4, h5⟩ := sortSliceStable_spec zero x less hw
  exact ⟨h1, h2, h4, h5⟩

/-- `SliceIsSorted`: "true if x is in sorted order according to the given less function". -/
theorem sortSliceIsSorted_spec (zero : α) (x : Sl α) (less : α → α → Bool) (hw : StrictWeak less) (hx : x.WF) :
    sortSliceIsSorted zero x less = true ↔ SortedBy less x.items :=
  Proofs.Helpers.sortSliceIsSorted_iff zero x less hw hx

example : (sortSlice 0 (Sl.withSpare [3, 1, 2] [-7]) (fun a b => decide (a < b))).arr = [1, 2, 3, -7] ∧
    (Sl.withSpare [3, 1, 2] [-7]).WF := ⟨by decide, by simp [Sl.WF, Sl.withSpare]⟩

example : (sortSliceStable 0 (Sl.ofList [5, 2, 4, 3]) (fun a b => decide (a / 2 < b / 2))).items = [2, 3, 5, 4] ∧
    sortSliceIsSorted 0 (Sl.ofList [2, 3, 5, 4]) (fun a b => decide (a / 2 < b / 2)) = true ∧
    sortSliceIsSorted 0 (Sl.ofList [2, 5, 3]) (fun a b => decide (a / 2 < b / 2)) = false := by decide +kernel

/-! ## xmaps.Set (sets as duplicate-free lists) -/

/-- `Set.Add`: "adds item to the set." -/
theorem setAdd_spec (s : List κ) (item y : κ) : y ∈ setAdd s item ↔ y = item ∨ y ∈ s := by
  simp only [setAdd, setAddBody, ↓reduceIte]
  rw [Proofs.Helpers.mem_insert, or_comm]

/-- `Set.Remove`: "removes item from the set." -/
theorem setRemove_spec (s : List κ) (item y : κ) : y ∈ setRemove s item ↔ y ∈ s ∧ y ≠ item :=
  Proofs.Helpers.mem_setRemove s item y

/-- `Set.Contains`: "true if item is in the set." -/
theorem setContains_spec (s : List κ) (item : κ) : setContains s item = true ↔ item ∈ s := by
  simp [setContains, setContainsBody]

/-- `SetFromSlice`: "a Set whose elements are items." -/
theorem setFromSlice_spec (items : List κ) :
    (∀ y, y ∈ setFromSlice items ↔ y ∈ items) ∧ (setFromSlice items).Nodup := by
  simp only [setFromSlice, sfsBody, ↓reduceIte]
  exact ⟨fun y => by rw [Proofs.Helpers.mem_foldl_insert]; simp,
    Proofs.Helpers.nodup_foldl_insert items [] List.nodup_nil⟩

example : setAdd [1, 2] 3 = [1, 2, 3] ∧ setAdd [1, 2] 2 = [1, 2] ∧ setRemove [1, 2, 3] 2 = [1, 3] ∧
    setContains [1, 2] 2 = true ∧ setContains [1, 2] 5 = false ∧ setFromSlice [3, 1, 3, 2, 1] = [3, 1, 2] := by decide +kernel

/-! ## xmath.Min / Max (at `int`; generated bodies over the builtins) -/

/-- `Min`: "the minimum of a and b based on the < operator." -/
theorem min_spec (a b : Int) : xmin a b ≤ a ∧ xmin a b ≤ b ∧ (xmin a b = a ∨ xmin a b = b) := by
  have h : xmin a b = if a ≤ b then a else b := rfl
  rw [h]
  split <;> omega

/-- `Max`: "the maximum of a and b based on the > operator." -/
theorem max_spec (a b : Int) : a ≤ xmax a b ∧ b ≤ xmax a b ∧ (xmax a b = a ∨ xmax a b = b) := by
  have h : xmax a b = if a ≤ b then b else a := rfl
  rw [h]
  split <;> omega

example : xmin 3 (-2) = -2 ∧ xmax 3 (-2) = 3 ∧ xmin 4 4 = 4 := by decide +kernel

end Juniper.Props.C19
