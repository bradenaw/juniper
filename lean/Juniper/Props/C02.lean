import Juniper.Proofs.TreeIterProps
import Juniper.Proofs.TreeIterRun
/-!
# C02 — tree iterators stay correct while the tree is modified between Next calls (property theorems)

The model iterator (cursor = node identity, index, remembered key, generation; `lost()`, the re-seek, the sticky
cut-off `done` and the in-range test — on the key, before the value is read — regenerated from `btree.go`; the
equivalence with the former `iterator.While` wrapping is `iterNext_eq_while` in `Proofs/TreeWhile.lean`) is shown to refine
the *resume-key iterator* of the specification for every
interleaving of `Put`/`Delete` with `Next` calls of any number of live forward and reverse iterators
(`iter_refines_resume`); the property's clauses are then theorems about the specification iterator.
Helper lemmas are in `Juniper/Proofs/Tree*.lean`.
-/
namespace Juniper.Props.C02
open Juniper.Gen.Tree Juniper.Model.BTree Juniper.Proofs.Tree

variable {K V : Type}

/-- "once it reports exhaustion it keeps doing so", far-bound half in the model: once the in-range predicate has
failed (`iter.done`), `Next` answers `end` on whatever tree, without looking at the tree or the cursor again (and
without evaluating `lost()`: no panic). The guard is the regenerated `if iter.done` of both `Next` methods. -/
theorem cutoff_sticky (cmp : K → K → Int) (t : Tree K V) (it : Iter K) (hd : it.done = true) :
    iterNext cmp t it = (it, none) ∧ iterNextPanics t it = false := by
  obtain ⟨g1, _, _, _, _⟩ := iter_guards
  unfold iterNext iterNextPanics
  simp [hd, g1]

/-- the cut-off happens exactly when the predicate fails on the key the cursor is parked on (after the re-seek of a
lost cursor) — **decided on the key alone, before the value slot is read** — and it is sticky (`iter.done = true`
is in the source); an in-range key is yielded with the value read *before* the cursor moves on. -/
theorem cutoff_exact (cmp : K → K → Int) (t : Tree K V) (it : Iter K) (op : CmpOp) (key : K) (p : Pos K)
    (hs : it.stop = some (op, key)) (hd : it.done = false) (hp : (iterReseek cmp t it.fwd it.c).pos = some p) :
    (evalOp op (cmp p.k key) = false →
      iterNext cmp t it = ({ it with c := iterReseek cmp t it.fwd it.c, done := true }, none)) ∧
    (evalOp op (cmp p.k key) = true → (iterNext cmp t it).2 = some (p.k, valueAt t p)) := by
  obtain ⟨g1, g2, g3, _, g5⟩ := iter_guards
  unfold iterNext
  constructor <;> intro hk <;> simp [hs, hd, hp, hk, g1, g2, g3]

/-- **"It never panics", `Next` on a cursor that is off the edge.** `Next` begins with `iter.c.lost()`. On an
exhausted iterator, or one created on an empty range, `curr == nil`; the regenerated `lost()` expression, evaluated
as the Go code evaluates it, must then not consult `c.curr.n` / `c.curr.keys[c.i]` — it does not (the conjunct
`c.curr != nil &&` guards them), for any pair of generations, i.e. after any number of structural changes. Deleting
the guard from `btree.go` makes this theorem, `iter_total` and `iter_refines_resume` fail. -/
theorem next_off_edge_never_derefs_nil (t : Tree K V) (it : Iter K) : iterNextPanics t it = false := by
  simp [iterNextPanics, lost_guards_nil]

/-- A cursor parked in a node that has left the tree (merged away: `right.n = 0` — the regenerated presence fact
`mergeZeroesRight`, through `retiredN` —; collapsed root: `n = 0`) and whose generation is stale considers itself
lost — so it re-seeks by key instead of reading the dead node. -/
theorem retired_nodes_are_lost (cmp : K → K → Int) (t : Tree K V) (c : Cursor K) (p : Pos K) (hp : c.pos = some p)
    (hg : c.gen ≠ t.gen) (hf : findNode p.id t.root = none) :
    lostAt cmp t c = true := by
  have hg' : ¬ ((c.gen : Int) = (t.gen : Int)) := by omega
  simp [lostAt, hp, hf, lost, hg']

/-- A cursor that does not consider itself lost (the regenerated `lost()` expression is false) is parked on an
entry of the current tree whose key is equivalent to the key it remembers. -/
theorem cursor_valid_of_not_lost (cmp : K → K → Int) (hs : StrictWeak cmp) {t : Tree K V} {c : Cursor K} (hc : CInv t c)
    {p : Pos K} (hp : c.pos = some p) (hl : lostAt cmp t c = false) :
    ∃ y up e, At t.root p y up e ∧ cmp p.k e.1 = 0 :=
  parked_of_not_lost hs hc hp hl

/-- Navigation: from a valid position `cursor.Next` moves to the in-order successor (staying in the leaf, descending
to the leftmost leaf of the next child, or climbing to the first ancestor with an entry to the right) and runs off the
end exactly after the last entry; `cursor.Prev` symmetrically. `befOf ++ e :: aftOf` is the tree's in-order list split
at the cursor's entry `e`. -/
theorem cursor_next_is_successor {root : Node K V} {h : Nat} (t : Tree K V) (ht : t.root = root) (hb : Bal h root)
    (hone : ∀ i, cnt i root ≤ 1) {p : Pos K} {y : Node K V} {up : List (Node K V × Nat)} {e : K × V}
    (ha : At root p y up e) :
    toList root = befOf up y p.i ++ e :: aftOf up y p.i ∧
    (aftOf up y p.i = [] → nextCore t p = none) ∧
    (∀ e' A', aftOf up y p.i = e' :: A' → ∃ p' y' up', nextCore t p = some p' ∧ At root p' y' up' e' ∧ p'.k = e'.1 ∧
      befOf up' y' p'.i = befOf up y p.i ++ [e] ∧ aftOf up' y' p'.i = A') :=
  ⟨at_toList hb ha, (next_step t ht hb hone ha).1, (next_step t ht hb hone ha).2⟩

theorem cursor_prev_is_predecessor {root : Node K V} {h : Nat} (t : Tree K V) (ht : t.root = root) (hb : Bal h root)
    (hone : ∀ i, cnt i root ≤ 1) {p : Pos K} {y : Node K V} {up : List (Node K V × Nat)} {e : K × V}
    (ha : At root p y up e) :
    (befOf up y p.i = [] → prevCore t p = none) ∧
    (∀ B' e', befOf up y p.i = B' ++ [e'] → ∃ p' y' up', prevCore t p = some p' ∧ At root p' y' up' e' ∧ p'.k = e'.1 ∧
      befOf up' y' p'.i = B' ∧ aftOf up' y' p'.i = e :: aftOf up y p.i) :=
  prev_step t ht hb hone ha

/-- The four seeks: `SeekFirstGreaterOrEqual`/`SeekFirstGreater` park on the least entry `≥ k` / `> k` (the rest of the
contents from there on is what a forward iteration yields), `SeekLastLessOrEqual`/`SeekLastLess` on the greatest entry
`≤ k` / `< k`; the comparison operators are the regenerated ones. -/
theorem seeks_least_greatest (cmp : K → K → Int) (hs : StrictWeak cmp) {t : Tree K V} (hi : Inv cmp t) (c0 : Cursor K) (k : K) :
    Fwd t (seekFirstGreaterOrEqual cmp t c0 k) ((toList t.root).dropWhile fun x => decide (0 < cmp k x.1)) ∧
    Fwd t (seekFirstGreater cmp t c0 k) ((toList t.root).dropWhile fun x => decide (0 ≤ cmp k x.1)) ∧
    Bwd t (seekLastLessOrEqual cmp t c0 k) ((toList t.root).reverse.dropWhile fun x => decide (cmp k x.1 < 0)) ∧
    Bwd t (seekLastLess cmp t c0 k) ((toList t.root).reverse.dropWhile fun x => decide (cmp k x.1 ≤ 0)) := by
  refine ⟨?_, ?_, ?_, ?_⟩
  · simpa [geS, seekFirstGreaterOrEqualStep] using fwd_iff_run.mpr (seekGE_run hs hi c0 k)
  · simpa [seekFirstGreaterStep] using fwd_iff_run.mpr (seekGT_run hs hi c0 k)
  · simpa [leS, seekLastLessOrEqualStep] using bwd_iff_run.mpr (seekLE_run hs hi c0 k)
  · simpa [seekLastLessStep] using bwd_iff_run.mpr (seekLT_run hs hi c0 k)

/-- **"It never spins", the `Next → Seek → Next` recursion** (audit C02-F6). The Go `Seek*` methods end in `c.Next()` /
`c.Prev()`, and `cursor.Next` / `Prev` begin with `if c.lost() { c.SeekFirstGreater(c.k); return }`: were the cursor lost
right after `seek`, the code would recurse. The model's `stepFwd` / `stepBwd` evaluate the regenerated `lost()` there
and, if it were true, stop (`c` unchanged) instead of recursing — a cut-off. It is unreachable: `seek` parks the cursor
with the tree's generation (the regenerated `seekSetsGen`: `c.gen = c.t.gen` is in the source), so `lost()` is false
whatever the tree looks like, and `stepFwd` / `stepBwd` are exactly one `nextCore` / `prevCore` move. -/
theorem seek_then_step_never_recurses (cmp : K → K → Int) (t : Tree K V) (c c' : Cursor K) (k : K)
    (h : seek cmp t c k = (c', true)) :
    lostAt cmp t c' = false ∧
    ∀ p, c'.pos = some p →
      stepFwd cmp t c' = { c' with pos := nextCore t p } ∧ stepBwd cmp t c' = { c' with pos := prevCore t p } := by
  have hgen : seekSetsGen = true := by decide
  have hg : c'.gen = t.gen := by
    unfold seek at h
    split at h
    · cases h
    · simp only [hgen, if_true, Prod.mk.injEq, and_true] at h
      rw [← h]
  have hl := lostAt_of_gen_eq cmp t c' hg
  refine ⟨hl, fun p hp => ?_⟩
  simp [stepFwd, stepBwd, hp, hl]

/-- **Refinement.** For every script that interleaves `Put`/`Delete` (of any keys) with the creation of
`Range`/`RangeReverse` iterators (any bounds) and `Next` calls on any number of simultaneously live
iterators, starting from any reachable tree with any set of live iterators: the model runs to completion
(no nil dereference — "never panics"; every `Next` is a terminating function: "never spins"), and every
`Next` returns what the specification's resume-key iterator returns on the *current* contents — an
equivalent key with exactly its current value, or `end` — while the simulation relation (tree invariant,
contents, per-iterator cursor invariant) is maintained. Whether the mutation splits, merges, rotates or
unlinks the node an iterator is parked in, collapses the root or empties the tree is immaterial. -/
theorem iter_refines_resume (cmp : K → K → Int) (hs : StrictWeak cmp) (sts : List (Step K V))
    (m : MSt K V) (s : SSt K V) (h : Sim cmp m s) :
    ∃ m' os, mrun cmp m sts = some (m', os) ∧ Sim cmp m' (srun cmp s sts).1 ∧ ObsAll cmp os (srun cmp s sts).2 :=
  sim_run hs sts m s h

/-- the empty tree without iterators is related to the empty map -/
theorem sim_init (cmp : K → K → Int) :
    Sim cmp (⟨Tree.empty, fun _ => none⟩ : MSt K V) ⟨[], fun _ => none⟩ :=
  ⟨inv_empty cmp, by simp [Tree.empty], fun _ => rfl⟩

/-- non-vacuity: from the empty tree every script is covered. -/
example (cmp : K → K → Int) (hs : StrictWeak cmp) (sts : List (Step K V)) :
    ∃ m' os, mrun cmp (⟨Tree.empty, fun _ => none⟩ : MSt K V) sts = some (m', os) ∧
      ObsAll cmp os (srun cmp ⟨[], fun _ => none⟩ sts).2 := by
  obtain ⟨m', os, h1, _, h3⟩ := iter_refines_resume cmp hs sts _ _ (sim_init cmp)
  exact ⟨m', os, h1, h3⟩

/-- "it never panics or spins": on every reachable state (simulation relation) no step of any script dereferences a
nil pointer — neither a `Put`/`Delete` (`crash` outcomes of `ins`/`del`) nor a `Next` (`iterNextPanics`: the `lost()`
call at its top on a cursor with `curr == nil`, see `next_off_edge_never_derefs_nil`) —, and every `Next` is a
terminating function. -/
theorem iter_total (cmp : K → K → Int) (hs : StrictWeak cmp) (sts : List (Step K V))
    (m : MSt K V) (s : SSt K V) (h : Sim cmp m s) : (mrun cmp m sts).isSome = true := by
  obtain ⟨m', os, h1, _, _⟩ := sim_run hs sts m s h
  simp [h1]

/-- "its keys are strictly monotone in its direction": two consecutive yielding `Next` calls, on whatever
(sorted) contents the map had at the two moments. -/
theorem iter_strict_monotone (cmp : K → K → Int) (hs : StrictWeak cmp) {L1 L2 : List (K × V)}
    (h1 : Sorted cmp L1) (h2 : Sorted cmp L2) {it it1 it2 : SIter K} {e1 e2 : K × V}
    (hn1 : snext cmp L1 it = (it1, some e1)) (hn2 : snext cmp L2 it1 = (it2, some e2)) :
    dcmp cmp it.fwd e1.1 e2.1 < 0 :=
  snext_strict_monotone hs h1 h2 hn1 hn2

/-- "… and inside its bounds": a fresh `Range`/`RangeReverse` iterator starts inside its near bound (first conjunct:
`smk`, the specification's iterator for `Range(lo, hi)` / `RangeReverse(lo, hi)` on whatever map, direction `fwd`, far
bound `stopOf fwd lo hi`), every `Next` keeps it there, and every yielded key is inside the near bound and satisfies the
far-bound (`While`) predicate. -/
theorem iter_in_bounds (cmp : K → K → Int) (hs : StrictWeak cmp) {L : List (K × V)} (hL : Sorted cmp L) (lo hi : Bound K) :
    (∀ (L0 : List (K × V)) (fwd : Bool),
      (smk cmp L0 fwd lo hi).fwd = fwd ∧ (smk cmp L0 fwd lo hi).stop = stopOf fwd lo hi ∧
      ∀ k, (smk cmp L0 fwd lo hi).resume = some k → nearFn cmp fwd lo hi k = true) ∧
    ∀ {it it' : SIter K} {out : Option (K × V)},
      (∀ k, it.resume = some k → nearFn cmp it.fwd lo hi k = true) → snext cmp L it = (it', out) →
      (∀ e, out = some e → nearFn cmp it.fwd lo hi e.1 = true ∧ keepFn cmp it.stop e.1 = true) ∧
      (it'.fwd = it.fwd ∧ ∀ k, it'.resume = some k → nearFn cmp it'.fwd lo hi k = true) := by
  refine ⟨fun L0 fwd => ⟨rfl, rfl, smk_near cmp L0 fwd lo hi⟩, ?_⟩
  intro it it' out hinv h
  obtain ⟨a, b⟩ := snext_near hs hL lo hi hinv h
  refine ⟨fun e he => ⟨a e he, ?_⟩, b⟩
  subst he
  exact (snext_yield_present hs hL h).2

/-- "every key it yields is present at that moment and paired with its current value". -/
theorem iter_yields_present_current_value (cmp : K → K → Int) (hs : StrictWeak cmp) {L : List (K × V)}
    (hL : Sorted cmp L) {it it' : SIter K} {e : K × V} (h : snext cmp L it = (it', some e)) : e ∈ L :=
  (snext_yield_present hs hL h).1

set_option linter.unusedVariables false in
/-- "once it reports exhaustion it keeps doing so". -/
theorem iter_exhaustion_sticky (cmp : K → K → Int) (hs : StrictWeak cmp) {L : List (K × V)} (hL : Sorted cmp L)
    {it it' : SIter K} (h : snext cmp L it = (it', none)) (L' : List (K × V)) : snext cmp L' it' = (it', none) :=
  snext_exhaustion_sticky hs h L'

/-- "No key that stays in the collection from the iterator's creation until the iterator has moved past it is
skipped": a fresh iterator owes every entry inside its near bound (`smk_owes`), and while an owed entry `x` is in the
map and inside the far bound, `Next` neither ends nor yields beyond `x`: it yields `x` or a key before `x`, still
owing `x`. -/
theorem iter_no_skip_of_persistent_keys (cmp : K → K → Int) (hs : StrictWeak cmp) :
    (∀ {L : List (K × V)} (_ : Sorted cmp L) (fwd : Bool) (lo hi : Bound K) {x : K × V}, x ∈ L →
        nearFn cmp fwd lo hi x.1 = true → Owes cmp (smk cmp L fwd lo hi) x.1) ∧
    (∀ {L : List (K × V)} (_ : Sorted cmp L) {it : SIter K} {x : K × V}, x ∈ L → Owes cmp it x.1 →
        keepFn cmp it.stop x.1 = true →
        (∀ a b, dcmp cmp it.fwd a b < 0 → keepFn cmp it.stop b = true → keepFn cmp it.stop a = true) →
        (∃ it', snext cmp L it = (it', some x)) ∨
        (∃ it' e, snext cmp L it = (it', some e) ∧ dcmp cmp it.fwd e.1 x.1 < 0 ∧ Owes cmp it' x.1 ∧
          it'.fwd = it.fwd ∧ it'.stop = it.stop)) ∧
    (∀ (fwd : Bool) (lo hi : Bound K) a b, dcmp cmp fwd a b < 0 → keepFn cmp (stopOf fwd lo hi) b = true →
        keepFn cmp (stopOf fwd lo hi) a = true) :=
  ⟨fun hL fwd lo hi _ hx hn => smk_owes hs hL fwd lo hi hx hn,
   fun hL _ _ hx ho hk hm => snext_no_skip hs hL hx ho hk hm,
   fun fwd lo hi => keep_mono hs fwd lo hi⟩

/-- "A key inserted during the iteration that lies beyond the next key the iterator yields, and is not removed
again, is yielded too": if `x` is in the map when `Next` yields `y` and lies beyond `y`, the iterator owes `x` from
then on, so by `iter_no_skip_of_persistent_keys` it is yielded before anything beyond it for as long as it stays. -/
theorem iter_sees_inserted_beyond_next (cmp : K → K → Int) (hs : StrictWeak cmp) {L : List (K × V)} (hL : Sorted cmp L)
    {it it' : SIter K} {x y : K × V} (hx : x ∈ L) (h : snext cmp L it = (it', some y))
    (hb : dcmp cmp it.fwd y.1 x.1 < 0) : Owes cmp it' x.1 ∧ it'.fwd = it.fwd ∧ it'.stop = it.stop :=
  snext_owes_beyond hs hL hx h hb

/-- **The clauses, along a whole script** (audit C02-F5: the composition of `iter_refines_resume` with the step-local
clause theorems above, as a theorem). From any state in the simulation relation (any reachable tree, any live
iterators): create iterator `j` by `Range(lo, hi)` (`fwd`) / `RangeReverse(lo, hi)` and let *any* script follow that does
not re-create slot `j` — `Put`s and `Delete`s of any keys (splits, merges, rotations, root collapse, emptying the
tree), creation and `Next` calls of any other iterators, `Next` calls on `j` at any moments. Then the model runs to
the end, and with `ys` = what `j`'s `Next` calls returned (model: the real code's answers), `vs` = the specification's
views (for each of those calls: the contents of the map *at that moment* — `Sim` keeps it equal to the model tree's
in-order contents — and the specification's answer):
* `ys` is `vs`, call by call: an equivalent key with exactly the current value, or "exhausted" (`OutAll`);
* every yielded entry is **present at that moment with its current value**, **inside the near bound** and the far
  bound;
* the yielded keys are **strictly monotone** in the iterator's direction (any two of them, not just neighbours) —
  stated for the specification's answers and for the model's own;
* **exhaustion is sticky**: after the first "exhausted" every later call says "exhausted", for both. -/
theorem iter_script_clauses (cmp : K → K → Int) (hs : StrictWeak cmp) (m : MSt K V) (s : SSt K V) (h : Sim cmp m s)
    (j : Nat) (fwd : Bool) (lo hi : Bound K) (hlo : lo.kind ≠ none) (hhi : hi.kind ≠ none)
    (sts : List (Step K V)) (hno : NoMk j sts) :
    ∃ m' os, mrun cmp m (.mk j fwd lo hi :: sts) = some (m', os) ∧
      let ys := yieldsOf j (.mk j fwd lo hi :: sts) os
      let vs := sviews cmp j s (.mk j fwd lo hi :: sts)
      OutAll cmp ys (vs.map (·.2)) ∧
      (∀ v ∈ vs, ∀ e, v.2 = some e →
        e ∈ v.1 ∧ nearFn cmp fwd lo hi e.1 = true ∧ keepFn cmp (stopOf fwd lo hi) e.1 = true) ∧
      ((vs.filterMap (·.2)).Pairwise (fun a c => dcmp cmp fwd a.1 c.1 < 0) ∧
        (ys.filterMap id).Pairwise (fun a c => dcmp cmp fwd a.1 c.1 < 0)) ∧
      (Sticky (vs.map (·.2)) ∧ Sticky ys) := by
  obtain ⟨m', os, h1, hrel, hL, hvs⟩ := mk_views hs h j fwd lo hi hlo hhi sts hno
  refine ⟨m', os, h1, ?_⟩
  obtain ⟨c1, c2, c3⟩ := views_clauses hs lo hi fwd (stopOf fwd lo hi) hvs none rfl rfl (smk_near cmp s.L fwd lo hi)
    (by intro b0 hb0; cases hb0)
  have c2' : ((sviews cmp j s (.mk j fwd lo hi :: sts)).map (·.2)).filterMap id =
      (sviews cmp j s (.mk j fwd lo hi :: sts)).filterMap (·.2) := by
    rw [List.filterMap_map]; rfl
  exact ⟨hrel, fun v hv' e he => ⟨(c1 v hv' e he).1, (c1 v hv' e he).2.1, (c1 v hv' e he).2.2.1⟩,
    ⟨c2, outAll_pairwise hs fwd _ _ hrel (by rw [c2']; exact c2)⟩, c3, outAll_sticky _ _ hrel c3⟩

/-- **"No key that stays in the collection from the iterator's creation until the iterator has moved past it is
skipped", along a whole script** (audit C02-F5). Create iterator `j` on a map that contains the entry `x` inside both
bounds, then let any script follow (mutations of any keys, other iterators, `Next` calls on `j`; slot `j` not
re-created) during which `x` is in the map whenever `j` is asked (`sviews`: the contents at each of those moments).
Then `j`'s answers are entries strictly before `x` (in its direction) until it yields `x` itself — it never reports
exhaustion and never yields an entry beyond `x` first; the model's answers are those, call by call (`OutAll`). The same
holds from any later state in which the iterator still owes `x` (`sviews_no_skip`), in particular — "a key inserted
beyond the next key the iterator yields, and not removed again, is yielded too" — from the moment `Next` yields `y`
for every `x` present then and beyond `y` (`iter_sees_inserted_beyond_next`). -/
theorem iter_script_no_skip (cmp : K → K → Int) (hs : StrictWeak cmp) (m : MSt K V) (s : SSt K V) (h : Sim cmp m s)
    (j : Nat) (fwd : Bool) (lo hi : Bound K) (hlo : lo.kind ≠ none) (hhi : hi.kind ≠ none)
    (sts : List (Step K V)) (hno : NoMk j sts) (x : K × V) (hx : x ∈ s.L)
    (hnear : nearFn cmp fwd lo hi x.1 = true) (hfar : keepFn cmp (stopOf fwd lo hi) x.1 = true)
    (hpers : ∀ v ∈ sviews cmp j s (.mk j fwd lo hi :: sts), x ∈ v.1) :
    ∃ m' os, mrun cmp m (.mk j fwd lo hi :: sts) = some (m', os) ∧
      let zs := (sviews cmp j s (.mk j fwd lo hi :: sts)).map (·.2)
      OutAll cmp (yieldsOf j (.mk j fwd lo hi :: sts) os) zs ∧
      ((∃ pre post, zs = pre ++ some x :: post ∧ ∀ y ∈ pre, ∃ e, y = some e ∧ dcmp cmp fwd e.1 x.1 < 0) ∨
        (∀ y ∈ zs, ∃ e, y = some e ∧ dcmp cmp fwd e.1 x.1 < 0)) := by
  obtain ⟨m', os, h1, hrel, hL, hvs⟩ := mk_views hs h j fwd lo hi hlo hhi sts hno
  exact ⟨m', os, h1, hrel, views_no_skip hs fwd (stopOf fwd lo hi) x hfar (keep_mono hs fwd lo hi) hvs rfl rfl
    (smk_owes hs hL fwd lo hi hx hnear) hpers⟩

/-- non-vacuity of the clause theorems: a forward iterator over `[(1,10),(3,30)]` from `Included 1`. After it
yielded `1` it is parked on `3`: a key `2` inserted now (behind the parked key) is skipped — which the property
allows —, a key `4` inserted beyond the next yield is yielded. -/
example : let cmp : Int → Int → Int := fun a b => a - b
    let it0 := smk cmp [((1 : Int), (10 : Int)), (3, 30)] true ⟨some .incl, 1⟩ ⟨some .unb, 0⟩
    let it1 := (snext cmp [(1, 10), (3, 30)] it0).1
    (snext cmp [(1, 10), (3, 30)] it0).2 = some (1, 10) ∧
    (snext cmp [(1, 10), (2, 20), (3, 30), (4, 40)] it1).2 = some (3, 30) ∧
    (snext cmp [(1, 10), (2, 20), (3, 30), (4, 40)] (snext cmp [(1, 10), (2, 20), (3, 30), (4, 40)] it1).1).2 = some (4, 40) := by
  simp [smk, startOf, stopOf, snext, sraw, ahead, geS, aboveLo, seekFirstGreaterOrEqualStep]

/-! ## non-vacuity with a lost cursor (audit C02-F4) -/

/-- the comparator of the example -/
def exCmp : Int → Int → Int := fun a b => a - b
theorem exCmp_sw : StrictWeak exCmp := strictWeak_intSub

/-- 16 ascending puts (the root splits: leaves `1 … 8 | 10 … 16`, separator 9), a forward iterator
`Range(Included 12, Unbounded)` — parked on key 12 in the right leaf (node 1, index 2) —, then `Delete 10`, `Delete 11`: the right
leaf underflows and is merged into the left one, so the cursor's node object has left the tree, the generation is stale and
`lostAt` is `true` (by evaluation of the model: cursor `(1, 2, 12)`, `findNode 1 = none`); then three `Next`s -/
def lostScript : List (Step Int Int) :=
  (List.range 16).map (fun (i : Nat) => Step.mutate (.put ((i : Int) + 1) (10 * ((i : Int) + 1)))) ++
  [.mk 0 true ⟨some .incl, 12⟩ ⟨some .unb, 0⟩, .mutate (.del 10), .mutate (.del 11), .next 0, .next 0, .next 0]

def yieldOf {β : Type} : Obs β → Option (Option β)
  | .yielded r => some r
  | _ => none

set_option maxRecDepth 4000 in
/-- … the model runs the script to the end (no nil dereference) and its three `Next`s return what the specification returns:
`12 ↦ 120` (re-sought by key in the merged node), `13 ↦ 130`, `14 ↦ 140`. -/
example : ∃ m' os, mrun exCmp (⟨Tree.empty, fun _ => none⟩ : MSt Int Int) lostScript = some (m', os) ∧
    ObsAll exCmp os (srun exCmp ⟨[], fun _ => none⟩ lostScript).2 ∧
    ((srun exCmp (⟨[], fun _ => none⟩ : SSt Int Int) lostScript).2.drop 19).map yieldOf =
      [some (some (12, 120)), some (some (13, 130)), some (some (14, 140))] := by
  obtain ⟨m', os, h1, _, h3⟩ := iter_refines_resume exCmp exCmp_sw lostScript _ _ (sim_init exCmp)
  exact ⟨m', os, h1, h3, by decide +kernel⟩

/-- non-vacuity of `iter_script_clauses` on the lost-cursor script: after the 16 `Put`s the simulation relation holds
(`iter_refines_resume`), the rest of the script — create iterator 0, two `Delete`s that merge its node away, three
`Next`s — is an instance, and its views are `12 ↦ 120`, `13 ↦ 130`, `14 ↦ 140` (strictly ascending, inside
`[12, ∞)`, present). -/
example : NoMk 0 ([.mutate (.del 10), .mutate (.del 11), .next 0, .next 0, .next 0] : List (Step Int Int)) ∧
    ((sviews exCmp 0 (srun exCmp (⟨[], fun _ => none⟩ : SSt Int Int) (lostScript.take 16)).1
      (lostScript.drop 16)).map (·.2)) = [some (12, 120), some (13, 130), some (14, 140)] := by
  refine ⟨by intro f lo hi hm; simp at hm, by decide +kernel⟩

end Juniper.Props.C02
