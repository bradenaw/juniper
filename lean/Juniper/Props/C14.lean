import Juniper.Proofs.ParMapStreamProgress
import Juniper.Proofs.ParMapIterProgress
/-!
# C14 — parallel.MapIterator / MapStream (property theorems; also the MapStream clauses of C08 and C09)

The LTSs are `Juniper.Model.ParMap.Stream` and `Juniper.Model.ParMap.Iter` (`step`, `Reach`): all
interleavings of dispatcher, workers and consumer; the source and `f` are the environment (arbitrary
results in arbitrary order, errors at any position), as are the consumer's calls, the expiry of its
per-call context, `Close` and the cancellation of the parent context. Guards, channel capacities, token
count and `select` tables are regenerated from `parallel/parallel.go` (`Stream.code`, `Iter.code`).
Every theorem holds for all requested parallelism `P` (`GOMAXPROCS = gmp ≥ 1` when `P ≤ 0`), buffer
size `B`, source lengths, latency patterns (= schedules), failure positions and consumer behaviours.
Only property theorems and non-vacuity examples live here; invariants are in `Proofs/ParMap*.lean`.

**Ties.** Every theorem below takes `cfg.code = Stream.code` / `Iter.code` (the regenerated code) and
discharges *inside its own proof* everything the invariants assume about the Go source: `stream_ties` /
`iter_ties` (`Proofs/ParMapTies.lean`) prove, by `decide` / `rfl` on the regenerated definitions, each field
of `Code.Sound` — guards, capacities, `select` tables, presence facts, and the three disciplines computed
from `Juniper.Gen.ParSync`: `Iter.sectionsAtomic` (MapIterator's two critical sections lock the same mutex
field, which is the cond's locker — the reason `dAcquire` / `cYield` may be atomic labels),
`Stream.ctxPlain` (the context handed to the source, to `f` and to the selects is
`errgroup.WithContext(context.WithCancel(ctx))`, cancelled by `Close` only — it never ends by itself),
`closeCancels` / `closeWaits` (`Close` is `s.cancel()` then `s.eg.Wait()`) — and the control skeletons of the
mirrored bodies. A change of any of these facts makes the theorems *of this file* fail by name. The model
follows the three disciplines: the examples marked "dependence" exhibit, in the LTS of code that violates
one, the behaviour the theorem excludes.

**Liveness wording.** `map_deadlock_free` / `mapIterator_deadlock_free` are *enabledness* statements about
single reachable states (an internal step is enabled, or a call of `f` / of the source is outstanding).
That pending calls actually return within a bounded number of steps — a decreasing measure — is
`Props/C14Progress.lean`; the only scheduling assumption there is that an enabled step is eventually taken.
"Consumer" is one goroutine: `closeCall` / `nextCall` are enabled only while it is not inside `Next` /
`Close` (`cons = idle`), so "`Close` at any moment" means *any moment at which the single consumer is not
inside `Next`* — with the pipeline in any state (dispatcher blocked on a token or inside the source, workers
inside `f`, results waiting in `c` or the reorder buffer); `Close` concurrent with a `Next` of another
goroutine is outside the model (stream protocol: `Next` and `Close` are not called concurrently).

Ghost vocabulary: `s.srcItems` items taken from the source so far; `s.fBegun` / `s.fEnded` calls of `f`
begun (index, argument) / returned (index, result); `s.results` what `Next` returned so far
(`.val k v` = value `v` for source item `k`); `s.srcLog` calls on the source.
-/
namespace Juniper.Props.C14
open Juniper.Gen Juniper.Model.ParMap Juniper.Proofs.ParMap

/-- The number of workers and of `ready` tokens of `MapStream` are the clamped parallelism and buffer
size: `parallelism ≤ 0` means `GOMAXPROCS`, `bufferSize < parallelism` means `parallelism`. -/
theorem mapStream_workers_and_tokens (P B : Int) (gmp : Nat) :
    let cfg : Stream.Cfg := ⟨Stream.code, P, B, gmp⟩
    Stream.par cfg = (if P ≤ 0 then (gmp : Int) else P) ∧
    Stream.buf cfg = max B (Stream.par cfg) ∧
    Stream.numWorkers cfg = (Stream.par cfg).toNat ∧
    Stream.numTokens cfg = (Stream.buf cfg).toNat ∧
    Stream.readyCap cfg = (Stream.buf cfg).toNat ∧ Stream.cCap cfg = (Stream.buf cfg).toNat := by
  intro cfg
  have hs : cfg.code.Sound := stream_code_sound stream_ties
  exact ⟨S.par_eq hs, S.buf_eq hs, S.numWorkers_eq hs, S.numTokens_eq hs, S.readyCap_eq hs, S.cCap_eq hs⟩

/-- non-vacuity: `MapStream(ctx, s, 0, 1, f)` with `GOMAXPROCS = 4` has four workers and four tokens -/
example : Stream.numWorkers ⟨Stream.code, 0, 1, 4⟩ = 4 ∧ Stream.numTokens ⟨Stream.code, 0, 1, 4⟩ = 4 := by decide +kernel

/-! ## MapStream -/

/-- **Order, exactly once (MapStream).** In every reachable state: the values returned by `Next` so
far are those of source items 0, 1, 2, … in this order; the value for item `k` is what the one call
of `f` for index `k` returned, and that call was made on the `k`-th source item; `f` is never called
twice for an index; and when `Next` has reported the normal end, the source has ended, nothing failed
and every item taken from the source has been yielded. -/
theorem map_order_exactly_once (cfg : Stream.Cfg) (hc : cfg.code = Stream.code) (hg : 1 ≤ cfg.gmp)
    (s : Stream.St) (h : Stream.Reach cfg s) :
    s.results.filterMap S.valIdx = List.range (cnt S.isVal s.results) ∧
    (∀ k v, Stream.NextRes.val k v ∈ s.results →
        (k, Res.ok v) ∈ s.fEnded ∧ S.ecnt k s.fEnded = 1 ∧ ∃ a, (k, a) ∈ s.fBegun ∧ s.srcItems[k]? = some a) ∧
    (∀ k, S.icnt k s.fBegun ≤ 1) ∧
    (∀ k a, (k, a) ∈ s.fBegun → s.srcItems[k]? = some a) ∧
    (Stream.NextRes.end ∈ s.results →
        s.srcEnded = true ∧ S.nFail s = 0 ∧ cnt S.isVal s.results = s.srcItems.length) := by
  have hs : cfg.code.Sound := hc ▸ stream_code_sound stream_ties
  have hI := S.inv hs hg h
  exact ⟨hI.values.numbered, fun k v hm => ⟨hI.values.ofResult k v hm, hI.ended_once (hI.values.ofResult k v hm)⟩,
    hI.placed.begun_le_one, hI.values.begunOn,
    hI.of_end⟩

/-- non-vacuity: parallelism 2, buffer 2; item 1 finishes before item 0, the consumer still gets
item 0 first, then item 1, then the end -/
example : ∃ s, Stream.Reach ⟨Stream.code, 2, 2, 8⟩ s ∧
    s.results = [.val 0 100, .val 1 101, .end] :=
  ⟨_, Stream.reach_of_run Stream.Reach.init (ls := [.dPull, .srcRet (.item 7), .dTakeToken, .dSend 0, .dPull,
      .srcRet (.item 8), .dTakeToken, .dSend 1, .dPull, .srcRet .end, .fRet 1 (.ok 101), .wSendC 1,
      .nextCall true, .cRecv, .fRet 0 (.ok 100), .wSendC 0, .cRecv, .cYield, .cRelease, .nextCall true, .cYield,
      .cRelease, .dCloseIn, .srcCloseRet, .dEgDone, .wExitIdle 0, .wExitIdle 1, .wDefer 0, .wDefer 1, .wEgDone 0,
      .wEgDone 1, .nextCall true, .cRecvClosed, .cWaitDone]) rfl, rfl⟩

/-- **In-flight bound (MapStream).** In every reachable state the number of source items taken but
not yet yielded is at most `max(bufferSize, parallelism) + 1`, which is at most
`bufferSize + parallelism + 1` (a negative `bufferSize` read as 0); and at most `parallelism` calls of
`f` run at once. -/
theorem inflight_bound (cfg : Stream.Cfg) (hc : cfg.code = Stream.code) (hg : 1 ≤ cfg.gmp)
    (s : Stream.St) (h : Stream.Reach cfg s) :
    (s.srcItems.length : Int) ≤ cnt S.isVal s.results + max cfg.B (Stream.par cfg) + 1 ∧
    max cfg.B (Stream.par cfg) ≤ max cfg.B 0 + Stream.par cfg ∧
    Stream.par cfg = (if cfg.P ≤ 0 then (cfg.gmp : Int) else cfg.P) ∧
    (Stream.fRunning s : Int) ≤ Stream.par cfg := by
  have hs : cfg.code.Sound := hc ▸ stream_code_sound stream_ties
  have hCount := (S.inv hs hg h).count
  have hpar := S.par_pos hs hg
  have hbuf := S.buf_eq hs
  have htok := S.numTokens_eq hs
  have hT := hCount.tokens
  have hlen := hCount.len
  have hnw := S.numWorkers_eq hs
  refine ⟨?_, by omega, S.par_eq hs, ?_⟩
  · rcases hCount.taken with hS | ⟨_, hS⟩
    · -- holding without a token: waitReady; with a token: sendIn, which the token count already covers
      have := S.b2n_le (S.dHolding s.disp)
      omega
    · omega
  · have : Stream.fRunning s ≤ s.ws.length := List.countP_le_length
    omega

/-- non-vacuity: parallelism 1, buffer 1: two items taken, none yielded (`1 + 1`) -/
example : ∃ s, Stream.Reach ⟨Stream.code, 1, 1, 8⟩ s ∧ s.srcItems.length = 2 ∧ s.results = [] :=
  ⟨_, Stream.reach_of_run Stream.Reach.init (ls := [.dPull, .srcRet (.item 7), .dTakeToken, .dSend 0, .dPull,
      .srcRet (.item 8)]) rfl, rfl, rfl⟩

/-- **Deadlock freedom (MapStream), enabledness form.** In every reachable state in which the consumer is
inside `Next` (whatever the state of its context) or inside `Close`, some internal step of the library
(a label with `isEnv = false`) is enabled, or the environment owes a return: a call of `f` is running
(`fRunning > 0`) or a call on the source — `Next`, or the `Close` issued by the dispatcher — has not been
answered (`srcBusy`). Nothing is said here about the enabled step being taken or about termination: that is
`C14Progress.mapStream_next_terminates` / `mapStream_close_terminates` (measure). -/
theorem map_deadlock_free (cfg : Stream.Cfg) (hc : cfg.code = Stream.code) (hg : 1 ≤ cfg.gmp)
    (s : Stream.St) (h : Stream.Reach cfg s) (hbusy : S.consBusy s.cons = true) :
    (∃ l s', l.isEnv = false ∧ Stream.step cfg s l = some s') ∨ 0 < Stream.fRunning s ∨ Stream.srcBusy s = true := by
  have hs : cfg.code.Sound := hc ▸ stream_code_sound stream_ties
  exact S.served hs hg h hbusy

/-- non-vacuity: the back-pressure state — buffer full of out-of-order results, dispatcher waiting
for a token, consumer inside `Next`: the worker's pending call of `f` is what is owed -/
example : ∃ s, Stream.Reach ⟨Stream.code, 2, 2, 8⟩ s ∧ S.consBusy s.cons = true ∧ s.ready = 0 ∧ Stream.fRunning s = 1 :=
  ⟨_, Stream.reach_of_run Stream.Reach.init (ls := [.dPull, .srcRet (.item 7), .dTakeToken, .dSend 0, .dPull,
      .srcRet (.item 8), .dTakeToken, .dSend 1, .dPull, .srcRet (.item 9), .fRet 1 (.ok 101), .wSendC 1,
      .nextCall true, .cRecv]) rfl, rfl, rfl, rfl⟩

/-- **Error rules (MapStream; C08 clauses).** (1) An error reported by `Next` is one that a call of `f`
or the source actually returned, or the error of the context passed to `MapStream` after the caller
cancelled it — never a cancellation the library caused itself. (1') The context the library hands to the
source, to `f` and to its own selects is cancelled *by the library* (`ctxCause = lib`) only after a failure
of the source or of `f` has been recorded in the errgroup — never by the passage of time, however long the
source is idle, `f` runs or the consumer stays away (uses `Code.Sound.ctxPlain`: the context is
`errgroup.WithContext(context.WithCancel(ctx))`, and `cancel` is called by `Close` only). (2) The normal end
is never reported when the source or a call of `f` failed. (3) No result at or beyond a failed item is ever
yielded: the consumer's position never passes the index of a failed call of `f` (nor the number of items the
source delivered), so the error comes after at most the results that precede it. -/
theorem mapStream_error_rules (cfg : Stream.Cfg) (hc : cfg.code = Stream.code) (hg : 1 ≤ cfg.gmp)
    (s : Stream.St) (h : Stream.Reach cfg s) :
    (∀ e, Stream.NextRes.err e ∈ s.results → S.genuine s e) ∧
    (s.ctxCause = some .lib → s.egErr ≠ none) ∧
    (Stream.NextRes.end ∈ s.results → S.nFail s = 0) ∧
    (∀ k e, (k, Res.err e) ∈ s.fEnded → s.i ≤ k) ∧
    (∀ k v, Stream.NextRes.val k v ∈ s.results → k < s.i ∧ k < s.srcItems.length) := by
  have hs : cfg.code.Sound := hc ▸ stream_code_sound stream_ties
  have hI := S.inv hs hg h
  refine ⟨hI.errs.result, hI.shutdown.cause.1, fun hend => (hI.of_end hend).2.1, fun k e => hI.failed_ge,
    fun k v hm => ?_⟩
  have := hI.val_lt hm
  have := hI.placed.i_le
  have := hI.dispI_le_srcItems
  constructor <;> omega

/-- non-vacuity: item 0 fails with error 5 after item 1 succeeded; `Next` reports `f`'s error 5 and
item 1's result is never yielded -/
example : ∃ s, Stream.Reach ⟨Stream.code, 2, 2, 8⟩ s ∧ s.results = [.err (.f 5)] ∧ s.i = 0 :=
  ⟨_, Stream.reach_of_run Stream.Reach.init (ls := [.dPull, .srcRet (.item 7), .dTakeToken, .dSend 0, .dPull,
      .srcRet (.item 8), .dTakeToken, .dSend 1, .dPull, .fRet 1 (.ok 101), .wSendC 1, .fRet 0 (.err 5),
      .wDefer 0, .wEgDone 0, .srcRet (.err 9002), .dCloseIn, .srcCloseRet, .dEgDone, .wExitIdle 1, .wDefer 1,
      .wEgDone 1, .nextCall true, .cRecv, .cRecvClosed, .cWaitDone]) rfl, rfl, rfl⟩

/-- dependence on `ctxPlain`: in the LTS of code whose context can end by the library's own doing (e.g.
`context.WithTimeout(ctx, time.Minute)` in place of `context.WithCancel(ctx)`: the generated fact
`msCtxAssigns` changes, `Stream.ctxPlain = false`, the label `libCtxEnd` is enabled) the source delivers an
item, then is idle; the library's context ends; the dispatcher, waiting for a token with both arms ready,
takes the `ctx.Done()` arm; `Next` reports the library's own context error although neither the source nor
`f` failed and nobody cancelled anything — (1) and (1') of `mapStream_error_rules` are false there. -/
example : ∃ s, Stream.Reach ⟨{ Stream.code with ctxPlain := false }, 1, 1, 8⟩ s ∧
    s.results = [.err .ctxLib] ∧ s.fEnded = [] ∧ s.srcErr = none ∧ s.parentCancelled = false ∧
    s.closeCalled = false :=
  ⟨_, Stream.reach_of_run Stream.Reach.init (ls := [.dPull, .srcRet (.item 7), .libCtxEnd, .dWaitCtx, .dCloseIn,
      .srcCloseRet, .dEgDone, .wExitIdle 0, .wDefer 0, .wEgDone 0, .nextCall true, .cRecvClosed, .cWaitDone]) rfl,
    rfl, rfl, rfl, rfl, rfl⟩

/-- **Close (MapStream; C09 clauses).** In every reachable state the calls seen by the source are a
sequence of complete `Next` calls followed by at most one `Close` (never `Next` after `Close`, never a
second `Close`, never two calls at once — one goroutine issues them all). From the moment the stream's
`Close` is called the library's context is cancelled (`Close` cancels *before* it waits:
`Code.Sound.closeCancels`). Once `Close` has returned (`Code.Sound.closeWaits`: it returns only when the
errgroup is empty): the dispatcher and every worker have finished, no call of `f` and no call on the source
is in progress, and the source has been closed exactly once (`Code.Sound.closesSource`). `Close` may be
called at any moment at which the single consumer is not inside `Next` (`closeCall` is enabled iff
`cons = idle`; see the header). That `Close` does return — within `SM.nu` steps once the outstanding calls
of `f` / of the source have returned — is `C14Progress.mapStream_close_terminates`. -/
theorem mapStream_close_returns_workers_stopped_source_closed (cfg : Stream.Cfg) (hc : cfg.code = Stream.code)
    (hg : 1 ≤ cfg.gmp) (s : Stream.St) (h : Stream.Reach cfg s) :
    (∃ a, s.srcLog = S.pairs a ++ S.logTail s.disp) ∧
    (s.cons = .closeWait ∨ s.cons = .closed → s.ctxCause ≠ none) ∧
    (s.cons = .closed →
      s.disp = .done ∧ (∀ pc ∈ s.ws, pc = .done) ∧ Stream.fRunning s = 0 ∧ Stream.srcBusy s = false ∧
      ∃ a, s.srcLog = S.pairs a ++ [SrcEv.closeBegin, SrcEv.closeEnd]) := by
  have hs : cfg.code.Sound := hc ▸ stream_code_sound stream_ties
  have hLog := (S.inv hs hg h).srcLog.log
  refine ⟨hLog, ?_, ?_⟩
  · intro hc'
    have hCL := (S.inv hs hg h).shutdown.closeCalled
    exact hCL.2 (hCL.1.2 (by rcases hc' with hc' | hc' <;> simp [hc', S.cClosing]))
  intro hclosed
  have he := (S.inv hs hg h).compl.closed (by simp [hclosed, S.cClosedP])
  have ⟨hd, hw⟩ := S.all_done_of_egLive (S.inv hs hg h).shutdown he
  have hall : ∀ pc ∈ s.ws, pc = Stream.WPc.done := by
    intro pc hpc
    have := cnt_eq_zero hw pc hpc
    cases pc <;> simp_all [S.wNotDone]
  refine ⟨hd, hall, ?_, by simp [Stream.srcBusy, hd], ?_⟩
  · apply List.countP_eq_zero.2
    intro pc hpc
    rw [hall pc hpc]; simp
  · obtain ⟨a, ha⟩ := hLog
    exact ⟨a, by simp [ha, hd, S.logTail]⟩

/-- non-vacuity: `Close` while the producer is ahead (one result in `c`, one call of `f` running) -/
example : ∃ s, Stream.Reach ⟨Stream.code, 1, 2, 8⟩ s ∧ s.cons = .closed ∧
    s.srcLog = [.nextBegin, .nextEnd, .nextBegin, .nextEnd, .nextBegin, .nextEnd, .closeBegin, .closeEnd] :=
  ⟨_, Stream.reach_of_run Stream.Reach.init (ls := [.dPull, .srcRet (.item 7), .dTakeToken, .dSend 0, .dPull,
      .srcRet (.item 8), .dTakeToken, .fRet 0 (.ok 100), .wSendC 0, .dSend 0, .dPull, .closeCall,
      .srcRet (.err 9002), .dCloseIn, .srcCloseRet, .dEgDone, .fRet 0 (.ok 101), .wSendCtx 0, .wDefer 0, .wEgDone 0,
      .cCloseDone]) rfl, rfl, rfl⟩

/-- non-vacuity at the boundary "the context handed to `MapStream` is already done": the environment's
`parentCancel` is the first label; the dispatcher still calls the source once (which returns the context's
error), closes it, and `Close` returns with the source closed exactly once -/
example : ∃ s, Stream.Reach ⟨Stream.code, 1, 1, 8⟩ s ∧ s.cons = .closed ∧ s.results = [] ∧
    s.srcLog = [.nextBegin, .nextEnd, .closeBegin, .closeEnd] :=
  ⟨_, Stream.reach_of_run Stream.Reach.init (ls := [.parentCancel, .dPull, .srcRet (.err 9001), .dCloseIn,
      .srcCloseRet, .dEgDone, .wExitIdle 0, .wDefer 0, .wEgDone 0, .closeCall, .cCloseDone]) rfl, rfl, rfl, rfl⟩

/-- dependence on `closeWaits` / `closeCancels`: in the LTS of a `Close` that does not wait for the errgroup,
`Close` returns while the dispatcher is inside the source's `Next` and a call of `f` is running; in the LTS
of a `Close` that waits without cancelling first, the library's context is still live while `Close` waits. -/
example : (∃ s, Stream.Reach ⟨{ Stream.code with closeWaits := false }, 1, 1, 8⟩ s ∧ s.cons = .closed ∧
      s.disp = .inNext ∧ Stream.fRunning s = 1) ∧
    (∃ s, Stream.Reach ⟨{ Stream.code with closeCancels := false }, 1, 1, 8⟩ s ∧ s.cons = .closeWait ∧
      s.ctxCause = none) :=
  ⟨⟨_, Stream.reach_of_run Stream.Reach.init (ls := [.dPull, .srcRet (.item 7), .dTakeToken, .dSend 0, .dPull,
      .closeCall, .cCloseDone]) rfl, rfl, rfl, rfl⟩,
   ⟨_, Stream.reach_of_run Stream.Reach.init (ls := [.dPull, .closeCall]) rfl, rfl, rfl⟩⟩

/-- **An expired consumer context costs nothing (MapStream; C08 clause).** The step in which `Next`
returns its own context's error changes nothing but the consumer's program counter (and the log of
results): the reorder buffer, the position, the result channel and the tokens are exactly as before, so
the next `Next` continues where this one left off; and a `Next` whose context has expired still yields
the next result if it is already there. -/
theorem mapStream_ctx_costs_nothing (cfg : Stream.Cfg) (hc : cfg.code = Stream.code) (s s' : Stream.St) :
    (Stream.step cfg s .cCtx = some s' →
      s.cons = .next false ∧ s' = { s with cons := .idle, results := s.results ++ [.ctxCons] }) ∧
    (s.cons = .next false → Stream.canYield cfg s = true → (Stream.step cfg s .cYield).isSome = true) := by
  have hs : cfg.code.Sound := hc ▸ stream_code_sound stream_ties
  constructor
  · intro hstep
    cases S.Step.of_step hs hstep with
    | cCtx hc hy => exact ⟨hc, rfl⟩
  · intro hcons hy
    exact S.en_cYield hs hcons hy

/-- non-vacuity: a `Next` with an expired context returns its error, the following `Next` gets item 0 -/
example : ∃ s, Stream.Reach ⟨Stream.code, 1, 1, 8⟩ s ∧ s.results = [.ctxCons, .val 0 100] :=
  ⟨_, Stream.reach_of_run Stream.Reach.init (ls := [.dPull, .srcRet (.item 7), .dTakeToken, .dSend 0, .nextCall false,
      .cCtx, .fRet 0 (.ok 100), .wSendC 0, .nextCall true, .cRecv, .cYield, .cRelease]) rfl, rfl⟩

/-! ## MapIterator -/

/-- **Order, exactly once (MapIterator).** Values come out for source items 0, 1, 2, … in order; the
value for item `k` is what the one call of `f` on the `k`-th source item returned; when `Next` has
reported the end, the source has ended and every item taken from it has been yielded. -/
theorem mapIterator_order_exactly_once (cfg : Iter.Cfg) (hc : cfg.code = Iter.code) (hg : 1 ≤ cfg.gmp)
    (s : Iter.St) (h : Iter.Reach cfg s) :
    s.results.filterMap I.valIdx = List.range (cnt I.isVal s.results) ∧
    (∀ k v, Iter.NextRes.val k v ∈ s.results →
        (k, v) ∈ s.fEnded ∧ I.ecnt k s.fEnded = 1 ∧ ∃ a, (k, a) ∈ s.fBegun ∧ s.srcItems[k]? = some a) ∧
    (∀ k, S.icnt k s.fBegun ≤ 1) ∧
    (Iter.NextRes.end ∈ s.results → s.srcEnded = true ∧ cnt I.isVal s.results = s.srcItems.length) := by
  have hs : cfg.code.Sound := hc ▸ iter_code_sound iter_ties
  have hI := I.inv hs hg h
  exact ⟨hI.values.numbered, fun k v hm => ⟨hI.values.ofResult k v hm, hI.ended_once (hI.values.ofResult k v hm)⟩,
    hI.placed.begun_le_one, hI.of_end⟩

/-- **In-flight bound (MapIterator).** Items taken from the source and not yet yielded never exceed
`max(bufferSize, parallelism) + 1 ≤ bufferSize + parallelism + 1`. -/
theorem mapIterator_inflight_bound (cfg : Iter.Cfg) (hc : cfg.code = Iter.code) (hg : 1 ≤ cfg.gmp)
    (s : Iter.St) (h : Iter.Reach cfg s) :
    (s.srcItems.length : Int) ≤ cnt I.isVal s.results + max cfg.B (Iter.par cfg) + 1 ∧
    max cfg.B (Iter.par cfg) ≤ max cfg.B 0 + Iter.par cfg := by
  have hs : cfg.code.Sound := hc ▸ iter_code_sound iter_ties
  have hCtl := (I.inv hs hg h).ctl
  have hpar := I.par_pos hs hg
  have hbuf := I.buf_eq hs
  have hT := hCtl.slots
  have hS := hCtl.taken
  have hY := hCtl.yielded
  have hTb := hCtl.inFlight_range
  refine ⟨?_, by omega⟩
  have := S.b2n_le (I.dHolding s.disp)
  omega

/-- **Deadlock freedom (MapIterator), enabledness form.** In every reachable state with the consumer inside
`Next`, some internal step (`isEnv = false`) is enabled, or a call of `f` is running, or the source iterator
has been asked for an item and has not answered — in particular a dispatcher parked in `cond.Wait()` is never
what a quiescent state waits for: parked ⇒ `inFlight = bufferSize`, so the decrement of the `Next` that frees
a slot hits `bufferSize-1` and its `Signal` finds the dispatcher registered. That rests on the two critical
sections being atomic with respect to each other (`Code.Sound.sectionsAtomic`, used by the invariant
`CtlInv.noChecked` / `parked_full`: both lock `mapIterator.m`, which is `cond.L`); without it the statement is false of the
model (example below). Termination (measure): `C14Progress.mapIterator_next_terminates`. -/
theorem mapIterator_deadlock_free (cfg : Iter.Cfg) (hc : cfg.code = Iter.code) (hg : 1 ≤ cfg.gmp)
    (s : Iter.St) (h : Iter.Reach cfg s) (hnext : s.cons = .next) :
    (∃ l s', l.isEnv = false ∧ Iter.step cfg s l = some s') ∨ 0 < Iter.fRunning s ∨ s.disp = .inNext := by
  have hs : cfg.code.Sound := hc ▸ iter_code_sound iter_ties
  exact I.served hs hg h hnext

/-- non-vacuity: parallelism 1, buffer 1; the dispatcher parks with the second item, the consumer's
`Next` yields item 0 and wakes it -/
example : ∃ s, Iter.Reach ⟨Iter.code, 1, 1, 8⟩ s ∧ s.results = [.val 0 100] ∧ s.disp = .acquire 8 :=
  ⟨_, Iter.reach_of_run Iter.Reach.init (ls := [.dPull, .srcRet (some 7), .dAcquire, .dSend 0, .dPull, .srcRet (some 8),
      .dAcquire, .fRet 0 100, .nextCall, .wHandOff 0, .cYield]) rfl, rfl, rfl⟩

/-- dependence on `sectionsAtomic` — **the lost wakeup**: in the LTS of code whose two critical sections are
not atomic with respect to each other (e.g. `Next` locks another mutex than the dispatcher: the generated
`miNextSync` names `it.m2`, `Iter.sectionsAtomic = false`) the dispatcher's check and its parking are two
steps. Parallelism 1, buffer 1: the dispatcher holds the second item and has seen the buffer full
(`.checked 8`); the consumer's `Next` yields item 0, decrements `inFlight` to `bufferSize-1` and signals —
nobody is registered yet; the dispatcher parks (`dPark`); the consumer calls `Next` again. Now no internal
step is enabled, no call of `f` is running and the source is not being asked: every goroutine is asleep for
good with `inFlight = 0`. `mapIterator_deadlock_free` (and every theorem of `C14Progress` about MapIterator)
is false of that model. -/
example : ∃ s, Iter.Reach ⟨{ Iter.code with sectionsAtomic := false }, 1, 1, 8⟩ s ∧ s.cons = .next ∧
    s.disp = .parked 8 ∧ s.inFlight = 0 ∧ Iter.fRunning s = 0 ∧
    (∀ l ∈ Iter.internalLabels s, Iter.step ⟨{ Iter.code with sectionsAtomic := false }, 1, 1, 8⟩ s l = none) :=
  ⟨_, Iter.reach_of_run Iter.Reach.init (ls := [.dPull, .srcRet (some 7), .dAcquire, .dSend 0, .dPull,
      .srcRet (some 8), .dAcquire, .fRet 0 100, .nextCall, .wHandOff 0, .cYield, .dPark, .nextCall]) rfl,
    rfl, rfl, rfl, rfl, by decide +kernel⟩

/-- the discipline predicates themselves (`Model/ParMap.lean`): they hold of the operation lists regenerated from
the source as it is, and reject each of these variants of `mapIterator.Next` / the dispatcher / `MapStream` — `Next`
locking a second mutex `m2`; `TryLock` instead of `Lock`; `Signal` after `Unlock`; `if` instead of `for` around
`cond.Wait()`; the dispatcher incrementing `inFlight` after `Unlock`; a `context.WithTimeout` in place of
`context.WithCancel`; a `defer cancel()` in `MapStream`. (Two of them — `Signal` after `Unlock`, `if` for `for` with
one dispatcher and one consumer — are harmless in Go; the predicate pins the discipline the proofs were written for,
not the weakest one.) -/
example :
    let disp := [("for", ""), ("Lock", "it.m"), ("for", "it.inFlight >= bufferSize"), ("Wait", "it.cond"), ("}", ""),
      ("inc", "it.inFlight"), ("Unlock", "it.m"), ("}", "")]
    let next := fun (lock unlock : String × String) => [("for", ""), ("if", "it.h.Len() > 0 && it.h.Peek().idx == it.i"), lock,
      ("dec", "it.inFlight"), ("if", "it.inFlight == it.bufferSize-1"), ("Signal", "it.cond"), ("}", ""), unlock,
      ("}", ""), ("}", "")]
    let ok := fun d n f => Iter.sectionsAtomicOf d n ParSync.miCondInit f ParSync.miRestSync ParSync.miTouchers ParSync.parImports
    Iter.sectionsAtomic = true ∧ Stream.ctxPlain = true ∧
    ok disp (next ("Lock", "it.m") ("Unlock", "it.m")) ParSync.miFields = true ∧
    ok disp (next ("Lock", "it.m2") ("Unlock", "it.m2")) (("it.m2", "sync.Mutex") :: ParSync.miFields) = false ∧
    ok disp (next ("TryLock", "it.m") ("Unlock", "it.m")) ParSync.miFields = false ∧
    ok disp [("for", ""), ("if", "it.h.Len() > 0 && it.h.Peek().idx == it.i"), ("Lock", "it.m"), ("dec", "it.inFlight"),
      ("use", "wake := it.inFlight == it.bufferSize-1"), ("Unlock", "it.m"), ("if", "wake"), ("Signal", "it.cond"), ("}", ""),
      ("}", ""), ("}", "")] ParSync.miFields = false ∧
    ok [("for", ""), ("Lock", "it.m"), ("if", "it.inFlight >= bufferSize"), ("Wait", "it.cond"), ("}", ""),
      ("inc", "it.inFlight"), ("Unlock", "it.m"), ("}", "")] (next ("Lock", "it.m") ("Unlock", "it.m")) ParSync.miFields = false ∧
    ok [("for", ""), ("Lock", "it.m"), ("for", "it.inFlight >= bufferSize"), ("Wait", "it.cond"), ("}", ""),
      ("Unlock", "it.m"), ("inc", "it.inFlight"), ("}", "")] (next ("Lock", "it.m") ("Unlock", "it.m")) ParSync.miFields = false ∧
    Stream.ctxPlainOf [("ctx, cancel", "context.WithTimeout(ctx, time.Minute)"), ("eg, ctx", "errgroup.WithContext(ctx)")]
      ParSync.msCtxShadows ParSync.msCancelUses ParSync.parImports = false ∧
    Stream.ctxPlainOf ParSync.msCtxAssigns ParSync.msCtxShadows
      [("MapStream", "defer cancel()"), ("MapStream", "cancel: cancel"), ("mapStream.Close", "s.cancel()")] ParSync.parImports = false := by
  decide +kernel

end Juniper.Props.C14
