import Juniper.Proofs.TreeSlotsOpsHeap
/-!
# C03, clause "no retained garbage", at slot level

"Keys and values that were deleted or moved elsewhere are no longer referenced from the live
structure."  A node of the real tree has three fixed arrays (`keys [maxKVs]K`, `values [maxKVs]V`,
`children [branchFactor]*node`); the clause holds iff in every live node every slot behind the live
prefix is the zero value. `Model/BTreeSlotsOps.lean` keeps those arrays slot by slot and executes a
zeroing / clearing / shifting statement only if the *generated* fact (`Juniper.Gen.TreeSlots`,
re-extracted from `btree.go` on every run) says the statement is there; the facts are hypotheses
of the lemmas in `Proofs/TreeSlotsOps*.lean` and are discharged by `decide` inside the theorems below, so
dropping one of the statements from the Go source makes exactly the theorems that depend on it (and
`no_retained_slots`) fail to compile.

* `Rep a cap l` — array `a` has `cap` slots, live prefix = `l`, tail all `none`;
* `NodeRep x kvs kids` — the three arrays of node `x` represent entries `kvs` and children `kids`,
  `x.n = kvs.length`, `kids` is empty (leaf) or has `kvs.length + 1` elements;
* `slots_refine_*` — the operation succeeds and its result represents the list-level result (the very
  list expressions `Model/BTree.lean` uses: `take i ++ x :: drop i`, `take i ++ drop (i+1)`, …);
* `tail_cleared_*` — hence every slot behind the new live prefix is `none` (`TailCleared`, `TailOK`);
* `no_retained_slots` — every history of node-level operations (each within the precondition its Go
  function documents) from the empty root leaves every node that has not been unlinked with cleared
  tails;
* `no_retained_slots_tree` — the same after every history of `Put` / `Delete` of the heap model
  (`Heap.put` / `Heap.delete`), which changes its store only through enabled node-level operations
  and is compared with the real `tree.Map[*int,*int]` raw slot by raw slot after every operation
  (harness `c03slots`).
-/
namespace Juniper.Props.C03Slots
open Juniper.Model.BTreeSlotsOps Juniper.Proofs.TreeSlotsOps Juniper.Gen

variable {α K V C : Type}

/-! ## the array primitives -/

/-- `insertOne(a[:hi], idx, x)` with the live prefix inside the window = list insertion. -/
theorem slots_refine_insertOne {a : Slots α} {cap : Nat} {l : List α} (h : Rep a cap l) {hi idx : Nat}
    (hidx : idx ≤ l.length) (hl : l.length < hi) (hhi : hi ≤ cap) (x : α) :
    ∃ a', insertOne a hi idx (some x) = some a' ∧ Rep a' cap (l.take idx ++ x :: l.drop idx) :=
  rep_insertOne h hidx hl hhi x

theorem tail_cleared_insertOne {a a' : Slots α} {cap : Nat} {l : List α} (h : Rep a cap l) {hi idx : Nat}
    (hidx : idx ≤ l.length) (hl : l.length < hi) (hhi : hi ≤ cap) (x : α)
    (hop : insertOne a hi idx (some x) = some a') : TailCleared a' (l.length + 1) :=
  tailCleared_of_rep (slots_refine_insertOne h hidx hl hhi x) hop (Juniper.Proofs.Slots.length_insertAt l x idx)

example : insertOne [some 1, some 3, none, none] 3 1 (some 2) = some [some 1, some 2, some 3, none] := by decide +kernel

/-- `removeOne(a[:hi], idx)` = list removal, *provided* the shift and the zeroing of the last slot are
in the source. -/
theorem slots_refine_removeOne {a : Slots α} {cap : Nat} {l : List α} (h : Rep a cap l) {hi idx : Nat}
    (hidx : idx < l.length) (hl : l.length ≤ hi) (hhi : hi ≤ cap) :
    ∃ a', removeOne a hi idx = some a' ∧ Rep a' cap (l.take idx ++ l.drop (idx + 1)) :=
  rep_removeOne h hidx hl hhi (by decide)

theorem tail_cleared_removeOne {a a' : Slots α} {cap : Nat} {l : List α} (h : Rep a cap l) {hi idx : Nat}
    (hidx : idx < l.length) (hl : l.length ≤ hi) (hhi : hi ≤ cap) (hop : removeOne a hi idx = some a') :
    TailCleared a' (l.length - 1) :=
  tailCleared_of_rep (rep_removeOne h hidx hl hhi (by decide)) hop (by simp; omega)

example : removeOne [some 1, some 2, some 3, none] 3 0 = some [some 2, some 3, none, none] := by decide +kernel

/-- explicit zeroing of the last live slot (`removeRightmost`, `rotateRight`) = `dropLast`. -/
theorem slots_refine_zero {a : Slots α} {cap : Nat} {l : List α} (h : Rep a cap l) (hl : 0 < l.length) :
    ∃ a', setSlot a (l.length - 1) none = some a' ∧ Rep a' cap l.dropLast :=
  rep_setSlot_clearLast h hl

theorem tail_cleared_zero {a a' : Slots α} {cap : Nat} {l : List α} (h : Rep a cap l) (hl : 0 < l.length)
    (hop : setSlot a (l.length - 1) none = some a') : TailCleared a' (l.length - 1) :=
  tailCleared_of_rep (slots_refine_zero h hl) hop (by simp)

example : setSlot [some 1, some 2, none] 1 none = some [some 1, none, none] := by decide +kernel

/-- `xslices.Clear(a[len l:])` behind a prefix that holds `l`, whatever was behind it. -/
theorem slots_refine_clear {a : Slots α} {cap : Nat} {l : List α} (hlen : a.length = cap)
    (hpre : a.take l.length = l.map some) (hl : l.length ≤ cap) :
    ∃ a', clearFrom a l.length = some a' ∧ Rep a' cap l :=
  ⟨_, clearFrom_eq (by omega), Juniper.Proofs.Tree.clean_clearFrom_prefix hlen hpre hl⟩

theorem tail_cleared_clear {a a' : Slots α} {lo : Nat} (hop : clearFrom a lo = some a') : TailCleared a' lo := by
  obtain ⟨hlo, e⟩ := Option.ite_none_right_eq_some.mp hop
  cases e
  intro i h1 h2
  have hl : (a.take lo).length = lo := by rw [List.length_take]; omega
  rw [List.length_append, hl, List.length_replicate] at h2
  rw [List.getElem?_append_right (by omega), hl, List.getElem?_replicate, if_pos (by omega)]

example : clearFrom [some 1, some 2, some 7, some 8] 2 = some [some 1, some 2, none, none] := by decide +kernel

/-- `copy(dst[len l:], src[:len r])` (`mergeTwo`) = append. -/
theorem slots_refine_copy {dst src : Slots α} {cap cap' : Nat} {l r : List α} (hd : Rep dst cap l)
    (hs : Rep src cap' r) (hfit : l.length + r.length ≤ cap) :
    ∃ a', copySlots dst l.length dst.length src 0 r.length = some a' ∧ Rep a' cap (l ++ r) :=
  rep_copy_append hd hs hfit

theorem tail_cleared_copy {dst src a' : Slots α} {cap cap' : Nat} {l r : List α} (hd : Rep dst cap l)
    (hs : Rep src cap' r) (hfit : l.length + r.length ≤ cap)
    (hop : copySlots dst l.length dst.length src 0 r.length = some a') : TailCleared a' (l.length + r.length) :=
  tailCleared_of_rep (slots_refine_copy hd hs hfit) hop (by simp)

example : copySlots [some 1, none, none, none] 1 4 [some 5, some 6, none] 0 2 = some [some 1, some 5, some 6, none] := by
  decide +kernel

/-! ## the node-level operations -/

/-- a node whose arrays represent some entries and children has cleared tails -/
theorem tail_cleared_of_rep {x : SNode K V C} {kvs : List (K × V)} {kids : List C} (h : NodeRep x kvs kids) :
    TailOK x := h.tailOK

/-- `insertIntoLeaf`. -/
theorem slots_refine_leafInsert {x : SNode K V C} {kvs : List (K × V)} (h : NodeRep x kvs [])
    {idx : Nat} (hidx : idx ≤ kvs.length) (hroom : kvs.length < keysCap) (k : K) (v : V) :
    ∃ x', leafInsert x idx k v = some x' ∧ NodeRep x' (kvs.take idx ++ (k, v) :: kvs.drop idx) [] :=
  (leafInsert_rep h hidx hroom k v (by decide)).imp fun _ => And.left

theorem tail_cleared_leafInsert {x x' : SNode K V C} {kvs : List (K × V)} (h : NodeRep x kvs [])
    {idx : Nat} (hidx : idx ≤ kvs.length) (hroom : kvs.length < keysCap) (k : K) (v : V)
    (hop : leafInsert x idx k v = some x') : TailOK x' :=
  (clean_of_rep ((leafInsert_rep h hidx hroom k v (by decide)).imp fun _ => And.left) hop).tailOK

example : leafInsert (mkNode [(1, 10), (3, 30)] ([] : List Nat)) 1 2 20 = some (mkNode [(1, 10), (2, 20), (3, 30)] []) := by
  decide +kernel

/-- `Put` on a present key / the replacement write of `Delete`'s inner branch. -/
theorem slots_refine_replaceEntry {x : SNode K V C} {kvs : List (K × V)} {kids : List C} (h : NodeRep x kvs kids)
    {idx : Nat} (hidx : idx < kvs.length) (k : K) (v : V) :
    ∃ x', replaceEntry x idx (some k) (some v) = some x' ∧
      NodeRep x' (kvs.take idx ++ (k, v) :: kvs.drop (idx + 1)) kids :=
  (replaceEntry_rep h hidx k v).imp fun _ => And.left

theorem slots_refine_setValue {x : SNode K V C} {kvs : List (K × V)} {kids : List C} (h : NodeRep x kvs kids)
    {idx : Nat} (hidx : idx < kvs.length) (v : V) :
    ∃ x', setValue x idx v = some x' ∧ NodeRep x' (kvs.take idx ++ ((kvs[idx]).1, v) :: kvs.drop (idx + 1)) kids :=
  (setValue_rep h hidx v).imp fun _ => And.left

theorem tail_cleared_replaceEntry {x x' : SNode K V C} {kvs : List (K × V)} {kids : List C} (h : NodeRep x kvs kids)
    {idx : Nat} (hidx : idx < kvs.length) (k : K) (v : V)
    (hop : replaceEntry x idx (some k) (some v) = some x') : TailOK x' :=
  (clean_of_rep (slots_refine_replaceEntry h hidx k v) hop).tailOK

example : replaceEntry (mkNode [(1, 10), (3, 30)] [7, 8, 9]) 1 (some 2) (some 20) = some (mkNode [(1, 10), (2, 20)] [7, 8, 9]) := by
  decide +kernel

/-- the leaf branch of `Delete`. -/
theorem slots_refine_leafRemove {x : SNode K V C} {kvs : List (K × V)} (h : NodeRep x kvs [])
    {idx : Nat} (hidx : idx < kvs.length) :
    ∃ x', leafRemove x idx = some x' ∧ NodeRep x' (kvs.take idx ++ kvs.drop (idx + 1)) [] :=
  (leafRemove_rep h hidx (by decide)).imp fun _ => And.left

theorem tail_cleared_leafRemove {x x' : SNode K V C} {kvs : List (K × V)} (h : NodeRep x kvs [])
    {idx : Nat} (hidx : idx < kvs.length) (hop : leafRemove x idx = some x') : TailOK x' :=
  (clean_of_rep ((leafRemove_rep h hidx (by decide)).imp fun _ => And.left) hop).tailOK

example : leafRemove (mkNode [(1, 10), (2, 20), (3, 30)] ([] : List Nat)) 2 = some (mkNode [(1, 10), (2, 20)] []) := by decide +kernel

/-- `removeRightmost` on the leaf it arrives at: returns the last entry, which is gone from the leaf. -/
theorem slots_refine_removeRightmost {x : SNode K V C} {kvs : List (K × V)} (h : NodeRep x kvs []) (hne : kvs ≠ []) :
    ∃ x', removeRightmostAt x = some (some (kvs.getLast hne).1, some (kvs.getLast hne).2, x') ∧
      NodeRep x' kvs.dropLast [] :=
  (removeRightmostAt_rep h hne (by decide)).imp fun _ => And.left

theorem tail_cleared_removeRightmost {x x' : SNode K V C} {kvs : List (K × V)} (h : NodeRep x kvs []) (hne : kvs ≠ [])
    {k : Option K} {v : Option V} (hop : removeRightmostAt x = some (k, v, x')) : TailOK x' := by
  obtain ⟨x'', ⟨h1, h2⟩, -⟩ := removeRightmostAt_rep h hne (by decide)
  rw [hop] at h1; cases h1; exact h2.tailOK

example : removeRightmostAt (mkNode [(1, 10), (2, 20)] ([] : List Nat)) = some (some 2, some 20, mkNode [(1, 10)] []) := by
  decide +kernel

/-- the split in `overfill` (amalgam, both halves, the three `Clear` calls), leaf case: the entries
`kvs` with `(k, v)` inserted at `e` are cut at `medianIdx`; the left half stays in the node, the
separator goes up, the right half is a fresh node. -/
theorem slots_refine_split_leaf {x : SNode K V C} {kvs : List (K × V)} (h : NodeRep x kvs [])
    (hfull : kvs.length = keysCap) {e : Nat} (he : e ≤ keysCap) (k : K) (v : V) (afterK : Option C) :
    ∃ l' r', splitNode x e (some k) (some v) afterK =
        some (l', ((kvs.take e ++ (k, v) :: kvs.drop e)[Tree.medianIdx.toNat]?).map (·.1),
              ((kvs.take e ++ (k, v) :: kvs.drop e)[Tree.medianIdx.toNat]?).map (·.2), r') ∧
      NodeRep l' ((kvs.take e ++ (k, v) :: kvs.drop e).take Tree.medianIdx.toNat) [] ∧
      NodeRep r' ((kvs.take e ++ (k, v) :: kvs.drop e).drop (Tree.medianIdx.toNat + 1)) [] :=
  let ⟨l', r', h, _⟩ := splitNode_rep (allc := []) h hfull he k v (afterK := afterK) (Or.inl ⟨rfl, rfl⟩) (by decide)
  ⟨l', r', h⟩

/-- the split of an internal node: additionally the children with `r` inserted behind position `e`
are cut behind `medianIdx`. -/
theorem slots_refine_split_inner {x : SNode K V C} {kvs : List (K × V)} {kids : List C} (h : NodeRep x kvs kids)
    (hfull : kvs.length = keysCap) (hint : kids.length = kvs.length + 1)
    {e : Nat} (he : e ≤ keysCap) (k : K) (v : V) (r : C) :
    ∃ l' r', splitNode x e (some k) (some v) (some r) =
        some (l', ((kvs.take e ++ (k, v) :: kvs.drop e)[Tree.medianIdx.toNat]?).map (·.1),
              ((kvs.take e ++ (k, v) :: kvs.drop e)[Tree.medianIdx.toNat]?).map (·.2), r') ∧
      NodeRep l' ((kvs.take e ++ (k, v) :: kvs.drop e).take Tree.medianIdx.toNat)
        ((kids.take (e + 1) ++ r :: kids.drop (e + 1)).take (Tree.medianIdx.toNat + 1)) ∧
      NodeRep r' ((kvs.take e ++ (k, v) :: kvs.drop e).drop (Tree.medianIdx.toNat + 1))
        ((kids.take (e + 1) ++ r :: kids.drop (e + 1)).drop (Tree.medianIdx.toNat + 1)) :=
  let ⟨l', r', h, _⟩ := splitNode_rep h hfull he k v (Or.inr ⟨hint, by decide, r, rfl, rfl⟩) (by decide)
  ⟨l', r', h⟩

theorem tail_cleared_split {x l' r' : SNode K V C} {kvs : List (K × V)} {kids : List C} (h : NodeRep x kvs kids)
    (hfull : kvs.length = keysCap) {e : Nat} (he : e ≤ keysCap) (k : K) (v : V) (afterK : Option C)
    (hkind : kids = [] ∨ afterK.isSome = true) {sk : Option K} {sv : Option V}
    (hop : splitNode x e (some k) (some v) afterK = some (l', sk, sv, r')) : TailOK l' ∧ TailOK r' := by
  obtain ⟨allc, hk⟩ := split_kinds h e hkind (by decide)
  obtain ⟨l'', r'', ⟨h1, h2, h3⟩, -⟩ :=
    splitNode_rep h hfull he k v hk (by decide)
  rw [hop] at h1; cases h1; exact ⟨h2.tailOK, h3.tailOK⟩

/-- a full leaf `10,20,…,150` split by the new key `75`: left keeps 8 entries, `80` goes up, right gets 7 -/
example :
    splitNode (mkNode ((List.range 15).map fun i => (10 * (i + 1), i)) ([] : List Nat)) 7 (some 75) (some 99) none =
      some (mkNode ((((List.range 15).map fun i => (10 * (i + 1), i)).take 7) ++ [(75, 99)]) [], some 80, some 7,
            mkNode (((List.range 15).map fun i => (10 * (i + 1), i)).drop 8) []) := by decide +kernel

/-- a full internal node (children `100…115`) split when its child 3 has split off the new node `200` -/
example :
    (splitNode (mkNode ((List.range 15).map fun i => (10 * (i + 1), i)) ((List.range 16).map (· + 100))) 3
        (some 35) (some 99) (some 200)).map (fun r => (r.1.n, r.1.kids.take 10, r.2.1, r.2.2.2.n, r.2.2.2.kids.take 9)) =
      some (8, [some 100, some 101, some 102, some 103, some 200, some 104, some 105, some 106, some 107, none],
            some 80, 7, [some 108, some 109, some 110, some 111, some 112, some 113, some 114, some 115, none]) := by
  decide +kernel

/-- the new root made by `overfill`. -/
theorem slots_refine_newRoot (k : K) (v : V) (l r : C) :
    ∃ x' : SNode K V C, newRootNode (some k) (some v) l r = some x' ∧ NodeRep x' [(k, v)] [l, r] :=
  (newRootNode_rep k v l r).imp fun _ => And.left

theorem tail_cleared_newRoot {x' : SNode K V C} (k : K) (v : V) (l r : C)
    (hop : newRootNode (some k) (some v) l r = some x') : TailOK x' :=
  (clean_of_rep (slots_refine_newRoot k v l r) hop).tailOK

example : newRootNode (some 5) (some 50) 1 2 = some ({ mkNode [(5, 50)] [1, 2] with } : SNode Nat Nat Nat) := by decide +kernel

/-- separator insert: `overfill` with a parent that has room. -/
theorem slots_refine_separatorInsert {p : SNode K V C} {kvs : List (K × V)} {kids : List C} (h : NodeRep p kvs kids)
    (hint : kids.length = kvs.length + 1) {idx : Nat} (hidx : idx ≤ kvs.length) (hroom : kvs.length < keysCap)
    (k : K) (v : V) (r : C) :
    ∃ p', parentInsert p idx (some k) (some v) r = some p' ∧
      NodeRep p' (kvs.take idx ++ (k, v) :: kvs.drop idx) (kids.take (idx + 1) ++ r :: kids.drop (idx + 1)) :=
  (parentInsert_rep h hint hidx hroom k v r (by decide)).imp fun _ => And.left

theorem tail_cleared_separatorInsert {p p' : SNode K V C} {kvs : List (K × V)} {kids : List C} (h : NodeRep p kvs kids)
    (hint : kids.length = kvs.length + 1) {idx : Nat} (hidx : idx ≤ kvs.length) (hroom : kvs.length < keysCap)
    (k : K) (v : V) (r : C) (hop : parentInsert p idx (some k) (some v) r = some p') : TailOK p' :=
  (clean_of_rep ((parentInsert_rep h hint hidx hroom k v r (by decide)).imp fun _ => And.left) hop).tailOK

example : parentInsert (mkNode [(10, 1), (30, 3)] [100, 101, 102]) 1 (some 20) (some 2) 200 =
    some (mkNode [(10, 1), (20, 2), (30, 3)] [100, 101, 200, 102]) := by decide +kernel

/-- `mergeTwo` incl. the separator removal from the parent: the right node's entries and children move
behind the separator into the left node, the parent loses the separator and the child pointer to the
right node (which is thereby unlinked; its `n` is set to 0). -/
theorem slots_refine_mergeTwo {p l r : SNode K V C} {pkvs lkvs rkvs : List (K × V)} {pkids lkids rkids : List C}
    (hp : NodeRep p pkvs pkids) (hl : NodeRep l lkvs lkids) (hr : NodeRep r rkvs rkids)
    (hpint : pkids.length = pkvs.length + 1) (hkind : lkids = [] ↔ rkids = [])
    {idx : Nat} (hidx : idx < pkvs.length) (hfit : lkvs.length + 1 + rkvs.length ≤ keysCap) :
    ∃ p' l' r', mergeNodes p l r idx = some (p', l', r') ∧
      NodeRep p' (pkvs.take idx ++ pkvs.drop (idx + 1)) (pkids.take (idx + 1) ++ pkids.drop (idx + 2)) ∧
      NodeRep l' (lkvs ++ pkvs[idx] :: rkvs) (lkids ++ rkids) ∧ r'.n = 0 :=
  let ⟨p', l', r', h, _⟩ := mergeNodes_rep hp hl hr hpint hkind hidx hfit (by decide)
  ⟨p', l', r', h⟩

theorem tail_cleared_mergeTwo {p l r p' l' r' : SNode K V C} {pkvs lkvs rkvs : List (K × V)} {pkids lkids rkids : List C}
    (hp : NodeRep p pkvs pkids) (hl : NodeRep l lkvs lkids) (hr : NodeRep r rkvs rkids)
    (hpint : pkids.length = pkvs.length + 1) (hkind : lkids = [] ↔ rkids = [])
    {idx : Nat} (hidx : idx < pkvs.length) (hfit : lkvs.length + 1 + rkvs.length ≤ keysCap)
    (hop : mergeNodes p l r idx = some (p', l', r')) : TailOK p' ∧ TailOK l' := by
  obtain ⟨p'', l'', r'', ⟨h1, h2, h3, _⟩, -⟩ := mergeNodes_rep hp hl hr hpint hkind hidx hfit (by decide)
  rw [hop] at h1; cases h1; exact ⟨h2.tailOK, h3.tailOK⟩

/-- two internal siblings merged under a parent with three children -/
example :
    (mergeNodes (mkNode [(30, 3), (60, 6)] [100, 101, 102]) (mkNode [(10, 1), (20, 2)] [1, 2, 3])
        (mkNode [(40, 4)] [4, 5]) 0).map (fun r => (r.1, r.2.1, r.2.2.n)) =
      some (mkNode [(60, 6)] [100, 102], mkNode [(10, 1), (20, 2), (30, 3), (40, 4)] [1, 2, 3, 4, 5], 0) := by decide +kernel

/-- `rotateRight` (steal from the left sibling): the left sibling's last entry goes up, the old
separator goes to the front of the right node together with the left sibling's last child — and the
left sibling no longer references any of them. -/
theorem slots_refine_rotateRight {p l r : SNode K V C} {pkvs lkvs rkvs : List (K × V)} {pkids lkids rkids : List C}
    (hp : NodeRep p pkvs pkids) (hl : NodeRep l lkvs lkids) (hr : NodeRep r rkvs rkids)
    (hkind : lkids = [] ↔ rkids = [])
    {idx : Nat} (hidx : idx < pkvs.length) (hlne : lkvs ≠ []) (hroom : rkvs.length < keysCap) :
    ∃ p' l' r', rotateRightNodes p l r idx = some (p', l', r', lkids.getLast?) ∧
      NodeRep p' (pkvs.take idx ++ lkvs.getLast hlne :: pkvs.drop (idx + 1)) pkids ∧
      NodeRep l' lkvs.dropLast lkids.dropLast ∧
      NodeRep r' (pkvs[idx] :: rkvs) (lkids.getLast?.toList ++ rkids) :=
  let ⟨p', l', r', h, _⟩ := rotateRightNodes_rep hp hl hr hkind hidx hlne hroom (by decide)
  ⟨p', l', r', h⟩

theorem tail_cleared_rotateRight {p l r p' l' r' : SNode K V C} {pkvs lkvs rkvs : List (K × V)} {pkids lkids rkids : List C}
    (hp : NodeRep p pkvs pkids) (hl : NodeRep l lkvs lkids) (hr : NodeRep r rkvs rkids)
    (hkind : lkids = [] ↔ rkids = [])
    {idx : Nat} (hidx : idx < pkvs.length) (hlne : lkvs ≠ []) (hroom : rkvs.length < keysCap) {c : Option C}
    (hop : rotateRightNodes p l r idx = some (p', l', r', c)) : TailOK p' ∧ TailOK l' ∧ TailOK r' := by
  obtain ⟨p'', l'', r'', ⟨h1, h2, h3, h4⟩, -⟩ := rotateRightNodes_rep hp hl hr hkind hidx hlne hroom (by decide)
  rw [hop] at h1; cases h1; exact ⟨h2.tailOK, h3.tailOK, h4.tailOK⟩

/-- an internal-level steal from the left sibling: child `3` changes sides and `l.children[2]` is nil afterwards -/
example :
    rotateRightNodes (mkNode [(30, 3)] [100, 101]) (mkNode [(10, 1), (20, 2)] [1, 2, 3]) (mkNode [(40, 4)] [4, 5]) 0 =
      some (mkNode [(20, 2)] [100, 101], mkNode [(10, 1)] [1, 2], mkNode [(30, 3), (40, 4)] [3, 4, 5], some 3) := by decide +kernel

/-- `rotateLeft` (steal from the right sibling; `idx` = position of the right node in the parent). -/
theorem slots_refine_rotateLeft {p l r : SNode K V C} {pkvs lkvs rkvs : List (K × V)} {pkids lkids rkids : List C}
    (hp : NodeRep p pkvs pkids) (hl : NodeRep l lkvs lkids) (hr : NodeRep r rkvs rkids)
    (hkind : lkids = [] ↔ rkids = [])
    {idx : Nat} (hidx0 : 0 < idx) (hidx : idx ≤ pkvs.length) (hrne : rkvs ≠ []) (hroom : lkvs.length < keysCap) :
    ∃ p' l' r', rotateLeftNodes p l r idx = some (p', l', r', rkids.head?) ∧
      NodeRep p' (pkvs.take (idx - 1) ++ rkvs.head hrne :: pkvs.drop idx) pkids ∧
      NodeRep l' (lkvs ++ [pkvs[idx - 1]]) (lkids ++ rkids.take 1) ∧
      NodeRep r' (rkvs.drop 1) (rkids.drop 1) :=
  let ⟨p', l', r', h, _⟩ := rotateLeftNodes_rep hp hl hr hkind hidx0 hidx hrne hroom (by decide)
  ⟨p', l', r', h⟩

theorem tail_cleared_rotateLeft {p l r p' l' r' : SNode K V C} {pkvs lkvs rkvs : List (K × V)} {pkids lkids rkids : List C}
    (hp : NodeRep p pkvs pkids) (hl : NodeRep l lkvs lkids) (hr : NodeRep r rkvs rkids)
    (hkind : lkids = [] ↔ rkids = [])
    {idx : Nat} (hidx0 : 0 < idx) (hidx : idx ≤ pkvs.length) (hrne : rkvs ≠ []) (hroom : lkvs.length < keysCap)
    {c : Option C} (hop : rotateLeftNodes p l r idx = some (p', l', r', c)) : TailOK p' ∧ TailOK l' ∧ TailOK r' := by
  obtain ⟨p'', l'', r'', ⟨h1, h2, h3, h4⟩, -⟩ := rotateLeftNodes_rep hp hl hr hkind hidx0 hidx hrne hroom (by decide)
  rw [hop] at h1; cases h1; exact ⟨h2.tailOK, h3.tailOK, h4.tailOK⟩

example :
    rotateLeftNodes (mkNode [(30, 3)] [100, 101]) (mkNode [(10, 1)] [1, 2]) (mkNode [(40, 4), (50, 5)] [3, 4, 5]) 1 =
      some (mkNode [(40, 4)] [100, 101], mkNode [(10, 1), (30, 3)] [1, 2, 3], mkNode [(50, 5)] [4, 5], some 3) := by decide +kernel

/-! ## histories -/

/-- **No retained slots, node-level histories.** Start from `newBtree`'s empty root and apply any
sequence of node-level operations, each within its documented precondition (`applyOp`); then in every
node object that has not been unlinked every key and value slot from `n` on is zero, and the node
either is a leaf with all child slots zero or its child slots from `n + 1` on are zero (`TailOK`) — and, the
invariant that is actually carried (audit C03S-F3: `TailOK` alone says nothing about the live prefixes and would
admit a "leaf" with `n = 3` whose child slots 1..3 still hold pointers): the node *represents* some entries and
children (`NodeRep`): its `n` key, `n` value and `0` or `n + 1` child slots in front are non-zero, all others zero.
Needs every zeroing / clearing / shifting statement of `btree.go` to be present (`ZeroingPresent`, the
conjunction of the generated presence facts). -/
theorem no_retained_slots (ops : List (NodeOp K V C)) {fam : Fam K V C}
    (hrun : runOps [some SNode.fresh] ops = some fam) :
    ∀ x, some x ∈ fam → (∃ kvs kids, NodeRep x kvs kids) ∧ TailOK x := by
  have hf : ZeroingPresent := by decide
  exact fun x hx => ⟨runOps_clean hf ops .fresh hrun x hx, (runOps_clean hf ops .fresh hrun x hx).tailOK⟩

/-- a history through a leaf split, a new root, steals in both directions and a merge is enabled -/
example :
    (runOps ([some SNode.fresh] : Fam Nat Nat Nat)
      ((List.range 15).map (fun i => NodeOp.leafInsert 0 i (10 * (i + 1)) i) ++
       [.split 0 15 160 15 none, .newRoot 90 8 0 1, .setParent 0 (some 2), .setValue 2 0 88, .leafRemove 1 0,
        .rotateRight 2 0 1 0, .rotateLeft 2 0 1 1, .removeRightmost 1, .replaceEntry 2 0 85 5, .mergeTwo 2 0 1 0,
        .drop 2])).isSome = true := by
  decide +kernel

/-- **No retained slots, whole tree.** After every history of `Put`s and `Delete`s on the heap model
(`Heap.put` / `Heap.delete`: the transliteration of `btree.Put` / `btree.Delete` with parent pointers
that the correspondence harness compares with the real `tree.Map` raw slot by raw slot, and that
changes its store only through enabled node-level operations), every node object of the store that
has not been unlinked — in particular every node reachable from the root — represents some entries and children
(`NodeRep`: non-zero live prefixes of the right lengths) and has only zero slots behind its live prefixes. (`none` = the model hit a nil dereference / index out of range or left the
documented precondition of a helper; the harness checks that model and code agree on the outcome.) -/
theorem no_retained_slots_tree (cmp : K → K → Int) (ms : List (Heap.Mut K V)) {h : Heap K V}
    (hrun : Heap.runMuts cmp Heap.empty ms = some h) :
    ∀ id x, h.get id = some x → (∃ kvs kids, NodeRep x kvs kids) ∧ TailOK x := by
  have hf : ZeroingPresent := by decide
  intro id x hx
  exact ⟨(runMuts_clean hf cmp ms .fresh hrun).get hx, ((runMuts_clean hf cmp ms .fresh hrun).get hx).tailOK⟩

/-- what `NodeRep` adds to `TailOK` (audit C03S-F3): a "leaf" (`children[0] == nil`) with three entries whose child
slots 1..3 still hold pointers has cleared tails in the sense of `TailOK`, but represents no node — so it is excluded
by the conclusions of `no_retained_slots` / `no_retained_slots_tree`, not merely by the invariant inside their proofs. -/
example : let bad : SNode Nat Nat Nat :=
      { n := 3, keys := [some 1, some 2, some 3] ++ List.replicate 12 none,
        vals := [some 1, some 2, some 3] ++ List.replicate 12 none,
        kids := [none, some 7, some 8, some 9] ++ List.replicate 12 none, parent := none }
    bad.isLeaf = true ∧ ¬ ∃ kvs kids, NodeRep bad kvs kids := by
  refine ⟨by decide, ?_⟩
  rintro ⟨kvs, kids, h⟩
  have hl : kvs.length = 3 := by have := h.hn; simp at this; omega
  have hk : kids = [] := (h.isLeaf_iff).mp (by decide)
  subst hk
  have := h.hkids.get_tail (i := 1) (by simp) (by decide)
  simp at this

/-- 16 `Put`s (leaf split, new root), then two `Delete`s: a steal from the left sibling and a merge
with root collapse; one live node with 14 entries remains -/
example :
    (Heap.runMuts (fun a b : Int => a - b) (Heap.empty : Heap Int Int)
      ((List.range 16).map (fun (i : Nat) => Heap.Mut.put (10 * ((i : Int) + 1)) (i : Int)) ++ [.del 160, .del 150])).map
        (fun h => (h.size, h.live, h.events.reverse)) =
      some (14, [0], ["split-leaf", "newroot", "rotr-leaf", "merge-leaf", "collapse"]) := by
  decide +kernel

end Juniper.Props.C03Slots
