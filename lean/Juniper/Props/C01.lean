import Juniper.Proofs.TreeOps
import Juniper.Proofs.TreeSkel
import Juniper.Proofs.TreeHandle
/-!
# C01 — tree.Map/Set answer every call exactly like an ideal sorted map (property theorems)

Only property theorems and their non-vacuity examples live here; helper lemmas are in
`Juniper/Proofs/Tree*.lean`.
-/
namespace Juniper.Props.C01
open Juniper.Gen.Tree Juniper.Model.BTree Juniper.Proofs.Tree
open Juniper.Model.TreeHandle Juniper.Proofs.TreeHandle

variable {K : Type}

/-- `xsort.LessCompare` (the generated closure body) turns a strict weak order given as `less` into a
three-way comparison that is a strict weak order in the sense the B-tree relies on: `NewMap(less)` and
`NewMapCmp(cmp)` therefore build the same kind of tree. -/
theorem lessCompare_transCmp (less : K → K → Bool) (h : StrictWeakLess less) :
    StrictWeak (lessCmp less) := by
  have asym : ∀ a b, less a b = true → less b a = false := by
    intro a b hab
    cases hba : less b a with
    | false => rfl
    | true => have := h.trans a b a hab hba; rw [h.irrefl] at this; cases this
  -- "not less" is transitive
  have neg : ∀ a b c, less b a = false → less c b = false → less c a = false := by
    intro a b c hba hcb
    cases hca : less c a with
    | false => rfl
    | true =>
      cases hbc : less b c with
      | true => have := h.trans b c a hbc hca; rw [hba] at this; cases this
      | false =>
        cases hab : less a b with
        | true => have := h.trans c a b hca hab; rw [hcb] at this; cases this
        | false => have := (h.incomp_trans a b c hab hba hbc hcb).2; rw [hca] at this; cases this
  -- `a ≤ b` in the three-way comparison says "`b` is not less than `a`"
  have le : ∀ a b, lessCmp less a b ≤ 0 ↔ less b a = false := by
    intro a b
    unfold lessCmp lessCompare
    cases hab : less a b <;> cases hba : less b a <;> simp
    have := asym a b hab; rw [hba] at this; cases this
  constructor
  · intro a b
    unfold lessCmp lessCompare
    cases hab : less a b <;> cases hba : less b a <;> simp
    have := asym a b hab; rw [hba] at this; cases this
  · intro a b c h1 h2
    rw [le] at h1 h2 ⊢
    exact neg a b c h1 h2

/-- non-vacuity: the natural `<` on `Int` is a strict weak `less`. -/
example : StrictWeakLess (fun a b : Int => decide (a < b)) :=
  ⟨by simp, by intro a b c; simp; omega, by intro a b c; simp; omega⟩

/-- the comparison computed by `LessCompare` has exactly the sign the order dictates. -/
theorem lessCompare_sign (less : K → K → Bool) (a b : K) :
    (lessCmp less a b < 0 ↔ less a b = true) ∧
    (lessCmp less a b = 0 ↔ (less a b = false ∧ less b a = false)) := by
  unfold lessCmp lessCompare
  cases hab : less a b <;> cases hba : less b a <;> simp

variable {V : Type}

/-- `Put` on a well-formed tree does what the ideal sorted map does: the in-order contents afterwards
are `sput` of the contents before (value of the equivalent key replaced, the stored key kept; else the
entry inserted in order), and the tree stays well formed. -/
theorem put_refines (cmp : K → K → Int) (hc : StrictWeak cmp) (t : Tree K V) (k : K) (v : V) (hw : WF cmp t) :
    ∃ t', put cmp t k v = some t' ∧ WF cmp t' ∧ toList t'.root = sput cmp k v (toList t.root) := by
  obtain ⟨t', h1, h2, h3, -⟩ := put_refines_wf hc t k v hw
  exact ⟨t', h1, h2, h3⟩

/-- `Len` is the number of distinct keys stored. -/
theorem len_refines (cmp : K → K → Int) (t : Tree K V) (hw : WF cmp t) : len t = (toList t.root).length :=
  hw.size

/-- `Delete` on a well-formed tree removes exactly the entry with the equivalent key (`serase`) and
keeps the tree well formed. (`hid`: the node objects are pairwise distinct.) -/
theorem delete_refines (cmp : K → K → Int) (hc : StrictWeak cmp) (t : Tree K V) (k : K) (hw : WF cmp t)
    (hid : (ids t.root).Nodup) :
    ∃ t', delete cmp t k = some t' ∧ WF cmp t' ∧ toList t'.root = serase cmp k (toList t.root) := by
  obtain ⟨t', h1, h2, h3, -⟩ := delete_refines_wf hc t k hw hid
  exact ⟨t', h1, h2, h3⟩

/-- `Get` returns the value last put under an equivalent key (`none` = the zero value). -/
theorem get_refines (cmp : K → K → Int) (hc : StrictWeak cmp) (t : Tree K V) (k : K) (hw : WF cmp t) :
    get cmp t k = (sget cmp k (toList t.root)).map (·.2) :=
  congrArg (Option.map Prod.snd) (hw.lookup hc k)

theorem contains_refines (cmp : K → K → Int) (hc : StrictWeak cmp) (t : Tree K V) (k : K) (hw : WF cmp t) :
    contains cmp t k = (sget cmp k (toList t.root)).isSome :=
  congrArg Option.isSome (hw.lookup hc k)

/-- `First` is the least entry (`none` = zero values, exactly when the map is empty). -/
theorem first_refines (cmp : K → K → Int) (t : Tree K V) (hw : WF cmp t) : first t = (toList t.root).head? :=
  first_eq_head hw.bal

/-- `Last` is the greatest entry. -/
theorem last_refines (cmp : K → K → Int) (t : Tree K V) (hw : WF cmp t) : last t = (toList t.root).getLast? :=
  last_eq_getLast hw.bal

/-- `Range(lo, hi)` on a tree that is not modified meanwhile yields exactly the entries inside the
bounds — for all 9 pairs of `Included`/`Excluded`/`Unbounded` and any bound positions (inverted bounds
give the empty list) — once each, in ascending key order, with their current values. The seek per
lower-bound kind and the `While` predicate per upper-bound kind are the generated switch tables. -/
theorem range_refines (cmp : K → K → Int) (hc : StrictWeak cmp) (t : Tree K V) (hi : Inv cmp t) (lo hi' : Bound K)
    (hlk : lo.kind ≠ none) (hhk : hi'.kind ≠ none) :
    ∃ it, range cmp t lo hi' = some it ∧ ∀ fuel, (toList t.root).length < fuel →
      drain cmp t fuel it = (srange cmp lo hi' (toList t.root)).map outOf :=
  range_refines_fwd hc hi lo hi' hlk hhk

/-- `RangeReverse(lo, hi)`: the same entries in descending order. -/
theorem rangeRev_refines (cmp : K → K → Int) (hc : StrictWeak cmp) (t : Tree K V) (hi : Inv cmp t) (lo hi' : Bound K)
    (hlk : lo.kind ≠ none) (hhk : hi'.kind ≠ none) :
    ∃ it, rangeReverse cmp t lo hi' = some it ∧ ∀ fuel, (toList t.root).length < fuel →
      drain cmp t fuel it = ((srange cmp lo hi' (toList t.root)).reverse).map outOf :=
  Juniper.Proofs.Tree.rangeRev_refines hc hi lo hi' hlk hhk

/-- the ideal range is what the property says: a sublist of the contents (each entry at most once, in
order) containing exactly the entries whose key is inside the bounds -/
theorem srange_spec (cmp : K → K → Int) (lo hi : Bound K) (L : List (K × V)) :
    (srange cmp lo hi L).Sublist L ∧
    ∀ e, e ∈ srange cmp lo hi L ↔ e ∈ L ∧ aboveLo cmp lo e.1 = true ∧ belowHi cmp hi e.1 = true := by
  refine ⟨List.filter_sublist, fun e => ?_⟩
  simp [srange, List.mem_filter]

/-- `Iterate` is `Range(Unbounded, Unbounded)` (generated forwarding fact) and yields the whole map. -/
theorem iterate_eq_range_unbounded (cmp : K → K → Int) (hc : StrictWeak cmp) (t : Tree K V) (hi : Inv cmp t) (k0 : K) :
    mapForwards = true ∧ setForwards = true ∧
    ∃ it, range cmp t ⟨some .unb, k0⟩ ⟨some .unb, k0⟩ = some it ∧ ∀ fuel, (toList t.root).length < fuel →
      drain cmp t fuel it = (toList t.root).map outOf := by
  refine ⟨by decide, by decide, ?_⟩
  obtain ⟨it, h1, h2⟩ := range_refines_fwd hc hi ⟨some .unb, k0⟩ ⟨some .unb, k0⟩ (by simp) (by simp)
  refine ⟨it, h1, fun fuel hf => ?_⟩
  rw [h2 fuel hf]
  have : srange cmp ⟨some .unb, k0⟩ ⟨some .unb, k0⟩ (toList t.root) = toList t.root := by
    unfold srange; apply List.filter_eq_self.mpr; intro e _; simp [aboveLo, belowHi]
  rw [this]

/-- **Every history.** Running any sequence of `Put`/`Delete`/`Get`/`Contains`/`Len`/`First`/`Last`/
`Range`/`RangeReverse` calls (any bounds) on the model from the empty tree and on the ideal sorted map
from the empty list gives the same outputs call by call; no call dereferences a nil pointer; the only
panics are the "unknown bound" panics of a zero `Bound`. -/
theorem history_refines (cmp : K → K → Int) (hc : StrictWeak cmp) (os : List (Op K V)) :
    ∃ t' outs, runOps cmp (Tree.empty : Tree K V) os = some (t', outs) ∧
      specOps cmp ([] : List (K × V)) os = (toList t'.root, outs) := by
  obtain ⟨t', outs, h1, _, h3⟩ := runOps_refines hc os Tree.empty (inv_empty cmp)
  exact ⟨t', outs, h1, by simpa [Tree.empty] using h3⟩

/-- non-vacuity of `history_refines`: a concrete history on `Int` keys with the natural order. -/
example : ∃ t' : Tree Int Int, ∃ outs,
    runOps (fun a b => a - b) Tree.empty [.put 2 20, .put 1 10, .put 2 21, .get 2, .len, .first] = some (t', outs) ∧
      toList t'.root = [(1, 10), (2, 21)] := by
  have hc := strictWeak_intSub
  obtain ⟨t', outs, h1, h2⟩ := history_refines (V := Int) _ hc [.put 2 20, .put 1 10, .put 2 21, .get 2, .len, .first]
  refine ⟨t', outs, h1, ?_⟩
  have := congrArg Prod.fst h2
  simp [specOps, specOp, sput] at this
  exact this.symm

/-- non-vacuity with an order in which *equivalent* is coarser than *equal* (`coarse a b = a/10 - b/10`,
a strict weak order): `Put 17` overwrites the value stored under `12` and keeps the stored key `12`,
`Get 13` finds it. -/
example : StrictWeak coarse ∧ ∃ t' : Tree Int Int, ∃ outs,
    runOps coarse Tree.empty [.put 12 1, .put 17 2, .put 25 3, .get 13, .first, .last, .len] = some (t', outs) ∧
      toList t'.root = [(12, 2), (25, 3)] ∧
      outs = [.unit, .unit, .unit, .val (some 2), .entry (some (12, 2)), .entry (some (25, 3)), .int 2] := by
  refine ⟨coarse_strictWeak, ?_⟩
  obtain ⟨t', outs, h1, h2⟩ := history_refines (V := Int) coarse coarse_strictWeak
    [.put 12 1, .put 17 2, .put 25 3, .get 13, .first, .last, .len]
  refine ⟨t', outs, h1, ?_⟩
  have e : specOps coarse ([] : List (Int × Int)) [.put 12 1, .put 17 2, .put 25 3, .get 13, .first, .last, .len] =
      ([(12, 2), (25, 3)], [.unit, .unit, .unit, .val (some 2), .entry (some (12, 2)), .entry (some (25, 3)), .int 2]) := rfl
  rw [e] at h2
  exact ⟨(congrArg Prod.fst h2).symm, (congrArg Prod.snd h2).symm⟩

/-- non-vacuity on a tree of two levels: 20 ascending `Put`s split the root (`0 < height`), then a
`Delete`, a `Range` with an included and an excluded bound, a `RangeReverse` and `Len`. -/
example : ∃ t' : Tree Int Int, ∃ outs,
    runOps (fun a b => a - b) Tree.empty
      ((List.range 20).map (fun (i : Nat) => Op.put (i : Int) (10 * (i : Int))) ++
        [.del 3, .range ⟨some .incl, 2⟩ ⟨some .excl, 6⟩, .rrange ⟨some .unb, 0⟩ ⟨some .incl, 1⟩, .len]) = some (t', outs) ∧
      0 < height t'.root ∧
      outs.drop 20 = [.unit, .items [(2, some 20), (4, some 40), (5, some 50)], .items [(1, some 10), (0, some 0)], .int 19] := by
  have hc := strictWeak_intSub
  obtain ⟨t', outs, h1, hi, h2⟩ := runOps_refines hc
    ((List.range 20).map (fun (i : Nat) => Op.put (i : Int) (10 * (i : Int))) ++
      [.del 3, .range ⟨some .incl, 2⟩ ⟨some .excl, 6⟩, .rrange ⟨some .unb, 0⟩ ⟨some .incl, 1⟩, .len])
    (Tree.empty : Tree Int Int) (inv_empty _)
  have hl : ((toList t'.root).length : Int) = 19 :=
    (congrArg (fun p => (p.1.length : Int)) h2).symm.trans (by simp only [Tree.empty, toList_leaf]; rfl)
  have ho : outs.drop 20 =
      [.unit, .items [(2, some 20), (4, some 40), (5, some 50)], .items [(1, some 10), (0, some 0)], .int 19] :=
    (congrArg (fun p => p.2.drop 20) h2).symm.trans (by simp only [Tree.empty, toList_leaf]; rfl)
  exact ⟨t', outs, h1, height_pos_of_large hi.wf (by rw [hl]; decide), ho⟩

/-- the ideal sorted map is a map: after `sput k v`, a lookup under any key *equivalent* to `k` yields
`v` … -/
theorem sget_sput_same (cmp : K → K → Int) (hc : StrictWeak cmp) (k k' : K) (v : V) (L : List (K × V))
    (he : cmp k' k = 0) : (sget cmp k' (sput cmp k v L)).map (·.2) = some v := by
  induction L with
  | nil => simp [sput, sget, he]
  | cons x rest ih =>
    obtain ⟨a, va⟩ := x
    unfold sput
    split
    · simp [sget, he]
    · split
      · next h2 => simp [sget, hc.eq_trans he h2]
      · have h4 : 0 < cmp k' a := hc.gt_of_eq_of_gt he (by omega)
        rw [sget, if_neg (by omega), if_neg (by omega)]
        exact ih

/-- … and a lookup under a key that is not equivalent to `k` is unaffected. -/
theorem sget_sput_other (cmp : K → K → Int) (hc : StrictWeak cmp) (k k' : K) (v : V) (L : List (K × V))
    (hne : cmp k' k ≠ 0) : sget cmp k' (sput cmp k v L) = sget cmp k' L := by
  induction L with
  | nil => simp [sput, sget, hne]
  | cons x rest ih =>
    obtain ⟨a, va⟩ := x
    unfold sput
    split
    · next h1 =>
      -- `(k, v)` is put in front of `a`: a lookup that stops before `k` stops before `a` too
      rw [sget, if_neg hne]
      split
      · next h => rw [sget, if_pos (hc.lt_trans h h1)]
      · rfl
    · split
      · next h2 =>
        -- `a` is equivalent to `k`, so not to `k'`: only the value at `a` changes
        have h3 : cmp k' a ≠ 0 := fun e => hne (hc.eq_trans e (hc.eq_symm h2))
        simp only [sget, if_neg h3]
      · simp only [sget, ih]

example : sget (fun a b : Int => a - b) 2 (sput (fun a b : Int => a - b) 2 7 [(1, 10), (2, 20), (3, 30)]) = some (2, 7) ∧
    sget coarse 15 (sput coarse 11 7 [(1, 10), (12, 20), (31, 30)]) = some (12, 7) := ⟨rfl, rfl⟩

/-- A `Set` is a `Map` to `struct{}`: `Add`/`Remove`/`Contains`/`Len`/`First`/`Last`/`Range` forward to the
same B-tree operations (generated forwarding fact), so every theorem above holds with `V := Unit`. -/
theorem set_refines (cmp : K → K → Int) (hc : StrictWeak cmp) (os : List (Op K Unit)) :
    setForwards = true ∧ setIsHandle = true ∧
    ∃ t' outs, runOps cmp (Tree.empty : Tree K Unit) os = some (t', outs) ∧
      specOps cmp ([] : List (K × Unit)) os = (toList t'.root, outs) :=
  ⟨by decide, by decide, history_refines cmp hc os⟩

/-- **Copies of a `Map` value denote the same collection.** `m0` is the value a constructor returns
(`newHandle`: `Map{t: newBtree(…)}`, `newBtree` = `return &btree{…}`), `m1` a copy of it (`copyHandle`,
whose meaning is the generated `mapIsHandle`: one field, a pointer). Every history of exported calls,
each issued through either of the two values in any alternation (`true` = through the copy), is call
by call the history of the ONE shared tree (`runOps`, in which the alternation does not occur) and
hence of the ideal sorted map: whatever is done through one value is observed through the other.
Each exported method is interpreted by the generated text of its body (`mapBodies`); a `btree` method
updates the shared object only if its receiver — and that of every method writing `root`/`size`/`gen`
— is a pointer (generated `btreeRecvIsPtr`, `btreeWritesHeader`); with `func (t btree[K, V]) Put` the
model loses `size`, `gen` and a new root in the copy, and this theorem does not compile. -/
theorem map_copies_denote_same_collection (cmp : K → K → Int) (hc : StrictWeak cmp) (ctor : String)
    (hctor : ctor = "NewMap" ∨ ctor = "NewMapCmp") (os : List (Bool × Op K V)) :
    ∃ s0 m0 s1 m1 t' outs,
      newHandle ctor (Store.empty : Store K V) = some (s0, m0) ∧
      copyHandle mapIsHandle s0 m0 = some (s1, m1) ∧
      runVia (mapApply cmp) m0 m1 s1 os = some ({ objs := [t'] }, outs) ∧
      runOps cmp (Tree.empty : Tree K V) (os.map (·.2)) = some (t', outs) ∧
      specOps cmp ([] : List (K × V)) (os.map (·.2)) = (toList t'.root, outs) := by
  obtain ⟨hn, hcp⟩ := new_then_copy (K := K) (V := V) ctor
    (by rcases hctor with h | h <;> simp [h]) mapIsHandle (by decide) (by decide)
  obtain ⟨t', outs, h1, h2⟩ := history_refines cmp hc (os.map (·.2))
  refine ⟨_, _, _, _, t', outs, hn, hcp, ?_, h1, h2⟩
  have := runVia_eq_runOps cmp (fun o : Op K V => o) (mapApply cmp) (mapApply_eq cmp (by decide)) os Tree.empty
  rw [this, h1]; rfl

/-- non-vacuity: `Put` through the original, `Put` and `Delete` through the copy, reads through both. -/
example : ∃ s0 m0 s1 m1 t' outs,
    newHandle "NewMap" (Store.empty : Store Int Int) = some (s0, m0) ∧ copyHandle mapIsHandle s0 m0 = some (s1, m1) ∧
    runVia (mapApply (fun a b : Int => a - b)) m0 m1 s1
      [(false, .put 1 10), (true, .put 2 20), (false, .len), (true, .del 1), (false, .get 2), (true, .has 1)] =
        some ({ objs := [t'] }, outs) ∧
    toList t'.root = [(2, 20)] ∧ outs = [.unit, .unit, .int 2, .unit, .val (some 20), .bool false] := by
  have hc := strictWeak_intSub
  obtain ⟨s0, m0, s1, m1, t', outs, h1, h2, h3, _, h5⟩ := map_copies_denote_same_collection (V := Int) _ hc "NewMap"
    (Or.inl rfl) [(false, .put 1 10), (true, .put 2 20), (false, .len), (true, .del 1), (false, .get 2), (true, .has 1)]
  refine ⟨s0, m0, s1, m1, t', outs, h1, h2, h3, ?_⟩
  simp [specOps, specOp, sput, serase, sget] at h5
  exact ⟨h5.1.symm, h5.2.symm⟩

/-- **Copies of a `Set` value denote the same collection**: the same for `tree.Set` (`setIsHandle`,
`setBodies`; `Add`/`Remove`/`Contains`/`Len`/`First`/`Last`/`Range`/`RangeReverse`). -/
theorem set_copies_denote_same_collection (cmp : K → K → Int) (hc : StrictWeak cmp) (ctor : String)
    (hctor : ctor = "NewSet" ∨ ctor = "NewSetCmp") (os : List (Bool × SetOp K)) :
    ∃ s0 m0 s1 m1 t' outs,
      newHandle ctor (Store.empty : Store K Unit) = some (s0, m0) ∧
      copyHandle setIsHandle s0 m0 = some (s1, m1) ∧
      runVia (setApply cmp) m0 m1 s1 os = some ({ objs := [t'] }, outs) ∧
      runOps cmp (Tree.empty : Tree K Unit) (os.map (·.2.toOp)) = some (t', outs) ∧
      specOps cmp ([] : List (K × Unit)) (os.map (·.2.toOp)) = (toList t'.root, outs) := by
  obtain ⟨hn, hcp⟩ := new_then_copy (K := K) (V := Unit) ctor
    (by rcases hctor with h | h <;> simp [h]) setIsHandle (by decide) (by decide)
  obtain ⟨t', outs, h1, h2⟩ := history_refines cmp hc (os.map (·.2.toOp))
  refine ⟨_, _, _, _, t', outs, hn, hcp, ?_, h1, h2⟩
  have := runVia_eq_runOps cmp SetOp.toOp (setApply cmp) (setApply_eq cmp (by decide)) os Tree.empty
  rw [this, h1]; rfl

example : ∃ s0 m0 s1 m1 t' outs,
    newHandle "NewSetCmp" (Store.empty : Store Int Unit) = some (s0, m0) ∧ copyHandle setIsHandle s0 m0 = some (s1, m1) ∧
    runVia (setApply (fun a b : Int => a - b)) m0 m1 s1
      [(true, .add 5), (false, .add 3), (true, .remove 5), (false, .contains 5), (true, .len)] = some ({ objs := [t'] }, outs) ∧
    toList t'.root = [(3, ())] ∧ outs = [.unit, .unit, .unit, .bool false, .int 1] := by
  have hc := strictWeak_intSub
  obtain ⟨s0, m0, s1, m1, t', outs, h1, h2, h3, _, h5⟩ := set_copies_denote_same_collection _ hc "NewSetCmp"
    (Or.inr rfl) [(true, .add 5), (false, .add 3), (true, .remove 5), (false, .contains 5), (true, .len)]
  refine ⟨s0, m0, s1, m1, t', outs, h1, h2, h3, ?_⟩
  simp [specOps, specOp, sput, serase, sget, SetOp.toOp] at h5
  exact ⟨h5.1.symm, h5.2.symm⟩

/-- Concurrent clause, the part a sequential model can state (**partial**; the full clause — "puts from
several goroutines to distinct present keys concurrent with reads of other keys are free of data races
and all take effect" — additionally rests on the Go memory model: disjoint plain accesses do not race;
supporting evidence is the `-race` stress harness `c01race`). The clause over a model of single memory accesses is
`Props/C01Race.lean`.
`Put` of a key that is present writes exactly one value slot: the tree's generation, size, allocation
counter and its whole skeleton (node identities, keys, occupancy, child links) are unchanged, and the
contents change only in that entry's value (`put_refines`); the generated fact `putOverwriteOnly` says
that the overwrite branch consists of the single assignment `curr.values[idx] = v` followed by `return`. -/
theorem putPresent_footprint_partial (cmp : K → K → Int) (hc : StrictWeak cmp) (t : Tree K V) (k : K) (v : V)
    (hw : WF cmp t) (hpres : (sget cmp k (toList t.root)).isSome = true) :
    putOverwriteOnly = true ∧
    ∃ t', put cmp t k v = some t' ∧ t'.gen = t.gen ∧ t'.size = t.size ∧ t'.nextId = t.nextId ∧
      skel t'.root = skel t.root := by
  refine ⟨by decide, ?_⟩
  obtain ⟨t', hp, _, _, hr⟩ := put_spec cmp t k v hw.bal
  have hsz := (hr hc hw.sorted).2
  rw [hpres] at hsz
  rcases put_cases hw.bal hp with ⟨r, rfl, hsk⟩ | ⟨_, hins⟩
  · exact ⟨_, hp, rfl, rfl, rfl, hsk⟩
  · simp only [if_true] at hsz; omega

end Juniper.Props.C01
