import Juniper.Proofs.XListRep
/-!
# C06 — xlist.List equals an ideal sequence of node handles (property theorems)

The model is the interpreter `Model.XList.apply` running the statement lists `Gen.XList.<op>Stmts`
regenerated from `container/xlist/xlist.go`; `Rep l h` (in `Spec/XList.lean`) says, clause by clause
as in the property text, that the heap `h` represents the ideal sequence of handles `l`:
both walks, both ends, `Len`, distinct handles. Handles are creation indices; `h.nextId` is the
identity of the next node to be created. Helper lemmas live in `Proofs/XList*.lean`.
-/
namespace Juniper.Props.C06
open Juniper.Gen.XList Juniper.Model.XList Juniper.Spec.XList Juniper.Proofs.XList

/-- a concrete non-trivial history used by the non-vacuity examples: ends in the sequence `[3, 0, 2]`
with node 1 removed -/
def demoOps : List Op :=
  [.pushBack 10, .pushFront 11, .insertAfter 12 0, .moveBefore 1 2, .remove 1, .pushFront 13]

theorem demo_wf : HistWF [] 0 demoOps := by
  simp [demoOps, HistWF, Op.wellFormed, step, nextFresh, Op.creates, insBefore, insAfter]

/-- No statement of package xlist assigns to (or takes the address of) a node's `Value`. -/
theorem no_value_writes : valueWrites = 0 := by decide

/-- The zero `List` represents the empty sequence. -/
theorem rep_init : Rep [] ({} : Heap) :=
  rep_of_inv ⟨linked_nil rfl rfl, rfl, by simp, fun x _ => Store.get_empty x⟩

/-- **Every operation, applied with handles of nodes currently in the list, keeps the
representation**: it does not panic, returns the new handle (creating operations) and the heap
represents the result of the same operation on the ideal sequence. Covers all ten operations and
all relative positions of node and mark (adjacent either way, identical, at the ends, single
element lists). -/
theorem rep_step {l : List Nat} {h : Heap} (hR : Rep l h) (o : Op) (hwf : Op.wellFormed l o) :
    let r := apply h o
    r.panicked = false ∧ r.ret = (if Op.creates o then some h.nextId else none) ∧
      Rep (step l h.nextId o) r.h ∧ r.h.nextId = nextFresh h.nextId o := by
  obtain ⟨h1, h2, h3, h4, _⟩ := step_inv (inv_of_rep hR) o hwf
  exact ⟨h1, h2, rep_of_inv h3, h4⟩

/-- the heap reached by `demoOps` -/
def demoHeap : Heap := (runP {} demoOps).1

/-- Non-vacuity witness used by the examples below: the heap reached by the six operations of
`demoOps` represents `[3, 0, 2]` (node 1 was moved and then removed). -/
theorem demo_rep : Rep [3, 0, 2] demoHeap := by
  have := (history_inv (R := []) (inv_of_rep rep_init) (by simp [Unlinked]) demoOps demo_wf).2.1
  have e : runSpec [] 0 demoOps = [3, 0, 2] := by
    simp [demoOps, runSpec, step, nextFresh, Op.creates, insBefore, insAfter]
  rw [e] at this
  exact rep_of_inv this

/-- what the accessors return on the witness: both walks, the ends and `Len`, computed -/
example : walk (nextOf demoHeap) (frontOf demoHeap) 9 = [3, 0, 2] ∧
    walk (prevOf demoHeap) (backOf demoHeap) 9 = [2, 0, 3] ∧ lenOf demoHeap = 3 ∧
    prevOf demoHeap 1 = none ∧ nextOf demoHeap 1 = none ∧ valueOf demoHeap 1 = some 11 := by decide +kernel

example : Op.wellFormed [3, 0, 2] (.moveBefore 2 3) ∧ Op.wellFormed [3, 0, 2] (.insertAfter 7 0) := by
  simp [Op.wellFormed]
example := rep_step demo_rep (.moveAfter 3 0) (by simp [Op.wellFormed])

/-! ## The ten operations one by one (instances of `rep_step` with the ideal result spelled out) -/

/-- `PushFront`: the new handle is the first element. -/
theorem rep_pushFront {l : List Nat} {h : Heap} (hR : Rep l h) (v : Int) :
    (apply h (.pushFront v)).ret = some h.nextId ∧ Rep (h.nextId :: l) (apply h (.pushFront v)).h :=
  let r := rep_step hR (.pushFront v) trivial; ⟨r.2.1, r.2.2.1⟩

example : Rep [demoHeap.nextId, 3, 0, 2] (apply demoHeap (.pushFront 5)).h := (rep_pushFront demo_rep 5).2

/-- `PushBack`: the new handle is the last element. -/
theorem rep_pushBack {l : List Nat} {h : Heap} (hR : Rep l h) (v : Int) :
    (apply h (.pushBack v)).ret = some h.nextId ∧ Rep (l ++ [h.nextId]) (apply h (.pushBack v)).h :=
  let r := rep_step hR (.pushBack v) trivial; ⟨r.2.1, r.2.2.1⟩

example : Rep [3, 0, 2, demoHeap.nextId] (apply demoHeap (.pushBack 5)).h := (rep_pushBack demo_rep 5).2

/-- `InsertBefore(value, mark)` with `mark` in the list. -/
theorem rep_insertBefore {l : List Nat} {h : Heap} (hR : Rep l h) (v : Int) {m : Nat} (hm : m ∈ l) :
    (apply h (.insertBefore v m)).ret = some h.nextId ∧
      Rep (insBefore l m h.nextId) (apply h (.insertBefore v m)).h :=
  let r := rep_step hR (.insertBefore v m) hm; ⟨r.2.1, r.2.2.1⟩

example : Rep [3, demoHeap.nextId, 0, 2] (apply demoHeap (.insertBefore 5 0)).h := by
  simpa [insBefore] using (rep_insertBefore demo_rep 5 (m := 0) (by simp)).2

/-- `InsertAfter(value, mark)` with `mark` in the list. -/
theorem rep_insertAfter {l : List Nat} {h : Heap} (hR : Rep l h) (v : Int) {m : Nat} (hm : m ∈ l) :
    (apply h (.insertAfter v m)).ret = some h.nextId ∧
      Rep (insAfter l m h.nextId) (apply h (.insertAfter v m)).h :=
  let r := rep_step hR (.insertAfter v m) hm; ⟨r.2.1, r.2.2.1⟩

example : Rep [3, 0, 2, demoHeap.nextId] (apply demoHeap (.insertAfter 5 2)).h := by
  simpa [insAfter] using (rep_insertAfter demo_rep 5 (m := 2) (by simp)).2

/-- `Remove(node)` with `node` in the list. -/
theorem rep_remove {l : List Nat} {h : Heap} (hR : Rep l h) {n : Nat} (hn : n ∈ l) :
    Rep (l.erase n) (apply h (.remove n)).h :=
  (rep_step hR (.remove n) hn).2.2.1

example : Rep [3, 2] (apply demoHeap (.remove 0)).h := by
  simpa using rep_remove demo_rep (n := 0) (by simp)

/-- `MoveBefore(node, mark)`, both in the list; `node == mark` leaves the sequence as it is. -/
theorem rep_moveBefore {l : List Nat} {h : Heap} (hR : Rep l h) {n m : Nat} (hn : n ∈ l) (hm : m ∈ l) :
    Rep (if n = m then l else insBefore (l.erase n) m n) (apply h (.moveBefore n m)).h :=
  (rep_step hR (.moveBefore n m) ⟨hn, hm⟩).2.2.1

/-- node just after mark -/
example : Rep [0, 3, 2] (apply demoHeap (.moveBefore 0 3)).h := by
  simpa [insBefore] using rep_moveBefore demo_rep (n := 0) (m := 3) (by simp) (by simp)
/-- node just before mark: the sequence does not change -/
example : Rep [3, 0, 2] (apply demoHeap (.moveBefore 3 0)).h := by
  simpa [insBefore] using rep_moveBefore demo_rep (n := 3) (m := 0) (by simp) (by simp)
/-- node == mark -/
example : Rep [3, 0, 2] (apply demoHeap (.moveBefore 0 0)).h := by
  simpa using rep_moveBefore demo_rep (n := 0) (m := 0) (by simp) (by simp)

/-- `MoveAfter(node, mark)`, both in the list; `node == mark` leaves the sequence as it is. -/
theorem rep_moveAfter {l : List Nat} {h : Heap} (hR : Rep l h) {n m : Nat} (hn : n ∈ l) (hm : m ∈ l) :
    Rep (if n = m then l else insAfter (l.erase n) m n) (apply h (.moveAfter n m)).h :=
  (rep_step hR (.moveAfter n m) ⟨hn, hm⟩).2.2.1

/-- both ends: the last node moved after... the first -/
example : Rep [3, 2, 0] (apply demoHeap (.moveAfter 2 3)).h := by
  simpa [insAfter] using rep_moveAfter demo_rep (n := 2) (m := 3) (by simp) (by simp)

/-- `MoveToFront(node)` with `node` in the list. -/
theorem rep_moveToFront {l : List Nat} {h : Heap} (hR : Rep l h) {n : Nat} (hn : n ∈ l) :
    Rep (n :: l.erase n) (apply h (.moveToFront n)).h :=
  (rep_step hR (.moveToFront n) hn).2.2.1

example : Rep [2, 3, 0] (apply demoHeap (.moveToFront 2)).h := by
  simpa using rep_moveToFront demo_rep (n := 2) (by simp)

/-- `MoveToBack(node)` with `node` in the list. -/
theorem rep_moveToBack {l : List Nat} {h : Heap} (hR : Rep l h) {n : Nat} (hn : n ∈ l) :
    Rep (l.erase n ++ [n]) (apply h (.moveToBack n)).h :=
  (rep_step hR (.moveToBack n) hn).2.2.1

example : Rep [0, 2, 3] (apply demoHeap (.moveToBack 3)).h := by
  simpa using rep_moveToBack demo_rep (n := 3) (by simp)

/-- `Clear()`. -/
theorem rep_clear {l : List Nat} {h : Heap} (hR : Rep l h) : Rep [] (apply h .clear).h :=
  (rep_step hR .clear trivial).2.2.1

example : Rep [] (apply demoHeap .clear).h := rep_clear demo_rep

/-- `MoveBefore(node, node)` and `MoveAfter(node, node)` do not touch the heap at all (for any
heap and any handle: the early `return` comes before the first assignment). -/
theorem move_self_noop (h : Heap) (n : Nat) :
    (apply h (.moveBefore n n)).h = h ∧ (apply h (.moveAfter n n)).h = h ∧
      (apply h (.moveBefore n n)).panicked = false ∧ (apply h (.moveAfter n n)).panicked = false := by
  simp [apply, runOp, exec, execStmt, execSimples, execSimple, evalP, moveBeforeStmts, moveAfterStmts]

example := move_self_noop demoHeap 0

/-- The documented postcondition of the moves: afterwards `mark.Prev() == node && node.Next() == mark`
(resp. `mark.Next() == node && node.Prev() == mark`). -/
theorem move_postcondition {l : List Nat} {h : Heap} (hR : Rep l h) {n m : Nat} (hn : n ∈ l) (hm : m ∈ l)
    (hnm : n ≠ m) :
    (prevOf (apply h (.moveBefore n m)).h m = some n ∧ nextOf (apply h (.moveBefore n m)).h n = some m) ∧
    (nextOf (apply h (.moveAfter n m)).h m = some n ∧ prevOf (apply h (.moveAfter n m)).h n = some m) := by
  have hI := inv_of_rep hR
  have hnd := hI.linked.nodup
  have hmk : m ∈ l.erase n := hnd.mem_erase_iff.2 ⟨Ne.symm hnm, hm⟩
  have hnk : n ∉ l.erase n := fun hx => (hnd.mem_erase_iff.1 hx).1 rfl
  have hkd := hnd.erase n
  obtain ⟨_, _, b3, _⟩ := moveBefore_spec hI hn hm
  obtain ⟨_, _, a3, _⟩ := moveAfter_spec hI hn hm
  simp only [hnm, if_false] at b3 a3
  have hmb : m ∈ insBefore (l.erase n) m n := (mem_insBefore hmk m).2 (Or.inr hmk)
  have hnb : n ∈ insBefore (l.erase n) m n := (mem_insBefore hmk n).2 (Or.inl rfl)
  have hma : m ∈ insAfter (l.erase n) m n := (mem_insAfter hmk m).2 (Or.inr hmk)
  have hna : n ∈ insAfter (l.erase n) m n := (mem_insAfter hmk n).2 (Or.inl rfl)
  refine ⟨⟨?_, ?_⟩, ?_, ?_⟩
  · rw [prevOf_live (b3.linked.live m hmb), b3.linked.prev m hmb, prevIn_insBefore hkd hmk hnk]
    simp [Ne.symm hnm]
  · rw [nextOf_live (b3.linked.live n hnb), b3.linked.next n hnb, nextIn_insBefore hkd hmk hnk]
    simp
  · rw [nextOf_live (a3.linked.live m hma), a3.linked.next m hma, nextIn_insAfter hkd hmk hnk]
    simp [Ne.symm hnm]
  · rw [prevOf_live (a3.linked.live n hna), a3.linked.prev n hna, prevIn_insAfter hkd hmk hnk]
    simp

example := move_postcondition demo_rep (n := 2) (m := 3) (by simp) (by simp) (by decide)

/-- **A removed node has neither neighbour** — and it is the removed node itself (still allocated,
`valueOf … = some _`) whose links are nil, not a never-allocated id for which the totalised
`prevOf`/`nextOf` would answer `none` as well. -/
theorem remove_clears_links {l : List Nat} {h : Heap} (hR : Rep l h) {n : Nat} (hn : n ∈ l) :
    (valueOf (apply h (.remove n)).h n).isSome ∧
    prevOf (apply h (.remove n)).h n = none ∧ nextOf (apply h (.remove n)).h n = none := by
  have hI := inv_of_rep hR
  obtain ⟨_, _, _, h4, h5, h6, _⟩ := remove_spec hI hn
  have hl := (h4.value n (hI.linked.live n hn)).1
  exact ⟨by rw [valueOf_isSome]; exact hl, by rw [prevOf_live hl]; exact h5, by rw [nextOf_live hl]; exact h6⟩

example := remove_clears_links demo_rep (n := 0) (by simp)

/-- **What `Clear` does to the nodes it drops** (audit C06-F2; the reading of "removed" made a theorem instead of a
sentence). `Clear` — its three regenerated statements `l.front = nil; l.back = nil; l.size = 0` — writes the list
header only: the result represents the empty sequence, and *every* node keeps exactly the links and the value it had.
So each node dropped by `Clear` still names its former neighbours: in a list of two or more nodes the former first
node keeps its `Next`, the former second its `Prev`. "A removed node has neither neighbour" therefore holds for the
nodes taken out by `Remove` (`remove_clears_links`, `history_refines`) and is **false** for the nodes dropped by
`Clear` — the wider reading of the sentence is refuted for the code as it is, for every list with at least two nodes,
not assumed away. (Such a handle is not a node of the list any more, so no well-formed history can pass it to an
operation; an unlinking `Clear` would be O(n). If `xlist.go` ever unlinks in `Clear`, this theorem stops compiling
and `history_refines` can be stated for `Clear` as well.) -/
theorem clear_keeps_links_of_dropped_nodes {l : List Nat} {h : Heap} (hR : Rep l h) :
    let r := apply h .clear
    Rep [] r.h ∧
    (∀ x, prevOf r.h x = prevOf h x ∧ nextOf r.h x = nextOf h x ∧ valueOf r.h x = valueOf h x) ∧
    (∀ a b rest, l = a :: b :: rest → nextOf r.h a = some b ∧ prevOf r.h b = some a) := by
  have hI := inv_of_rep hR
  obtain ⟨_, _, h3, h4, _⟩ := clear_spec hI
  have hsame : ∀ x, prevOf (apply h .clear).h x = prevOf h x ∧ nextOf (apply h .clear).h x = nextOf h x ∧
      valueOf (apply h .clear).h x = valueOf h x := by
    intro x; simp [prevOf, nextOf, valueOf, h4]
  refine ⟨rep_of_inv h3, hsame, ?_⟩
  intro a b rest hl
  subst hl
  have ha : a ∈ a :: b :: rest := by simp
  have hb : b ∈ a :: b :: rest := by simp
  refine ⟨?_, ?_⟩
  · rw [(hsame a).2.1, nextOf_live (hI.linked.live a ha), hI.linked.next a ha]; simp [nextIn]
  · rw [(hsame b).1, prevOf_live (hI.linked.live b hb), hI.linked.prev b hb]; simp [prevIn]

/-- the concrete instance the audit gave: `PushBack 1; PushBack 2; Clear` — a well-formed history after which node 0
still has node 1 as `Next` and node 1 still has node 0 as `Prev`. -/
example : let h := (runP {} [.pushBack 1, .pushBack 2, .clear]).1
    HistWF [] 0 [.pushBack 1, .pushBack 2, .clear] ∧ nextOf h 0 = some 1 ∧ prevOf h 1 = some 0 := by
  refine ⟨by simp [HistWF, Op.wellFormed], by decide, by decide⟩

example := (clear_keeps_links_of_dropped_nodes demo_rep).2.2 3 0 [2] rfl

/-- **Values are never touched** and **handles keep their identity**: after any well-formed
operation every node that existed still exists with the value it had, a created node carries exactly
the value given and a new identity, and the nodes that are neither in the list nor created by the
operation are not written at all (their links included). -/
theorem values_untouched {l : List Nat} {h : Heap} (hR : Rep l h) (o : Op) (hwf : Op.wellFormed l o) :
    let r := apply h o
    (∀ x, (valueOf h x).isSome → valueOf r.h x = valueOf h x) ∧
    (∀ x, x ∉ l → x ≠ h.nextId → r.h.nodes.get x = h.nodes.get x) ∧
    (∀ v, (o = .pushFront v ∨ o = .pushBack v ∨ (∃ m, o = .insertBefore v m) ∨ ∃ m, o = .insertAfter v m) →
      valueOf r.h h.nextId = some v ∧ valueOf h h.nextId = none ∧ h.nextId ∉ l) := by
  have hI := inv_of_rep hR
  obtain ⟨_, _, _, _, hF, hnew⟩ := step_inv hI o hwf
  have hnl := hI.nextId_not_mem
  refine ⟨?_, ?_, ?_⟩
  · intro x hx
    rw [valueOf_isSome] at hx
    obtain ⟨v1, v2⟩ := hF.value x hx
    rw [valueOf_live v1, valueOf_live hx, v2]
  · intro x hx hxn
    exact hF.out x (by simp [hx, hxn])
  · intro v hv
    refine ⟨?_, by simp [valueOf, hI.fresh _ (Nat.le_refl _)], hnl⟩
    obtain ⟨p, q, g⟩ := hnew v (by rcases hv with rfl | rfl | ⟨m, rfl⟩ | ⟨m, rfl⟩ <;> rfl)
    simp [valueOf, g]

example := values_untouched demo_rep (.insertBefore 9 3) (by simp [Op.wellFormed])

/-- **Every history refines the ideal sequence.** From any heap that represents `l`, any sequence
of operations each applied with handles of nodes in the list at that moment: no operation panics, the
final heap represents the result of the same history on the ideal sequence (so both walks, both
ends and `Len` are right after every prefix, this being a statement about arbitrary `os`), no node
that existed before the history changes its value (for the nodes created during the history see
`created_value_kept`), and every node removed by a `Remove` of the history is still allocated and has
neither neighbour at the end. ("Removed" is read as "removed by `Remove`": the nodes dropped by
`Clear` keep their stale links — the code does not unlink them — a disclosed narrowing of the text,
`checks/C06.json` assumptions.) -/
theorem history_refines {l : List Nat} {h : Heap} (hR : Rep l h) (os : List Op)
    (hwf : HistWF l h.nextId os) :
    let t := runP h os
    t.2 = false ∧ Rep (runSpec l h.nextId os) t.1 ∧
      (∀ x, (valueOf h x).isSome → valueOf t.1 x = valueOf h x) ∧
      (∀ n ∈ removedIn os, n ∉ runSpec l h.nextId os ∧ (valueOf t.1 n).isSome ∧
        prevOf t.1 n = none ∧ nextOf t.1 n = none) := by
  obtain ⟨h1, h2, h3, _, h4⟩ := history_inv (R := []) (inv_of_rep hR) (by simp [Unlinked]) os hwf
  refine ⟨h1, rep_of_inv h2, ?_, ?_⟩
  · intro x hx
    rw [valueOf_isSome] at hx
    obtain ⟨v1, v2⟩ := h3 x hx
    rw [valueOf_live v1, valueOf_live hx, v2]
  · intro n hn
    obtain ⟨u1, u2, u3, u4⟩ := h4 n (by simpa using hn)
    exact ⟨u1, by rw [valueOf_isSome]; exact u2, by rw [prevOf_live u2]; exact u3, by rw [nextOf_live u2]; exact u4⟩

example := history_refines demo_rep [.moveToBack 3, .remove 0, .clear, .pushBack 1]
  (by simp [HistWF, Op.wellFormed, step])

/-- **Values are never touched, whole-history form for nodes created mid-history**: every node
created by a `PushFront` / `PushBack` / `InsertBefore` / `InsertAfter` of the history still carries,
at the end of the history, exactly the value it was created with (whatever moves, removals and
`Clear`s came after). Together with conjunct 3 of `history_refines` (nodes that existed before the
history) this is "no value ever changes" for every node. -/
theorem created_value_kept {l : List Nat} {h : Heap} (hR : Rep l h) (os : List Op)
    (hwf : HistWF l h.nextId os) :
    ∀ c ∈ createdIn h.nextId os, valueOf (runP h os).1 c.1 = some c.2 := by
  intro c hc
  obtain ⟨v1, v2⟩ := (history_inv (R := []) (inv_of_rep hR) (by simp [Unlinked]) os hwf).2.2.2.1 c hc
  rw [valueOf_live v1, v2]

example : createdIn 4 [.moveToBack 3, .pushBack 7, .clear, .insertAfter 9 4] = [(4, 7), (5, 9)] := by
  decide

/-- The same from the zero `List`: every history of the ten operations. -/
theorem history_from_empty (os : List Op) (hwf : HistWF [] 0 os) :
    (runP {} os).2 = false ∧ Rep (runSpec [] 0 os) (runP {} os).1 ∧
      (∀ c ∈ createdIn 0 os, valueOf (runP {} os).1 c.1 = some c.2) ∧
      ∀ n ∈ removedIn os, prevOf (runP {} os).1 n = none ∧ nextOf (runP {} os).1 n = none := by
  obtain ⟨h1, h2, _, h4⟩ := history_refines rep_init os hwf
  exact ⟨h1, h2, created_value_kept rep_init os hwf, fun n hn => (h4 n hn).2.2⟩

example := history_from_empty demoOps demo_wf

end Juniper.Props.C06
