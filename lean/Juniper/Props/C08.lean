import Juniper.Proofs.StreamReduce
import Juniper.Proofs.StreamLast
import Juniper.Proofs.StreamRuns
import Juniper.Proofs.StreamFaults
import Juniper.Proofs.StreamRetry
import Juniper.Proofs.StreamSrc
/-!
# C08 — stream failures surface intact and never lose or duplicate items (property theorems,
caller's-goroutine combinators)

The vocabulary is that of `Props/C07.lean`. `SDen soft m cost s L t` quantifies over every choice of
per-call contexts and lets *soft* failures (expired context, transient source failure) happen between
the outputs. The per-combinator theorems `s_*_denotes` of C07 are stated for every termination `t` of
the inner stream, i.e. they already cover failures; here are the C08 readings, at three levels:

1. **one step** (`*_error_itself`): whatever error `e` the source (or a callback) hands a method, the
   method returns *that* `e` and leaves its own state (pending chunk, held item, `prev`, counters,
   current inner stream) as it was. These evaluate the error guards and returned error operands
   regenerated from `stream.go` (`Proofs/StreamGuards.lean`): `return item, End` for `return item, err`
   breaks the theorem of that method.
2. **one call** (`failed_call_costs_nothing`, `recovered_source_progress`): a failed `Next` — context
   error only if the call's context had expired — leaves any denoting machine in a state that denotes
   the same remaining sequence; once no soft failure is ahead, a live call returns exactly the next item.
3. **the whole run, nothing erased** (`*_retry_exact`, `pipeline_retry_exact`: `ExactE`): every call of a
   run under arbitrary contexts over an arbitrary fault script answers the context error (expired
   context), *the next* transient error of the script (itself, once), the next item of the fault-free
   run, the end, or the fatal error itself. A machine that keeps answering `ctx.Err()` does not satisfy
   this (`stuck_machine_excluded`).

`Flatten` and `Join` (several sources) have levels 1 and 2 and, for the whole run, the weaker erased
reading (`*_transient_conforms_partial`).
-/
namespace Juniper.Props.C08
open Juniper.Model Juniper.Model.Stream Juniper.Spec Juniper.Gen.Comb
open Juniper.Proofs Juniper.Proofs.StreamDen
open Juniper.Proofs.IterDen (annot annot_fst annot_length)
universe u v w x
variable {σ : Type u} {τ : Type w} {α β : Type v}

/-- **The source.** A script = items, transient failures, possibly a fatal failure (sticky). It denotes
the items before the first fatal failure and then that failure (or the end); transient failures and
calls with an expired context cost nothing. -/
theorem source_fault_denotes (sc : List (Ev α)) :
    SDen Err.soft src (fun s : Src α => s.pulled) (Src.of sc) (scriptItems true 0 sc) (scriptTerm true 0 sc) :=
  script_sden sc

example : scriptItems true 0 [Ev.item 1, .transient 5, .item 2, .fatal 9, .item 3] = [(1, 1), (2, 2)] ∧
    scriptTerm true 0 [Ev.item 1, .transient 5, .item 2, .fatal 9, .item 3] = .fail (.fatal 9) := by decide

/-- the fault-free reference: the spec of a script (`scriptItems true`, `scriptTerm true`: the items before
the first fatal failure, then that failure or the end) is the spec of the same script with its transient
failures removed — so the outputs the theorems below compare a faulty run with *are* those of the
fault-free run (a fact about the two list functions, used to read the statements). -/
theorem script_spec_ignores_transients (sc : List (Ev α)) :
    scriptItems true 0 (eraseT sc) = scriptItems true 0 sc ∧ scriptTerm true 0 (eraseT sc) = scriptTerm true 0 sc :=
  ⟨scriptItems_eraseT true 0 sc, scriptTerm_eraseT true 0 sc⟩

/-! ## level 1 — one step: the error itself, own state untouched

For an arbitrary inner machine `m`: if the pull (`inner.Next(ctx)`) answers the error `e` — a fatal or
transient source failure, the context error, an error handed through from further down — the method
answers `e` itself and only its inner state moves. Read off the method's step equation (`X_step`,
`Proofs/StreamGuards.lean`), which evaluates the regenerated error guards and returned error operands. -/

/-- `Chunk`: the error itself; the pending chunk stays (it is delivered by a later call, or dropped by a fatal failure) -/
theorem chunk_error_itself (size : Int) (m : SM σ α) (st : ChunkSt σ α) (c : Bool) (e : Err) (s' : σ)
    (h : m.step st.inner c = (.err e, s')) : (chunk size m).step st c = (.err e, { st with inner := s' }) := by
  rw [chunk_step, h]; rfl

/-- `CompactFunc`: the error itself; `first` / `prev` stay -/
theorem compact_error_itself (eq : α → α → Bool) (m : SM σ α) (st : CompactSt σ α) (c : Bool) (e : Err) (s' : σ)
    (h : m.step st.inner c = (.err e, s')) : (compact eq m).step st c = (.err e, { st with inner := s' }) := by
  rw [compact_step, h]; rfl

/-- `Filter`: the source's error itself … -/
theorem filter_error_itself (keep : α → Except Err Bool) (m : SM σ α) (st : Wrap σ) (c : Bool) (e : Err) (s' : σ)
    (h : m.step st.inner c = (.err e, s')) : (filter keep m).step st c = (.err e, ⟨s'⟩) := by
  rw [filter_step, h]; rfl

/-- … and the callback's error itself -/
theorem filter_callback_error_itself (keep : α → Except Err Bool) (m : SM σ α) (st : Wrap σ) (c : Bool) (a : α)
    (e : Err) (s' : σ) (h : m.step st.inner c = (.item a, s')) (hk : keep a = .error e) :
    (filter keep m).step st c = (.err e, ⟨s'⟩) := by
  rw [filter_step, h, pullThen, filterOn_item, hk]

/-- `Map`: the source's error itself … -/
theorem map_error_itself (f : α → Except Err β) (m : SM σ α) (st : Wrap σ) (c : Bool) (e : Err) (s' : σ)
    (h : m.step st.inner c = (.err e, s')) : (map f m).step st c = (.err e, ⟨s'⟩) := by
  rw [map_step, h]; rfl

/-- … and the callback's error itself -/
theorem map_callback_error_itself (f : α → Except Err β) (m : SM σ α) (st : Wrap σ) (c : Bool) (a : α)
    (e : Err) (s' : σ) (h : m.step st.inner c = (.item a, s')) (hk : f a = .error e) :
    (map f m).step st c = (.err e, ⟨s'⟩) := by
  rw [map_step, h, pullThen, mapOn_item, hk]

/-- `First`: the error itself, and the failed call is not counted against `n` -/
theorem first_error_itself (m : SM σ α) (st : FirstSt σ) (c : Bool) (e : Err) (s' : σ) (hx : 0 < st.x)
    (h : m.step st.inner c = (.err e, s')) : (first m).step st c = (.err e, { st with inner := s' }) := by
  rw [first_step m st hx, h]; rfl

/-- `While`: the source's error itself; nothing is held … -/
theorem while_error_itself (f : α → Except Err Bool) (m : SM σ α) (s : σ) (c : Bool) (e : Err) (s' : σ)
    (h : m.step s c = (.err e, s')) : (while_ f m).step ⟨s, none, false⟩ c = (.err e, ⟨s', none, false⟩) := by
  rw [while_step, h]; rfl

/-- … and the callback's error itself, **with the item still held** (`item`/`has` stay: the next call
asks the callback again about the same item, it is not pulled again and not lost) -/
theorem while_callback_error_itself (f : α → Except Err Bool) (m : SM σ α) (s : σ) (c : Bool) (a : α) (e : Err) (s' : σ)
    (h : m.step s c = (.item a, s')) (hk : f a = .error e) :
    (while_ f m).step ⟨s, none, false⟩ c = (.err e, ⟨s', some a, false⟩) ∧
    (while_ f m).step ⟨s', some a, false⟩ c = (.err e, ⟨s', some a, false⟩) := by
  constructor
  · rw [while_step, h, pullThen, whileOn_item, whileEval_eq, hk]
  · rw [while_step_held, whileEval_eq, hk]

/-- `WithPeek`, `Next`: the error itself; `Peek`: the error itself, nothing buffered, and a buffered
item is served whatever the context -/
theorem peekable_error_itself (m : SM σ α) (s : σ) (c : Bool) (e : Err) (s' : σ) (h : m.step s c = (.err e, s')) :
    (withPeek m).step ⟨s, none⟩ c = (.err e, ⟨s', none⟩) ∧ peekPeek m ⟨s, none⟩ c = (.err e, ⟨s', none⟩) ∧
    ∀ a c', peekPeek m ⟨s, some a⟩ c' = (.item a, ⟨s, some a⟩) ∧ ((withPeek m).step ⟨s, some a⟩ c').1 = .item a :=
  ⟨(peekNext_step_none m s c).trans (by rw [h]; rfl), by rw [peekPeek_step_none, h]; rfl,
    fun a c' => ⟨peekPeek_step_some m s a c', congrArg Prod.fst (peekNext_step_some m s a c')⟩⟩

/-- `FlattenSlices`: the error itself (the buffer is empty whenever the source is asked) -/
theorem flattenSlices_error_itself (m : SM σ (List α)) (s : σ) (c : Bool) (e : Err) (s' : σ)
    (h : m.step s c = (.err e, s')) : (flattenSlices m).step ⟨s, []⟩ c = (.err e, ⟨s', []⟩) := by
  rw [flattenSlices_step_nil, h]; rfl

/-- `Flatten`: an error of the outer stream itself; an error of the current inner stream itself, and
that inner stream stays the current one -/
theorem flatten_error_itself (mo : SM σ τ) (mi : SM τ α) (so : σ) (fin : List τ) (c : Bool) (e : Err) :
    (∀ s', mo.step so c = (.err e, s') → (flatten mo mi).step ⟨so, none, fin⟩ c = (.err e, ⟨s', none, fin⟩)) ∧
    (∀ x x', mi.step x c = (.err e, x') → (flatten mo mi).step ⟨so, some x, fin⟩ c = (.err e, ⟨so, some x', fin⟩)) :=
  ⟨fun s' h => by rw [flatten_step_none, h]; rfl, fun x x' h => by rw [flatten_step_some, h]; rfl⟩

/-- `Join`: an error of the argument being read itself; that argument stays the current one, the later
ones are not touched -/
theorem join_error_itself (m : SM σ α) (s : σ) (rest fin : List σ) (c : Bool) (e : Err) (s' : σ)
    (h : m.step s c = (.err e, s')) : (join m).step ⟨s :: rest, fin⟩ c = (.err e, ⟨s' :: rest, fin⟩) := by
  rw [join_step, h]; rfl

/-- `Runs`: the outer stream (looking for the next run) and an inner stream report the error of the shared
peekable's source itself; the run in progress stays as it is -/
theorem runs_error_itself (same : α → α → Bool) (m : SM σ α) (s : σ) (gen g : Nat) (prev : α) (c : Bool) (e : Err) (s' : σ)
    (h : m.step s c = (.err e, s')) :
    runsOuter same m ⟨⟨s, none⟩, gen, none⟩ c = (.err e, ⟨⟨s', none⟩, gen, none⟩) ∧
    runsInner same m g ⟨⟨s, none⟩, gen, some (g, prev, false)⟩ c = (.err e, ⟨⟨s', none⟩, gen, some (g, prev, false)⟩) := by
  constructor
  · simp only [runsOuter, peekPeek_step_none, h]; rfl
  · rw [runsInner_step_none, h]; rfl

/-- `FromIterator`: a call whose context has expired is answered with the context error before the
iterator is touched — nothing is pulled, nothing is lost -/
theorem fromIterator_ctx_costs_nothing (m : Juniper.Model.Iter.IM σ α) (s : σ) :
    (fromIterator m).step s false = (.err .ctx, s) := by
  rw [fromIterator_step]; rfl

example : let r := (chunk 3 src).step ⟨Src.of [Ev.transient 4, .item 9], [1, 2]⟩ true
    r.1 = .err (.transient 4) ∧ r.2.pend = [1, 2] ∧ r.2.inner.script = [.item 9] := by decide

/-! ## level 2 — one call: a failed `Next` costs nothing; a recovered source makes progress -/

/-- **A failed call costs nothing** — any machine in a state that denotes `(L, t)` (every combinator and
every pipeline, by the `s_*_denotes` theorems of C07), any context, enough fuel: the call either delivers
what is due (the next item of `L`; at the end of `L` the end, or the hard failure `t` itself), or it
fails softly — **with the context error only if its own context had expired** — and the machine is then
in a state that denotes *the same* `(L, t)`: calling `Next` again continues exactly where it left off. -/
theorem failed_call_costs_nothing {soft : Err → Bool} {m : SM σ α} {cost : σ → Nat} {s : σ} {L : List (α × Nat)} {t : Term}
    (h : SDen soft m cost s L t) :
    ∃ F, ∀ fuel, F ≤ fuel → ∀ c, CallOk soft m cost c (drive m c fuel s).1 (drive m c fuel s).2 L t := sden_call h

/-- **Progress after recovery** — when no soft failure is ahead any more (a derivation in which nothing
is soft: the source has recovered), a call under a live context returns exactly the next item (and the
rest is again such a state), resp. the end / the failure itself. -/
theorem recovered_source_progress {m : SM σ α} {cost : σ → Nat} {s : σ} {L : List (α × Nat)} {t : Term}
    (h : SDen strict m cost s L t) :
    ∃ F, ∀ fuel, F ≤ fuel →
      match L, t with
      | [], .end_ _ => (drive m true fuel s).1 = some .end_
      | [], .fail e => (drive m true fuel s).1 = some (.err e)
      | p :: L', _ => (drive m true fuel s).1 = some (.item p.1) ∧ SDen strict m cost (drive m true fuel s).2 L' t := by
  obtain ⟨r, s', hd, ha⟩ := drive_strict h
  refine hd.mono fun fuel hd => ?_
  rw [hd]
  match L, t, ha with
  | [], .end_ _, ha => exact congrArg some ha.1
  | [], .fail _, ha => exact congrArg some ha
  | _ :: _, _, ha => exact ⟨congrArg some ha.1, ha.2.1⟩

/-- non-vacuity of the two together: `Chunk 2` over `1, transient, 2, 3`: the second call fails with that
transient error, keeps the pending `[1]`, and the third — the source has recovered — delivers `[1, 2]` -/
example : (snexts (chunk 2 src) 5 [true, true, true] ⟨Src.of [Ev.item 1, .transient 7, .item 2, .item 3], []⟩) =
    [some (.err (.transient 7)), some (.item [1, 2]), some (.item [3])] := by decide

/-! ## level 3 — the whole run, nothing erased (`ExactE`, see `Proofs/StreamRetry.lean`) -/

/-- the general statement: a machine over a scripted source that hands soft failures through
(`SoftThru`) and denotes `(L, t)` -/
theorem retry_exact {σ' : Type w} {M : SM σ' β} {proj : σ' → Src α} {cost : σ' → Nat} {st : σ'} {L : List (β × Nat)} {t : Term}
    (hthru : SoftThru src M proj) (h : SDen Err.soft M cost st L t) :
    ∃ F, ∀ fuel, F ≤ fuel → ∀ cs : List Bool,
      ExactE (cs.zip (snexts M fuel cs st)) (pendingT (proj st)) (L.map Prod.fst) t :=
  Juniper.Proofs.StreamDen.retry_exact hthru h

/-- a machine that answers the context error to a live call is excluded (this is what the erased reading
`Conforms ∘ hard` could not do) -/
theorem stuck_machine_excluded (E : List Nat) (l : List β) (t : Term) (R : List (Bool × Option (SStep β))) :
    ¬ ExactE ((true, some (.err .ctx)) :: R) E l t := by
  intro h
  simp only [ExactE] at h
  rcases h with ⟨h, _⟩ | ⟨n, E', _, _, h, _⟩ | ⟨a, l', _, h, _⟩ | ⟨_, _, h, _⟩ | ⟨_, err, rfl, hs, h⟩
  · cases h
  · cases h
  · cases h
  · cases h
  · simp only [Option.some.injEq, SStep.err.injEq] at h
    subst h
    cases hs

/-- **`Chunk`**: any fault script, any contexts. The pending chunk survives every failed call. -/
theorem chunk_retry_exact (n : Nat) (sc : List (Ev α)) :
    ∃ F, ∀ fuel, F ≤ fuel → ∀ cs : List Bool,
      ExactE (cs.zip (snexts (chunk (n : Int) src) fuel cs ⟨Src.of sc, []⟩)) (transientsOf sc)
        ((chunkGoS n [] (scriptItems true 0 sc) (scriptTerm true 0 sc)).map Prod.fst) (scriptTerm true 0 sc) :=
  retry_exact (M := chunk (n : Int) src) (proj := fun st => st.inner) (chunk_wraps _ _ src).softThru
    (chunk_sden n (source_fault_denotes sc) [])

example : transientsOf [Ev.item 1, .transient 5, .item 2, .transient 6, .fatal 9, .transient 7] = [5, 6, 7] := by decide

example : chunkGoS 2 [] (scriptItems true 0 [Ev.item 1, .transient 5, .item 2, .item 3]) (.end_ 3) =
    [([1, 2], 2), ([3], 3)] := by decide

/-- **`C_fatal`**: after `p` items the source fails for good with `E`: `Chunk` delivers the full
chunks of those `p` items (not the partial one) and then `E` itself. -/
theorem chunk_fatal (n : Nat) (l : List α) (E : Nat) (rest : List (Ev α)) :
    SDen Err.soft (chunk (n : Int) src) (fun st => st.inner.pulled) ⟨Src.of (l.map Ev.item ++ .fatal E :: rest), []⟩
      (chunkGoS n [] (scriptItems true 0 (l.map Ev.item ++ .fatal E :: rest)) (.fail (.fatal E)))
      (.fail (.fatal E)) := by
  have h := chunk_sden (soft := Err.soft) n (source_fault_denotes (l.map Ev.item ++ .fatal E :: rest)) []
  rwa [show scriptTerm true 0 (l.map Ev.item ++ .fatal E :: rest) = _ from scriptTerm_fatalAfter l E rest 0] at h

/-- the same reading for every other single-source combinator is its `s_*_denotes` theorem (C07)
instantiated with `t := .fail E`: the spec functions (`mapS`, `filterS`, `whileS`, `firstTermS`,
`chunkGoS`, `flattenS`, `joinS`, `runsGoS`) leave a failure term untouched unless the combinator has
already ended. `Map` (machine level): the source fails for good with `E` after the items `l` and the
callback succeeds: all their images are delivered and then `E` itself. -/
theorem map_fatal (f : α → β) (l : List α) (E : Nat) (rest : List (Ev α)) :
    SDen Err.soft (map (fun a => .ok (f a)) src) (fun st => st.inner.pulled) ⟨Src.of (fatalAfter l E rest)⟩
      ((annot 0 l).map fun p => (f p.1, p.2)) (.fail (.fatal E)) := by
  have h := map_sden (soft := Err.soft) (fun a => Except.ok (f a)) (by intro a e h; cases h) (fatal_src_sden l E rest)
  rwa [mapS_ok] at h

/-- **`C_callback_error`** (machine level): the callback of `Map` fails (hard) with `E` on the item `a`
after succeeding on the items `pre`: the machine delivers `pre.length` outputs and then `E` itself —
never the end, another error, or silence — whatever the source would have delivered afterwards. -/
theorem map_callback_error (f : α → Except Err β) (hf : ∀ a e, f a = .error e → Err.soft e = false)
    (pre : List α) (a : α) (post : List α) (E : Err) (hfa : f a = .error E) (hpre : ∀ x ∈ pre, ∃ b, f x = .ok b) :
    ∃ L, SDen Err.soft (map f src) (fun st => st.inner.pulled) ⟨ofList (pre ++ a :: post)⟩ L (.fail E) ∧
      L.length = pre.length := by
  have h := map_sden (soft := Err.soft) f hf (items_src_sden (pre ++ a :: post))
  rw [IterDen.annot_append] at h
  simp only [annot] at h
  have hk := mapS_callback_error f a (0 + pre.length + 1) E hfa (annot 0 pre)
    (fun p hp => hpre p.1 (IterDen.mem_annot hp))
    (annot (0 + pre.length + 1) post) (.end_ (pre ++ a :: post).length)
  refine ⟨_, by rw [← hk.1]; exact h, ?_⟩
  rw [hk.2, annot_length]

/-- **Reducers return `E`**: a reducer gives up at the first failure of any kind (transient ones
included) and returns that failure itself — `Collect`, `Reduce`, `SampleStream`. -/
theorem collect_err {m : SM σ α} {cost : σ → Nat} {s : σ} {L : List (α × Nat)} {E : Err}
    (h : SDen strict m cost s L (.fail E)) :
    ∃ F, ∀ fuel, F ≤ fuel → (collect m true fuel s).1 = .error E := by
  exact (collect_strict h).mono fun _ hF => by simpa [outOf] using hF.1

theorem reduce_err {γ : Type v} {m : SM σ α} {cost : σ → Nat} {s : σ} {L : List (α × Nat)} {E : Err}
    (f : γ → α → Except Err γ) (hok : ∀ acc a, ∃ acc', f acc a = .ok acc') (h : SDen strict m cost s L (.fail E)) :
    ∃ F, ∀ fuel, F ≤ fuel → ∀ init, (reduce m f true fuel init s).1 = .error E := by
  refine (reduce_strict f h).mono fun _ hF init => ?_
  rw [(hF init).1]
  generalize L.map Prod.fst = l
  induction l generalizing init with
  | nil => rfl
  | cons a l ih =>
    obtain ⟨acc', h'⟩ := hok init a
    simp only [foldRes, h']
    exact ih acc'

theorem last_err {m : SM σ α} {cost : σ → Nat} {s : σ} {L : List (α × Nat)} {E : Err} (n : Nat)
    (h : SDen strict m cost s L (.fail E)) :
    ∃ F, ∀ fuel, F ≤ fuel → (last m (n : Int) true fuel s).1 = .error E := by
  exact (last_strict n h).mono fun _ hF => by simpa [outOf] using hF.1

theorem one_err {m : SM σ α} {cost : σ → Nat} {s : σ} {L : List (α × Nat)} {E : Err}
    (h : SDen strict m cost s L (.fail E)) (hl : L.length ≤ 1) :
    ∃ F, ∀ fuel, F ≤ fuel → (one m true fuel s).1 = .error E := by
  refine (one_sden h).mono fun _ hF => ?_
  rw [hF]
  match L, hl with
  | [], _ => rfl
  | [_], _ => rfl

theorem sample_err {m : SM σ α} {cost : σ → Nat} {s : σ} {L : List (α × Nat)} {E : Err}
    (h : SDen strict m cost s L (.fail E)) :
    ∃ F, ∀ fuel, F ≤ fuel → (sampleCount m true fuel s).1 = .error E := by
  exact (sample_sden h).mono fun _ hF => by simpa [outOf] using hF

/-- `Runs` under faults (machine level, documented protocol): the source fails for good with `E` after the
items `l`: the complete runs of `l` are delivered, the run being collected when the failure strikes is
dropped (it is not an output the items seen determine: `runsGoS … [] (.fail E) = []`), then `E` itself. A
failed call that costs nothing — whether it hit the outer stream while it was skipping the rest of a run,
or an inner stream — changes nothing (`runs_retry_exact`). -/
theorem runs_fatal (same : α → α → Bool) (hrefl : ∀ a, same a a = true) (take : Option Nat) (closeInner : Bool)
    (l : List α) (E : Nat) (rest : List (Ev α)) :
    SDen Err.soft (runsProto same take closeInner src) (StreamDen.rcost fun s : Src α => s.pulled)
      ⟨⟨⟨Src.of (fatalAfter l E rest), none⟩, 0, none⟩, none⟩
      (runsStartS same take (annot 0 l) (.fail (.fatal E))) (.fail (.fatal E)) :=
  runs_sden same hrefl take closeInner (fatal_src_sden l E rest) (.fresh 0)

example : runsStartS (fun a b : Nat => a == b) none (annot 0 [1, 1, 2, 2]) (.fail (.fatal 9)) = [([1, 1], 3)] := by decide

/-- the reducer's view of a script: the items before the first failure of any kind, then that failure -/
theorem source_strict_denotes (sc : List (Ev α)) :
    SDen strict src (fun s : Src α => s.pulled) (Src.of sc) (scriptItems false 0 sc) (scriptTerm false 0 sc) := by
  simpa [Src.of] using src_sden (soft := strict) false (fun _ => rfl) (fun _ => rfl) sc 0 0 0

example : scriptTerm false 0 [Ev.item (1 : Nat), .transient 5, .item 2] = .fail (.transient 5) := by decide

/-- a reducer handed an expired context returns the context error without consuming anything -/
theorem reducer_ctx_costs_nothing {γ : Type v} (m : SM σ α) (f : γ → α → Except Err γ) (fuel : Nat) (acc : γ) (s : σ)
    (h : m.step s false = (.err .ctx, s)) : reduceLoop reduceG m f false (fuel + 1) acc s = (.error .ctx, s) := by
  rw [reduceLoop_succ reduceG_canon m f (fun h => by cases h), h]

/-- **a reducer over a faulty pipeline**: `Collect` over any `SPipe` pipeline over any fault script returns
the pipeline's image of the first failure of any kind in the script (a reducer gives up at a transient
failure too) — `E` itself — or, if the pipeline ends normally, all its outputs. -/
theorem collect_pipeline {α : Type} (p : SPipe α) (sc : List (Ev α)) :
    ∃ F, ∀ fuel, F ≤ fuel → (collect (p.machine src).m true fuel ((p.machine src).wrap (Src.of sc))).1 =
      outOf (p.spec 0 (scriptItems false 0 sc) (scriptTerm false 0 sc)).2
        ((p.spec 0 (scriptItems false 0 sc) (scriptTerm false 0 sc)).1.map Prod.fst) :=
  (collect_strict (spipe_sden' (soft := strict) (fun _ => rfl) (c := fun s : Src α => s.pulled) p
    (source_strict_denotes sc))).mono fun _ hF => hF.1

/-! ## every combinator named in the property: its own `*_retry_exact` (the whole run, nothing erased),
`*_fatal`, `*_callback_error` -/

/-! ### `*_retry_exact`: any fault script, any contexts -/

/-- `Filter` (callback failing hard or not at all). -/
theorem filter_retry_exact (keep : α → Except Err Bool) (hf : ∀ a e, keep a = .error e → Err.soft e = false)
    (sc : List (Ev α)) :
    ∃ F, ∀ fuel, F ≤ fuel → ∀ cs : List Bool,
      ExactE (cs.zip (snexts (filter keep src) fuel cs ⟨Src.of sc⟩)) (transientsOf sc)
        ((filterS keep (scriptItems true 0 sc) (scriptTerm true 0 sc)).1.map Prod.fst)
        (filterS keep (scriptItems true 0 sc) (scriptTerm true 0 sc)).2 :=
  retry_exact (M := filter keep src) (proj := fun st => st.inner) (filter_wraps _ keep (fun a e h => Bool.eq_false_iff.mp (hf a e h)) src).softThru
    (filter_sden keep hf (source_fault_denotes sc))

/-- `Map`. -/
theorem map_retry_exact (f : α → Except Err β) (hf : ∀ a e, f a = .error e → Err.soft e = false) (sc : List (Ev α)) :
    ∃ F, ∀ fuel, F ≤ fuel → ∀ cs : List Bool,
      ExactE (cs.zip (snexts (map f src) fuel cs ⟨Src.of sc⟩)) (transientsOf sc)
        ((mapS f (scriptItems true 0 sc) (scriptTerm true 0 sc)).1.map Prod.fst)
        (mapS f (scriptItems true 0 sc) (scriptTerm true 0 sc)).2 :=
  retry_exact (M := map f src) (proj := fun st => st.inner) (map_wraps _ f (fun a e h => Bool.eq_false_iff.mp (hf a e h)) src).softThru
    (map_sden f hf (source_fault_denotes sc))

/-- `CompactFunc` keeps `prev` / `first` across failed calls. -/
theorem compact_retry_exact (eq : α → α → Bool) (sc : List (Ev α)) :
    ∃ F, ∀ fuel, F ≤ fuel → ∀ cs : List Bool,
      ExactE (cs.zip (snexts (compact eq src) fuel cs ⟨Src.of sc, true, none⟩)) (transientsOf sc)
        ((Seq.compactGo (fun p q => eq p.1 q.1) none (scriptItems true 0 sc)).map Prod.fst) (scriptTerm true 0 sc) :=
  retry_exact (M := compact eq src) (proj := fun st => st.inner) (compact_wraps _ eq src).softThru
    (compact_sden eq (source_fault_denotes sc) none)

/-- `First` does not count a failed call against its budget. -/
theorem first_retry_exact (n : Int) (sc : List (Ev α)) :
    ∃ F, ∀ fuel, F ≤ fuel → ∀ cs : List Bool,
      ExactE (cs.zip (snexts (first src) fuel cs ⟨Src.of sc, n⟩)) (transientsOf sc)
        (((scriptItems true 0 sc).take n.toNat).map Prod.fst)
        (firstTermS 0 n.toNat (scriptItems true 0 sc) (scriptTerm true 0 sc)) :=
  retry_exact (M := first src) (proj := fun st => st.inner) (first_wraps _ src).softThru
    (first_sden (source_fault_denotes sc) n)

/-- `While` keeps the held item across a failed callback / failed call. -/
theorem while_retry_exact (f : α → Except Err Bool) (hf : ∀ a e, f a = .error e → Err.soft e = false) (sc : List (Ev α)) :
    ∃ F, ∀ fuel, F ≤ fuel → ∀ cs : List Bool,
      ExactE (cs.zip (snexts (while_ f src) fuel cs ⟨Src.of sc, none, false⟩)) (transientsOf sc)
        ((whileS f (scriptItems true 0 sc) (scriptTerm true 0 sc)).1.map Prod.fst)
        (whileS f (scriptItems true 0 sc) (scriptTerm true 0 sc)).2 :=
  retry_exact (M := while_ f src) (proj := fun st => st.inner) (while_wraps _ f (fun a e h => Bool.eq_false_iff.mp (hf a e h)) src).softThru
    (while_sden f hf (source_fault_denotes sc))

/-- `WithPeek`: a failed `Next` leaves the peek buffer alone. -/
theorem peekable_retry_exact (sc : List (Ev α)) :
    ∃ F, ∀ fuel, F ≤ fuel → ∀ cs : List Bool,
      ExactE (cs.zip (snexts (withPeek src) fuel cs ⟨Src.of sc, none⟩)) (transientsOf sc)
        ((scriptItems true 0 sc).map Prod.fst) (scriptTerm true 0 sc) :=
  retry_exact (M := withPeek src) (proj := fun st => st.inner) (withPeek_wraps _ src).softThru
    (peek_sden (source_fault_denotes sc))

/-- `FlattenSlices` keeps its buffer across failed calls (and serves it whatever the context). -/
theorem flattenSlices_retry_exact (sc : List (Ev (List α))) :
    ∃ F, ∀ fuel, F ≤ fuel → ∀ cs : List Bool,
      ExactE (cs.zip (snexts (flattenSlices src) fuel cs ⟨Src.of sc, []⟩)) (transientsOf sc)
        (((scriptItems true 0 sc).flatMap fun p => p.1.map fun a => (a, p.2)).map Prod.fst) (scriptTerm true 0 sc) :=
  retry_exact (M := flattenSlices src) (proj := fun st => st.inner) (flattenSlices_wraps _ src).softThru
    (flattenSlices_sden (source_fault_denotes sc))

/-- `Runs` (documented protocol: outer `Next`, read the inner stream, optionally close it, advance): a
failed call — whether it hit the outer stream while it was skipping the rest of a run, or an inner
stream — returns the script's own error and loses nothing of the run being collected. -/
theorem runs_retry_exact (same : α → α → Bool) (hrefl : ∀ a, same a a = true) (take : Option Nat)
    (closeInner : Bool) (sc : List (Ev α)) :
    ∃ F, ∀ fuel, F ≤ fuel → ∀ cs : List Bool,
      ExactE (cs.zip (snexts (runsProto same take closeInner src) fuel cs ⟨⟨⟨Src.of sc, none⟩, 0, none⟩, none⟩))
        (transientsOf sc) ((runsStartS same take (scriptItems true 0 sc) (scriptTerm true 0 sc)).map Prod.fst)
        (scriptTerm true 0 sc) :=
  retry_exact (M := runsProto same take closeInner src) (proj := fun st => st.rs.pk.inner)
    (runsProto_wraps same take closeInner src _).softThru
    (runs_sden same hrefl take closeInner (source_fault_denotes sc) (.fresh 0))

/-- `Peek` under faults (live context; `peekable.Peek` is one of the anchors): it never changes what the
stream denotes; it answers the first item, the end, a soft failure (nothing lost, nothing buffered), or
the hard failure the stream denotes — itself. -/
theorem peek_faults {soft : Err → Bool} {m : SM σ α} {cost : σ → Nat} {s : σ} {L : List (α × Nat)} {t : Term}
    (h : SDen soft m cost s L t) :
    (∃ e, (peekPeek m ⟨s, none⟩ true).1 = .err e ∧ soft e = false ∧ L = [] ∧ t = .fail e) ∨
    ((peekPeek m ⟨s, none⟩ true).1 = .end_ ∧ L = [] ∧ ∃ e, t = .end_ e) ∨
    (SDen soft (withPeek m) (fun st => cost st.inner) (peekPeek m ⟨s, none⟩ true).2 L t ∧
      ((peekPeek m ⟨s, none⟩ true).1 = .skip ∨ (∃ e, (peekPeek m ⟨s, none⟩ true).1 = .err e ∧ soft e = true) ∨
        ∃ a c L', L = (a, c) :: L' ∧ (peekPeek m ⟨s, none⟩ true).1 = .item a)) := by
  have _tie := Skeleton.Tie.stPeek
  rw [peekPeek_step_none]
  cases h with
  | skip hc hs h' => rw [hs]; exact .inr (.inr ⟨peek_sden h', .inl rfl⟩)
  | @soft _ _ e _ _ hc hs he h' => rw [hs]; exact .inr (.inr ⟨peek_sden h', .inr (.inl ⟨e, rfl, he⟩)⟩)
  | @item _ _ a L' _ hc hs h' =>
    rw [hs]
    simp only [pullThen, peekOn_item]
    exact .inr (.inr ⟨peek_sden_has a h', .inr (.inr ⟨a, _, L', rfl, rfl⟩)⟩)
  | @fail _ _ e hc hs he => rw [hs]; exact .inl ⟨e, rfl, he, rfl, rfl⟩
  | done hc hs he hk => rw [hs]; exact .inr (.inl ⟨congrArg Prod.fst (peekOn_end _), rfl, _, rfl⟩)

/-! ### the multi-source combinators: the erased reading (partial)

For `Flatten` and `Join` the steps (`*_error_itself`) and single calls (`failed_call_costs_nothing`,
which applies to them through `s_flatten_denotes` / `s_join_denotes`) are exact. For the
whole run only the *erased* reading is stated: the answers with the failed calls that cost nothing removed
(`hard`) conform to the fault-free sequence. That reading does not say that a failed call returned the
script's own transient error, nor that a live call never answers the context error, and it bounds the
number of failed calls by nothing; the full statement is `ExactE` over the transient failures of all
sources involved (interleaved in the order the sources are asked), as proved above for the
single-source combinators. -/

/-- the erased reading, in general: whatever a combinator is shown to denote on a script, the consumer
sees — with the failed calls that cost nothing erased, under any contexts — what it denotes on the
script with its transient failures erased. -/
theorem erased_run_conforms_weak {ι : Type x} {σ' : Type w} {m' : SM σ' β} {cost' : σ' → Nat} {st : σ'} (sc : List (Ev ι))
    (X : List (ι × Nat) → Term → List (β × Nat) × Term)
    (h : SDen Err.soft m' cost' st (X (scriptItems true 0 sc) (scriptTerm true 0 sc)).1
      (X (scriptItems true 0 sc) (scriptTerm true 0 sc)).2) :
    ∃ F, ∀ fuel, F ≤ fuel → ∀ cs, Conforms (hard Err.soft (snexts m' fuel cs st))
      ((X (scriptItems true 0 (eraseT sc)) (scriptTerm true 0 (eraseT sc))).1.map Prod.fst)
      (X (scriptItems true 0 (eraseT sc)) (scriptTerm true 0 (eraseT sc))).2 := by
  rw [scriptItems_eraseT true 0 sc, scriptTerm_eraseT true 0 sc]
  exact sden_conforms rfl h

/-- **`flatten_transient_conforms_partial`** (faulty outer stream, inner streams denoting `D`): erased reading. -/
theorem flatten_transient_conforms_partial {mi : SM τ α} (D : τ → List α × Term) (sc : List (Ev τ))
    (hD : ∀ p ∈ scriptItems true 0 sc, ∃ (ci : τ → Nat) (Li : List (α × Nat)),
      SDen Err.soft mi ci p.1 Li (D p.1).2 ∧ Li.map Prod.fst = (D p.1).1) :
    ∃ F, ∀ fuel, F ≤ fuel → ∀ cs, Conforms (hard Err.soft (snexts (flatten src mi) fuel cs ⟨Src.of sc, none, []⟩))
      ((flattenS D (scriptItems true 0 (eraseT sc)) (scriptTerm true 0 (eraseT sc))).1.map Prod.fst)
      (flattenS D (scriptItems true 0 (eraseT sc)) (scriptTerm true 0 (eraseT sc))).2 :=
  erased_run_conforms_weak sc (flattenS D) (flatten_sden D (source_fault_denotes sc) hD [])

/-- non-vacuity: a faulty outer script of faulty inner scripted sources -/
example : (flattenS srcD (scriptItems true 0
      [Ev.item (Src.of [Ev.item 1, .transient 3, .item 2]), .transient 7, .item (Src.of [Ev.item 3])]) (.end_ 2)).1.map Prod.fst
    = [1, 2, 3] := by decide

/-- **`join_transient_conforms_partial`** (faulty scripted arguments): erased reading. -/
theorem join_transient_conforms_partial (scs : List (List (Ev α))) :
    ∃ F, ∀ fuel, F ≤ fuel → ∀ cs, Conforms (hard Err.soft (snexts (join src) fuel cs ⟨scs.map Src.of, []⟩))
      ((joinS srcD ((scs.map eraseT).map Src.of)).1.map Prod.fst) (joinS srcD ((scs.map eraseT).map Src.of)).2 := by
  have e : joinS srcD ((scs.map eraseT).map Src.of) = joinS srcD (scs.map Src.of) := by
    induction scs with
    | nil => rfl
    | cons sc scs ih =>
      have h1 : srcD (Src.of (eraseT sc)) = srcD (Src.of sc) := by
        simp [srcD, Src.of, scriptItems_eraseT, scriptTerm_eraseT]
      simp only [List.map_cons, joinS, h1, ih]
  rw [e]
  exact sden_conforms rfl (join_sden (soft := Err.soft) srcD (scs.map Src.of) (fun s hs => by
    obtain ⟨sc, _, rfl⟩ := List.mem_map.mp hs
    exact srcD_hyp_script sc) [])

/-! ### `*_fatal`: the source delivers `l` and then fails for good with `E` -/

/-- the failing source itself -/
theorem fatal_source_denotes (l : List α) (E : Nat) (rest : List (Ev α)) :
    SDen Err.soft src (fun s : Src α => s.pulled) (Src.of (fatalAfter l E rest)) (annot 0 l) (.fail (.fatal E)) :=
  fatal_src_sden l E rest

/-- `Filter` (callback not failing): the kept ones of the `p` items, then `E` itself. -/
theorem filter_fatal (keep : α → Bool) (l : List α) (E : Nat) (rest : List (Ev α)) :
    SDen Err.soft (filter (fun a => .ok (keep a)) src) (fun st => st.inner.pulled) ⟨Src.of (fatalAfter l E rest)⟩
      ((annot 0 l).filter fun p => keep p.1) (.fail (.fatal E)) := by
  have h := filter_sden (soft := Err.soft) (fun a => Except.ok (keep a)) (by intro a e h; cases h) (fatal_src_sden l E rest)
  rwa [filterS_ok] at h

/-- `CompactFunc`. -/
theorem compact_fatal (eq : α → α → Bool) (l : List α) (E : Nat) (rest : List (Ev α)) :
    SDen Err.soft (compact eq src) (fun st => st.inner.pulled) ⟨Src.of (fatalAfter l E rest), true, none⟩
      (Seq.compactGo (fun p q => eq p.1 q.1) none (annot 0 l)) (.fail (.fatal E)) :=
  compact_sden eq (fatal_src_sden l E rest) none

/-- `First n` with `n` larger than the number of items before the failure: all of them, then `E` itself … -/
theorem first_fatal (n : Nat) (l : List α) (E : Nat) (rest : List (Ev α)) (hn : l.length < n) :
    SDen Err.soft (first src) (fun st => st.inner.pulled) ⟨Src.of (fatalAfter l E rest), (n : Int)⟩
      (annot 0 l) (.fail (.fatal E)) := by
  have h := first_sden (soft := Err.soft) (fatal_src_sden l E rest) (n : Int)
  rw [firstTermS_short _ _ _ _ (by simpa [annot_length] using hn),
    List.take_of_length_le (by simp [annot_length]; omega)] at h
  exact h

/-- … and with `n ≤ p` it ends normally after `n` items without ever reaching the failure. -/
theorem first_fatal_not_reached (n : Nat) (l : List α) (E : Nat) (rest : List (Ev α)) (hn : n ≤ l.length) :
    ∃ e, SDen Err.soft (first src) (fun st => st.inner.pulled) ⟨Src.of (fatalAfter l E rest), (n : Int)⟩
      ((annot 0 l).take n) (.end_ e) := by
  have h := first_sden (soft := Err.soft) (fatal_src_sden l E rest) (n : Int)
  obtain ⟨e, he⟩ := firstTermS_enough ((fun s : Src α => s.pulled) (Src.of (fatalAfter l E rest))) n (annot 0 l)
    (.fail (.fatal E)) (by rw [annot_length]; exact hn)
  simp only [Int.toNat_natCast] at h
  rw [he] at h
  exact ⟨e, h⟩

/-- `While` (all items before the failure pass): all of them, then `E` itself. -/
theorem while_fatal (f : α → Bool) (l : List α) (E : Nat) (rest : List (Ev α)) (hall : ∀ a ∈ l, f a = true) :
    SDen Err.soft (while_ (fun a => .ok (f a)) src) (fun st => st.inner.pulled) ⟨Src.of (fatalAfter l E rest), none, false⟩
      (annot 0 l) (.fail (.fatal E)) := by
  have h := while_sden (soft := Err.soft) (fun a => Except.ok (f a)) (by intro a e h; cases h) (fatal_src_sden l E rest)
  rwa [whileS_all _ _ _ (fun p hp => by simp [hall p.1 (IterDen.mem_annot hp)])] at h

/-- `WithPeek`. -/
theorem peekable_fatal (l : List α) (E : Nat) (rest : List (Ev α)) :
    SDen Err.soft (withPeek src) (fun st => st.inner.pulled) ⟨Src.of (fatalAfter l E rest), none⟩
      (annot 0 l) (.fail (.fatal E)) := peek_sden (fatal_src_sden l E rest)

/-- `FlattenSlices`: every item of every slice received before the failure — the buffer is drained
before the source is asked again — then `E` itself. -/
theorem flattenSlices_fatal (ls : List (List α)) (E : Nat) (rest : List (Ev (List α))) :
    SDen Err.soft (flattenSlices src) (fun st => st.inner.pulled) ⟨Src.of (fatalAfter ls E rest), []⟩
      ((annot 0 ls).flatMap fun p => p.1.map fun a => (a, p.2)) (.fail (.fatal E)) :=
  flattenSlices_sden (fatal_src_sden ls E rest)

/-- `Flatten`, the outer stream failing after it has handed out inner streams that all end: all their
items, then `E` itself. -/
theorem flatten_fatal {mi : SM τ α} (D : τ → List α × Term) (xs : List τ) (E : Nat) (rest : List (Ev τ))
    (hD : ∀ x ∈ xs, ∃ (ci : τ → Nat) (Li : List (α × Nat)), SDen Err.soft mi ci x Li (D x).2 ∧ Li.map Prod.fst = (D x).1)
    (hend : ∀ x ∈ xs, ∃ e, (D x).2 = .end_ e) :
    SDen Err.soft (flatten src mi) (fun st => st.outer.pulled) ⟨Src.of (fatalAfter xs E rest), none, []⟩
      ((annot 0 xs).flatMap fun p => (D p.1).1.map fun a => (a, p.2)) (.fail (.fatal E)) := by
  have h := flatten_sden (soft := Err.soft) D (fatal_src_sden xs E rest) (fun p hp => hD p.1 (IterDen.mem_annot hp)) []
  rwa [flattenS_allEnd D _ _ (fun p hp => hend p.1 (IterDen.mem_annot hp))] at h

/-- `Join`: the arguments `pre` end normally, the next one fails for good with `E` after the items `l`:
the items of `pre`, then `l`, then `E` itself — the later arguments are never asked for. -/
theorem join_fatal (pre : List (List α)) (l : List α) (E : Nat) (rest : List (Ev α)) (post : List (List (Ev α))) :
    SDen Err.soft (join src) (fun _ => 0)
      ⟨pre.map ofList ++ Src.of (fatalAfter l E rest) :: post.map Src.of, []⟩
      ((pre.flatten ++ l).map fun a => (a, 0)) (.fail (.fatal E)) := by
  have e : ((pre.map ofList).flatMap fun s => (srcD s).1.map fun a => (a, 0)) = pre.flatten.map fun a => (a, 0) := by
    induction pre with
    | nil => rfl
    | cons l0 pre ih => simp [srcD_ofList, ih]
  have h := join_sden (soft := Err.soft) srcD (pre.map ofList ++ Src.of (fatalAfter l E rest) :: post.map Src.of)
    (fun s hs => by
      simp only [List.mem_append, List.mem_map, List.mem_cons] at hs
      rcases hs with ⟨l', _, rfl⟩ | rfl | ⟨sc, _, rfl⟩
      · exact srcD_hyp_script _
      · exact srcD_hyp_script _
      · exact srcD_hyp_script _) []
  rw [joinS_fail srcD (pre.map ofList) (post.map Src.of) (Src.of (fatalAfter l E rest)) (.fatal E)
    (fun s hs => by
      obtain ⟨l', _, rfl⟩ := List.mem_map.mp hs
      exact ⟨_, by rw [srcD_ofList]⟩)
    (by rw [srcD_fatalAfter])] at h
  rw [e, srcD_fatalAfter, ← List.map_append] at h
  exact h

example : fatalAfter [1, 2] 9 [Ev.item 3] = [Ev.item 1, .item 2, .fatal 9, .item 3] := rfl

/-! ### `*_callback_error`: a callback fails with `E` on some item -/

/-- `Filter` (machine level): the callback fails (hard) with `E` on `a` after succeeding on `pre`: the kept
ones of `pre`, then `E` itself — whatever the source would have delivered afterwards. -/
theorem filter_callback_error (keep : α → Except Err Bool) (hf : ∀ a e, keep a = .error e → Err.soft e = false)
    (pre : List α) (a : α) (post : List α) (E : Err) (hfa : keep a = .error E) (hpre : ∀ x ∈ pre, ∃ b, keep x = .ok b) :
    ∃ L, SDen Err.soft (filter keep src) (fun st => st.inner.pulled) ⟨ofList (pre ++ a :: post)⟩ L (.fail E) ∧
      L.map Prod.fst = pre.filter (keptBy keep) := by
  have h := filter_sden (soft := Err.soft) keep hf (items_src_sden (pre ++ a :: post))
  rw [IterDen.annot_append] at h
  simp only [annot] at h
  have hk := filterS_callback_error keep a (0 + pre.length + 1) E hfa (annot 0 pre)
    (fun p hp => hpre p.1 (IterDen.mem_annot hp))
    (annot (0 + pre.length + 1) post) (.end_ (pre ++ a :: post).length)
  refine ⟨_, by rw [← hk.1]; exact h, ?_⟩
  rw [hk.2]
  exact (List.filter_map (f := Prod.fst) (p := keptBy keep)).symm.trans (by rw [annot_fst])

/-- `While` (machine level): the callback fails (hard) with `E` on `a` after passing all of `pre`: `pre`,
then `E` itself — not the end. -/
theorem while_callback_error (f : α → Except Err Bool) (hf : ∀ a e, f a = .error e → Err.soft e = false)
    (pre : List α) (a : α) (post : List α) (E : Err) (hfa : f a = .error E) (hpre : ∀ x ∈ pre, f x = .ok true) :
    SDen Err.soft (while_ f src) (fun st => st.inner.pulled) ⟨ofList (pre ++ a :: post), none, false⟩
      (annot 0 pre) (.fail E) := by
  have h := while_sden (soft := Err.soft) f hf (items_src_sden (pre ++ a :: post))
  rw [IterDen.annot_append] at h
  simp only [annot] at h
  rwa [whileS_callback_error f a _ E hfa (annot 0 pre)
    (fun p hp => hpre p.1 (IterDen.mem_annot hp))] at h

/-- `Reduce`: the callback succeeds on `pre` (reaching `acc'`) and fails with `E` on the next item: the
reducer returns `E` itself, whatever the stream would have done later. -/
theorem reduce_callback_error {γ : Type v} {m : SM σ α} {cost : σ → Nat} {s : σ} {L : List (α × Nat)} {t : Term}
    (f : γ → α → Except Err γ) (h : SDen strict m cost s L t) (E : Err) (pre : List α) (init acc' : γ) (a : α)
    (post : List α) (hL : L.map Prod.fst = pre ++ a :: post) (hpre : foldRes f init pre (.end_ 0) = .ok acc')
    (hfa : f acc' a = .error E) :
    ∃ F, ∀ fuel, F ≤ fuel → (reduce m f true fuel init s).1 = .error E := by
  exact (reduce_strict f h).mono fun _ hF => by rw [(hF init).1, hL, foldRes_callback_error f E t pre init acc' a post hpre hfa]

example : (filterS (fun n : Nat => if n = 3 then .error (.cb 7) else .ok (n % 2 == 0)) [(2, 1), (1, 2), (3, 3), (4, 4)] (.end_ 4))
    = ([(2, 1)], .fail (.cb 7)) := by decide

/-! ## pipelines of any depth under sequences of several faults -/

/-- **`pipeline_retry_exact`**: any pipeline of the seven stage kinds of `SPipe` (any depth; callbacks may
fail with their own hard error) over any fault script — any number of transient failures at any
positions, possibly a fatal one — under any per-call contexts: call by call (`ExactE`) the consumer sees
the context error only under an expired context, each transient error of the script *itself*, in order
and at most once, under a live context, and otherwise exactly what the pipeline yields on the script
without its transient failures — nothing lost, nothing duplicated — ending with the pipeline's own image
of the script's termination. (For pipelines containing `Runs` / `Chunk` alone / a type-changing `Map`: compose `retry_exact` with the
stages' `*_wraps` and `s_*_denotes` lemmas by hand; `SoftThru` for the multi-source stages `Flatten` /
`Join` is not proved.) -/
theorem pipeline_retry_exact {α : Type} (p : SPipe α) (sc : List (Ev α)) :
    ∃ F, ∀ fuel, F ≤ fuel → ∀ cs : List Bool,
      ExactE (cs.zip (snexts (p.machine src).m fuel cs ((p.machine src).wrap (Src.of sc)))) (transientsOf sc)
        ((p.spec 0 (scriptItems true 0 sc) (scriptTerm true 0 sc)).1.map Prod.fst)
        (p.spec 0 (scriptItems true 0 sc) (scriptTerm true 0 sc)).2 := by
  have h := retry_exact (spipe_softThru src p) (spipe_sden (c := fun s : Src α => s.pulled) p (source_fault_denotes sc))
  simp only [SPipe.proj_wrap] at h
  exact h

/-- **two faults**: two transient failures anywhere in the input: the run is exact from `[n1, n2]` against
the fault-free input's outputs. -/
theorem pipeline_two_faults {α : Type} (p : SPipe α) (l1 l2 l3 : List α) (n1 n2 : Nat) :
    ∃ F, ∀ fuel, F ≤ fuel → ∀ cs : List Bool,
      ExactE (cs.zip (snexts (p.machine src).m fuel cs ((p.machine src).wrap
          (Src.of (l1.map Ev.item ++ .transient n1 :: (l2.map Ev.item ++ .transient n2 :: l3.map Ev.item))))))
        [n1, n2]
        ((p.spec 0 (annot 0 (l1 ++ l2 ++ l3)) (.end_ (l1 ++ l2 ++ l3).length)).1.map Prod.fst)
        (p.spec 0 (annot 0 (l1 ++ l2 ++ l3)) (.end_ (l1 ++ l2 ++ l3).length)).2 := by
  have h := pipeline_retry_exact p (l1.map Ev.item ++ .transient n1 :: (l2.map Ev.item ++ .transient n2 :: l3.map Ev.item))
  rw [(script_two_transients l1 l2 l3 n1 n2).1, (script_two_transients l1 l2 l3 n1 n2).2,
    scriptItems_map_item, scriptTerm_map_item, Nat.zero_add] at h
  have e : transientsOf (l1.map Ev.item ++ Ev.transient n1 :: (l2.map Ev.item ++ Ev.transient n2 :: l3.map Ev.item)) = [n1, n2] := by
    have k0 : transientsOf (l3.map Ev.item) = [] := by
      have := transientsOf_items_append l3 []; simpa [transientsOf] using this
    rw [transientsOf_items_append, transientsOf, transientsOf_items_append, transientsOf, k0]
  rwa [e] at h

/-- **a transient failure and later a fatal one**: exact from `n :: …` against the pipeline's outputs for
the items before the fatal failure, then its image of that failure (`pipeline_fatal_surfaces`). -/
theorem pipeline_transient_then_fatal {α : Type} (p : SPipe α) (l1 l2 : List α) (n E : Nat) (rest : List (Ev α)) :
    ∃ F, ∀ fuel, F ≤ fuel → ∀ cs : List Bool,
      ExactE (cs.zip (snexts (p.machine src).m fuel cs ((p.machine src).wrap
          (Src.of (l1.map Ev.item ++ .transient n :: (l2.map Ev.item ++ .fatal E :: rest))))))
        (n :: transientsOf rest)
        ((p.spec 0 (annot 0 (l1 ++ l2)) (.fail (.fatal E))).1.map Prod.fst)
        (p.spec 0 (annot 0 (l1 ++ l2)) (.fail (.fatal E))).2 := by
  have h := pipeline_retry_exact p (l1.map Ev.item ++ .transient n :: (l2.map Ev.item ++ .fatal E :: rest))
  rw [(script_transient_then_fatal l1 l2 n E rest).1, (script_transient_then_fatal l1 l2 n E rest).2,
    scriptItems_map_item] at h
  have e : transientsOf (l1.map Ev.item ++ Ev.transient n :: (l2.map Ev.item ++ Ev.fatal E :: rest)) = n :: transientsOf rest := by
    rw [transientsOf_items_append, transientsOf, transientsOf_items_append]; simp [transientsOf]
  rwa [e] at h

/-- **`E` itself**: a pipeline over a stream that fails with `E` terminates with `E` — or with its own
normal end when a `First`/`While` stage had already ended, or with a callback's own failure that came
first; never with another error and never silently. -/
theorem pipeline_fatal_surfaces {α : Type} (p : SPipe α) (c0 : Nat) (L : List (α × Nat)) (E : Err) :
    TermOk E (p.spec c0 L (.fail E)).2 := by
  induction p with
  | src => exact Or.inl rfl
  | filter keep p ih => exact filterS_termOk keep _ _ ih
  | map f p ih => exact mapS_termOk f _ _ ih
  | first n p ih => exact firstTermS_termOk _ _ _ _ ih
  | while_ f p ih => exact whileS_termOk f _ _ ih
  | compact eq p ih => exact ih
  | peek p ih => exact ih
  | chunkFlat n p ih => exact ih

/-- non-vacuity: a depth-4 pipeline with a type-changing stage, two transient faults and a fatal one: the
spec, and one concrete run (a live call, an expired one, live ones) against `ExactE` -/
example :
    let p : SPipe Nat := .first 3 (.chunkFlat 2 (.filter (fun n => .ok (n % 2 == 1)) (.map (fun n => .ok (n + 1)) .src)))
    let sc : List (Ev Nat) := [.item 0, .transient 1, .item 1, .item 2, .transient 2, .item 4, .item 6, .fatal 9, .item 8]
    (p.spec 0 (scriptItems true 0 sc) (scriptTerm true 0 sc)).1.map Prod.fst = [1, 3, 5] ∧ transientsOf sc = [1, 2] ∧
    snexts (p.machine src).m 20 [true, false, true, true, true, true, true] ((p.machine src).wrap (Src.of sc)) =
      [some (.err (.transient 1)), some (.err .ctx), some (.item 1), some (.item 3), some (.err (.transient 2)),
       some (.item 5), some .end_] := by
  decide

end Juniper.Props.C08
