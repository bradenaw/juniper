import Juniper.Proofs.HeapOps
import Juniper.Proofs.PQOps
/-!
# C05 — xheap.Heap and PriorityQueue always hand out a minimum; key map stays exact

Property theorems about the executable model `Juniper.Model.Heap` / `Juniper.Model.PQ`, whose index
arithmetic, loop guards, comparison orientation and statement-presence facts are regenerated from
`internal/heap/heap.go` and `container/xheap/xheap.go` on every run. `less` is any strict weak order
(`Spec.Heap.StrictWeak`: irreflexive, transitive, incomparability transitive — the contract of
`xsort.Less`); a `compare`-constructed order is `fun a b => compare a b < 0`.
The first sections are about `internal/heap` (the array heap shared by `xheap.Heap` and
`xheap.PriorityQueue`), the section "what the user sees" about the exported wrapper `xheap.Heap`.
Helper lemmas: `Juniper/Proofs/Heap*.lean`, `Juniper/Proofs/PQ*.lean`.
-/
namespace Juniper.Props.C05
open Juniper.Gen.Heap Juniper.Model.Heap Juniper.Spec.Heap Juniper.Proofs.Heap

variable {α : Type}

/-- The generated `parent` / `children` are the usual array-heap index maps. -/
theorem parent_children_spec (i : Nat) :
    parentN i = (i - 1) / 2 ∧ leftN i = 2 * i + 1 ∧ rightN i = 2 * i + 2 ∧
    parentN (leftN i) = i ∧ parentN (rightN i) = i := by
  refine ⟨parentN_eq i, leftN_eq i, rightN_eq i, ?_, ?_⟩
  · rw [leftN_eq, parentN_eq]; omega
  · rw [rightN_eq, parentN_eq]; omega

example : parentN 6 = 2 ∧ leftN 2 = 5 ∧ rightN 2 = 6 := by decide +kernel

/-! ## Heap: representation invariant preserved, multiset preserved -/

/-- `New`: bottom-up heapify establishes the heap order for any initial slice. -/
theorem heapify_inv {less : α → α → Bool} (sw : StrictWeak less) (initial : List α) :
    HeapInv less (new less initial).1.a := new_heapInv sw initial

/-- `New` holds exactly the initial items. -/
theorem heapify_perm (less : α → α → Bool) (initial : List α) :
    (new less initial).1.a.Perm initial := new_perm less initial

example : (new ltN [5, 3, 4, 1, 1, 2]).1.a = [1, 1, 2, 3, 5, 4] := by decide +kernel

theorem push_inv {less : α → α → Bool} (sw : StrictWeak less) (h : Heap α) (x : α)
    (hh : HeapInv less h.a) : HeapInv less (push less h x).1.a := push_heapInv sw h x hh

theorem push_perm (less : α → α → Bool) (h : Heap α) (x : α) :
    (push less h x).1.a.Perm (x :: h.a) := Juniper.Proofs.Heap.push_perm less h x

example : (push ltN ⟨[1, 3, 2], 0⟩ 0).1.a = [0, 1, 2, 3] := by decide +kernel

theorem pop_inv {less : α → α → Bool} (sw : StrictWeak less) {h h' : Heap α} {x : α} {notes : List (Note α)}
    (hh : HeapInv less h.a) (hp : pop less h = some (h', x, notes)) : HeapInv less h'.a :=
  pop_heapInv sw hh hp

/-- `Pop` removes exactly the item it returns. -/
theorem pop_perm {less : α → α → Bool} {h h' : Heap α} {x : α} {notes : List (Note α)}
    (hp : pop less h = some (h', x, notes)) : (x :: h'.a).Perm h.a := Juniper.Proofs.Heap.pop_perm hp

example : (pop ltN ⟨[1, 1, 2, 3, 5, 4], 7⟩).map (fun r => (r.1.a, r.2.1)) = some ([1, 3, 2, 4, 5], 1) := by decide +kernel

theorem removeAt_inv {less : α → α → Bool} (sw : StrictWeak less) {h h' : Heap α} {i : Nat}
    {notes : List (Note α)} (hh : HeapInv less h.a) (hp : removeAt less h i = some (h', notes)) :
    HeapInv less h'.a := removeAt_heapInv sw hh hp

/-- `RemoveAt(i)` removes exactly the item at `i` (first, last, leaf or inner position alike). -/
theorem removeAt_perm {less : α → α → Bool} {h h' : Heap α} {i : Nat} {notes : List (Note α)}
    (hp : removeAt less h i = some (h', notes)) : ∃ x, h.a[i]? = some x ∧ (x :: h'.a).Perm h.a :=
  Juniper.Proofs.Heap.removeAt_perm hp

/-- `RemoveAt` panics exactly for an index outside the array. -/
theorem removeAt_panics_iff (less : α → α → Bool) (h : Heap α) (i : Nat) :
    removeAt less h i = none ↔ ¬ i < h.a.length := removeAt_none_iff less h i

-- inner node whose replacement must move up (4 → replaced by 1 under parent 3)
example : (removeAt ltN ⟨[0, 3, 1, 4, 5, 2, 1], 0⟩ 3).map (·.1.a) = some [0, 1, 1, 3, 5, 2] := by decide +kernel
-- last position
example : (removeAt ltN ⟨[0, 3, 1], 0⟩ 2).map (·.1.a) = some [0, 3] := by decide +kernel

theorem updateAt_inv {less : α → α → Bool} (sw : StrictWeak less) {h h' : Heap α} {i : Nat} {x : α}
    {notes : List (Note α)} (hh : HeapInv less h.a) (hp : updateAt less h i x = some (h', notes)) :
    HeapInv less h'.a := updateAt_heapInv sw hh hp

/-- `UpdateAt(i, x)` replaces exactly the item at `i` by `x`. -/
theorem updateAt_perm {less : α → α → Bool} {h h' : Heap α} {i : Nat} {x : α} {notes : List (Note α)}
    (hp : updateAt less h i x = some (h', notes)) : ∃ y, h.a[i]? = some y ∧ (y :: h'.a).Perm (x :: h.a) :=
  Juniper.Proofs.Heap.updateAt_perm hp

theorem updateAt_panics_iff (less : α → α → Bool) (h : Heap α) (i : Nat) (x : α) :
    updateAt less h i x = none ↔ ¬ i < h.a.length := updateAt_none_iff less h i x

example : (updateAt ltN ⟨[0, 3, 1, 4, 5], 0⟩ 1 9).map (·.1.a) = some [0, 4, 1, 9, 5] := by decide +kernel
example : (updateAt ltN ⟨[1, 3, 2, 4, 5], 0⟩ 4 0).map (·.1.a) = some [0, 1, 2, 4, 3] := by decide +kernel

/-! ## Heap: what the user sees (`xheap.Heap`)

The theorems of this section are about the methods of the exported wrapper `xheap.Heap`
(`Model.Heap.X.push/pop/peek/len/drain`), which the model *defines* by the generated facts "the body
of the wrapper method is exactly the forwarding statement" (`xPushForwards`, `xPopForwards`,
`xPeekForwards`, `xLenForwards`); every proof discharges the facts it needs by `decide`, so a wrapper
that does anything but forward breaks the theorem about that method. -/

/-- `Push` keeps the heap order and adds exactly the pushed item. -/
theorem xheap_push {less : α → α → Bool} (sw : StrictWeak less) (h : Heap α) (x : α)
    (hh : HeapInv less h.a) :
    HeapInv less (X.push less h x).a ∧ (X.push less h x).a.Perm (x :: h.a) := by
  rw [xpush_eq (by decide)]
  exact ⟨push_heapInv sw h x hh, Juniper.Proofs.Heap.push_perm less h x⟩

/-- `Peek` returns a held item that no other held item is less than. -/
theorem peek_min {less : α → α → Bool} (sw : StrictWeak less) {h : Heap α} {x : α}
    (hh : HeapInv less h.a) (hp : X.peek h = some x) : IsMin less x h.a := by
  rw [xpeek_eq (by decide), peek_eq_getElem?] at hp
  exact isMin_root sw hh hp

/-- `Pop` returns a held item that no other held item is less than, removes exactly that item and
keeps the heap order. -/
theorem pop_min {less : α → α → Bool} (sw : StrictWeak less) {h h' : Heap α} {x : α}
    (hh : HeapInv less h.a) (hp : X.pop less h = some (h', x)) :
    IsMin less x h.a ∧ (x :: h'.a).Perm h.a ∧ HeapInv less h'.a := by
  obtain ⟨notes, hp'⟩ := xpop_some (by decide) hp
  obtain ⟨_, hit, _⟩ := pop_shape hp'
  exact ⟨isMin_root sw hh hit, Juniper.Proofs.Heap.pop_perm hp', pop_heapInv sw hh hp'⟩

example : IsMin ltN 1 [1, 1, 2, 3] := ⟨by decide, by decide⟩
example : X.pop ltN ⟨[1, 1, 2, 3, 5, 4], 7⟩ = some (⟨[1, 3, 2, 4, 5], 8⟩, 1) := by decide +kernel

/-- `Pop` on an empty heap panics, and only then. -/
theorem pop_empty_panics (less : α → α → Bool) (h : Heap α) : X.pop less h = none ↔ h.a = [] := by
  rw [xpop_none (by decide)]; exact pop_none_iff less h

/-- `Peek` on an empty heap panics, and only then. -/
theorem peek_empty_panics (h : Heap α) : X.peek h = none ↔ h.a = [] := by
  rw [xpeek_eq (by decide), peek_eq_getElem?]
  cases h.a <;> simp

/-- `Len` is pushes (plus initial items) minus pops. -/
theorem len_counts (less : α → α → Bool) (h : Heap α) :
    (∀ initial : List α, X.len (new less initial).1 = initial.length) ∧
    (∀ x, X.len (X.push less h x) = X.len h + 1) ∧
    (∀ h' x, X.pop less h = some (h', x) → X.len h' = X.len h - 1) := by
  refine ⟨?_, ?_, ?_⟩
  · intro initial
    rw [xlen_eq (by decide), len_eq_length, (new_perm less initial).length_eq]
  · intro x
    rw [xlen_eq (by decide), xlen_eq (by decide), xpush_eq (by decide), len_eq_length, len_eq_length,
      (Juniper.Proofs.Heap.push_perm less h x).length_eq]; simp
  · intro h' x hp
    obtain ⟨notes, hp'⟩ := xpop_some (by decide) hp
    have := (Juniper.Proofs.Heap.pop_perm hp').length_eq
    rw [xlen_eq (by decide), xlen_eq (by decide), len_eq_length, len_eq_length]
    simp at this; omega

/-- Draining returns everything, in non-decreasing order. -/
theorem drain_sorted {less : α → α → Bool} (sw : StrictWeak less) (f : Nat) (h : Heap α)
    (hh : HeapInv less h.a) (hf : h.a.length ≤ f) :
    Sorted less (X.drain less f h) ∧ (X.drain less f h).Perm h.a := by
  induction f generalizing h with
  | zero =>
    have : h.a = [] := List.eq_nil_of_length_eq_zero (by omega)
    simp [X.drain, Sorted, this]
  | succ f ih =>
    unfold X.drain
    cases hp : X.pop less h with
    | none =>
      have : h.a = [] := (pop_empty_panics less h).mp hp
      simp [Sorted, this]
    | some r =>
      obtain ⟨h', x⟩ := r
      obtain ⟨hmin, hperm, hinv⟩ := pop_min sw hh hp
      have hlen := hperm.length_eq
      simp at hlen
      obtain ⟨hs, hpm⟩ := ih h' hinv (by omega)
      refine ⟨?_, (hpm.cons x).trans hperm⟩
      simp only [Sorted, List.pairwise_cons]
      refine ⟨?_, hs⟩
      intro y hy
      exact hmin.2 y (hperm.subset (List.mem_cons_of_mem _ (hpm.subset hy)))

example : X.drain ltN 6 (new ltN [5, 3, 4, 1, 1, 2]).1 = [1, 1, 2, 3, 4, 5] := by decide +kernel

/-- one call of a history: `some x` = `Push(x)`, `none` = `Pop()` (a panicking `Pop` leaves the heap
as it is) -/
def hstep (less : α → α → Bool) (h : Heap α) : Option α → Heap α
  | some x => X.push less h x
  | none => match X.pop less h with
    | some (h', _) => h'
    | none => h

/-- Every history of `New` / `Push` / `Pop` keeps the heap order: the hypotheses of `peek_min`,
`pop_min` and `drain_sorted` hold in every reachable state. -/
theorem heap_reachable_inv {less : α → α → Bool} (sw : StrictWeak less) (initial : List α)
    (ops : List (Option α)) :
    HeapInv less (ops.foldl (hstep less) (new less initial).1).a := by
  suffices ∀ h : Heap α, HeapInv less h.a → HeapInv less (ops.foldl (hstep less) h).a from
    this _ (new_heapInv sw initial)
  induction ops with
  | nil => intro h hh; exact hh
  | cons o t ih =>
    intro h hh
    simp only [List.foldl_cons]
    apply ih
    cases o with
    | some x => exact (xheap_push sw h x hh).1
    | none =>
      simp only [hstep]
      cases hp : X.pop less h with
      | none => exact hh
      | some r => obtain ⟨h', x⟩ := r; exact (pop_min sw hh hp).2.2

example : (([some 4, some 1, none, some 0, none, none, none] : List (Option Nat)).foldl (hstep ltN)
    (new ltN [5, 3]).1).a = [5] := by decide +kernel

/-- `less`- and `compare`-constructed heaps: `compare(a,b) < 0` of a three-way comparison consistent
with a strict weak order is that order, so every theorem above applies to `NewCmp` as well. -/
theorem cmp_constructed (less : α → α → Bool) (cmp : α → α → Int)
    (hc : ∀ a b, (cmp a b < 0) ↔ less a b = true) : lessOfCmp cmp = lessOfLess less := by
  funext a b
  simp only [lessOfCmp, lessOfLess, newLessWrap, cmpLess, hc, Bool.decide_eq_true]

theorem lessOfLess_eq (less : α → α → Bool) : lessOfLess less = less := by
  funext a b; simp [lessOfLess, newLessWrap]

/-! ## PriorityQueue: the key → index map stays exact -/

section PQ
open Juniper.Model.PQ Juniper.Proofs.PQ
variable {K P : Type} [DecidableEq K]

/-- **Notification discipline.** Every element whose index changes is notified with its final
index: applying the ordered notifications of `swap`, `percolateUp`, `percolateDown` to a map that
records every element of the old array yields a map that records every element of the new array;
the notify-all loop of `New` records every element whatever the map held before. -/
theorem notifications_cover_moves (less : KP K P → KP K P → Bool) {a : List (KP K P)}
    (nd : (keysOf a).Nodup) :
    (∀ m i j, Idx m a → i < a.length → j < a.length → Idx (applyNotes m (swapN a i j).2) (swapAt a i j)) ∧
    (∀ m i, Idx m a → i < a.length →
      Idx (applyNotes m (percolateUp less a i).2) (percolateUp less a i).1) ∧
    (∀ m i, Idx m a → i < a.length →
      Idx (applyNotes m (percolateDown less a i).2) (percolateDown less a i).1) ∧
    (∀ m, Idx (applyNotes m (notifyAll a)) a) :=
  ⟨fun _ _ _ h hi hj => idx_swapN nd h hi hj,
   fun _ _ h _ => (percolateUp_swaps less a _).idx nd h,
   fun _ _ h _ => (percolateDown_swaps less a _).idx nd h,
   fun m => idx_notifyAll m nd⟩

example : Idx (applyNotes [(7, 0), (8, 1)] (swapN [((7 : Nat), (5 : Nat)), (8, 3)] 1 0).2)
    (swapAt [(7, 5), (8, 3)] 1 0) := by
  intro i k p h
  match i, h with
  | 0, h => simp [swapAt_eq] at h; obtain ⟨rfl, rfl⟩ := h; decide
  | 1, h => simp [swapAt_eq] at h; obtain ⟨rfl, rfl⟩ := h; decide
  | i + 2, h => simp [swapAt_eq] at h

/-- What every reachable queue satisfies: the index map is exact (`IndexInv`: keys distinct,
`m k = i ↔ a[i].key = k`) and the array is a heap for the priority order. -/
def QInv (less : P → P → Bool) (q : PQ K P) : Prop := IndexInv q ∧ HeapInv (lessKP less) q.h.a

/-- **`pq_initial_dedup`**: a queue built from an initial list (duplicate keys allowed) holds each
distinct key once — with the priority of its first occurrence — and starts with an exact index map. -/
theorem pq_initial_dedup {less : P → P → Bool} (sw : StrictWeak less) (initial : List (KP K P)) :
    QInv less (Juniper.Model.PQ.new less initial) ∧
    (keysOf (Juniper.Model.PQ.new less initial).h.a).Nodup ∧
    (∀ k, (∃ p, Holds (Juniper.Model.PQ.new less initial) k p) ↔ k ∈ keysOf initial) ∧
    (∀ k p, Holds (Juniper.Model.PQ.new less initial) k p →
      initial.find? (fun e => decide (e.1 = k)) = some (k, p)) := by
  obtain ⟨hinv, hh⟩ := new_spec less initial
  refine ⟨⟨hinv, ?_⟩, hinv.1, ?_, ?_⟩
  · rw [new_eq]; exact new_heapInv (lessKP_sw sw) _
  · intro k
    constructor
    · rintro ⟨p, hp⟩
      exact mem_keys_of_mem (List.mem_of_find?_eq_some (mem_dedup.mp ((hh k p).mp hp)).2)
    · intro hk
      obtain ⟨p, hp⟩ := find?_of_mem_keysOf hk
      exact ⟨p, (hh k p).mpr (mem_dedup.mpr ⟨rfl, hp⟩)⟩
  · intro k p hp
    exact (mem_dedup.mp ((hh k p).mp hp)).2

example : (Juniper.Model.PQ.new ltN [((1 : Nat), (5 : Nat)), (2, 3), (1, 9), (3, 4)]).h.a = [(2, 3), (1, 5), (3, 4)] := by
  decide

/-- **`IndexInv` is preserved by `Update`** (new key, or existing key to a lower / higher / equal
priority), which never panics and changes the mapping at `k` only. -/
theorem indexInv_update {less : P → P → Bool} (sw : StrictWeak less) {q : PQ K P} (hq : QInv less q)
    (k : K) (p : P) :
    ∃ q', update less q k p = some q' ∧ QInv less q' ∧
      ∀ k' p', Holds q' k' p' ↔ (k' = k ∧ p' = p) ∨ (k' ≠ k ∧ Holds q k' p') := by
  by_cases hk : ∃ p0, Holds q k p0
  · obtain ⟨p0, hp0⟩ := hk
    obtain ⟨q', he, hi, hh, i, y, notes, _, hu⟩ := update_existing (less := less) hq.1 p hp0
    exact ⟨q', he, ⟨hi, updateAt_heapInv (lessKP_sw sw) hq.2 hu⟩, hh⟩
  · have hk' : ∀ p0, ¬ Holds q k p0 := fun p0 h => hk ⟨p0, h⟩
    obtain ⟨q', he, hi, hh, hpush⟩ := update_new (less := less) hq.1 p hk'
    exact ⟨q', he, ⟨hi, by rw [hpush]; exact push_heapInv (lessKP_sw sw) _ _ hq.2⟩, hh⟩

/-- **`IndexInv` is preserved by `Remove`** (key at the first, last, a leaf or an inner position, or
absent), which never panics and deletes exactly `k`. -/
theorem indexInv_remove {less : P → P → Bool} (sw : StrictWeak less) {q : PQ K P} (hq : QInv less q) (k : K) :
    ∃ q', remove less q k = some q' ∧ QInv less q' ∧
      ∀ k' p', Holds q' k' p' ↔ k' ≠ k ∧ Holds q k' p' := by
  by_cases hk : ∃ p0, Holds q k p0
  · obtain ⟨p0, hp0⟩ := hk
    obtain ⟨q', he, hi, hh, i, notes, _, hu⟩ := remove_present (less := less) hq.1 hp0
    exact ⟨q', he, ⟨hi, removeAt_heapInv (lessKP_sw sw) hq.2 hu⟩, hh⟩
  · have hk' : ∀ p0, ¬ Holds q k p0 := fun p0 h => hk ⟨p0, h⟩
    refine ⟨q, remove_absent hq.1 hk', hq, ?_⟩
    intro k' p'
    constructor
    · intro h; exact ⟨fun e => hk' p' (e ▸ h), h⟩
    · exact fun h => h.2

/-- **`IndexInv` is preserved by `Pop`**, which panics exactly on the empty queue and otherwise
removes and returns a key whose current priority is minimal. -/
theorem indexInv_pop {less : P → P → Bool} (sw : StrictWeak less) {q : PQ K P} (hq : QInv less q) :
    (q.h.a = [] → Juniper.Model.PQ.pop less q = none) ∧
    (q.h.a ≠ [] → ∃ q' k p0, Juniper.Model.PQ.pop less q = some (q', k) ∧ QInv less q' ∧
      Holds q k p0 ∧ (∀ k' p', Holds q k' p' → less p' p0 = false) ∧
      (∀ k' p', Holds q' k' p' ↔ k' ≠ k ∧ Holds q k' p')) := by
  constructor
  · intro he
    rw [pop_eq, (pop_none_iff _ _).mpr he]
  · intro hne
    obtain ⟨q', k, p0, notes, he, h0, hi, hh, hu⟩ := pop_nonempty (less := less) hq.1 hne
    exact ⟨q', k, p0, he, ⟨hi, pop_heapInv (lessKP_sw sw) hq.2 hu⟩, List.mem_of_getElem? h0,
      fun k' p' => holds_root_min sw hq.2 h0, hh⟩

/-- **`pq_refines_map`** — the observers report the current mapping: `Contains`, `Priority`
(zero value, modelled as `none`, for an absent key), `Len` (number of keys, each held once), and
`Peek` returns a key of minimal current priority and panics exactly on the empty queue.
Together with `indexInv_update/remove/pop` and `pq_initial_dedup` this is the refinement of the
queue to a finite map key → priority. -/
theorem pq_refines_map {less : P → P → Bool} (sw : StrictWeak less) {q : PQ K P} (hq : QInv less q) :
    (∀ k, contains q k = true ↔ ∃ p, Holds q k p) ∧
    (∀ k p, Holds q k p → priority q k = some (some p)) ∧
    (∀ k, (∀ p, ¬ Holds q k p) → priority q k = some none) ∧
    (∀ k p p', Holds q k p → Holds q k p' → p = p') ∧
    (Juniper.Model.PQ.len q = (keysOf q.h.a).length ∧ (keysOf q.h.a).Nodup) ∧
    (Juniper.Model.PQ.peek q = none ↔ q.h.a = []) ∧
    (∀ k, Juniper.Model.PQ.peek q = some k →
      ∃ p0, Holds q k p0 ∧ ∀ k' p', Holds q k' p' → less p' p0 = false) := by
  refine ⟨contains_iff hq.1, fun k p => priority_present hq.1, fun k => priority_absent hq.1,
    fun k p p' => holds_functional hq.1, ⟨len_eq q, hq.1.1⟩, ?_, ?_⟩
  · rw [peek_eq]; cases h : q.h.a <;> simp
  · intro k hk
    rw [peek_eq] at hk
    cases h0 : q.h.a[0]? with
    | none => rw [h0] at hk; cases hk
    | some r =>
      obtain ⟨k0, p0⟩ := r
      rw [h0] at hk; simp at hk; subst hk
      exact ⟨p0, List.mem_of_getElem? h0, fun k' p' => holds_root_min sw hq.2 h0⟩

/-- Queue operations of a history. -/
inductive QOp (K P : Type) where
  | update (k : K) (p : P)
  | remove (k : K)
  | pop

/-- one step; a panicking call (only `Pop` on empty) leaves the queue as it is -/
def qstep (less : P → P → Bool) (q : PQ K P) : QOp K P → PQ K P
  | .update k p => (update less q k p).getD q
  | .remove k => (remove less q k).getD q
  | .pop => ((Juniper.Model.PQ.pop less q).map (·.1)).getD q

/-- **For every operation sequence** from any initial list the queue satisfies `QInv`, i.e. the
hypotheses of all theorems above hold in every reachable state. -/
theorem pq_reachable_inv {less : P → P → Bool} (sw : StrictWeak less) (initial : List (KP K P))
    (ops : List (QOp K P)) :
    QInv less (ops.foldl (qstep less) (Juniper.Model.PQ.new less initial)) := by
  suffices ∀ q : PQ K P, QInv less q → QInv less (ops.foldl (qstep less) q) from
    this _ (pq_initial_dedup sw initial).1
  induction ops with
  | nil => intro q hq; exact hq
  | cons o t ih =>
    intro q hq
    simp only [List.foldl_cons]
    apply ih
    cases o with
    | update k p =>
      obtain ⟨q', he, hi, _⟩ := indexInv_update sw hq k p
      simp [qstep, he, hi]
    | remove k =>
      obtain ⟨q', he, hi, _⟩ := indexInv_remove sw hq k
      simp [qstep, he, hi]
    | pop =>
      by_cases hne : q.h.a = []
      · simp [qstep, (indexInv_pop sw hq).1 hne, hq]
      · obtain ⟨q', k, p0, he, hi, _⟩ := (indexInv_pop sw hq).2 hne
        simp [qstep, he, hi]

example : ((([QOp.update 4 1, .update 2 9, .pop, .remove 3] : List (QOp Nat Nat)).foldl (qstep ltN)
    (Juniper.Model.PQ.new ltN [(1, 5), (2, 3), (1, 9), (3, 4)])).h.a) = [(1, 5), (2, 9)] := by decide +kernel

/-- a `compare`-constructed queue orders priorities by `compare(a, b) < 0` -/
theorem pq_cmp_constructed (less : P → P → Bool) (cmp : P → P → Int)
    (hc : ∀ a b, (cmp a b < 0) ↔ less a b = true) : lessOfCmpP cmp = less := by
  funext a b
  simp only [lessOfCmpP, pqCmpLess, hc, Bool.decide_eq_true]

end PQ

end Juniper.Props.C05
