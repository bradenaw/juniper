import Juniper.Proofs.TreeAccessExample
import Juniper.Proofs.FirstRace
/-!
# C01, last sentence — "Puts from several goroutines to distinct keys that are already present,
concurrent with reads of other keys, are free of data races and all take effect" (property theorems)

The theorems are about the **access-level model** `Model/BTreeAccess.lean`: every operation is a
sequence of atomic shared-memory accesses `read loc` / `write loc` (locations: `root`, `size`, `gen`,
and per node object `n`, `keys[i]`, `values[i]`, `children[i]`, `parent`), a configuration is the shared memory
plus one program counter per goroutine, a step is one goroutine performing its next access, and a
**data race** is a reachable configuration in which two different goroutines are about to access the
same location, at least one of them writing. The statement order of `Put` (what happens before the
descent, in the overwrite branch, after the insertion) is interpreted from the regenerated statement
lists `Juniper.Gen.TreeAccess` (`putPlan_eq` pins it).

Hypotheses (`ConcHyp cmp t puts reads`): `cmp` a strict weak order; the node objects of `t` pairwise
distinct; goroutine `j < puts.length` executes `Put k_j v_j`, the `k_j` pairwise inequivalent and
present in `t`; the other goroutines are readers: `Get` / `Contains` of keys inequivalent to every `k_j`,
and **range readers** — `Range` / `RangeReverse` / `Iterate` (`Op.scan`, built from the bounds by the two
regenerated `switch` tables: `scanOf`, `scanOf_bounds`) followed by any number of `Next` calls — such that
every key stored in `t` that lies inside **both** bounds of the reader is inequivalent to every `k_j`
(with range readers present `t` satisfies the tree invariant: balanced, strictly sorted — every tree
reachable from the empty one does). `m` is any memory that holds `t` (`Rep m t`) including its parent
pointers and zero key slots behind the live prefixes (`AuxRep m t`); `memOf t` is one: `memOf_rep`,
`memOf_auxRep`.

The range reader is modelled access by access (`Model.BTreeAccess.itNext`): seek, and per `Next` the `lost()`
check, the in-range test on the remembered key, **then** the value read, then the cursor move through
child and parent pointers. Two things make it race free. (1) It reads no value slot beyond its *far* bound:
the statement order of `forwardIterator.Next` / `backwardIterator.Next` (test before `valueUnchecked()`) and
`cursor.Next` / `Prev` reading keys only — pinned literally by `scanShape_eq`. (Before the repair of defect
D18 the value of the first key *beyond* the far bound was read: a race with a `Put` to that key.) (2) It
never visits a key before its *near* bound: `Proofs/TreeAccessCont.lean` shows the machine, program point by
program point, in the middle of computing the functional cursor functions of `Model.BTree` (`find`,
`leftmostLeaf`, `rightmostLeaf`, `nextCore` / `prevCore` — the climb through `parent` pointers and
`xslices.Index` against `climbNext` over `pathTo` frames) on the frozen skeleton (`cont_find` / `cont_desc` / `cont_move`;
`scanInv_next`, `Proofs/TreeAccessScan.lean`), so every
position whose value it reads is a position of the functional iteration, which C01's seek and successor
theorems (`doSeek_run`, `Run.step`, `doSeek_near`) place inside the near bound.

Not claimed: termination of range readers and that their items equal the sequential ones (only
`Get`/`Contains` results are), several operations per goroutine, iterators created before the concurrent
phase (stale cursor generation: the re-seek is `unmodelled`).

What stays trusted for the sentence as a statement about Go: the Go memory model — a program whose
conflicting plain accesses are all ordered by happens-before is data-race free and sequentially
consistent, and without synchronisation happens-before is program order — i.e. exactly that the
interleaving semantics of *accesses* used here is the right one for a race-free program, and that the
compiler introduces no accesses of its own to the locations named here.
-/
namespace Juniper.Props.C01Race
open Juniper.Gen.Tree Juniper.Model.BTree Juniper.Model.BTreeAccess Juniper.Proofs.TreeAccess
open Juniper.Proofs.Tree

variable {K V : Type}

/-- **No interleaving has a data race.** In every configuration reachable from the initial one no two
goroutines are about to access the same location with at least one of them writing. -/
theorem concurrent_puts_race_free (cmp : K → K → Int) (t : Tree K V) (puts : List (K × V)) (reads : List (Op K V))
    (h : ConcHyp cmp t puts reads) (m : Mem K V) (hm : Rep m t) (hx : AuxRep m t) (c : Config K V)
    (hr : Reach cmp (goroutines puts reads) (initial m (goroutines puts reads)) c) : ¬ Race c :=
  cinv_no_race (setup_of_hyp h) (reach_inv (setup_of_hyp h) hm hx hr)

/-- **Range readers, spelled out by their bounds.** `Range(lo, hi)` / `RangeReverse(lo, hi)` readers (`rev`; any of the 3×3
bound kinds, `Iterate` is `Range(Unbounded, Unbounded)`), each calling `Next` any number of times (`n`; a reader may
abandon its iterator), concurrent with Puts of present, pairwise inequivalent keys on a tree satisfying the tree
invariant: **no interleaving has a data race, provided every key of `t` inside the bounds of a reader — `aboveLo lo`
and `belowHi hi`, the interval of C01's ideal `srange` — is inequivalent to every written key.** -/
theorem concurrent_range_readers_race_free (cmp : K → K → Int) (t : Tree K V) (puts : List (K × V))
    (bounds : List (Bool × Bound K × Bound K × Nat)) (reads : List (Op K V))
    (hb : bounds.map (fun b => scanOf b.1 b.2.1 b.2.2.1 b.2.2.2) = reads.map some)
    (hsw : StrictWeak cmp) (hinv : Inv cmp t) (hd : puts.Pairwise fun p q => cmp p.1 q.1 ≠ 0)
    (hp : ∀ p ∈ puts, contains cmp t p.1 = true)
    (hk : ∀ b ∈ bounds, ∀ p ∈ puts, ∀ k' ∈ storedKeys t.root,
      aboveLo cmp b.2.1 k' = true → belowHi cmp b.2.2.1 k' = true → cmp p.1 k' ≠ 0)
    (m : Mem K V) (hm : Rep m t) (hx : AuxRep m t) (c : Config K V)
    (hr : Reach cmp (goroutines puts reads) (initial m (goroutines puts reads)) c) : ¬ Race c :=
  concurrent_puts_race_free cmp t puts reads (concHyp_of_bounds hb hsw hinv hd hp hk) m hm hx c hr

/-- **What a range reader reads.** In every reachable configuration, the next access of a range reader is a read,
and if it is a read of a value slot `(x, i)` that is a live slot of the tree, the key stored there is accepted by
the reader's in-range predicate: the value of the first key beyond the far bound is never read (only its key). -/
theorem range_reader_reads_in_range_values_only (cmp : K → K → Int) (t : Tree K V) (puts : List (K × V))
    (reads : List (Op K V)) (h : ConcHyp cmp t puts reads) (m : Mem K V) (hm : Rep m t) (hx : AuxRep m t) (c : Config K V)
    (hr : Reach cmp (goroutines puts reads) (initial m (goroutines puts reads)) c) :
    ∀ (j : Nat) op pc a, (goroutines puts reads)[j]? = some op → op.isSearch = false → c.pcs[j]? = some pc →
      accessOf pc = some a →
      a.write = false ∧ ∀ x i, a.loc = .node x (.val i) →
        ∀ y, Sub t.root y → y.id = x → ∀ hlt : i < y.kvs.length, inRangeOf cmp op y.kvs[i].1 = true := by
  intro j op pc a ho hns hp ha
  have hs := setup_of_hyp h
  have hi := reach_inv hs hm hx hr
  rcases access_class (hi.good j op pc ho hp) (hi.scan j op pc ho hp) (fun h => (hs.scanOK j op ho h).2) ha with
    ⟨hw, hno⟩ | ⟨x, i, hloc, hsk, hw⟩
  · exact ⟨hw, fun x i hl => absurd hl (hno x i)⟩
  · refine ⟨by rw [hw]; exact Op.isPut_of_not_search hns, fun x' i' hl => ?_⟩
    rw [hloc] at hl
    simp only [Loc.node.injEq, Field.val.injEq] at hl
    obtain ⟨rfl, rfl⟩ := hl
    rcases hsk with ⟨hsr, _⟩ | ⟨_, hin⟩
    · rw [hns] at hsr; cases hsr
    · exact fun y hy hid hlt => (hin y hy hid hlt).1

/-- **Every Put (and Get, Contains) returns after boundedly many steps of its own**: in every schedule that can be
executed from the initial configuration, the steps taken by the `Put` / `Get` / `Contains` goroutines number at most
`#goroutines * (wt t + 4)` (`wt` = 2·entries + 6 per node) — however long the range readers go on. `Reach` and
executable schedules are the same thing. -/
theorem concurrent_runs_terminate (cmp : K → K → Int) (t : Tree K V) (puts : List (K × V)) (reads : List (Op K V))
    (h : ConcHyp cmp t puts reads) (m : Mem K V) (hm : Rep m t) (hx : AuxRep m t) :
    (∀ sched c, runSched cmp (goroutines puts reads) (initial m (goroutines puts reads)) sched = some c →
      searchSteps (goroutines puts reads) sched ≤ (goroutines puts reads).length * (wt t.root + 4)) ∧
    (∀ c, Reach cmp (goroutines puts reads) (initial m (goroutines puts reads)) c ↔
      ∃ sched, runSched cmp (goroutines puts reads) (initial m (goroutines puts reads)) sched = some c) := by
  refine ⟨fun sched c hs => ?_, fun c => ⟨sched_of_reach, fun ⟨s, hs⟩ => reach_of_sched s _ _ hs⟩⟩
  have := (sched_bound (setup_of_hyp h) sched _ c (cinv_initial (setup_of_hyp h) hm hx) hs).1
  have := total_initial t (goroutines puts reads) m
  omega

/-- **All Puts take effect, nothing else changes.** In every reachable configuration in which every `Put` has
returned (in particular in every configuration in which nobody can move) the memory holds exactly the tree `t'` that
the functional model's `put`s produce when executed sequentially **in any order** (`putAll` over any permutation of
the Puts): generation, size and the whole skeleton (identities, keys, occupancy, links) are those of `t`; for a
well-formed `t` the contents are those of the ideal sorted map after `sput k_j v_j` for every `j`
(each `k_j ↦ v_j`, everything else unchanged). In a configuration in which nobody can move every `Put` / `Get` /
`Contains` has returned its sequential result. -/
theorem concurrent_puts_all_take_effect (cmp : K → K → Int) (t : Tree K V) (puts : List (K × V))
    (reads : List (Op K V)) (h : ConcHyp cmp t puts reads) (m : Mem K V) (hm : Rep m t) (hx : AuxRep m t) (c : Config K V)
    (hr : Reach cmp (goroutines puts reads) (initial m (goroutines puts reads)) c) :
    (Terminal cmp (goroutines puts reads) c → PutsDone (goroutines puts reads) c ∧
      ∀ (i : Nat) op, (goroutines puts reads)[i]? = some op → op.isSearch = true →
        c.pcs[i]? = some (PC.done (expected cmp t op))) ∧
    (PutsDone (goroutines puts reads) c →
      ∃ t', Rep c.mem t' ∧
        (∀ puts', puts'.Perm puts → putAll cmp t puts' = some t') ∧
        t'.gen = t.gen ∧ t'.size = t.size ∧ skel t'.root = skel t.root ∧
        (WF cmp t → WF cmp t' ∧ toList t'.root = puts.foldl (fun l p => sput cmp p.1 p.2 l) (toList t.root))) := by
  have hs := setup_of_hyp h
  have hi := reach_inv hs hm hx hr
  have hrd : ∀ r ∈ reads, r.isPut = false := h.readers
  have hpres : ∀ p ∈ puts, (slotOf cmp p.1 t.root).isSome = true := by
    intro p hp; rw [slotOf_isSome]; exact h.present p hp
  refine ⟨fun hterm => ⟨putsDone_of_terminal hi hterm, terminal_results hi hterm⟩, fun hdone => ?_⟩
  refine ⟨{ t with root := reval (Gof cmp t.root puts) t.root }, ?_, ?_, rfl, rfl, skel_reval _ _, ?_⟩
  · exact final_rep hs (fun j k v ho => List.mem_of_getElem? (goroutines_put_mem hrd ho))
      (fun p hp => goroutines_of_put hp) h.distinct hi hdone
  · intro puts' hperm
    exact putAll_perm h.sw t h.nodup hperm h.distinct hpres
  · intro hw
    exact putAll_refines h.sw puts t _ hw (putAll_perm h.sw t h.nodup (List.Perm.refl _) h.distinct hpres)

/-- **Reads see the sequential values.** Whenever, in any interleaving, a `Get` / `Contains` has returned, it has
returned what the operation returns when run alone on `t`: a `Get k` the value `t` holds for `k`
(`get cmp t k`; for a well-formed `t` that is the ideal sorted map's value, `get_refines`), a `Contains k`
whether `k` is in `t`. (The Puts concurrent with it never change what it reads.) -/
theorem concurrent_reads_see_sequential_values (cmp : K → K → Int) (t : Tree K V) (puts : List (K × V))
    (reads : List (Op K V)) (h : ConcHyp cmp t puts reads) (m : Mem K V) (hm : Rep m t) (hx : AuxRep m t) (c : Config K V)
    (hr : Reach cmp (goroutines puts reads) (initial m (goroutines puts reads)) c) :
    ∀ (i : Nat) op r, (goroutines puts reads)[i]? = some op → op.isSearch = true → c.pcs[i]? = some (PC.done r) →
      r = expected cmp t op ∧
      (∀ k, op = .get k → r = .val (get cmp t k) ∧
        (WF cmp t → r = .val ((sget cmp k (toList t.root)).map (·.2)))) := by
  intro i op r ho hsr hp
  have hi := reach_inv (setup_of_hyp h) hm hx hr
  have hg : r = expected cmp t op := hi.good i op _ ho hp hsr
  refine ⟨hg, ?_⟩
  rintro k rfl
  refine ⟨hg, fun hw => ?_⟩
  rw [hg]
  exact congrArg (fun r => Res.val (r.map (·.2))) (hw.lookup h.sw k)

/-! ## non-vacuity: a well-formed two-level tree, two writers, five readers

`exTree` = keys 10 … 70 | 80 | 90 … 150 on two levels (`exTree_wf : WF exCmp exTree`), writers `exPuts` = `80 ↦ 801`
(the separator in the root) and `120 ↦ 1201`, readers `exReads` = `Get 90` (same leaf as a written key),
`Contains 85` (absent), `Range(Unbounded, Excluded 80)` (`exRange`: keys 10 … 70; the first key beyond its far bound is
the written key 80, reached by climbing to the root), `Range(Included 90, Included 110)` (`exMid`: 90, 100, 110 *between* the
written keys: 80 before its near bound, 120 the first key beyond its far bound) and `RangeReverse(Excluded 120, Unbounded)`
(`exRangeRev`: 150, 140, 130; the first key beyond is the written key 120 in the same leaf); `exRange_eq`: these are what `scanOf` makes of
the bounds; `exHyp : ConcHyp …` (all in `Proofs/TreeAccessExample.lean`). -/

set_option maxRecDepth 12000 in
/-- an interleaving in which both writers and all readers overlap, run to the end (152 accesses): no race on the way
(checked on every prefix by the theorem, here on the final configuration by evaluation), everybody has
returned, the final memory holds `80 ↦ 801`, `120 ↦ 1201`, the readers saw `900`, `false`, the values of 10 … 70, of
90, 100, 110 and of 150, 140, 130. -/
example : ∃ c, runSched exCmp (goroutines exPuts exReads) (initial (memOf exTree) (goroutines exPuts exReads)) exSched = some c ∧
    c.pcs.map exResult = [some .unit, some .unit, some (.val (some 900)), some (.bool false),
      some (.vals [some 100, some 200, some 300, some 400, some 500, some 600, some 700]),
      some (.vals [some 900, some 1000, some 1100]),
      some (.vals [some 1500, some 1400, some 1300])] ∧
    hasRace c = false ∧
    c.mem.val 2 0 = some 801 ∧ c.mem.val 1 3 = some 1201 ∧ c.mem.val 1 0 = some 900 ∧ c.mem.gen = 15 ∧ c.mem.size = 15 := by
  refine exists_of_any_decide ?_
  -- the range readers' first states by `start_scan`, so that the run does not evaluate `scanShape` again
  simp only [initial, goroutines, exPuts, exReads, exRange, exMid, exRangeRev, List.map_cons, List.map_nil,
    List.cons_append, List.nil_append, start_scan]
  decide +kernel

/-- the theorems applied to the example: the configuration reached by `exSched` is race free and —
being terminal — holds the sequential result. -/
example : ∀ c, runSched exCmp (goroutines exPuts exReads) (initial (memOf exTree) (goroutines exPuts exReads)) exSched = some c →
    ¬ Race c :=
  fun c hc => concurrent_puts_race_free exCmp exTree exPuts exReads exHyp _ (memOf_rep exTree exTree_nodup) (memOf_auxRep exTree exTree_nodup) c
    (reach_of_sched exSched _ c hc)

set_option maxRecDepth 8000 in
/-- the value slots the three range readers read, run alone: those of 10 … 70 (node 0), of 90, 100, 110 (node 1, slots 0, 1, 2)
resp. of 150, 140, 130 (node 1, slots 6, 5, 4) — never `(2, 0)` (key 80) or `(1, 3)` (key 120), whose *keys* they do read. -/
example : exValReads exRange = (List.range 7).map (fun i => Loc.node 0 (.val i)) ∧
    exValReads exMid = [.node 1 (.val 0), .node 1 (.val 1), .node 1 (.val 2)] ∧
    exValReads exRangeRev = [.node 1 (.val 6), .node 1 (.val 5), .node 1 (.val 4)] := by
  simp only [exValReads, exRange, exMid, exRangeRev, start_scan]
  decide +kernel

/-! ## the hypothesis "already present" is needed -/

/-- **Negative witness.** A `Put` of an *absent* key (95 into the leaf `90 … 150`) inserts: it shifts keys
and values, increments `n`, `gen` and `size`. Concurrently with a `Get 90` — a read of *another* key —
there is an interleaving in which the `Put` is about to write `n` of the leaf while the `Get` is about
to read it: a data race. (46 accesses of the `Put`, then 6 of the `Get`.) -/
theorem put_absent_key_races :
    ∃ c, Reach exCmp [.put 95 7, .get 90] (initial (memOf exTree) [.put 95 7, .get 90]) c ∧ Race c :=
  race_of_sched (List.replicate 46 0 ++ List.replicate 6 1) (by decide +kernel)

/-- … and with a range reader — which reads `gen` (`c.gen = c.t.gen`, `lost()`) — it races on `gen` (`t.gen++` after
the insertion): 48 accesses of the `Put`, 7 of `Range(Unbounded, Excluded 80)`. -/
theorem put_absent_key_races_on_gen :
    ∃ c, Reach exCmp [.put 95 7, exRange] (initial (memOf exTree) [.put 95 7, exRange]) c ∧ Race c := by
  refine race_of_sched (List.replicate 48 0 ++ List.replicate 7 1) ?_
  simp only [initial, exRange, List.map_cons, List.map_nil, start_scan]
  decide +kernel

/-! ## the hypothesis on range readers is needed — and what defect D18 was -/

/-- **Negative witness.** A range whose far bound *includes* a written key — `Range(Unbounded, Included 80)` against
`Put 80` — does race: after 56 accesses the reader is about to read `values[0]` of the root while the `Put` (3
accesses) is about to write it. This is exactly what a range *ending before* 80 used to do before the repair of D18
(the cursor iterator read `(key, value)` of the first entry beyond the bound and `iterator.While` discarded it
afterwards); now `Range(Unbounded, Excluded 80)` stops on the key alone (`exHyp`, the example above). -/
theorem range_over_written_key_races :
    ∃ c, Reach exCmp [.put 80 801, .scan true .first 0 (some (.le, 80)) 100]
      (initial (memOf exTree) [.put 80 801, .scan true .first 0 (some (.le, 80)) 100]) c ∧ Race c := by
  refine race_of_sched (List.replicate 3 0 ++ List.replicate 56 1) ?_
  simp only [initial, List.map_cons, List.map_nil, start_scan]
  decide +kernel

/-! ## why a configuration-local `Race` is enough -/

/-- **The first-race argument.** `Race` above is "two goroutines are *about to* perform conflicting accesses in one
configuration". A data race in the sense of the Go memory model is any two conflicting accesses of different
goroutines that are not ordered by happens-before — and without synchronisation none are, however many steps lie
between them. This theorem closes the gap for every system of the shape the access model has (each step of a
goroutine is one access, named by its private state; it reads at most the value at that location and changes at most
that value: `FirstRace.Sys`): if no reachable configuration has such a pair of *next* accesses, then no run contains
two conflicting accesses of different goroutines at all (`Indep` for every pair of events, at any distance). Proof:
were `a` (goroutine `i`) … `b` (goroutine `j`) the first such pair of a run, dropping `i`'s steps from `a` on leaves a
run (`FirstRace.frame`: the others never touched what `i` wrote, or an earlier pair would exist) that ends with `i`
still about to do `a` and `j` about to do `b`. That `Model/BTreeAccess.next` / `accessOf` are of this shape is read
off their clauses (comment at `Model.BTreeAccess.Race`) and is not proved here. -/
theorem race_free_configurations_exclude_all_data_races {Loc Val P : Type} [DecidableEq Loc]
    (S : Juniper.Proofs.FirstRace.Sys Loc Val P) (c0 : Juniper.Proofs.FirstRace.Config Loc Val P)
    (hfree : ∀ σ c, Juniper.Proofs.FirstRace.run S c0 σ = some c → ¬ Juniper.Proofs.FirstRace.Race S c)
    (σ : List Nat) (c : Juniper.Proofs.FirstRace.Config Loc Val P) (h : Juniper.Proofs.FirstRace.run S c0 σ = some c) :
    (Juniper.Proofs.FirstRace.events S c0 σ).Pairwise Juniper.Proofs.FirstRace.Indep :=
  Juniper.Proofs.FirstRace.no_conflicting_accesses_of_race_free c0 hfree σ c h

/-- non-vacuity: a two-goroutine system over one location — each of the two goroutines writes it once.
Its initial configuration is a `Race`, and indeed the run `[0, 1]` contains the conflicting pair; with two readers
instead there is no race and every run is conflict free. -/
example :
    let S : Juniper.Proofs.FirstRace.Sys Unit Nat Bool :=
      { acc := fun p => if p then none else some ((), true), step := fun _ v => (true, v + 1) }
    let c0 : Juniper.Proofs.FirstRace.Config Unit Nat Bool := { mem := fun _ => 0, pcs := fun _ => false }
    Juniper.Proofs.FirstRace.Race S c0 ∧
      Juniper.Proofs.FirstRace.events S c0 [0, 1] = [(0, ((), true)), (1, ((), true))] := by
  refine ⟨⟨0, 1, ((), true), ((), true), by decide, rfl, rfl, rfl, Or.inl rfl⟩, ?_⟩
  simp [Juniper.Proofs.FirstRace.events, Juniper.Proofs.FirstRace.stepAt]

end Juniper.Props.C01Race
