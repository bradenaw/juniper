import Juniper.Proofs.BatchClose
import Juniper.Proofs.BatchSize
import Juniper.Proofs.BatchProgress
import Juniper.Model.Skeleton
import Juniper.Generated.Skeleton
/-!
# C11 — stream.Batch / BatchFunc partition their source under every timing and Close always returns
(with the Batch clauses of C08 and C09)

Every theorem is about `Reach code cfg`: the states reachable in the transition system of
`Model/Batch.lean` instantiated with the facts regenerated from `stream/stream.go` (`code`), under
**all** interleavings of the three goroutines, the timer, the source, the consumer's calls, context
expiries, clock advances and `Close`. `code_is_good` is the tie: the regenerated `select` arm tables,
`stopTimer()`/`startTimer()` call sites, deferred calls and statement facts are the ones the proofs
in `Juniper/Proofs/Batch*.lean` are about; it is re-checked by `decide` on every run.

What the liveness-flavoured clauses are proved as (nothing here says "eventually" without naming what is
assumed): `batch_close_returns` — after `Close` every internal step strictly decreases a measure, a
run-level bound `#internal steps ≤ 16 + 4·#items the source still hands out`, and quiescent ⇒ `Close`
has returned; `batch_handed_to_waiter` — the overdue condition is stable until the waiter is served or
leaves, every internal step but the hand-off `prodSend` decreases a rank, and such a step is enabled;
`batch_waiter_sees_end` — enabledness of the closed-channel arm. Assumed, not proved: scheduler
fairness, select fairness between the arms named in those docstrings, finitely many items after `Close`.
`Close` is taken only while no `Next` is pending and no `Next` is called after it (Stream contract):
"at any moment" = at any moment between consumer calls, with the goroutines in any state.

Only the property theorems and their non-vacuity examples live here.
-/
namespace Juniper.Props.C11
open Juniper.Model.Batch Juniper.Proofs.Batch

/-- Tie 1: the facts extracted from the Go source now are the facts the proofs are about. -/
theorem code_is_good : code = good := by decide

/-- Tie 1, statement order facts the model relies on but cannot observe at quiescence: the producer
defers `wg.Done()` first (so it runs last: the source is closed and `c` is closed before `Close`'s
`wg.Wait()` can return), `Close` is `bgCancel(); wg.Wait()` over exactly two goroutines, the three
channels are rendez-vous channels, and `timer.Reset` gets the same duration as `time.NewTimer`.
Operand-level facts the transition relation hard-wires: `Batch` forwards `s` and `maxWait` unchanged
to `BatchFunc`; `stopTimer` drains `timerC` exactly when `!stopped && timerC != nil` (the model's
`stopTimer` never blocks: with Go's timers a value is in the channel whenever `Stop` reports false and
`timerC` has not been received from — trusted runtime semantics); after a hand-over `flush` gives
`batch` a fresh slice (the model's batches are values: a batch handed out is never written again).
The statement lists of the batcher's branches, of which `code` reads single statements, are the
expected ones as a whole. -/
theorem code_order_facts :
    Gen.Batch.producerDefers = ["out.wg.Done()", "s.Close()", "close(c)"] ∧
    Gen.Batch.closeStmts = ["iter.bgCancel()", "iter.wg.Wait()"] ∧
    Gen.Batch.wgCount = 2 ∧
    Gen.Batch.unbufferedChans = Gen.Batch.chanMakes ∧
    Gen.Batch.timerResetDur = Gen.Batch.timerDur ∧
    (Gen.Batch.batchCallArgs = ["s", "maxWait", "func"] ∧ ∀ mw, Gen.Batch.batchMaxWaitArg mw = mw) ∧
    (Gen.Batch.stopTimerDrainCond = "!stopped && timerC != nil" ∧ Gen.Batch.stopTimerDrainChan = "timerC") ∧
    Gen.Batch.flushBatchReset = "make([]T,0,…)" ∧
    (Gen.Batch.fullStmts = ["stopTimer()", "if !flush() {", "return", "}"] ∧
      Gen.Batch.firstItemStmts = ["batchStart = time.Now()", "if waitingAtEmpty {", "startTimer()", "}"] ∧
      Gen.Batch.timerArmStmts = ["timerC = nil", "if !flush() {", "return", "}"] ∧
      Gen.Batch.waitElapsedStmts = ["stopTimer()", "if !flush() {", "return", "}"] ∧
      Gen.Batch.waitNotElapsedStmts = ["startTimer()"] ∧
      Gen.Batch.waitEmptyStmts = ["waitingAtEmpty = true"]) := by
  exact ⟨rfl, rfl, rfl, rfl, rfl, ⟨rfl, fun _ => rfl⟩, ⟨rfl, rfl⟩, rfl, rfl, rfl, rfl, rfl, rfl, rfl⟩

/-- Tie 1 for the stream's background context: the regenerated right-hand side of
`bgCtx, bgCancel := …` is `context.WithCancel(context.Background())` (one assignment, nothing else
ever assigns either name), the identifier `bgCancel` occurs nowhere in the package but in that
definition, in `bgCancel: bgCancel` of the `batchStream` literal, in the field declaration and in
`iter.bgCancel()` of `Close`; `bgCtx` occurs nowhere but as the argument of the producer's
`s.Next(bgCtx)`, in the producer's own-cancellation guard and in the `<-bgCtx.Done()` arms of the
hand-off and of `flush`. Hence (label `bgEnds` of the LTS, enabled iff `Code.bgMayEnd`) nothing but
`Close` ends the background work: no deadline, no timer, no parent context. -/
theorem bg_ctx_only_close_cancels :
    code.BgTied ∧ code.bgMayEnd = false ∧ (∀ cfg s, step code cfg s .bgEnds = none) := by
  have ht : code.BgTied := ⟨bgOriginOf_plain rfl rfl rfl rfl, beq_of_eq rfl, beq_of_eq rfl, beq_of_eq rfl⟩
  have hm : code.bgMayEnd = false := by simp [Code.bgMayEnd, ht.1, ht.2.1]
  exact ⟨ht, hm, fun cfg s => by simp [step, hm]⟩

/-- Tie 1 for the control flow *between* the regenerated facts: the statement-kind skeletons of
`Batch`, `BatchFunc`, its producer goroutine (three `defer`s; `for { Next; if End {break} else if <own
cancellation> {break} else if err != nil { out.err = err; return }; select { c <- item | <-bgCtx.Done():
return } }`), the batcher goroutine with its deferred cleanup and loop, `flush`, `stopTimer`,
`startTimer`, `batchStream.Next` and `Close`, regenerated from `stream/stream.go`
(`Juniper.Gen.Skeleton`), are exactly the ones `Model/Batch.lean` hard-wires (`Model/Skeleton.lean`):
no statement was added, removed or moved. -/
theorem skeleton_ok :
    Gen.Skeleton.batch = Model.Skeleton.batch ∧ Gen.Skeleton.batchFunc = Model.Skeleton.batchFunc ∧
    Gen.Skeleton.batchProducer = Model.Skeleton.batchProducer ∧ Gen.Skeleton.batchBatcher = Model.Skeleton.batchBatcher ∧
    Gen.Skeleton.batchFlush = Model.Skeleton.batchFlush ∧ Gen.Skeleton.batchStopTimer = Model.Skeleton.batchStopTimer ∧
    Gen.Skeleton.batchStartTimer = Model.Skeleton.batchStartTimer ∧ Gen.Skeleton.batchNext = Model.Skeleton.batchNext ∧
    Gen.Skeleton.batchClose = Model.Skeleton.batchClose := by
  exact ⟨rfl, rfl, rfl, rfl, rfl, rfl, rfl, rfl, rfl⟩

/-- Tie 1 for the producer's three-way test on what `s.Next(bgCtx)` returned: the regenerated guard of
the middle branch ("this is my own cancellation, `break` without recording an error") is
`err == context.Canceled && bgCtx.Err() == context.Canceled` — it can hold only after `Close` has
cancelled `bgCtx`, whatever the error is; an error that merely *is* or *wraps* `context.Canceled`
while `bgCtx` is live is a failure of the source and goes to `out.err = err`. -/
theorem cancel_guard_needs_close :
    (∀ errEq errIs bgEq bgDone, Gen.Batch.prodCancelGuard errEq errIs bgEq bgDone = (errEq && bgEq)) ∧
    (∀ errEq errIs, Gen.Batch.prodCancelGuard errEq errIs false false = false) := by
  exact ⟨fun _ _ _ _ => rfl, fun _ _ => Bool.and_false _⟩

theorem reach_good {cfg : Cfg} {s : State} (h : Reach code cfg s) : Reach good cfg s :=
  code_is_good ▸ h

/-- **Partition.** While `Close` has not been called, the batches handed out, the batch being built
and the item in the producer's hand concatenate to exactly what the source has handed out; the
batches returned by `Next` (failed calls erased) are exactly the hand-overs; always, what was handed
out is a prefix of the source sequence; and once `Next` has reported `End`, the source did end and
the concatenation of all returned batches **is** the source sequence. Nothing lost, nothing
duplicated, nothing reordered, under any timing. First conjunct (0): the regenerated facts this
rests on beyond the arm tables — the background context ends only through `Close` (`Code.BgTied`:
with a deadline on `bgCtx`, or `bgCancel` handed to a timer, the stream ends — `End`, or an error no
source produced — while the source is still willing, see the examples below), and `flush` replaces the
batch it handed out by a fresh slice. -/
theorem batch_partition {cfg : Cfg} {s : State} (h : Reach code cfg s) :
    (code.BgTied ∧ Gen.Batch.flushBatchReset = "make([]T,0,…)") ∧
    (s.bgCancelled = false → flat s.delivered ++ s.batch ++ inTransit s = s.pulled) ∧
    flat s.delivered <+: s.pulled ∧
    batchesOf s.results = s.delivered.map (·.items) ∧
    (.endOK ∈ s.results → s.srcTerm = some .eof ∧ (batchesOf s.results).flatten = s.pulled) := by
  have hi := inv_reach (reach_good h)
  refine ⟨⟨⟨bgOriginOf_plain rfl rfl rfl rfl, beq_of_eq rfl, beq_of_eq rfl, beq_of_eq rfl⟩, rfl⟩, hi.logs.partition, hi.logs.handed_prefix, hi.logs.results_eq, ?_⟩
  exact fun he => ⟨hi.ends.endOK_eof he, hi.ends.returned_all hi.logs he (.inl rfl)⟩

example : ∃ s, Reach code (Cfg.ofBatch 10 2) s ∧ s.results = [.batch [7, 8], .batch [9], .endOK] ∧
    s.pulled = [7, 8, 9] := by
  rw [code_is_good]
  exact ⟨_, reach_of_run Reach.init
      [.srcRet (.item 7), .prodSend, .fullRet false, .srcRet (.item 8), .nextCall true, .prodSend, .fullRet true,
       .deliver, .srcRet (.item 9), .prodSend, .fullRet false, .srcRet .eof, .prodCloseC, .recvCClosed,
       .nextCall true, .deliver, .batchExit, .nextCall true, .consClosed] rfl, by decide, by decide⟩

/-- Non-vacuity of the dependence on `Code.BgTied` (1): the same code with a deadline on `bgCtx`
(`context.WithTimeout(context.Background(), time.Minute)`). A consumer waits, nothing happens for a
minute, the deadline passes (`bgEnds`), the source's `Next` returns `DeadlineExceeded`, which the
producer's guard does not take for its own cancellation: `Next` reports an error although the source
neither ended nor failed. -/
example : ∃ s, Reach { good with bgOrigin := .deadline } (Cfg.ofBatch 10 2) s ∧ s.results = [.bgErr] ∧
    s.srcTerm = none ∧ s.bgCancelled = false :=
  ⟨_, reach_of_run Reach.init
    [.nextCall true, .announce, .tick 60000, .bgEnds, .prodCancelled, .prodCloseC, .recvCClosed, .batchExit,
     .consClosed] rfl, by decide, by decide, by decide⟩

/-- (2): `bgCancel` also handed to a timer (`time.AfterFunc(time.Hour, bgCancel)`). An item is in the
batch, the timer fires, the producer takes the `context.Canceled` for its own cancellation, the
batcher's end-of-input `flush` takes its `<-bgCtx.Done()` arm: `Next` reports `End` although the source
has not ended, and item 7 is lost. -/
example : ∃ s, Reach { good with bgCancelOnlyInClose := false } (Cfg.ofBatch 10 2) s ∧ s.results = [.endOK] ∧
    s.srcTerm = none ∧ s.pulled = [7] ∧ s.bgCancelled = false :=
  ⟨_, reach_of_run Reach.init
    [.srcRet (.item 7), .prodSend, .fullRet false, .tick 3600000, .bgEnds, .prodCancelled, .prodCloseC, .recvCClosed,
     .flushAbort, .batchExit, .nextCall true, .consClosed] rfl, by decide, by decide, by decide, by decide⟩

/-- (3): the producer gives the source another context (`s.Next(context.Background())`): after `Close`
nothing can wake the producer — the state is quiescent and `Close` has not returned. -/
example : ∃ s, Reach { good with srcNextGetsBg := false } (Cfg.ofBatch 10 2) s ∧ s.bgCancelled = true ∧
    s.closeReturned = false ∧ s.ppc = .next ∧
    internalLabels.all (fun l => (step { good with srcNextGetsBg := false } (Cfg.ofBatch 10 2) s l).isNone) = true :=
  ⟨_, reach_of_run Reach.init [.close] rfl, by decide, by decide, by decide, by decide⟩

/-- **Every batch is non-empty.** -/
theorem batch_nonempty {cfg : Cfg} {s : State} (h : Reach code cfg s) :
    (∀ d ∈ s.delivered, d.items ≠ []) ∧ (∀ b ∈ batchesOf s.results, b ≠ []) := by
  have hi := inv_reach (reach_good h)
  have hd : ∀ d ∈ s.delivered, d.items ≠ [] := fun d hd => List.ne_nil_of_length_pos (hi.logs.delivered_nonempty d hd)
  refine ⟨hd, fun b hb => ?_⟩
  obtain ⟨d, hd', rfl⟩ := hi.logs.delivered_of_mem hb
  exact hd d hd'

/-- **A `Batch` batch holds at most `batchSize` items** (and one flushed because it was full holds
exactly `batchSize`). `batchSize ≥ 1` is the documented domain. -/
theorem batch_size_le {maxWait batchSize : Nat} (hn : 1 ≤ batchSize) {s : State}
    (h : Reach code (Cfg.ofBatch maxWait batchSize) s) :
    (∀ b ∈ batchesOf s.results, b.length ≤ batchSize) ∧
    (∀ d ∈ s.delivered, d.reason = .full → d.items.length = batchSize) ∧
    s.batch.length ≤ batchSize := by
  have hi := inv_reach (reach_good h)
  have hcfg := sizeCfg_ofBatch maxWait batchSize hn
  have h5 := sizeInv_reach hcfg (reach_good h)
  refine ⟨fun b hb => ?_, fun d hd hr => Nat.le_antisymm (h5.delivered_le d hd)
    (of_decide_eq_true (hcfg.2 _ _ (hi.logs.delivered_full d hd hr)).symm), h5.batch_le⟩
  obtain ⟨d, hd', rfl⟩ := hi.logs.delivered_of_mem hb
  exact h5.delivered_le d hd'

example : ∃ s, Reach code (Cfg.ofBatch 10 2) s ∧ s.results = [.batch [7, 8]] := by
  rw [code_is_good]
  exact ⟨_, reach_of_run Reach.init
      [.srcRet (.item 7), .prodSend, .fullRet false, .srcRet (.item 8), .nextCall true, .prodSend, .fullRet true,
       .deliver] rfl, by decide⟩

/-- **An underfilled batch leaves early only after maxWait.** Every hand-over was made for one of
four reasons, and each reason carries its justification: `full` said so; the source had ended (`c`
closed, which without `Close` happens only after the source's `End`/error); or — the timer arm and the
"already elapsed" arm — the batch's oldest item had been with the batcher for at least `maxWait`
(`firstAt` = clock when the batcher received it; the code's `batchStart` lies in between). -/
theorem batch_underfilled_waited {cfg : Cfg} {s : State} (h : Reach code cfg s) :
    ∀ d ∈ s.delivered,
      (d.reason = .full ∧ cfg.fullOK d.items true = true) ∨
      (d.reason = .srcEnd ∧ s.srcTerm ≠ none) ∨
      ((d.reason = .timer ∨ d.reason = .waiter) ∧ d.firstAt ≤ d.start ∧ d.start + cfg.maxWait ≤ d.time ∧
        d.firstAt + cfg.maxWait ≤ d.time) := by
  have hi := inv_reach (reach_good h)
  intro d hd
  cases hr : d.reason with
  | full => exact Or.inl ⟨rfl, hi.logs.delivered_full d hd hr⟩
  | srcEnd => exact Or.inr (Or.inl ⟨rfl, hi.ends.delivered_srcEnd d hd hr⟩)
  | timer =>
    have := hi.logs.delivered_waited d hd (Or.inl hr)
    exact Or.inr (Or.inr ⟨Or.inl rfl, this.2, this.1, by omega⟩)
  | waiter =>
    have := hi.logs.delivered_waited d hd (Or.inr hr)
    exact Or.inr (Or.inr ⟨Or.inr rfl, this.2, this.1, by omega⟩)

/-- The same for `Batch`, in the property's words: a batch with fewer than `batchSize` items that is
handed out before the source has ended has an oldest item that waited at least `maxWait` — the
`maxWait` given to `Batch`: `Batch` forwards it unchanged to `BatchFunc` (regenerated argument of that
call, `hm` in the proof). -/
theorem batch_underfilled_waited_batch {maxWait batchSize : Nat} (hn : 1 ≤ batchSize) {s : State}
    (h : Reach code (Cfg.ofBatch maxWait batchSize) s) :
    ∀ d ∈ s.delivered, d.items.length < batchSize →
      (d.reason = .srcEnd ∧ s.srcTerm ≠ none) ∨ d.firstAt + maxWait ≤ d.time := by
  intro d hd hlt
  have hargs : Gen.Batch.batchCallArgs = ["s", "maxWait", "func"] := rfl
  have hm : (Cfg.ofBatch maxWait batchSize).maxWait = maxWait := by
    simp [Cfg.ofBatch, Gen.Batch.batchMaxWaitArg]
  rcases batch_underfilled_waited h d hd with hf | he | hw
  · have := of_decide_eq_true ((sizeCfg_ofBatch maxWait batchSize hn).2 _ _ hf.2).symm
    omega
  · exact Or.inl he
  · exact Or.inr (hm ▸ hw.2.2.2)

example : ∃ s, Reach code (Cfg.ofBatch 10 3) s ∧
    s.delivered = [{ items := [7], firstAt := 0, start := 0, time := 10, reason := .timer, toWaiter := true }] := by
  rw [code_is_good]
  exact ⟨_, reach_of_run Reach.init
      [.nextCall true, .announce, .srcRet (.item 7), .prodSend, .fullRet false, .tick 10, .timerExpire, .recvTimer,
       .deliver] rfl, by decide⟩

/-- **…and then it is handed to a waiting consumer rather than held back.** For a consumer that has
announced itself (it is in the inner `select` of `Next`) while the batch is non-empty:

(0) regenerated facts beyond the arm tables: nothing but `Close` ends the background work
    (`Code.BgTied`); `stopTimer`, which runs on the way to the hand-over, drains `timerC` only under
    `!stopped && timerC != nil` (then a value is there: it does not block — runtime semantics, trusted).
(1) **the waiter is never forgotten** (safety): at the loop's `select` the timer is running for this
    batch, its channel is the one the `select` listens on, and its deadline is `batchStart + maxWait`
    or has already passed; inside `full` for the batch's first item the batcher remembers the waiter
    (`waitingAtEmpty`: it arms the timer right after the call), inside `full` for a later item the
    timer is running; in `flush` the hand-over to this very consumer is enabled and *serves* it
    (`Served`: its `Next` returns exactly this batch, logged as a hand-over to an announced waiter).
(2) **once `maxWait` has elapsed** (`Overdue`: `batchStart + maxWait ≤ now` on the batcher's clock,
    `batchStart` being this batch's):
    (a) *stability*: whatever happens next — any label, environment included — the state is `Overdue`
        again, or the consumer has been served with this batch, or it has left on its own expired
        context (`Served`);
    (b) *rank*: every step of a goroutine or of the runtime other than the hand-off `prodSend`
        serves the consumer or strictly decreases `waitRank` (≤ 9);
    (c) no step at all raises `waitRank` by more than `waitCost`: 3 for `prodSend` (each needs a
        fresh item from the source), 2 for the source's end / failure (once), 0 otherwise;
    (d) *enabledness*: a step as in (b) is enabled (the hand-over, the timer arm, the expiry of the
        timer — its deadline has passed —, or the return of `full`: `hfull`).
    So, unless the consumer leaves, it is served after at most `9 + 3·#prodSend + 2` further steps of
    the goroutines. What is **not** proved and is the fairness assumption (`checks/C11.json`): that
    Go's `select` in the batcher's loop does not take its `<-c` arm for ever while the timer arm is
    ready and the producer keeps offering items (`prodSend`, then `fullRet false`, is a cycle of
    constant rank), and that enabled steps are eventually taken (scheduler).
For `bpc = exit / done` see `batch_waiter_sees_end`. -/
theorem batch_handed_to_waiter {cfg : Cfg} (hfull : ∀ b, ∃ r, cfg.fullOK b r = true) {s : State}
    (h : Reach code cfg s) (hw : s.cons = .inner) (hne : s.batch ≠ []) :
    (code.BgTied ∧ Gen.Batch.stopTimerDrainCond = "!stopped && timerC != nil" ∧
      Gen.Batch.stopTimerDrainChan = "timerC") ∧
    ((s.bpc = .sel → s.timer ≠ .idle ∧ s.timerCSet = true ∧
        ∀ t, s.timer = .armed t → t = s.batchStart + cfg.maxWait ∨ (s.batchStart + cfg.maxWait ≤ t ∧ t ≤ s.now)) ∧
      (s.bpc = .inFull → s.batch.length = 1 → s.waitingAtEmpty = true) ∧
      (s.bpc = .inFull → 2 ≤ s.batch.length → s.timer ≠ .idle ∧ s.timerCSet = true) ∧
      (∀ r, s.bpc = .flush r → ∃ s', step code cfg s .deliver = some s' ∧ Served s s')) ∧
    (Overdue cfg s →
      (∀ l s', step code cfg s l = some s' → Overdue cfg s' ∨ Served s s') ∧
      (∀ l s', l.internal = true → l ≠ .prodSend → step code cfg s l = some s' →
        Served s s' ∨ waitRank s' < waitRank s) ∧
      (∀ l s', step code cfg s l = some s' → Served s s' ∨ waitRank s' ≤ waitRank s + waitCost l) ∧
      (∃ l, l.internal = true ∧ l ≠ .prodSend ∧ (step code cfg s l).isSome = true) ∧
      waitRank s ≤ 9) := by
  have hi := inv_reach (reach_good h)
  have hpos : 0 < s.batch.length := List.length_pos_iff.2 hne
  refine ⟨⟨⟨bgOriginOf_plain rfl rfl rfl rfl, beq_of_eq rfl, beq_of_eq rfl, beq_of_eq rfl⟩, rfl, rfl⟩, ?_⟩
  rw [code_is_good]
  refine ⟨⟨?_, ?_, ?_, ?_⟩, ?_⟩
  · intro hb
    have ht := hi.waiter.sel_timer hw hb hpos
    exact ⟨ht, (hi.ctl.timer_ok (.inl hb)).chan ht, fun _ => (hi.ctl.timer_ok (.inl hb)).deadline⟩
  · intro hb hl; exact hi.waiter.first_item_flag hw hb hl
  · intro hb hl
    have ht := hi.waiter.inFull_timer hw hb hl
    exact ⟨ht, (hi.ctl.timer_ok (.inr hb)).chan ht⟩
  · intro r hb
    obtain ⟨b, hs⟩ := deliver_enabled (cfg := cfg) hb (by rw [hw]; nofun)
    exact ⟨_, hs, served_handedOver r b hw⟩
  · intro hO
    exact ⟨fun l s' hs => waiter_stable hi hO hs, fun l s' hl hp hs => waiter_rank hi hO hl hp hs,
      fun l s' hs => waiter_cost hi hO hs, waiter_enabled hi (hfull _) hO, waitRank_le s⟩

/-- an overdue waiter at the loop's `select` with the timer still to expire … -/
example : ∃ s, Reach code (Cfg.ofFunc 10) s ∧ Overdue (Cfg.ofFunc 10) s ∧ s.batch = [7, 8] ∧ s.bpc = .sel ∧
    s.timer = .armed 10 ∧ waitRank s = 3 := by
  rw [code_is_good]
  exact ⟨_, reach_of_run Reach.init
      [.srcRet (.item 7), .prodSend, .fullRet false, .tick 4, .nextCall true, .announce, .srcRet (.item 8),
       .prodSend, .fullRet false, .tick 6] rfl, by decide, by decide, by decide, by decide, by decide⟩

/-- … and one while the batcher is inside `full` for a second item; from here
`fullRet false, timerExpire, recvTimer, deliver` serves it -/
example : ∃ s s', Reach code (Cfg.ofFunc 10) s ∧ Overdue (Cfg.ofFunc 10) s ∧ s.bpc = .inFull ∧ waitRank s = 6 ∧
    run code (Cfg.ofFunc 10) s [.fullRet false, .timerExpire, .recvTimer, .deliver] = some s' ∧
    s'.results = [.batch [7, 8]] ∧ s'.delivered.map (·.toWaiter) = [true] := by
  rw [code_is_good]
  exact ⟨_, _, reach_of_run Reach.init [.srcRet (.item 7), .prodSend, .fullRet false, .nextCall true, .announce,
       .srcRet (.item 8), .prodSend, .tick 100] rfl, by decide, by decide, by decide, rfl, by decide, by decide⟩

/-- **A waiting consumer learns that the stream is over.** Once the batcher has left its loop (`exit`:
its deferred `timer.Stop(); close(out.batchC)` is the enabled step; `done`: `batchC` is closed) a
pending `Next`, whether in the outer or in the inner `select`, has its closed-channel arm enabled, and
taking it makes the call return `End`, or the source's error if the source had failed. (The other half
of "not held back": what the waiter gets when there will be no further batch. Enabledness of the one
step; that it is taken is scheduler fairness.) -/
theorem batch_waiter_sees_end {cfg : Cfg} {s : State} (h : Reach code cfg s) (hc : s.cons ≠ .idle) :
    (s.bpc = .exit → (step code cfg s .batchExit).isSome = true) ∧
    (s.bpc = .done → ∃ s', step code cfg s .consClosed = some s' ∧ s'.cons = .idle ∧
      (s'.results = s.results ++ [.endOK] ∨ s'.results = s.results ++ [.srcErr])) := by
  have hi := inv_reach (reach_good h)
  rw [code_is_good]
  exact waiter_sees_end hi hc

example : ∃ s, Reach code (Cfg.ofBatch 10 2) s ∧ s.cons = .inner ∧ s.bpc = .done := by
  rw [code_is_good]
  exact ⟨_, reach_of_run Reach.init
      [.nextCall true, .announce, .srcRet .eof, .prodCloseC, .recvCClosed, .batchExit] rfl, by decide, by decide⟩

/-- **A source error is reported after the items that preceded it** (C08): when `Next` reports the
source's error, the source did fail and every item it handed out before failing has been returned in
a batch; the error is never replaced by the normal end (and `End` is reported only for a source that
ended normally); and once the error (or the end) has been reported no later `Next` returns a batch.
"The source failed" (`srcTerm = some .err`) includes a source that fails *of its own accord* with
`context.Canceled` or an error wrapping it (label `srcCancelErr`) while nobody has cancelled anything:
(0) the regenerated guard of the producer's "my own cancellation" branch is false whenever `bgCtx` is
live, whatever the error, and the producer / `Next` have no other statement between the source's
`Next` and `out.err = err` resp. between the closed `batchC` and `return nil, iter.err` (regenerated
control skeletons); and `bgCtx`, the only other thing that can make the source's `Next` fail, ends only
through `Close` (`Code.BgTied`, regenerated: origin of `bgCtx`, every use of `bgCancel` and of `bgCtx`).
So the error a `Next` reports is the source's, never the background context's (`bgErr`: with a
deadline on `bgCtx` it would be `context.DeadlineExceeded` out of nowhere — example after
`batch_partition`). -/
theorem batch_error_after_items {cfg : Cfg} {s : State} (h : Reach code cfg s) :
    ((∀ errEq errIs, Gen.Batch.prodCancelGuard errEq errIs false false = false) ∧
      Gen.Skeleton.batchProducer = Model.Skeleton.batchProducer ∧ Gen.Skeleton.batchNext = Model.Skeleton.batchNext ∧
      code.BgTied) ∧
    (.bgErr ∉ s.results ∧ s.bgExpired = false) ∧
    (.srcErr ∈ s.results → s.srcTerm = some .err ∧ (batchesOf s.results).flatten = s.pulled) ∧
    (s.srcTerm = some .err → .endOK ∉ s.results) ∧
    (.endOK ∈ s.results → s.srcTerm = some .eof) ∧
    ((.srcErr ∈ s.results ∨ .endOK ∈ s.results) →
      ∀ l s', step code cfg s l = some s' → batchesOf s'.results = batchesOf s.results) := by
  have hi := inv_reach (reach_good h)
  refine ⟨⟨fun _ _ => Bool.and_false _, rfl, rfl, ⟨bgOriginOf_plain rfl rfl rfl rfl, beq_of_eq rfl, beq_of_eq rfl, beq_of_eq rfl⟩⟩,
    ⟨hi.bg.no_bgErr, hi.bg.bg_live⟩, ?_, ?_, hi.ends.endOK_eof, ?_⟩
  · exact fun he => ⟨hi.ends.srcErr_err he, hi.ends.returned_all hi.logs he (.inr rfl)⟩
  · intro he hend
    have := hi.ends.endOK_eof hend
    rw [he] at this
    cases this
  · intro hterm l s' hs
    have hdone : s.bpc = .done := by
      rcases hterm with he | he
      · exact hi.ends.batchC_closed_done (hi.ends.reported_all _ he (Or.inr rfl)).1
      · exact hi.ends.batchC_closed_done (hi.ends.reported_all _ he (Or.inl rfl)).1
    rw [code_is_good] at hs
    cases step_good hs with
    | deliver _ hb | deliverEnd hb => exact nomatch hdone.symm.trans hb
    | consClosed => dsimp only; split <;> simp
    | consCtx => simp
    | _ => rfl

example : ∃ s, Reach code (Cfg.ofBatch 10 2) s ∧ s.results = [.batch [7], .srcErr] ∧ s.pulled = [7] := by
  rw [code_is_good]
  exact ⟨_, reach_of_run Reach.init
      [.srcRet (.item 7), .prodSend, .fullRet false, .srcRet .err, .prodCloseC, .recvCClosed,
       .nextCall true, .deliver, .batchExit, .nextCall true, .consClosed] rfl, by decide, by decide⟩

/-- a source that fails on its own with `context.Canceled` (bare, then wrapped) while nobody cancelled
anything: the error is reported after the item, not the normal end -/
example : ∃ s, Reach code (Cfg.ofBatch 10 2) s ∧ s.results = [.batch [7], .srcErr] ∧ s.srcTerm = some .err ∧
    s.bgCancelled = false := by
  rw [code_is_good]
  exact ⟨_, reach_of_run Reach.init
      [.srcRet (.item 7), .prodSend, .fullRet false, .srcCancelErr false, .prodCloseC, .recvCClosed,
       .nextCall true, .deliver, .batchExit, .nextCall true, .consClosed] rfl, by decide, by decide, by decide⟩

example : ∃ s, Reach code (Cfg.ofBatch 10 2) s ∧ s.results = [.srcErr] ∧ s.srcTerm = some .err := by
  rw [code_is_good]
  exact ⟨_, reach_of_run Reach.init
      [.srcCancelErr true, .prodCloseC, .recvCClosed, .batchExit, .nextCall true, .consClosed] rfl, by decide, by decide⟩

/-- after `Close`, a bare `context.Canceled` out of the source is the producer's own cancellation -/
example : ∃ s, Reach code (Cfg.ofBatch 10 2) s ∧ s.bgCancelled = true ∧ s.err = false ∧ s.ppc = .closeC := by
  rw [code_is_good]
  exact ⟨_, reach_of_run Reach.init [.close, .srcCancelErr false] rfl, by decide, by decide, by decide⟩

/-- **A `Next` that fails on its expired context costs nothing** (C08): the failing step changes
nothing but the call's own bookkeeping, the batches returned by the other calls are unaffected, and
(by `batch_partition`, which holds in every reachable state, whatever calls failed before) the next
calls continue the sequence exactly where it was. -/
theorem batch_ctx_costs_nothing {cfg : Cfg} {s s' : State} (h : Reach code cfg s)
    (hs : step code cfg s .consCtx = some s') :
    s' = { s with cons := .idle, results := s.results ++ [.ctxErr] } ∧
    batchesOf s'.results = batchesOf s.results ∧
    (s'.bgCancelled = false → flat s'.delivered ++ s'.batch ++ inTransit s' = s'.pulled) := by
  have hp := (batch_partition (Reach.step _ h hs)).2.1
  cases step_good (code_is_good ▸ hs) with
  | consCtx => exact ⟨rfl, by simp, hp⟩

example : ∃ s, Reach code (Cfg.ofBatch 10 2) s ∧ s.results = [.ctxErr, .batch [7, 8]] := by
  rw [code_is_good]
  exact ⟨_, reach_of_run Reach.init
      [.srcRet (.item 7), .prodSend, .fullRet false, .nextCall true, .announce, .ctxExpire, .consCtx,
       .srcRet (.item 8), .prodSend, .fullRet true, .nextCall true, .deliver] rfl, by decide⟩

/-- **Close always returns.** `Close` is `bgCancel(); wg.Wait()` over two goroutines
(`code_order_facts`). What is proved, for every reachable state in which `bgCancel()` has run
(`Close` is taken between consumer calls only: the Stream contract, listed as an assumption):

(0) regenerated facts this rests on: `Close`, `flush` and `stopTimer` consist of the statements the
    model has and no others (control skeletons); `bgCtx` is what the source's `Next` is given and what
    the hand-off and `flush` select on (`Code.BgTied`); `stopTimer`'s only blocking-looking statement,
    the drain `<-timerC`, is guarded by `!stopped && timerC != nil` — with Go's timers a value is (or
    is about to be, asynchronous timer channels) in the channel exactly then, so it does not block: a
    property of the runtime, trusted, not proved here;
(1) every step of the producer, the batcher or the runtime keeps `bgCtx` cancelled and strictly
    decreases `measure` (≤ 16);
(2) **run-level bound**: along *any* run from here — environment steps included — the context stays
    cancelled and `measure(end) + #internal steps ≤ measure(start) + 4 · #items`, where `#items`
    counts the labels `srcRet (.item _)` of the run: the only way the environment can raise the
    measure is a source that still hands out an item after `Close` (it need not look at its context
    first). So the goroutines take at most `16 + 4 · #items` steps; *if the source hands out only
    finitely many more items*, only finitely many internal steps can happen. (Without that assumption
    the statement "only finitely many" is false in the model: `srcRet item; prodSend; fullRet false`
    is a cycle of constant measure — the batcher's loop has no `<-bgCtx.Done()` arm and keeps
    receiving, and the producer's `select` may prefer `c <- item` to `<-bgCtx.Done()` for ever.)
(3) a state in which no internal step is enabled has both goroutines finished and `wg.Wait()`
    returned (`closeReturned`): the only quiescent state after `Close` is "Close has returned".

Assumptions, all named in `checks/C11.json`: the user's `full` returns (`hfull`); a source `Next`
blocked on the cancelled `bgCtx` returns (the `prodCancelled` step is internal); after `Close` the
source hands out only finitely many more items (or else: the producer's `select` between
`c <- item` and `<-bgCtx.Done()` is fair — not formalised); for "eventually" in wall-clock terms,
that enabled steps are taken (scheduler). -/
theorem batch_close_returns {cfg : Cfg} (hfull : ∀ b, ∃ r, cfg.fullOK b r = true) {s : State}
    (h : Reach code cfg s) (hc : s.bgCancelled = true) :
    (Gen.Skeleton.batchClose = Model.Skeleton.batchClose ∧ Gen.Skeleton.batchFlush = Model.Skeleton.batchFlush ∧
      Gen.Skeleton.batchStopTimer = Model.Skeleton.batchStopTimer ∧ code.BgTied ∧
      Gen.Batch.stopTimerDrainCond = "!stopped && timerC != nil" ∧ Gen.Batch.stopTimerDrainChan = "timerC") ∧
    (∀ l s', l.internal = true → step code cfg s l = some s' →
      s'.bgCancelled = true ∧ measure s' < measure s ∧ measure s ≤ 16) ∧
    (∀ ls s', run code cfg s ls = some s' →
      s'.bgCancelled = true ∧ measure s' + internalCount ls ≤ measure s + 4 * itemCount ls) ∧
    (Quiescent code cfg s → s.ppc = .done ∧ s.bpc = .done ∧ s.closeReturned = true) := by
  have hi := inv_reach (reach_good h)
  refine ⟨⟨rfl, rfl, rfl, ⟨bgOriginOf_plain rfl rfl rfl rfl, beq_of_eq rfl, beq_of_eq rfl, beq_of_eq rfl⟩, rfl, rfl⟩, ?_⟩
  rw [code_is_good]
  exact ⟨fun l s' hl hs => ⟨(measure_decreases hi hc hl hs).1, (measure_decreases hi hc hl hs).2, measure_le s⟩,
    close_run_bound hi hc, fun hq => quiescent_closed hi (hfull _) hc hq⟩

/-- the producer is ahead (blocked handing over item 9 while the batcher holds a full batch nobody
asked for) when Close is called — the situation of the repaired deadlock -/
example : ∃ s, Reach code (Cfg.ofBatch 10 2) s ∧ s.bgCancelled = true ∧ s.ppc = .send 9 ∧
    s.bpc = .flush .full := by
  rw [code_is_good]
  exact ⟨_, reach_of_run Reach.init
      [.srcRet (.item 7), .prodSend, .fullRet false, .srcRet (.item 8), .prodSend, .fullRet true,
       .srcRet (.item 9), .close] rfl, by decide⟩

/-- why (2) counts items: after `Close` a source that ignores its context hands out item 2, the
producer's `select` takes `c <- item`, `full` says no — the same control state, the same measure:
three more steps for one more item -/
example : ∃ s s', Reach code (Cfg.ofFunc 10) s ∧ s.bgCancelled = true ∧
    run code (Cfg.ofFunc 10) s [.srcRet (.item 2), .prodSend, .fullRet false] = some s' ∧
    measure s' = measure s ∧ s'.closeReturned = false ∧ s'.ppc = s.ppc ∧ s'.bpc = s.bpc ∧
    internalCount [.srcRet (.item 2), .prodSend, .fullRet false] = 2 ∧
    itemCount [.srcRet (.item 2), .prodSend, .fullRet false] = 1 := by
  rw [code_is_good]
  exact ⟨_, _, reach_of_run Reach.init [.close, .srcRet (.item 1), .prodSend, .fullRet false] rfl,
     by decide, rfl, by decide, by decide, by decide, by decide, by decide, by decide⟩

/-- **The source is closed exactly once by the time Close returns, never used after, and its Next
and Close never overlap** (C09): the source's `Close` has been called at most once, exactly once when
`Close` of the stream has returned; the source never saw `Next` after `Close`; while a `Next` of the
source is pending its `Close` has not been called, and `Close` is only ever called by the goroutine
that calls `Next`, after its last `Next` returned. The model runs the producer's deferred calls in
the order `close(c)`, `s.Close()`, `wg.Done()`; that this is the source's order is `code_order_facts`.
First conjunct: the producer leaves its loop (and closes the source) only on the source's own
end / error or after `Close` — `bgCtx` has no other way to end, and it is the context the source's
`Next` is given (`Code.BgTied`, regenerated). -/
theorem batch_source_closed_once {cfg : Cfg} {s : State} (h : Reach code cfg s) :
    code.BgTied ∧
    s.srcCloses ≤ 1 ∧
    (s.closeReturned = true → s.srcCloses = 1) ∧
    s.srcNextAfterClose = false ∧
    (s.ppc = .next → s.srcCloses = 0) ∧
    (∀ s', step code cfg s .prodCloseSrc = some s' → s.ppc = .closeSrc) := by
  have hi := inv_reach (reach_good h)
  refine ⟨⟨bgOriginOf_plain rfl rfl rfl rfl, beq_of_eq rfl, beq_of_eq rfl, beq_of_eq rfl⟩, ?_, ?_, hi.ends.no_next_after_close, ?_, ?_⟩
  · rw [hi.ends.srcCloses_eq]; split <;> omega
  · intro hr; rw [hi.ends.srcCloses_eq, hi.ends.returned hr]; rfl
  · intro hp; exact (hi.ends.at_ hp).2.2.1
  · intro s' hs
    cases step_good (code_is_good ▸ hs) with
    | prodCloseSrc hp => exact hp

example : ∃ s, Reach code (Cfg.ofBatch 10 2) s ∧ s.closeReturned = true ∧ s.srcCloses = 1 ∧ s.srcNexts = 2 := by
  rw [code_is_good]
  exact ⟨_, reach_of_run Reach.init
      [.srcRet (.item 7), .prodSend, .fullRet false, .srcRet (.item 8), .prodSend, .fullRet true, .close,
       .flushAbort, .batchExit, .prodCancelled, .prodCloseC, .prodCloseSrc, .closeReturn] rfl, by decide⟩

end Juniper.Props.C11

