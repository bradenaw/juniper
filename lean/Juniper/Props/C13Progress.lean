import Juniper.Proofs.ParDoMeasure
/-!
# C13 — `parallel.Do` / `DoContext` do return: progress by a decreasing measure

`Props/C13.lean` states the barrier as a safety property ("returns only after every started call has
finished"). This file adds the liveness half. What is proved, exactly:

* a measure `M.phi : Cfg → St → Nat` that **every** step of the LTS strictly decreases — the library's steps
  (`fetch`, `check`, `begin`, `egDone`, `ret`) *and* the environment's (`fEnd` = a call of `f` returns,
  `callerCancel`) — from any state, reachable or not; `M.phi (init) ≤ 4·n + 2·W + 2` (`W` = goroutines that
  call `f`). So every run, under any scheduler and any behaviour of `f`, has at most that many steps
  (`do_measure`, `do_steps_bounded`): no livelock, no infinite run;
* enabledness: in a reachable state that has not returned, a library step is enabled or a call of `f` is in
  progress (`do_returns_when_calls_return`): the library never waits on itself; quiescent with no call
  running ⇒ returned;
* existence of a run to the return that uses only library steps and returns of `f` (`do_terminates`).

What is **assumed**, not proved, for "`Do` returns once every call of `f` has returned": scheduler fairness
in the weak form *a library step that is enabled is eventually taken* (Go runs runnable goroutines), and
that every call of `f` that began does return (environment assumption, part of the property text). The
measure counts environment steps too, so no assumption about how often the environment may act is needed.
Content vs model shape: the bound depends on the regenerated loop headers and clamps through `Code.Sound`
(`nW ≤ max 1 reqPar`); that `.ret` is enabled when all workers are done is the hand-written `Wait` guard
(see `do_barrier`). The wrappers `Map` / `MapContext` add no step of their own (a wrapper step is a callee
step: `Proofs/ParWrap.wstep_core`), so the bounds carry over through `core_reach`.
-/
namespace Juniper.Props.C13Progress
open Juniper.Gen Juniper.Model.ParDo Juniper.Proofs.ParDo

/-- **The measure.** Every step of the `Do`/`DoContext` LTS — library or environment — strictly decreases
`M.phi`; initially `M.phi ≤ 4·n + 2·W + 2`, where `W` is the number of goroutines that call `f` (1 on the
sequential path), itself at most `max(1, parallelism)` (`GOMAXPROCS` when `parallelism ≤ 0`). -/
theorem do_measure (cfg : Cfg) (hc : cfg.code = doCode ∨ cfg.code = dcCode) :
    (∀ s l s', step cfg s l = some s' → M.phi cfg s' < M.phi cfg s) ∧
    M.phi cfg (init cfg) ≤ 4 * cfg.n + 2 * nW cfg + 2 ∧
    (nW cfg : Int) ≤ max 1 (reqPar cfg) := by
  have hs : cfg.code.Sound := by pardo_sound hc
  exact ⟨fun s l s' h => M.phi_decreases hs h, M.phi_init_le hs, nW_le hs⟩

/-- non-vacuity: the measure along a complete run of `DoContext(ctx, 2, 3, f)` in which call 1 fails:
`4·3 + 2·2 + 2 = 18` initially, strictly falling with every step, environment steps included -/
example : (List.range 15).map (fun n => (run ⟨dcCode, 2, 3, 8⟩ (init ⟨dcCode, 2, 3, 8⟩)
      (([.fetch 0, .fetch 1, .check 0, .check 1, .begin 1, .begin 0, .fEnd 1 (.err 5), .egDone 1, .fEnd 0 (.ok 9),
         .fetch 0, .check 0, .egDone 0, .callerCancel, .ret] : List Label).take n)).map (M.phi ⟨dcCode, 2, 3, 8⟩))
    = [some 18, some 17, some 16, some 15, some 14, some 13, some 12, some 10, some 9, some 8, some 7, some 3,
       some 2, some 1, some 0] := by
  decide

/-- **Steps are bounded by a function of `n` and the parallelism.** Every run from the initial state —
any interleaving of the workers, any results and return order of `f`, caller cancellation at any point —
has at most `4·n + 2·W + 2` steps (so in particular at most that many internal steps), and from any
reachable state at most `M.phi` more; there is no infinite run. -/
theorem do_steps_bounded (cfg : Cfg) (hc : cfg.code = doCode ∨ cfg.code = dcCode) :
    (∀ ls s, run cfg (init cfg) ls = some s → ls.length + M.phi cfg s ≤ 4 * cfg.n + 2 * nW cfg + 2) ∧
    (∀ s ls s', run cfg s ls = some s' → ls.length + M.phi cfg s' ≤ M.phi cfg s) ∧
    ¬ ∃ σ : Nat → St, ∀ n, ∃ l, step cfg (σ n) l = some (σ (n + 1)) := by
  have hs : cfg.code.Sound := by pardo_sound hc
  refine ⟨?_, fun s ls s' h => M.run_phi hs h, ?_⟩
  · intro ls s h
    have := M.run_phi hs h
    have := M.phi_init_le hs
    omega
  · rintro ⟨σ, hσ⟩
    exact LTS.no_infinite_run (step := step cfg) (μ := M.phi cfg) (P := fun _ => True) (Q := fun _ => True)
      (fun _ _ h => ⟨M.phi_decreases hs h, trivial⟩) trivial ⟨σ, rfl, fun n => let ⟨l, h⟩ := hσ n; ⟨l, trivial, h⟩⟩

/-- non-vacuity: `Do(2, 3, f)` run to its return in 12 steps (bound `4·3 + 2·2 + 2 = 18`) -/
example : ∃ ls s, run ⟨doCode, 2, 3, 8⟩ (init ⟨doCode, 2, 3, 8⟩) ls = some s ∧ ls.length = 12 ∧ s.ret ≠ none ∧
    nW ⟨doCode, 2, 3, 8⟩ = 2 :=
  ⟨[.fetch 0, .fetch 1, .begin 1, .begin 0, .fEnd 1 (.ok 7), .fetch 1, .begin 1,
      .fEnd 1 (.ok 8), .fEnd 0 (.ok 9), .fetch 0, .fetch 1, .ret], _, rfl, rfl, by decide, by decide⟩

/-- **`Do` returns once its calls have returned.** In every reachable state in which no internal step of
the library is enabled (quiescent) and no call of `f` is in progress — every call that began has ended
— `Do` / `DoContext` has returned. Equivalently: while the call has not returned, the library can move
or a call of `f` is running; the library never waits on itself. (Safety statements about reachable
states: they say which states are stuck, not that an enabled step is taken — that is the fairness
assumption named in the header.) -/
theorem do_returns_when_calls_return (cfg : Cfg) (hc : cfg.code = doCode ∨ cfg.code = dcCode)
    (s : St) (h : Reach cfg s) :
    (M.Quiescent cfg s → running s = 0 → s.ret.isSome = true) ∧
    (s.ret = none → (∃ l s', l.isEnv = false ∧ step cfg s l = some s') ∨ 0 < running s) ∧
    (running s = 0 → ∀ i, endedCount s i = begunCount s i) := by
  have hs : cfg.code.Sound := by pardo_sound hc
  refine ⟨fun hq hrun => ?_, M.served hs h, (inv hs h).ended_eq_begun⟩
  cases hret : s.ret with
  | some r => rfl
  | none =>
    rcases M.served hs h hret with ⟨l, s', hl, hst⟩ | hr
    · rw [hq l hl] at hst; cases hst
    · omega

/-- non-vacuity: a quiescent state of `DoContext(ctx, 2, 2, f)` that has *not* returned — both calls are
still running, which is exactly what the theorem allows -/
example : ∃ s, Reach ⟨dcCode, 2, 2, 8⟩ s ∧ s.ret = none ∧ running s = 2 ∧
    (∀ l ∈ internalLabels s, step ⟨dcCode, 2, 2, 8⟩ s l = none) :=
  ⟨_, reach_of_run Reach.init (ls := [.fetch 0, .fetch 1, .check 0, .check 1, .begin 1, .begin 0]) rfl, rfl, by decide,
    by decide⟩

/-- **Termination.** From every reachable state: (1) every continuation has at most `M.phi` steps; (2) a
continuation that ends quiescent with no call of `f` running has returned; (3) there is a continuation
made only of internal steps and returns of `f` that ends in a returned state. So, **assuming** every call
of `f` that began returns and an enabled library step is eventually taken (weak fairness of the Go
scheduler; neither is proved here), `Do` / `DoContext` returns — within `M.phi cfg s ≤ 4·n + 2·W + 2` steps
of the whole system, environment steps included. -/
theorem do_terminates (cfg : Cfg) (hc : cfg.code = doCode ∨ cfg.code = dcCode) (s : St) (h : Reach cfg s) :
    (∀ ls s', run cfg s ls = some s' → ls.length + M.phi cfg s' ≤ M.phi cfg s) ∧
    M.phi cfg s ≤ 4 * cfg.n + 2 * nW cfg + 2 ∧
    (∀ ls s', run cfg s ls = some s' → M.Quiescent cfg s' → running s' = 0 → s'.ret.isSome = true) ∧
    (∃ ls s', (∀ l ∈ ls, l.isEnv = false ∨ ∃ w r, l = .fEnd w r) ∧ run cfg s ls = some s' ∧
      ls.length ≤ M.phi cfg s ∧ s'.ret.isSome = true) := by
  have hs : cfg.code.Sound := by pardo_sound hc
  have hb : M.phi cfg s ≤ 4 * cfg.n + 2 * nW cfg + 2 := by
    have hb := M.phi_init_le hs
    have : M.phi cfg s ≤ M.phi cfg (init cfg) := by
      clear hb
      induction h with
      | init => exact Nat.le_refl _
      | step _ hst ih => have := M.phi_decreases hs hst; omega
    omega
  obtain ⟨h1, h2, h3⟩ := (run_isRun cfg).call_completes (μ := M.phi cfg) (J := Reach cfg)
    (Ret := fun s => s.ret.isSome = true) (Owe := fun s => 0 < running s) (Q := fun _ => True)
    (Int := fun l => l.isEnv = false) (Svc := fun l => l.isEnv = false ∨ ∃ w r, l = .fEnd w r)
    (fun _ => .inl) (fun _ _ => trivial) (fun hr _ h => ⟨M.phi_decreases hs h, .step hr h⟩)
    (fun s hr hn => M.served hs hr (by simpa using hn))
    (fun s _ ho => let ⟨w, s1, h⟩ := M.fEnd_enabled (cfg := cfg) ho; ⟨_, s1, .inr ⟨w, _, rfl⟩, h⟩) h
  exact ⟨fun ls s' hr => (h1 ls s' (fun _ _ => trivial) hr).1, hb,
    fun ls s' hr hq hrun => h2 ls s' (fun _ _ => trivial) hr hq (by omega), h3⟩

/-- non-vacuity: from the state with both calls running, the two returns and three internal steps end in
the returned state (`M.phi = 8` there) -/
example : ∃ s s', Reach ⟨dcCode, 2, 2, 8⟩ s ∧ s.ret = none ∧ M.phi ⟨dcCode, 2, 2, 8⟩ s = 8 ∧
    run ⟨dcCode, 2, 2, 8⟩ s [.fEnd 1 (.ok 11), .fEnd 0 (.ok 10), .fetch 0, .fetch 1, .ret] = some s' ∧
    s'.ret = some none :=
  ⟨_, _, reach_of_run Reach.init (ls := [.fetch 0, .fetch 1, .check 0, .check 1, .begin 1, .begin 0]) rfl, rfl,
    by decide, rfl, rfl⟩

end Juniper.Props.C13Progress
