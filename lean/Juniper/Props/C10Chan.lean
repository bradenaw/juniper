import Juniper.Model.ChanStream
import Juniper.Proofs.ChanStream
import Juniper.Model.Skeleton
import Juniper.Generated.Skeleton
/-!
# stream.Chan (`chanStream`) — companion of C10 / the C08 clause "the per-call context only guards
the wait, not the buffered data"

Theorems about `Juniper.Model.ChanStream` (the `select` of `chanStream.Next` is the regenerated table
`Gen.Pipe.chanNextArms`), for every channel capacity, every sequence of environment actions and every
choice among ready arms.
-/
namespace Juniper.Props.C10Chan
open Juniper.Facts Juniper.Gen.Pipe Juniper.Model.ChanStream Juniper.Proofs.ChanStream

/-- `chanStream.Next` is one `select` over the data channel and the context, nothing else. -/
theorem chan_tables_exact : tablesKnown = true := by decide

/-- Tie 1 for the control flow: the regenerated statement-kind skeleton of `chanStream.Next` is
`var zero; select { data arm: if !ok { return End }; return item | ctx arm: return }` and `Close` is
empty — no statement added, removed or moved (`Model/Skeleton.lean`). -/
theorem chan_skeleton_ok :
    Gen.Skeleton.chanNext = Model.Skeleton.chanNext ∧ Gen.Skeleton.chanClose = Model.Skeleton.chanClose :=
  ⟨rfl, rfl⟩

/-- **Exact FIFO, nothing lost, nothing duplicated:** what `Next` has returned followed by what the
channel still buffers is what the channel accepted, in order — whatever happened in between
(expired contexts included). -/
theorem chan_fifo {c : Nat} {st : State} (hr : Reach (init c) st) :
    st.delivered ++ st.buf = st.puts := (inv_reach hr).fifo

/-- **The end comes after the data:** once the end was reported the channel is closed and everything
it ever accepted has been delivered. -/
theorem chan_end_after_data {c : Nat} {st : State} (hr : Reach (init c) st) (he : st.endReported = true) :
    st.closed = true ∧ st.delivered = st.puts := by
  have h := inv_reach hr
  obtain ⟨hc, hb⟩ := h.fin he
  have := h.fifo
  rw [hb, List.append_nil] at this
  exact ⟨hc, this⟩

/-- **A Next that fails on an expired context costs nothing:** the step changes nothing but `parked`. -/
theorem chan_ctx_costs_nothing {st st' : State} (hs : step st (.arm (.recv chCtx)) = some st') :
    st' = { st with parked := false } := by
  generalize hl : Label.arm (.recv chCtx) = l at hs
  cases step_sound hs with
  | ctx => rfl
  | recv | recvEnd => exact absurd hl (by decide)
  | _ => cases hl

/-- **Next returns once a value is buffered, the channel is closed or its context expired** — proved as:
in any state (reachable or not) in which `Next` is pending and one of the three holds, (1) `Next` is that
one `select` and nothing else (regenerated control skeleton); (2) an arm of the `select` is enabled whose
step makes the call return (`parked = false` afterwards); (3) stability: after any label of the LTS the
call has returned or one of the three still holds. "Returns" then needs the scheduler to run an arm that
stays enabled (weak fairness, trusted — not proved). No measure is needed: every arm returns. -/
theorem chan_next_never_stuck {st : State} (hp : st.parked = true)
    (hc : st.buf ≠ [] ∨ st.closed = true ∨ st.rctx = true) :
    Gen.Skeleton.chanNext = Model.Skeleton.chanNext ∧
    (∃ a st', step st (.arm a) = some st' ∧ st'.parked = false) ∧
    (∀ l st', step st l = some st' →
      st'.parked = false ∨ (st'.buf ≠ [] ∨ st'.closed = true ∨ st'.rctx = true)) := by
  have hd : chanNextArms.contains (.recv chData) = true := by decide
  have hx : chanNextArms.contains (.recv chCtx) = true := by decide
  refine ⟨rfl, ?_, ?_⟩
  · cases hb : st.buf with
    | cons v rest =>
      exact ⟨.recv chData, { st with buf := rest, delivered := st.delivered ++ [v], parked := false },
        by simp [step, hp, hd, hb, chData], rfl⟩
    | nil =>
      rcases hc with h | h | h
      · exact absurd hb h
      · exact ⟨.recv chData, { st with parked := false, endReported := true }, by simp [step, hp, hd, hb, h, chData], rfl⟩
      · exact ⟨.recv chCtx, { st with parked := false }, by simp [step, hp, hx, h, chData, chCtx], rfl⟩
  · intro l st' hs
    cases step_sound hs with
    | put => exact .inr (.inl (by simp))
    | close => exact .inr (.inr (.inl rfl))
    | startNext c hnp => exact nomatch hp.symm.trans hnp
    | cancelNext => exact .inr (.inr (.inr rfl))
    | _ => exact .inl rfl

/-- **What `Next` returns versus the logs (the `!ok` branch is load-bearing).** `completion st l` is the
result with which `Next` returns in step `l` (if it does), read off the regenerated body of the data arm
(`item, ok := <-s.c; if !ok { return zero, End }; return item, nil`) and of the context arm. For every step:
* `Next` returns the value `v` exactly when `v` is appended to `delivered` in this step (popped from the
  buffer, or handed over by a `put` on an unbuffered channel);
* it returns `End` exactly in the step that sets `endReported`, which needs the channel closed **and**
  drained (`!ok`), and delivers nothing;
* it returns the context's error only from the context arm with an expired context; nothing else changes;
* every other step (a buffered `put`, `close`, a call being started, a context expiring) returns nothing
  and leaves `delivered` and `endReported` alone. -/
theorem chan_next_result_matches_log {st st' : State} {l : Label} (hs : step st l = some st') :
    (∃ v, completion st l = some (.val v) ∧ st'.delivered = st.delivered ++ [v] ∧ st'.endReported = st.endReported) ∨
    (completion st l = some .fin ∧ st'.delivered = st.delivered ∧ st.closed = true ∧ st.buf = [] ∧
      st'.endReported = true) ∨
    (completion st l = some .ctx ∧ st.rctx = true ∧ st' = { st with parked := false }) ∨
    (completion st l = none ∧ st'.delivered = st.delivered ∧ st'.endReported = st.endReported) := by
  have hbody : chanNextBodies.lookup (.recv chData) =
      some ["bind item,ok:=", "if !ok {", "return zero, End", "}", "return item, nil"] := by decide
  have hctx : chanNextBodies.lookup (.recv chCtx) = some ["return zero, ctx.Err()"] := by decide
  cases step_sound hs with
  | put v _ hlt =>
    have : ¬ st.cap = 0 := by omega
    exact .inr (.inr (.inr ⟨by simp [completion, this], rfl, rfl⟩))
  | handOver v _ hcap => exact .inl ⟨v, by simp [completion, hcap, dataResult, hbody], rfl, rfl⟩
  | close | startNext | cancelNext => exact .inr (.inr (.inr ⟨rfl, rfl, rfl⟩))
  | recv v rest _ hb => exact .inl ⟨v, by simp [completion, dataResult, hbody, hb, chData], rfl, rfl⟩
  | recvEnd _ hb hcl => exact .inr (.inl ⟨by simp [completion, dataResult, hbody, hb, chData], rfl, hcl, hb, rfl⟩)
  | ctx _ hr => exact .inr (.inr (.inl ⟨by simp [completion, hctx, chData, chCtx], hr, rfl⟩))

/-- non-vacuity: a value popped, the end of a closed and drained channel, an expired context, a
hand-over on an unbuffered channel -/
example : completion { cap := 2, buf := [1, 2], parked := true } (.arm (.recv chData)) = some (.val 1) ∧
    completion { cap := 2, closed := true, parked := true } (.arm (.recv chData)) = some .fin ∧
    completion { cap := 2, parked := true, rctx := true } (.arm (.recv chCtx)) = some .ctx ∧
    completion { cap := 0, parked := true } (.put 4) = some (.val 4) := by decide +kernel

/-- non-vacuity: capacity 2; two values, a `Next` whose context is expired, a live `Next`, close, two
more: delivered `[1, 2]`, then the end. -/
example : (run (init 2) [.put 1, .put 2, .startNext true, .arm (.recv chCtx), .startNext false, .arm (.recv chData),
      .close, .startNext false, .arm (.recv chData), .startNext false, .arm (.recv chData)]).map
    (fun st => (st.delivered, st.puts, st.endReported, st.closed)) = some ([1, 2], [1, 2], true, true) := by decide +kernel

example : ∃ st, Reach (init 0) st ∧ st.parked = true ∧ st.closed = true :=
  ⟨{ cap := 0, parked := true, closed := true }, reach_of_run (ls := [.startNext false, .close]) (by decide +kernel), rfl, rfl⟩

end Juniper.Props.C10Chan
