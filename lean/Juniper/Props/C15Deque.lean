import Juniper.Proofs.DequeInval
/-!
# C15 (deque half) — `Deque.Iterate` is snapshot-or-panic (property theorems)

Model: `Juniper.Model.Deque` (`iterate`, `iterNext`; `nextObs` = one `Next` call observed as
item / exhausted / panic; `nexts` = `n` consecutive `Next` calls; `runEv` = the observations made
through one iterator during an arbitrary sequence of deque calls and `Next` calls).
Spec: `Juniper.Spec.Deque.SnapshotOrPanic s obs` — every item is the next element of the snapshot
`s`, "exhausted" only after the whole snapshot, otherwise a panic (and then panics only).

The theorems rest on two regenerated presence facts about `deque.go`, both discharged by `decide`
*inside* the proofs, so that deleting one of the statements in the Go source breaks them:
`GenFacts` — `d.gen++` occurs in both pushes, in both branches of both pops (also the one that
empties the deque), in `resize` and in `Set`; `ClearFacts` — the pops zero the vacated slot.
-/
namespace Juniper.Props.C15Deque
open Juniper.Gen.Deque Juniper.Model.Deque Juniper.Proofs.Deque
open Juniper.Spec.Deque (Op Out Obs SnapshotOrPanic)

variable {α : Type}

/-- **Unchanged container.** On a deque that is not touched, an iterator yields exactly the
contents front to back and then reports exhaustion for ever: the first `n` calls return the first
`n` elements (all of them when `n ≥ Len`), the remaining calls return "exhausted"; nothing panics.
Draining it (`Op.iterate`) returns the contents. -/
theorem dequeIter_unchanged_yields_contents {d : Deque α} (h : WF d) (n : Nat) :
    (nexts d (iterate d) n).2 =
      ((contents d).take n).map (fun x => Obs.item (some x))
        ++ List.replicate (n - (contents d).length) Obs.done ∧
    collect d = some ((contents d).map some) := by
  have := (IterAt.nexts h n (iterate d) 0 (Rep.iterate_at h)).1
  simp only [List.drop_zero, Nat.sub_zero] at this
  exact ⟨this, Rep.collect_eq h⟩

/-- **Unchanged container, with reads in between** (audit C15-F6). "Unchanged" does not mean "not called": while an
iterator is live the deque may be *read* (`Front`, `Back`, `Item`, `Len`, draining another iterator), and calls that
refuse and panic (`PopFront`/`PopBack`/`Front`/`Back` of an empty deque, `Item`/`Set` outside the range, `Shrink` of a
negative amount) or that happen not to reallocate (`Grow`/`Shrink` that keep the buffer: last disjunct) leave it as it
is. In every such interleaving the iterator's `Next` calls return exactly what back-to-back calls return: the contents
front to back, then "exhausted" for ever — in particular **no spurious panic** (`dequeIter_snapshot_or_panic` alone
would allow one). -/
theorem dequeIter_unchanged_reads_yield_contents {d : Deque α} (h : WF d) (es : List (Ev α))
    (hq : ∀ o, Ev.op o ∈ es → Quiet (contents d) o ∨ (applyOp d o).1 = d) :
    runEv d (iterate d) es =
      ((contents d).take (nextCount es)).map (fun x => Obs.item (some x))
        ++ List.replicate (nextCount es - (contents d).length) Obs.done := by
  rw [runEv_untouched d es (iterate d) (fun o ho => (hq o ho).elim (fun q => Rep.applyOp_quiet h (by decide) q) id)]
  exact (dequeIter_unchanged_yields_contents h (nextCount es)).1

/-- **Snapshot or panic, any interleaving.** For every well-formed state: make an iterator, then
let *any* sequence of deque calls (each of the twelve operations, any arguments, panicking calls
included) and `Next` calls happen in any order. What the iterator returns is a prefix of the
snapshot taken when it was made, it reports exhaustion only after the whole snapshot, and otherwise
it panics (and keeps panicking). -/
theorem dequeIter_snapshot_or_panic {d : Deque α} (h : WF d) (es : List (Ev α)) :
    SnapshotOrPanic (contents d) (runEv d (iterate d) es) := by
  have := IterAt.runEv (by decide) (by decide) es d (contents d) (iterate d) 0 h (Rep.iterate_at h)
  simpa using this

/-- The instance named in the property text: every well-formed state, every iterator position
(`pos` items requested so far — more than `Len` included), every mid-iteration operation, followed
by any number of further `Next` calls. -/
theorem dequeIter_midop_snapshot_or_panic {d : Deque α} (h : WF d) (pos : Nat) (o : Op α)
    (more : Nat) :
    SnapshotOrPanic (contents d)
      (runEv d (iterate d) (List.replicate pos .next ++ .op o :: List.replicate more .next)) :=
  dequeIter_snapshot_or_panic h _

/-- **Adding or removing an element makes the next call panic**, at every iterator position: after a
`PushFront`, a `PushBack`, or a `PopFront`/`PopBack` of a non-empty deque (the pop that empties it
included), and likewise after a `Set` inside the range, the iterator's next `Next` panics. -/
theorem dequeIter_add_remove_panics {d : Deque α} (h : WF d) (pos : Nat) (o : Op α)
    (ho : (∃ x, o = .pushFront x) ∨ (∃ x, o = .pushBack x) ∨
      ((o = .popFront ∨ o = .popBack) ∧ contents d ≠ []) ∨
      (∃ i x, o = .set i x ∧ 0 ≤ i ∧ i < (contents d).length)) :
    (nextObs (applyOp d o).1 (nexts d (iterate d) pos).1).2 = Obs.panic := by
  have hit := (IterAt.nexts h pos (iterate d) 0 (Rep.iterate_at h)).2
  have hlt := Rep.applyOp_gen_lt h (by decide) (by decide) ho
  rw [nextObs_stale _ _ (by have := hit.gen_eq; omega)]

/-! ## Non-vacuity (and the replays of D9, now panicking) -/

/-- `PushBack 7; Iterate; PopFront; Next` — the pop that empties the deque invalidates the iterator
(before the repair: `(zero, false)`, a silent early end). -/
example :
    let d := (run (zero : Deque Int) [.pushBack 7]).1
    WF d ∧ contents d = [7] ∧
      runEv d (iterate d) [.op .popFront, .next] = [.panic] := by
  exact ⟨(Rep.run (by decide) _ _ _ rep_zero).1.wf, by decide +kernel, by decide +kernel⟩

/-- A wrapped window (`front = 14`, three elements), one `Next`, then `Grow` reallocates: the
iterator panics instead of reading a raw index of the old buffer; without a reallocation
(`Grow(1)`) it carries on and yields the whole snapshot. -/
example :
    let d := (run (zero : Deque Int)
      (.pushBack 0 :: (List.range 13).flatMap (fun _ => [Op.pushBack 0, Op.popFront]) ++
        [.pushBack 1, .popFront, .pushBack 2, .pushBack 3])).1
    d.front = 14 ∧ d.back = 0 ∧ contents d = [1, 2, 3] ∧
      runEv d (iterate d) [.next, .op (.grow 20), .next, .next] = [.item (some 1), .panic, .panic] ∧
      runEv d (iterate d) [.next, .op (.grow 1), .next, .next, .next, .next]
        = [.item (some 1), .item (some 2), .item (some 3), .done, .done] := by
  refine ⟨by decide +kernel, by decide +kernel, by decide +kernel, by decide +kernel,
    by decide +kernel⟩

/-- `Set` ahead of the iterator. -/
example :
    let d := (run (zero : Deque Int) [.pushBack 1, .pushBack 2]).1
    runEv d (iterate d) [.next, .op (.set 1 99), .next] = [.item (some 1), .panic] ∧
      SnapshotOrPanic (contents d) (runEv d (iterate d) [.next, .op (.set 1 99), .next]) := by
  refine ⟨by decide +kernel, dequeIter_snapshot_or_panic (Rep.run (by decide) _ _ _ rep_zero).1.wf _⟩

/-- reads, refused calls and a non-reallocating `Grow` between the `Next`s: the whole snapshot, then "exhausted". -/
example :
    let d := (run (zero : Deque Int) [.pushBack 1, .pushBack 2]).1
    let es : List (Ev Int) := [.op .len, .next, .op (.item 1), .op (.set 5 9), .op (.shrink (-1)), .op .front, .next,
      .op (.grow 0), .op .iterate, .next, .next]
    (∀ o, Ev.op o ∈ es → Quiet (contents d) o ∨ (applyOp d o).1 = d) ∧
      runEv d (iterate d) es = [.item (some 1), .item (some 2), .done, .done] := by
  refine ⟨?_, by decide +kernel⟩
  intro o ho
  simp only [List.mem_cons, Ev.op.injEq, reduceCtorEq, false_or, List.not_mem_nil, or_false] at ho
  rcases ho with rfl | rfl | rfl | rfl | rfl | rfl | rfl
  · exact Or.inl (Or.inl rfl)
  · exact Or.inl (Or.inl rfl)
  · exact Or.inl (Or.inr (by decide +kernel))
  · exact Or.inl (Or.inr (by decide +kernel))
  · exact Or.inl (Or.inl rfl)
  · exact Or.inr (by decide +kernel)
  · exact Or.inl (Or.inl rfl)

end Juniper.Props.C15Deque
