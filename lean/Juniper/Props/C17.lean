import Juniper.Model.Group
import Juniper.Proofs.GroupLocal
import Juniper.Proofs.GroupInv
import Juniper.Proofs.GroupProgress
/-!
# C17 — xsync.Group: StopAndWait is a barrier; triggers are never lost or overlapped; periodic
functions keep running (property theorems)

Model: `Juniper/Model/Group.lean`, an LTS whose reachable states are all interleavings of
registrations (`Do`, `Trigger`, `Periodic`, `PeriodicOrTrigger`), trigger calls, `f` returning, clock
advances, parent-context cancellation and any number of `Stop` / `StopAndWait` calls, for any number
of registrations; lock discipline, stop programs, `select` tables, arm actions, channel capacities
and loop shapes are regenerated from `xsync/xsync.go` (`Juniper.Gen.Group`). Helper lemmas:
`Juniper/Proofs/Group{Local,Inv,Progress}.lean`. The theorems hold for both timer-channel semantics
(`async`).

Liveness clauses are proved in the form *the pending work is never dropped + a step of the
registration's own goroutine is enabled + every such step strictly decreases a measure (`dist`) or
begins the run*; that the Go scheduler eventually runs an enabled goroutine, that an armed timer
eventually fires and that `f` returns when it does is trusted (partial by nature).
-/
namespace Juniper.Props.C17
open Juniper.Gen.Group Juniper.Model.Group
open Juniper.Proofs.GroupLocal Juniper.Proofs.GroupInv Juniper.Proofs.GroupProgress

/-- *After StopAndWait returns, none of the functions is running and none ever starts again,
including ones whose start raced with the stop.* (That `g.m` is the standard library's `sync.RWMutex`,
`g.wg` its `WaitGroup`, that `NewGroup` stores the derived context together with its own cancel function,
that all methods have pointer receivers and that the spawned goroutine is `f(); g.wg.Done()` are regenerated
facts: `groupWiring_tie`, `spawnText_tie`, and the `decide` at the head of this proof.) Once some `StopAndWait` call has returned
(`barrier`), in that state and in every state reachable from it — whatever is registered, triggered,
cancelled or stopped afterwards, and wherever the spawns that raced with the stop were — the context
is cancelled, the wait group is empty, no thread is running `f` (`inF`, `active = 0`) and every thread
is at a point from which `f` cannot be reached: before its context check (which will fail), bailing
out, not spawned, or exited. -/
theorem stopAndWait_barrier {now : Int} {async : Bool} {s : GState} (hr : Reach (gInit now async) s)
    (hb : s.barrier = true) :
    ∀ s', Reach s s' →
      s'.barrier = true ∧ s'.ctxDone = true ∧ s'.wg = 0 ∧
      ∀ t ∈ s'.threads, t.pc ≠ .inF ∧ t.active = 0 ∧
        (t.pc = .spawnStart ∨ t.pc = .spawnLocked ∨ t.pc = .spawnBail ∨ t.pc = .notSpawned ∨ t.pc = .exited) := by
  intro s' hr'
  -- what `g.m`, `g.wg`, `g.ctx` are and how `NewGroup` wires them (audit C17 F1): re-checked here so that a
  -- no-op lock type, a `NewGroup` that stores the parent context, or a value receiver breaks *this* theorem
  have _wiring : groupFields.lookup "m" = some "sync.RWMutex" ∧ groupFields.lookup "wg" = some "sync.WaitGroup" ∧
      groupFields.lookup "ctx" = some "context.Context" ∧ groupImports.lookup "sync" = some "sync" ∧
      groupLocalTypes = [] ∧ groupReceivers.all (fun p => p.2 == "*Group") = true ∧
      newGroupStmts = ["bgCtx, cancel := context.WithCancel(ctx)", "return &Group{ ctx: bgCtx, cancel: cancel, }"] ∧
      spawnGoStmts = ["f()", "g.wg.Done()"] := by decide +kernel
  have hb' := barrier_reach hr' hb
  have hi := ginv_reach (reach_trans hr hr')
  obtain ⟨hsc, hz⟩ := hi.barrierK hb'
  obtain ⟨hctx, hchk⟩ := hi.safeK hsc
  refine ⟨hb', hctx, hz, ?_⟩
  intro t ht
  have hcount : s'.threads.countP holdsWg = 0 := by rw [← hi.wgCount]; exact hz
  have hw : wgOf t.pc = 0 := by rw [wgOf_eq, if_neg (List.countP_eq_zero.mp hcount t ht)]
  have hpc := pc_after_barrier hw (hchk t ht) (hi.noLate t ht)
  have hne : t.pc ≠ .inF := by intro h; rw [h] at hw; simp [wgOf] at hw
  refine ⟨hne, ?_, hpc⟩
  have := (hi.threads t ht).1
  simpa [hne] using this

/-- a `Do` racing a `StopAndWait`: the spawn passed its check before the stopper got the lock, `f` ran
and returned, then the barrier was reached; a `Trigger` registered afterwards bails out -/
example : ∃ s, Reach (gInit 0 false) s ∧ s.barrier = true ∧ s.threads.map (·.runs) = [1, 0] ∧
    s.threads.map (·.pc) = [.exited, .notSpawned] :=
  isRun.exists_reach (.step _) .refl
    [.register .doOnce 0 0, .stopCall true, .work 0 0 0, .work 0 0 0, .work 0 0 0, .work 0 0 0,
     .stopStep 0, .stopStep 0, .stopStep 0, .work 0 0 0, .work 0 0 0, .work 0 0 0, .fEnd 0, .work 0 0 0,
     .stopStep 0, .register .trigger 0 0, .work 1 0 0, .work 1 0 0, .work 1 0 0] (by decide +kernel)

/-- *While the group runs, every call of a trigger function is followed by a complete run of f that
begins after that call.* For every reachable state and every registration `i` made through `Trigger`
or `PeriodicOrTrigger`:
(a) a trigger call is always possible and leaves a value in the one-slot channel;
(b) as long as no run has begun since some call (`owed`), the request is still pending: the value is
    in the channel, or the loop has received it and is committed to calling `f` (between the receive
    and the call of `f` there is no further context check);
(c) a step of the registration's own goroutine clears `owed` only by beginning a run — so that run begins
    after the call (that no *other* label clears it, moves the goroutine or takes the token is
    `trigger_request_stable` below);
(d) while the context is live and the goroutine was spawned, a pending request makes progress:
    if `f` is running, its return leads back to the loop with the request still pending; otherwise a
    step of the loop's goroutine is enabled, and every such step begins a run or strictly decreases
    the distance to it, keeping the request pending. (`0 < dist t.pc` is not an assumption about the
    state: it follows from the live context once the registration call has passed `wg.Add` —
    `live_registration_on_its_way`; stability under all other labels and the bound along arbitrary
    runs: `trigger_request_stable`.) -/
theorem trigger_not_lost {now : Int} {async : Bool} {s : GState} (hr : Reach (gInit now async) s)
    (i : Nat) (t : Thread) (hti : s.threads[i]? = some t) (hk : t.kind = .trigger ∨ t.kind = .pot) :
    (∃ s' t', step s (.trig i) = some s' ∧ s'.threads[i]? = some t' ∧ t'.owed = true ∧ t'.token = true) ∧
    (t.owed = true → t.token = true ∨ committed t.pc = true) ∧
    (∀ c off s' t', step s (.work i c off) = some s' → s'.threads[i]? = some t' →
        t.owed = true → t'.owed = true ∨ (t'.pc = .inF ∧ t'.runs = t.runs + 1)) ∧
    (s.ctxDone = false → 0 < dist t.pc → (t.token = true ∨ committed t.pc = true) →
      (t.pc = .inF → ∃ s' t', step s (.fEnd i) = some s' ∧ s'.threads[i]? = some t' ∧ t'.pc = .loopHead ∧
          t'.token = t.token) ∧
      (t.pc ≠ .inF → ∃ c, (step s (.work i c 0)).isSome = true) ∧
      (∀ c off s' t', step s (.work i c off) = some s' → s'.threads[i]? = some t' →
          ((t'.pc = .inF ∧ t'.runs = t.runs + 1) ∨ (0 < dist t'.pc ∧ dist t'.pc < dist t.pc ∧ t'.runs = t.runs)) ∧
          (t'.token = true ∨ committed t'.pc = true ∨ t'.pc = .inF))) := by
  have hi := ginv_reach hr
  have hmem : t ∈ s.threads := List.mem_of_getElem? hti
  have hT := hi.threads t hmem
  have hlt := (List.getElem?_eq_some_iff.mp hti).1
  refine ⟨?_, hT.2.1, ?_, ?_⟩
  · have ht' := trigSend_eq t
    rw [if_pos hk] at ht'
    exact ⟨{ s with threads := s.threads.set i { t with token := true, owed := true } }, _,
      by simp [step, hti, ht'], List.getElem?_set_self hlt, rfl, rfl⟩
  · intro c off s' t' hs ht' ho
    obtain ⟨e, hts⟩ := work_inv hs hti ht'
    obtain ⟨_, _, _, _, _, _, _, _, Fruns, _, _, _, _, _, _, Fowed⟩ := threadStep_facts hts
    exact (Fowed ho).imp_right fun h => ⟨h, by rw [Fruns, if_pos h]⟩
  · intro hctx hd hpend
    refine ⟨?_, ?_, ?_⟩
    · intro hpc
      exact fEnd_enabled hti hpc (by rcases hk with h | h <;> simp [h])
    · intro hne
      have hsel : selectReady t := by
        intro hpc
        have : t.token = true := by
          rcases hpend with h | h
          · exact h
          · rw [hpc] at h; simp [committed] at h
        rcases hk with hk | hk
        · exact Or.inl ⟨hk, this⟩
        · exact Or.inr (Or.inr ⟨hk, Or.inl this⟩)
      obtain ⟨c, hc⟩ := step_enabled (v := view s) hT hd hne hsel
      exact ⟨c, work_some hti hc⟩
    · intro c off s' t' hs ht'
      obtain ⟨e, hts⟩ := work_inv hs hti ht'
      obtain ⟨h1, h2⟩ := step_decreases hts hctx hd
      exact ⟨h1.imp_right And.right, h2 hpend⟩

/-- **The other half of `trigger_not_lost` / `periodic_keeps_running` (audit C17 F4): a live context means
the registration is on its way.** For a reachable state with a live group context and a registration that is
not a `Do`: either its registration call is still inside `spawn` before `wg.Add(1)` (the call has not
returned, so no trigger function has been handed out and no timer exists yet), or `0 < dist t.pc` — the
goroutine is in its loop or inside `f`. So the hypothesis `0 < dist t.pc` of (d) and of
`periodic_keeps_running` is discharged by "the context is live and the registration call has returned". -/
theorem live_registration_on_its_way {now : Int} {async : Bool} {s : GState} (hr : Reach (gInit now async) s)
    (i : Nat) (t : Thread) (hti : s.threads[i]? = some t) (hk : t.kind ≠ .doOnce) (hctx : s.ctxDone = false) :
    0 < dist t.pc ∨ t.pc = .spawnStart ∨ t.pc = .spawnLocked ∨ t.pc = .spawnChecked :=
  live_on_its_way hr (List.mem_of_getElem? hti) hctx hk

/-- **Stability, and the measure along arbitrary runs.** For a reachable state `s`, a registration `i` that is
not a `Do` and is on its way (`0 < dist t.pc`):
(1) *every* label that is not a step of `i`'s own goroutine and not the return of its `f` — steps of all other
    goroutines, registrations, trigger calls (on `i` too), timers firing, the clock, parent cancellation, `Stop` /
    `StopAndWait` calls and their steps — leaves `i`'s goroutine exactly where it is (same pc, `runs`,
    `active`), keeps `owed`, keeps the token, keeps a fired timer fired and a non-idle timer non-idle; so an
    enabled own step stays enabled and `dist` cannot grow;
(2) along *any* run of the whole system at whose end the context is still live, `runs` has not decreased, and
    as long as no new run has begun the registration is still on its way, `dist` has dropped by at least the
    number of own steps taken in the run, and a pending request (token in the channel, or received and
    committed) is still pending. Since `dist ≤ 9`, a new run begins within 9 own steps (own steps = steps of
    the goroutine and returns of `f`), whatever everything else does in between.
What remains trusted for "is followed by a run" / "keeps being invoked": the scheduler eventually runs an
enabled goroutine, an armed timer eventually fires, `f` returns. -/
theorem trigger_request_stable {now : Int} {async : Bool} {s : GState} (_hr : Reach (gInit now async) s)
    (i : Nat) (t : Thread) (hti : s.threads[i]? = some t) (hk : t.kind ≠ .doOnce) (hd : 0 < dist t.pc) :
    (∀ l s', step s l = some s' → isOwn i l = false →
      ∃ t', s'.threads[i]? = some t' ∧ t'.pc = t.pc ∧ t'.kind = t.kind ∧ t'.runs = t.runs ∧ t'.active = t.active ∧
        (t.owed = true → t'.owed = true) ∧ (t.token = true → t'.token = true) ∧
        (t.timer = .fired → t'.timer = .fired) ∧ (t.timer ≠ .idle → t'.timer ≠ .idle)) ∧
    (∀ ls s', runG s ls = some s' → s'.ctxDone = false →
      ∃ t', s'.threads[i]? = some t' ∧ t'.kind = t.kind ∧ t.runs ≤ t'.runs ∧
        (t'.runs = t.runs → 0 < dist t'.pc ∧ dist t'.pc + nOwn i ls ≤ dist t.pc ∧ nOwn i ls < 9 ∧
          ((t.token = true ∨ committed t.pc = true) → (t'.token = true ∨ committed t'.pc = true)))) := by
  refine ⟨fun l s' h hl => env_stable h hti hl, ?_⟩
  intro ls s' hrun hctx
  obtain ⟨t', ht', hk', hle, himp⟩ := own_steps_bounded ls hrun hctx hti hk hd
  refine ⟨t', ht', hk', hle, fun he => ?_⟩
  obtain ⟨a, b, c⟩ := himp he
  have := dist_le t.pc
  exact ⟨a, b, by omega, c⟩

/-- non-vacuity: a trigger request made while `f` runs; then another registration is made, the clock moves, a
`Stop`-less stopper-free environment acts, `f` returns and the loop goes round: four own steps
(`fEnd`, loop head, select, …) — the measure went from 7 (`inF`) to the next run -/
example : ∃ s s' ls, Reach (gInit 0 true) s ∧ runG s ls = some s' ∧ s'.ctxDone = false ∧ nOwn 0 ls = 4 ∧
    (s.threads[0]?.map fun t => (t.pc, t.token, t.runs)) = some (.inF, true, 1) ∧
    (s'.threads[0]?.map fun t => (t.pc, t.token, t.runs)) = some (.inF, false, 2) := by
  refine ⟨_, _, [.register .periodic 5 1, .fEnd 0, .advance 3, .work 0 0 0, .trig 0, .work 0 1 0, .work 1 0 0, .work 0 0 0],
    reach_of_runG
      [.register .trigger 0 0, .work 0 0 0, .work 0 0 0, .work 0 0 0, .work 0 0 0, .work 0 0 0, .work 0 0 0,
       .trig 0, .work 0 0 0, .work 0 1 0, .work 0 0 0, .trig 0] _ _ _ .refl rfl, rfl, ?_⟩
  decide +kernel

/-- a burst of three trigger calls while `f` runs: one value stays in the channel, and after `f`
returns the loop is four steps away from the next run -/
example : ∃ s, Reach (gInit 0 true) s ∧ s.ctxDone = false ∧
    (s.threads[0]?.map fun t => (t.kind, t.pc, t.owed, t.token, t.runs)) = some (.trigger, .inF, true, true, 1) :=
  isRun.exists_reach (.step _) .refl
    [.register .trigger 0 0, .work 0 0 0, .work 0 0 0, .work 0 0 0, .work 0 0 0, .work 0 0 0, .work 0 0 0,
     .trig 0, .work 0 0 0, .work 0 1 0, .work 0 0 0, .trig 0, .trig 0, .trig 0] (by decide +kernel)

/-- *Runs of one f never overlap.* In every reachable state every registration has at most one run
of its `f` in progress (`active`, incremented when a run begins and decremented when `f` returns), it
has one exactly when its goroutine is inside `f`, and a run begins only from a state in which none
is in progress. -/
theorem runs_never_overlap {now : Int} {async : Bool} {s : GState} (hr : Reach (gInit now async) s) :
    (∀ t ∈ s.threads, t.active ≤ 1 ∧ (t.active = 1 ↔ t.pc = .inF)) ∧
    (∀ i c off s' t t', step s (.work i c off) = some s' → s.threads[i]? = some t → s'.threads[i]? = some t' →
        t'.runs = t.runs + 1 → t.active = 0 ∧ t'.active = 1) := by
  have hi := ginv_reach hr
  constructor
  · intro t ht
    have := (hi.threads t ht).1
    by_cases hp : t.pc = .inF <;> simp [hp] at this <;> simp [this, hp]
  · intro i c off s' t t' hs hti ht' hruns
    obtain ⟨e, hts⟩ := work_inv hs hti ht'
    have hT := hi.threads t (List.mem_of_getElem? hti)
    obtain ⟨Ftr, _, _, _, _, _, _, _, Fruns, _, _, _, _, _, Fact, _⟩ := threadStep_facts hts
    have hin : t'.pc = .inF := by
      by_cases h : t'.pc = .inF
      · exact h
      · simp [h] at Fruns; omega
    have hfrom : t.pc = .callF := (triples_acct _ Ftr).2.2.2.2.2.2 hin
    have ha := hT.1
    rw [hfrom] at ha
    simp at ha
    exact ⟨ha, by simp [Fact, hin, ha]⟩

example : ∃ s, Reach (gInit 0 false) s ∧ s.threads.map (·.active) = [1, 1] :=
  isRun.exists_reach (.step _) .refl
    [.register .doOnce 0 0, .register .trigger 0 0, .trig 1,
     .work 0 0 0, .work 0 0 0, .work 0 0 0, .work 0 0 0, .work 0 0 0, .work 0 0 0, .work 0 0 0,
     .work 1 0 0, .work 1 0 0, .work 1 0 0, .work 1 0 0, .work 1 0 0, .work 1 0 0, .work 1 0 0, .work 1 1 0,
     .work 1 0 0] (by decide +kernel)

/-- *Periodic functions keep being invoked, one run at a time, until the group is stopped.* For every
reachable state with a live context and every spawned `Periodic` / `PeriodicOrTrigger` registration:
while `f` runs, its return leads back to the loop; parked at the `select`, the timer is never idle —
it is armed (the clock can advance to its due instant, at which the runtime may fire it) or has fired
(then the receive arm is enabled); everywhere else a step of the goroutine is enabled (in particular
the `if !t.Stop() { <-t.C }` drain of PeriodicOrTrigger never blocks, under either timer semantics);
and every step of the goroutine begins a run or strictly decreases the distance to the next one.
(One run at a time: `runs_never_overlap`. `0 < dist t.pc` follows from the live context once the registration
call has passed `wg.Add`: `live_registration_on_its_way`; no other label moves the goroutine, un-fires or
disarms its timer, and along any run `dist` drops with every own step: `trigger_request_stable`, which is
stated for every registration that is not a `Do`. The conjunct about `advance` says only that the model's clock
can always reach `due`; that the runtime then fires the timer is trusted.) -/
theorem periodic_keeps_running {now : Int} {async : Bool} {s : GState} (hr : Reach (gInit now async) s)
    (i : Nat) (t : Thread) (hti : s.threads[i]? = some t) (hk : t.kind = .periodic ∨ t.kind = .pot)
    (hctx : s.ctxDone = false) (hd : 0 < dist t.pc) :
    (t.pc = .inF → ∃ s' t', step s (.fEnd i) = some s' ∧ s'.threads[i]? = some t' ∧ t'.pc = .loopHead) ∧
    (t.pc = .atSelect → t.timer ≠ .idle ∧
      ∀ due, t.timer = .armed due →
        (∃ s', step s (.advance (max 0 (due - s.now))) = some s' ∧ due ≤ s'.now) ∧
        (due ≤ s.now → (step s (.fireTimer i)).isSome = true)) ∧
    (t.pc ≠ .inF → (t.pc = .atSelect → t.timer = .fired ∨ (t.kind = .pot ∧ t.token = true)) →
      ∃ c, (step s (.work i c 0)).isSome = true) ∧
    (∀ c off s' t', step s (.work i c off) = some s' → s'.threads[i]? = some t' →
      (t'.pc = .inF ∧ t'.runs = t.runs + 1) ∨ (0 < dist t'.pc ∧ dist t'.pc < dist t.pc ∧ t'.runs = t.runs)) := by
  have hi := ginv_reach hr
  have hmem : t ∈ s.threads := List.mem_of_getElem? hti
  have hT := hi.threads t hmem
  refine ⟨?_, ?_, ?_, ?_⟩
  · intro hpc
    obtain ⟨s', t', hs, ht', hp, _⟩ := fEnd_enabled hti hpc (by rcases hk with h | h <;> simp [h])
    exact ⟨s', t', hs, ht', hp⟩
  · intro hpc
    have htm := hT.2.2.1 hk
    rw [hpc] at htm
    simp only at htm
    refine ⟨htm, ?_⟩
    intro due hdue
    have h0 : (0 : Int) ≤ max 0 (due - s.now) := by omega
    refine ⟨⟨{ s with now := s.now + max 0 (due - s.now) }, by simp [step, h0], by show due ≤ s.now + max 0 (due - s.now); omega⟩, ?_⟩
    intro hle
    simp [step, hti, hdue, hle]
  · intro hne hready
    have hsel : selectReady t := by
      intro hpc
      rcases hready hpc with hf | ⟨hp, htok⟩
      · rcases hk with hk | hk
        · exact Or.inr (Or.inl ⟨hk, hf⟩)
        · exact Or.inr (Or.inr ⟨hk, Or.inr hf⟩)
      · exact Or.inr (Or.inr ⟨hp, Or.inl htok⟩)
    obtain ⟨c, hc⟩ := step_enabled (v := view s) hT hd hne hsel
    exact ⟨c, work_some hti hc⟩
  · intro c off s' t' hs ht'
    obtain ⟨e, hts⟩ := work_inv hs hti ht'
    exact (step_decreases hts hctx hd).1.imp_right And.right

/-- a PeriodicOrTrigger registration (interval 5, jitter 1) under the old timer-channel semantics:
the timer fired, a trigger arrived too, the loop took the trigger arm and is at the drain `<-t.C` -/
example : ∃ s, Reach (gInit 0 true) s ∧ s.ctxDone = false ∧
    (s.threads[0]?.map fun t => (t.kind, t.pc, t.timer)) = some (.pot, .potDrain, .fired) :=
  isRun.exists_reach (.step _) .refl
    [.register .pot 5 1, .work 0 0 0, .work 0 0 0, .work 0 0 0, .work 0 0 0, .work 0 0 0, .work 0 0 1,
     .work 0 0 0, .advance 6, .fireTimer 0, .trig 0, .work 0 2 0, .work 0 0 0] (by decide +kernel)

end Juniper.Props.C17
