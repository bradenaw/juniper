import Juniper.Proofs.TreeHeapLinkReach
/-!
# C03 — the two B-tree models describe the same tree (refinement heap model → functional model)

`Model/BTree.lean` (labelled functional tree; C01, C02 and the `WF` half of C03 are proved about it) and
`Model/BTreeSlotsOps.lean` (heap of slot-level nodes with parent pointers, a transliteration of `Put` /
`Delete`; the slot-level "no retained garbage" half of C03 is proved about it) are linked here:

* `Rel h t` (`Proofs/TreeHeapLinkRel.lean`): same root identity, same allocation counter, same `size` /
  `gen`, and the functional tree is *in the store*: for every node `Node.mk id kvs kids` of `t` the object
  `id` exists, its three fixed arrays hold exactly `kvs` and the identities of `kids` in their live
  prefixes and nothing behind them (`NodeRep`), `n = kvs.length`, its parent pointer is the node above
  (`nil` for the root); node identities are pairwise distinct and allocated.
* `heap_put_refines`, `heap_delete_refines`: on related states with a well-formed tree the heap model
  does **not** answer `crash` (no nil dereference, no index out of range, no helper called outside its
  documented precondition) and the results are related again — leaf insert, split cascade, new root;
  leaf / inner removal, steal left / right, merge left / right, cascade, root collapse.
* `heap_refines_functional`: hence for every `Put` / `Delete` history from the empty tree;
  `heap_never_crashes`, `unlinked_unreachable` (tombstones of the heap model are not reachable from the
  root), `reachable_iff_node`, `no_retained_reachable` (the retention clause in the form the property
  text uses: every slot behind the live prefix of every array of every node reachable from the root is
  zero, after every history).

Only balance (`WF.bal`) is used of `WF`; the comparator may be arbitrary (both models run the same
comparisons), so the history theorems need no hypothesis on `cmp`.
-/
namespace Juniper.Props.C03Link
open Juniper Juniper.Model.BTree Juniper.Model.BTreeSlotsOps Juniper.Proofs.Tree Juniper.Proofs.TreeSlotsOps
open Juniper.Proofs.TreeHeapLink

variable {K V : Type}

/-- `newBtree` in both models. -/
theorem rel_new : Rel (Heap.empty : Heap K V) (Tree.empty : Tree K V) := rel_empty

example : Rel (Heap.empty : Heap Int Int) Tree.empty ∧ WF (fun a b : Int => a - b) (Tree.empty : Tree Int Int) :=
  ⟨rel_empty, wf_empty _⟩

/-- **`Put` refines.** On related states with a well-formed functional tree, `Heap.put` succeeds (the heap
model does not crash: every nil check, index and helper precondition on the way holds) and ends in a
state related to `put t k v`. -/
theorem heap_put_refines (cmp : K → K → Int) {h : Heap K V} {t : Tree K V} (hrel : Rel h t) (hw : WF cmp t)
    (k : K) (v : V) : ∃ h' t', put cmp t k v = some t' ∧ h.put cmp k v = some h' ∧ Rel h' t' :=
  put_sim cmp hrel hw.bal k v

/-- a related pair with a full root leaf exists: 15 `Put`s from the empty tree (the 16th will split it) -/
example : ∃ (h : Heap Int Int) (t : Tree Int Int), Rel h t ∧ WF (fun a b : Int => a - b) t ∧ t.size = 15 := by
  have hc := strictWeak_intSub
  let ms : List (Juniper.Proofs.Tree.Mut Int Int) := (List.range 15).map (fun (i : Nat) => .put (10 * ((i : Int) + 1)) (i : Int))
  obtain ⟨h, t, h1, h2, h3, _⟩ := refines_runMuts (fun a b : Int => a - b) ms Heap.empty Tree.empty rel_empty balTree_empty
  obtain ⟨t', h1', h2', _⟩ := inv_runMuts hc ms (Tree.empty : Tree Int Int) (inv_empty _)
  rw [h1] at h1'; cases h1'
  refine ⟨h, t, h3, h2'.wf, ?_⟩
  have hd : (Heap.runMuts (fun a b : Int => a - b) (Heap.empty : Heap Int Int) (ms.map toHeapMut)).map (·.size) = some 15 := by
    decide +kernel
  rw [h2] at hd
  rw [← h3.size]
  simpa using hd

/-- **`Delete` refines.** Same for `Heap.delete`: removal at a leaf or through the rightmost leaf of the left
subtree, steal from the right then the left sibling, merge into the left sibling or with the right one,
the cascade up the parent pointers and the collapse of an emptied root. -/
theorem heap_delete_refines (cmp : K → K → Int) {h : Heap K V} {t : Tree K V} (hrel : Rel h t) (hw : WF cmp t) (k : K) :
    ∃ h' t', delete cmp t k = some t' ∧ h.delete cmp k = some h' ∧ Rel h' t' :=
  delete_sim cmp hrel hw.bal k

example : ∃ (h' : Heap Int Int) (t' : Tree Int Int), delete (fun a b => a - b) (Tree.empty : Tree Int Int) 7 = some t' ∧
    (Heap.empty : Heap Int Int).delete (fun a b => a - b) 7 = some h' ∧ Rel h' t' :=
  heap_delete_refines _ rel_empty (wf_empty _) 7

/-- **The heap model refines the functional model on every history.** For every comparator and every
sequence of `Put`s and `Delete`s from the empty tree both models run to the end without a crash and the
final states are related; the functional tree is balanced (and well formed if the comparator is a strict
weak order, `wf_reachable` of `Props/C03.lean`). -/
theorem heap_refines_functional (cmp : K → K → Int) (ms : List (Juniper.Proofs.Tree.Mut K V)) :
    ∃ (h : Heap K V) (t : Tree K V), runMuts cmp Tree.empty ms = some t ∧
      Heap.runMuts cmp Heap.empty (ms.map toHeapMut) = some h ∧ Rel h t ∧ BalTree t :=
  refines_runMuts cmp ms Heap.empty Tree.empty rel_empty balTree_empty

/-- 16 `Put`s (leaf split, new root) and two `Delete`s (steal from the left sibling; merge with root collapse):
both models end with the one node `0` holding 14 entries; objects 1 and 2 are unlinked in the heap model -/
example : ∃ (h : Heap Int Int) (t : Tree Int Int),
    runMuts (fun a b : Int => a - b) Tree.empty
      ((List.range 16).map (fun (i : Nat) => Juniper.Proofs.Tree.Mut.put (10 * ((i : Int) + 1)) (i : Int)) ++
        [Juniper.Proofs.Tree.Mut.del 160, Juniper.Proofs.Tree.Mut.del 150]) = some t ∧ Rel h t ∧ t.size = 14 ∧ t.root.id = 0 ∧ t.nextId = 3 ∧
      h.get 1 = none ∧ h.get 2 = none := by
  obtain ⟨h, t, h1, h2, h3, _⟩ := heap_refines_functional (fun a b : Int => a - b)
    ((List.range 16).map (fun (i : Nat) => Juniper.Proofs.Tree.Mut.put (10 * ((i : Int) + 1)) (i : Int)) ++
      [Juniper.Proofs.Tree.Mut.del 160, Juniper.Proofs.Tree.Mut.del 150])
  have hd : (Heap.runMuts (fun a b : Int => a - b) (Heap.empty : Heap Int Int)
      (((List.range 16).map (fun (i : Nat) => Juniper.Proofs.Tree.Mut.put (10 * ((i : Int) + 1)) (i : Int)) ++
        [Juniper.Proofs.Tree.Mut.del 160, Juniper.Proofs.Tree.Mut.del 150]).map toHeapMut)).map
        (fun h => (h.size, h.root, h.nodes.length, (h.get 1).isSome, (h.get 2).isSome)) = some (14, 0, 3, false, false) := by
    decide +kernel
  rw [h2] at hd
  simp only [Option.map_some, Option.some.injEq, Prod.mk.injEq] at hd
  obtain ⟨e1, e2, e3, e4, e5⟩ := hd
  refine ⟨h, t, h1, h3, by rw [← h3.size]; exact e1, by rw [← h3.root]; exact e2, by rw [h3.next]; exact e3, ?_, ?_⟩
  · cases hg : h.get 1 with
    | none => rfl
    | some x => rw [hg] at e4; cases e4
  · cases hg : h.get 2 with
    | none => rfl
    | some x => rw [hg] at e5; cases e5

/-- **(i) The heap model never crashes.** Every `Put` / `Delete` history from the empty tree runs to its end on
the heap model: no nil dereference, no index out of range, no rotation into a full node, no merge that
does not fit, no access to an unlinked object. -/
theorem heap_never_crashes (cmp : K → K → Int) (ms : List (Heap.Mut K V)) :
    (Heap.runMuts cmp (Heap.empty : Heap K V) ms).isSome = true := by
  obtain ⟨ms', rfl⟩ := toHeapMut_surj ms
  obtain ⟨h, t, _, h2, _⟩ := heap_refines_functional cmp ms'
  rw [h2]; rfl

example : (Heap.runMuts (fun a b : Int => b - a) (Heap.empty : Heap Int Int) [.put 1 1, .del 2, .put 1 2, .del 1]).isSome = true :=
  heap_never_crashes _ _

/-- **(ii) Unlinked objects are unreachable.** After every history, an object the heap model has unlinked (the
right node of a `mergeTwo`, a collapsed root: `get` answers `none`) cannot be reached from the root through
any non-nil child slot. -/
theorem unlinked_unreachable (cmp : K → K → Int) (ms : List (Heap.Mut K V)) {h : Heap K V}
    (hrun : Heap.runMuts cmp Heap.empty ms = some h) {j : Nat} (hn : h.get j = none) : ¬ Reach h j := by
  obtain ⟨ms', rfl⟩ := toHeapMut_surj ms
  obtain ⟨h', t, _, h2, h3, _⟩ := heap_refines_functional cmp ms'
  rw [hrun] at h2; cases h2
  exact unreachable_of_none h3 hn

/-- the root is reachable, so the statement is about something -/
example (h : Heap Int Int) : Reach h h.root := Reach.root

/-- **Reachable = node of the functional tree.** After every history the objects reachable from the heap's
root are exactly the node identities of the functional tree, and each of them represents its node: `n`
entries, the entries and child identities in the live prefixes. -/
theorem reachable_iff_node (cmp : K → K → Int) (ms : List (Juniper.Proofs.Tree.Mut K V)) :
    ∃ (h : Heap K V) (t : Tree K V), runMuts cmp Tree.empty ms = some t ∧
      Heap.runMuts cmp Heap.empty (ms.map toHeapMut) = some h ∧ ∀ j, Reach h j ↔ j ∈ ids t.root := by
  obtain ⟨h, t, h1, h2, h3, _⟩ := heap_refines_functional cmp ms
  exact ⟨h, t, h1, h2, fun j => (reach_iff h3 j).trans mem_ids_iff_cnt.symm⟩

example : ∃ (h : Heap Int Int) (t : Tree Int Int), runMuts (fun a b => a - b) Tree.empty [.put 3 30] = some t ∧
    Heap.runMuts (fun a b => a - b) Heap.empty ([Juniper.Proofs.Tree.Mut.put 3 30].map toHeapMut) = some h ∧
    ∀ j, Reach h j ↔ j ∈ ids t.root := reachable_iff_node _ _

/-- **(iii) No retained garbage in the live structure.** "Keys and values that were deleted or moved elsewhere
are no longer referenced from the live structure": after every history, in every node object reachable from
the root every key and value slot from `n` on is zero, and the node is a leaf with all child slots zero or
its child slots from `n + 1` on are zero (`TailOK`); moreover the object represents its node (`NodeRep`). -/
theorem no_retained_reachable (cmp : K → K → Int) (ms : List (Heap.Mut K V)) {h : Heap K V}
    (hrun : Heap.runMuts cmp Heap.empty ms = some h) {j : Nat} (hr : Reach h j) :
    ∃ x kvs kids, h.get j = some x ∧ NodeRep x kvs kids ∧ TailOK x := by
  obtain ⟨ms', rfl⟩ := toHeapMut_surj ms
  obtain ⟨h', t, _, h2, h3, _⟩ := heap_refines_functional cmp ms'
  rw [hrun] at h2; cases h2
  exact reachable_rep h3 hr

example : ∃ (h : Heap Int Int), Heap.runMuts (fun a b => a - b) Heap.empty [.put 3 30, .del 3] = some h ∧ Reach h h.root := by
  have := heap_never_crashes (fun a b : Int => a - b) ([.put 3 30, .del 3] : List (Heap.Mut Int Int))
  obtain ⟨h, hh⟩ := Option.isSome_iff_exists.mp this
  exact ⟨h, hh, Reach.root⟩

end Juniper.Props.C03Link
