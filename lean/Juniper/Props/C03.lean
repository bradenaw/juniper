import Juniper.Proofs.TreeHistory
import Juniper.Proofs.TreeSlots
import Juniper.Proofs.TreeCost
/-!
# C03 — the tree stays balanced and half-full: O(log n) work, no retained garbage (property theorems)
-/
namespace Juniper.Props.C03
open Juniper.Gen.Tree Juniper.Gen.TreeAccess Juniper.Model.BTree Juniper.Proofs.Tree

variable {K V : Type}

/-- The occupancy arithmetic of `btree.go:8-35` for the constants as they are in the source now:
two minimal nodes plus a separator fit into one node, a node is never required to be empty, and an
overfull node splits into two halves that both respect the minimum. -/
theorem occupancy_constants :
    2 * minKVs ≤ maxKVs ∧ 1 ≤ minKVs ∧ maxKVs + 1 = branchFactor ∧ keysLen = maxKVs ∧
    valuesLen = maxKVs ∧ childrenLen = branchFactor ∧
    minKVs ≤ leftN ∧ minKVs ≤ rightN ∧ leftN + 1 + rightN = amalgamLen ∧ amalgamLen = maxKVs + 1 ∧
    medianIdx = leftN ∧ rightFirstIdx 0 = medianIdx + 1 ∧ rightFirstChildIdx 0 = medianIdx + 1 := by decide

/-- every statement that clears a vacated slot is present in the source (`removeOne`,
`removeRightmost`, `rotateRight`, `overfill`), and `mergeTwo` marks the unlinked node. -/
theorem zeroing_statements_present :
    removeOneZeroesLast = true ∧ removeRightmostZeroesKey = true ∧ removeRightmostZeroesValue = true ∧
    rotateRightZeroesKey = true ∧ rotateRightZeroesValue = true ∧ rotateRightZeroesChild = true ∧
    overfillClearsKeys = true ∧ overfillClearsValues = true ∧ overfillClearsChildren = true ∧
    mergeZeroesRight = true := by decide

/-- **In one node**: the comparator calls of one `searchNode` call are the regenerated per-iteration count
(`searchLoopCompares`, tied to 1 by `cost_skeleton`) times the loop iterations entered, and the iterations are
determined by the functional `searchNode` the well-formedness proofs are about: it returns from inside iteration
`idx` or falls out after all `n` of them — so at most one comparison per stored key. -/
theorem searchCost_le (cmp : K → K → Int) (k : K) (kvs : List (K × V)) :
    searchCost cmp k kvs = min ((searchNode cmp k kvs).1 + 1) kvs.length ∧ searchCost cmp k kvs ≤ kvs.length := by
  refine ⟨?_, Juniper.Proofs.Tree.searchCost_le cmp k kvs⟩
  simp [searchCost, searchIters, cost_skeleton.1.2.2]

/-- The empty tree is well formed. -/
theorem wf_new (cmp : K → K → Int) : WF cmp (Tree.empty : Tree K V) := wf_empty cmp

/-- `Put` preserves well-formedness: the tree stays balanced (all leaves at one depth), every node
except the root keeps `minKVs ≤ n ≤ maxKVs`, the root keeps `1 ≤ n` unless it is a leaf, every inner
node has `n+1` children, the in-order key sequence stays strictly sorted (each key on exactly one
search path) and `size` stays the number of stored keys. `Put` never dereferences a nil child. -/
theorem wf_put (cmp : K → K → Int) (hc : StrictWeak cmp) (t : Tree K V) (k : K) (v : V) (hw : WF cmp t) :
    ∃ t', put cmp t k v = some t' ∧ WF cmp t' := by
  obtain ⟨t', h1, h2, _⟩ := put_refines_wf hc t k v hw
  exact ⟨t', h1, h2⟩

/-- non-vacuity of `wf_put`: a well-formed tree exists (the empty one) and the natural order on `Int`
is a strict weak order. -/
example : ∃ t : Tree Int Int, WF (fun a b => a - b) t ∧ StrictWeak (fun a b : Int => a - b) :=
  ⟨Tree.empty, wf_empty _, strictWeak_intSub⟩

/-- `Delete` preserves well-formedness (and never dereferences a nil pointer): steal from the right
sibling, else from the left, else merge into the left sibling if it has `n ≤ minKVs`, else with the
right one, cascading upwards, and an emptied root is replaced by its only child.
The hypothesis on node identities says that the tree's node objects are pairwise distinct (the Go
code compares node pointers with `t.root`). -/
theorem wf_delete (cmp : K → K → Int) (hc : StrictWeak cmp) (t : Tree K V) (k : K) (hw : WF cmp t)
    (hid : (ids t.root).Nodup) : ∃ t', delete cmp t k = some t' ∧ WF cmp t' := by
  obtain ⟨t', h1, h2, _⟩ := delete_refines_wf hc t k hw hid
  exact ⟨t', h1, h2⟩

/-- A well-formed tree of height `h` (leaves at depth `h`) stores at least `2·(minKVs+1)^h − 1`
keys (for `h = 0` this is trivial). -/
theorem min_keys_of_height (cmp : K → K → Int) (t : Tree K V) (hw : WF cmp t) (hpos : 0 < height t.root) :
    2 * (minKVs.toNat + 1) ^ height t.root ≤ t.size.toNat + 1 := by
  obtain ⟨hbal, -, hroot⟩ := hw.bal.at_height
  have := length_toList_ge t.root _ hbal 1 (by have := hroot hpos; omega)
  rw [hw.size]; simpa using this

/-- The depth bound of the property for the shipped fan-out: a tree holding `n` keys has at most
`1 + ⌊log₈((n+1)/2)⌋` levels (`levels = height + 1`), stated with the integer logarithm
(`⌊log₈ x⌋ = ⌊log₂ x⌋ / 3`); for two or more levels this is `2·8^(levels−1) ≤ n+1`.
Convention at the edge: for `n = 0` (and `n ≤ 14`: one level) `(n+1)/2` may be `0` and the bound is read
with the totalised `Nat.log2 0 = 0`, i.e. "at most 1 level" — the empty tree is its empty root. -/
theorem depth_bound (cmp : K → K → Int) (t : Tree K V) (hw : WF cmp t) :
    (0 < height t.root → 2 * 8 ^ height t.root ≤ t.size.toNat + 1) ∧
    height t.root + 1 ≤ 1 + Nat.log2 ((t.size.toNat + 1) / 2) / 3 := by
  have h8 : minKVs.toNat + 1 = 8 := by decide
  by_cases hpos : 0 < height t.root
  · have h1 := min_keys_of_height cmp t hw hpos
    rw [h8] at h1
    refine ⟨fun _ => h1, ?_⟩
    have h2 : 8 ^ height t.root ≤ (t.size.toNat + 1) / 2 := by omega
    have h3 : (2 : Nat) ^ (3 * height t.root) ≤ (t.size.toNat + 1) / 2 := by
      rw [Nat.pow_mul]; exact h2
    have hne : (t.size.toNat + 1) / 2 ≠ 0 := by
      have : 0 < 8 ^ height t.root := Nat.pow_pos (by omega)
      omega
    have := (Nat.le_log2 hne).mpr h3
    omega
  · exact ⟨fun h => absurd h hpos, by omega⟩

/-- non-vacuity of `min_keys_of_height` / `depth_bound` with `0 < height`: 16 ascending `Put`s split the
root; the resulting two-level tree is well formed and tight for the bound (`2·8¹ = 16 ≤ 16 + 1`). -/
example : ∃ t' : Tree Int Int,
    runMuts (fun a b => a - b) Tree.empty ((List.range 16).map fun (i : Nat) => Mut.put (i : Int) (0 : Int)) = some t' ∧
      WF (fun a b => a - b) t' ∧ 0 < height t'.root ∧ t'.size = 16 ∧
      height t'.root + 1 ≤ 1 + Nat.log2 ((t'.size.toNat + 1) / 2) / 3 := by
  have hc := strictWeak_intSub
  obtain ⟨t', h1, h2, h3⟩ := inv_runMuts hc ((List.range 16).map fun (i : Nat) => Mut.put (i : Int) (0 : Int))
    (Tree.empty : Tree Int Int) (inv_empty _)
  have hlen : (toList t'.root).length = 16 := by
    rw [h3]; simp only [Tree.empty, toList_leaf]; decide
  exact ⟨t', h1, h2.wf, height_pos_of_large h2.wf (by rw [hlen]; decide), by rw [h2.wf.size, hlen]; rfl,
    (depth_bound _ t' h2.wf).2⟩

/-- **"At most 15 key comparisons in each level"**, for `Get` and for `Contains`: the lookup visits at most one
node per level (`levelCosts … .length ≤ height + 1`), makes at most `maxKVs` = 15 comparator calls in each visited
node, hence at most `15 · levels` in total. How many comparator calls one loop iteration of `searchNode` makes and how
many `searchNode` calls one level of `Get` / `Contains` makes are regenerated from `btree.go`
(`Gen.TreeAccess.searchLoopCompares`, `getLoopSearches`, `containsLoopSearches`); that nothing else in the three
functions compares is `cost_skeleton`, used in the proof. -/
theorem search_cost (cmp : K → K → Int) (t : Tree K V) (k : K) (hw : WF cmp t) :
    ((levelCosts getLoopSearches cmp k t.root).length ≤ height t.root + 1 ∧
      (∀ c ∈ levelCosts getLoopSearches cmp k t.root, (c : Int) ≤ maxKVs) ∧
      (getCost cmp k t.root : Int) ≤ maxKVs * (height t.root + 1)) ∧
    ((levelCosts containsLoopSearches cmp k t.root).length ≤ height t.root + 1 ∧
      (∀ c ∈ levelCosts containsLoopSearches cmp k t.root, (c : Int) ≤ maxKVs) ∧
      (containsCost cmp k t.root : Int) ≤ maxKVs * (height t.root + 1)) ∧ maxKVs = 15 := by
  obtain ⟨hbal, hmax, -⟩ := hw.bal.at_height
  obtain ⟨_, ⟨_, _, hg, _⟩, ⟨_, _, hc, _⟩⟩ := cost_skeleton
  have eg : ((getLoopSearches : Nat) : Int) = 1 := by rw [hg]; rfl
  have ec : ((containsLoopSearches : Nat) : Int) = 1 := by rw [hc]; rfl
  refine ⟨⟨levelCosts_length_le _ cmp k t.root _ hbal, fun c hc' => ?_, ?_⟩,
    ⟨levelCosts_length_le _ cmp k t.root _ hbal, fun c hc' => ?_, ?_⟩, by decide⟩
  · have := levelCosts_le _ cmp k t.root _ hbal hmax c hc'; rw [eg, Int.one_mul] at this; exact this
  · have := levelCosts_sum_le getLoopSearches cmp k t.root _ hbal hmax; rw [eg, Int.one_mul] at this; exact this
  · have := levelCosts_le _ cmp k t.root _ hbal hmax c hc'; rw [ec, Int.one_mul] at this; exact this
  · have := levelCosts_sum_le containsLoopSearches cmp k t.root _ hbal hmax; rw [ec, Int.one_mul] at this; exact this

/-- non-vacuity of `search_cost`, and tightness of the per-level bound: in a full leaf (15 keys) a lookup of a key
beyond the last one makes exactly 15 comparisons, in one level. -/
example : let x : Node Int Int := .mk 0 ((List.range 15).map fun (i : Nat) => ((i : Int), (0 : Int))) []
    levelCosts containsLoopSearches (fun a b => a - b) 99 x = [15] ∧ getCost (fun a b => a - b) 99 x = 15 ∧
    getCost (fun a b => a - b) 0 x = 1 ∧ getCost (fun a b => a - b) 7 x = 8 := by
  simp only [getCost, levelCosts]
  decide

/-- Every key is reachable on exactly one root-to-leaf search path: the in-order key sequence is
strictly ascending (so no key occurs twice), and the search path of any stored key ends at its entry. -/
theorem unique_path (cmp : K → K → Int) (hc : StrictWeak cmp) (t : Tree K V) (hw : WF cmp t) :
    (toList t.root).Pairwise (fun a b => cmp a.1 b.1 < 0) ∧
    ∀ e ∈ toList t.root, lookup cmp e.1 t.root = some e := by
  refine ⟨hw.sorted, fun e he => ?_⟩
  rw [hw.lookup hc e.1]
  exact sget_of_mem hc hw.sorted he (hc.refl e.1)

/-- Every tree reachable from `newBtree` by any sequence of `Put`s and `Delete`s — however
adversarial — is well formed (balanced, half-full, sorted, `size` = number of keys), no operation on
the way dereferences a nil pointer, and its node identities stay pairwise distinct. -/
theorem wf_reachable (cmp : K → K → Int) (hc : StrictWeak cmp) (ms : List (Mut K V)) :
    ∃ t', runMuts cmp (Tree.empty : Tree K V) ms = some t' ∧ WF cmp t' ∧ IdsOK t' ∧
      len t' = (toList t'.root).length := by
  obtain ⟨t', h1, h2, _⟩ := inv_runMuts hc ms Tree.empty (inv_empty cmp)
  exact ⟨t', h1, h2.wf, h2.ids, h2.wf.size⟩

/-- non-vacuity of `wf_reachable`/`wf_delete`: a concrete history with inserts and a delete. -/
example : ∃ t' : Tree Int Int,
    runMuts (fun a b => a - b) Tree.empty [.put 3 30, .put 1 10, .put 2 20, .del 3] = some t' ∧
      toList t'.root = [(1, 10), (2, 20)] := by
  have hc := strictWeak_intSub
  obtain ⟨t', h1, _, h3⟩ := inv_runMuts hc [Mut.put 3 30, .put 1 10, .put 2 20, .del 3] (Tree.empty : Tree Int Int) (inv_empty _)
  refine ⟨t', h1, ?_⟩
  rw [h3]
  simp [specMut, sput, serase, Tree.empty, toList_leaf]

/-- "Keys and values that were deleted or moved elsewhere are no longer referenced from the live structure", slot
level (**partial**). Full statement: *for every history, in every node of the reachable tree each of the three fixed
arrays is `Clean`: its live prefix followed only by zero slots* (`no_retained_slots`). Proved here: every array
primitive and every node-level array surgery of `btree.go` — written as in the source, with each zeroing statement
guarded by its regenerated presence fact — maps a clean array to a clean array whose live prefix is the list-level
result the tree model uses (leaf insert, remove, `removeRightmost`, both sides of both rotations, both sides of
`mergeTwo`, the left/right halves of `overfill` incl. the aliasing write loop, the parent insert; all in
`Proofs/TreeSlots.lean`), and in a clean array no slot at index `≥ n` references anything (`tail_cleared`).
The composition of these per-array lemmas over whole trees and all `Put`/`Delete` histories is NOT in this file: it is
`no_retained_slots_tree` (`Props/C03Slots.lean`, slot-level heap model, every zeroing statement guarded by its fact) together
with `heap_never_crashes`, `no_retained_reachable`, `unlinked_unreachable` (`Props/C03Link.lean`: the heap model refines the
functional model, never crashes, and cleanliness holds for exactly the nodes reachable from the root). This theorem is kept
as the array-level statement about the older single-array model `Model/BTreeSlots.lean`. -/
theorem no_retained_slots_partial {α : Type} {cap : Nat} {live : List α} {arr : List (Option α)} (hc : Clean cap live arr) :
    (∀ i, live.length ≤ i → i < cap → arr[i]? = some none) ∧
    (∀ idx, idx < live.length →
      Clean cap (live.take idx ++ live.drop (idx + 1)) (Juniper.Model.BTreeSlots.remove arr live.length idx)) ∧
    (∀ (x : α) idx, idx ≤ live.length → live.length < cap →
      Clean cap (live.take idx ++ x :: live.drop idx) (Juniper.Model.BTreeSlots.leafInsert arr live.length idx (some x))) ∧
    (0 < live.length → Clean cap live.dropLast (Juniper.Model.BTreeSlots.removeRightmostKeys arr live.length)) ∧
    (0 < live.length → Clean cap live.dropLast (Juniper.Model.BTreeSlots.rotateRightDonorKeys arr live.length)) ∧
    (0 < cap → Clean cap (live.drop 1) (Juniper.Model.BTreeSlots.rotateLeftDonor arr)) :=
  ⟨tail_cleared hc, fun _ h => slots_refine_remove hc h, fun x _ h1 h2 => slots_refine_leafInsert x hc h1 h2,
   fun h => slots_refine_removeRightmost hc h, fun h => slots_refine_rotateRight_donor hc h,
   fun h => slots_refine_rotateLeft_donor hc h⟩

/-- non-vacuity: a clean array with two live slots out of four. -/
example : Clean 4 [(1 : Nat), 2] [some 1, some 2, none, none] := ⟨by decide, by decide⟩

end Juniper.Props.C03
