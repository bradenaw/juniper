import Juniper.Model.XTime
import Juniper.Proofs.XTimeSleep
import Juniper.Proofs.XTimeTicker
/-!
# C20 — xtime: SleepContext honours d and the deadline; JitterTicker keeps its spacing; no tick
after Stop (property theorems)

Models: `Juniper/Model/XTime.lean` (defined in terms of `Juniper.Gen.XTime`, regenerated from
`xtime/xtime.go` on every run). Helper lemmas: `Juniper/Proofs/XTimeSleep.lean`,
`Juniper/Proofs/XTimeTicker.lean`. Only the property theorems and their non-vacuity examples are here.

All theorems are *partial by nature* in one respect that no model of the code can remove: that the
Go runtime never fires a timer (or a context deadline) early and that `time.Now` is monotone is part
of the LTS (`fire`/`arm` are enabled only when `due ≤ now`, `advance` only moves forward), i.e. trusted;
so is the mutual exclusion `sync.Mutex` gives the critical sections of `JitterTicker` (each is one
label; the statement skeletons that justify this are regenerated and consumed, see
`no_tick_after_stop`). `SleepContext`'s durations are compared, never added: its arithmetic cannot
overflow. The arithmetic of `JitterTicker.schedule` is modelled over int64 / uint64 (see below).
-/
namespace Juniper.Props.C20
open Juniper.Facts Juniper.Gen.XTime Juniper.Model.XTime
open Juniper.Proofs.XTimeSleep Juniper.Proofs.XTimeTicker

/-- *returns nil only after at least d has elapsed (at once when d ≤ 0)*: in every state reachable
from the call — for every schedule of clock advances, cancellation, deadline expiry and `select`
choices — a nil result at instant `t` means either `d ≤ 0` and `t` is the instant of the call, or at
least `d` has elapsed since the call. -/
theorem sleep_nil_only_after_d {s0 s : SState} (h0 : s0.phase = .idle) (hr : SReach s0 s) {t : Int}
    (hret : s.phase = .returned .nil t) :
    (s.d ≤ 0 ∧ t = s.start) ∨ (0 < s.d ∧ s.start + s.d ≤ t) := by
  have hi := sinv_reach h0 hr
  rw [SInv, hret] at hi
  exact hi

example : ∃ s, SReach (sInit 0 5 none false) s ∧ s.phase = .returned .nil 7 :=
  ⟨_, (LTS.runOf_isRun sstep).reach (ls := [.enter, .advance 7, .arm 1]) (.step _) .refl rfl, by decide +kernel⟩

/-- *at once when d ≤ 0*: the call returns nil at the very instant it is made, whatever the context. -/
theorem sleep_immediate_when_nonpositive (s : SState) (hd : s.d ≤ 0) (hp : s.phase = .idle) :
    sstep s .enter = some { s with start := s.now, phase := .returned .nil s.now } :=
  sstep_iff.2 (.enterNil hp hd)

example : (sInit 7 0 (some 3) true).d ≤ 0 ∧ (sInit 7 0 (some 3) true).phase = .idle := by decide +kernel

/-- *returns DeadlineTooSoonError immediately exactly when the context's deadline is closer than d*
(`d > 0`): the entry step ends the call with `DeadlineTooSoonError` at the instant of the call iff a
deadline exists and less than `d` is left until it; otherwise the call starts waiting with the timer
due exactly `d` later. -/
theorem sleep_deadline_too_soon_iff (s : SState) (hd : 0 < s.d) (hp : s.phase = .idle) :
    (sstep s .enter = some { s with start := s.now, phase := .returned .tooSoon s.now }
      ↔ ∃ dl, s.deadline = some dl ∧ dl - s.now < s.d) ∧
    ((¬ ∃ dl, s.deadline = some dl ∧ dl - s.now < s.d) →
      sstep s .enter = some { s with start := s.now, phase := .waiting (s.now + s.d) }) := by
  refine ⟨⟨fun h => ?_, fun ⟨_, hdl, hc⟩ => sstep_iff.2 (.enterTooSoon hp hd hdl hc)⟩,
    fun hn => sstep_iff.2 (.enterWait hp hd fun dl hdl hc => hn ⟨dl, hdl, hc⟩)⟩
  cases sstep_iff.1 h with
  | enterTooSoon _ _ hdl hc => exact ⟨_, hdl, hc⟩

/-- … and `DeadlineTooSoonError` is never returned later or for any other reason: in every reachable
state a `DeadlineTooSoonError` result carries the instant of the call and a deadline closer than `d`. -/
theorem sleep_too_soon_only_immediately {s0 s : SState} (h0 : s0.phase = .idle) (hr : SReach s0 s)
    {t : Int} (hret : s.phase = .returned .tooSoon t) :
    0 < s.d ∧ t = s.start ∧ ∃ dl, s.deadline = some dl ∧ dl - s.start < s.d := by
  have hi := sinv_reach h0 hr
  rw [SInv, hret] at hi
  exact hi

example : (sInit 0 (3600 * 10 ^ 9) (some (20 * 10 ^ 6)) false).phase = .idle ∧
    ∃ dl, (sInit 0 (3600 * 10 ^ 9) (some (20 * 10 ^ 6)) false).deadline = some dl ∧ dl - 0 < 3600 * 10 ^ 9 :=
  ⟨rfl, _, rfl, by decide +kernel⟩

/-- the D5 scenario: a 1 ms sleep under a 1 h deadline is *not* too soon -/
example : ¬ ∃ dl, (sInit 0 (10 ^ 6) (some (3600 * 10 ^ 9)) false).deadline = some dl ∧ dl - 0 < 10 ^ 6 := by
  rintro ⟨dl, h, hlt⟩
  cases h
  revert hlt; decide +kernel

/-- *returns the context's error if the context ends first*: while the call waits and its timer is not
yet due, a context that has ended leaves exactly one kind of step to the call — returning the
context's error now — and that step is enabled. Conversely (reachable states) a context error is
returned only by a call that was waiting with an ended context. -/
theorem sleep_ctx_error_if_ctx_first (s : SState) (due : Int) (hp : s.phase = .waiting due)
    (hctx : s.ctxDone = true) (hfirst : s.now < due) :
    (∃ k, sstep s (.arm k) = some { s with phase := .returned .ctxErr s.now }) ∧
    (∀ k s', sstep s (.arm k) = some s' → s' = { s with phase := .returned .ctxErr s.now }) := by
  refine ⟨⟨0, sstep_iff.2 (.armCtx hp hctx)⟩, fun k s' h => ?_⟩
  cases sstep_iff.1 h with
  | armCtx => rfl
  | armTimer hp' hdue =>
    rw [hp] at hp'
    cases hp'
    omega

theorem sleep_ctx_error_only_if_ctx_ended {s0 s : SState} (h0 : s0.phase = .idle) (hr : SReach s0 s)
    {t : Int} (hret : s.phase = .returned .ctxErr t) : 0 < s.d ∧ s.ctxDone = true := by
  have hi := sinv_reach h0 hr
  rw [SInv, hret] at hi
  exact ⟨hi.1, hi.2.1⟩

example : ∃ s, SReach (sInit 0 5 none false) s ∧ s.phase = .waiting 5 ∧ s.ctxDone = true ∧ s.now < 5 :=
  ⟨_, (LTS.runOf_isRun sstep).reach (ls := [.enter, .advance 2, .cancel]) (.step _) .refl rfl, by decide +kernel, by decide +kernel,
    by decide +kernel⟩

/-! ## JitterTicker

`d` and `jitter` range over **all** Go `time.Duration` values of the documented domain,
`0 ≤ jitter < d ≤ MaxInt64`: the arithmetic of `schedule` (the argument of `rand.Int63n`, the
condition of the rejection loop over `rand.Uint64`, `d - jitter`, the saturation test, `next`) is
regenerated from the source with Go's wrap-around int64 / uint64 semantics
(`Juniper.Facts.wrap64`, `wrapU64`), and `drawOk_eq` / `schedNext_eq` prove that nothing wraps.
Instants (the clock, due times, timestamps) are mathematical integers; that the runtime fires a timer
armed with `next` no earlier than `now + next` (it saturates its own `when` when that sum exceeds the
runtime clock - such a timer never fires) is the trusted runtime statement. -/

/-- *created or Reset with any d > 0 and any jitter with 0 ≤ jitter < d does not panic*, for every
int64 `d ≤ MaxInt64`: creation succeeds for exactly the values `0 … 2·jitter` of the random source
(the precondition of `rand.Int63n` holds where it is called; above 2^62 the rejection loop over
`rand.Uint64` is used), and from then on — for every schedule of clock advances, timer firings,
callback runs, receives, `Reset`s and `Stop`s inside the protocol — no call with documented arguments
panics and the ticker never dies holding its mutex. -/
theorem ticker_no_panic {now d j : Int} (hd : 0 < d) (hj0 : 0 ≤ j) (hj : j < d) (hmax : d ≤ maxInt64) :
    (∀ r, (∃ s0, create now d j r = some s0) ↔ (0 ≤ r ∧ r ≤ 2 * j)) ∧
    ∀ r s0, create now d j r = some s0 →
      s0.lastPanic = false ∧ s0.panicked = false ∧
      ∀ s, TReachP s0 s → s.panicked = false ∧
        ∀ l s', Proto s l → (∀ d' j' r', l = .reset d' j' r' → 0 < d' ∧ j' < d') → tstep s l = some s' →
          s'.lastPanic = false ∧ s'.panicked = false := by
  constructor
  · intro r
    unfold create
    simp only [newPanics_false hd hj]
    constructor
    · rintro ⟨s0, h⟩
      obtain ⟨h1, h2, _⟩ := schedule_spec (s := _) hj0 hj hmax h
      exact ⟨h1, h2⟩
    · rintro ⟨h1, h2⟩
      exact schedule_enabled _ hj0 hj hmax h1 h2
  · intro r s0 hc
    have hi0 := tinv_create hd hj0 hj hmax hc
    refine ⟨?_, hi0.alive, ?_⟩
    · unfold create at hc
      simp only [newPanics_false hd hj] at hc
      obtain ⟨_, _, rfl⟩ := schedule_spec (s := _) hj0 hj hmax hc
      rfl
    · intro s hr
      have hi := tinv_reach hi0 hr
      refine ⟨hi.alive, ?_⟩
      intro l s' hp hl hs
      have hi' := tinv_step hi hp hs
      refine ⟨?_, hi'.alive⟩
      cases hlp : s'.lastPanic with
      | false => rfl
      | true =>
        rcases tstep_lastPanic hs hlp with hdead | ⟨d', j', r', rfl, hg⟩
        · rw [hi'.alive] at hdead; cases hdead
        · have := hl d' j' r' rfl
          omega

/-- jitter = 0 (the D6 configuration) and jitter = d - 1 are inside the theorem -/
example : (create 0 5 0 0).isSome = true ∧ (create 0 5 4 8).isSome = true ∧
    ((create 0 5 0 0).bind fun s => tstep s (.reset 1 0 0)).isSome = true := by decide +kernel

/-- the D21 configurations: `d = MaxInt64, jitter = MaxInt64 - 1` (2·jitter + 1 does not fit into an
int64: the old code panicked in `rand.Int63n`) with the largest draw, and `d = MaxInt64,
jitter = 2^61` with a draw for which `d - jitter + r` exceeds MaxInt64 (the old code armed the timer
with a negative duration): created without panic, the timer is due `MaxInt64` ns from now
(saturated); a `Reset` to such a pair does not panic either. -/
example : ((create 0 maxInt64 (maxInt64 - 1) (2 * (maxInt64 - 1))).map fun s => (s.panicked, s.timer)) =
      some (false, some ⟨maxInt64, 1⟩) ∧
    ((create 0 maxInt64 2305843009213693952 4611686018427387904).map fun s => (s.panicked, s.timer)) =
      some (false, some ⟨maxInt64, 1⟩) ∧
    (((create 0 5 0 0).bind fun s => tstep s (.reset maxInt64 (maxInt64 - 1) 7)).map fun s => (s.lastPanic, s.timer)) =
      some (false, some ⟨maxInt64 - (maxInt64 - 1) + 7, 2⟩) := by decide +kernel

/-- *consecutive ticks are never less than d minus jitter apart*, for every int64 `d ≤ MaxInt64`: in
every state reachable inside the protocol, any two consecutive entries of the log of ticks put into
the channel (`sent`, newest first; each entry = the `time.Now()` carried by the tick and the
`d - jitter` in force when it was sent) are at least that `d - jitter` apart. -/
theorem ticker_spacing_ge {now d j r : Int} {s0 s : TState} (hd : 0 < d) (hj0 : 0 ≤ j) (hj : j < d)
    (hmax : d ≤ maxInt64) (hc : create now d j r = some s0) (hr : TReachP s0 s) (i : Nat)
    (h : i + 1 < s.sent.length) :
    (s.sent[i + 1]'h).1 + (s.sent[i]'(by omega)).2 ≤ (s.sent[i]'(by omega)).1 :=
  spaced_get s.sent (tinv_reach (tinv_create hd hj0 hj hmax hc) hr).spaced i h

/-- a reachable state with three ticks, one of them after a `Reset` to a tighter period -/
example : ∃ s0 s, create 0 5 2 3 = some s0 ∧ TReachP s0 s ∧ s.sent = [(13, 2), (10, 3), (6, 3)] := by
  refine ⟨_, _, rfl, reach_of_runP
    [.advance 6, .fire 0, .runCb 0 1, .recv, .advance 4, .fire 0, .runCb 0 0, .recv,
     .reset 3 1 0, .advance 3, .fire 0, .runCb 0 2] _ _ _ .refl rfl, ?_⟩
  decide +kernel

/-- *No tick is sent after Stop returns*: after a `Stop` on a running ticker (reachable inside the
protocol), no run of labels other than `Reset` — clock advances, the firing of a timer that raced
with the `Stop`, the callback goroutine it started, receives, even a second `Stop` — puts a tick
into the channel: the log of sent ticks stays what it was when `Stop` was called.

That the callback (lock; `t.gen == gen`; send; re-arm; unlock), `Stop` and `Reset` are single labels
is justified by the regenerated statement lists of the three critical sections having exactly that
shape (`cb_skeleton`, `stop_skeleton`, `reset_skeleton`, consumed by `tstep_sound`, through which `tinv_step` and
`stopped_step` read every step): with the test
hoisted out of the lock, the send moved behind `Unlock`, or `t.gen++` undone in `Stop`, this theorem
no longer compiles. What the mutex itself guarantees is trusted (Go runtime) and searched by the
real-threads phase of the harness. -/
theorem no_tick_after_stop {now d j r : Int} {s0 s s1 s2 : TState} (hd : 0 < d) (hj0 : 0 ≤ j) (hj : j < d)
    (hmax : d ≤ maxInt64) (hc : create now d j r = some s0) (hr : TReachP s0 s) (hrun : s.stopped = false)
    (hstop : tstep s .stop = some s1) (hafter : RunNoReset s1 s2) :
    s2.sent = s.sent := by
  have hi := tinv_reach (tinv_create hd hj0 hj hmax hc) hr
  obtain ⟨hs1, he1⟩ := stop_establishes hi hrun hstop
  exact (stopped_run hs1 hafter).2.trans he1

/-- `Stop` racing a timer that has already fired: the callback goroutine runs after `Stop` -/
example : ∃ s0 s s1 s2, create 0 5 2 3 = some s0 ∧ TReachP s0 s ∧ s.stopped = false ∧ s.pending = [1] ∧
    tstep s .stop = some s1 ∧ RunNoReset s1 s2 ∧ s2.pending = [] := by
  refine ⟨_, _, _, _, rfl, reach_of_runP [.advance 6, .fire 0] _ _ _ .refl rfl, by decide +kernel,
    by decide +kernel, rfl,
    .step (.runCb 0 0) (.step (.advance 9) (.refl _) rfl rfl) rfl rfl, by decide +kernel⟩

end Juniper.Props.C20
