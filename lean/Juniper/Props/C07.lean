import Juniper.Proofs.IterReduce
import Juniper.Proofs.StreamReduce
import Juniper.Proofs.IterRuns
import Juniper.Proofs.StreamRuns
import Juniper.Proofs.XSlices
import Juniper.Proofs.IterLast
import Juniper.Proofs.StreamLast
import Juniper.Proofs.Pipeline
import Juniper.Proofs.Minimal
import Juniper.Proofs.IterEqual
import Juniper.Proofs.Agree
import Juniper.Proofs.StreamFaults
import Juniper.Proofs.StreamPeek
import Juniper.Proofs.Sources
/-!
# C07 — iterator / stream / xslices combinators compute their documented sequence function;
lazy; sticky end (property theorems)

Vocabulary (`Juniper/Proofs/IterDen.lean`, `StreamDen.lean`):
* `Den m cost s L e` — iterator machine `m` in state `s` yields exactly the items of `L`, each
  annotated with the value of `cost` (source items pulled) at its delivery, then the end (at cost `e`)
  on **every** later call (sticky end is part of the meaning).
* `SDen soft m cost s L t` — the same for stream machines under every choice of per-call contexts,
  with soft failures allowed in between; `t` says how the stream terminates.
* `den_next` / `sden_next` turn a denotation into what the consumer's `Next` calls answer.

Every combinator theorem is for an **arbitrary inner machine**, so pipelines of any depth follow by
composing them (`pipeline_denotes_partial` does it once for six stage kinds).

Every name of the property text has a theorem about the machine that `driver comb` executes and that
`harness/cmd/c07` runs against the real function (the harness counts `api:<pkg>.<Name>` per call and
reports a function it never called; `Proofs/Skeleton.lean` `Tie.api` pins the list of exported functions):
constructors `Slice` (`slice_denotes`), `Counter`, `Repeat`, `Empty`, `Chan` (`chan_denotes`), stream
`Empty` / `Error` / `FromIterator` / `Chan` (`s_*_denotes`), their initial states
(`constructor_states`), the `Compact` wrappers (`compactW_denotes`, `s_compactW_denotes`), the combinators,
the reducers, and the xslices counterparts (`xslices_agree_*`, over the C19 models of those functions).
Theorems that cover only part of their clause carry the suffix `_partial` and say what is missing.
-/
namespace Juniper.Props.C07
open Juniper.Model Juniper.Spec Juniper.Gen.Comb
open Juniper.Proofs
universe u v w

section iterator
open Juniper.Model.Iter Juniper.Proofs.IterDen
variable {σ : Type u} {τ : Type w} {α β : Type v}

/-- **Meaning of a denotation at the consumer, incl. the sticky end**: `n` consecutive `Next()`
calls answer the items of `L` in order and then the end, again and again, for every `n`. -/
theorem den_next {m : IM σ α} {cost : σ → Nat} {s : σ} {L : List (α × Nat)} {e : Nat} (h : Den m cost s L e) :
    ∃ F, ∀ fuel, F ≤ fuel → ∀ n, nexts m fuel n s = ideal (L.map Prod.fst) n := by
  induction L generalizing s with
  | nil =>
    obtain ⟨s1, hd, he, _⟩ := drive_stable h
    refine (hd.and ⟨1, fun _ hf => hf⟩).mono fun fuel ⟨h1, h2⟩ n => ?_
    cases n with
    | zero => rfl
    | succ n => simp only [nexts, h1, ended_nexts he fuel h2]; rfl
  | cons p L ih =>
    obtain ⟨s1, hd, h1, _⟩ := drive_stable h
    refine (hd.and (ih h1)).mono fun fuel ⟨h1, h2⟩ n => ?_
    cases n with
    | zero => rfl
    | succ n => simp only [nexts, h1, h2]; rfl

/-- **Laziness, generic part**: when a `Next()` call returns an item, the number of source items
pulled so far is that item's annotation; when it returns the end, it is `e`. -/
theorem den_cost {m : IM σ α} {cost : σ → Nat} {s : σ} {L : List (α × Nat)} {e : Nat} (h : Den m cost s L e) :
    ∃ F, ∀ fuel, F ≤ fuel →
      match L with
      | [] => (drive m fuel s).1 = some none ∧ Ended m (drive m fuel s).2 ∧ cost (drive m fuel s).2 = e
      | p :: L' => (drive m fuel s).1 = some (some p.1) ∧ Den m cost (drive m fuel s).2 L' e ∧
          cost (drive m fuel s).2 = p.2 := by
  obtain ⟨s', hd, h'⟩ := drive_stable h
  refine hd.mono fun fuel hd => ?_
  match L, h' with
  | [], h' => rw [hd]; exact ⟨rfl, h'⟩
  | _ :: _, h' => rw [hd]; exact ⟨rfl, h'⟩

/-- `iterator.Slice(l)` yields `l`; its `i`-th item is delivered with `i` items pulled (and no item is
pulled before the first `Next`). -/
theorem slice_denotes (l : List α) : Den src (fun s : Src α => s.pulled) (Src.of l) (annot 0 l) l.length := by
  simpa [Src.of] using src_den l 0 0

example : Den src (fun s : Src Nat => s.pulled) (Src.of [7, 8]) [(7, 1), (8, 2)] 2 := slice_denotes [7, 8]

/-- `iterator.Counter(n)` — the machine and the first state built from the regenerated constructor
fields (`&counterIterator{i: 0, n: n}`), the yielded item the regenerated `iter.i` — yields
`0, 1, …, n-1` for every `n` (nothing for `n ≤ 0`). -/
theorem counter_denotes (n : Int) :
    Den (counterOf n) (fun _ => 0) (counterInit n) ((List.range n.toNat).map fun (j : Nat) => ((j : Int), 0)) 0 := by
  have h := counter_den n 0 n.toNat (by omega)
  simpa [counterOf, counterInit, itCounterInitN, itCounterInitI] using h

example : ((List.range (3 : Int).toNat).map fun (j : Nat) => ((j : Int), 0)) = [(0, 0), (1, 0), (2, 0)] := by decide +kernel

/-- `iterator.Repeat(a, n)` yields `a` `n` times (none for `n ≤ 0`). -/
theorem repeat_denotes (a : α) (n : Int) :
    Den (repeat_ a) (fun _ => 0) (repeatInit n) (List.replicate n.toNat (a, 0)) 0 := by
  simpa [repeatInit, itRepeatInitX] using repeat_den a n

/-- `iterator.Empty()` yields nothing. -/
theorem empty_denotes : Den (empty (α := α)) (fun _ => 0) () [] 0 :=
  have _tie := Skeleton.Tie.itEmpty
  den_of_fixed (m := empty (α := α)) (s := ()) (by simp [empty, itEmptyOk])

/-- `iterator.Chan(c)`: "yields the values received on c" — over a channel that holds `l` and is closed:
`l` in order, then the end for ever (`Next` is the regenerated `item, ok := <-iter.c; return item, ok`).
Sends and the close arriving *between* `Next` calls (any capacity, any interleaving) are the LTS of
`Props/C10Chan`. -/
theorem chan_denotes (l : List α) :
    Den (chan (α := α)) (fun _ => 0) ⟨l, true⟩ (l.map fun a => (a, 0)) 0 := by
  have _tie := Skeleton.Tie.itChan
  induction l with
  | nil => exact den_of_fixed Sources.ichan_step_nil
  | cons a l ih => exact .item (cost := fun _ => 0) (Sources.ichan_step_cons a l true) ih

example : ((chan (α := Nat)).step ⟨[], false⟩).1 = .skip ∧ ((chan (α := Nat)).step ⟨[7], false⟩).1 = .item 7 := by decide +kernel

/-- **initial states**: the states the `*_denotes` theorems start from are the ones the constructors
build (regenerated field initialisers of `Counter`, `Repeat`, `WithPeek`, `CompactFunc`, `First`, `While`,
`Chunk` in both packages). -/
theorem constructor_states (s : σ) (n : Int) :
    counterInit n = 0 ∧ counterOf n = counter n ∧ repeatInit n = n ∧ itPeekInitHas = false ∧
    (compactInit s : CompactSt σ α) = ⟨s, true, none⟩ ∧ firstInit s n = ⟨s, n, false⟩ ∧ whileInit s = ⟨s, false⟩ ∧
    itChunkInitSize n = n ∧ stPeekInitHas = false ∧ (Stream.compactInit s : Stream.CompactSt σ α) = ⟨s, true, none⟩ ∧
    Stream.firstInit s n = ⟨s, n⟩ ∧ stChunkInitSize n = n :=
  ⟨rfl, rfl, rfl, rfl, rfl, rfl, rfl, rfl, rfl, rfl, rfl, rfl⟩

/-- `iterator.WithPeek(it)` yields what `it` yields. -/
theorem withPeek_denotes {m : IM σ α} {cost : σ → Nat} {s : σ} {L : List (α × Nat)} {e : Nat}
    (h : Den m cost s L e) : Den (withPeek m) (fun st => cost st.inner) ⟨s, none⟩ L e := peek_den h

/-- `Peek()` never changes what the iterator yields and answers its first item (or the end):
"if Peek returns a value, the next call to Next will return the same value". -/
theorem peek_preserves {m : IM σ α} {cost : σ → Nat} {p : PeekSt σ α} {L : List (α × Nat)} {e : Nat}
    (h : Den (withPeek m) (fun st => cost st.inner) p L e) :
    Den (withPeek m) (fun st => cost st.inner) (peekPeek m p).2 L e ∧
      ((peekPeek m p).1 = .skip ∨ (peekPeek m p).1 = .done ∧ L = [] ∨
        ∃ a c L', L = (a, c) :: L' ∧ (peekPeek m p).1 = .item a) := by
  obtain ⟨hp, hc⟩ := peekPeek_eq m p
  rw [hp]
  cases h with
  | skip hs h' => rw [show peekNext m p = _ from hs]; exact ⟨h', .inl rfl⟩
  | done hs he hc' =>
    rw [show peekNext m p = _ from hs]
    exact ⟨den_of_ended (cost := fun st : PeekSt σ α => cost st.inner) he hc', .inr (.inl ⟨rfl, rfl⟩)⟩
  | @item _ p1 a L' _ hs h' =>
    rw [show peekNext m p = _ from hs] at hc ⊢
    obtain ⟨s1, c1⟩ := p1
    subst hc
    exact ⟨.item (by simp [withPeek, peekNext_buf]) h', .inr (.inr ⟨_, _, _, rfl, rfl⟩)⟩

/-- `iterator.Chunk(it, n)`, `n ≥ 1`: non-overlapping chunks of size `n`, a shorter last one; a chunk
is delivered as soon as its last item has been pulled. -/
theorem chunk_denotes (n : Nat) {m : IM σ α} {cost : σ → Nat} {s : σ} {L : List (α × Nat)} {e : Nat}
    (h : Den m cost s L e) :
    Den (chunk (n : Int) m) (fun st => cost st.inner) ⟨s, []⟩ (chunkGoA n [] L e) e ∧
      (chunkGoA n [] L e).map Prod.fst = Seq.chunk n (L.map Prod.fst) :=
  ⟨chunk_den n h [], chunkGoA_fst n [] L e⟩

example : Seq.chunk 2 [1, 2, 3, 4, 5] = [[1, 2], [3, 4], [5]] := by decide +kernel

/-- `iterator.CompactFunc(it, eq)`: adjacent duplicates elided (each item is compared with the last one kept). -/
theorem compact_denotes (eq : α → α → Bool) {m : IM σ α} {cost : σ → Nat} {s : σ} {L : List (α × Nat)} {e : Nat}
    (h : Den m cost s L e) :
    Den (compact eq m) (fun st => cost st.inner) ⟨s, true, none⟩ (Seq.compactGo (fun p q => eq p.1 q.1) none L) e :=
  compact_den eq h none

/-- `iterator.Compact(it)` (the wrapper: `CompactFunc(it, ==)`, regenerated body) elides adjacent duplicates. -/
theorem compactW_denotes [DecidableEq α] {m : IM σ α} {cost : σ → Nat} {s : σ} {L : List (α × Nat)} {e : Nat}
    (h : Den m cost s L e) :
    Den (compactEq m) (fun st => cost st.inner) (compactInit s)
      (Seq.compactGo (fun p q => decide (p.1 = q.1)) none L) e := by
  rw [Sources.icompactEq_eq]
  exact compact_den (fun a b => decide (a = b)) h none

example : (Seq.compactGo (fun p q : Nat × Nat => decide (p.1 = q.1)) none [(1, 1), (1, 2), (2, 3), (1, 4)]).map Prod.fst = [1, 2, 1] := by
  decide +kernel

/-- `iterator.Filter(it, keep)`. -/
theorem filter_denotes (keep : α → Bool) {m : IM σ α} {cost : σ → Nat} {s : σ} {L : List (α × Nat)} {e : Nat}
    (h : Den m cost s L e) : Den (filter keep m) cost s (L.filter fun p => keep p.1) e := filter_den keep h

/-- `iterator.First(it, n)`: the first `n` items; after them the end is reported **without a further pull**. -/
theorem first_denotes {m : IM σ α} {cost : σ → Nat} {s : σ} {L : List (α × Nat)} {e : Nat}
    (h : Den m cost s L e) (n : Int) :
    Den (first m) (fun st => cost st.inner) ⟨s, n, false⟩ (L.take n.toNat) (firstEnd (cost s) n.toNat L e) :=
  first_den h n

/-- `iterator.Flatten(it)`: the concatenation of the inner iterators (each `c` denoting `D c`), pulling
the outer iterator only when the current inner one has ended. -/
theorem flatten_denotes {mo : IM σ τ} {mi : IM τ α} {co : σ → Nat} (D : τ → List α) {so : σ}
    {Lo : List (τ × Nat)} {eo : Nat} (ho : Den mo co so Lo eo)
    (hD : ∀ p ∈ Lo, ∃ (ci : τ → Nat) (Li : List (α × Nat)) (ei : Nat), Den mi ci p.1 Li ei ∧ Li.map Prod.fst = D p.1) :
    Den (flatten mo mi) (fun st => co st.outer) ⟨so, none⟩
      (Lo.flatMap fun p => (D p.1).map fun a => (a, p.2)) eo := flatten_den D ho hD

/-- `iterator.Join(its...)`: the concatenation. -/
theorem join_denotes {m : IM σ α} (D : σ → List α) (ss : List σ)
    (hD : ∀ s ∈ ss, ∃ (ci : σ → Nat) (Li : List (α × Nat)) (ei : Nat), Den m ci s Li ei ∧ Li.map Prod.fst = D s) :
    Den (join m) (fun _ => 0) ss ((ss.flatMap D).map fun a => (a, 0)) 0 := join_den D ss hD

/-- `iterator.Map(it, f)`. -/
theorem map_denotes (f : α → β) {m : IM σ α} {cost : σ → Nat} {s : σ} {L : List (α × Nat)} {e : Nat}
    (h : Den m cost s L e) : Den (map f m) cost s (L.map fun p => (f p.1, p.2)) e := map_den f h

/-- `iterator.While(it, f)`: the longest prefix passing `f`; the end is reported with the first
failing item (which had to be pulled) and then stays. -/
theorem while_denotes (f : α → Bool) {m : IM σ α} {cost : σ → Nat} {s : σ} {L : List (α × Nat)} {e : Nat}
    (h : Den m cost s L e) :
    Den (while_ f m) (fun st => cost st.inner) ⟨s, false⟩ (L.takeWhile fun p => f p.1) (whileEnd f L e) :=
  while_den f h

/-- `iterator.Runs(it, same)` used as documented (outer `Next`; read the inner iterator to its end —
`take = none` — or take at most `take` items; advance): for a reflexive `same` it yields the maximal
runs of neighbours related by `same` — exactly `Seq.runs`, the function `xslices.Runs` computes —
each delivered as soon as the item after it has been pulled. No symmetry or transitivity is needed. -/
theorem runs_denotes (same : α → α → Bool) (hrefl : ∀ a, same a a = true) (take : Option Nat)
    {m : IM σ α} {cost : σ → Nat} {s : σ} {L : List (α × Nat)} {e : Nat} (h : Den m cost s L e) (gen : Nat) :
    Den (runsProto same take m) (rcost cost) ⟨⟨⟨s, none⟩, gen, none⟩, none⟩ (runsStartA same take L e) e ∧
      (runsStartA same none L e).map Prod.fst = Seq.runs same (L.map Prod.fst) :=
  ⟨(runs_den same hrefl take h).2.2 gen, runsStartA_all_fst same L e⟩

example : Seq.runs (fun a b : Nat => a ≤ b) [1, 3, 2, 2, 5, 0] = [[1, 3], [2, 2, 5], [0]] := by decide +kernel

/-! ### laziness in closed form (the `need_C` of each combinator, over a slice source) -/

/-- `Map`: the `k`-th answer costs `k` pulls. -/
theorem map_pulls (f : α → β) (l : List α) :
    Den (map f src) (fun s : Src α => s.pulled) (Src.of l) ((annot 0 l).map fun p => (f p.1, p.2)) l.length :=
  map_den f (slice_denotes l)

/-- `Filter`: the `k`-th answer costs the position of the `k`-th kept item. -/
theorem filter_pulls (keep : α → Bool) (l : List α) :
    Den (filter keep src) (fun s : Src α => s.pulled) (Src.of l) ((annot 0 l).filter fun p => keep p.1) l.length :=
  filter_den keep (slice_denotes l)

/-- `First n`: never more than `n` pulls, whatever the consumer does afterwards. -/
theorem first_pulls (n : Nat) (l : List α) :
    Den (first src) (fun st : FirstSt (Src α) => st.inner.pulled) ⟨Src.of l, n, false⟩ ((annot 0 l).take n)
      (firstEnd 0 n (annot 0 l) l.length) := by
  simpa [Src.of] using first_den (slice_denotes l) (n : Int)

example : firstEnd 0 2 (annot 0 [5, 6, 7]) 3 = 2 := by decide +kernel

/-- `Chunk n`: the `k`-th chunk costs `k·n` pulls (the last, shorter one: all of them). -/
theorem chunk_pulls (n : Nat) (l : List α) :
    Den (chunk (n : Int) src) (fun st : ChunkSt (Src α) α => st.inner.pulled) ⟨Src.of l, []⟩
      (chunkGoA n [] (annot 0 l) l.length) l.length := chunk_den n (slice_denotes l) []

example : chunkGoA 2 [] (annot 0 [1, 2, 3, 4, 5]) 5 = [([1, 2], 2), ([3, 4], 4), ([5], 5)] := by decide +kernel

/-- `While f`: stops pulling with the first item that fails `f`. -/
theorem while_pulls (f : α → Bool) (l : List α) :
    Den (while_ f src) (fun st : WhileSt (Src α) => st.inner.pulled) ⟨Src.of l, false⟩
      ((annot 0 l).takeWhile fun p => f p.1) (whileEnd f (annot 0 l) l.length) := while_den f (slice_denotes l)

example : whileEnd (fun n : Nat => n < 3) (annot 0 [1, 2, 5, 1]) 4 = 3 := by decide +kernel

/-- `CompactFunc`: an item is delivered the moment it is pulled. -/
theorem compact_pulls (eq : α → α → Bool) (l : List α) :
    Den (compact eq src) (fun st : CompactSt (Src α) α => st.inner.pulled) ⟨Src.of l, true, none⟩
      (Seq.compactGo (fun p q => eq p.1 q.1) none (annot 0 l)) l.length := compact_den eq (slice_denotes l) none

/-- `Flatten`: an item of the `j`-th inner iterator costs `j` pulls of the outer iterator — the outer
iterator is advanced only when the current inner one has ended. -/
theorem flatten_pulls {mi : IM τ α} (D : τ → List α) (cs : List τ)
    (hD : ∀ c ∈ cs, ∃ (ci : τ → Nat) (Li : List (α × Nat)) (ei : Nat), Den mi ci c Li ei ∧ Li.map Prod.fst = D c) :
    Den (flatten src mi) (fun st : FlattenSt (Src τ) τ => st.outer.pulled) ⟨Src.of cs, none⟩
      ((annot 0 cs).flatMap fun p => (D p.1).map fun a => (a, p.2)) cs.length :=
  flatten_den D (slice_denotes cs) (fun p hp => hD p.1 (mem_annot hp))

example : ((annot 0 [[1, 2], [], [3]]).flatMap fun p => (id p.1).map fun a => (a, p.2)) = [(1, 1), (2, 1), (3, 3)] := by
  decide +kernel

/-- `Join` over slices: the `k`-th answer costs `k` pulls in total (`joinCost` = items pulled from all
arguments together); exhausted arguments are stepped over without pulling an item. -/
theorem join_pulls (ls : List (List α)) :
    Den (join src) (joinCost ls.flatten.length) (ls.map Src.of) (annot 0 ls.flatten) ls.flatten.length := by
  simpa using join_src_den ls.flatten.length ls (Nat.le_refl _)

example : annot 0 [[1, 2], [], [3]].flatten = [(1, 1), (2, 2), (3, 3)] := by decide +kernel

/-- `Runs` (documented protocol, any `take`): a run is delivered once the first item of the next run
has been pulled — one item of lookahead, never more — the last run when the source has ended. -/
theorem runs_pulls (same : α → α → Bool) (hrefl : ∀ a, same a a = true) (take : Option Nat) (l : List α) :
    Den (runsProto same take src) (rcost fun s : Src α => s.pulled) ⟨⟨⟨Src.of l, none⟩, 0, none⟩, none⟩
      (runsStartA same take (annot 0 l) l.length) l.length :=
  (runs_den same hrefl take (slice_denotes l)).2.2 0

example : runsStartA (fun a b : Nat => a == b) none (annot 0 [1, 1, 2, 3, 3]) 5 =
    [([1, 1], 3), ([2], 4), ([3, 3], 5)] := by decide +kernel

/-- **`WithPeek` under any interleaving of `Peek` and `Next`** (slice source): every call answers the
item after those consumed by the earlier `Next` calls — so whatever `Peek` shows is what the next `Next`
returns, however many `Peek`s come in between — and the number of source items pulled is
`min len (#Next + [the last call was a Peek])`: the first `Peek` after a `Next` costs one pull, further
ones nothing, and a `Next` after a `Peek` nothing. -/
theorem peek_interleave (l : List α) (ops : List PeekOp) :
    (peekRun src ops ⟨Src.of l, none⟩).1 = peekAnswers l ops 0 ∧
    (peekRun src ops ⟨Src.of l, none⟩).2.inner.pulled =
      min l.length (peekNexts ops + if ops.getLast? = some .peek then 1 else 0) := by
  obtain ⟨c, h⟩ := peekRun_src l ops 0 0 false (Nat.zero_le _)
  rw [show (⟨Src.of l, none⟩ : PeekSt (Src α) α) = peekSt l 0 0 false by simp [peekSt, Src.of], h]
  exact ⟨rfl, peekTrack_pulled l.length ops⟩

example : peekAnswers [7, 8, 9] [.peek, .peek, .next, .next, .peek] 0 = [.item 7, .item 7, .item 7, .item 8, .item 9] ∧
    min 3 (peekNexts [.peek, .peek, .next, .next, .peek] + 1) = 3 := by decide +kernel

/-- **`need_minimal_map`**: the `k`-th answer of `Map` costs `k` pulls, and `k - 1` source items leave it
undetermined: had the source ended there, the `k`-th answer would be the end instead of an item. -/
theorem need_minimal_map (f : α → β) (l : List α) (k : Nat) (hk1 : 1 ≤ k) (hk : k ≤ l.length) :
    ideal ((l.take (k - 1)).map f) k ≠ ideal (l.map f) k :=
  ideal_ne_of_length _ _ k (by simp; omega) (by simp; exact hk)

/-- **`need_minimal_filter` / `_first` / `_while`**: the answer delivered at cost `c` *is* the `c`-th
source item, so fewer than `c` items cannot determine it (the annotated outputs of `Filter`, `First`,
`While` — and likewise `CompactFunc`, `WithPeek` — are sub-lists of the source's annotated items). -/
theorem need_minimal_filter (keep : α → Bool) (l : List α) (q : α × Nat)
    (hq : q ∈ (annot 0 l).filter fun r => keep r.1) : 0 < q.2 ∧ l[q.2 - 1]? = some q.1 := by
  have := annot_mem 0 l q (List.mem_filter.mp hq).1
  simpa using this

theorem need_minimal_first (n : Nat) (l : List α) (q : α × Nat) (hq : q ∈ (annot 0 l).take n) :
    0 < q.2 ∧ l[q.2 - 1]? = some q.1 := by
  have := annot_mem 0 l q (List.mem_of_mem_take hq)
  simpa using this

theorem need_minimal_while (f : α → Bool) (l : List α) (q : α × Nat)
    (hq : q ∈ (annot 0 l).takeWhile fun r => f r.1) : 0 < q.2 ∧ l[q.2 - 1]? = some q.1 := by
  have := annot_mem 0 l q ((List.takeWhile_sublist _).mem hq)
  simpa using this

example : (3, 3) ∈ (annot 0 [1, 2, 3, 4]).filter fun r => r.1 % 2 == 1 := by decide +kernel

/-- **`need_minimal_chunk`**: the `k`-th chunk is delivered at cost `c` (`chunk_pulls`), and `c - 1`
source items do not determine it (`Undetermined`: an input with the same first `c - 1` items has another
`k`-th chunk, or none). -/
theorem need_minimal_chunk (n : Nat) (l : List α) (k : Nat) (ch : List α) (c : Nat)
    (h : (chunkGoA n [] (annot 0 l) l.length)[k]? = some (ch, c)) :
    (Seq.chunk n l)[k]? = some ch ∧ 0 < c ∧ Undetermined (Seq.chunk n) l (c - 1) k ch := by
  refine ⟨?_, ?_⟩
  · have := chunkGoA_fst n [] (annot 0 l) l.length
    rw [annot_fst] at this
    rw [Seq.chunk, ← this, List.getElem?_map, h]
    rfl
  · have h' : (chunkGoA n [] (annot 0 l) (0 + l.length))[k]? = some (ch, c) := by rwa [Nat.zero_add]
    rcases chunk_minimal_go n l [] 0 k ch c h' with ⟨rfl, rfl, -, -⟩ | ⟨hc, hne⟩
    · simp [annot, chunkGoA] at h
    · exact ⟨hc, undetermined_of_take (by simpa [Seq.chunk] using hne)⟩

example : (chunkGoA 2 [] (annot 0 [1, 2, 3]) 3)[1]? = some ([3], 3) := by decide +kernel

/-- **`need_minimal_flatten`**: an item of the `j`-th inner iterator costs `j` outer pulls
(`flatten_pulls`); the first `j - 1` inner iterators do not contain it. -/
theorem need_minimal_flatten {τ : Type v} (D : τ → List α) (cs : List τ) (k : Nat) (b : α) (c : Nat)
    (h : ((annot 0 cs).flatMap fun q => (D q.1).map fun a => (a, q.2))[k]? = some (b, c)) :
    (cs.flatMap D)[k]? = some b ∧ 0 < c ∧ Undetermined (fun cs => cs.flatMap D) cs (c - 1) k b := by
  refine ⟨?_, ?_⟩
  · rw [← flatMap_annot_fst D 0 cs, List.getElem?_map, h]; rfl
  · obtain ⟨hc, hl⟩ := flatten_minimal_go D cs 0 k b c h
    refine ⟨hc, undetermined_of_take ?_⟩
    simp only [Nat.sub_zero] at hl
    rw [List.getElem?_eq_none (by simpa using hl)]
    simp

example : ((annot 0 [[1, 2], [], [3]]).flatMap fun q => (id q.1).map fun a => (a, q.2))[2]? = some (3, 3) := by decide +kernel

/-- **`need_minimal_join`**: the `k`-th answer (0-based) of `Join` costs `k + 1` pulls in total
(`join_pulls`); arguments holding only the first `k` items leave it undetermined. -/
theorem need_minimal_join (ls : List (List α)) (k : Nat) (b : α) (c : Nat)
    (h : (annot 0 ls.flatten)[k]? = some (b, c)) :
    ls.flatten[k]? = some b ∧ c = k + 1 ∧ ∀ ls' : List (List α), ls'.flatten = ls.flatten.take (c - 1) →
      ls'.flatten[k]? ≠ some b := by
  rw [annot_getElem?] at h
  obtain ⟨a, ha, hac⟩ := Option.map_eq_some_iff.mp h
  obtain ⟨rfl, rfl⟩ := Prod.mk.inj hac
  refine ⟨ha, by omega, fun ls' hls' => ?_⟩
  rw [hls', List.getElem?_eq_none (by rw [List.length_take]; omega)]
  simp

example : (annot 0 [[1, 2], [], [3]].flatten)[2]? = some (3, 3) := by decide +kernel

/-- **`need_minimal_runs`** (reflexive `same`, inner iterators read to their end): the `k`-th run is
delivered at cost `c` (`runs_pulls`: one item of lookahead, or the end of the source); `c - 1` source
items do not determine it — the run could still grow. -/
theorem need_minimal_runs (same : α → α → Bool) (hrefl : ∀ a, same a a = true) (l : List α)
    (k : Nat) (run : List α) (c : Nat)
    (h : (runsStartA same none (annot 0 l) l.length)[k]? = some (run, c)) :
    (Seq.runs same l)[k]? = some run ∧ 0 < c ∧ Undetermined (Seq.runs same) l (c - 1) k run := by
  refine ⟨?_, ?_⟩
  · have := runsStartA_all_fst same (annot 0 l) l.length
    rw [annot_fst] at this
    rw [← this, List.getElem?_map, h]; rfl
  · cases l with
    | nil => simp [annot, runsStartA] at h
    | cons a l =>
      have h' : (runsGoA same none (some [a]) a (annot 1 l) (1 + l.length))[k]? = some (run, c) := by
        have e : (a :: l).length = 1 + l.length := by simp; omega
        rw [e] at h
        simpa [annot, runsStartA, reached, takeReached] using h
      rcases runs_minimal_go same hrefl l [a] a 1 k run c h' with ⟨rfl, rfl, rfl, rfl⟩ | ⟨hc, l', hl', hne⟩
      · exact ⟨by omega, [], by simp, by simp [Seq.runs]⟩
      · refine ⟨by omega, a :: l', ?_, by simpa [Seq.runs] using hne⟩
        obtain ⟨d, rfl⟩ : ∃ d, c = d + 2 := ⟨c - 2, by omega⟩
        simpa using hl'

example : (runsStartA (fun a b : Nat => a == b) none (annot 0 [1, 1, 2]) 3)[0]? = some ([1, 1], 3) := by decide +kernel

/-- `iterator.Reduce(it, init, f)` = `foldl f init`, and the iterator is left ended. -/
theorem reduce_eq {m : IM σ α} {cost : σ → Nat} {s : σ} {L : List (α × Nat)} {e : Nat} (f : β → α → β)
    (h : Den m cost s L e) :
    ∃ F, ∀ fuel, F ≤ fuel → ∀ acc, (reduce m f fuel acc s).1 = some ((L.map Prod.fst).foldl f acc) ∧
      Ended m (reduce m f fuel acc s).2 :=
  (reduce_run f h).mono fun _ hF acc => ⟨(hF acc).1, (hF acc).2.1⟩

/-- `iterator.Collect(it)` = the denoted list. -/
theorem collect_eq {m : IM σ α} {cost : σ → Nat} {s : σ} {L : List (α × Nat)} {e : Nat} (h : Den m cost s L e) :
    ∃ F, ∀ fuel, F ≤ fuel → (collect m fuel s).1 = some (L.map Prod.fst) := collect_den h

/-- `iterator.One(it)`: the item iff there is exactly one. -/
theorem one_eq {m : IM σ α} {cost : σ → Nat} {s : σ} {L : List (α × Nat)} {e : Nat} (h : Den m cost s L e) :
    ∃ F, ∀ fuel, F ≤ fuel → (one m fuel s).1 = some (match L.map Prod.fst with | [a] => some a | _ => none) :=
  (one_run h).mono fun _ hF => hF.1

/-- `iterator.Last(it, n)`, every `n ≥ 0` (D3: `n = 0` used to divide by zero): the last `n` items,
all of them if there are fewer; no panic. The ring index arithmetic is the regenerated one. -/
theorem last_eq {m : IM σ α} {cost : σ → Nat} {s : σ} {L : List (α × Nat)} {e : Nat} (n : Nat) (h : Den m cost s L e) :
    ∃ F, ∀ fuel, F ≤ fuel → (last m (n : Int) fuel s).1 = .ok ((Seq.lastN n (L.map Prod.fst)).map some) :=
  (last_run n h).mono fun _ hF => hF.1

example : Seq.lastN 0 [1, 2, 3] = [] ∧ Seq.lastN 2 [1, 2, 3] = [2, 3] ∧ Seq.lastN 5 [1, 2, 3] = [1, 2, 3] := by decide +kernel

/-- `iterator.Equal(its...)`: `true` iff all iterators yield the same items in the same order
(`s0` yields `l0`, the others `ls`; rounds = how often the first iterator is advanced). -/
theorem equal_eq [DecidableEq α] {m : IM σ α} (l0 : List α) (s0 : σ) (r : List σ) (ls : List (List α))
    (h0 : DenL m s0 l0) (h : All2 (DenL m) r ls) :
    ∃ F, ∀ fuel, F ≤ fuel → ∀ rounds, l0.length + 1 ≤ rounds →
      (equal m fuel rounds (s0 :: r)).1 = some (decide (∀ l ∈ ls, l = l0)) := equal_den l0 s0 r ls h0 h

example : DenL src (Src.of [1, 2]) [1, 2] := src_denL (Src.of [1, 2])

/-- `Reduce` / `Collect` read the iterator to its end: the cost afterwards is the end cost `e`
(over a slice: all `len` items). -/
theorem reduce_pulls {m : IM σ α} {cost : σ → Nat} {s : σ} {L : List (α × Nat)} {e : Nat} (f : β → α → β)
    (h : Den m cost s L e) : ∃ F, ∀ fuel, F ≤ fuel → ∀ acc, cost (reduce m f fuel acc s).2 = e :=
  (reduce_run f h).mono fun _ hF acc => (hF acc).2.2

theorem collect_pulls (l : List α) : ∃ F, ∀ fuel, F ≤ fuel → (collect src fuel (Src.of l)).2.pulled = l.length :=
  (reduce_run (fun (acc : List α) a => acc ++ [a]) (slice_denotes l)).mono fun _ hF => (hF []).2.2

/-- `Last(it, n)` reads the iterator to its end whatever `n` is (also `n = 0`). -/
theorem last_pulls {m : IM σ α} {cost : σ → Nat} {s : σ} {L : List (α × Nat)} {e : Nat} (n : Nat)
    (h : Den m cost s L e) : ∃ F, ∀ fuel, F ≤ fuel → cost (last m (n : Int) fuel s).2 = e :=
  (last_run n h).mono fun _ hF => hF.2

example (l : List Nat) : ∃ F, ∀ fuel, F ≤ fuel → (last src (0 : Nat) fuel (Src.of l)).2.pulled = l.length :=
  last_pulls 0 (slice_denotes l)

/-- `One` makes at most two `Next` calls: over a slice it pulls `min 2 len` items. -/
theorem one_pulls (l : List α) : ∃ F, ∀ fuel, F ≤ fuel → (one src fuel (Src.of l)).2.pulled = min 2 l.length := by
  exact (one_run (slice_denotes l)).mono fun fuel hF => by rw [hF.2, oneCost_annot]

/-- **`equal_pulls_partial`**. Full statement: for arbitrary iterators, `Equal` pulls every iterator
once per round, first to last, and stops at the first mismatch (the later ones are not pulled in that
round). Proved here for slice sources, in closed form (`equalL`): the verdict, what is left unread of every
list, and hence how many items every iterator was pulled for (`pulled + unread = len`). The verdict for
arbitrary machines is `equal_eq`. -/
theorem equal_pulls_partial [DecidableEq α] (l0 : List α) (ls : List (List α)) (fuel rounds : Nat) (hf : 1 ≤ fuel)
    (hr : l0.length + 1 ≤ rounds) :
    (equal src fuel rounds ((l0 :: ls).map Src.of)).1 = some (equalL l0 ls).1 ∧
    (equal src fuel rounds ((l0 :: ls).map Src.of)).2.map (·.rest) = (equalL l0 ls).2 ∧
    (equal src fuel rounds ((l0 :: ls).map Src.of)).2.map (fun s => s.pulled + s.rest.length) =
      (l0 :: ls).map List.length := by
  obtain ⟨g, rfl⟩ : ∃ g, fuel = g + 1 := ⟨fuel - 1, by omega⟩
  obtain ⟨ss', h1, h2, h3⟩ := equal_src g l0 (Src.of l0) (ls.map Src.of) rounds rfl hr
  have e1 : (ls.map Src.of).map (·.rest) = ls := by simp [Src.of, Function.comp_def]
  rw [e1] at h1 h2
  simp only [List.map_cons]
  rw [h1]
  refine ⟨rfl, h2, ?_⟩
  show ss'.map tot = _
  rw [h3]; simp [tot, Src.of, Function.comp_def]

/-- … in particular, when all lists are equal every iterator is read to its end … -/
theorem equal_pulls_all_equal [DecidableEq α] (l0 : List α) (ls : List (List α)) (h : ∀ l ∈ ls, l = l0) :
    equalL l0 ls = (true, [] :: ls.map fun _ => []) := by
  induction l0 generalizing ls with
  | nil =>
    rw [equalL, equalRoundL_all none ls (fun l hl => by rw [h l hl]; rfl)]
    simp only [Prod.mk.injEq, List.cons.injEq, true_and]
    apply List.map_congr_left
    intro l hl
    rw [h l hl]; rfl
  | cons a l0 ih =>
    rw [equalL, equalRoundL_all (some a) ls (fun l hl => by rw [h l hl]; rfl)]
    simp only [if_true]
    rw [ih (ls.map List.tail) (by
      intro l hl
      obtain ⟨l', hl', rfl⟩ := List.mem_map.mp hl
      rw [h l' hl']; rfl)]
    simp

/-- … and after a mismatch the later iterators are not pulled in that round. -/
example : equalL [1, 2, 3] [[1, 2, 3], [1, 5], [1, 2, 3]] = (false, [[3], [3], [], [2, 3]]) := by decide +kernel

/-- **`pipeline_denotes_partial`**. Full statement: *every* composition of the combinators (any stage
kinds, any source) yields the composition of their documented list functions. Proved here: pipelines of
any depth whose stages are the six element-type-preserving kinds of `Pipe` (`Filter`, `Map α→α`,
`First`, `While`, `CompactFunc`, `WithPeek`) over a slice source. Missing: one datatype that also has the
type-changing stages (`Chunk`, `Flatten`, `Runs`, `Join`) and other sources; for those the per-combinator
theorems above (each for an arbitrary inner machine) have to be composed by hand. -/
theorem pipeline_denotes_partial {α : Type} (p : Pipe α) :
    ∃ (L : List (α × Nat)) (e : Nat), Den p.machine.m p.machine.cost p.machine.s L e ∧ L.map Prod.fst = p.spec := by
  induction p with
  | src l => exact ⟨_, _, src_den l 0 0, annot_fst 0 l⟩
  | filter keep p ih =>
    obtain ⟨L, e, h, hl⟩ := ih
    refine ⟨_, _, filter_den keep h, ?_⟩
    simp only [Pipe.spec, ← hl, List.filter_map]
    rfl
  | map f p ih =>
    obtain ⟨L, e, h, hl⟩ := ih
    refine ⟨_, _, map_den f h, ?_⟩
    simp only [Pipe.spec, ← hl, List.map_map]
    rfl
  | first n p ih =>
    obtain ⟨L, e, h, hl⟩ := ih
    refine ⟨_, _, first_den h n, ?_⟩
    simp only [Pipe.spec, ← hl, List.map_take]
  | while_ f p ih =>
    obtain ⟨L, e, h, hl⟩ := ih
    refine ⟨_, _, while_den f h, ?_⟩
    simp only [Pipe.spec, ← hl, List.takeWhile_map]
    rfl
  | compact eq p ih =>
    obtain ⟨L, e, h, hl⟩ := ih
    refine ⟨_, _, compact_den eq h none, ?_⟩
    simp only [Pipe.spec, ← hl, compactGo_fst]
    rfl
  | peek p ih =>
    obtain ⟨L, e, h, hl⟩ := ih
    exact ⟨_, _, peek_den h, hl⟩

example : (Pipe.first 2 (Pipe.filter (fun n : Nat => n % 2 == 0) (Pipe.map (· + 1) (Pipe.src [1, 2, 3, 5, 7])))).spec
    = [2, 4] := by decide +kernel

end iterator

section stream
open Juniper.Model.Stream Juniper.Proofs.StreamDen
variable {σ : Type u} {τ : Type w} {α β : Type v} {soft : Err → Bool}

/-- **Meaning of a stream denotation at the consumer** (any contexts; failed calls that cost nothing
erased): the items in order, then the end again and again / the failure itself. -/
theorem sden_next (hctx : soft .ctx = true) {m : SM σ α} {cost : σ → Nat} {s : σ}
    {L : List (α × Nat)} {t : Term} (h : SDen soft m cost s L t) :
    ∃ F, ∀ fuel, F ≤ fuel → ∀ cs, Conforms (hard soft (snexts m fuel cs s)) (L.map Prod.fst) t :=
  sden_conforms hctx h

/-- A fault-free scripted source yields its items; the `i`-th costs `i` pulls. -/
theorem source_denotes (l : List α) :
    SDen Err.soft src (fun s : Stream.Src α => s.pulled) (Stream.Src.of (l.map Ev.item))
      (scriptItems true 0 (l.map Ev.item)) (scriptTerm true 0 (l.map Ev.item)) :=
  script_sden (l.map Ev.item)

/-- `stream.Empty()` yields nothing: the end at once and for ever, whatever the context (regenerated
`return zero, End`). -/
theorem s_empty_denotes : SDen soft (Stream.empty (α := α)) (fun _ => 0) () [] (.end_ 0) := by
  have _tie := Skeleton.Tie.stEmpty
  exact sden_fixed (cost := fun _ => 0) (empty_step ())

/-- `stream.Error(e)` fails with `e` itself at once (regenerated `return zero, s.err`). -/
theorem s_error_denotes (e : Err) (he : soft e = false) :
    SDen soft (Stream.error (α := α) e) (fun _ => 0) () [] (.fail e) := by
  have _tie := Skeleton.Tie.stError
  exact .fail (s' := ()) (Or.inr (by rw [error_step, error_step])) (error_step e () true) he

/-- `stream.FromIterator(iter)` yields what `iter` yields, at the same pull counts, then the end for ever;
a call whose context has expired is answered with the context error *before* the iterator is touched
(regenerated `ctx.Err() != nil` guard and operands): nothing is pulled, nothing is lost. -/
theorem s_fromIterator_denotes {m : Iter.IM σ α} {cost : σ → Nat} {s : σ} {L : List (α × Nat)} {e : Nat}
    (h : IterDen.Den m cost s L e) : SDen soft (Stream.fromIterator m) cost s L (.end_ e) :=
  Sources.fromIterator_sden h

example : ((Stream.fromIterator Iter.src).step (Iter.Src.of [7, 8]) false).1 = .err .ctx ∧
    ((Stream.fromIterator Iter.src).step (Iter.Src.of [7, 8]) false).2.pulled = 0 := by decide +kernel

/-- `stream.Chan(c)` over a channel that holds `l` and is closed: `l` in order, then the end for ever
(arms and operands of the `select` regenerated); a call whose context has expired costs nothing. The
concurrent behaviour — sends and the close arriving between and during `Next` calls, any capacity — is
`Props/C10Chan`. -/
theorem s_chan_denotes (l : List α) :
    SDen soft (Stream.chan (α := α)) (fun _ => 0) ⟨l, true⟩ (l.map fun a => (a, 0)) (.end_ 0) := Sources.schan_sden l

/-- `stream.Compact(s)` (the wrapper: `CompactFunc(s, ==)`, regenerated body). -/
theorem s_compactW_denotes [DecidableEq α] {m : SM σ α} {cost : σ → Nat} {s : σ} {L : List (α × Nat)} {t : Term}
    (h : SDen soft m cost s L t) :
    SDen soft (Stream.compactEq m) (fun st => cost st.inner) (Stream.compactInit s)
      (Seq.compactGo (fun p q => decide (p.1 = q.1)) none L) t := by
  rw [Sources.scompactEq_eq]
  exact compact_sden (fun a b => decide (a = b)) h none

/-- `stream.WithPeek`. -/
theorem s_withPeek_denotes {m : SM σ α} {cost : σ → Nat} {s : σ} {L : List (α × Nat)} {t : Term}
    (h : SDen soft m cost s L t) : SDen soft (withPeek m) (fun st => cost st.inner) ⟨s, none⟩ L t := peek_sden h

/-- `stream.Chunk(s, n)`. A failure drops the pending partial chunk and is reported itself. -/
theorem s_chunk_denotes (n : Nat) {m : SM σ α} {cost : σ → Nat} {s : σ} {L : List (α × Nat)} {t : Term}
    (h : SDen soft m cost s L t) :
    SDen soft (Stream.chunk (n : Int) m) (fun st => cost st.inner) ⟨s, []⟩ (chunkGoS n [] L t) t := chunk_sden n h []

/-- `stream.CompactFunc`. -/
theorem s_compact_denotes (eq : α → α → Bool) {m : SM σ α} {cost : σ → Nat} {s : σ} {L : List (α × Nat)} {t : Term}
    (h : SDen soft m cost s L t) :
    SDen soft (Stream.compact eq m) (fun st => cost st.inner) ⟨s, true, none⟩
      (Seq.compactGo (fun p q => eq p.1 q.1) none L) t := compact_sden eq h none

/-- `stream.Filter` (callback may fail). -/
theorem s_filter_denotes (keep : α → Except Err Bool) (hf : ∀ a e, keep a = .error e → soft e = false)
    {m : SM σ α} {cost : σ → Nat} {s : σ} {L : List (α × Nat)} {t : Term} (h : SDen soft m cost s L t) :
    SDen soft (Stream.filter keep m) (fun st => cost st.inner) ⟨s⟩ (filterS keep L t).1 (filterS keep L t).2 :=
  filter_sden keep hf h

/-- `stream.Map` (callback may fail). -/
theorem s_map_denotes (f : α → Except Err β) (hf : ∀ a e, f a = .error e → soft e = false)
    {m : SM σ α} {cost : σ → Nat} {s : σ} {L : List (α × Nat)} {t : Term} (h : SDen soft m cost s L t) :
    SDen soft (Stream.map f m) (fun st => cost st.inner) ⟨s⟩ (mapS f L t).1 (mapS f L t).2 := map_sden f hf h

/-- `stream.First`. -/
theorem s_first_denotes {m : SM σ α} {cost : σ → Nat} {s : σ} {L : List (α × Nat)} {t : Term}
    (h : SDen soft m cost s L t) (n : Int) :
    SDen soft (Stream.first m) (fun st => cost st.inner) ⟨s, n⟩ (L.take n.toNat) (firstTermS (cost s) n.toNat L t) :=
  first_sden h n

/-- `stream.While` (callback may fail). -/
theorem s_while_denotes (f : α → Except Err Bool) (hf : ∀ a e, f a = .error e → soft e = false)
    {m : SM σ α} {cost : σ → Nat} {s : σ} {L : List (α × Nat)} {t : Term} (h : SDen soft m cost s L t) :
    SDen soft (Stream.while_ f m) (fun st => cost st.inner) ⟨s, none, false⟩ (whileS f L t).1 (whileS f L t).2 :=
  while_sden f hf h

/-- `stream.FlattenSlices`. -/
theorem s_flattenSlices_denotes {m : SM σ (List α)} {cost : σ → Nat} {s : σ} {L : List (List α × Nat)} {t : Term}
    (h : SDen soft m cost s L t) :
    SDen soft (flattenSlices m) (fun st => cost st.inner) ⟨s, []⟩ (L.flatMap fun p => p.1.map fun a => (a, p.2)) t :=
  flattenSlices_sden h

/-- `stream.FlattenSlices` only *reads* the slices it is handed (D17: it used to zero `s.buffer[0]`, which
is the producer's array, so a `Chunk` upstream whose consumer kept the chunk saw it clobbered): the
regenerated count of `s.buffer[0] = zero` statements in `flattenSlicesStream.Next` is 0. A syntactic
fact (the model of `FlattenSlices` has no notion of the producer's array); the harness case
`corpus/C07/d17-*` shows the behaviour. -/
theorem flattenSlices_leaves_input_alone : stFlattenSlicesWritesInput = 0 := by decide

/-- `stream.Flatten`. -/
theorem s_flatten_denotes {mo : SM σ τ} {mi : SM τ α} {co : σ → Nat} (D : τ → List α × Term) {so : σ}
    {Lo : List (τ × Nat)} {t : Term} (ho : SDen soft mo co so Lo t)
    (hD : ∀ p ∈ Lo, ∃ (ci : τ → Nat) (Li : List (α × Nat)), SDen soft mi ci p.1 Li (D p.1).2 ∧ Li.map Prod.fst = (D p.1).1) :
    SDen soft (Stream.flatten mo mi) (fun st => co st.outer) ⟨so, none, []⟩ (flattenS D Lo t).1 (flattenS D Lo t).2 :=
  flatten_sden D ho hD []

/-- `stream.Join`. -/
theorem s_join_denotes {m : SM σ α} (D : σ → List α × Term) (ss : List σ)
    (hD : ∀ s ∈ ss, ∃ (ci : σ → Nat) (Li : List (α × Nat)), SDen soft m ci s Li (D s).2 ∧ Li.map Prod.fst = (D s).1) :
    SDen soft (Stream.join m) (fun _ => 0) ⟨ss, []⟩ (joinS D ss).1 (joinS D ss).2 := join_sden D ss hD []

/-- `stream.Runs` used as documented, faults included: a failure drops the run being collected and
is reported itself. -/
theorem s_runs_denotes (same : α → α → Bool) (hrefl : ∀ a, same a a = true) (take : Option Nat) (closeInner : Bool)
    {m : SM σ α} {cost : σ → Nat} {s : σ} {L : List (α × Nat)} {t : Term} (h : SDen soft m cost s L t) (gen : Nat) :
    SDen soft (Stream.runsProto same take closeInner m) (StreamDen.rcost cost) ⟨⟨⟨s, none⟩, gen, none⟩, none⟩
      (runsStartS same take L t) t :=
  runs_sden same hrefl take closeInner h (.fresh gen)

/-- `stream.Collect` / `Reduce` / `xrand.SampleStream` on a fault-free stream return the documented value. -/
theorem s_collect_eq {m : SM σ α} {cost : σ → Nat} {s : σ} {L : List (α × Nat)} {e : Nat}
    (h : SDen strict m cost s L (.end_ e)) :
    ∃ F, ∀ fuel, F ≤ fuel → (Stream.collect m true fuel s).1 = .ok (L.map Prod.fst) := by
  exact (collect_strict h).mono fun _ hF => by simpa [outOf] using hF.1

/-- `stream.Last` on a fault-free stream (every `n ≥ 0`). -/
theorem s_last_eq {m : SM σ α} {cost : σ → Nat} {s : σ} {L : List (α × Nat)} {e : Nat} (n : Nat)
    (h : SDen strict m cost s L (.end_ e)) :
    ∃ F, ∀ fuel, F ≤ fuel → (Stream.last m (n : Int) true fuel s).1 = .ok ((Seq.lastN n (L.map Prod.fst)).map some) := by
  exact (last_strict n h).mono fun _ hF => by simpa [outOf] using hF.1

/-- `stream.One`: the only item, `ErrEmpty`, `ErrMoreThanOne` (or the first failure met). -/
theorem s_one_eq {m : SM σ α} {cost : σ → Nat} {s : σ} {L : List (α × Nat)} {t : Term} (h : SDen strict m cost s L t) :
    ∃ F, ∀ fuel, F ≤ fuel → (Stream.one m true fuel s).1 = oneRes (L.map Prod.fst) t := one_sden h

/-- `stream.Reduce`: the fold (callback may fail). -/
theorem s_reduce_eq {γ : Type v} {m : SM σ α} {cost : σ → Nat} {s : σ} {L : List (α × Nat)} {t : Term}
    (f : γ → α → Except Err γ) (h : SDen strict m cost s L t) :
    ∃ F, ∀ fuel, F ≤ fuel → ∀ init, (Stream.reduce m f true fuel init s).1 = foldRes f init (L.map Prod.fst) t :=
  (reduce_strict f h).mono fun _ hF init => (hF init).1

/-! ### closed-form pull counts on the stream side (fault-free source `ofList l`, any contexts) -/

/-- `stream.FlattenSlices`: the items of the `j`-th slice cost `j` pulls; nothing is pulled while the
buffer still holds items. -/
theorem s_flattenSlices_pulls (ls : List (List α)) :
    SDen Err.soft (flattenSlices Stream.src) (fun st => st.inner.pulled) ⟨ofList ls, []⟩
      ((IterDen.annot 0 ls).flatMap fun p => p.1.map fun a => (a, p.2)) (.end_ ls.length) :=
  flattenSlices_sden (items_src_sden ls)

/-- `stream.Flatten` over fault-free inner streams: an item of the `j`-th inner stream costs `j`
pulls of the outer stream. -/
theorem s_flatten_pulls (ls : List (List α)) :
    SDen Err.soft (Stream.flatten Stream.src Stream.src) (fun st => st.outer.pulled) ⟨ofList (ls.map ofList), none, []⟩
      ((IterDen.annot 0 ls).flatMap fun p => p.1.map fun a => (a, p.2)) (.end_ ls.length) := by
  have ho := items_src_sden (ls.map ofList)
  have h := flatten_sden (soft := Err.soft) srcD ho (fun p hp => by
    obtain ⟨l, _, hl⟩ := List.mem_map.mp (IterDen.mem_annot hp)
    rw [← hl]
    exact srcD_hyp_script (l.map Ev.item)) []
  rw [flattenS_ended, List.length_map] at h
  exact h

/-- `stream.Runs` (documented protocol): one item of lookahead per run, as for the iterator. -/
theorem s_runs_pulls (same : α → α → Bool) (hrefl : ∀ a, same a a = true) (take : Option Nat) (closeInner : Bool)
    (l : List α) :
    SDen Err.soft (Stream.runsProto same take closeInner Stream.src) (StreamDen.rcost fun s : Stream.Src α => s.pulled)
      ⟨⟨⟨ofList l, none⟩, 0, none⟩, none⟩ (runsStartS same take (IterDen.annot 0 l) (.end_ l.length)) (.end_ l.length) :=
  runs_sden same hrefl take closeInner (items_src_sden l) (.fresh 0)

/-- `stream.Collect` / `Reduce` / `Last` read a fault-free stream to its end; `One` stops after the
second item (`min 2 len` pulls). -/
theorem s_collect_pulls (l : List α) :
    ∃ F, ∀ fuel, F ≤ fuel → (Stream.collect Stream.src true fuel (ofList l)).2.pulled = l.length :=
  (collect_strict (cost := fun s : Stream.Src α => s.pulled) (items_src_strict l)).mono
    fun _ hF => hF.2 _ rfl fun _ => rfl

theorem s_reduce_pulls {γ : Type v} (f : γ → α → Except Err γ) (hok : ∀ acc a, ∃ acc', f acc a = .ok acc') (l : List α) :
    ∃ F, ∀ fuel, F ≤ fuel → ∀ init, (Stream.reduce Stream.src f true fuel init (ofList l)).2.pulled = l.length :=
  (reduce_strict (cost := fun s : Stream.Src α => s.pulled) f (items_src_strict l)).mono
    fun _ hF init => (hF init).2 hok _ rfl fun _ => rfl

theorem s_last_pulls (n : Nat) (l : List α) :
    ∃ F, ∀ fuel, F ≤ fuel → (Stream.last Stream.src (n : Int) true fuel (ofList l)).2.pulled = l.length :=
  (last_strict (cost := fun s : Stream.Src α => s.pulled) n (items_src_strict l)).mono
    fun _ hF => hF.2 _ rfl fun _ => rfl

theorem s_one_pulls (l : List α) :
    ∃ F, ∀ fuel, F ≤ fuel → (Stream.one Stream.src true fuel (ofList l)).2.pulled = min 2 l.length := by
  exact (StreamDen.one_cost (cost := fun s : Stream.Src α => s.pulled) (fun _ => rfl)
    (items_src_strict l)).mono
    fun _ hF => by rw [hF, IterDen.oneCost_annot]

example : (Stream.one Stream.src true 5 (ofList [4, 5, 6])).2.pulled = 2 := by decide +kernel

end stream

section streamPeek
open Juniper.Model.Stream Juniper.Proofs.StreamDen
variable {α : Type}

/-- **`stream.WithPeek` under any interleaving of `Peek` and `Next` and any per-call contexts**
(fault-free source): the answers are those of the abstract machine `(j, has)` — every call answers the
item after those consumed by the earlier `Next`s; a call whose context has expired answers the context
error and changes nothing, unless an item is buffered, which is then served — and the source has been
pulled for `j + [an item is buffered]` items. -/
theorem s_peek_interleave (l : List α) (ops : List SPeekOp) :
    (speekRun Stream.src ops ⟨ofList l, none⟩).1 = speekAnswers l ops (0, false) ∧
    (speekRun Stream.src ops ⟨ofList l, none⟩).2.inner.pulled =
      (speekTrack l.length ops (0, false)).1 + (speekTrack l.length ops (0, false)).2.toNat := by
  obtain ⟨calls, h⟩ := speekRun_src l ops 0 false 0 0 (by simp)
  have e : (⟨ofList l, none⟩ : Stream.PeekSt (Stream.Src α) α) = speekSt l 0 false 0 0 := by
    simp [speekSt, ofList, Stream.Src.of]
  rw [e, h]
  exact ⟨rfl, rfl⟩

/-- … with live contexts, in closed form: `min len (#Next + [the last call was a Peek])`, as for the iterator. -/
theorem s_peek_interleave_live (l : List α) (ops : List IterDen.PeekOp) :
    (speekRun Stream.src (ops.map liveOp) ⟨ofList l, none⟩).2.inner.pulled =
      min l.length (IterDen.peekNexts ops + if ops.getLast? = some .peek then 1 else 0) := by
  rw [(s_peek_interleave l (ops.map liveOp)).2, speekTrack_live l.length ops 0 false (by simp)]
  exact IterDen.peekTrack_pulled l.length ops

example : speekAnswers [7, 8] [.peek true, .next false, .peek false, .next true, .peek true] (0, false)
    = [.item 7, .item 7, .err .ctx, .item 8, .end_] ∧
    speekTrack 2 [.peek true, .next false, .peek false, .next true, .peek true] (0, false) = (2, false) := by decide +kernel

end streamPeek

section agree
open Juniper.Proofs.IterDen Juniper.Proofs.StreamDen
variable {α β : Type v}

theorem scriptItems_items (p : Nat) (l : List α) : scriptItems true p (l.map Stream.Ev.item) = annot p l :=
  scriptItems_map_item true p l

theorem scriptTerm_items (p : Nat) (l : List α) : scriptTerm true p (l.map Stream.Ev.item) = .end_ (p + l.length) :=
  scriptTerm_map_item true p l

/-- A fault-free stream source and the slice iterator yield the same annotated sequence. -/
theorem iter_stream_agree_source (l : List α) :
    Den Iter.src (fun s : Iter.Src α => s.pulled) (Iter.Src.of l) (annot 0 l) l.length ∧
    SDen Stream.Err.soft Stream.src (fun s : Stream.Src α => s.pulled) (Stream.Src.of (l.map Stream.Ev.item))
      (annot 0 l) (.end_ l.length) :=
  ⟨slice_denotes l, items_src_sden l⟩

/-! On a stream that ends, the stream-side list functions are the iterator-side ones. -/

theorem chunkGoS_end (n : Nat) (pend : List α) (L : List (α × Nat)) (k : Nat) :
    chunkGoS n pend L (.end_ k) = chunkGoA n pend L k := by
  induction L generalizing pend with
  | nil => rfl
  | cons p L ih => obtain ⟨a, c⟩ := p; simp [chunkGoS, chunkGoA, ih]

theorem firstTermS_end (c0 k : Nat) (L : List (α × Nat)) (e : Nat) :
    firstTermS c0 k L (.end_ e) = .end_ (firstEnd c0 k L e) := by
  induction k generalizing c0 L with
  | zero => rfl
  | succ k ih =>
    cases L with
    | nil => rfl
    | cons p L => exact ih p.2 L

theorem whileS_end (f : α → Bool) (L : List (α × Nat)) (k : Nat) :
    whileS (fun a => Except.ok (f a)) L (.end_ k) = (L.takeWhile fun p => f p.1, .end_ (whileEnd f L k)) := by
  induction L with
  | nil => rfl
  | cons p L ih =>
    obtain ⟨a, c⟩ := p
    simp only [whileS, List.takeWhile_cons, whileEnd]
    cases f a <;> simp [ih]

/-- the two proof-side list functions of `Runs` coincide on a stream that ends -/
theorem runsStart_agree (same : α → α → Bool) (take : Option Nat) (L : List (α × Nat)) (e : Nat) :
    runsStartS same take L (.end_ e) = runsStartA same take L e := by
  have key : ∀ (mode : Option (List α)) (prev : α) (L : List (α × Nat)),
      runsGoS same take mode prev L (.end_ e) = runsGoA same take mode prev L e := by
    intro mode prev L
    induction L generalizing mode prev with
    | nil => cases mode <;> rfl
    | cons p L ih =>
      obtain ⟨b, c⟩ := p
      cases mode <;> simp [runsGoS, runsGoA, ih, IterDen.reached]
  cases L with
  | nil => rfl
  | cons p L =>
    obtain ⟨b, c⟩ := p
    simp [runsStartS, runsNewS, runsStartA, key, IterDen.reached]

/-- … and on a stream that ends, with `take = none`, these are exactly the documented runs. -/
theorem s_runs_spec (same : α → α → Bool) (L : List (α × Nat)) (e : Nat) :
    (runsStartS same none L (.end_ e)).map Prod.fst = Seq.runs same (L.map Prod.fst) := by
  rw [runsStart_agree]; exact runsStartA_all_fst same L e

/-! Agreement is compositional: if an iterator and a stream yield the same items at the same costs and
then end, so do the two versions of a combinator over them. The theorems over a slice source that
follow are the instances at `iter_stream_agree_source`. -/

section compositional
variable {σ : Type u} {σ' : Type w} {soft : Stream.Err → Bool} {mi : Iter.IM σ α} {ms : Stream.SM σ' α}
  {ci : σ → Nat} {cs : σ' → Nat} {si : σ} {ss : σ'} {L : List (α × Nat)} {e : Nat}

theorem agree_filter (keep : α → Bool) (hi : Den mi ci si L e) (hs : SDen soft ms cs ss L (.end_ e)) :
    Den (Iter.filter keep mi) ci si (L.filter fun p => keep p.1) e ∧
      SDen soft (Stream.filter (fun a => .ok (keep a)) ms) (fun st => cs st.inner) ⟨ss⟩
        (L.filter fun p => keep p.1) (.end_ e) := by
  have h := filter_sden (fun a => Except.ok (keep a)) (by intro a e h; cases h) hs
  rw [filterS_ok] at h
  exact ⟨filter_den keep hi, h⟩

theorem agree_map (f : α → β) (hi : Den mi ci si L e) (hs : SDen soft ms cs ss L (.end_ e)) :
    Den (Iter.map f mi) ci si (L.map fun p => (f p.1, p.2)) e ∧
      SDen soft (Stream.map (fun a => .ok (f a)) ms) (fun st => cs st.inner) ⟨ss⟩
        (L.map fun p => (f p.1, p.2)) (.end_ e) := by
  have h := map_sden (fun a => Except.ok (f a)) (by intro a e h; cases h) hs
  rw [mapS_ok] at h
  exact ⟨map_den f hi, h⟩

theorem agree_chunk (n : Nat) (hi : Den mi ci si L e) (hs : SDen soft ms cs ss L (.end_ e)) :
    Den (Iter.chunk (n : Int) mi) (fun st => ci st.inner) ⟨si, []⟩ (chunkGoA n [] L e) e ∧
      SDen soft (Stream.chunk (n : Int) ms) (fun st => cs st.inner) ⟨ss, []⟩ (chunkGoA n [] L e) (.end_ e) := by
  have h := chunk_sden n hs []
  rw [chunkGoS_end] at h
  exact ⟨chunk_den n hi [], h⟩

theorem agree_compact (eq : α → α → Bool) (hi : Den mi ci si L e) (hs : SDen soft ms cs ss L (.end_ e)) :
    Den (Iter.compact eq mi) (fun st => ci st.inner) ⟨si, true, none⟩ (Seq.compactGo (fun p q => eq p.1 q.1) none L) e ∧
      SDen soft (Stream.compact eq ms) (fun st => cs st.inner) ⟨ss, true, none⟩
        (Seq.compactGo (fun p q => eq p.1 q.1) none L) (.end_ e) :=
  ⟨compact_den eq hi none, compact_sden eq hs none⟩

theorem agree_first (x : Int) (hi : Den mi ci si L e) (hs : SDen soft ms cs ss L (.end_ e)) (h0 : cs ss = ci si) :
    Den (Iter.first mi) (fun st => ci st.inner) ⟨si, x, false⟩ (L.take x.toNat) (firstEnd (ci si) x.toNat L e) ∧
      SDen soft (Stream.first ms) (fun st => cs st.inner) ⟨ss, x⟩ (L.take x.toNat)
        (.end_ (firstEnd (ci si) x.toNat L e)) := by
  have h := first_sden hs x
  rw [firstTermS_end, h0] at h
  exact ⟨first_den hi x, h⟩

theorem agree_while (f : α → Bool) (hi : Den mi ci si L e) (hs : SDen soft ms cs ss L (.end_ e)) :
    Den (Iter.while_ f mi) (fun st => ci st.inner) ⟨si, false⟩ (L.takeWhile fun p => f p.1) (whileEnd f L e) ∧
      SDen soft (Stream.while_ (fun a => .ok (f a)) ms) (fun st => cs st.inner) ⟨ss, none, false⟩
        (L.takeWhile fun p => f p.1) (.end_ (whileEnd f L e)) := by
  have h := while_sden (fun a => Except.ok (f a)) (by intro a e h; cases h) hs
  rw [whileS_end] at h
  exact ⟨while_den f hi, h⟩

end compositional

/-- `Filter`: iterator and stream versions yield the same items at the same pull counts. -/
theorem iter_stream_agree_filter (keep : α → Bool) (l : List α) :
    ∃ L, Den (Iter.filter keep Iter.src) (fun s : Iter.Src α => s.pulled) (Iter.Src.of l) L l.length ∧
      SDen Stream.Err.soft (Stream.filter (fun a => .ok (keep a)) Stream.src) (fun st => st.inner.pulled)
        ⟨Stream.Src.of (l.map Stream.Ev.item)⟩ L (.end_ l.length) :=
  ⟨_, agree_filter keep (iter_stream_agree_source l).1 (iter_stream_agree_source l).2⟩

/-- `Map`: iterator and stream versions agree. -/
theorem iter_stream_agree_map (f : α → β) (l : List α) :
    ∃ L, Den (Iter.map f Iter.src) (fun s : Iter.Src α => s.pulled) (Iter.Src.of l) L l.length ∧
      SDen Stream.Err.soft (Stream.map (fun a => .ok (f a)) Stream.src) (fun st => st.inner.pulled)
        ⟨Stream.Src.of (l.map Stream.Ev.item)⟩ L (.end_ l.length) :=
  ⟨_, agree_map f (iter_stream_agree_source l).1 (iter_stream_agree_source l).2⟩

/-- `Chunk`: iterator and stream versions agree (same chunks, same pull counts). -/
theorem iter_stream_agree_chunk (n : Nat) (l : List α) :
    ∃ L, Den (Iter.chunk (n : Int) Iter.src) (fun st => st.inner.pulled) ⟨Iter.Src.of l, []⟩ L l.length ∧
      SDen Stream.Err.soft (Stream.chunk (n : Int) Stream.src) (fun st => st.inner.pulled)
        ⟨Stream.Src.of (l.map Stream.Ev.item), []⟩ L (.end_ l.length) :=
  ⟨_, agree_chunk n (iter_stream_agree_source l).1 (iter_stream_agree_source l).2⟩

/-- `CompactFunc`: iterator and stream versions agree. -/
theorem iter_stream_agree_compact (eq : α → α → Bool) (l : List α) :
    ∃ L, Den (Iter.compact eq Iter.src) (fun st => st.inner.pulled) ⟨Iter.Src.of l, true, none⟩ L l.length ∧
      SDen Stream.Err.soft (Stream.compact eq Stream.src) (fun st => st.inner.pulled)
        ⟨Stream.Src.of (l.map Stream.Ev.item), true, none⟩ L (.end_ l.length) :=
  ⟨_, agree_compact eq (iter_stream_agree_source l).1 (iter_stream_agree_source l).2⟩

/-- `First`: iterator and stream versions agree (same items, same pull counts, the end without a further pull). -/
theorem iter_stream_agree_first (n : Nat) (l : List α) :
    ∃ L e, Den (Iter.first Iter.src) (fun st => st.inner.pulled) ⟨Iter.Src.of l, n, false⟩ L e ∧
      SDen Stream.Err.soft (Stream.first Stream.src) (fun st => st.inner.pulled)
        ⟨Stream.Src.of (l.map Stream.Ev.item), n⟩ L (.end_ e) :=
  ⟨_, _, agree_first (n : Int) (iter_stream_agree_source l).1 (iter_stream_agree_source l).2 rfl⟩

/-- `While`: iterator and stream versions agree. -/
theorem iter_stream_agree_while (f : α → Bool) (l : List α) :
    ∃ L e, Den (Iter.while_ f Iter.src) (fun st => st.inner.pulled) ⟨Iter.Src.of l, false⟩ L e ∧
      SDen Stream.Err.soft (Stream.while_ (fun a => .ok (f a)) Stream.src) (fun st => st.inner.pulled)
        ⟨Stream.Src.of (l.map Stream.Ev.item), none, false⟩ L (.end_ e) :=
  ⟨_, _, agree_while f (iter_stream_agree_source l).1 (iter_stream_agree_source l).2⟩

/-- `Runs` under the documented protocol (any `take`, reflexive `same`): the iterator machine and the
stream machine over the same list yield the same runs at the same pull counts (and both are `Seq.runs`,
see `runs_denotes` / `s_runs_spec`). -/
theorem iter_stream_agree_runs (same : α → α → Bool) (hrefl : ∀ a, same a a = true) (take : Option Nat)
    (closeInner : Bool) (l : List α) :
    ∃ L, Den (Iter.runsProto same take Iter.src) (IterDen.rcost fun s : Iter.Src α => s.pulled)
        ⟨⟨⟨Iter.Src.of l, none⟩, 0, none⟩, none⟩ L l.length ∧
      SDen Stream.Err.soft (Stream.runsProto same take closeInner Stream.src)
        (StreamDen.rcost fun s : Stream.Src α => s.pulled) ⟨⟨⟨ofList l, none⟩, 0, none⟩, none⟩ L (.end_ l.length) := by
  refine ⟨runsStartA same take (annot 0 l) l.length, C07.runs_pulls same hrefl take l, ?_⟩
  have h := C07.s_runs_pulls same hrefl take closeInner l
  rwa [runsStart_agree] at h

theorem flatten_slices_den (ls : List (List α)) :
    Den (Iter.flatten Iter.src Iter.src) (fun st => st.outer.pulled) ⟨Iter.Src.of (ls.map Iter.Src.of), none⟩
      ((annot 0 ls).flatMap fun p => p.1.map fun a => (a, p.2)) ls.length := by
  have h := flatten_den (mi := Iter.src) (fun s : Iter.Src α => s.rest) (slice_denotes (ls.map Iter.Src.of))
    (fun p _ => src_denL p.1)
  rwa [flatten_annot, List.length_map] at h

theorem join_slices_den (ls : List (List α)) :
    Den (Iter.join Iter.src) (fun _ => 0) (ls.map Iter.Src.of) (ls.flatten.map fun a => (a, 0)) 0 := by
  have h := join_den (m := Iter.src) (fun s : Iter.Src α => s.rest) (ls.map Iter.Src.of)
    (fun s _ => src_denL s)
  rwa [flatMap_rest_of] at h

/-- `Flatten`: iterator and stream versions yield the same items at the same (outer) pull counts. -/
theorem iter_stream_agree_flatten (ls : List (List α)) :
    ∃ L, Den (Iter.flatten Iter.src Iter.src) (fun st => st.outer.pulled) ⟨Iter.Src.of (ls.map Iter.Src.of), none⟩ L ls.length ∧
      SDen Stream.Err.soft (Stream.flatten Stream.src Stream.src) (fun st => st.outer.pulled)
        ⟨ofList (ls.map ofList), none, []⟩ L (.end_ ls.length) :=
  ⟨_, flatten_slices_den ls, C07.s_flatten_pulls ls⟩

/-- `stream.FlattenSlices` has no iterator namesake; it agrees with `iterator.Flatten` over slice
iterators (and with `stream.Flatten`, see `iter_stream_agree_flatten`): same items, same pull counts. -/
theorem iter_stream_agree_flattenSlices (ls : List (List α)) :
    ∃ L, Den (Iter.flatten Iter.src Iter.src) (fun st => st.outer.pulled) ⟨Iter.Src.of (ls.map Iter.Src.of), none⟩ L ls.length ∧
      SDen Stream.Err.soft (Stream.flattenSlices Stream.src) (fun st => st.inner.pulled) ⟨ofList ls, []⟩ L (.end_ ls.length) :=
  ⟨_, flatten_slices_den ls, C07.s_flattenSlices_pulls ls⟩

/-- **`iter_stream_agree_join_partial`**. Full statement: the iterator and the stream `Join` yield the same
items *at the same pull counts*. Proved: both yield the concatenation (values); the iterator's pull
counts are `join_pulls`, the stream machine's denotation lemma carries cost 0 (its pull counts are
checked by the harness only). -/
theorem iter_stream_agree_join_partial (ls : List (List α)) :
    ∃ L, L.map Prod.fst = ls.flatten ∧
      Den (Iter.join Iter.src) (fun _ => 0) (ls.map Iter.Src.of) L 0 ∧
      SDen Stream.Err.soft (Stream.join Stream.src) (fun _ => 0) ⟨ls.map ofList, []⟩ L (.end_ 0) := by
  refine ⟨ls.flatten.map fun a => (a, 0), by simp [Function.comp_def], join_slices_den ls, ?_⟩
  · have h := join_sden (soft := Stream.Err.soft) srcD (ls.map ofList) (fun s hs => by
      obtain ⟨l, _, hl⟩ := List.mem_map.mp hs
      rw [← hl]
      exact srcD_hyp_script (l.map Stream.Ev.item)) []
    rwa [joinS_ended] at h

/-! reducers: an iterator and a stream (any machines, e.g. two pipelines) that denote the same list
return the same value -/

section reducers
variable {σ : Type u} {σ' : Type w}

/-- `Collect`. -/
theorem iter_stream_agree_collect {mi : Iter.IM σ α} {ms : Stream.SM σ' α} {ci : σ → Nat} {cs : σ' → Nat} {si : σ} {ss : σ'}
    {Li Ls : List (α × Nat)} {ei es : Nat} (hi : Den mi ci si Li ei) (hs : SDen strict ms cs ss Ls (.end_ es))
    (hL : Li.map Prod.fst = Ls.map Prod.fst) :
    ∃ F, ∀ fuel, F ≤ fuel → (Iter.collect mi fuel si).1 = some (Li.map Prod.fst) ∧
      (Stream.collect ms true fuel ss).1 = .ok (Li.map Prod.fst) := by
  exact ((collect_den hi).and (collect_strict hs)).mono fun fuel ⟨h1, h2⟩ => ⟨h1, by rw [h2.1, hL]; rfl⟩

/-- `Reduce` (the stream callback being the total function `f`). -/
theorem iter_stream_agree_reduce {mi : Iter.IM σ α} {ms : Stream.SM σ' α} {ci : σ → Nat} {cs : σ' → Nat} {si : σ} {ss : σ'}
    {Li Ls : List (α × Nat)} {ei es : Nat} (f : β → α → β) (hi : Den mi ci si Li ei)
    (hs : SDen strict ms cs ss Ls (.end_ es)) (hL : Li.map Prod.fst = Ls.map Prod.fst) :
    ∃ F, ∀ fuel, F ≤ fuel → ∀ init, (Iter.reduce mi f fuel init si).1 = some ((Li.map Prod.fst).foldl f init) ∧
      (Stream.reduce ms (fun acc a => .ok (f acc a)) true fuel init ss).1 = .ok ((Li.map Prod.fst).foldl f init) := by
  exact ((reduce_run f hi).and (reduce_strict (fun acc a => Except.ok (f acc a)) hs)).mono
    fun fuel ⟨h1, h2⟩ init => ⟨(h1 init).1, by rw [(h2 init).1, foldRes_ok, hL]; rfl⟩

/-- `Last` (every `n ≥ 0`). -/
theorem iter_stream_agree_last {mi : Iter.IM σ α} {ms : Stream.SM σ' α} {ci : σ → Nat} {cs : σ' → Nat} {si : σ} {ss : σ'}
    {Li Ls : List (α × Nat)} {ei es : Nat} (n : Nat) (hi : Den mi ci si Li ei) (hs : SDen strict ms cs ss Ls (.end_ es))
    (hL : Li.map Prod.fst = Ls.map Prod.fst) :
    ∃ F, ∀ fuel, F ≤ fuel → ∃ v, (Iter.last mi (n : Int) fuel si).1 = .ok v ∧ (Stream.last ms (n : Int) true fuel ss).1 = .ok v := by
  exact ((last_run n hi).and (last_strict n hs)).mono fun fuel ⟨h1, h2⟩ => ⟨_, h1.1, by rw [h2.1, hL]; rfl⟩

/-- `One`: the iterator's `(item, ok)` is the stream's result read through `oneOpt`
(`ErrEmpty` / `ErrMoreThanOne` ↦ not ok). -/
theorem iter_stream_agree_one {mi : Iter.IM σ α} {ms : Stream.SM σ' α} {ci : σ → Nat} {cs : σ' → Nat} {si : σ} {ss : σ'}
    {Li Ls : List (α × Nat)} {ei es : Nat} (hi : Den mi ci si Li ei) (hs : SDen strict ms cs ss Ls (.end_ es))
    (hL : Li.map Prod.fst = Ls.map Prod.fst) :
    ∃ F, ∀ fuel, F ≤ fuel → (Iter.one mi fuel si).1 = some (oneOpt (Stream.one ms true fuel ss).1) := by
  exact ((one_run hi).and (one_sden hs)).mono fun fuel ⟨h1, h2⟩ => by rw [h1.1, h2, oneRes_opt, hL]; rfl

/-- non-vacuity: the slice iterator and the fault-free scripted stream over the same list qualify -/
example (l : List α) : ∃ (Li Ls : List (α × Nat)) (ei es : Nat),
    Den Iter.src (fun s : Iter.Src α => s.pulled) (Iter.Src.of l) Li ei ∧
    SDen strict Stream.src (fun s : Stream.Src α => s.pulled) (ofList l) Ls (.end_ es) ∧
    Li.map Prod.fst = Ls.map Prod.fst :=
  ⟨_, _, _, _, slice_denotes l, items_src_strict l, rfl⟩

example : (Iter.one Iter.src 5 (Iter.Src.of [7])).1 = some (oneOpt (Stream.one Stream.src true 5 (ofList [7])).1) := by
  decide +kernel

end reducers

end agree

section xslices
open Juniper.Proofs.IterDen Juniper.Proofs.XS
variable {α β : Type}

/-- an iterator state yields exactly the list `l` (annotations dropped) -/
def Yields {σ : Type u} (m : Iter.IM σ α) (s : σ) (l : List α) : Prop :=
  ∃ (cost : σ → Nat) (L : List (α × Nat)) (e : Nat), Den m cost s L e ∧ L.map Prod.fst = l

theorem yields_slice (l : List α) : Yields Iter.src (Iter.Src.of l) l :=
  src_denL (Iter.Src.of l)

/-! The `XSlices.*` functions are executed by `driver comb` and compared with the real `xslices`
functions by `harness/cmd/c07` (modes `xs` and `agree`); `Chunk` / `Runs` are the Go loops over
regenerated bounds, the others are the C19 models (regenerated wrapper bodies / loop bodies,
`slices.*` by contract). `zero` is the zero value of the element type (it never shows). -/

/-- `Chunk` (sizes ≥ 1): `xslices.Chunk` returns the chunks the iterator yields. -/
theorem xslices_agree_chunk (n : Nat) (hn : 1 ≤ n) (l : List α) :
    XSlices.chunk l (n : Int) = some (Seq.chunk n l) ∧
    Yields (Iter.chunk (n : Int) Iter.src) ⟨Iter.Src.of l, []⟩ (Seq.chunk n l) :=
  ⟨chunk_eq l n hn, _, _, _, chunk_den n (slice_denotes l) [], by rw [chunkGoA_fst, annot_fst]; rfl⟩

/-- `Runs` (reflexive `same`): `xslices.Runs` returns the runs the iterator yields under the documented protocol. -/
theorem xslices_agree_runs (same : α → α → Bool) (hrefl : ∀ a, same a a = true) (l : List α) :
    XSlices.runs same l = some (Seq.runs same l) ∧
    Yields (Iter.runsProto same none Iter.src) ⟨⟨⟨Iter.Src.of l, none⟩, 0, none⟩, none⟩ (Seq.runs same l) :=
  ⟨runs_eq same l, _, _, _, (runs_den same hrefl none (slice_denotes l)).2.2 0,
    by rw [runsStartA_all_fst, annot_fst]⟩

/-- `CompactFunc` with an equivalence: `xslices.CompactFunc` (= `slices.CompactFunc(slices.Clone(s), eq)`,
which compares neighbours) returns what the iterator (which compares with the last item kept) yields. -/
theorem xslices_agree_compact (zero : α) (eq : α → α → Bool) (h : Seq.Equiv eq) (l : List α) :
    XSlices.compactFunc zero eq l = Seq.compact eq l ∧
    Yields (Iter.compact eq Iter.src) (Iter.compactInit (Iter.Src.of l)) (Seq.compact eq l) := by
  refine ⟨compactFunc_eq zero eq h l, _, _, _, compact_den eq (slice_denotes l) none, ?_⟩
  rw [compactGo_fst, annot_fst]
  rfl

/-- `Filter`: `xslices.Filter` (= `slices.DeleteFunc(slices.Clone(s), !keep)`) keeps what the iterator yields. -/
theorem xslices_agree_filter (zero : α) (keep : α → Bool) (l : List α) :
    XSlices.filter zero keep l = l.filter keep ∧ Yields (Iter.filter keep Iter.src) (Iter.Src.of l) (l.filter keep) := by
  refine ⟨filter_eq zero keep l, _, _, _, filter_den keep (slice_denotes l), ?_⟩
  rw [← annot_fst 0 l, List.filter_map, annot_fst]
  rfl

/-- `Map`: the loop of `xslices.Map` never panics and returns what the iterator yields. -/
theorem xslices_agree_map (zero : β) (f : α → β) (l : List α) :
    XSlices.map zero f l = some (l.map f) ∧ Yields (Iter.map f Iter.src) (Iter.Src.of l) (l.map f) := by
  refine ⟨map_eq zero f l, _, _, _, map_den f (slice_denotes l), ?_⟩
  rw [List.map_map]
  have : (Prod.fst ∘ fun (p : α × Nat) => (f p.1, p.2)) = f ∘ Prod.fst := rfl
  rw [this, ← List.map_map, annot_fst]

/-- `Join`: the two loops of `xslices.Join` never panic and return what the iterator yields. -/
theorem xslices_agree_join (zero : α) (ls : List (List α)) :
    XSlices.join zero ls = some ls.flatten ∧ Yields (Iter.join Iter.src) (ls.map Iter.Src.of) ls.flatten :=
  ⟨join_eq zero ls, _, _, _, C07.join_slices_den ls, by simp [Function.comp_def]⟩

/-- `Reduce`: the loop of `xslices.Reduce` is the left fold `iterator.Reduce` computes. -/
theorem xslices_agree_reduce (zero : β) (f : β → α → β) (init : β) (l : List α) :
    XSlices.reduce zero f init l = l.foldl f init ∧
    ∃ F, ∀ fuel, F ≤ fuel → (Iter.reduce Iter.src f fuel init (Iter.Src.of l)).1 = some (l.foldl f init) := by
  refine ⟨XS.reduce_eq zero f init l, ?_⟩
  exact (reduce_run f (slice_denotes l)).mono fun fuel hF => by have := (hF init).1; rwa [annot_fst] at this

/-- `Repeat` (`n ≥ 0`): `xslices.Repeat` returns what `iterator.Repeat` yields. -/
theorem xslices_agree_repeat (zero a : α) (n : Nat) (hn : (n : Int) ≤ Stdlib.allocLimit) :
    XSlices.repeat_ zero a (n : Int) = some (List.replicate n a) ∧
    Yields (Iter.repeat_ a) (Iter.repeatInit (n : Int)) (List.replicate n a) := by
  refine ⟨by rw [repeat_eq]; simp; omega, _, _, _, repeat_denotes a (n : Int), ?_⟩
  simp

/-- `Compact` (comparable elements): `xslices.Compact` (= `slices.Compact(slices.Clone(s))`) returns what
`iterator.Compact` (the wrapper) yields. -/
theorem xslices_agree_compact_eq [DecidableEq α] (zero : α) (l : List α) :
    XSlices.compact zero l = Seq.compact (fun a b => decide (a = b)) l ∧
    Yields (Iter.compactEq Iter.src) (Iter.compactInit (Iter.Src.of l))
      (Seq.compact (fun a b => decide (a = b)) l) := by
  have h := xslices_agree_compact zero (fun a b => decide (a = b))
    ⟨fun a => by simp, fun a b h => by simp at h ⊢; exact h.symm, fun a b c h1 h2 => by simp at h1 h2 ⊢; exact h1.trans h2⟩ l
  rw [Sources.icompactEq_eq]
  exact ⟨by rw [compact_items]; exact h.1, h.2⟩

/-- `Flatten` of slice iterators yields what `xslices.Join` returns. -/
theorem xslices_agree_flatten (zero : α) (ls : List (List α)) :
    XSlices.join zero ls = some ls.flatten ∧
    Yields (Iter.flatten Iter.src Iter.src) ⟨Iter.Src.of (ls.map Iter.Src.of), none⟩ ls.flatten :=
  ⟨join_eq zero ls, _, _, _, C07.flatten_slices_den ls, (flatMap_annot_fst id 0 ls).trans List.flatMap_id⟩

/-- `Equal` (two slices): `xslices.Equal` (= `slices.Equal`) = `iterator.Equal` on the two slice iterators. -/
theorem xslices_agree_equal [DecidableEq α] (a b : List α) :
    ∃ F, ∀ fuel, F ≤ fuel → ∀ rounds, a.length + 1 ≤ rounds →
      (Iter.equal Iter.src fuel rounds [Iter.Src.of a, Iter.Src.of b]).1 = some (XSlices.equal a b) := by
  refine (equal_den a (Iter.Src.of a) [Iter.Src.of b] [b]
    (src_denL (Iter.Src.of a)) (.cons (src_denL (Iter.Src.of b)) .nil)).mono
    fun fuel hF rounds hr => ?_
  rw [hF rounds hr, XS.equal_eq]
  simp only [List.mem_singleton, forall_eq]
  congr 1
  exact decide_eq_decide.mpr ⟨fun h => h.symm, fun h => h.symm⟩

example : XSlices.equal [1, 2] [1, 2] = true ∧ XSlices.equal [1, 2] [1] = false ∧
    XSlices.reduce 0 (fun acc a => acc * 3 + a) 0 [1, 2] = 5 ∧ XSlices.compact 0 [1, 1, 2, 1] = [1, 2, 1] ∧
    XSlices.filter 0 (fun n => n % 2 == 0) [1, 2, 4] = [2, 4] ∧ XSlices.join 0 [[1], [], [2, 3]] = some [1, 2, 3] := by decide +kernel

end xslices

end Juniper.Props.C07
