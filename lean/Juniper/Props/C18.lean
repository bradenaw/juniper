import Juniper.Proofs.LTS
import Juniper.Proofs.TypedMap
import Juniper.Proofs.WatchLive
import Juniper.Proofs.Future
import Juniper.Proofs.Lazy
/-!
# C18 — Watchable / Future / Lazy / xsync.Map (property theorems)

The typed-map theorems are about the wrapper functions of `Model/Watch.lean` instantiated with
`MapCfg.gen` (the classified bodies of `Load`, `LoadAndDelete`, `LoadOrStore`, `Swap` and of the
closure of `Range`, as regenerated from the source); the Watchable / Future theorems are about
`wstep WCfg.gen` / `fstep FCfg.gen`, whose shape is tied to the classified statements of `Set`,
`Value`, `Fill`, `Wait`, `WaitContext`, `NewFuture` and to the declared field types
(`p atomic.Pointer[watchableInner[T]]`, `c chan struct{}`); `lazy_once` is about `lstep lazyOnceGen`.
`sync.Map`, `sync.OnceValue`, `atomic.Pointer`, channels and contexts are modelled by their
documented behaviour.

Every theorem discharges its tie to the regenerated facts inside its own proof
(`have hgen : … .gen = … .std := by decide` or `by decide +kernel`): when a fact changes, the property
theorem itself stops compiling. No theorem of this file has an auto-param (`:= by decide`) hypothesis.
-/
namespace Juniper.Props.C18
open Juniper.Model.Watch Juniper.Proofs.Watch

section TypedMap
variable {K UK V UV : Type} [DecidableEq UK] [DecidableEq UV]

/-- **xsync.Map returns for every operation and every key state exactly what sync.Map returns**
(read back into the type parameters, the nil interface being the zero value) **and never panics**;
the underlying `sync.Map` goes through exactly the states it would go through when used directly.
For every kind of key and value type (`kk`, `vk` arbitrary: interface or not), every map state
`m` (so: absent keys, present keys, stored nil interface values) and all arguments.
`Range`, for EVERY callback `f` (so: one that stops at the first, at a middle, at the last entry or
never): the typed `Range` invokes `f` on exactly the typed images of the entries that
`sync.Map.Range` hands to a callback that answers what `f` answers on the typed image — the same
entries, in the same order, stopping at the same position (all entries up to and including the
first on which `f` returns false).
The tie to the source is `MapCfg.sound MapCfg.gen` (`Proofs/TypedMap.lean`), not equality with one fixed configuration:
every assertion comma-ok, no absent-key guard in `LoadOrStore`, the closure of `Range` as classified, the forwarding
and the method set intact — a source that adds or drops the (then immaterial) absent-key guard in `Load`,
`LoadAndDelete` or `Swap` still satisfies it (audit C18 F7), a plain assertion `x.(V)` does not. -/
theorem typedMap_refines_syncMap (kk : Kind K UK) (vk : Kind V UV) (m : SMap UK UV) (k : K) (v old new : V)
    (f : K → V → Bool) :
    tLoad MapCfg.gen kk vk m k = (m, .ok (vk.ofAny (m.load (kk.toAny k)).1, (m.load (kk.toAny k)).2)) ∧
    tStore kk vk m k v = (m.store (kk.toAny k) (vk.toAny v), .ok ()) ∧
    tDelete kk m k = (m.delete (kk.toAny k), .ok ()) ∧
    tLoadAndDelete MapCfg.gen kk vk m k =
      ((m.loadAndDelete (kk.toAny k)).1,
        .ok (vk.ofAny (m.loadAndDelete (kk.toAny k)).2.1, (m.loadAndDelete (kk.toAny k)).2.2)) ∧
    tLoadOrStore MapCfg.gen kk vk m k v =
      ((m.loadOrStore (kk.toAny k) (vk.toAny v)).1,
        .ok (vk.ofAny (m.loadOrStore (kk.toAny k) (vk.toAny v)).2.1, (m.loadOrStore (kk.toAny k) (vk.toAny v)).2.2)) ∧
    tSwap MapCfg.gen kk vk m k v =
      ((m.swap (kk.toAny k) (vk.toAny v)).1,
        .ok (vk.ofAny (m.swap (kk.toAny k) (vk.toAny v)).2.1, (m.swap (kk.toAny k) (vk.toAny v)).2.2)) ∧
    tCompareAndSwap kk vk m k old new =
      ((m.compareAndSwap (kk.toAny k) (vk.toAny old) (vk.toAny new)).1,
        .ok (m.compareAndSwap (kk.toAny k) (vk.toAny old) (vk.toAny new)).2) ∧
    tCompareAndDelete kk vk m k old =
      ((m.compareAndDelete (kk.toAny k) (vk.toAny old)).1, .ok (m.compareAndDelete (kk.toAny k) (vk.toAny old)).2) ∧
    tRange MapCfg.gen kk vk m f =
      .ok ((m.rangeWith (fun k' v' => f (kk.ofAny k') (vk.ofAny v'))).map (fun p => (kk.ofAny p.1, vk.ofAny p.2))) := by
  have hgen : MapCfg.sound MapCfg.gen = true := by decide +kernel
  obtain ⟨h1, h2, h3, h4, h5⟩ := typed_of_sound MapCfg.gen hgen kk vk m k v f
  exact ⟨h1, rfl, rfl, h2, h3, h4, rfl, rfl, h5⟩

/-- **… reporting absent values as the zero value rather than panicking**: on a key that is not in
the map, `Load`, `LoadAndDelete` and `Swap` return the zero value and `false`. -/
theorem typedMap_absent_is_zero (kk : Kind K UK) (vk : Kind V UV) (m : SMap UK UV) (k : K) (v : V)
    (habs : m.find (kk.toAny k) = none) :
    (tLoad MapCfg.gen kk vk m k).2 = .ok (vk.zero, false) ∧
    (tLoadAndDelete MapCfg.gen kk vk m k).2 = .ok (vk.zero, false) ∧
    (tSwap MapCfg.gen kk vk m k v).2 = .ok (vk.zero, false) := by
  have h := typedMap_refines_syncMap kk vk m k v v v (fun _ _ => true)
  rw [h.1, h.2.2.2.1, h.2.2.2.2.2.1]
  simp [SMap.load, SMap.loadAndDelete, SMap.swap, habs, Kind.ofAny]

/-- both kinds of type parameter are covered: a value survives the round trip through
`interface{}` for a non-interface type (`int`) and for an interface type (`error`, `any`), where the
nil interface is the zero value -/
theorem kinds_lawful (T : Type) (zero : T) (U : Type) : (concrete T zero).Lawful ∧ (iface U).Lawful := by
  constructor
  · intro t; rfl
  · intro t; cases t <;> rfl

/-- **what went in through the wrapper comes out of it**, for value types that are and that are not interfaces:
after `Store(k, v)`, `Load(k)` returns exactly `v` and `true` — for every kind of value type whose values survive the
round trip through `interface{}` (`Lawful`; both `concrete` and `iface` are, `kinds_lawful`), in particular a stored
nil `error` comes back as nil, `true` and a stored `0` as `0`, `true` (not as "absent"). -/
theorem typedMap_store_then_load (kk : Kind K UK) (vk : Kind V UV) (hv : vk.Lawful) (m : SMap UK UV) (k : K) (v : V) :
    (tLoad MapCfg.gen kk vk (tStore kk vk m k v).1 k).2 = .ok (v, true) := by
  have h := (typedMap_refines_syncMap kk vk (tStore kk vk m k v).1 k v v v (fun _ _ => true)).1
  rw [h]
  simp only [tStore, smap_load_store, hv v]

/-- … instantiated at both kinds (this is where `kinds_lawful` is used) -/
theorem typedMap_store_then_load_both_kinds (T : Type) (zero : T) (U : Type) [DecidableEq T] [DecidableEq U]
    (m1 : SMap T T) (m2 : SMap T U) (k v : T) (e : Option U) :
    (tLoad MapCfg.gen (concrete T zero) (concrete T zero) (tStore (concrete T zero) (concrete T zero) m1 k v).1 k).2
      = .ok (v, true) ∧
    (tLoad MapCfg.gen (concrete T zero) (iface U) (tStore (concrete T zero) (iface U) m2 k e).1 k).2 = .ok (e, true) :=
  ⟨typedMap_store_then_load _ _ (kinds_lawful T zero U).1 m1 k v,
   typedMap_store_then_load _ _ (kinds_lawful T zero U).2 m2 k e⟩

/-- robustness of the tie (audit C18 F7): a source without the absent-key guard in `Load` and with one in `Swap` —
behaviourally the same wrapper — is still `sound`; a plain assertion in `Load`, or a guard in `LoadOrStore`, is not. -/
example : MapCfg.sound { MapCfg.gen with loadGuard := false, swapGuard := true } = true ∧
    MapCfg.sound { MapCfg.gen with loadAssert := .plain } = false ∧
    MapCfg.sound { MapCfg.gen with losGuard := true } = false := by decide +kernel

/-- non-vacuity: `V = error` with a stored nil value, and an absent key -/
example : tLoad MapCfg.gen (concrete Int 0) (iface Int) [(some 1, none)] 1 = ([(some 1, none)], .ok (none, true)) ∧
    (tSwap MapCfg.gen (concrete Int 0) (concrete Int 0) [] 5 7).2 = .ok (0, false) := by decide +kernel

/-- non-vacuity of the `Range` conjunct: `K = int`, `V = error`, three entries (the second one a
stored nil value), a callback that stops at the second entry: `f` is invoked on the first two
entries and not on the third; a callback that never stops sees all three; on the empty map `f`
is not called. -/
example :
    tRange MapCfg.gen (concrete Int 0) (iface Int) [(some 1, some 10), (some 2, none), (some 3, some 30)]
      (fun k _ => decide (k < 2)) = .ok [(1, some 10), (2, none)] ∧
    tRange MapCfg.gen (concrete Int 0) (iface Int) [(some 1, some 10), (some 2, none), (some 3, some 30)]
      (fun _ _ => true) = .ok [(1, some 10), (2, none), (3, some 30)] ∧
    tRange MapCfg.gen (concrete Int 0) (iface Int) [(some 1, some 10), (some 2, none), (some 3, some 30)]
      (fun _ _ => false) = .ok [(1, some 10)] ∧
    tRange MapCfg.gen (concrete Int 0) (iface Int) [] (fun _ _ => false) = .ok [] := by decide +kernel

end TypedMap

/-- **`Value` returns the most recently `Set` value (the zero value before the first `Set`)**, for
all interleavings of concurrent `Set` and `Value` calls, `Value` racing the first `Set` included:
a `Value` call that has returned cell `c` read the pointer for the last time when `lin` `Set`s had
swapped (`lin` is recorded by the model at that read), and the value of `c` is the last of those
`lin` values — `none`, the zero value, if `lin = 0`. -/
theorem value_is_latest_set {s : WState} {j c lin : Nat} (hr : WReach WCfg.gen s)
    (hj : s.readers[j]? = some (.done c lin)) :
    lin ≤ s.hist.length ∧ (cellAt s c).val = latest (s.hist.take lin) := by
  have hgen : WCfg.gen = WCfg.std := by decide +kernel
  rw [hgen] at hr
  have hI := winv_reach hr
  obtain ⟨ce, hce, rfl⟩ := hI.reader j c lin hj
  rw [cellAt_eq hce]
  exact ⟨(hI.cell c ce hce).1, (hI.cell c ce hce).2.1⟩

example : ∃ s, WReach WCfg.gen s ∧ s.readers[0]? = some (.done 1 1) ∧ (cellAt s 1).val = some 7 ∧ s.hist = [7, 8] :=
  (LTS.runOf_isRun (wstep WCfg.gen)).exists_reach (.step _) (.init [7, 8] 2) [.load 0, .load 1, .cas 1, .cas 0, .swap 0, .reload 0, .swap 1] (by decide +kernel)

/-- **… together with a channel that is closed if and only if a later `Set` has happened**: if the
channel of the returned cell is closed then more than `lin` `Set`s have swapped; and if more than
`lin` `Set`s have swapped then the channel is closed, or the `Set` call that swapped the cell out
is between its `Swap` and its `close` — its next step is enabled and closes the channel. -/
theorem chan_closed_iff_later_set {s : WState} {j c lin : Nat} (hr : WReach WCfg.gen s)
    (hj : s.readers[j]? = some (.done c lin)) :
    ((cellAt s c).closed = true → lin < s.hist.length) ∧
    (lin < s.hist.length → (cellAt s c).closed = true ∨
      ∃ (i : Nat) (v : Int), s.setters[i]? = some (v, .swapped (some c)) ∧
        ∃ s', wstep WCfg.gen s (.close i) = some s' ∧ (cellAt s' c).closed = true) := by
  have hgen : WCfg.gen = WCfg.std := by decide +kernel
  rw [hgen] at hr ⊢
  have hI := winv_reach hr
  obtain ⟨ce, hce, rfl⟩ := hI.reader j c lin hj
  obtain ⟨_, _, h3, h4⟩ := hI.cell c ce hce
  have hlt := (List.getElem?_eq_some_iff.mp hce).1
  rw [cellAt_eq hce]
  -- the returned cell is the current one iff no later `Set` has swapped
  by_cases hlast : c + 1 = s.cells.length
  · obtain ⟨he, hopen⟩ := h3 hlast
    exact ⟨fun hcl => (nomatch hopen.symm.trans hcl), fun hl => absurd hl (by omega)⟩
  · obtain ⟨he, hcl | ⟨i, v, hi⟩⟩ := h4 (by omega)
    · exact ⟨fun _ => he, fun _ => .inl hcl⟩
    · refine ⟨fun _ => he, fun _ => ?_⟩
      cases hc : ce.closed with
      | true => exact .inl rfl
      | false =>
        exact .inr ⟨i, v, hi, _, wstep_iff.mpr (.close hi ((cellAt_eq hce).symm ▸ hc)),
          by rw [cellAt_eq (List.getElem?_set_self hlt)]⟩

/-- **… so an observer loop always ends up seeing the final value** — the statement is split into
four theorems: (1) `observer_sees_final` (this one, correctness at quiescence): when every `Set`
call has returned (none is between its `Swap` and its `close`) and the observer waits on a channel
that is not closed, the value it holds is the last value `Set`; (2) `observer_progress`: if the
channel is closed the observer's next `Value` returns a strictly later cell, and the measure is
bounded by the number of `Set` calls, so the loop `for { v, ch := w.Value(); …; <-ch }` performs at
most (number of `Set`s) + 1 iterations; (3) `value_never_blocked`: that next `Value` can always
complete, on its own steps alone, and then returns the latest value with an open channel;
(4) `watchable_never_panics`: neither `Set` nor `Value` ever panics. What is NOT a theorem: a
fairness assumption ("the observer goroutine is eventually scheduled") — with it, (1)–(4) give that
every run of the loop ends up parked on the final value. -/
theorem observer_sees_final {s : WState} {j c lin : Nat} (hr : WReach WCfg.gen s)
    (hj : s.readers[j]? = some (.done c lin)) (hopen : (cellAt s c).closed = false)
    (hquiet : ∀ (i : Nat) (v : Int) (old : Option Nat), s.setters[i]? ≠ some (v, .swapped old)) :
    (cellAt s c).val = latest s.hist := by
  obtain ⟨hle, hval⟩ := value_is_latest_set hr hj
  obtain ⟨_, hlater⟩ := chan_closed_iff_later_set hr hj
  have : lin = s.hist.length := by
    by_cases hlt : lin < s.hist.length
    · rcases hlater hlt with hcl | ⟨i, v, hi, _⟩
      · rw [hopen] at hcl; cases hcl
      · exact absurd hi (hquiet i v _)
    · omega
  subst this
  rw [hval, List.take_length]

/-- non-vacuity: both `Set`s have returned; observer 0 is parked on the open channel of the final
cell, observer 1 still holds the first cell, whose channel is closed -/
example : ∃ s, WReach WCfg.gen s ∧ s.readers[0]? = some (.done 1 2) ∧ (cellAt s 1).closed = false ∧
    s.setters = [(7, .done), (8, .done)] ∧ (cellAt s 1).val = some 8 ∧
    s.readers[1]? = some (.done 0 1) ∧ (cellAt s 0).closed = true :=
  (LTS.runOf_isRun (wstep WCfg.gen)).exists_reach (.step _) (.init [7, 8] 2) [.swap 0, .close 0, .load 1, .swap 1, .close 1, .load 0] (by decide +kernel)

/-- **Neither `Set` nor `Value` ever panics** (all interleavings, any number of concurrent `Set` and
`Value` calls): `Set`'s `close(oldInner.c)` never hits a closed channel — a cell that has been
swapped out has exactly one `Set` call that will close it, and it is open until that call does —
and `Value`'s `inner.t` after the reload never dereferences nil — once the `CompareAndSwap(nil, _)`
has failed the pointer is non-nil for good. Without this, the three theorems above would say
nothing about a `Value` that did not return. -/
theorem watchable_never_panics {s : WState} (hr : WReach WCfg.gen s) :
    (∀ (i : Nat) (v : Int), s.setters[i]? ≠ some (v, .panicked)) ∧ (∀ (j : Nat), s.readers[j]? ≠ some .panicked) := by
  have hgen : WCfg.gen = WCfg.std := by decide +kernel
  rw [hgen] at hr
  exact ⟨(wsafe_reach hr).set_ok, (wsafe_reach hr).val_ok⟩

/-- non-vacuity: the two steps that could panic do happen — a `Value` whose CAS failed reloads, and
two `Set`s close the channels they swapped out, out of order -/
example : ∃ s, WReach WCfg.gen s ∧ s.readers = [.done 1 1, .done 0 0] ∧ s.setters = [(7, .done), (8, .done)] ∧
    (s.cells.map (·.closed)) = [true, true, false] :=
  (LTS.runOf_isRun (wstep WCfg.gen)).exists_reach (.step _) (.init [7, 8] 2) [.load 0, .load 1, .cas 1, .cas 0, .swap 0, .reload 0, .swap 1, .close 1, .close 0]
    (by decide +kernel)

/-- **Progress of the observer loop**: the observer holds the result `(c, lin)` of a `Value` call
whose channel is closed; its next `Value` call `j'` has not started yet in `s`. In whatever later
state `s'` that call has returned, it returned a cell of a strictly later epoch (`lin < lin'`);
`lin'` is at most the number of `Set`s that have swapped, which is at most the number of `Set` calls
of the run (`setters.length`, which no step changes). So `setters.length - lin` is a strictly
decreasing measure of the loop `for { v, ch := w.Value(); …; <-ch }`: it performs at most
(number of `Set` calls) + 1 iterations. -/
theorem observer_progress {s s' : WState} {j j' c lin c' lin' : Nat} (hr : WReach WCfg.gen s)
    (hj : s.readers[j]? = some (.done c lin)) (hclosed : (cellAt s c).closed = true)
    (hidle : s.readers[j']? = some .idle) (hsteps : WSteps WCfg.gen s s')
    (hj' : s'.readers[j']? = some (.done c' lin')) :
    lin < lin' ∧ lin' ≤ s'.hist.length ∧ s'.hist.length ≤ s'.setters.length ∧ s'.setters.length = s.setters.length := by
  have hlater := (chan_closed_iff_later_set hr hj).1 hclosed
  have hle := (value_is_latest_set (wreach_steps hr hsteps) hj').1
  have hgen : WCfg.gen = WCfg.std := by decide +kernel
  rw [hgen] at hr hsteps
  obtain ⟨_, hlen, hlin⟩ := steps_reader_lin hsteps hidle
  have := hlin c' lin' hj'
  exact ⟨by omega, hle, hist_le_setters (wreach_steps hr hsteps), hlen⟩

/-- non-vacuity: observer call 0 returned the first cell (`lin = 1`), `Set(8)` closed its channel,
the observer's next call 1 returns the second cell (`lin' = 2`) -/
example : ∃ s s', WReach WCfg.gen s ∧ s.readers[0]? = some (.done 0 1) ∧ (cellAt s 0).closed = true ∧
    s.readers[1]? = some .idle ∧ WSteps WCfg.gen s s' ∧ s'.readers[1]? = some (.done 1 2) :=
  ⟨_, _, .step (.close 1) (.step (.swap 1) (.step (.load 0) (.step (.close 0) (.step (.swap 0) (.init [7, 8] 2) rfl) rfl) rfl) rfl) rfl,
    by decide +kernel, by decide +kernel, by decide +kernel, .step (.load 1) (.refl _) rfl, by decide +kernel⟩

/-- **`Value` is never blocked**: in every reachable state, a `Value` call that has not returned
(not started, or after its first `Load` saw nil, or after its CAS failed) returns within at most two
steps of its own — no other goroutine has to move — and what it then returns is the most recently
`Set` value (`lin = ` the number of `Set`s that have swapped) together with a channel that is not
closed. In particular, once no further `Set` happens, an observer that calls `Value` again (because
its channel was closed) obtains the final value and parks on an open channel. -/
theorem value_never_blocked {s : WState} {j : Nat} {pc : ValPc} (hr : WReach WCfg.gen s)
    (hj : s.readers[j]? = some pc) (hpc : pc = .idle ∨ pc = .sawNil ∨ pc = .casFailed) :
    ∃ (ls : List WLabel) (s' : WState) (c : Nat), ls.length ≤ 2 ∧ (∀ l ∈ ls, l.ofReader j = true) ∧
      wrun WCfg.gen s ls = some s' ∧ s'.readers[j]? = some (.done c s.hist.length) ∧
      (cellAt s' c).val = latest s.hist ∧ (cellAt s' c).closed = false := by
  have hgen : WCfg.gen = WCfg.std := by decide +kernel
  rw [hgen] at hr ⊢
  exact value_solo hr hj hpc

/-- non-vacuity: a reachable state with a call in each of the three unfinished program points
(call 0: CAS failed; call 1: saw nil, a `Set` has swapped since; call 2: not started) -/
example : ∃ s, WReach WCfg.gen s ∧ s.readers = [.casFailed, .sawNil, .idle] ∧ s.hist = [7] :=
  (LTS.runOf_isRun (wstep WCfg.gen)).exists_reach (.step _) (.init [7] 3) [.load 0, .load 1, .swap 0, .cas 0] (by decide +kernel)

/-- **A Future delivers the single value it was filled with to all earlier and later waiters and
never changes afterwards**: in every reachable state of a run with one `Fill(v)` call and any
number of `Wait` / `WaitContext` calls started before, during or after it, every call that returned
a value returned `v`; once the channel is closed the stored value is `v` (for good); and a blocked
waiter of a filled Future can proceed. -/
theorem future_single_value_all_waiters {v : Int} {s : FState} (hr : FReach FCfg.gen s) (hv : fvals s = [v]) :
    (∀ (j : Nat) (w : FWaiter) (r : Option Int), s.waiters[j]? = some w → w.pc = .done (.val r) → r = some v) ∧
    (s.closed = true → s.x = some v) ∧
    (∀ (j : Nat) (w : FWaiter), s.waiters[j]? = some w → w.pc = .blocked → s.closed = true →
      (fstep FCfg.gen s (.recv j)).isSome) := by
  have hgen : FCfg.gen = FCfg.std := by decide
  rw [hgen] at hr ⊢
  have hI := finv_reach hr hv
  refine ⟨hI.doneVal, hI.closed_x, ?_⟩
  intro j w hw hp hc
  simp [fstep, hw, hp, hc]

example : ∃ s, FReach FCfg.gen s ∧ fvals s = [5] ∧ s.waiters[0]? = some { withCtx := false, cancelled := false, pc := .done (.val (some 5)) } :=
  (LTS.runOf_isRun (fstep FCfg.gen)).exists_reach (.step _) (.init [5] [false, true]) [.call 0, .fill1 0, .fill2 0, .recv 0, .read 0] (by decide +kernel)

/-- **`WaitContext` gives up when its context ends**: a `WaitContext` call that is blocked while
its context has ended can return the context's error at once (the step is enabled), and a call
returns the context's error only if it is a `WaitContext` whose context has ended. -/
theorem waitContext_gives_up {v : Int} {s : FState} (hr : FReach FCfg.gen s) (hv : fvals s = [v]) :
    (∀ (j : Nat) (w : FWaiter), s.waiters[j]? = some w → w.pc = .blocked → w.withCtx = true → w.cancelled = true →
      fstep FCfg.gen s (.giveUp j) = some (setWaiter s j (.done .ctxErr))) ∧
    (∀ (j : Nat) (w : FWaiter), s.waiters[j]? = some w → w.pc = .done .ctxErr → w.withCtx = true ∧ w.cancelled = true) := by
  have hgen : FCfg.gen = FCfg.std := by decide
  rw [hgen] at hr ⊢
  refine ⟨?_, (finv_reach hr hv).doneErr⟩
  intro j w hw hp hc hcan
  simp [fstep, hw, hp, hc, hcan]

/-- **Lazy runs its function once and gives every caller that result** (`Lazy` is
`sync.OnceValue` — `lazyOnceGen`, regenerated from the body of `Lazy`; `sync.OnceValue` is modelled
by its specification, which includes a run of `f` that does not return: "If f panics, the returned
function will panic with the same value on every call"; concurrent first calls included). "That
result" is the outcome `o : LOut` of the single run — `.val v` (`f` returned `v`) or `.pan v` (`f`
panicked with `v`): `f` is started at most once, and any two calls that have ended ended with the
same outcome, the one the run of `f` produced — in particular no call returns a value when the run
panicked, and no call panics when the run returned. -/
theorem lazy_once {s : LState} (hr : LReach lazyOnceGen s) :
    s.runs ≤ 1 ∧
    ∀ (j k : Nat) (r r' : LOut), s.callers[j]? = some (.done r) → s.callers[k]? = some (.done r') →
      r = r' ∧ s.once = .done r ∧ s.runs = 1 := by
  have hgen : lazyOnceGen = true := by decide +kernel
  rw [hgen] at hr
  have hI := linv_reach hr
  cases ho : s.once with
  | fresh => exact ⟨(hI.fresh ho).1 ▸ Nat.zero_le 1, fun j _ _ _ hj => nomatch (hI.fresh ho).2 j _ hj⟩
  | running => exact ⟨Nat.le_of_eq (hI.running ho).1, fun j _ r _ hj => absurd hj ((hI.running ho).2.1 j r)⟩
  | done v =>
    obtain ⟨h1, h2, _⟩ := hI.done v ho
    refine ⟨Nat.le_of_eq h1, fun j k r r' hj hk => ?_⟩
    cases h2 j r hj
    cases h2 k r' hk
    exact ⟨rfl, rfl, h1⟩

/-- three callers, the first runs `f` (returns 4) while the second is parked behind it, the third comes later -/
example : ∃ s, LReach lazyOnceGen s ∧ s.callers = [.done (.val 4), .done (.val 4), .done (.val 4)] ∧ s.runs = 1 :=
  (LTS.runOf_isRun (lstep lazyOnceGen)).exists_reach (.step _) (.init 3) [.enter 0, .enter 1, .finish 0 (.val 4), .enter 2, .wake 1] (by decide +kernel)

/-- the same schedule with a run of `f` that panics with 7: the parked caller and the later caller
panic with 7 as well, `f` is not run again -/
example : ∃ s, LReach lazyOnceGen s ∧ s.callers = [.done (.pan 7), .done (.pan 7), .done (.pan 7)] ∧ s.runs = 1 :=
  (LTS.runOf_isRun (lstep lazyOnceGen)).exists_reach (.step _) (.init 3) [.enter 0, .enter 1, .finish 0 (.pan 7), .enter 2, .wake 1] (by decide +kernel)

end Juniper.Props.C18
