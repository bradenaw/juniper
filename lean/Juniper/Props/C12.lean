import Juniper.Proofs.MergeChans
import Juniper.Proofs.Replicate
import Juniper.Proofs.StreamMergeProgress
import Juniper.Model.Skeleton
import Juniper.Generated.Skeleton
/-!
# C12 — Merge / Replicate move every value exactly once and finish when their inputs do

Property theorems (and their non-vacuity examples) about the LTS models of `Model/Merge.lean` and
`Model/StreamMerge.lean`, whose arm tables, guards, deferred calls and presence facts are the
generated `Juniper.Gen.Merge`. Helper lemmas: `Proofs/MergeChans.lean`, `Proofs/Replicate.lean`,
`Proofs/StreamMerge*.lean`. `Reach (init V n) s` ranges over every interleaving of the producers'
sends and closes, the consumer's receives and the steps of the merging goroutine(s).
-/
namespace Juniper.Props.C12
open Juniper.Model
open Juniper.Model.Merge (HasNil)

/-- Tie 1 for the control flow *between* the regenerated facts: the statement-kind skeletons of
`chans.Merge`, `merge2`, `merge3`, `chans.Replicate`, `stream.Merge`, its per-input goroutine (`for {
Next; if End {return} else if err != nil { if CAS { cancel(); sender.Close(err) }; return }; Send; if
err != nil {return} }` under the three `defer`s), its `cancel` closure, `mergeStream.Next/Close` and
of the `Pipe` functions the merged stream is built on, regenerated from the Go source
(`Juniper.Gen.Skeleton`), are exactly the ones the LTSs hard-wire (`Model/Skeleton.lean`): no statement
was added (an early `return` in front of the CAS, a filter on the error's kind), removed or moved. -/
theorem skeleton_ok :
    (Gen.Skeleton.chansMerge = Model.Skeleton.chansMerge ∧ Gen.Skeleton.merge2 = Model.Skeleton.merge2 ∧
      Gen.Skeleton.merge3 = Model.Skeleton.merge3 ∧ Gen.Skeleton.replicate = Model.Skeleton.replicate) ∧
    (Gen.Skeleton.streamMerge = Model.Skeleton.streamMerge ∧
      Gen.Skeleton.streamMergeWorker = Model.Skeleton.streamMergeWorker ∧
      Gen.Skeleton.streamMergeCancel = Model.Skeleton.streamMergeCancel ∧
      Gen.Skeleton.mergeNext = Model.Skeleton.mergeNext ∧ Gen.Skeleton.mergeClose = Model.Skeleton.mergeClose) ∧
    (Gen.Skeleton.send = Model.Skeleton.send ∧ Gen.Skeleton.pipeNext = Model.Skeleton.pipeNext ∧
      Gen.Skeleton.senderClose = Model.Skeleton.senderClose ∧ Gen.Skeleton.pipeClose = Model.Skeleton.pipeClose) :=
  ⟨⟨rfl, rfl, rfl, rfl⟩, ⟨rfl, rfl, rfl, rfl, rfl⟩, ⟨rfl, rfl, rfl, rfl⟩⟩

/-- Tie 1 for **the context `stream.Merge` hands to its inputs and to `Send`**: the regenerated right-hand
side of `ctx, cancel := …` is `context.WithCancel(context.Background())` — no deadline, no parent that can
end —, the variable `cancel` occurs in `Merge` (closures included) exactly twice, both times as the call
`cancel()` (their positions are fixed by `winSeq_eq`: after the won CAS, and `closeSeq_eq`: in the closure run
by `Close`), and `ctx` occurs exactly as the argument of `in[i].Next` and of `sender.Send`. Hence nobody but
those two calls can end that context: `ctxOrigin = plainCancel`, and the LTS's environment label `ctxEnds`
("the context ends without `cancel()`") is dead. The property theorems below that rely on it
(`streamMerge_first_error`, `streamMerge_end_only_if_all_done`, `streamMerge_end_iff_all_done`,
`streamMerge_interleaving`, `streamMerge_goroutines_finish_after_close`, and those of `Props/C12Progress.lean`)
re-derive `ctxOrigin = plainCancel` from the generated facts inside their own proofs. -/
theorem ctx_origin_ok :
    Gen.Merge.smCtxRhs = "context.WithCancel(context.Background())" ∧
    Gen.Merge.smCtxCancelUses = ["cancel()", "cancel()"] ∧
    Gen.Merge.smCtxCtxUses = ["in[i].Next(ctx)", "sender.Send(ctx,item)"] ∧
    StreamMerge.ctxOrigin = .plainCancel ∧
    (∀ (V : Type) (k : Nat) (s : StreamMerge.St V), StreamMerge.Reach (StreamMerge.init V k) s →
      StreamMerge.step s .ctxEnds = none) := by
  have ho : StreamMerge.ctxOrigin = .plainCancel := Juniper.Proofs.StreamMerge.ctxOriginOf_plain rfl rfl rfl
  refine ⟨rfl, rfl, rfl, ho, ?_⟩
  exact fun V k s h => Juniper.Proofs.StreamMerge.no_ctxEnds ((Juniper.Proofs.StreamMerge.reach_inv h).origin_eq.trans ho)

/-- non-vacuity of the dependence: classified from the texts of a `WithTimeout` / a derived context / a third
use of `cancel`, the origin is not `plainCancel` -/
example : StreamMerge.ctxOriginOf "context.WithTimeout(context.Background(),time.Minute)" "context.WithTimeout"
      "context.Background()" ["cancel()", "cancel()"] ["in[i].Next(ctx)", "sender.Send(ctx,item)"] = .deadline ∧
    StreamMerge.ctxOriginOf "context.WithCancel(parent)" "context.WithCancel" "parent" ["cancel()", "cancel()"]
      ["in[i].Next(ctx)", "sender.Send(ctx,item)"] = .derivedFromCaller ∧
    StreamMerge.ctxOriginOf "context.WithCancel(context.Background())" "context.WithCancel" "context.Background()"
      ["time.AfterFunc(time.Hour,cancel)", "cancel()", "cancel()"] ["in[i].Next(ctx)", "sender.Send(ctx,item)"] = .other := by
  decide +kernel

section chans
variable {V : Type} [HasNil V]
open Juniper.Model.Merge Juniper.Proofs.MergeChans

/-- Arity dispatch of `chans.Merge`: one input takes the range loop, two `merge2`, three `merge3`,
everything else (zero included) the `reflect.Select` loop. -/
theorem merge_dispatch (n : Nat) :
    pathOf n = (if n = 1 then .range else if n = 2 then .m2 else if n = 3 then .m3 else .reflect) :=
  pathOf_eq n

/-- **chans.Merge outputs an interleaving of its inputs** — for every arity `n` (hence each of the
four code paths), every element type, every reachable state: for every input `i`, what `out` has
delivered from `i`, followed by the value Merge holds for `i` (blocked in `out <- item`), followed by
what is still receivable on `i`, is exactly what was ever offered on `i`. So `out` restricted to
input `i` is a prefix of input `i` (per-input order, nothing invented or duplicated), every
delivered value comes from one of the `n` inputs, and Merge never panics (nil values included). First
conjunct: the four code paths have the control flow the LTS hard-wires (regenerated skeletons). -/
theorem merge_interleaving (n : Nat) (s : St V) (h : Reach (init V n) s) :
    (Gen.Skeleton.chansMerge = Model.Skeleton.chansMerge ∧ Gen.Skeleton.merge2 = Model.Skeleton.merge2 ∧
      Gen.Skeleton.merge3 = Model.Skeleton.merge3) ∧
    (∀ i c, s.ins[i]? = some c → proj i s.out ++ held i s.pc ++ c.avail = c.sent) ∧
    (∀ p, p ∈ s.out → p.1 < n) ∧ s.pc ≠ .panicked :=
  let hi := reach_inv h
  ⟨⟨rfl, rfl, rfl⟩, hi.conserve, hi.tags, hi.noPanic⟩

example : ∃ s : St (Option Int), Reach (init (Option Int) 4) s ∧ s.out = [(2, none), (0, some 5)] ∧
    s.pc = .hold 2 (some 9) :=
  exists_reach_of_run [.envSend 2 none, .envSend 0 (some 5), .recv 2, .deliver, .recv 0, .envSend 2 (some 9), .deliver,
    .recv 2] (by decide +kernel)

/-- **chans.Merge returns exactly when all inputs are closed and everything was delivered** — for
every arity. (1) Not earlier: whenever it has returned, every input is closed and drained and `out`
restricted to each input equals that input (same multiset, per-input order). (2) Not later: once
every input is closed and everything offered was delivered, Merge has returned or one of its own
steps is enabled, each such step keeps that situation and strictly decreases the measure `mu`, so
(3) some run of Merge-internal steps — needing neither producer nor consumer — ends in `done`. -/
theorem merge_returns_iff_all_closed_and_delivered (n : Nat) (s : St V) (h : Reach (init V n) s) :
    (s.pc = .done → ∀ i, i < n → ∃ c, s.ins[i]? = some c ∧ c.closed = true ∧ c.avail = [] ∧
        proj i s.out = c.sent) ∧
    (AllDone s → s.pc ≠ .done →
        (∃ l, l ∈ internalLabels s ∧ ∃ s', step s l = some s') ∧
        (∀ l, l ∈ internalLabels s → ∀ s', step s l = some s' → AllDone s' ∧ mu s' < mu s)) ∧
    (AllDone s → ∃ ls s', run s ls = some s' ∧ InternalRun s ls ∧ s'.pc = .done) := by
  have hi := reach_inv h
  refine ⟨?_, fun ha hnd => progress hi ha hnd, fun ha => eventually_done hi ha⟩
  intro hd i hin
  have hl := hi.doneLive hd
  obtain ⟨c, hc, hcl, hav⟩ := hi.dead i hin (by rw [hl]; simp)
  have := hi.conserve i c hc
  rw [hd, hav] at this
  exact ⟨c, hc, hcl, hav, by simpa [held] using this⟩

/-- zero inputs: `chans.Merge(out)` returns at once -/
example : ∃ s : St (Option Int), run (init (Option Int) 0) [.exit] = some s ∧ s.pc = .done := by decide +kernel
/-- one / two / three / four inputs: a full run through the respective code path ends in `done` -/
example : ∃ s : St (Option Int), run (init (Option Int) 1) [.envSend 0 (some 1), .recv 0, .envClose 0, .deliver, .recv 0] = some s ∧
    s.pc = .done ∧ s.out = [(0, some 1)] := by decide +kernel
example : ∃ s : St (Option Int), run (init (Option Int) 2) [.envSend 1 (some 1), .envClose 0, .recv 0, .recv 1, .deliver, .envClose 1, .recv 1] = some s ∧
    s.pc = .done ∧ s.out = [(1, some 1)] := by decide +kernel
example : ∃ s : St (Option Int), run (init (Option Int) 3) [.envClose 2, .envClose 0, .recv 0, .envClose 1, .recv 2, .recv 1] = some s ∧
    s.pc = .done := by decide +kernel
example : ∃ s : St (Option Int), run (init (Option Int) 4) [.envClose 2, .envClose 0, .recv 0, .envSend 3 none, .recv 3, .deliver, .envClose 1,
    .recv 2, .recv 1, .envClose 3, .recv 3, .exit] = some s ∧ s.pc = .done ∧ s.out = [(3, none)] := by decide +kernel

end chans

section replicate
variable {V : Type}
open Juniper.Model.Merge Juniper.Proofs.Replicate

/-- **chans.Replicate delivers the whole source in order to every destination** — for every number
of destinations `m` and every reachable state: what destination `j` has received, followed by the
value it is still owed of the item being fanned out, followed by what is still receivable on `src`,
is exactly what was ever offered on `src`; so each destination holds a prefix of the source, in
order. Replicate has returned only if `src` is closed and drained (then every destination holds the
whole source), and once `src` is closed and drained and every destination has everything, its next
own step returns. First conjunct: Replicate is the two nested `range` loops around one send and nothing
else (regenerated skeleton). -/
theorem replicate_all_in_order (m : Nat) (s : RSt V) (h : RReach (rinit V m) s) :
    Gen.Skeleton.replicate = Model.Skeleton.replicate ∧
    (∀ j o, s.outs[j]? = some o → o ++ rOwed j s.pc ++ s.src.avail = s.src.sent) ∧
    s.outs.length = m ∧
    (s.pc = .done → s.src.closed = true ∧ s.src.avail = [] ∧
      ∀ (j : Nat) (o : List V), s.outs[j]? = some o → o = s.src.sent) ∧
    (RAllDone s → s.pc ≠ .done → ∃ s', rstep s .recv = some s' ∧ s'.pc = .done) := by
  have hi := rreach_inv h
  refine ⟨rfl, hi.conserve, hi.len, ?_, fun ha hnd => rprogress hi ha hnd⟩
  intro hd
  obtain ⟨hcl, hav⟩ := hi.done hd
  refine ⟨hcl, hav, ?_⟩
  intro j o ho
  have := hi.conserve j o ho
  rw [hd, hav] at this
  simpa [rOwed] using this

example : ∃ s : RSt (Option Int), RReach (rinit (Option Int) 2) s ∧ s.pc = .done ∧
    s.outs = [[some 7, none], [some 7, none]] :=
  exists_rreach_of_run [.envSend (some 7), .recv, .envSend none, .deliver, .deliver, .envClose, .recv, .deliver, .deliver,
    .recv] (by decide +kernel)

end replicate

section streamMerge
variable {V : Type}
open Juniper.Model.StreamMerge Juniper.Proofs.StreamMerge

/-- **stream.Merge outputs an interleaving of its inputs** — for every number of inputs `k` and every
reachable state: what the consumer received from input `i`, followed by the item goroutine `i` is
currently trying to send, followed by the item whose `Send` failed, is exactly the sequence of
items `in[i].Next` has returned. So the output restricted to input `i` is a prefix of input `i` (order
preserved, nothing duplicated or invented), and every delivered item carries the tag of one of the
`k` inputs. Third conjunct: an item is dropped (its `Send` failed) only after `Close` of the merged stream
was called or the CAS on `closeOnce` was won, i.e. some input returned an error — never merely because
time passed: this uses that the context handed to `Send` ends only through `cancel()` (`ctxOrigin`,
re-derived here from the regenerated facts). -/
theorem streamMerge_interleaving (k : Nat) (s : St V) (h : Reach (init V k) s) :
    (∀ i g, s.gs[i]? = some g → proj i s.out ++ heldG g.pc ++ g.dropped = g.items) ∧
    (∀ p, p ∈ s.out → p.1 < k) ∧
    (∀ g, g ∈ s.gs → g.dropped ≠ [] → s.closeOnce = true ∨ ∃ rest, s.cpc = .closing rest) := by
  have ho : ctxOrigin = .plainCancel := ctxOriginOf_plain rfl rfl rfl
  have hf := reach_invF ho h
  have hb := reach_inv h
  exact ⟨hb.conserve, hb.tags, fun g hg hd => hf.sendFailed_trouble g hg (Classical.byContradiction fun hn => hd (hf.dropOK g hg hn))⟩

example : ∃ s : St (Option Int), Reach (init (Option Int) 2) s ∧ s.out = [(1, some 7), (0, some 3)] ∧
    s.results = [.item 1 (some 7), .item 0 (some 3)] :=
  exists_reach_of_run [.inItem 0 (some 3), .inItem 1 (some 7), .cCall true, .sendOk 1, .cCall true, .sendOk 0] (by decide +kernel)

/-- **Every input of stream.Merge is closed exactly once by the time `Close` of the merged stream
returns, never used after, and `Next`/`Close` of an input never overlap** (the Merge clause of C09) —
in every reachable state: no input has been closed more than once, no `Next` began after a `Close`,
an input whose `Next` is in progress has not been closed (and `in[i].Close()` is only issued by the
goroutine that issues `in[i].Next`, after its loop, so the two never run concurrently); and once
`Close` of the merged stream has returned, every one of the `k` inputs has been closed exactly once
and every goroutine has called `wg.Done()`. -/
theorem streamMerge_inputs_closed_once (k : Nat) (s : St V) (h : Reach (init V k) s) :
    s.gs.length = k ∧
    (∀ g, g ∈ s.gs → g.closes ≤ 1 ∧ g.nextAfterClose = false ∧ (g.pc = .next → g.closes = 0)) ∧
    (s.cpc = .closing [] → ∀ g, g ∈ s.gs → g.closes = 1 ∧ pastWg g.pc = true) := by
  have ha := reach_inv h
  refine ⟨ha.length_eq, ?_, fun hc => ha.closed_once_when_close_returned hc⟩
  intro g hg
  have hl := ha.localOK g hg
  refine ⟨?_, hl.nac, ?_⟩
  · rw [hl.closes]; split <;> omega
  · intro hp; rw [hl.closes, hp]; rfl

/-- **After the merged stream has been closed, the goroutines of stream.Merge finish without needing
further input** — in every reachable state in which `Close` has been called (`cpc = closing rest`):
(1) every step whatsoever strictly decreases the measure `nu` and `Close` stays in progress, so only
finitely many steps remain (this uses that the context ends only through `cancel()` — `ctxOrigin`,
re-derived here from the regenerated facts — so that the environment label `ctxEnds` is dead); (2) as long as `Close` has not returned or some goroutine has not
finished, a step from `internalLabels` is enabled — a step of a goroutine, of `Close`, or the return
of an input's `Next` with the error of the cancelled context; none of them is an item, an end or an
error of an input; (3) hence some run of such steps ends with `Close` returned and every goroutine
finished. (Assumption, stated in `internalLabels`: an input's `Next` returns once the context it was
given is cancelled.) -/
theorem streamMerge_goroutines_finish_after_close (k : Nat) (s : St V) (h : Reach (init V k) s)
    (rest : List CloseStep) (hc : s.cpc = .closing rest) :
    (Gen.Skeleton.mergeClose = Model.Skeleton.mergeClose ∧ Gen.Skeleton.streamMergeCancel = Model.Skeleton.streamMergeCancel ∧
      Gen.Skeleton.streamMergeWorker = Model.Skeleton.streamMergeWorker) ∧
    (∀ l s', step s l = some s' → nu s' < nu s ∧ ∃ rest', s'.cpc = .closing rest') ∧
    ((rest ≠ [] ∨ ∃ g, g ∈ s.gs ∧ g.pc ≠ .finished) → ∃ l, l ∈ internalLabels s ∧ ∃ s', step s l = some s') ∧
    (∃ ls s', run s ls = some s' ∧ InternalRun s ls ∧ s'.cpc = .closing [] ∧ ∀ g, g ∈ s'.gs → g.pc = .finished) :=
  have ho : ctxOrigin = .plainCancel := ctxOriginOf_plain rfl rfl rfl
  have hi := reach_inv h
  ⟨⟨rfl, rfl, rfl⟩, fun _ _ hs => after_close_decreases (hi.origin_eq.trans ho) hc hs,
   fun hnf => after_close_enabled hi hc hnf, after_close_finishes ho hi hc⟩

/-- two inputs blocked forever in `Next`, one item delivered, then `Close`: everything finishes -/
example : ∃ s : St (Option Int), Reach (init (Option Int) 2) s ∧ s.cpc = .closing [] ∧
    s.gs.map (·.pc) = [.finished, .finished] ∧ s.gs.map (·.closes) = [1, 1] :=
  exists_reach_of_run [.inItem 0 (some 3), .cCall true, .sendOk 0, .cClose, .cCloseStep, .cCloseStep, .inCtx 0, .inCtx 1,
      .cas 1, .cas 0, .win 1, .win 1, .win 1, .exitStep 0, .exitStep 0, .exitStep 1, .exitStep 1, .exitStep 0, .exitStep 0,
      .exitStep 0, .exitStep 1, .exitStep 1, .exitStep 1, .cCloseStep] (by decide +kernel)

/-- **The pipe's sender is closed at most once** (a second `close(s.senderDone)` would panic): in every
reachable state `sender.Close` has been called at most once — by the winner of the CAS on
`closeOnce`, or with nil by the last goroutine to bump `nDone`, or at construction for zero inputs. -/
theorem streamMerge_no_double_close_of_sender (k : Nat) (s : St V) (h : Reach (init V k) s) :
    s.senderCloses ≤ 1 := by
  have hc := reach_inv h
  rcases Nat.eq_zero_or_pos k with hk | hk
  · have := (hc.zero_inputs hk).1; omega
  · have := hc.tok hk; omega

example : ∃ s : St (Option Int), Reach (init (Option Int) 2) s ∧ s.senderCloses = 1 ∧ s.senderErr = some (.inj 7) ∧
    s.gs.map (·.pc) = [.finished, .finished] :=
  exists_reach_of_run [.inErr 0 7, .inErr 1 8, .cas 0, .cas 1, .win 0, .win 0, .win 0,
      .exitStep 0, .exitStep 0, .exitStep 0, .exitStep 0, .exitStep 0, .exitStep 1, .exitStep 1, .exitStep 1,
      .exitStep 1, .exitStep 1] (by decide +kernel)

/-- **Zero inputs: the merged stream ends at once.** In every state reachable from `Merge()` the
sender is closed with nil, so a `Next` of the consumer can always take its `senderDone` arm, and doing
so reports the normal end. -/
theorem streamMerge_zero_inputs_ends (s : St V) (h : Reach (init V 0) s) :
    s.senderCloses = 1 ∧ s.senderErr = none ∧
    ∀ live, s.cpc = .inNext live → ∃ s', step s .cEnd = some s' ∧ s'.results = s.results ++ [.endd] := by
  obtain ⟨h1, h2⟩ := (reach_inv h).zero_inputs rfl
  refine ⟨h1, h2, ?_⟩
  intro live hc
  obtain ⟨s', hs', hr⟩ := cEnd_enabled hc (by omega : 0 < s.senderCloses)
  exact ⟨s', hs', by rw [hr, h2]⟩

example : ∃ s : St (Option Int), Reach (init (Option Int) 0) s ∧ s.results = [.endd, .endd] :=
  exists_reach_of_run [.cCall true, .cEnd, .cCall false, .cEnd] (by decide +kernel)

/-- **stream.Merge reports the error of the input whose goroutine wins the CAS on `closeOnce` — "first" means
first to reach that CAS, not first `Next` to return: `errLog` order (the time the inputs' `Next` calls returned)
need not agree with it —, never the normal end** (also the Merge clause
of C08). In every reachable state: (1) an error the consumer was given is an injected error `x` of some
input `i` — never the error of the merge's own context, be it cancelled or (had it one) past its deadline —,
that input really returned it (`errLog`), and it is the error of the goroutine whose CAS on `closeOnce`
succeeded (`winner` is written once: the first goroutine to reach the CAS with an error; two inputs failing
at about the same time may be reported in either order); hence all errors reported are
the same; (2) once any input has returned an error the consumer is never told the normal end;
(3) once the sender is closed with error `e`, a pending `Next` can always return, and returns `e`;
(4) once any input has returned an error, a consumer waiting in `Next` is never stuck: some step
that needs no further input (the CAS, a statement of the winner, or the `senderDone` arm of `Next`)
is enabled — the error cannot be followed by silence; (5) the context handed to the inputs and to `Send` has
ended, or a goroutine holds that context's error, only if the CAS was won (an input failed) or `Close` of
the merged stream was called: it never ends because time passed or because of anybody else, so no input is
ever failed by the library. (0) First conjunct: between an input's `Next`
returning a non-End error and the CAS there is no statement — in particular no test of the error's kind
that returns early —, `mergeStream.Next`, `pipeStream.Next`, `PipeSender.Close` pass the error
through untouched (regenerated control skeletons), and the context is
`context.WithCancel(context.Background())`, ended by nobody but the two modelled `cancel()` calls
(`ctxOrigin = plainCancel`, from the regenerated right-hand side of `ctx, cancel := …` and the regenerated
lists of all uses of `cancel` and `ctx`; (1), (2) and (5) are proved from it). -/
theorem streamMerge_first_error (k : Nat) (s : St V) (h : Reach (init V k) s) :
    (Gen.Skeleton.streamMergeWorker = Model.Skeleton.streamMergeWorker ∧
      Gen.Skeleton.mergeNext = Model.Skeleton.mergeNext ∧ Gen.Skeleton.pipeNext = Model.Skeleton.pipeNext ∧
      Gen.Skeleton.senderClose = Model.Skeleton.senderClose ∧ ctxOrigin = .plainCancel) ∧
    (∀ e, Res.err e ∈ s.results → ∃ i x, e = .inj x ∧ s.winner = some (i, .inj x) ∧ (i, x) ∈ s.errLog) ∧
    (s.errLog ≠ [] → Res.endd ∉ s.results) ∧
    (∀ e, s.senderErr = some e → 0 < s.senderCloses → ∀ live, s.cpc = .inNext live →
      ∃ s', step s .cEnd = some s' ∧ s'.results = s.results ++ [.err e]) ∧
    (s.errLog ≠ [] → ∀ live, s.cpc = .inNext live → ∃ l, l ∈ internalLabels s ∧ ∃ s', step s l = some s') ∧
    ((s.cancelled = true ∨ ∃ g, g ∈ s.gs ∧ (g.pc = .gotErr .ctx ∨ ∃ r, g.pc = .won .ctx r)) →
      s.closeOnce = true ∨ ∃ rest, s.cpc = .closing rest) := by
  have ho : ctxOrigin = .plainCancel := ctxOriginOf_plain rfl rfl rfl
  have ha := reach_inv h
  have hf := reach_invF ho h
  refine ⟨⟨rfl, rfl, rfl, rfl, ho⟩, ?_, hf.no_end_after_error ha, ?_, fun herr live hcp => error_never_stuck ha hf herr hcp, ?_⟩
  · intro e he
    obtain ⟨i, x, h1, h2⟩ := hf.told_err e he
    exact ⟨i, x, h1, h2, ha.winner_logged i x h2⟩
  · intro e he hpos live hcp
    obtain ⟨s', hs', hr⟩ := cEnd_enabled hcp hpos
    exact ⟨s', hs', by rw [hr, he]⟩
  · intro hcan
    refine hf.cancelled_trouble (hcan.elim id fun ⟨g, hg, hp⟩ => hf.ctx_cancelled g hg ?_)
    rcases hp with hp | ⟨r, hp⟩ <;> simp [hp, carries]

example : ∃ s : St (Option Int), Reach (init (Option Int) 2) s ∧
    s.results = [.item 1 (some 5), .err (.inj 7), .err (.inj 7)] ∧ s.errLog = [(0, 7), (1, 8)] :=
  exists_reach_of_run [.inItem 1 (some 5), .inErr 0 7, .cCall true, .sendOk 1, .inErr 1 8, .cas 0, .cas 1, .win 0, .win 0,
      .cCall true, .cEnd, .cCall false, .cEnd] (by decide +kernel)

/-- "first" is the CAS, not the clock: input 0 returns its error before input 1 does, goroutine 1 reaches the
CAS first and the consumer is told 8 -/
example : ∃ s : St (Option Int), Reach (init (Option Int) 2) s ∧
    s.results = [.err (.inj 8)] ∧ s.errLog = [(0, 7), (1, 8)] :=
  exists_reach_of_run [.inErr 0 7, .inErr 1 8, .cas 1, .cas 0, .win 1, .win 1, .cCall true, .cEnd] (by decide +kernel)

/-- **Non-vacuity of the dependence on `ctxOrigin`** — the same LTS started with a context that has a
deadline (what `ctx, cancel := context.WithTimeout(context.Background(), time.Minute)` would generate): the
consumer waits in `Next`, no input has failed or ended, time passes (`ctxEnds`), the input honours the
context it was given, its goroutine wins the CAS with the context's error, and the consumer is told an
error that no input produced: `results = [err ctx]` with `errLog = []`, `closeOnce` set although nothing
failed — (1) and (5) of `streamMerge_first_error` are false there, and the merged stream has failed
although every input is still willing to deliver. On the unchanged tree `ctxEnds` is dead (`ctx_origin_ok`). -/
example : ∃ s : St (Option Int),
    run { init (Option Int) 1 with origin := .deadline } [.cCall true, .ctxEnds, .inCtx 0, .cas 0, .win 0, .win 0, .cEnd]
      = some s ∧ s.results = [.err .ctx] ∧ s.errLog = [] ∧ s.winner = some (0, .ctx) ∧ s.cpc = .idle :=
  by decide +kernel
/-- … and there an item can be dropped and the stream can end early: with two inputs, input 1 delivers an item
nobody has asked for yet; the deadline passes; `Send` fails, the item is dropped without any `Close` or input error -/
example : ∃ s : St (Option Int),
    run { init (Option Int) 2 with origin := .deadline } [.inItem 1 (some 4), .ctxEnds, .sendFail 1] = some s ∧
      s.gs.map (·.dropped) = [[], [some 4]] ∧ s.closeOnce = false ∧ s.cpc = .idle ∧ s.errLog = [] :=
  by decide +kernel

/-- **A `Next` of the merged stream that fails on its expired context costs nothing** (the Merge clause
of C08): taking the `ctx.Done()` arm changes nothing but the consumer's own state — no goroutine
moves, no item is taken or dropped, the sender is untouched — so the next `Next` continues exactly
where the sequence was (by `streamMerge_interleaving` nothing is lost or duplicated). -/
theorem streamMerge_ctx_costs_nothing (s s' : St V) (h : step s .cCtx = some s') :
    s'.gs = s.gs ∧ s'.out = s.out ∧ s'.senderCloses = s.senderCloses ∧ s'.senderErr = s.senderErr ∧
    s'.results = s.results ++ [.ctx] ∧ s'.cpc = .idle := by
  rcases step_cases h with ⟨_, _, _, _, _, t, _⟩ | c
  · cases t
  · cases c; exact ⟨rfl, rfl, rfl, rfl, rfl, rfl⟩

/-- a goroutine is parked in `Send` with an item; the expired `Next` returns ctx, the next one gets the item -/
example : ∃ s : St (Option Int), Reach (init (Option Int) 1) s ∧ s.results = [.ctx, .item 0 (some 4)] :=
  exists_reach_of_run [.inItem 0 (some 4), .cCall false, .cCtx, .cCall true, .sendOk 0] (by decide +kernel)

/-- **The consumer's context may expire at any moment of a pending `Next`, and that costs nothing either**
("all relative speeds of producer and consumer"). The expiry (`cExpire`, an action of the consumer's side:
`inNext true → inNext false`) is possible exactly while a `Next` with a live context is pending; it changes
nothing but that flag — no goroutine moves, nothing is taken, dropped or closed —; afterwards the `ctx.Done()`
arm of that `Next` is enabled and taking it returns the context's error and nothing else
(`streamMerge_ctx_costs_nothing`); the other arms stay as they were, so an item or the end / error that
becomes available at the same time may be returned instead (Go's `select` picks either). -/
theorem streamMerge_ctx_expiry_while_pending (s s' : St V) (h : step s .cExpire = some s') :
    s.cpc = .inNext true ∧ s' = { s with cpc := .inNext false } ∧
    (∃ s'', step s' .cCtx = some s'' ∧ s''.results = s.results ++ [.ctx] ∧ s''.gs = s.gs ∧ s''.out = s.out ∧
      s''.cpc = .idle) ∧
    (∀ i, step s' (.sendOk i) = step s (.sendOk i)) ∧
    step s' .cEnd = step s .cEnd := by
  obtain ⟨hp, rfl⟩ : s.cpc = .inNext true ∧ s' = { s with cpc := .inNext false } := by
    rcases step_cases h with ⟨_, _, _, _, _, t, _⟩ | c
    · cases t
    · cases c; exact ⟨‹_›, rfl⟩
  have hx : step ({ s with cpc := .inNext false } : St V) .cCtx =
      some { s with cpc := .idle, results := s.results ++ [.ctx] } := (CStep.ctx rfl).step_eq
  refine ⟨hp, rfl, ⟨_, hx, rfl, rfl, rfl, rfl⟩, ?_, ?_⟩
  · intro i
    simp only [step, hp]
    cases s.gs[i]? with
    | none => rfl
    | some g => cases hpc : g.pc <;> simp [hpc]
  · simp only [step, hp]

/-- the consumer waits with a live context, input 0 is silent; the context expires; `Next` returns its error;
the item that arrives later goes to the next `Next` — or, had it arrived between expiry and return, to this one -/
example : ∃ s : St (Option Int), Reach (init (Option Int) 1) s ∧ s.results = [.ctx, .item 0 (some 4)] :=
  exists_reach_of_run [.cCall true, .cExpire, .cCtx, .inItem 0 (some 4), .cCall true, .sendOk 0] (by decide +kernel)
example : ∃ s : St (Option Int), Reach (init (Option Int) 1) s ∧ s.results = [.item 0 (some 4)] :=
  exists_reach_of_run [.cCall true, .cExpire, .inItem 0 (some 4), .sendOk 0] (by decide +kernel)

/-- **The merged stream ends only when every input has ended and everything was delivered** (the
"only if" half of `streamMerge_end_iff_all_done`).
In every reachable state in which the consumer has been told the normal end: every input's `Next`
returned `End` (no goroutine left its loop for another reason — in particular none because the context
it was given ended: `ctxOrigin = plainCancel` is re-derived from the regenerated facts in this proof), no
input ever returned an error, and the items the consumer received from input `i` are exactly the items
`in[i].Next` returned, in order. -/
theorem streamMerge_end_only_if_all_done (k : Nat) (s : St V) (h : Reach (init V k) s)
    (hend : Res.endd ∈ s.results) :
    (∀ i g, s.gs[i]? = some g → g.why = some .ended ∧ proj i s.out = g.items) ∧ s.errLog = [] := by
  have ho : ctxOrigin = .plainCancel := ctxOriginOf_plain rfl rfl rfl
  have ha := reach_inv h
  have hf := reach_invF ho h
  obtain ⟨hco, hall⟩ := hf.told_end hend
  refine ⟨?_, ?_⟩
  · intro i g hg
    have hgm := List.mem_of_getElem? hg
    have hw := hall g hgm
    refine ⟨hw, ?_⟩
    have hloc := ha.localOK g hgm
    have hnl := hloc.not_inLoop (by rw [hw]; simp)
    have hheld : heldG g.pc = [] := by
      cases hp : g.pc <;> simp [hp, heldG, inLoop] at hnl ⊢
    have hdrop : g.dropped = [] := hf.dropOK g hgm (by rw [hw]; simp)
    have := ha.conserve i g hg
    rw [hheld, hdrop] at this
    simpa using this
  · exact Classical.byContradiction fun hne => hf.no_end_after_error ha hne hend

/-- **The merged stream ends exactly when all inputs are exhausted and everything has been
delivered.** Only if: `streamMerge_end_only_if_all_done`. If: in every reachable state in which every
input's `Next` has returned `End` and the consumer is waiting in `Next` with a live context,
(1) some step that needs no further input is enabled; (2) every enabled step other than the expiry of the
consumer's own context (`cExpire` — after it that `Next` may return the context's error instead, which
costs nothing: `streamMerge_ctx_costs_nothing`) either hands the normal
end to that `Next`, or keeps the situation and strictly decreases the measure `nu2` (no item is left
to deliver: no goroutine is in its loop any more); hence (3) some run of steps needing no further
input delivers the normal end. No fairness is asserted: (1)–(3) are enabledness, a strictly decreasing
measure and the existence of a run; that the scheduler runs enabled goroutine steps is the trusted
runtime assumption. -/
theorem streamMerge_end_iff_all_done (k : Nat) (s : St V) (h : Reach (init V k) s) :
    (Res.endd ∈ s.results →
      (∀ i g, s.gs[i]? = some g → g.why = some .ended ∧ proj i s.out = g.items) ∧ s.errLog = []) ∧
    (AllEnded s → s.cpc = .inNext true →
      (∃ l, l ∈ internalLabels s ∧ ∃ s', step s l = some s') ∧
      (∀ l s', l ≠ .cExpire → step s l = some s' → AllEnded s' ∧
        ((s'.cpc = .inNext true ∧ s'.results = s.results ∧ nu2 s' < nu2 s) ∨ s'.results = s.results ++ [.endd])) ∧
      (∃ ls s', run s ls = some s' ∧ InternalRun s ls ∧ s'.results = s.results ++ [.endd])) := by
  refine ⟨streamMerge_end_only_if_all_done k s h, ?_⟩
  intro hall hcp
  have ho : ctxOrigin = .plainCancel := ctxOriginOf_plain rfl rfl rfl
  have ha := reach_inv h
  obtain ⟨h1, h2⟩ := end_progress ho ha hall hcp
  exact ⟨h1, h2, end_delivered ho ha hall hcp⟩

/-- three inputs end one after the other, two items are delivered in between, then the end -/
example : ∃ s : St (Option Int), Reach (init (Option Int) 3) s ∧
    s.gs.map (·.why) = [some .ended, some .ended, some .ended] ∧ s.cpc = .inNext true ∧
    s.results = [.item 2 (some 1), .item 0 (some 2)] :=
  exists_reach_of_run [.inItem 2 (some 1), .inEnd 1, .cCall true, .sendOk 2, .inItem 0 (some 2), .inEnd 2, .cCall true,
      .sendOk 0, .inEnd 0, .exitStep 1, .exitStep 1, .cCall true] (by decide +kernel)

end streamMerge

end Juniper.Props.C12
