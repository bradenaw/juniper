import Juniper.Proofs.ParMapStreamProgress
import Juniper.Proofs.ParMapStreamMeasure
import Juniper.Proofs.ParMapIterMeasure
/-!
# C14 — progress of `parallel.MapStream` / `MapIterator` by a decreasing measure

`Props/C14.lean` proves deadlock freedom in the form "in every reachable state with the consumer inside
`Next`/`Close` an internal step is enabled, or a call of `f` / of the source is in progress". This file
adds what that form leaves to trust: a **well-founded measure**.

* `SM.nu : Stream.St → Nat` (`Proofs/ParMapStreamMeasure.lean`) and `IM.nu : Iter.Cfg → Iter.St → Nat`
  (`Proofs/ParMapIterMeasure.lean`) are strictly decreased by **every** step of the LTS except the
  labels by which the consumer starts a new call (`nextCall`, `closeCall`) — by all internal steps of
  dispatcher, workers and consumer (token hand-offs, rendez-vous on `in`, sends on `c`, errgroup
  bookkeeping, `cond.Wait`/`Signal`), and also by the environment's returns (`f` returns, the source
  returns an item / end / error, the source's `Close` returns), by the expiry of the consumer's context
  and by the cancellation of the parent context.
* In reachable states the measure is bounded by a function of the clamped parameters only:
  `8·max(B,P') + 6·P' + 21` (MapStream), `6·max(B,P') + 3·P' + 15` (MapIterator), `P'` = effective
  parallelism.

Consequences, each a theorem below: no infinite run of internal steps (the library cannot spin or
ping-pong on itself, whatever the scheduler does); a quiescent state with a pending `Next`/`Close`
always has a *specific* outstanding environment call; once that environment answers — however slowly,
in whatever order — a pending `Next` / `Close` returns after at most `nu` further steps of the whole
system.

**What exactly is proved, and what is assumed.** The theorems are about *runs of the LTS* (lists of labels):
(i) a bound on the length of every run that contains no `nextCall` / `closeCall` (MapIterator: no `nextCall`)
— these are the only labels excluded from the measure, being the labels by which the single consumer starts
a new call, enabled only while it is idle; (ii) "quiescent (no label with `isEnv = false` enabled) and a call
pending ⇒ a call of `f` is running or a call on the source is unanswered"; (iii) existence of a run to the
return made of internal steps and returns of `f` / the source only. "`Next` / `Close` returns" in the prose
below is (i) + (ii) + (iii) **under two assumptions that are not part of any theorem**: a step that is
enabled is eventually taken (weak fairness of single steps — in fact only "the system does not stop while an
internal step is enabled"), and calls of `f` and of the source return. No statement here is about wall-clock
time.

**Ties.** As in `Props/C14.lean`, every theorem takes `cfg.code = Stream.code` / `Iter.code` and discharges
`stream_ties` / `iter_ties` inside its proof. The MapStream measure needs `Code.Sound.ctxPlain` (the library's
context does not end by itself: `libCtxEnd` disabled), the bound and the quiescence theorems the invariants;
every MapIterator theorem needs `Code.Sound.sectionsAtomic` (the dispatcher's check and its parking are one
step, because both critical sections lock `mapIterator.m`, which is `cond.L`) — in the LTS of code without it
`dPark` is a step of its own, a `Signal` can be lost, and (ii) / (iii) are false (`Props/C14.lean`, the
lost-wakeup example).
-/
namespace Juniper.Props.C14Progress
open Juniper.Gen Juniper.Model.ParMap Juniper.Proofs.ParMap

/-! ## MapStream -/

/-- **The measure (MapStream).** Every step other than a new consumer call (`nextCall`, `closeCall`)
strictly decreases `SM.nu` — all internal labels and the environment's `srcRet`, `srcCloseRet`, `fRet`,
`consCtxExpire`, `parentCancel` — in every state, reachable or not; the only fact about the code used for
this half is `ctxPlain` (`libCtxEnd`, "the library's context ends by itself", is not a step of the code as
it is). In reachable states `SM.nu` is at most `8·max(B,P') + 6·P' + 21` where `P'` is the clamped
parallelism. -/
theorem mapStream_measure (cfg : Stream.Cfg) (hc : cfg.code = Stream.code) :
    (∀ s l s', Stream.step cfg s l = some s' → SM.isCall l = false → SM.nu s' < SM.nu s) ∧
    (1 ≤ cfg.gmp → ∀ s, Stream.Reach cfg s →
      SM.nu s ≤ 8 * (max cfg.B (Stream.par cfg)).toNat + 6 * (Stream.par cfg).toNat + 21) := by
  have hs : cfg.code.Sound := hc ▸ stream_code_sound stream_ties
  refine ⟨fun s l s' h hl => SM.nu_decreases hs.ctxPlain h hl, ?_⟩
  intro hg s h
  have := SM.nu_le hs hg h
  simp only [SM.nuBound, S.numTokens_eq hs, S.numWorkers_eq hs, S.buf_eq hs] at this
  exact this

/-- non-vacuity: the measure along a run of parallelism 1, buffer 2 — it falls with every step except
where the consumer calls `Next` (`15 → 25`) -/
example : (List.range 14).map (fun n => (Stream.run ⟨Stream.code, 1, 2, 8⟩ (Stream.init ⟨Stream.code, 1, 2, 8⟩)
      (([.dPull, .srcRet (.item 7), .dTakeToken, .dSend 0, .dPull, .fRet 0 (.ok 100), .wSendC 0, .srcRet (.item 8),
        .dTakeToken, .nextCall true, .cRecv, .cYield, .cRelease] : List Stream.Label).take n)).map SM.nu)
    = [some 24, some 23, some 22, some 21, some 20, some 19, some 18, some 17, some 16, some 15, some 25, some 24,
       some 22, some 21] := by
  decide +kernel

/-- **Internal steps terminate (MapStream).** From any reachable state every sequence of internal
steps (dispatcher, workers, consumer — everything that is not an environment action) is shorter than the
measure, hence than `8·max(B,P') + 6·P' + 21`; in particular there is no infinite internal run. -/
theorem mapStream_internal_steps_terminate (cfg : Stream.Cfg) (hc : cfg.code = Stream.code) (hg : 1 ≤ cfg.gmp)
    (s : Stream.St) (h : Stream.Reach cfg s) :
    (∀ ls s', (∀ l ∈ ls, Stream.Label.isEnv l = false) → Stream.run cfg s ls = some s' →
      ls.length + SM.nu s' ≤ SM.nu s ∧
      ls.length ≤ 8 * (max cfg.B (Stream.par cfg)).toNat + 6 * (Stream.par cfg).toNat + 21) ∧
    ¬ ∃ σ : Nat → Stream.St, σ 0 = s ∧
        ∀ n, ∃ l, Stream.Label.isEnv l = false ∧ Stream.step cfg (σ n) l = some (σ (n + 1)) := by
  have hs : cfg.code.Sound := hc ▸ stream_code_sound stream_ties
  have hb := (mapStream_measure cfg hc).2 hg s h
  constructor
  · intro ls s' hl hr
    have := SM.run_nu hs.ctxPlain hr (fun l hm => SM.isCall_of_not_env (hl l hm))
    exact ⟨this, by omega⟩
  · exact LTS.no_infinite_run (μ := SM.nu) (P := fun _ => True) (Q := fun l => Stream.Label.isEnv l = false)
      (fun _ hl hst => ⟨SM.nu_decreases hs.ctxPlain hst (SM.isCall_of_not_env hl), trivial⟩) trivial

/-- non-vacuity: a reachable state from which 6 internal steps in a row are possible (two workers
hand over their results, the consumer receives both, yields the first and releases the token) -/
example : ∃ s s', Stream.Reach ⟨Stream.code, 2, 2, 8⟩ s ∧
    Stream.run ⟨Stream.code, 2, 2, 8⟩ s [.wSendC 1, .wSendC 0, .cRecv, .cRecv, .cYield, .cRelease] = some s' ∧
    SM.nu s = 26 ∧ SM.nu s' = 19 :=
  ⟨_, _, Stream.reach_of_run Stream.Reach.init (ls := [.dPull, .srcRet (.item 7), .dTakeToken, .dSend 0, .dPull,
      .srcRet (.item 8), .dTakeToken, .dSend 1, .dPull, .fRet 1 (.ok 101), .fRet 0 (.ok 100), .nextCall true]) rfl,
    rfl, by decide +kernel, by decide +kernel⟩

/-- **The library never waits on itself (MapStream).** From every reachable state at most `SM.nu s`
internal steps lead to a quiescent state (one in which no internal step is enabled), and in *every*
reachable quiescent state in which a `Next` or `Close` of the consumer is pending, the environment owes
a specific return: a call of `f` is running, or a call on the source (`Next`, or the `Close` issued by the
dispatcher) has not been answered. -/
theorem mapStream_quiescent_next_served (cfg : Stream.Cfg) (hc : cfg.code = Stream.code) (hg : 1 ≤ cfg.gmp)
    (s : Stream.St) (h : Stream.Reach cfg s) :
    (∃ ls s', (∀ l ∈ ls, Stream.Label.isEnv l = false) ∧ Stream.run cfg s ls = some s' ∧
        ls.length ≤ SM.nu s ∧ SM.Quiescent cfg s') ∧
    (SM.Quiescent cfg s → S.consBusy s.cons = true → 0 < Stream.fRunning s ∨ Stream.srcBusy s = true) := by
  have hs : cfg.code.Sound := hc ▸ stream_code_sound stream_ties
  constructor
  · exact (Stream.isRun cfg).quiesces (fun hl h => SM.nu_decreases hs.ctxPlain h (SM.isCall_of_not_env hl)) s
  · intro hq hb
    exact (S.served hs hg h hb).resolve_left fun ⟨l, s', hl, hst⟩ => by rw [hq l hl] at hst; cases hst

/-- non-vacuity: a quiescent reachable state with `Next` pending: nothing to receive yet, the dispatcher
waits for the source and one call of `f` is running — exactly the two things the theorem says may be owed -/
example : ∃ s, Stream.Reach ⟨Stream.code, 1, 1, 8⟩ s ∧ S.consBusy s.cons = true ∧
    (∀ l ∈ Stream.internalLabels s, Stream.step ⟨Stream.code, 1, 1, 8⟩ s l = none) ∧
    Stream.fRunning s = 1 ∧ Stream.srcBusy s = true :=
  ⟨_, Stream.reach_of_run Stream.Reach.init (ls := [.dPull, .srcRet (.item 7), .dTakeToken, .dSend 0, .dPull,
      .nextCall true]) rfl, rfl, by decide +kernel, rfl, rfl⟩

/-- **`Next` returns (MapStream).** Let `s` be a reachable state in which the consumer is inside `Next`.
(1) Every continuation in which the consumer makes no new call — *all* other labels allowed, internal
and environment, in any order — has at most `SM.nu s ≤ 8·max(B,P') + 6·P' + 21` steps, and along it the
call is either still pending with nothing reported, or has returned exactly one result. (2) If such a
continuation ends in a state where no internal step is enabled and the environment owes nothing (no call
of `f` running, no source call pending), `Next` has returned. (3) Such a continuation exists using only
internal steps and returns of `f` / of the source. So: provided running calls of `f` and the pending
source call return, `Next` returns within `SM.nu s` steps. -/
theorem mapStream_next_terminates (cfg : Stream.Cfg) (hc : cfg.code = Stream.code) (hg : 1 ≤ cfg.gmp)
    (s : Stream.St) (h : Stream.Reach cfg s) (hn : SM.inNext s.cons = true) :
    (∀ ls s', (∀ l ∈ ls, SM.isCall l = false) → Stream.run cfg s ls = some s' →
      ls.length + SM.nu s' ≤ SM.nu s ∧ SM.NextOutcome s s') ∧
    SM.nu s ≤ 8 * (max cfg.B (Stream.par cfg)).toNat + 6 * (Stream.par cfg).toNat + 21 ∧
    (∀ ls s', (∀ l ∈ ls, SM.isCall l = false) → Stream.run cfg s ls = some s' →
      SM.Quiescent cfg s' → Stream.fRunning s' = 0 → Stream.srcBusy s' = false →
      s'.cons = .idle ∧ ∃ r, s'.results = s.results ++ [r]) ∧
    (∃ ls s', (∀ l ∈ ls, Stream.Label.isEnv l = false ∨ SM.isReturn l = true) ∧
      Stream.run cfg s ls = some s' ∧ ls.length ≤ SM.nu s ∧ s'.cons = .idle ∧ ∃ r, s'.results = s.results ++ [r]) := by
  have hs : cfg.code.Sound := hc ▸ stream_code_sound stream_ties
  obtain ⟨h1, h2, h3⟩ := (Stream.isRun cfg).call_completes (μ := SM.nu)
    (J := fun s' => Stream.Reach cfg s' ∧ SM.NextOutcome s s') (Int := fun l => l.isEnv = false)
    (Owe := fun s' => 0 < Stream.fRunning s' ∨ Stream.srcBusy s' = true) (fun _ => .inl) (fun _ => SM.isCall_of_service)
    (fun ⟨hr, ho⟩ hl h => ⟨SM.nu_decreases hs.ctxPlain h hl, .step hr h, SM.nextOutcome_step ho hl (.of_step hs h)⟩)
    (fun s' ⟨hr, ho⟩ hn => S.served hs hg hr (by
      have := (ho.resolve_right hn).1
      cases hc' : s'.cons <;> simp_all [SM.inNext, S.consBusy]))
    (fun _ _ => SM.owed_step hs) ⟨h, .inl ⟨hn, rfl⟩⟩
  exact ⟨fun ls s' hl hr => ⟨(h1 ls s' hl hr).1, (h1 ls s' hl hr).2.2⟩, (mapStream_measure cfg hc).2 hg s h,
    fun ls s' hl hr hq hf hsrc => h2 ls s' hl hr hq (by simp [hf, hsrc]), h3⟩

/-- non-vacuity: `Next` is called while item 0 is still inside `f` and the dispatcher inside the source;
the source answers, `f` returns, and four internal steps later `Next` has returned item 0's value -/
example : ∃ s s', Stream.Reach ⟨Stream.code, 1, 1, 8⟩ s ∧ SM.inNext s.cons = true ∧ SM.nu s = 22 ∧
    Stream.run ⟨Stream.code, 1, 1, 8⟩ s [.srcRet (.item 8), .fRet 0 (.ok 100), .wSendC 0, .cRecv, .cYield, .cRelease]
      = some s' ∧ s'.cons = .idle ∧ s'.results = s.results ++ [.val 0 100] :=
  ⟨_, _, Stream.reach_of_run Stream.Reach.init (ls := [.dPull, .srcRet (.item 7), .dTakeToken, .dSend 0, .dPull,
      .nextCall true]) rfl, rfl, by decide +kernel, rfl, rfl, rfl⟩

/-- **`Close` returns (MapStream).** Let `s` be a reachable state in which `Close` has been called and
has not returned. (1) *Every* continuation of the system — any labels at all: the consumer can make no
further call — has at most `SM.nu s ≤ 8·max(B,P') + 6·P' + 21` steps. (2) A continuation that ends where
no internal step is enabled and the environment owes nothing has returned from `Close`. (3) A continuation
to the return exists that uses only internal steps and returns of `f` / of the source. So: provided the
running calls of `f` and the pending source call return, `Close` returns within `SM.nu s` steps (and then
`mapStream_close_returns_workers_stopped_source_closed` applies). -/
theorem mapStream_close_terminates (cfg : Stream.Cfg) (hc : cfg.code = Stream.code) (hg : 1 ≤ cfg.gmp)
    (s : Stream.St) (h : Stream.Reach cfg s) (hclose : s.cons = .closeWait) :
    (∀ ls s', Stream.run cfg s ls = some s' → ls.length + SM.nu s' ≤ SM.nu s) ∧
    SM.nu s ≤ 8 * (max cfg.B (Stream.par cfg)).toNat + 6 * (Stream.par cfg).toNat + 21 ∧
    (∀ ls s', Stream.run cfg s ls = some s' →
      SM.Quiescent cfg s' → Stream.fRunning s' = 0 → Stream.srcBusy s' = false → s'.cons = .closed) ∧
    (∃ ls s', (∀ l ∈ ls, Stream.Label.isEnv l = false ∨ SM.isReturn l = true) ∧
      Stream.run cfg s ls = some s' ∧ ls.length ≤ SM.nu s ∧ s'.cons = .closed) := by
  have hs : cfg.code.Sound := hc ▸ stream_code_sound stream_ties
  obtain ⟨h1, h2, h3⟩ := (Stream.isRun cfg).call_completes (μ := SM.nu)
    (J := fun s' => Stream.Reach cfg s' ∧ SM.closePhase s'.cons = true) (Ret := fun s' => s'.cons = .closed)
    (Q := fun _ => True) (Int := fun l => l.isEnv = false) (Svc := fun l => l.isEnv = false ∨ SM.isReturn l = true)
    (Owe := fun s' => 0 < Stream.fRunning s' ∨ Stream.srcBusy s' = true) (fun _ => .inl) (fun _ _ => trivial)
    (fun ⟨hr, hp⟩ _ h =>
      have ⟨a, b⟩ := SM.closePhase_step hp (.of_step hs h); ⟨SM.nu_decreases hs.ctxPlain h a, .step hr h, b⟩)
    (fun s' ⟨hr, hp⟩ hn => S.served hs hg hr (by cases hc' : s'.cons <;> simp_all [SM.closePhase, S.consBusy]))
    (fun _ _ => SM.owed_step hs) ⟨h, by simp [hclose, SM.closePhase]⟩
  exact ⟨fun ls s' hr => (h1 ls s' (fun _ _ => trivial) hr).1, (mapStream_measure cfg hc).2 hg s h,
    fun ls s' hr hq hf hsrc => h2 ls s' (fun _ _ => trivial) hr hq (by simp [hf, hsrc]), h3⟩

/-- non-vacuity: `Close` is called while one result sits in `c`, one call of `f` is running and the
dispatcher is inside the source's `Next`; measure 14; after the three returns (the source's `Next` and `Close`, `f`) and six
internal steps `Close` has returned -/
example : ∃ s s', Stream.Reach ⟨Stream.code, 1, 2, 8⟩ s ∧ s.cons = .closeWait ∧ Stream.fRunning s = 1 ∧
    Stream.srcBusy s = true ∧ SM.nu s = 14 ∧
    Stream.run ⟨Stream.code, 1, 2, 8⟩ s [.srcRet (.err 9002), .dCloseIn, .srcCloseRet, .dEgDone, .fRet 0 (.ok 101),
      .wSendCtx 0, .wDefer 0, .wEgDone 0, .cCloseDone] = some s' ∧ s'.cons = .closed :=
  ⟨_, _, Stream.reach_of_run Stream.Reach.init (ls := [.dPull, .srcRet (.item 7), .dTakeToken, .dSend 0, .dPull,
      .srcRet (.item 8), .dTakeToken, .fRet 0 (.ok 100), .wSendC 0, .dSend 0, .dPull, .closeCall]) rfl,
    rfl, rfl, rfl, by decide +kernel, rfl, rfl⟩

/-! ## MapIterator

`MapIterator` has no `Close` (it "must be consumed completely"); the counterpart of
`mapStream_close_terminates` is `mapIterator_next_terminates`, applied to each of the consumer's calls. -/

/-- **The measure (MapIterator).** Every step other than `nextCall` strictly decreases `IM.nu` (in every
state; the facts about the code used are the guard `inFlight >= bufferSize` and `sectionsAtomic`: the
dispatcher's check-and-park is one step, `dPark` is not a step of the code as it is), and in reachable states
`IM.nu ≤ 6·max(B,P') + 3·P' + 15`. -/
theorem mapIterator_measure (cfg : Iter.Cfg) (hc : cfg.code = Iter.code) :
    (∀ s l s', Iter.step cfg s l = some s' → l ≠ .nextCall → IM.nu cfg s' < IM.nu cfg s) ∧
    (1 ≤ cfg.gmp → ∀ s, Iter.Reach cfg s →
      IM.nu cfg s ≤ 6 * (max cfg.B (Iter.par cfg)).toNat + 3 * (Iter.par cfg).toNat + 15) := by
  have hs : cfg.code.Sound := hc ▸ iter_code_sound iter_ties
  refine ⟨fun s l s' h hl => IM.nu_decreases hs h hl, ?_⟩
  intro hg s h
  have := IM.nu_le hs hg h
  simp only [IM.nuBound, I.numWorkers_eq hs, I.buf_eq hs] at this
  exact this

/-- non-vacuity: the measure along a run with parallelism 1, buffer 1 in which the dispatcher parks and
is woken: it falls with every step except the two `nextCall`s -/
example : (List.range 15).map (fun n => (Iter.run ⟨Iter.code, 1, 1, 8⟩ (Iter.init ⟨Iter.code, 1, 1, 8⟩)
      (([.dPull, .srcRet (some 7), .dAcquire, .dSend 0, .dPull, .srcRet (some 8), .dAcquire, .fRet 0 100, .nextCall,
        .wHandOff 0, .cYield, .dAcquire, .dSend 0, .nextCall] : List Iter.Label).take n)).map (IM.nu ⟨Iter.code, 1, 1, 8⟩))
    = [some 11, some 10, some 9, some 8, some 7, some 6, some 5, some 4, some 3, some 11, some 10, some 9, some 8,
       some 7, some 15] := by
  decide +kernel

/-- **Internal steps terminate (MapIterator).** From any reachable state every sequence of internal steps
(`isEnv = false`: dispatcher incl. parking and being woken, workers, consumer) has
`length + IM.nu(end) ≤ IM.nu(start) ≤ 6·max(B,P') + 3·P' + 15`; there is no infinite internal run. -/
theorem mapIterator_internal_steps_terminate (cfg : Iter.Cfg) (hc : cfg.code = Iter.code) (hg : 1 ≤ cfg.gmp)
    (s : Iter.St) (h : Iter.Reach cfg s) :
    (∀ ls s', (∀ l ∈ ls, Iter.Label.isEnv l = false) → Iter.run cfg s ls = some s' →
      ls.length + IM.nu cfg s' ≤ IM.nu cfg s ∧
      ls.length ≤ 6 * (max cfg.B (Iter.par cfg)).toNat + 3 * (Iter.par cfg).toNat + 15) ∧
    ¬ ∃ σ : Nat → Iter.St, σ 0 = s ∧
        ∀ n, ∃ l, Iter.Label.isEnv l = false ∧ Iter.step cfg (σ n) l = some (σ (n + 1)) := by
  have hs : cfg.code.Sound := hc ▸ iter_code_sound iter_ties
  have hb := (mapIterator_measure cfg hc).2 hg s h
  constructor
  · intro ls s' hl hr
    have := IM.run_nu hs hr (fun l hm => IM.ne_nextCall_of_not_env (hl l hm))
    exact ⟨this, by omega⟩
  · exact LTS.no_infinite_run (μ := IM.nu cfg) (P := fun _ => True) (Q := fun l => Iter.Label.isEnv l = false)
      (fun _ hl hst => ⟨IM.nu_decreases hs hst (IM.ne_nextCall_of_not_env hl), trivial⟩) trivial

/-- non-vacuity: four internal steps in a row — hand-off to the consumer, yield with `Signal`, the woken
dispatcher takes the slot and hands the next item to the worker -/
example : ∃ s s', Iter.Reach ⟨Iter.code, 1, 1, 8⟩ s ∧
    Iter.run ⟨Iter.code, 1, 1, 8⟩ s [.wHandOff 0, .cYield, .dAcquire, .dSend 0] = some s' ∧
    IM.nu ⟨Iter.code, 1, 1, 8⟩ s = 11 ∧ IM.nu ⟨Iter.code, 1, 1, 8⟩ s' = 7 :=
  ⟨_, _, Iter.reach_of_run Iter.Reach.init (ls := [.dPull, .srcRet (some 7), .dAcquire, .dSend 0, .dPull, .srcRet (some 8),
      .dAcquire, .fRet 0 100, .nextCall]) rfl, rfl, by decide +kernel, by decide +kernel⟩

/-- **The library never waits on itself (MapIterator).** At most `IM.nu` internal steps lead to a
quiescent state, and in every reachable quiescent state with `Next` pending a call of `f` is running or
the source iterator has been asked for an item and has not answered — never a parked dispatcher alone,
never a worker blocked on the result channel alone. -/
theorem mapIterator_quiescent_next_served (cfg : Iter.Cfg) (hc : cfg.code = Iter.code) (hg : 1 ≤ cfg.gmp)
    (s : Iter.St) (h : Iter.Reach cfg s) :
    (∃ ls s', (∀ l ∈ ls, Iter.Label.isEnv l = false) ∧ Iter.run cfg s ls = some s' ∧
        ls.length ≤ IM.nu cfg s ∧ IM.Quiescent cfg s') ∧
    (IM.Quiescent cfg s → s.cons = .next → 0 < Iter.fRunning s ∨ s.disp = .inNext) := by
  have hs : cfg.code.Sound := hc ▸ iter_code_sound iter_ties
  constructor
  · exact (Iter.isRun cfg).quiesces (fun hl h => IM.nu_decreases hs h (IM.ne_nextCall_of_not_env hl)) s
  · intro hq hb
    exact (I.served hs hg h hb).resolve_left fun ⟨l, s', hl, hst⟩ => by rw [hq l hl] at hst; cases hst

/-- non-vacuity: quiescent with `Next` pending, the dispatcher parked (buffer 1 full) — what is owed is
the running call of `f` -/
example : ∃ s, Iter.Reach ⟨Iter.code, 1, 1, 8⟩ s ∧ s.cons = .next ∧ s.disp = .parked 8 ∧
    (∀ l ∈ Iter.internalLabels s, Iter.step ⟨Iter.code, 1, 1, 8⟩ s l = none) ∧ Iter.fRunning s = 1 :=
  ⟨_, Iter.reach_of_run Iter.Reach.init (ls := [.dPull, .srcRet (some 7), .dAcquire, .dSend 0, .dPull, .srcRet (some 8),
      .dAcquire, .nextCall]) rfl, rfl, rfl, by decide +kernel, rfl⟩

/-- **`Next` returns (MapIterator).** For a reachable state inside `Next`: (1) every continuation without
a new `nextCall` — internal steps and environment returns in any order — has at most
`IM.nu cfg s ≤ 6·max(B,P') + 3·P' + 15` steps, the call being still pending or having returned exactly
one result; (2) a continuation ending where no internal step is enabled, no call of `f` runs and the
source is not being asked has returned; (3) such a continuation exists using only internal steps and
returns of `f` / of the source. -/
theorem mapIterator_next_terminates (cfg : Iter.Cfg) (hc : cfg.code = Iter.code) (hg : 1 ≤ cfg.gmp)
    (s : Iter.St) (h : Iter.Reach cfg s) (hn : s.cons = .next) :
    (∀ ls s', (∀ l ∈ ls, l ≠ Iter.Label.nextCall) → Iter.run cfg s ls = some s' →
      ls.length + IM.nu cfg s' ≤ IM.nu cfg s ∧ IM.NextOutcome s s') ∧
    IM.nu cfg s ≤ 6 * (max cfg.B (Iter.par cfg)).toNat + 3 * (Iter.par cfg).toNat + 15 ∧
    (∀ ls s', (∀ l ∈ ls, l ≠ Iter.Label.nextCall) → Iter.run cfg s ls = some s' →
      IM.Quiescent cfg s' → Iter.fRunning s' = 0 → s'.disp ≠ .inNext →
      s'.cons = .idle ∧ ∃ r, s'.results = s.results ++ [r]) ∧
    (∃ ls s', (∀ l ∈ ls, Iter.Label.isEnv l = false ∨ IM.isReturn l = true) ∧
      Iter.run cfg s ls = some s' ∧ ls.length ≤ IM.nu cfg s ∧ s'.cons = .idle ∧ ∃ r, s'.results = s.results ++ [r]) := by
  have hs : cfg.code.Sound := hc ▸ iter_code_sound iter_ties
  obtain ⟨h1, h2, h3⟩ := (Iter.isRun cfg).call_completes (μ := IM.nu cfg)
    (J := fun s' => Iter.Reach cfg s' ∧ IM.NextOutcome s s') (Int := fun l => l.isEnv = false)
    (Owe := fun s' => 0 < Iter.fRunning s' ∨ s'.disp = .inNext) (fun _ => .inl) (fun _ => IM.ne_nextCall_of_service)
    (fun ⟨hr, ho⟩ hl h => ⟨IM.nu_decreases hs h hl, .step hr h, IM.nextOutcome_step ho hl (.of_step hs h)⟩)
    (fun s' ⟨hr, ho⟩ hn => I.served hs hg hr (ho.resolve_right hn).1) (fun _ _ => IM.owed_step hs)
    ⟨h, .inl ⟨hn, rfl⟩⟩
  exact ⟨fun ls s' hl hr => ⟨(h1 ls s' hl hr).1, (h1 ls s' hl hr).2.2⟩, (mapIterator_measure cfg hc).2 hg s h,
    fun ls s' hl hr hq hf hsrc => h2 ls s' hl hr hq (by simp [hf, hsrc]), h3⟩

/-- non-vacuity: `Next` pending with the dispatcher parked; `f` returns and two internal steps later
`Next` has returned item 0's value (and woken the dispatcher) -/
example : ∃ s s', Iter.Reach ⟨Iter.code, 1, 1, 8⟩ s ∧ s.cons = .next ∧ IM.nu ⟨Iter.code, 1, 1, 8⟩ s = 12 ∧
    Iter.run ⟨Iter.code, 1, 1, 8⟩ s [.fRet 0 100, .wHandOff 0, .cYield] = some s' ∧
    s'.cons = .idle ∧ s'.results = s.results ++ [.val 0 100] ∧ s'.disp = .acquire 8 :=
  ⟨_, _, Iter.reach_of_run Iter.Reach.init (ls := [.dPull, .srcRet (some 7), .dAcquire, .dSend 0, .dPull, .srcRet (some 8),
      .dAcquire, .nextCall]) rfl, rfl, by decide +kernel, rfl, rfl, rfl, rfl⟩

/-- **Consuming a MapIterator to the end terminates** (the counterpart of `Close` for an iterator that
"must be consumed completely"). Let `s` be reachable with the source ended. (1) Every continuation —
the consumer calling `Next` again and again, internal steps, returns of `f`, in any order — that has not
yet reported the end has at most `IM.delta s` steps (`5` per worker inside `f`, `4` per worker holding a
result, `1` per idle worker, `2` per result waiting in the reorder buffer, `1` for the idle consumer). (2) A continuation of at most `IM.delta s + 1` steps exists at the
end of which `Next` has reported the end. -/
theorem mapIterator_drain_terminates (cfg : Iter.Cfg) (hc : cfg.code = Iter.code) (hg : 1 ≤ cfg.gmp)
    (s : Iter.St) (h : Iter.Reach cfg s) (hend : s.srcEnded = true) :
    (∀ ls s', Iter.run cfg s ls = some s' → Iter.NextRes.end ∉ s'.results → ls.length + IM.delta s' ≤ IM.delta s) ∧
    (∃ ls s', Iter.run cfg s ls = some s' ∧ Iter.NextRes.end ∈ s'.results ∧ ls.length ≤ IM.delta s + 1) := by
  have hs : cfg.code.Sound := hc ▸ iter_code_sound iter_ties
  have hd : s.disp = .done := by
    have hse := (I.inv hs hg h).ctl.srcEnded_eq
    rw [hend] at hse
    cases hdp : s.disp <;> rw [hdp] at hse <;> first | rfl | (simp [I.dDone] at hse)
  exact ⟨fun ls s' hr he => IM.run_delta hs hd hr he, IM.exists_drain_run hs hg s h hd⟩

/-- non-vacuity: two items, the source has ended, item 1 is still inside `f`, item 0 waits for the
consumer: `delta = 5 + 4 + 1 = 10`; eleven steps (`delta + 1`) later the end has been reported -/
example : ∃ s s', Iter.Reach ⟨Iter.code, 2, 2, 8⟩ s ∧ s.srcEnded = true ∧ IM.delta s = 10 ∧
    Iter.run ⟨Iter.code, 2, 2, 8⟩ s [.nextCall, .wHandOff 0, .cYield, .fRet 1 101, .nextCall, .wHandOff 1, .cYield,
      .wExitIdle 0, .wExitIdle 1, .nextCall, .cRecvClosed] = some s' ∧
    s'.results = [.val 0 100, .val 1 101, .end] :=
  ⟨_, _, Iter.reach_of_run Iter.Reach.init (ls := [.dPull, .srcRet (some 7), .dAcquire, .dSend 0, .dPull, .srcRet (some 8),
      .dAcquire, .dSend 1, .dPull, .srcRet none, .fRet 0 100]) rfl, rfl, by decide +kernel, rfl, rfl⟩

end Juniper.Props.C14Progress
